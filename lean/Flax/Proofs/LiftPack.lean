/-
`_partial_pack` / `pack`: the inner scope `scope_fn` builds, `publish` and `repack` as equations, `pack` through its
inner function (`pack_rel`, `pack_eq_ok`), the transparency theorem `liftId_agree` with its form for any inner function
(`pack_agree`); at the end `lax.cond` as `lax.switch` over two branches.
-/
import Flax.Proofs.LiftEval

namespace Flax.Lift
open Flax.Filter

theorem inFilter_unionAll (fs : List LFilter) (c : String) : inFilter (unionAll fs) c = anyMatch fs c := by
  simp [unionAll, Flax.Filter.inFilter_foldl_union, inFilter, anyMatch]

theorem inFilter_scopeFn (s : ScopeSt) (outF : List LFilter) (fz : List String) (vg : List Vars) (rg : List Rngs)
    (mf : LFilter) (ctr : Counters) (c : String) :
    inFilter (scopeFn s outF fz vg rg mf ctr).mutable c = (inFilter s.mutable c && anyMatch outF c && inFilter mf c) := by
  simp [scopeFn, Flax.Filter.inFilter_setOps.2.2, inFilter_unionAll]

theorem frozenOk_scopeFn (s : ScopeSt) (outF : List LFilter) (gs vg : List Vars) (rg : List Rngs) (mf : LFilter)
    (ctr : Counters) : (scopeFn s outF (frozenNames gs outF) vg rg mf ctr).FrozenOk := by
  intro c hc
  rw [inFilter_scopeFn]
  simp only [scopeFn, frozenNames, List.mem_filter] at hc
  have : anyMatch outF c = false := by simpa using hc.2
  simp [this]

/-- what `publish` does with the collections it may write -/
def writeVars (L vs : Vars) : Vars :=
  L.foldl (fun vs cc => cc.2.foldl (fun vs nv => putVar vs cc.1 nv.1 nv.2) vs) vs

theorem getVar_foldl_putVar (c c' n' : String) : ∀ (coll : Coll) (vs : Vars), (keys coll).Nodup →
    getVar (coll.foldl (fun vs nv => putVar vs c nv.1 nv.2) vs) c' n' =
      if c' = c then (match alookup n' coll with | some v => some v | none => getVar vs c' n') else getVar vs c' n' := by
  intro coll
  induction coll with
  | nil => intro vs _; simp [alookup]
  | cons x rest ih =>
    intro vs hn
    have hn := List.nodup_cons.mp hn
    rw [List.foldl_cons, ih _ hn.2, getVar_putVar]
    by_cases hc : c' = c
    · by_cases hx : x.1 = n'
      · have : alookup n' rest = none := (alookup_none_iff _ _).mpr (hx ▸ hn.1)
        simp [hc, alookup, hx, this]
      · simp [hc, alookup, hx, Ne.symm hx]
    · simp only [hc, ↓reduceIte, false_and]

/-- `VarsWF L`: with a repeated key the last write would win, not the first match -/
theorem getVar_writeVars (c n : String) : ∀ (L vs : Vars), VarsWF L →
    getVar (writeVars L vs) c n = match getVar L c n with | some v => some v | none => getVar vs c n := by
  intro L
  induction L with
  | nil => intro vs _; rfl
  | cons x rest ih =>
    obtain ⟨c0, coll0⟩ := x
    intro vs hwf
    have hn := List.nodup_cons.mp hwf.1
    rw [writeVars, List.foldl_cons, ← writeVars, ih _ ⟨hn.2, fun c coll hm => hwf.2 c coll (List.mem_cons_of_mem _ hm)⟩,
      getVar_foldl_putVar c0 c n coll0 vs (hwf.2 c0 coll0 List.mem_cons_self), getVar_cons]
    by_cases hc : c0 = c
    · have : getVar rest c n = none := by rw [getVar, (alookup_none_iff _ _).mpr (hc ▸ hn.1)]
      simp only [this, hc, ↓reduceIte]
    · simp only [hc, Ne.symm hc, ↓reduceIte]

theorem publishColl_eq (c : String) : ∀ (coll : Coll) (s : ScopeSt), s.FrozenOk → inFilter s.mutable c = true →
    publishColl s c coll = .ok { s with vars := coll.foldl (fun vs nv => putVar vs c nv.1 nv.2) s.vars } := by
  intro coll
  induction coll with
  | nil => intro s _ _; rfl
  | cons x rest ih =>
    intro s hf hm
    simp only [publishColl, put_of_mutable s hf c x.1 x.2 hm]
    exact ih { s with vars := putVar s.vars c x.1 x.2 } hf hm

theorem publishAll_eq : ∀ (L : Vars) (s : ScopeSt), s.FrozenOk →
    publishAll s L = .ok { s with vars := writeVars (L.filter (fun kv => inFilter s.mutable kv.1)) s.vars } := by
  intro L
  induction L with
  | nil => intro s _; rfl
  | cons x rest ih =>
    intro s hf
    cases hm : inFilter s.mutable x.1 with
    | false =>
      simp only [publishAll, List.filter_cons, hm, Bool.false_eq_true, ↓reduceIte]
      exact ih s hf
    | true =>
      simp only [publishAll, List.filter_cons, hm, ↓reduceIte, publishColl_eq x.1 x.2 s hf hm, writeVars, List.foldl_cons]
      exact ih { s with vars := x.2.foldl (fun vs nv => putVar vs x.1 nv.1 nv.2) s.vars } hf

theorem publishColl_spec (c : String) : ∀ (coll : Coll) (s : ScopeSt), s.FrozenOk → inFilter s.mutable c = true →
    (keys coll).Nodup →
    ∃ p, publishColl s c coll = .ok p ∧ p.mutable = s.mutable ∧ p.frozen = s.frozen ∧ p.rngs = s.rngs ∧
      p.counters = s.counters ∧
      ∀ c' n', getVar p.vars c' n' =
        if c' = c then (match alookup n' coll with | some v => some v | none => getVar s.vars c' n')
        else getVar s.vars c' n' :=
  fun coll s hf hm hn => ⟨_, publishColl_eq c coll s hf hm, rfl, rfl, rfl, rfl,
    fun c' n' => getVar_foldl_putVar c c' n' coll s.vars hn⟩

theorem getVar_published (mu : LFilter) (L vs : Vars) (hwf : VarsWF L) (c n : String) :
    getVar (writeVars (L.filter (fun kv => inFilter mu kv.1)) vs) c n =
      if inFilter mu c then (match getVar L c n with | some v => some v | none => getVar vs c n) else getVar vs c n := by
  rw [getVar_writeVars c n _ vs (varsWF_filter _ L hwf), getVar_filter (fun c => inFilter mu c)]
  cases inFilter mu c <;> rfl

theorem publishAll_spec : ∀ (L : Vars) (s : ScopeSt), s.FrozenOk → VarsWF L →
    ∃ p, publishAll s L = .ok p ∧ p.mutable = s.mutable ∧ p.frozen = s.frozen ∧ p.rngs = s.rngs ∧
      p.counters = s.counters ∧
      ∀ c n, getVar p.vars c n =
        if inFilter s.mutable c then (match getVar L c n with | some v => some v | none => getVar s.vars c n)
        else getVar s.vars c n :=
  fun L s hf hwf => ⟨_, publishAll_eq L s hf, rfl, rfl, rfl, rfl, getVar_published s.mutable L s.vars hwf⟩

theorem repack_ok (outF : List LFilter) (i : ScopeSt) (h : ∀ c, inFilter i.mutable c = true → anyMatch outF c = true) :
    repack outF i = .ok (groupBy (i.vars.filter (fun kv => inFilter i.mutable kv.1)) outF) := by
  unfold repack
  simp only [groupBy_append_tt, List.getLast?_append, List.getLast?_singleton, Option.some_or,
    List.dropLast_concat]
  have : (List.filter (fun kv => !(anyMatch outF kv.1)) (List.filter (fun kv => inFilter i.mutable kv.1) i.vars)) = [] := by
    rw [List.filter_filter, List.filter_eq_nil_iff]
    intro a _
    cases hm : inFilter i.mutable a.1 with
    | false => simp
    | true => simp [h a.1 hm]
  simp [this]

theorem repack_scopeFn {s : ScopeSt} {outF : List LFilter} {fz : List String} {vg : List Vars} {rg : List Rngs}
    {mf : LFilter} {ctr : Counters} {env : Env} {b : Prog} {regs : List Int} {ks : List SymKey} {m' : M}
    (h : eval env b ⟨regs, ks, scopeFn s outF fz vg rg mf ctr⟩ = .ok m') :
    repack outF m'.sc = .ok (groupBy (m'.sc.vars.filter (fun kv => inFilter m'.sc.mutable kv.1)) outF) := by
  refine repack_ok outF m'.sc fun c hc => ?_
  rw [(eval_static _ _ _ _ h).1, inFilter_scopeFn] at hc
  simp only [Bool.and_eq_true] at hc
  exact hc.1.2

/-- two variable trees hold the same variables (Python dict equality up to empty collections and order) -/
def SameVars (a b : Vars) : Prop := ∀ c n, getVar a c n = getVar b c n

/-- agreement of two runs: same outputs (values and drawn keys), same variables, counters, and static scope
data on success; the same error otherwise -/
def Agree : Except Err (Out × ScopeSt) → Except Err (Out × ScopeSt) → Prop
  | .ok (y, s), .ok (y', s') =>
      y = y' ∧ SameVars s.vars s'.vars ∧ s.counters = s'.counters ∧ s.mutable = s'.mutable ∧ s.rngs = s'.rngs ∧
        s.frozen = s'.frozen
  | .error e, .error e' => e = e'
  | _, _ => False

theorem getVar_repacked (vs : Vars) (mu : LFilter) (outF : List LFilter) (c n : String) :
    getVar (groupBy (vs.filter (fun kv => inFilter mu kv.1)) outF).flatten c n =
      if (anyMatch outF c && inFilter mu c) = true then getVar vs c n else none := by
  unfold getVar
  rw [alookup_groupBy_flatten, alookup_filter_key (fun c => inFilter mu c)]
  cases anyMatch outF c <;> cases inFilter mu c <;> simp

/-- `W c` is the condition under which the inner `mutable` (outer ∩ out filters ∩ `mutable_filter`) answers for `c` as
the outer one does; the hypothesis `hout` of `liftId_agree` asks it of what the body writes. -/
theorem sim_scopeFn (s : ScopeSt) (inF outF rngF : List LFilter) (mf : LFilter) (hfz : s.FrozenOk) :
    Sim (fun c => anyMatch inF c = true)
      (fun c => inFilter s.mutable c = true → anyMatch outF c = true ∧ inFilter mf c = true)
      (fun r => (alookup r s.rngs).isSome = true → anyMatch rngF r = true)
      s (scopeFn s outF (frozenNames (groupBy s.vars inF) outF) (groupBy s.vars inF) (groupBy s.rngs rngF) mf s.counters) where
  vars := by
    intro c hc n
    simp only [scopeFn, getVar, alookup_groupBy_flatten, hc, ↓reduceIte]
  mutb := by
    intro c hc
    rw [inFilter_scopeFn]
    cases hm : inFilter s.mutable c with
    | false => simp
    | true => simp [hc hm]
  ifro := frozenOk_scopeFn _ _ _ _ _ _ _
  sfro := hfz
  rngs := by
    intro r hr
    simp only [scopeFn, alookup_groupBy_flatten]
    cases h : alookup r s.rngs with
    | none => simp
    | some v => simp [hr (by simp [h])]
  ctr := rfl

theorem evalRets_congr (env : Env) (r1 r2 : List Int) (h : r1 = r2) (es : List Expr) :
    evalRets env r1 es = evalRets env r2 es := by rw [h]

theorem agree_iff {x y : Except Err (Out × ScopeSt)} : Agree x y ↔
    ExceptRel (fun a b => a.1 = b.1 ∧ SameVars a.2.vars b.2.vars ∧ a.2.counters = b.2.counters ∧
      a.2.mutable = b.2.mutable ∧ a.2.rngs = b.2.rngs ∧ a.2.frozen = b.2.frozen) x y := by
  cases x <;> cases y <;> rfl

/-- `pack` uses its `inner` only at the groups of `_partial_pack` and the scope's counters -/
theorem pack_rel {α β : Type} {Q : α → β → Prop} (inF outF rngF : List LFilter) (s : ScopeSt)
    {inner : PackEnv → Counters → Except Err (α × List Vars × Counters)}
    {inner' : PackEnv → Counters → Except Err (β × List Vars × Counters)}
    (h : ExceptRel (fun a b => Q a.1 b.1 ∧ a.2 = b.2) (inner (partialPack inF outF rngF s) s.counters)
      (inner' (partialPack inF outF rngF s) s.counters)) :
    ExceptRel (fun a b => Q a.1 b.1 ∧ a.2 = b.2) (pack inF outF rngF inner s) (pack inF outF rngF inner' s) := by
  unfold pack
  refine h.elim ?_ (fun _ _ _ => rfl)
  rintro ⟨y, out, ctr⟩ ⟨y', out', ctr'⟩ _ _ ⟨hQ, he⟩
  cases he
  dsimp only
  cases publish { s with counters := ctr } out
  · rfl
  · exact ⟨hQ, rfl⟩

theorem pack_eq_ok {α : Type} {inF outF rngF : List LFilter} {s s' : ScopeSt}
    {inner : PackEnv → Counters → Except Err (α × List Vars × Counters)} {y : α} :
    pack inF outF rngF inner s = .ok (y, s') ↔ ∃ out ctr,
      inner (partialPack inF outF rngF s) s.counters = .ok (y, out, ctr) ∧
        publish { s with counters := ctr } out = .ok s' := by
  unfold pack
  constructor
  · intro h
    split at h
    · cases h
    · rename_i y0 out ctr hin
      split at h
      · cases h
      · rename_i s0 hp
        cases h
        exact ⟨out, ctr, hin, hp⟩
  · rintro ⟨out, ctr, hin, hp⟩
    simp only [hin, hp]

theorem runInner_partialPack (inF outF rngF : List LFilter) (s : ScopeSt) (attrs : List (String × Int)) (f : Fn)
    (args : List Int) (mf : LFilter) (vg : List Vars) (rg : List Rngs) (ctr : Counters) :
    runInner attrs f args mf (partialPack inF outF rngF s) vg rg ctr =
      match runFn attrs f args (scopeFn s outF (frozenNames (groupBy s.vars inF) outF) vg rg mf ctr) with
      | .error e => .error e
      | .ok (y, i') => .ok (y, groupBy (i'.vars.filter (fun kv => inFilter i'.mutable kv.1)) outF, i'.counters) := by
  simp only [runInner, partialPack]
  cases h : runFn attrs f args (scopeFn s outF (frozenNames (groupBy s.vars inF) outF) vg rg mf ctr) with
  | error e => rfl
  | ok r =>
    obtain ⟨y, i'⟩ := r
    obtain ⟨m, hm, rfl⟩ := runFn_ok h
    simp only
    rw [repack_scopeFn hm]

/-- Where both scopes see a collection they stay equal (`hab`), and a variable the inner run lacks was not there before
(`eval_mono`); what is immutable inside, or invisible, is not written outside (`eval_frame`). -/
theorem runFn_overlay {D W R : String → Prop} {attrs : List (String × Int)} {f : Fn} {args : List Int}
    {s i : ScopeSt} {a b : Out × ScopeSt} (hs : Sim D W R s i) (hD : ∀ c, c ∈ cols f.body → D c)
    (hW : ∀ c, c ∈ wcols f.body → W c) (hdom : ∀ c, ¬ D c → alookup c i.vars = none)
    (h1 : runFn attrs f args s = .ok a) (h2 : runFn attrs f args i = .ok b)
    (hab : ∀ c, D c → ∀ n, getVar b.2.vars c n = getVar a.2.vars c n) (c n : String) :
    getVar a.2.vars c n =
      if inFilter i.mutable c then (match getVar b.2.vars c n with | some v => some v | none => getVar s.vars c n)
      else getVar s.vars c n := by
  obtain ⟨m, hm, hma⟩ := runFn_ok h1
  obtain ⟨m', hm', hmb⟩ := runFn_ok h2
  rw [← hma] at hab ⊢
  rw [← hmb] at hab ⊢
  by_cases hDc : D c
  · cases hmu : inFilter i.mutable c with
    | true =>
      simp only [↓reduceIte, hab c hDc n]
      exact (overlay_eq_left (eval_mono _ _ c n _ _ hm)).symm
    | false =>
      have hfr : alookup c m.sc.vars = alookup c s.vars := by
        apply eval_frame _ _ c _ _ hm
        by_cases hw : c ∈ wcols f.body
        · exact Or.inr (by rw [← hs.mutb c (hW c hw)]; exact hmu)
        · exact Or.inl hw
      simp [getVar, hfr]
  · have hnw : c ∉ wcols f.body := fun h => hDc (hD c (wcols_sub_cols _ c h))
    have e1 : alookup c m.sc.vars = alookup c s.vars := eval_frame _ _ c _ _ hm (Or.inl hnw)
    have e2 : alookup c m'.sc.vars = none := (eval_frame _ _ c _ _ hm' (Or.inl hnw)).trans (hdom c hDc)
    simp [getVar, e1, e2]

/-- `liftId` from the run on the inner scope: its output and counters, `s`'s static data, its variables published over `s`'s -/
theorem liftId_spec (inF outF rngF : List LFilter) (mf : LFilter) (attrs : List (String × Int)) (f : Fn)
    (args : List Int) (s : ScopeSt) (hwf : VarsWF s.vars) (hfz : s.FrozenOk) :
    ExceptRel (fun a b => a.1 = b.1 ∧ b.2.mutable = s.mutable ∧ b.2.frozen = s.frozen ∧ b.2.rngs = s.rngs ∧
        b.2.counters = a.2.counters ∧
        ∀ c n, getVar b.2.vars c n =
          if (inFilter s.mutable c && anyMatch outF c && inFilter mf c) = true then
            (match getVar a.2.vars c n with | some v => some v | none => getVar s.vars c n)
          else getVar s.vars c n)
      (runFn attrs f args
        (scopeFn s outF (frozenNames (groupBy s.vars inF) outF) (groupBy s.vars inF) (groupBy s.rngs rngF) mf s.counters))
      (liftId inF outF rngF mf attrs f args s) := by
  unfold liftId pack
  simp only [runInner_partialPack]
  simp only [partialPack]
  cases h : runFn attrs f args
      (scopeFn s outF (frozenNames (groupBy s.vars inF) outF) (groupBy s.vars inF) (groupBy s.rngs rngF) mf s.counters) with
  | error e => rfl
  | ok r =>
    obtain ⟨y, i'⟩ := r
    obtain ⟨m, hm, rfl⟩ := runFn_ok h
    simp only [publish, publishAll_eq _ _ (show ({ s with counters := m.sc.counters } : ScopeSt).FrozenOk from hfz)]
    refine ⟨rfl, rfl, rfl, rfl, rfl, fun c n => ?_⟩
    rw [getVar_published _ _ _ (varsWF_groupBy_flatten _ _ (varsWF_filter _ _
      (eval_wf _ _ _ _ hm (varsWF_groupBy_flatten inF s.vars hwf)))), getVar_repacked, (eval_static _ _ _ _ hm).1,
      inFilter_scopeFn]
    cases inFilter s.mutable c <;> cases anyMatch outF c <;> cases inFilter mf c <;> rfl

theorem liftId_agree (inF outF rngF : List LFilter) (mf : LFilter) (attrs : List (String × Int)) (f : Fn)
    (args : List Int) (s : ScopeSt) (hwf : VarsWF s.vars) (hfz : s.FrozenOk)
    (hin : ∀ c, c ∈ cols f.body → anyMatch inF c = true)
    (hout : ∀ c, c ∈ wcols f.body → inFilter s.mutable c = true → anyMatch outF c = true ∧ inFilter mf c = true)
    (hrng : ∀ r, r ∈ rngDeps f.body → (alookup r s.rngs).isSome = true → anyMatch rngF r = true) :
    Agree (runFn attrs f args s) (liftId inF outF rngF mf attrs f args s) := by
  have hsim := sim_scopeFn s inF outF rngF mf hfz
  have hrun := sim_runFn attrs f args s _ hsim hin hout
    (fun r h => hrng r (by
      have : rngNames f.body ≠ [] := fun e => by simp [e] at h
      simp [rngDeps, this, h]))
    (fun hne => hrng "params" (by simp [rngDeps, hne]))
  rw [agree_iff]
  refine (hrun.trans (liftId_spec inF outF rngF mf attrs f args s hwf hfz)).elim ?_ (fun _ _ _ => rfl)
  rintro a c h1 _ ⟨b, h2, ⟨hy, hab⟩, hy', q1, q2, q3, q4, q5⟩
  obtain ⟨m, hm, hma⟩ := runFn_ok h1
  have hst := eval_static _ _ _ _ hm
  rw [hma] at hst
  refine ⟨hy.trans hy', ?_, by rw [q4]; exact hab.ctr.symm, by rw [q1]; exact hst.1, by rw [q3]; exact hst.2.2,
    by rw [q2]; exact hst.2.1⟩
  intro c' n
  rw [q5, ← inFilter_scopeFn s outF (frozenNames (groupBy s.vars inF) outF) (groupBy s.vars inF) (groupBy s.rngs rngF) mf
    s.counters]
  exact runFn_overlay hsim hin hout
    (fun c hc => by simp [scopeFn, alookup_groupBy_flatten, hc]) h1 h2 hab.vars c' n

/-- the shape shared by `jit`, `remat`, `cond` and `switch` -/
theorem liftId_agree_single (variables rngs : LFilter) (attrs : List (String × Int)) (f : Fn) (args : List Int)
    (s : ScopeSt) (hwf : VarsWF s.vars) (hfz : s.FrozenOk)
    (hin : ∀ c, c ∈ cols f.body → inFilter variables c = true)
    (hrng : ∀ r, r ∈ rngDeps f.body → (alookup r s.rngs).isSome = true → inFilter rngs r = true) :
    Agree (runFn attrs f args s) (liftId [variables] [variables] [rngs] .tt attrs f args s) := by
  apply liftId_agree _ _ _ _ _ _ _ _ hwf hfz
  · intro c hc; simp [anyMatch, hin c hc]
  · intro c hc _; simp [anyMatch, hin c (wcols_sub_cols _ c hc), inFilter]
  · intro r hr hs; simp [anyMatch, hrng r hr hs]

/-- `liftId_agree` for whatever `pack` runs inside, provided that on the groups of `_partial_pack` it ends like the traced
body.  The differentiating transforms are compared with the plain call through this. -/
theorem pack_agree {β : Type} {Q : Out → β → Prop} (inF outF rngF : List LFilter) (mf : LFilter)
    (attrs : List (String × Int)) (f : Fn) (args : List Int) (s : ScopeSt) (hwf : VarsWF s.vars) (hfz : s.FrozenOk)
    (hin : ∀ c, c ∈ cols f.body → anyMatch inF c = true)
    (hout : ∀ c, c ∈ wcols f.body → inFilter s.mutable c = true → anyMatch outF c = true ∧ inFilter mf c = true)
    (hrng : ∀ r, r ∈ rngDeps f.body → (alookup r s.rngs).isSome = true → anyMatch rngF r = true)
    {inner : PackEnv → Counters → Except Err (β × List Vars × Counters)}
    (h : ExceptRel (fun a b => Q a.1 b.1 ∧ a.2 = b.2)
      (runInner attrs f args mf (partialPack inF outF rngF s) (partialPack inF outF rngF s).varGroups
        (partialPack inF outF rngF s).rngGroups s.counters)
      (inner (partialPack inF outF rngF s) s.counters)) :
    ExceptRel (fun a b => Q a.1 b.1 ∧ SameVars a.2.vars b.2.vars ∧ a.2.counters = b.2.counters ∧
        a.2.mutable = b.2.mutable ∧ a.2.rngs = b.2.rngs ∧ a.2.frozen = b.2.frozen)
      (runFn attrs f args s) (pack inF outF rngF inner s) := by
  refine ((agree_iff.mp (liftId_agree inF outF rngF mf attrs f args s hwf hfz hin hout hrng)).trans
    (pack_rel inF outF rngF s h)).mono ?_
  rintro a c _ _ ⟨b, _, ⟨hy, hag⟩, hQ, hs⟩
  exact ⟨hy ▸ hQ, hs ▸ hag⟩

theorem clampIdx_lt (i : Int) {n : Nat} (hn : 0 < n) : clampIdx i n < n := by
  unfold clampIdx
  split
  · exact hn
  · split <;> omega

theorem laxCond_eq_laxSwitch (p : Bool) (rt rf : Except Err (Out × List Vars × Counters)) :
    laxCond p rt rf = laxSwitch (if p then 0 else 1) [rt, rf] := by
  cases rt with
  | error e => rfl
  | ok vt =>
    cases rf with
    | error e => rfl
    | ok vf =>
      simp only [laxCond, laxSwitch, sequence, List.all_cons, List.all_nil, decide_true, Bool.true_and, Bool.and_true,
        decide_eq_true_eq, eq_comm (a := shapeOf vf)]
      cases p <;> rfl

theorem sequence_eq_mapM {β : Type} : ∀ (rs : List (Except Err β)), sequence rs = rs.mapM id
  | [] => rfl
  | .error e :: _ => by rw [sequence, List.mapM_cons]; rfl
  | .ok v :: rs => by
    rw [sequence, List.mapM_cons, sequence_eq_mapM rs]
    cases rs.mapM id <;> rfl

theorem laxSwitch_of_traced (i : Int) (rs : List (Except Err (Out × List Vars × Counters)))
    (sh : Nat × List (List (String × List String)))
    (h : ∀ r, r ∈ rs → ∃ v, r = .ok v ∧ shapeOf v = sh) (hne : rs ≠ []) :
    some (laxSwitch i rs) = rs[clampIdx i rs.length]? := by
  obtain ⟨vs, hvs⟩ := mapM_ok_of_forall (f := id) rs fun r hr => (h r hr).imp fun _ hv => hv.1
  obtain ⟨hl, hp⟩ := mapM_ok_iff.mp hvs
  obtain rfl : rs = vs.map Except.ok := List.ext_getElem (by rw [List.length_map, hl]) fun n h1 h2 => by
    rw [List.getElem_map]; exact hp n h1 (List.length_map (as := vs) Except.ok ▸ h2)
  have hsh : ∀ v ∈ vs, shapeOf v = sh := fun v hv => by
    obtain ⟨w, e, hw⟩ := h (.ok v) (List.mem_map_of_mem hv)
    cases e; exact hw
  unfold laxSwitch
  rw [sequence_eq_mapM, hvs, List.length_map, List.getElem?_map]
  cases vs with
  | nil => exact absurd rfl hne
  | cons v0 vs' =>
    have hall : ((v0 :: vs').all fun v => decide (shapeOf v = shapeOf v0)) = true := by
      simp only [List.all_eq_true, decide_eq_true_eq]
      exact fun v hv => (hsh v hv).trans (hsh v0 List.mem_cons_self).symm
    simp only [hall, ↓reduceIte]
    rw [List.getElem?_eq_getElem (clampIdx_lt i (List.length_pos_of_mem List.mem_cons_self))]
    rfl

theorem liftCond_eq_liftSwitch (variables rngs : LFilter) (attrs : List (String × Int)) (pred : Bool) (t f : Fn)
    (args : List Int) (s : ScopeSt) :
    liftCond variables rngs attrs pred t f args s =
      liftSwitch variables rngs attrs (if pred then 0 else 1) [t, f] args s := by
  simp only [liftCond, liftSwitch, laxCond_eq_laxSwitch, List.map_cons, List.map_nil]

theorem pyCond_eq_pySwitch (attrs : List (String × Int)) (pred : Bool) (t f : Fn) (args : List Int) (s : ScopeSt) :
    pyCond attrs pred t f args s = pySwitch attrs (if pred then 0 else 1) [t, f] args s := by
  cases pred <;> rfl

end Flax.Lift
