/- C12: `dotGeneral` at an output index, through where `scatterIdx` puts the assigned and the free coordinates; the dense layers as cases of it. -/
import Flax.Proofs.Layers
import Flax.Proofs.Assoc

namespace Flax.Layers

theorem scatterIdx_length (n : Nat) (assign : List (Nat × Nat)) (rest : List Nat) :
    (scatterIdx n assign rest).length = n := by simp [scatterIdx]

theorem scatterIdx_getElem (n : Nat) (assign : List (Nat × Nat)) (rest : List Nat) (p : Nat) (hp : p < n) :
    (scatterIdx n assign rest)[p]'(by simp [scatterIdx, hp]) = scatterAt assign rest p := by
  simp only [scatterIdx, List.getElem_map, List.getElem_range]

theorem find_zip_nodup (keys vals : List Nat) (hn : keys.Nodup) (hl : keys.length = vals.length)
    (j : Nat) (hj : j < keys.length) (hj' : j < vals.length) :
    (keys.zip vals).find? (fun q => q.1 = keys[j]) = some (keys[j], vals[j]) := by
  have hm : (keys[j], vals[j]) ∈ keys.zip vals :=
    List.mem_iff_getElem.mpr ⟨j, by rw [List.length_zip]; omega, List.getElem_zip⟩
  have h := (Assoc.find?_key_eq_lookup keys[j] (keys.zip vals)).trans
    (Assoc.lookup_of_mem (by rwa [List.map_fst_zip (Nat.le_of_eq hl)]) hm)
  obtain ⟨q, hq, hq2⟩ := Option.map_eq_some_iff.mp h
  have hq1 : q.1 = keys[j] := of_decide_eq_true (List.find?_some (p := fun (e : Nat × Nat) => decide (e.1 = keys[j])) hq)
  rw [hq, ← hq1, ← hq2]

theorem find_zip_isNone (keys vals : List Nat) (h : keys.length = vals.length) (p : Nat) :
    ((keys.zip vals).find? (fun q => q.1 = p)).isNone = !(keys.contains p) := by
  rw [← Option.isNone_map (f := (·.2)), Assoc.find?_key_eq_lookup, Bool.eq_iff_iff, Option.isNone_iff_eq_none,
    Assoc.lookup_eq_none_iff, List.map_fst_zip (Nat.le_of_eq h)]
  simp

/-- one induction over `n`: the free positions below `n`, in order, read the first entries of `rest` -/
theorem scatterIdx_free_take (assign : List (Nat × Nat)) (rest : List Nat) : ∀ n : Nat,
    ((List.range n).filter (fun j => (assign.find? (fun q => q.1 = j)).isNone)).length ≤ rest.length →
    ((List.range n).filter (fun j => (assign.find? (fun q => q.1 = j)).isNone)).map (scatterAt assign rest)
      = rest.take ((List.range n).filter (fun j => (assign.find? (fun q => q.1 = j)).isNone)).length
  | 0, _ => rfl
  | n + 1, h => by
    rw [filter_range_succ] at h ⊢
    cases hf : (assign.find? (fun q => decide (q.1 = n))).isNone
    · rw [hf] at h
      simpa [hf] using scatterIdx_free_take assign rest n (by simpa using h)
    · rw [hf, if_pos rfl, List.length_append, List.length_singleton] at h
      rw [if_pos rfl, List.map_append, scatterIdx_free_take assign rest n (by omega), List.length_append,
        List.length_singleton, List.take_succ_eq_append_getElem h, List.map_singleton, scatterAt]
      rw [Option.isNone_iff_eq_none.mp hf]
      congr 2
      exact (List.getElem_eq_getD 0).symm

theorem scatterIdx_free (n : Nat) (assign : List (Nat × Nat)) (rest : List Nat)
    (hl : rest.length = ((List.range n).filter (fun j => (assign.find? (fun q => q.1 = j)).isNone)).length) :
    ((List.range n).filter (fun j => (assign.find? (fun q => q.1 = j)).isNone)).map (scatterAt assign rest) = rest := by
  rw [scatterIdx_free_take assign rest n (Nat.le_of_eq hl.symm), ← hl, List.take_length]

theorem scatterIdx_free_zip (n : Nat) (keys vals rest : List Nat) (hl : keys.length = vals.length)
    (hr : rest.length = ((List.range n).filter (fun p => !(keys.contains p))).length) :
    ((List.range n).filter (fun p => !(keys.contains p))).map (scatterAt (keys.zip vals) rest) = rest := by
  have hfree : (fun j => (((keys.zip vals).find? (fun q => decide (q.1 = j))).isNone)) = (fun p => !(keys.contains p)) :=
    funext (find_zip_isNone keys vals hl)
  have h := scatterIdx_free n (keys.zip vals) rest (by rw [hfree]; exact hr)
  rwa [hfree] at h

theorem scatter_prefix (m : Nat) (vs f : List Nat) (hv : vs.length = m) :
    scatterIdx (m + f.length) ((List.range m).zip vs) f = vs ++ f := by
  have hf : (List.range (m + f.length)).filter (fun j => !((List.range m).contains j))
      = (List.range f.length).map (m + ·) := by
    rw [List.range_add, List.filter_append, List.filter_eq_nil_iff.mpr, List.filter_eq_self.mpr, List.nil_append]
    · intro a ha
      obtain ⟨b, -, rfl⟩ := List.mem_map.mp ha
      simp
    · intro a ha
      simpa using ha
  have h2 := scatterIdx_free_zip (m + f.length) (List.range m) vs f (by simp [hv]) (by rw [hf]; simp)
  rw [hf] at h2
  rw [scatterIdx, List.range_add, List.map_append, h2]
  congr 1
  refine List.ext_getElem (by simp [hv]) fun p h1 h2 => ?_
  have hp : p < m := by simpa using h1
  have := find_zip_nodup (List.range m) vs List.nodup_range (by simp [hv]) p (by simpa using hp) (hv ▸ hp)
  simp only [List.getElem_range] at this
  simp only [List.getElem_map, List.getElem_range, scatterAt, this]

theorem filter_range_drop_last (P : Nat → Bool) (m : Nat) (hP : ∀ a, a < m → P a = true) (hm : P m = false) :
    (List.range (m + 1)).filter P = List.range m := by
  rw [filter_range_succ, hm, List.filter_eq_self.mpr fun a ha => hP a (List.mem_range.mp ha)]
  exact List.append_nil _

theorem filter_last (r : Nat) (hr : 1 ≤ r) :
    (List.range r).filter (fun a => !([r - 1].contains a) && !(([] : List Nat).contains a)) = List.range (r - 1) := by
  obtain ⟨m, rfl⟩ : ∃ m, r = m + 1 := ⟨r - 1, by omega⟩
  exact filter_range_drop_last _ m (fun a ha => by simp [Nat.ne_of_lt ha]) (by simp)

theorem scatter_last (r c : Nat) (lead : List Nat) (h : lead.length + 1 = r) :
    scatterIdx r [(r - 1, c)] lead = lead ++ [c] := by
  subst h
  rw [Nat.add_sub_cancel]
  have hf : (List.range (lead.length + 1)).filter (fun j => !([lead.length].contains j)) = List.range lead.length :=
    filter_range_drop_last _ _ (fun a ha => by simp [Nat.ne_of_lt ha]) (by simp)
  have hfree : _ = lead := scatterIdx_free_zip (lead.length + 1) [lead.length] [c] lead rfl (by rw [hf, List.length_range])
  rw [hf] at hfree
  change (List.range lead.length).map (scatterAt [(lead.length, c)] lead) = lead at hfree
  rw [scatterIdx, List.range_succ, List.map_append, hfree]
  simp [scatterAt]

theorem scatter_kernel (c f : Nat) : scatterIdx 2 [(0, c)] [f] = [c, f] :=
  scatter_prefix 1 [c] [f] rfl

section
variable {R : Type} [Zero R] [Add R] [Mul R]

/-- output coordinates as in `lax.dot_general`: batch, lhs-free, rhs-free -/
theorem dotGeneral_get (lhs rhs : Tensor R) (lc rc lb rb : List Nat) (b lf rf : List Nat)
    (hbl : b.length = lb.length)
    (hlf : lf.length = ((List.range lhs.rank).filter (fun a => !(lc.contains a) && !(lb.contains a))).length)
    (hb : inBounds (dotGeneral lhs rhs lc rc lb rb).shape (b ++ lf ++ rf) = true) :
    (dotGeneral lhs rhs lc rc lb rb).get (b ++ lf ++ rf) =
      sumOver (indices (lc.map (nth lhs.shape ·))) (fun c =>
        lhs.get (scatterIdx lhs.rank (lb.zip b ++ lc.zip c) lf) * rhs.get (scatterIdx rhs.rank (rb.zip b ++ rc.zip c) rf)) := by
  simp only [dotGeneral, Tensor.ofFn] at hb
  simp only [dotGeneral]
  rw [get_ofFn _ _ hb]
  have e1 : (b ++ lf ++ rf).take lb.length = b := by
    rw [List.append_assoc, ← hbl, List.take_left']
    rfl
  have e2 : ((b ++ lf ++ rf).drop lb.length).take
      (((List.range lhs.rank).filter (fun a => !(lc.contains a) && !(lb.contains a))).map (nth lhs.shape ·)).length = lf := by
    rw [List.append_assoc, ← hbl, List.drop_left', List.length_map, ← hlf, List.take_left']
    rfl; rfl
  have e3 : (b ++ lf ++ rf).drop (lb.length +
      (((List.range lhs.rank).filter (fun a => !(lc.contains a) && !(lb.contains a))).map (nth lhs.shape ·)).length) = rf := by
    rw [List.length_map, ← hbl, ← hlf, ← List.length_append, List.drop_left']
    rfl
  simp only [e1, e2, e3]

theorem dotGeneral_last_shape (x k : Tensor R) (hr : 1 ≤ x.rank) (hk : k.rank = 2) :
    (dotGeneral x k [x.rank - 1] [0] [] []).shape = (List.range (x.rank - 1)).map (nth x.shape ·) ++ [nth k.shape 1] := by
  have hkf : (List.range k.rank).filter (fun a => !([0].contains a) && !(([] : List Nat).contains a)) = [1] := by
    rw [hk]; decide
  simp only [dotGeneral, Tensor.ofFn, filter_last x.rank hr, hkf, List.map_nil, List.nil_append, List.map_cons]

theorem dotGeneral_last_get (x k : Tensor R) (lead : List Nat) (f : Nat)
    (hk : k.rank = 2) (hl : lead.length + 1 = x.rank)
    (hb : inBounds (dotGeneral x k [x.rank - 1] [0] [] []).shape (lead ++ [f]) = true) :
    (dotGeneral x k [x.rank - 1] [0] [] []).get (lead ++ [f]) =
      sumOver (List.range (nth x.shape (x.rank - 1))) (fun j => x.get (lead ++ [j]) * k.get [j, f]) := by
  have hlf : lead.length = ((List.range x.rank).filter (fun a => !([x.rank - 1].contains a) && !(([] : List Nat).contains a))).length := by
    rw [filter_last x.rank (by omega), List.length_range]; omega
  have h := dotGeneral_get x k [x.rank - 1] [0] [] [] [] lead [f] rfl hlf hb
  rw [List.nil_append] at h
  rw [h, List.map_singleton, indices_singleton, sumOver_map]
  apply sumOver_congr
  intro j _
  simp only [List.nil_append, List.zip_cons_cons, List.zip_nil_right]
  rw [scatter_last x.rank j lead hl, hk, scatter_kernel]
end

theorem zip_range_add (nb na : Nat) (b c : List Nat) (hb : b.length = nb) :
    (List.range nb).zip b ++ ((List.range na).map (· + nb)).zip c = (List.range (nb + na)).zip (b ++ c) := by
  have : List.range (nb + na) = List.range nb ++ (List.range na).map (· + nb) := by
    rw [List.range_add]
    congr 1
    apply List.map_congr_left
    intro a _; omega
  rw [this, List.zip_append (by simp [hb])]

theorem bcast_ones (r : List Nat) : List.zipWith (fun i d => if d = 1 then 0 else i) r (List.replicate r.length 1)
    = List.replicate r.length 0 := by
  induction r with
  | nil => rfl
  | cons a as ih => simp [List.replicate_succ, ih]

theorem prod_ones (n : Nat) : prod (List.replicate n 1) = 1 := by
  induction n with
  | zero => rfl
  | succ n ih => simp [List.replicate_succ, prod, ih]

theorem ravel_ones_zeros (n : Nat) : ravel (List.replicate n 1) (List.replicate n 0) = 0 := by
  induction n with
  | zero => rfl
  | succ n ih => simp [List.replicate_succ, ravel, ih]

theorem ravel_ones_middle (bs b fs f : List Nat) (n : Nat) (hb : b.length = bs.length) :
    ravel (bs ++ List.replicate n 1 ++ fs) (b ++ List.replicate n 0 ++ f) = ravel (bs ++ fs) (b ++ f) := by
  rw [ravel_append (bs ++ List.replicate n 1) (b ++ List.replicate n 0) fs f (by simp [hb]),
    ravel_append bs b (List.replicate n 1) (List.replicate n 0) hb, ravel_append bs b fs f hb,
    prod_ones, ravel_ones_zeros]
  simp

section
variable {R : Type} [Zero R] [Add R] [Mul R]

theorem expanded_shape (ax : List Nat) (sh : List Nat) (nb n : Nat) (hnb : nb ≤ n) (hge : ∀ a ∈ ax, nb ≤ a) (r : List Nat)
    (hr : r.length = ((List.range n).filter (fun a => !(ax.contains a) && !((List.range nb).contains a))).length) :
    ((List.range n).filter (fun a => !(ax.contains a))).map (fun a => if (List.range nb).contains a then nth sh a else 1)
      = (List.range nb).map (nth sh ·) ++ List.replicate r.length 1 := by
  obtain ⟨d, rfl⟩ : ∃ d, n = nb + d := ⟨n - nb, by omega⟩
  -- below `nb` every axis is a batch axis and none is contracted; from `nb` on none is a batch axis
  have h1 : (List.range nb).filter (fun a => !(ax.contains a)) = List.range nb :=
    List.filter_eq_self.mpr fun a ha => by
      have : a ∉ ax := fun h => Nat.not_le.mpr (List.mem_range.mp ha) (hge a h)
      simp [this]
  have h2 : (List.range nb).filter (fun a => !(ax.contains a) && !((List.range nb).contains a)) = [] :=
    List.filter_eq_nil_iff.mpr fun a ha => by simp [List.mem_range.mp ha]
  have h3 : ∀ a ∈ (List.range d).map (nb + ·), ¬ a < nb := fun a ha => by
    obtain ⟨b, -, rfl⟩ := List.mem_map.mp ha
    omega
  rw [List.range_add, List.filter_append, h2, List.nil_append,
    List.filter_congr (q := fun a => !(ax.contains a)) fun a ha => by simp [h3 a ha]] at hr
  rw [List.range_add, List.filter_append, h1, List.map_append, hr]
  congr 1
  · exact List.map_congr_left fun a ha => by simp [List.mem_range.mp ha]
  · refine List.eq_replicate_iff.mpr ⟨List.length_map _, fun v hv => ?_⟩
    obtain ⟨a, ha, rfl⟩ := List.mem_map.mp hv
    simp [h3 a (List.mem_filter.mp ha).1]

theorem denseGeneralCore_shape (axis batchDims : List Int) (x k : Tensor R) (bias : Option (Tensor R)) :
    (denseGeneralCore axis batchDims x k bias).shape = (denseGeneralCore axis batchDims x k none).shape := by
  cases bias <;> rfl

/-- hypotheses as in `C12.dense_general_formula`, explained there -/
theorem denseGeneralCore_get (axis batchDims : List Int) (x k : Tensor R) (bias : Option (Tensor R)) (nb : Nat)
    (bidx r f feats : List Nat)
    (hbd : normalizeAxes x.rank batchDims = List.range nb) (hbl : bidx.length = nb)
    (hr : r.length = ((List.range x.rank).filter
            (fun a => !((normalizeAxes x.rank axis).contains a) && !((List.range nb).contains a))).length)
    (hkr : k.rank = nb + (normalizeAxes x.rank axis).length + f.length)
    (hnb : nb ≤ x.rank) (hge : ∀ a ∈ normalizeAxes x.rank axis, nb ≤ a)
    (hfeats : k.shape.drop (nb + (normalizeAxes x.rank axis).length) = feats)
    (hbs : ∀ b, bias = some b → b.shape = (List.range nb).map (nth x.shape ·) ++ feats)
    (hbi : inBounds ((List.range nb).map (nth x.shape ·)) bidx = true) (hfi : inBounds feats f = true)
    (hb : inBounds (denseGeneralCore axis batchDims x k bias).shape (bidx ++ r ++ f) = true) :
    (denseGeneralCore axis batchDims x k bias).get (bidx ++ r ++ f) =
      match bias with
      | none =>
        sumOver (indices ((normalizeAxes x.rank axis).map (nth x.shape ·))) (fun a =>
          x.get (scatterIdx x.rank ((List.range nb).zip bidx ++ (normalizeAxes x.rank axis).zip a) r) * k.get (bidx ++ a ++ f))
      | some b =>
        sumOver (indices ((normalizeAxes x.rank axis).map (nth x.shape ·))) (fun a =>
          x.get (scatterIdx x.rank ((List.range nb).zip bidx ++ (normalizeAxes x.rank axis).zip a) r) * k.get (bidx ++ a ++ f))
        + b.get (bidx ++ f) := by
  have hb0 := hb
  rw [denseGeneralCore_shape] at hb0
  simp only [denseGeneralCore, hbd, List.length_range] at hb0
  -- the product: the kernel is indexed by batch, contraction and feature coordinates in this order
  have hout := (dotGeneral_get x k _ _ _ _ bidx r f (by simp [hbl]) hr hb0).trans (sumOver_congr _ _ _ fun a ha => by
    have hal : a.length = (normalizeAxes x.rank axis).length := by simpa using mem_indices_length ha
    rw [zip_range_add nb _ bidx a hbl, hkr, scatter_prefix _ (bidx ++ a) f (by simp [hbl, hal])])
  cases bias with
  | none =>
    simp only [denseGeneralCore, hbd, List.length_range]
    exact hout
  | some b =>
    have hexp := expanded_shape (normalizeAxes x.rank axis) x.shape nb x.rank hnb hge r hr
    have hfl : f.length = feats.length := inBounds_length hfi
    have hbil : bidx.length = ((List.range nb).map (nth x.shape ·)).length := inBounds_length hbi
    simp only [denseGeneralCore, hbd, List.length_range, hfeats, hexp] at hb ⊢
    simp only [Tensor.ofFn] at hb
    rw [get_ofFn _ _ hb, hout]
    refine congrArg (_ + ·) (Tensor.getD_reshape b _ _ _ 0 ?_)
    simp only [Tensor.reshape]
    rw [List.zipWith_append (by simp [hbil]), List.zipWith_append (by simp [hbil]),
      bcast_inBounds _ _ hbi, bcast_inBounds _ _ hfi, bcast_ones, ravel_ones_middle _ _ _ _ _ hbil, hbs b rfl]
end

end Flax.Layers
