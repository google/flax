/-
The control flow of a module program does not depend on array values: stores with the same keys and shapes
(`ShapeEq`), leaves with the same `abs`, are an instance of the lockstep of `Flax.Lockstep` with unconstrained
scalars, so two `init`s with different arguments return together, with one tree and shapes (`init_shapes`).
Used by C02.
-/
import Flax.Proofs.Lockstep

namespace Flax.ShapeSim
open Flax.Filter (LFilter inFilter)
open Flax.Scope Flax.ModuleTree Flax.ScopeLemmas Flax.Lockstep

abbrev abs (v : Val) : Val := Flax.ModuleTree.Val.abstract v

def absVars (l : List (Path × Val)) : List (Path × Val) := l.map (fun kv => (kv.1, abs kv.2))

theorem lookupP_abs (q : Path) (l : List (Path × Val)) : lookupP q (absVars l) = (lookupP q l).map abs := by
  rw [lookupP_eq_lookup, lookupP_eq_lookup]
  exact Assoc.lookup_map_val abs q l

theorem upsert_abs (q : Path) (v : Val) (l : List (Path × Val)) :
    absVars (upsert q v l) = upsert q (abs v) (absVars l) :=
  upsert_isUpsert.map_val upsert_isUpsert abs q v l

theorem any_key_abs (P : Path → Bool) (l : List (Path × Val)) :
    (absVars l).any (fun kv => P kv.1) = l.any (fun kv => P kv.1) := by
  simp [absVars, List.any_map, Function.comp_def]

theorem abs_full (sh : List Nat) (a b : Int) : abs (Val.full sh a) = abs (Val.full sh b) := by
  simp [abs, Val.abstract, Val.full]

theorem leafShapes_abs (v : Val) : (abs v).leafShapes = v.leafShapes := by
  cases v with
  | tensor sh d => rfl
  | tup xs => simp [abs, Val.abstract, Val.leafShapes, List.map_map, Function.comp_def]

structure ShapeEq (s t : Store) : Prop where
  cols_eq : t.cols = s.cols
  mut_eq : t.mutable = s.mutable
  rngs_eq : t.rngs = s.rngs
  vars_eq : absVars t.vars = absVars s.vars

theorem ShapeEq.refl (s : Store) : ShapeEq s s := ⟨rfl, rfl, rfl, rfl⟩

theorem ShapeEq.lookup {s t : Store} (h : ShapeEq s t) (q : Path) :
    (lookupP q t.vars).map abs = (lookupP q s.vars).map abs := by
  rw [← lookupP_abs, ← lookupP_abs, h.vars_eq]

theorem ShapeEq.isMutable_eq {s t : Store} (h : ShapeEq s t) (c : String) : isMutable t c = isMutable s c := by
  unfold isMutable; rw [h.mut_eq]

theorem ShapeEq.conflict_eq {s t : Store} (h : ShapeEq s t) (q : Path) : conflict t.vars q = conflict s.vars q := by
  unfold conflict
  rw [← any_key_abs (fun k => properPrefix k q || properPrefix q k) t.vars,
      ← any_key_abs (fun k => properPrefix k q || properPrefix q k) s.vars, h.vars_eq]

theorem ShapeEq.hasCol_eq {s t : Store} (h : ShapeEq s t) (c : String) : hasCol t c = hasCol s c := by
  unfold hasCol; rw [h.cols_eq]

theorem putVar_shape {s t s1 : Store} (hrel : ShapeEq s t) {π : Path} {col n : String} {v v' : Val}
    (hv : abs v' = abs v) (h : putVar π col n v s = (.ok (), s1)) :
    ∃ t1, putVar π col n v' t = (.ok (), t1) ∧ ShapeEq s1 t1 := by
  obtain ⟨hm, hc, rfl⟩ := putVar_ok_iff.mp h
  refine ⟨_, putVar_ok_iff.mpr ⟨by rw [hrel.isMutable_eq]; exact hm, by rw [hrel.conflict_eq]; exact hc, rfl⟩,
    by simp only [hrel.hasCol_eq, hrel.cols_eq], hrel.mut_eq, hrel.rngs_eq, ?_⟩
  simp only [upsert_abs, hrel.vars_eq, hv]

theorem abs_tensor_inv {v' : Val} {sh : List Nat} {d : List Int} (h : abs v' = abs (.tensor sh d)) :
    ∃ d', v' = .tensor sh d' := by
  cases v' with
  | tensor sh' d' => simp [abs, Val.abstract] at h; exact ⟨d', by rw [h.1]⟩
  | tup xs => simp [abs, Val.abstract] at h

theorem abs_tup_inv {v' : Val} {xs : List (List Nat × List Int)} (h : abs v' = abs (.tup xs)) :
    ∃ xs', v' = .tup xs' := by
  cases v' with
  | tensor sh' d' => simp [abs, Val.abstract] at h
  | tup xs' => exact ⟨xs', rfl⟩

theorem shapeOk_abs {v v' : Val} (h : abs v' = abs v) (shape : List Nat) : shapeOk v' shape ↔ shapeOk v shape := by
  unfold shapeOk
  rw [← leafShapes_abs v', ← leafShapes_abs v, h]

structure LocalShape (l l' : Local) : Prop where
  env_len : l'.env.length = l.env.length
  res_eq : l'.res = l.res
  cursors_eq : l'.cursors = l.cursors
  kids_eq : l'.kids = l.kids

theorem valSim_abs : ValSim (fun _ _ => True) (fun _ _ => True) (fun v v' => abs v' = abs v) where
  toScalarSim := scalarSim_any
  stored := fun _ => trivial
  read := fun _ => trivial
  full := fun sh {_ _} _ => abs_full sh _ _
  tup₀ := fun _ => by simp [abs, Val.abstract]
  tup := fun h => by
    obtain ⟨xs', rfl⟩ := abs_tup_inv h
    refine ⟨xs', rfl, fun _ => ?_⟩
    simp only [abs, Val.abstract, Val.tup.injEq] at h ⊢
    simp [h]
  tensor := fun h => by
    obtain ⟨d', rfl⟩ := abs_tensor_inv h
    exact ⟨d', rfl, fun _ => trivial⟩
  shapeOk := fun {_ _} sh h hs => (shapeOk_abs h sh).mpr hs
  total := fun _ => trivial

theorem shape_storeSim : StoreSim ShapeEq id (fun _ => True) (fun v v' => abs v' = abs v) where
  mutable := fun h _ => h.isMutable_eq _
  rngs := fun h => h.rngs_eq
  get_some := fun h _ hg => Option.map_eq_some_iff.mp ((h.lookup _).trans (congrArg (Option.map abs) hg))
  get_none := fun h _ hg => Option.map_eq_none_iff.mp ((h.lookup _).trans (congrArg (Option.map abs) hg))
  col_le := fun h _ hc => by rw [← h.hasCol_eq]; exact hc
  col_ge := fun h _ hc _ => by rw [h.hasCol_eq]; exact hc
  bump := fun h => ⟨h.cols_eq, h.mut_eq, h.rngs_eq, h.vars_eq⟩
  put := fun h _ hv hp => putVar_shape h hv hp

theorem shape_nestedSim : NestedSim (fun _ _ => True) (fun v v' => abs v' = abs v) ShapeEq :=
  ⟨shape_storeSim, ShapeEq.refl, fun _ => trivial⟩

theorem LocalShape.rel {J : Int → Int → Prop} {l l' : Local} (h : LocalShape l l')
    (hk : ∀ k ∈ l.kids, Stored (StoresRel (fun _ _ => True) J) k.body) : LocalRel (fun _ _ => True) J l l' :=
  ⟨h.env_len, fun _ _ _ _ _ => trivial, trivial, h.res_eq, h.cursors_eq, h.kids_eq, hk⟩

theorem LocalShape.of_rel {J : Int → Int → Prop} {l l' : Local} (h : LocalRel (fun _ _ => True) J l l') :
    LocalShape l l' := ⟨h.env_len, h.res_eq, h.cursors_eq, h.kids_eq⟩

theorem eval_shape : ∀ (fuel : Nat) (cfg : Cfg) (p : SProg) (π : Path) (x x' : Int) (l l' l1 : Local)
    (s t s1 : Store), ShapeEq s t → LocalShape l l' → eval cfg fuel p π x l s = (.ok l1, s1) →
    ∃ l1' t1, eval cfg fuel p π x' l' t = (.ok l1', t1) ∧ LocalShape l1 l1' ∧ ShapeEq s1 t1 := by
  intro fuel cfg p π x x' l l' l1 s t s1 hrel hl h
  obtain ⟨l1', t1, e1, hl1, hr1⟩ := eval_lockstep valSim_abs shape_storeSim (fun _ _ => rfl) shape_nestedSim (x' := x')
    (fun _ _ _ _ => trivial) (stored_same scalarSim_any p) trivial (hl.rel fun k _ => stored_same scalarSim_any k.body)
    hrel h
  exact ⟨l1', t1, e1, .of_rel hl1, hr1⟩

theorem filter_key_abs (P : Path → Bool) (l : List (Path × Val)) :
    absVars (l.filter (fun kv => P kv.1)) = (absVars l).filter (fun kv => P kv.1) := by
  unfold absVars
  rw [List.filter_map]
  rfl

theorem mutableVariables_shape {s t : Store} (h : ShapeEq s t) :
    Vars.abstract (mutableVariables t) = Vars.abstract (mutableVariables s) := by
  unfold Vars.abstract
  have h1 : (mutableVariables t).cols = (mutableVariables s).cols := by
    simp only [mutableVariables, h.cols_eq, h.mut_eq]
  have h2 : absVars (mutableVariables t).vars = absVars (mutableVariables s).vars := by
    rw [mutableVariables_vars, mutableVariables_vars, filter_key_abs, filter_key_abs, h.vars_eq, h.mut_eq]
  rw [h1]
  unfold absVars at h2
  simp only [abs] at h2
  rw [h2]

theorem init_shapes (cfg : Cfg) (fuel : Nat) (p : SProg) (m : LFilter) (rngs : List String) (x x' y : Int)
    (V : Vars) (h : (ModuleTree.init cfg fuel p m rngs x).result = .ok (y, V)) :
    ∃ y' V', (ModuleTree.init cfg fuel p m rngs x').result = .ok (y', V') ∧ Vars.abstract V' = Vars.abstract V := by
  obtain ⟨y', _, t2, e, _, rfl, hr⟩ := init_lockstep valSim_abs shape_nestedSim (x' := x') (fun _ _ _ _ => trivial)
    (stored_same scalarSim_any p) trivial h
  exact ⟨y', _, e, mutableVariables_shape hr⟩

end Flax.ShapeSim
