/-
`from_bytes ∘ to_bytes` (`Flax/Model/Serial.lean`): what msgpack can carry (`STree.packable`); the ext-type encoding
of leaves and the state dict ↔ msgpack value conversion are inverse; `Tree.noMarker` and `Tree.arraysOk` pass to the
state dict; the whole pipeline round-trips.
-/
import Flax.Proofs.SerialChunk
import Flax.Proofs.Msgpack

namespace Flax.Serial
open Flax.Msgpack

theorem fromUTF8_toUTF8 (s : String) : String.fromUTF8? s.toUTF8 = some s := by
  have h : s.toUTF8.IsValidUTF8 := s.isValidUTF8
  simp only [String.fromUTF8?, h, ↓reduceDIte, Option.some.injEq]
  rfl

/-- `s.encode('utf-8').decode('utf-8') == s` -/
theorem fromUtf8_utf8 (s : String) : fromUtf8 (utf8 s) = some s := by
  simp only [fromUtf8, utf8, List.map_map]
  have : (UInt8.ofNat ∘ UInt8.toNat) = id := by
    funext x; simp
  rw [this, List.map_id, Array.toArray_toList]
  exact fromUTF8_toUTF8 s

/-- an array whose msgpack encoding respects the format's limits -/
def NdArray.packable (a : NdArray) : Prop :=
  a.shape.length < 2 ^ 32 ∧ (∀ d ∈ a.shape, d < 2 ^ 64) ∧ (utf8 a.dtype).length < 2 ^ 32 ∧
  a.data.length < 2 ^ 32 ∧ (ndToBytes a).length < 2 ^ 32

def Leaf.packable : Leaf → Prop
  | .none => True
  | .bool _ => True
  | .int i => -(2 ^ 63 : Int) ≤ i ∧ i < (2 ^ 64 : Int)
  | .float bits => bits < 2 ^ 64
  | .complex re im => re < 2 ^ 64 ∧ im < 2 ^ 64
  | .str s => (utf8 s).length < 2 ^ 32
  | .bytes b => b.length < 2 ^ 32
  | .ndarray a => a.packable
  | .npscalar dtype data => NdArray.packable { dtype := dtype, shape := [], data := data }

mutual
  /-- a state dict msgpack can carry: leaves, dict sizes and keys within the format's limits, keys distinct -/
  def STree.packable : STree → Prop
    | .leaf v => v.packable
    | .dict kvs => kvs.length < 2 ^ 32 ∧ (keys kvs).Nodup ∧ packableKvs kvs
  def packableKvs : List (String × STree) → Prop
    | [] => True
    | (k, v) :: r => (utf8 k).length < 2 ^ 32 ∧ v.packable ∧ packableKvs r
end

-- `wf_` here and in `wf_leafToM`: `MVal.WF` (size limits), not `Tree.wf` (distinct keys)
theorem wf_dims : ∀ (shape : List Nat), (∀ d ∈ shape, d < 2 ^ 64) →
    WFList (shape.map (fun (d : Nat) => MVal.int (d : Int)))
  | [], _ => by simp [WFList]
  | d :: r, h => by
    have hd := h d (by simp)
    simp only [List.map_cons, WFList, MVal.WF]
    refine ⟨⟨by omega, by omega⟩, wf_dims r (fun x hx => h x (by simp [hx]))⟩

theorem allSome_dims (shape : List Nat) :
    allSome asNatM (shape.map (fun (d : Nat) => MVal.int (d : Int))) = some shape :=
  (allSome_map asNatM _ id (fun d => by simp [asNatM]) shape).trans (congrArg some shape.map_id)

theorem ndFromBytes_ndToBytes (a : NdArray) (h : a.packable) : ndFromBytes (ndToBytes a) = some a := by
  obtain ⟨h1, h2, h3, h4, _⟩ := h
  have hwf : (MVal.arr [.arr (a.shape.map (fun (d : Nat) => MVal.int (d : Int))), .str (utf8 a.dtype), .bin a.data]).WF := by
    simp only [MVal.WF, WFList, List.length_cons, List.length_nil, List.length_map]
    exact ⟨by omega, ⟨h1, wf_dims a.shape h2⟩, h3, h4, trivial⟩
  simp only [ndFromBytes, ndToBytes, unpack_pack _ hwf, allSome_dims, asRaw, fromUtf8_utf8]

theorem extToLeaf_ndarray (a : NdArray) (h : a.packable) : extToLeaf 1 (ndToBytes a) = some (.ndarray a) := by
  simp [extToLeaf, ndFromBytes_ndToBytes a h]

theorem extToLeaf_complex (re im : Nat) (hr : re < 2 ^ 64) (hi : im < 2 ^ 64) :
    extToLeaf 2 (pack (.arr [.f64 re, .f64 im])) = some (.complex re im) := by
  have hwf : (MVal.arr [.f64 re, .f64 im]).WF := ⟨by simp, hr, hi, trivial⟩
  simp [extToLeaf, unpack_pack _ hwf]

theorem extToLeaf_npscalar (dtype : String) (data : Bytes)
    (h : NdArray.packable { dtype := dtype, shape := [], data := data }) :
    extToLeaf 3 (ndToBytes { dtype := dtype, shape := [], data := data }) = some (.npscalar dtype data) := by
  simp [extToLeaf, ndFromBytes_ndToBytes _ h]

theorem ofM_leafToM (v : Leaf) (h : v.packable) : ofM (leafToM v) = some (.leaf v) := by
  cases v with
  | str s => simp [leafToM, ofM, fromUtf8_utf8]
  | complex re im => simp [leafToM, ofM, extToLeaf_complex re im h.1 h.2]
  | ndarray a => simp [leafToM, ofM, extToLeaf_ndarray a h]
  | npscalar d b => simp [leafToM, ofM, extToLeaf_npscalar d b h]
  | _ => simp [leafToM, ofM]

theorem wf_leafToM (v : Leaf) (h : v.packable) : (leafToM v).WF := by
  cases v with
  | none | bool b => simp [leafToM, MVal.WF]
  | int i | float b | str s | bytes b => simpa [leafToM, MVal.WF, Leaf.packable] using h
  | complex re im =>
    simp only [leafToM, MVal.WF]
    refine ⟨by omega, ?_⟩
    simp [pack, packList, arrHdr, length_be]
  | ndarray a | npscalar d b =>
    simp only [Leaf.packable] at h
    simp only [leafToM, MVal.WF]
    exact ⟨by omega, h.2.2.2.2⟩

theorem length_toMKvs : ∀ (kvs : List (String × STree)), (toMKvs kvs).length = kvs.length
  | [] => rfl
  | (k, v) :: r => by simp [toMKvs, length_toMKvs r]

mutual
  theorem ofM_toM : ∀ (s : STree), s.packable → ofM (toM s) = some s ∧ (toM s).WF
    | .leaf v, h => by
      simp only [STree.packable] at h
      exact ⟨by simpa [toM] using ofM_leafToM v h, by simpa [toM] using wf_leafToM v h⟩
    | .dict kvs, h => by
      simp only [STree.packable] at h
      have := ofMKvs_toMKvs kvs h.2.2
      refine ⟨?_, ?_⟩
      · simp [toM, ofM, this.1, mkDict_nodup kvs h.2.1]
      · simp only [toM, MVal.WF, length_toMKvs]
        exact ⟨h.1, this.2⟩
  theorem ofMKvs_toMKvs : ∀ (kvs : List (String × STree)), packableKvs kvs →
      ofMKvs (toMKvs kvs) = some kvs ∧ WFPairs (toMKvs kvs)
    | [], _ => by simp [toMKvs, ofMKvs, WFPairs]
    | (k, v) :: r, h => by
      simp only [packableKvs] at h
      have h1 := ofM_toM v h.2.1
      have h2 := ofMKvs_toMKvs r h.2.2
      refine ⟨by simp [toMKvs, ofMKvs, fromUtf8_utf8, h1.1, h2.1], ?_⟩
      simp only [toMKvs, WFPairs, MVal.WF]
      exact ⟨h.1, h1.2, h2.2⟩
end

theorem restore_serialize (T : Nat) (isz : String → Nat) (s : STree)
    (hnm : s.noMarker = true) (hok : s.arraysOk isz) (hp : (chunkLeaves T isz s).packable) :
    msgpackRestore (msgpackSerialize T isz s) = .ok s := by
  have h1 := ofM_toM _ hp
  simp [msgpackRestore, msgpackSerialize, unpack_pack _ h1.2, h1.1, unchunk_chunk_tree T isz s hnm hok]

mutual
  /-- no dict key / field name of the pytree is the reserved key `__msgpack_chunked_array__` -/
  def Tree.noMarker : Tree → Bool
    | .leaf _ => true
    | .dict kvs => !decide (marker ∈ keys kvs) && tnmFields kvs
    | .fdict kvs => !decide (marker ∈ keys kvs) && tnmFields kvs
    | .list xs => tnmList xs
    | .tuple xs => tnmList xs
    | .named _ fs => !decide (marker ∈ keys fs) && tnmFields fs
    | .struct _ fs _ => !decide (marker ∈ keys fs) && tnmFields fs
  def tnmFields : List (String × Tree) → Bool
    | [] => true
    | (_, v) :: r => v.noMarker && tnmFields r
  def tnmList : List Tree → Bool
    | [] => true
    | x :: r => x.noMarker && tnmList r
end

mutual
  /-- every array leaf of the pytree satisfies NumPy's invariant -/
  def Tree.arraysOk (isz : String → Nat) : Tree → Prop
    | .leaf (.ndarray a) => a.ok isz
    | .leaf _ => True
    | .dict kvs => taokFields isz kvs
    | .fdict kvs => taokFields isz kvs
    | .list xs => taokList isz xs
    | .tuple xs => taokList isz xs
    | .named _ fs => taokFields isz fs
    | .struct _ fs _ => taokFields isz fs
  def taokFields (isz : String → Nat) : List (String × Tree) → Prop
    | [] => True
    | (_, v) :: r => v.arraysOk isz ∧ taokFields isz r
  def taokList (isz : String → Nat) : List Tree → Prop
    | [] => True
    | x :: r => x.arraysOk isz ∧ taokList isz r
end

theorem idx_ne_marker (i : Nat) : idx i ≠ marker := by
  intro h
  have h1 : (idx i).isNat = true := Nat.isNat_repr i
  rw [h] at h1
  have h2 := (String.isNat_iff.mp h1).2.2.2.1
  exact h2 (by simp [marker])

theorem marker_notin_toSDList (xs : List Tree) (i : Nat) : marker ∉ keys (toSDList i xs) := by
  intro hm
  rw [toSDList_eq] at hm
  obtain ⟨j, _, hk⟩ := mem_keys_enumL _ i _ hm
  exact idx_ne_marker _ hk.symm

mutual
  theorem noMarker_toStateDict : ∀ (t : Tree), t.noMarker = true → (toStateDict t).noMarker = true
    | .leaf v, _ => by simp [toStateDict, STree.noMarker]
    | .dict fs, h | .fdict fs, h | .named _ fs, h | .struct _ fs _, h => by
      simp only [Tree.noMarker, Bool.and_eq_true] at h
      simp [toStateDict, STree.noMarker, keys_toSDFields, h.1, noMarker_fields fs h.2]
    | .list xs, h | .tuple xs, h => by
      simp only [Tree.noMarker] at h
      simp [toStateDict, STree.noMarker, marker_notin_toSDList xs 0, noMarker_list xs 0 h]
  theorem noMarker_fields : ∀ (kvs : List (String × Tree)), tnmFields kvs = true → nmKvs (toSDFields kvs) = true
    | [], _ => by simp [toSDFields, nmKvs]
    | (k, v) :: r, h => by
      simp only [tnmFields, Bool.and_eq_true] at h
      simp [toSDFields, nmKvs, noMarker_toStateDict v h.1, noMarker_fields r h.2]
  theorem noMarker_list : ∀ (xs : List Tree) (i : Nat), tnmList xs = true → nmKvs (toSDList i xs) = true
    | [], _, _ => by simp [toSDList, nmKvs]
    | x :: r, i, h => by
      simp only [tnmList, Bool.and_eq_true] at h
      simp [toSDList, nmKvs, noMarker_toStateDict x h.1, noMarker_list r (i + 1) h.2]
end

mutual
  theorem arraysOk_toStateDict (isz : String → Nat) : ∀ (t : Tree), t.arraysOk isz → (toStateDict t).arraysOk isz
    | .leaf v, h => by
      cases v <;> simpa [toStateDict, STree.arraysOk, Tree.arraysOk] using h
    | .dict fs, h | .fdict fs, h | .named _ fs, h | .struct _ fs _, h => by
      simp only [Tree.arraysOk] at h
      simpa [toStateDict, STree.arraysOk] using arraysOk_fields isz fs h
    | .list xs, h | .tuple xs, h => by
      simp only [Tree.arraysOk] at h
      simpa [toStateDict, STree.arraysOk] using arraysOk_list isz xs 0 h
  theorem arraysOk_fields (isz : String → Nat) : ∀ (kvs : List (String × Tree)), taokFields isz kvs →
      aokKvs isz (toSDFields kvs)
    | [], _ => by simp [toSDFields, aokKvs]
    | (k, v) :: r, h => by
      simp only [taokFields] at h
      simp only [toSDFields, aokKvs]
      exact ⟨arraysOk_toStateDict isz v h.1, arraysOk_fields isz r h.2⟩
  theorem arraysOk_list (isz : String → Nat) : ∀ (xs : List Tree) (i : Nat), taokList isz xs →
      aokKvs isz (toSDList i xs)
    | [], _, _ => by simp [toSDList, aokKvs]
    | x :: r, i, h => by
      simp only [taokList] at h
      simp only [toSDList, aokKvs]
      exact ⟨arraysOk_toStateDict isz x h.1, arraysOk_list isz r (i + 1) h.2⟩
end

theorem fromBytes_of_unpack_none (t : Tree) {bs : Bytes} (h : unpack bs = none) : fromBytes t bs = .error .badBytes := by
  rw [fromBytes, msgpackRestore, h]

theorem fromBytes_toBytes (T : Nat) (isz : String → Nat) (saved target : Tree)
    (hnm : saved.noMarker = true) (hok : saved.arraysOk isz) (hp : (chunkLeaves T isz (toStateDict saved)).packable) :
    fromBytes target (toBytes T isz saved) = fromStateDict target (toStateDict saved) := by
  rw [fromBytes, toBytes, restore_serialize T isz (toStateDict saved) (noMarker_toStateDict saved hnm)
    (arraysOk_toStateDict isz saved hok) hp]

/-- the threshold used when saving is not observable, whether or not restoring succeeds -/
theorem fromBytes_threshold (T₁ T₂ : Nat) (isz : String → Nat) (saved target : Tree)
    (hnm : saved.noMarker = true) (hok : saved.arraysOk isz)
    (hp₁ : (chunkLeaves T₁ isz (toStateDict saved)).packable) (hp₂ : (chunkLeaves T₂ isz (toStateDict saved)).packable) :
    fromBytes target (toBytes T₁ isz saved) = fromBytes target (toBytes T₂ isz saved) := by
  rw [fromBytes_toBytes T₁ isz saved target hnm hok hp₁, fromBytes_toBytes T₂ isz saved target hnm hok hp₂]

end Flax.Serial
