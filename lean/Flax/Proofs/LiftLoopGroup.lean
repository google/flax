/- C06: grouping by filters (`group_collections`), `repack_fn`, inner mutability -/
import Flax.Model.LiftLoop
import Flax.Proofs.LiftLoopSpec
import Flax.Proofs.Filter

namespace Flax.LiftLoop
open Flax.Filter

theorem firstIdx_cons_zero (f : LFilter) (fs : List LFilter) (c : String) :
    (firstIdx (f :: fs) c = some 0) = (inFilter f c = true) := by
  simp only [firstIdx]
  by_cases h : inFilter f c = true
  · simp [h]
  · simp only [h]
    cases firstIdx fs c <;> simp

theorem firstIdx_cons_succ (f : LFilter) (fs : List LFilter) (c : String) (g : Nat) :
    (firstIdx (f :: fs) c = some (g + 1)) = (inFilter f c = false ∧ firstIdx fs c = some g) := by
  simp only [firstIdx]
  by_cases h : inFilter f c = true
  · simp [h]
  · simp only [h]
    cases firstIdx fs c <;> simp

theorem groupDict_eq {β : Type} : ∀ (fs : List LFilter) (d : List (String × β)),
    groupDict d fs = (List.range fs.length).map (roleGroup d fs) := by
  intro fs
  induction fs with
  | nil => intro d; rfl
  | cons f fs ih =>
    intro d
    simp only [groupDict, List.length_cons, List.range_succ_eq_map, List.map_cons, List.map_map]
    congr 1
    · simp only [roleGroup, firstIdx_cons_zero]
      apply List.filter_congr
      intro kv _
      cases inFilter f kv.1 <;> simp
    · rw [ih]
      apply List.map_congr_left
      intro g _
      simp only [Function.comp, roleGroup, List.filter_filter, firstIdx_cons_succ]
      apply List.filter_congr
      intro kv _
      cases inFilter f kv.1 <;> simp

theorem groupDict_length {β : Type} (fs : List LFilter) (d : List (String × β)) :
    (groupDict d fs).length = fs.length := by simp [groupDict_eq]

theorem groupDict_getD {β : Type} (fs : List LFilter) (d : List (String × β)) (g : Nat) (h : g < fs.length) :
    (groupDict d fs).getD g [] = roleGroup d fs g := by
  simp [groupDict_eq, List.getD_eq_getElem?_getD, h]

theorem firstIdx_eq_findIdx? (fs : List LFilter) (c : String) : firstIdx fs c = fs.findIdx? (inFilter · c) := by
  induction fs with
  | nil => rfl
  | cons f fs ih => rw [firstIdx, List.findIdx?_cons, ih]

theorem firstIdx_lt {fs : List LFilter} {c : String} {g : Nat} (h : firstIdx fs c = some g) : g < fs.length := by
  rw [firstIdx_eq_findIdx?] at h
  exact (List.findIdx?_eq_some_iff_getElem.1 h).1

theorem firstIdx_isSome_iff (fs : List LFilter) (c : String) :
    (firstIdx fs c).isSome = fs.any (fun f => inFilter f c) := by
  rw [firstIdx_eq_findIdx?, List.findIdx?_isSome]

theorem in_innerMutable (m : LFilter) (outFs : List LFilter) (c : String) :
    inFilter (innerMutable m outFs) c = (inFilter m c && outFs.any (fun f => inFilter f c)) := by
  simp only [innerMutable, Flax.Filter.inFilter_setOps.2.2, Flax.Filter.inFilter_foldl_union, inFilter]
  simp

theorem groupDict_append_last {β : Type} : ∀ (fs : List LFilter) (f : LFilter) (d : List (String × β)),
    groupDict d (fs ++ [f]) = groupDict d fs ++
      [(d.filter (fun kv => !(fs.any (fun g => inFilter g kv.1)))).filter (fun kv => inFilter f kv.1)] := by
  intro fs
  induction fs with
  | nil => intro f d; simp [groupDict]
  | cons g fs ih =>
    intro f d
    simp only [List.cons_append, groupDict, ih, List.any_cons, List.filter_filter]
    congr 3
    apply List.filter_congr
    intro kv _
    cases inFilter g kv.1 <;> simp

/-- `repack_fn` never finds unmapped collections in a scope built by `scope_fn` -/
theorem repack_eq {α : Type} (m : LFilter) (outFs : List LFilter) (vars' : Vars α) :
    repack (innerMutable m outFs) outFs vars' =
      .ok ((List.range outFs.length).map
        (roleGroup (vars'.filter (fun kv => inFilter (innerMutable m outFs) kv.1)) outFs)) := by
  simp only [repack, groupDict_append_last]
  have hempty : ((vars'.filter (fun kv => inFilter (innerMutable m outFs) kv.1)).filter
      (fun kv => !(outFs.any (fun g => inFilter g kv.1)))).filter (fun kv => inFilter .tt kv.1) = [] := by
    simp only [List.filter_filter, List.filter_eq_nil_iff]
    intro kv _
    simp only [in_innerMutable, inFilter]
    cases inFilter m kv.1 <;> cases outFs.any (fun g => inFilter g kv.1) <;> simp
  rw [hempty]
  simp [groupDict_eq]

end Flax.LiftLoop
