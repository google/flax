/-
C09, what the keys are: the reference semantics `specProg` of a module program, `nn.jit` included, with one counter per
(scope path, stream after fallback) and `keyAt` for the key.  `andThen` is how a draw, a child call or a jit-ted call is followed
by the rest of the method, `Follows` relates a run to a reference run, `specProg_ok_induction` is induction over successful runs.
-/
import Flax.Proofs.Rng
import Flax.Proofs.Except

namespace Flax.Rng

abbrev Path := List String
abbrev Counts := Path → String → Nat

/-- the stream (and its seed key) that answers a request for `s`: `s` itself if supplied, else the fallback -/
def effOf (cfg : Cfg) (seeds : List (String × SymKey)) (s : String) : Option (String × SymKey) :=
  match find? s seeds with
  | some k => some (s, k)
  | none =>
    match find? cfg.fallback seeds with
    | some k => some (cfg.fallback, k)
    | none => none

/-- the key at a position: seed key, scope path, 1-based call count -/
def keyAt (sep : Bool) (k : SymKey) (π : Path) (j : Nat) : SymKey :=
  .foldStatic k (encodeSuffix sep (suffixOf π j))

theorem keyAt_inj {sep : Bool} {k₁ k₂ : SymKey} {π₁ π₂ : Path} {j₁ j₂ : Nat} :
    keyAt sep k₁ π₁ j₁ = keyAt sep k₂ π₂ j₂ ↔
      k₁ = k₂ ∧ encodeSuffix sep (suffixOf π₁ j₁) = encodeSuffix sep (suffixOf π₂ j₂) := by
  simp only [keyAt, SymKey.foldStatic.injEq]

/-- the counts after one draw at (scope path `π`, stream `s`) -/
def bump (c : Counts) (π : Path) (s : String) : Counts :=
  fun π' t => if π' = π ∧ t = s then c π' t + 1 else c π' t

/-- the counts after `fork_rngs` at `π`: one draw from every stream of `ns` -/
def bumpAll (c : Counts) (π : Path) (ns : List String) : Counts :=
  fun π' t => if π' = π ∧ t ∈ ns then c π' t + 1 else c π' t

/-- the bases installed by `fork_rngs` -/
def forkBases (sep : Bool) (B : List (String × SymKey)) (rel π : Path) (c : Counts) : List (String × SymKey) :=
  B.map (fun nb => (nb.1, keyAt sep nb.2 rel (c π nb.1 + 1)))

/-- reference semantics of a module program, `nn.jit` included: `B` the base keys, `rel` the names pushed since they were
installed (folded into the key), `π` the whole scope path (addresses the counter).  Proofs read it through `specProg_draw`,
`_sub`, `_jit`, which put the sequencing as `andThen`. -/
def specProg (cfg : Cfg) : Prog → List (String × SymKey) → Path → Path → Counts → Except Err (List SymKey × Counts)
  | .done, _, _, _, c => .ok ([], c)
  | .draw s rest, B, rel, π, c =>
    match effOf cfg B s with
    | none => .error .invalidRng
    | some (s', k) =>
      match specProg cfg rest B rel π (bump c π s') with
      | .error e => .error e
      | .ok (ks, c') => .ok (keyAt cfg.sep k rel (c π s' + 1) :: ks, c')
  | .sub n body rest, B, rel, π, c =>
    match specProg cfg body B (rel ++ [n]) (π ++ [n]) c with
    | .error e => .error e
    | .ok (k1, c1) =>
      match specProg cfg rest B rel π c1 with
      | .error e => .error e
      | .ok (k2, c2) => .ok (k1 ++ k2, c2)
  | .jit body rest, B, rel, π, c =>
    match specProg cfg body (forkBases cfg.sep B rel π c) [] π (bumpAll c π (B.map (·.1))) with
    | .error e => .error e
    | .ok (k1, c1) =>
      match specProg cfg rest B rel π c1 with
      | .error e => .error e
      | .ok (k2, c2) => .ok (k1 ++ k2, c2)

def Prog.jitFree : Prog → Prop
  | .done => True
  | .draw _ rest => rest.jitFree
  | .sub _ body rest => body.jitFree ∧ rest.jitFree
  | .jit _ _ => False

/-- how `specProg` and `runProg` compose a draw, a child call or a jit-ted call with the rest of the method -/
def andThen {σ : Type} (x : Except Err (List SymKey × σ)) (f : σ → Except Err (List SymKey × σ)) :
    Except Err (List SymKey × σ) := do
  let (k1, a) ← x
  let (k2, a') ← f a
  .ok (k1 ++ k2, a')

theorem andThen_ok {σ : Type} (k1 : List SymKey) (a : σ) (f : σ → Except Err (List SymKey × σ)) :
    andThen (.ok (k1, a)) f = (f a).map (fun r => (k1 ++ r.1, r.2)) := by
  cases h : f a <;> simp only [andThen, bind, Except.bind, h, Except.map]

theorem andThen_eq_ok {σ : Type} {x : Except Err (List SymKey × σ)} {f : σ → Except Err (List SymKey × σ)} {ks : List SymKey}
    {a' : σ} (h : andThen x f = .ok (ks, a')) : ∃ k1 a k2, x = .ok (k1, a) ∧ f a = .ok (k2, a') ∧ ks = k1 ++ k2 := by
  obtain ⟨⟨k1, a⟩, hx, h⟩ := bind_ok.mp h
  obtain ⟨⟨k2, a2⟩, hf, h⟩ := bind_ok.mp h
  cases h
  exact ⟨k1, a, k2, hx, hf, rfl⟩

theorem match_eq_andThen (x : Except Err (List SymKey × Counts)) (f : Counts → Except Err (List SymKey × Counts)) :
    (match x with
     | .error e => .error e
     | .ok (k1, c1) =>
       match f c1 with
       | .error e => .error e
       | .ok (k2, c2) => .ok (k1 ++ k2, c2)) = andThen x f := by
  cases x with
  | error e => rfl
  | ok r =>
    obtain ⟨k1, c1⟩ := r
    rw [andThen_ok]
    cases h : f c1 <;> simp only [h, Except.map]

theorem specProg_draw (cfg : Cfg) (s : String) (rest : Prog) (B : List (String × SymKey)) (rel π : Path) (c : Counts) :
    specProg cfg (.draw s rest) B rel π c =
      match effOf cfg B s with
      | none => .error .invalidRng
      | some (s', k) => andThen (.ok ([keyAt cfg.sep k rel (c π s' + 1)], bump c π s')) (specProg cfg rest B rel π) := by
  rw [specProg]
  cases effOf cfg B s with
  | none => rfl
  | some sk => exact match_eq_andThen (.ok ([keyAt cfg.sep sk.2 rel (c π sk.1 + 1)], bump c π sk.1)) _

theorem specProg_sub (cfg : Cfg) (n : String) (body rest : Prog) (B : List (String × SymKey)) (rel π : Path) (c : Counts) :
    specProg cfg (.sub n body rest) B rel π c =
      andThen (specProg cfg body B (rel ++ [n]) (π ++ [n]) c) (specProg cfg rest B rel π) := by
  rw [specProg]; exact match_eq_andThen _ _

theorem specProg_jit (cfg : Cfg) (body rest : Prog) (B : List (String × SymKey)) (rel π : Path) (c : Counts) :
    specProg cfg (.jit body rest) B rel π c =
      andThen (specProg cfg body (forkBases cfg.sep B rel π c) [] π (bumpAll c π (B.map (·.1)))) (specProg cfg rest B rel π) := by
  rw [specProg]; exact match_eq_andThen _ _

/-- the run `r` follows the reference run (second argument): the same error, or the same keys and a final state that `Q` relates to
the reference's; `Q` takes the reference state first -/
def Follows {σ τ : Type} (Q : σ → τ → Prop) (r : Except Err (List SymKey × τ)) : Except Err (List SymKey × σ) → Prop
  | .error e => r = .error e
  | .ok (ks, a) => ∃ b, r = .ok (ks, b) ∧ Q a b

theorem Follows.imp {σ τ : Type} {Q Q' : σ → τ → Prop} {r : Except Err (List SymKey × τ)} {s : Except Err (List SymKey × σ)}
    (h : Follows Q r s) (hq : ∀ a b, Q a b → Q' a b) : Follows Q' r s := by
  cases s with
  | error e => exact h
  | ok x =>
    obtain ⟨b, hr, hb⟩ := h
    exact ⟨b, hr, hq _ b hb⟩

theorem Follows.elim {σ τ : Type} {Q : σ → τ → Prop} {r : Except Err (List SymKey × τ)} {s : Except Err (List SymKey × σ)}
    (h : Follows Q r s) :
    (∀ e, s = .error e → r = .error e) ∧ (∀ ks a, s = .ok (ks, a) → ∃ b, r = .ok (ks, b) ∧ Q a b) :=
  ⟨fun e hs => by rw [hs] at h; exact h, fun ks a hs => by rw [hs] at h; exact h⟩

theorem Follows.of_error {σ τ : Type} {Q : σ → τ → Prop} {r : Except Err (List SymKey × τ)} {s : Except Err (List SymKey × σ)}
    (h : Follows Q r s) {e : Err} (hr : r = .error e) : s = .error e := by
  cases s with
  | error e' => rw [show r = .error e' from h] at hr; rw [Except.error.inj hr]
  | ok x => obtain ⟨b, hb, _⟩ := h; rw [hb] at hr; cases hr

theorem Follows.of_ok {σ τ : Type} {Q : σ → τ → Prop} {r : Except Err (List SymKey × τ)} {s : Except Err (List SymKey × σ)}
    (h : Follows Q r s) {ks : List SymKey} {b : τ} (hr : r = .ok (ks, b)) : ∃ a, s = .ok (ks, a) ∧ Q a b := by
  cases s with
  | error e => rw [show r = .error e from h] at hr; cases hr
  | ok x =>
    obtain ⟨b', hb, hq⟩ := h
    rw [hb] at hr
    cases hr
    exact ⟨x.2, rfl, hq⟩

theorem Follows.andThen {σ τ : Type} {Q1 Q2 : σ → τ → Prop} {rb : Except Err (List SymKey × τ)}
    {sb : Except Err (List SymKey × σ)} {rr : τ → Except Err (List SymKey × τ)} {sr : σ → Except Err (List SymKey × σ)}
    (hb : Follows Q1 rb sb) (hr : ∀ a b, Q1 a b → Follows Q2 (rr b) (sr a)) :
    Follows Q2 (andThen rb rr) (andThen sb sr) := by
  cases sb with
  | error e => rw [show rb = .error e from hb]; exact (rfl : Except.error e = _)
  | ok x =>
    obtain ⟨k1, a⟩ := x
    obtain ⟨b, hrb, hq⟩ := hb
    have h := hr a b hq
    rw [hrb, andThen_ok, andThen_ok]
    cases hs : sr a with
    | error e => rw [hs] at h; rw [show rr b = .error e from h]; exact (rfl : Except.error e = _)
    | ok y =>
      rw [hs] at h
      obtain ⟨b2, hrr, hq2⟩ := h
      rw [hrr]
      exact ⟨b2, rfl, hq2⟩

theorem effOf_find (cfg : Cfg) (seeds : List (String × SymKey)) (s s' : String) (k : SymKey)
    (h : effOf cfg seeds s = some (s', k)) : find? s' seeds = some k := by
  unfold effOf at h
  split at h
  · cases h; assumption
  · split at h
    · cases h; assumption
    · cases h

theorem effOf_self (cfg : Cfg) (B : List (String × SymKey)) (n : String) (b : SymKey) (h : find? n B = some b) :
    effOf cfg B n = some (n, b) := by
  simp only [effOf, h]

/-- `make_rng`'s and `Rngs._get_stream`'s choice of stream (the name itself, else the fallback, else the error `E`), over any
table `X` that holds the streams of `seeds` -/
theorem resolve_effOf {ν : Type} (cfg : Cfg) (seeds : List (String × SymKey)) (X : List (String × ν)) (E : Err)
    (hX : ∀ n, (find? n X).isSome = (find? n seeds).isSome) (s : String) :
    (if (find? s X).isSome then Except.ok s else if (find? cfg.fallback X).isSome then .ok cfg.fallback else .error E) =
      match effOf cfg seeds s with
      | some (s', _) => .ok s'
      | none => .error E := by
  rw [hX s, hX cfg.fallback, effOf]
  cases find? s seeds <;> cases find? cfg.fallback seeds <;> rfl

theorem find?_forkBases (sep : Bool) (B : List (String × SymKey)) (rel π : Path) (c : Counts) (s : String) :
    find? s (forkBases sep B rel π c) = (find? s B).map (fun b => keyAt sep b rel (c π s + 1)) :=
  find?_map_key (fun n b => keyAt sep b rel (c π n + 1)) s B

theorem effOf_forkBases (cfg : Cfg) (B : List (String × SymKey)) (rel π : Path) (c : Counts) (s : String) :
    effOf cfg (forkBases cfg.sep B rel π c) s =
      (effOf cfg B s).map (fun sk => (sk.1, keyAt cfg.sep sk.2 rel (c π sk.1 + 1))) := by
  simp only [effOf, find?_forkBases]
  cases find? s B <;> cases find? cfg.fallback B <;> rfl

theorem forkBases_names (sep : Bool) (B : List (String × SymKey)) (rel π : Path) (c : Counts) :
    (forkBases sep B rel π c).map (·.1) = B.map (·.1) := by
  simp [forkBases, List.map_map, Function.comp_def]

theorem forkBases_isSome (sep : Bool) (B : List (String × SymKey)) (rel π : Path) (c : Counts) (s : String) :
    (find? s B).isSome = (find? s (forkBases sep B rel π c)).isSome := by
  rw [find?_forkBases]
  cases find? s B <;> rfl

/-- the test reads `drawn = asked`, as the filters of `countPos` and `cntR` have it -/
theorem bump_apply (c : Counts) (π0 : Path) (s0 : String) (π : Path) (s : String) :
    bump c π0 s0 π s = c π s + if π0 = π ∧ s0 = s then 1 else 0 := by
  simp only [bump]
  by_cases hp : π = π0 ∧ s = s0
  · obtain ⟨rfl, rfl⟩ := hp; simp
  · have : ¬ (π0 = π ∧ s0 = s) := fun hh => hp ⟨hh.1.symm, hh.2.symm⟩
    simp [hp, this]

theorem bumpAll_nil (c : Counts) (π : Path) : bumpAll c π [] = c := by
  funext π' t; simp [bumpAll]

theorem bumpAll_cons (c : Counts) (π : Path) (n : String) (ns : List String) (hn : n ∉ ns) :
    bumpAll c π (n :: ns) = bumpAll (bump c π n) π ns := by
  funext π' t
  simp only [bumpAll, bump, List.mem_cons]
  by_cases hp : π' = π
  · by_cases ht : t = n
    · subst ht; simp [hp, hn]
    · simp [hp, ht]
  · simp [hp]

theorem specProg_ok_induction (cfg : Cfg)
    {motive : Prog → List (String × SymKey) → Path → Path → Counts → List SymKey → Counts → Prop}
    (done : ∀ B rel π c, motive .done B rel π c [] c)
    (draw : ∀ s rest B rel π c s' k ks c', effOf cfg B s = some (s', k) →
      specProg cfg rest B rel π (bump c π s') = .ok (ks, c') → motive rest B rel π (bump c π s') ks c' →
      motive (.draw s rest) B rel π c (keyAt cfg.sep k rel (c π s' + 1) :: ks) c')
    (sub : ∀ n body rest B rel π c k1 c1 k2 c2, specProg cfg body B (rel ++ [n]) (π ++ [n]) c = .ok (k1, c1) →
      specProg cfg rest B rel π c1 = .ok (k2, c2) → motive body B (rel ++ [n]) (π ++ [n]) c k1 c1 →
      motive rest B rel π c1 k2 c2 → motive (.sub n body rest) B rel π c (k1 ++ k2) c2)
    (jit : ∀ body rest B rel π c k1 c1 k2 c2,
      specProg cfg body (forkBases cfg.sep B rel π c) [] π (bumpAll c π (B.map (·.1))) = .ok (k1, c1) →
      specProg cfg rest B rel π c1 = .ok (k2, c2) →
      motive body (forkBases cfg.sep B rel π c) [] π (bumpAll c π (B.map (·.1))) k1 c1 →
      motive rest B rel π c1 k2 c2 → motive (.jit body rest) B rel π c (k1 ++ k2) c2) :
    ∀ p B rel π c ks c', specProg cfg p B rel π c = .ok (ks, c') → motive p B rel π c ks c' := by
  intro p
  induction p with
  | done =>
    intro B rel π c ks c' h
    cases h
    exact done B rel π c
  | draw s rest ih =>
    intro B rel π c ks c' h
    rw [specProg_draw] at h
    cases he : effOf cfg B s with
    | none => rw [he] at h; cases h
    | some sk =>
      obtain ⟨s', k⟩ := sk
      rw [he] at h
      obtain ⟨_, _, ks1, h1, hr, rfl⟩ := andThen_eq_ok h
      cases h1
      exact draw s rest B rel π c s' k ks1 c' he hr (ih _ _ _ _ _ _ hr)
  | sub n body rest ihb ihr =>
    intro B rel π c ks c' h
    rw [specProg_sub] at h
    obtain ⟨k1, c1, k2, hb, hr, rfl⟩ := andThen_eq_ok h
    exact sub n body rest B rel π c k1 c1 k2 c' hb hr (ihb _ _ _ _ _ _ hb) (ihr _ _ _ _ _ _ hr)
  | jit body rest ihb ihr =>
    intro B rel π c ks c' h
    rw [specProg_jit] at h
    obtain ⟨k1, c1, k2, hb, hr, rfl⟩ := andThen_eq_ok h
    exact jit body rest B rel π c k1 c1 k2 c' hb hr (ihb _ _ _ _ _ _ hb) (ihr _ _ _ _ _ _ hr)

end Flax.Rng
