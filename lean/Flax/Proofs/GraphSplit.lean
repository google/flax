/- First-match buckets are a partition; merging sorts any permutation back; what a successful `split`, `state` or
`splitExhaustive` returned. -/
import Flax.Proofs.GraphFlatten
import Flax.Proofs.Filter
import Flax.Proofs.ListLemmas
namespace Flax.Graph
open Flax.Heap
open Flax.Filter (NFilter firstMatch)

theorem bucketOf_le (preds : List NFilter) (it : Path × Leaf) : bucketOf preds it ≤ preds.length :=
  Flax.Filter.firstMatch_le_length preds _ _

theorem splitFlat_perm (preds : List NFilter) (fs : FlatState) : (splitFlat preds fs).flatten.Perm fs := by
  have := Lists.buckets_perm (bucketOf preds) fs (preds.length + 1)
  have hall : fs.filter (fun x => decide (bucketOf preds x < preds.length + 1)) = fs := by
    apply List.filter_eq_self.mpr
    intro x _; have := bucketOf_le preds x; simp; omega
  rw [hall, List.flatMap_def] at this
  exact this

theorem mem_splitFlat (preds : List NFilter) (fs : FlatState) (i : Nat) (it : Path × Leaf) :
    it ∈ (splitFlat preds fs).getD i [] ↔ (it ∈ fs ∧ bucketOf preds it = i) := by
  have hle := bucketOf_le preds it
  simp only [splitFlat]
  by_cases hi : i < preds.length + 1
  · rw [List.getD_eq_getElem?_getD, List.getElem?_map, List.getElem?_range hi]
    simp [List.mem_filter]
  · rw [List.getD_eq_getElem?_getD, List.getElem?_eq_none (by simp; omega)]
    simp; intro _; omega

theorem take_flatten_of_last_empty (preds : List NFilter) (fs : FlatState)
    (hlast : (fs.filter (fun it => bucketOf preds it == preds.length)) = []) :
    ((splitFlat preds fs).take preds.length).flatten.Perm fs := by
  have hp := splitFlat_perm preds fs
  have hsplit : splitFlat preds fs = (splitFlat preds fs).take preds.length ++ [fs.filter (fun it => bucketOf preds it == preds.length)] := by
    simp only [splitFlat, List.range_succ, List.map_append, List.map_cons, List.map_nil]
    rw [List.take_left' (by simp)]
  rw [hsplit, hlast] at hp
  simpa using hp

theorem hasAdjDup_of_ssorted : ∀ (l : FlatState), SSorted Path.lt l → hasAdjDup l = false
  | [], _ => rfl
  | [_], _ => rfl
  | (p, _) :: (q, l) :: rest, hs => by
    have hs' := List.pairwise_cons.mp hs
    have hpq : Path.lt p q = true := hs'.1 (q, l) (by simp)
    have hne : p ≠ q := Path.strictTotal.ne hpq
    simp only [hasAdjDup, hne, decide_false, Bool.false_or]
    exact hasAdjDup_of_ssorted ((q, l) :: rest) hs'.2

theorem mergeFlat_of_perm {states : List FlatState} {ls : FlatState} (hp : states.flatten.Perm ls)
    (hs : SSorted Path.lt ls) : mergeFlat states = .ok (ls.map (·.2)) := by
  have : sortPaths states.flatten = ls := sortBy_of_perm Path.strictTotal hp hs
  simp [mergeFlat, this, hasAdjDup_of_ssorted ls hs]

theorem splitExhaustive_ok {preds : List NFilter} {fs : FlatState} {states : List FlatState}
    (h : splitExhaustive preds fs = .ok states) :
    fs.filter (fun it => bucketOf preds it == preds.length) = [] ∧ states = (splitFlat preds fs).take preds.length := by
  unfold splitExhaustive at h
  split at h
  · cases h
  · split at h
    · next hempty => cases h; exact ⟨List.isEmpty_iff.mp hempty, rfl⟩
    · cases h

theorem split_ok {h : Heap} {root : PVal} {filters : List NFilter} {gd : GDef} {states : List FlatState}
    (hs : split h root filters = .ok (gd, states)) :
    ∃ ls idx, flatten h root = .ok (gd, ls, idx) ∧
      ((filters = [] ∧ states = [ls]) ∨ (filters ≠ [] ∧ splitExhaustive filters ls = .ok states)) := by
  unfold split at hs
  split at hs
  · cases hs
  · next gd' ls idx hf =>
    cases filters with
    | nil => cases hs; exact ⟨ls, idx, hf, Or.inl ⟨rfl, rfl⟩⟩
    | cons f fs =>
      simp only at hs
      split at hs
      · cases hs
      · next states' hse => cases hs; exact ⟨ls, idx, hf, Or.inr ⟨List.cons_ne_nil _ _, hse⟩⟩

theorem state_ok {h : Heap} {root : PVal} {filters : List NFilter} {sts : List FlatState}
    (hs : state h root filters = .ok sts) :
    ∃ gd ls idx, flatten h root = .ok (gd, ls, idx) ∧
      ((filters = [] ∧ sts = [ls]) ∨ (filters ≠ [] ∧ sts = (splitFlat filters ls).take filters.length)) := by
  unfold state at hs
  split at hs
  · cases hs
  · next gd ls idx hf =>
    split at hs
    · cases hs
    · cases filters with
      | nil => cases hs; exact ⟨gd, ls, idx, hf, Or.inl ⟨rfl, rfl⟩⟩
      | cons f fs =>
        simp only at hs
        split at hs
        · cases hs
        · cases hs; exact ⟨gd, ls, idx, hf, Or.inr ⟨List.cons_ne_nil _ _, rfl⟩⟩

theorem state_nil_ok {h : Heap} {root : PVal} {fs : FlatState} (hs : state h root [] = .ok [fs]) :
    ∃ gd idx, flatten h root = .ok (gd, fs, idx) := by
  obtain ⟨gd, ls, idx, hf, ⟨_, e⟩ | ⟨hne, _⟩⟩ := state_ok hs
  · cases e; exact ⟨gd, idx, hf⟩
  · exact absurd rfl hne

theorem length_take_splitFlat (preds : List NFilter) (fs : FlatState) :
    ((splitFlat preds fs).take preds.length).length = preds.length := by
  simp [splitFlat]

theorem getD_take_splitFlat (preds : List NFilter) (fs : FlatState) {i : Nat} (hi : i < preds.length) :
    ((splitFlat preds fs).take preds.length).getD i [] = fs.filter (fun it => bucketOf preds it == i) := by
  simp [List.getD_eq_getElem?_getD, splitFlat, hi]

end Flax.Graph
