/-
Insertion sort, once. The models each carry their own insertion function (by key, by a Boolean order, into a list of
numbers, of pairs, of paths); all of them walk down the list and put the new element in front of the first one at
which a test `stop` succeeds. `IsInsert stop ins` says just that, and is proved for a model function by unfolding
it; everything an area needs about its sort (`foldr ins []`) follows from the three equations.
-/
namespace Flax
universe u v

structure IsInsert {α : Type u} (stop : α → α → Prop) (ins : α → List α → List α) : Prop where
  nil : ∀ a, ins a [] = [a]
  here : ∀ {a b} l, stop a b → ins a (b :: l) = a :: b :: l
  next : ∀ {a b} l, ¬ stop a b → ins a (b :: l) = b :: ins a l

namespace IsInsert
variable {α : Type u} {stop : α → α → Prop} {ins : α → List α → List α}

section
variable (h : IsInsert stop ins)
include h

theorem perm (a : α) (l : List α) : (ins a l).Perm (a :: l) := by
  induction l with
  | nil => rw [h.nil]
  | cons b l ih =>
    by_cases hs : stop a b
    · rw [h.here l hs]
    · rw [h.next l hs]; exact (ih.cons b).trans (.swap a b l)

theorem mem {a x : α} {l : List α} : x ∈ ins a l ↔ x = a ∨ x ∈ l :=
  (h.perm a l).mem_iff.trans List.mem_cons

theorem sort_perm (l : List α) : (l.foldr ins []).Perm l := by
  induction l with
  | nil => exact .refl _
  | cons a l ih => exact (h.perm a _).trans (ih.cons a)

theorem mem_sort {x : α} {l : List α} : x ∈ l.foldr ins [] ↔ x ∈ l := (h.sort_perm l).mem_iff

theorem of_head {a : α} {l : List α} (hl : ∀ b ∈ l.head?, stop a b) : ins a l = a :: l := by
  cases l with
  | nil => exact h.nil a
  | cons b l => exact h.here l (hl b rfl)

theorem sort_of_pairwise {l : List α} (hl : l.Pairwise stop) : l.foldr ins [] = l := by
  induction l with
  | nil => rfl
  | cons a l ih =>
    have hl := List.pairwise_cons.mp hl
    rw [List.foldr_cons, ih hl.2]
    exact h.of_head fun b hb => hl.1 b (List.mem_of_mem_head? hb)

/-! The result is sorted in any transitive order `R` that holds where the test succeeds and, the other way round,
where it fails: the order itself when `stop` is `· ≤ ·`, its non-strict part when the model tests `· < ·` (which is
what makes an insertion stable). -/
section
variable {R : α → α → Prop} (hs : ∀ {a b}, stop a b → R a b) (hn : ∀ {a b}, ¬ stop a b → R b a)
  (tr : ∀ {a b c}, R a b → R b c → R a c)
include hs hn tr

theorem pairwise (a : α) {l : List α} (hl : l.Pairwise R) : (ins a l).Pairwise R := by
  induction l with
  | nil => rw [h.nil]; exact List.pairwise_singleton _ _
  | cons b l ih =>
    have hb := List.pairwise_cons.mp hl
    by_cases hab : stop a b
    · rw [h.here l hab]
      exact List.pairwise_cons.mpr
        ⟨fun x hx => (List.mem_cons.mp hx).elim (· ▸ hs hab) fun hx => tr (hs hab) (hb.1 x hx), hl⟩
    · rw [h.next l hab]
      exact List.pairwise_cons.mpr ⟨fun x hx => (h.mem.mp hx).elim (· ▸ hn hab) (hb.1 x), ih hb.2⟩

theorem sort_pairwise (l : List α) : (l.foldr ins []).Pairwise R := by
  induction l with
  | nil => exact .nil
  | cons a l ih => exact h.pairwise hs hn tr a ih

/-- the sorted arrangement is unique where `R` is antisymmetric: the sort forgets the order of its input -/
theorem sort_eq_of_perm {l₁ l₂ : List α} (hp : l₁.Perm l₂)
    (anti : ∀ a ∈ l₁, ∀ b ∈ l₁, R a b → R b a → a = b) : l₁.foldr ins [] = l₂.foldr ins [] :=
  List.Perm.eq_of_pairwise
    (fun a b ha hb => anti a (h.mem_sort.mp ha) b (hp.mem_iff.mpr (h.mem_sort.mp hb)))
    (h.sort_pairwise hs hn tr l₁) (h.sort_pairwise hs hn tr l₂)
    (((h.sort_perm l₁).trans hp).trans (h.sort_perm l₂).symm)

end

theorem sort_idem (tot : ∀ a b, stop a b ∨ stop b a) (tr : ∀ {a b c}, stop a b → stop b c → stop a c)
    (l : List α) : (l.foldr ins []).foldr ins [] = l.foldr ins [] :=
  h.sort_of_pairwise (h.sort_pairwise id (fun hab => (tot _ _).resolve_left hab) tr l)

end

theorem map {β : Type v} {stop' : β → β → Prop} {ins' : β → List β → List β} (h : IsInsert stop ins)
    (h' : IsInsert stop' ins') (f : α → β) (a : α) (l : List α) (hf : ∀ b ∈ l, stop' (f a) (f b) ↔ stop a b) :
    (ins a l).map f = ins' (f a) (l.map f) := by
  induction l with
  | nil => rw [h.nil, List.map_nil, h'.nil]; rfl
  | cons b l ih =>
    have ih := ih fun c hc => hf c (List.mem_cons_of_mem _ hc)
    by_cases hs : stop a b
    · rw [h.here l hs]; exact (h'.here _ ((hf b List.mem_cons_self).mpr hs)).symm
    · rw [h.next l hs]; exact (congrArg (f b :: ·) ih).trans (h'.next _ (mt (hf b List.mem_cons_self).mp hs)).symm

theorem sort_map {β : Type v} {stop' : β → β → Prop} {ins' : β → List β → List β} (h : IsInsert stop ins)
    (h' : IsInsert stop' ins') (f : α → β) (l : List α) (hf : ∀ a ∈ l, ∀ b ∈ l, stop' (f a) (f b) ↔ stop a b) :
    (l.foldr ins []).map f = (l.map f).foldr ins' [] := by
  induction l with
  | nil => rfl
  | cons a l ih =>
    rw [List.foldr_cons, List.map_cons, List.foldr_cons,
      ← ih fun b hb c hc => hf b (List.mem_cons_of_mem _ hb) c (List.mem_cons_of_mem _ hc)]
    exact map h h' f a _ fun b hb => hf a List.mem_cons_self b (List.mem_cons_of_mem _ (h.mem_sort.mp hb))

end IsInsert

end Flax
