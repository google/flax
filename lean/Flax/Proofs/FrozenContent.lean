/-
"Same contents" on the heap of the FrozenDict model: `Copy`, by the canonical form of `Proofs/FrozenTree.lean`.  Every
walk of the model, `mkFrozen`, `wrapVal` and `dictOf` return copies (`…_content`); then, call by call, what the API hands back, under
every tag and with every fuel: its argument's contents (`step_copy`), an entry's, the merged entries (`step_…_copy`).
-/
import Flax.Proofs.FrozenAbs
import Flax.Proofs.FrozenTree

namespace Flax.C15
open Flax.Frozen

/-- entries related one by one have related abstract values -/
theorem absKvs_canon_rel {α : Type} {r : α → Val → Prop} {f : α → Option Tree} {g : Val → Option Tree}
    {kvs : List (Key × α)} {kvs' : List (Key × Val)} (hr : KvRel r kvs kvs')
    (hfg : ∀ a v, r a v → ∀ t, f a = some t → ∃ t', g v = some t' ∧ canon t' = canon t)
    {ts : List (Key × Tree)} (h : KvRel (fun a t => f a = some t) kvs ts) :
    ∃ ts', absKvs g kvs' = some ts' ∧ canonKvs ts' = canonKvs ts := by
  induction hr generalizing ts with
  | nil => cases h; exact ⟨[], rfl, rfl⟩
  | cons hab _ ih =>
    cases h with
    | cons hv hrest =>
      obtain ⟨t', hv', hc⟩ := hfg _ _ hab _ hv
      obtain ⟨ts', hr', hc'⟩ := ih hrest
      exact ⟨_ :: ts', absKvs_iff.mpr (.cons hv' (absKvs_iff.mp hr')), by simp only [canonKvs, hc, hc']⟩

theorem absKvs_canon {f g : Val → Option Tree} {kvs : List (Key × Val)} {ts : List (Key × Tree)}
    (hfg : ∀ p ∈ kvs, ∀ t, f p.2 = some t → ∃ t', g p.2 = some t' ∧ canon t' = canon t)
    (h : absKvs f kvs = some ts) : ∃ ts', absKvs g kvs = some ts' ∧ canonKvs ts' = canonKvs ts :=
  absKvs_canon_rel (r := fun a v => v = a ∧ ∀ t, f a = some t → ∃ t', g a = some t' ∧ canon t' = canon t)
    ((KvRel.refl kvs).imp fun p hp _ e => ⟨e, hfg p hp⟩) (fun _ _ ⟨e, h⟩ => e ▸ h) (absKvs_iff.mp h)

theorem abs_retag (h : Heap) (k : Nat) (fz fz' : Bool) (v : Val) (t : Tree)
    (ha : absVal fz k h v = some t) : ∃ t', absVal fz' k h v = some t' ∧ canon t' = canon t := by
  refine absVal_some_induction
    (motive := fun _ k v t => ∀ fz', ∃ t', absVal fz' k h v = some t' ∧ canon t' = canon t) ?_ ?_ ?_ ha fz'
  · intro _ k l fz'
    exact ⟨.leaf l, absVal_leaf .., rfl⟩
  · intro fz k a o kvs ts hg hts ih fz'
    obtain ⟨ts', h2, hc⟩ := absKvs_canon (g := absVal fz' k h) (fun p hp t ht => ih p hp t ht fz') hts
    exact ⟨.node fz' ts', by rw [absVal_dict hg, h2]; rfl, by rw [canon_node, canon_node, hc]⟩
  · intro fz k a i o kvs ts hg hi hts _ fz'
    exact ⟨.node true ts, by rw [absVal_frozen hg hi, hts]; rfl, rfl⟩

/-- `v'` in `h'` has the contents of `v` in `h`: whenever `v` denotes a value, under any tag and fuel, `v'` denotes
one with the same fuel, under any tag, with the same canonical form -/
def Copy (h : Heap) (v : Val) (h' : Heap) (v' : Val) : Prop :=
  ∀ (fz fz' : Bool) (k : Nat) (t : Tree), absVal fz k h v = some t →
    ∃ t', absVal fz' k h' v' = some t' ∧ canon t' = canon t

/-- `Copy` for the entry lists of a node, entry by entry -/
def CopyKvs (h : Heap) (kvs : List (Key × Val)) (h' : Heap) (kvs' : List (Key × Val)) : Prop :=
  ∀ (fz fz' : Bool) (k : Nat) (ts : List (Key × Tree)), absKvs (absVal fz k h) kvs = some ts →
    ∃ ts', absKvs (absVal fz' k h') kvs' = some ts' ∧ canonKvs ts' = canonKvs ts

theorem Copy.stable {h0 h h1 h2 : Heap} {v v1 : Val} (e0 : h0 <+: h) (e2 : h1 <+: h2) (c : Copy h v h1 v1) :
    Copy h0 v h2 v1 := fun fz fz' k t ha =>
  let ⟨t', ht', hc⟩ := c fz fz' k t (absVal_ext e0 k fz v t ha)
  ⟨t', absVal_ext e2 k fz' v1 t' ht', hc⟩

theorem mapKvs_content {f : Heap → Val → Except Err (Heap × Val)}
    (f_ext : ∀ {h v h' v'}, f h v = .ok (h', v') → h <+: h')
    (hf : ∀ {h v h1 v1}, f h v = .ok (h1, v1) → Copy h v h1 v1)
    {kvs kvs' : List (Key × Val)} {h h2 : Heap} (hm : mapKvs f h kvs = .ok (h2, kvs')) :
    CopyKvs h kvs h2 kvs' := fun fz fz' k ts ha =>
  absKvs_canon_rel (mapKvs_rel f_ext (I := fun _ => True) (Pin := fun _ _ => True) (R := Copy) (fun _ _ _ => trivial)
      (fun e0 e2 c => c.stable e0 e2) (fun _ _ hv => ⟨trivial, hf hv⟩) hm trivial fun _ _ => trivial).2
    (fun _ _ c t => c fz fz' k t) (absKvs_iff.mp ha)

theorem deep_content {n : Nat} {m : Mode} {own : Bool} {h h' : Heap} {v v' : Val}
    (hd : deep m own n h v = .ok (h', v')) : Copy h v h' v' := by
  refine deep_ok_induction (motive := fun _ _ h v h' v' => Copy h v h' v') ?_ ?_ ?_ ?_ ?_ hd
  · intro m own h l fz fz' k t ha
    exact abs_retag _ k fz fz' _ t ha
  · intro m own n h a o kvs h1 kvs' hget hmap ih fz fz' k t ha
    obtain ⟨k, ts, rfl, hts, rfl⟩ := absVal_dict_inv hget ha
    have hsrc : absKvs (absVal fz k h) (if m = .tree then sortKvs kvs else kvs)
        = some (if m = .tree then sortKvs ts else ts) := by
      split
      · exact absKvs_sort hts
      · exact hts
    obtain ⟨ts', h2, hc⟩ := mapKvs_content deep_prefix ih hmap fz fz' k _ hsrc
    refine ⟨.node fz' ts', absVal_new_dict h2, ?_⟩
    rw [canon_node, canon_node, hc]
    -- a tree walk sorts the entries: the canonical form sorts anyway
    split
    · rw [canonKvs_sort, sortKvs_idem]
    · rfl
  · intro own h a i hget fz fz' k t ha
    obtain ⟨k0, _, _, ts, rfl, rfl, _, hinner⟩ := absVal_frozen_inner hget ha
    exact abs_retag _ (k0 + 1) true fz' _ _ hinner
  · intro own n h a i h' v' hget _ ih fz fz' k t ha
    obtain ⟨k0, _, _, ts, rfl, rfl, _, hinner⟩ := absVal_frozen_inner hget ha
    exact ih true fz' (k0 + 1) _ hinner
  · intro own n h a i h1 j hget hr ih fz fz' k t ha
    obtain ⟨k0, oi, kvsi, ts, rfl, rfl, hi, hinner⟩ := absVal_frozen_inner hget ha
    obtain ⟨t1, ht1, hc1⟩ := ih true true (k0 + 1) _ hinner
    obtain ⟨j', kvsj, hj1, hj2⟩ := deep_of_dict hi hr
    cases hj1
    rw [absVal_dict hj2] at ht1
    obtain ⟨tsj, htsj, rfl⟩ := Option.map_eq_some_iff.mp ht1
    exact ⟨.node true tsj, absVal_new_frozen hj2 htsj, hc1⟩

theorem mkFrozen_content {h : Heap} {kvs : List (Key × Val)} {h' : Heap} {r : Val}
    (hm : mkFrozen h kvs = .ok (h', r)) (fz fz' : Bool) (k : Nat) (ts : List (Key × Tree))
    (ha : absKvs (absVal fz k h) kvs = some ts) :
    ∃ t', absVal fz' (k + 1) h' r = some t' ∧ canon t' = canon (.node fz ts) := by
  obtain ⟨h1, kvs', hmap, rfl, rfl⟩ := mkFrozen_ok hm
  obtain ⟨ts', h2, hc⟩ := mapKvs_content deep_prefix deep_content hmap fz true k ts ha
  exact ⟨.node true ts', absVal_new_frozenDict h2, by rw [canon_node, canon_node, hc]⟩

theorem wrapVal_content {h : Heap} {v : Val} {h' : Heap} {v' : Val}
    (hm : wrapVal h v = .ok (h', v')) : Copy h v h' v' := by
  intro fz fz' k t ha
  rcases wrapVal_ok hm with ⟨rfl, rfl, _⟩ | ⟨a, o, kvs, rfl, hget, hm'⟩
  · exact abs_retag _ k fz fz' _ t ha
  · obtain ⟨k, ts, rfl, hts, rfl⟩ := absVal_dict_inv hget ha
    exact mkFrozen_content hm' fz fz' k ts hts

theorem dictOf_content {h : Heap} {x : Val} {h' : Heap} {kvs : List (Key × Val)}
    (hm : dictOf h x = .ok (h', kvs)) (fz fz' : Bool) (k : Nat) (t : Tree)
    (ha : absVal fz (k + 1) h x = some t) :
    ∃ ts, absKvs (absVal fz' k h') kvs = some ts ∧ canon (.node false ts) = canon t := by
  obtain ⟨a, rfl, ⟨o, hget, rfl⟩ | ⟨i, o, kvs0, hget, hgi, hw⟩⟩ := dictOf_ok hm
  · rw [absVal_dict hget] at ha
    obtain ⟨ts, hts, rfl⟩ := Option.map_eq_some_iff.mp ha
    obtain ⟨ts', h2, hc⟩ := absKvs_canon (g := absVal fz' k _) (fun p _ t ht => abs_retag _ k fz fz' p.2 t ht) hts
    exact ⟨ts', h2, by rw [canon_node, canon_node, hc]⟩
  · obtain ⟨k0, oi, kvsi, ts, hk, hi, hts, rfl⟩ := absVal_frozen_inv hget ha
    cases hk
    cases hgi.symm.trans hi
    obtain ⟨ts', h2, hc⟩ := mapKvs_content wrapVal_prefix wrapVal_content hw true fz' k ts hts
    exact ⟨ts', h2, by rw [canon_node, canon_node, hc]⟩

/-- `FrozenDict(dict(x))` -/
theorem refreeze_content {h h1 h2 : Heap} {x r : Val} {xs : List (Key × Val)}
    (hd : dictOf h x = .ok (h1, xs)) (hm : mkFrozen h1 xs = .ok (h2, r)) : Copy h x h2 r := by
  intro fz fz' k t ha
  obtain ⟨a, rfl, _⟩ := dictOf_ok hd
  cases k with
  | zero => cases ha
  | succ k =>
    obtain ⟨ts, hts, hc⟩ := dictOf_content hd fz fz k t ha
    obtain ⟨t', ht', hc'⟩ := mkFrozen_content hm fz fz' k ts hts
    exact ⟨t', ht', hc'.trans hc⟩

/-- `tree_map(lambda x: x, d)` on a dict: the walk over its sorted entries and the new dict are one `deep` call -/
theorem treeCopy_content {h h1 : Heap} {a : Addr} {o : Bool} {kvs kvs' : List (Key × Val)} {n : Nat}
    (hg : h[a]? = some (.dict o kvs)) (hm : mapKvs (deep .tree false n) h (sortKvs kvs) = .ok (h1, kvs')) :
    Copy h (.ref a) (h1 ++ [.dict false kvs']) (.ref h1.length) :=
  deep_content (n := n + 1) (m := .tree) (own := false) (by simp only [deep, hg, if_true, hm])

theorem step_copy {w w' : World} {x : Nat} {v : Val} {op : Op} (hx : w.roots[x]? = some v)
    (hop : op = .freeze x ∨ op = .unfreeze x ∨ op = .treeMap x ∨ op = .pickle x ∨ op = .copy x none)
    (hs : step w op = .ok w') : ∃ r, w'.roots = w.roots ++ [r] ∧ Copy w.heap v w'.heap r := by
  rcases hop with rfl | rfl | rfl | rfl | rfl <;> dsimp only [step] at hs
  · obtain ⟨_, hr, hs⟩ := ok_of_some' hs
    cases hx.symm.trans hr
    obtain ⟨h1, xs, hd, hs⟩ := ok_of_callK hs
    obtain ⟨h2, r, hm, hs⟩ := ok_of_callV hs
    cases hs
    exact ⟨r, rfl, refreeze_content hd hm⟩
  · obtain ⟨_, hr, hs⟩ := ok_of_some' hs
    cases hx.symm.trans hr
    obtain ⟨h1, r, hd, hs⟩ := ok_of_callV hs
    cases hs
    exact ⟨r, rfl, deep_content hd⟩
  · obtain ⟨_, hr, hs⟩ := ok_of_some' hs
    cases hx.symm.trans hr
    obtain ⟨h1, r, hd, hs⟩ := ok_of_callV hs
    cases hs
    exact ⟨r, rfl, deep_content hd⟩
  · obtain ⟨a, hr, hs⟩ := ok_of_root hs
    cases hx.symm.trans hr
    rcases ok_of_obj' hs with ⟨o, kvs, hg, hs⟩ | ⟨i, hg, hs⟩
    · cases hs
    obtain ⟨h1, u, hd, hs⟩ := ok_of_callV hs
    obtain ⟨h2, xs, hdo, hs⟩ := ok_of_callK hs
    obtain ⟨h3, r, hm, hs⟩ := ok_of_callV hs
    cases hs
    exact ⟨r, rfl, fun fz fz' k t ha =>
      let ⟨t1, ht1, hc1⟩ := deep_content hd fz fz k t ha
      let ⟨t', ht', hc⟩ := refreeze_content hdo hm fz fz' k t1 ht1
      ⟨t', ht', hc.trans hc1⟩⟩
  · obtain ⟨a, hr, hs⟩ := ok_of_root hs
    cases hx.symm.trans hr
    rcases ok_of_obj' hs with ⟨o, kvs, hg, hs⟩ | ⟨i, hg, hs⟩
    · obtain ⟨h1, kvs', hmap, hs⟩ := ok_of_callK hs
      cases hs
      exact ⟨_, rfl, treeCopy_content hg hmap⟩
    · obtain ⟨h1, xs, hd, hs⟩ := ok_of_callK hs
      obtain ⟨h2, r, hm, hs⟩ := ok_of_callV hs
      cases hs
      exact ⟨r, rfl, refreeze_content hd hm⟩

theorem step_same_content {w w' : World} {x : Nat} {v : Val} {op : Op} {k : Nat} {t : Tree}
    (hx : w.roots[x]? = some v)
    (hop : op = .freeze x ∨ op = .unfreeze x ∨ op = .treeMap x ∨ op = .pickle x ∨ op = .copy x none)
    (hs : step w op = .ok w') (ha : absVal false k w.heap v = some t) :
    ∃ r t', w'.roots = w.roots ++ [r] ∧ absVal false k w'.heap r = some t' ∧ SameContent t' t :=
  let ⟨r, hr, hc⟩ := step_copy hx hop hs
  let ⟨t', ht', hc'⟩ := hc false false k t ha
  ⟨r, t', hr, ht', hc'⟩

section
variable {w w' : World} {x : Nat} {key : Key} {f i : Addr} (hx : w.roots[x]? = some (.ref f))
  (hf : w.heap[f]? = some (.frozen i))
include hx hf

theorem step_getitem_copy (hs : step w (.getitem x key) = .ok w') :
    ∃ o kvs v r, w.heap[i]? = some (.dict o kvs) ∧ kvGet kvs key = some v ∧ w'.roots = w.roots ++ [r] ∧
      Copy w.heap v w'.heap r := by
  dsimp only [step] at hs
  simp only [hx, hf] at hs
  obtain ⟨kvs, hin, hs⟩ := ok_of_inner hs
  obtain ⟨v, hget, hs⟩ := ok_of_some hs
  obtain ⟨h1, r, hw, hs⟩ := ok_of_callV hs
  cases hs
  obtain ⟨o, hi⟩ := innerKvs_ok.mp hin
  exact ⟨o, kvs, v, r, hi, hget, rfl, wrapVal_content hw⟩

/-- `Mapping.get`: `fd[key]`, or the default -/
theorem step_get_copy {dflt : Leaf} (hs : step w (.get x key dflt) = .ok w') :
    ∃ o kvs r, w.heap[i]? = some (.dict o kvs) ∧ w'.roots = w.roots ++ [r] ∧
      ((kvGet kvs key = none ∧ r = .leaf dflt) ∨
       ∃ v, kvGet kvs key = some v ∧ Copy w.heap v w'.heap r ∧ Handed w.heap w'.heap r) := by
  dsimp only [step] at hs
  simp only [hx, hf] at hs
  obtain ⟨kvs, hin, hs⟩ := ok_of_inner hs
  obtain ⟨o, hi⟩ := innerKvs_ok.mp hin
  cases hk : kvGet kvs key with
  | none =>
    rw [hk] at hs; cases hs
    exact ⟨o, kvs, _, hi, rfl, .inl ⟨hk, rfl⟩⟩
  | some v =>
    rw [hk] at hs
    obtain ⟨h1, r, hw, hs⟩ := ok_of_callV hs
    cases hs
    exact ⟨o, kvs, r, hi, rfl, .inr ⟨v, hk, wrapVal_content hw, wrapVal_result hw⟩⟩

theorem step_items_copy (hs : step w (.items x) = .ok w') :
    ∃ o kvs kvs', w.heap[i]? = some (.dict o kvs) ∧ w'.roots = w.roots ++ kvs'.map (·.2) ∧
      CopyKvs w.heap kvs w'.heap kvs' ∧ ∀ q ∈ kvs', Handed w.heap w'.heap q.2 := by
  dsimp only [step] at hs
  simp only [hx, hf] at hs
  obtain ⟨h1, kvs', hd, hs⟩ := ok_of_callK hs
  cases hs
  obtain ⟨_, e, ⟨_, hg, _⟩ | ⟨_, o, kvs, hg, hi, hw⟩⟩ := dictOf_ok hd <;> cases e <;> cases hf.symm.trans hg
  exact ⟨o, kvs, kvs', hi, rfl, mapKvs_content wrapVal_prefix wrapVal_content hw, mapWrap_result hw⟩

/-- `fd.pop(key)`: `fd[key]`, and `FrozenDict` of the other entries -/
theorem step_pop_copy (hs : step w (.pop x key) = .ok w') :
    ∃ o kvs v rest value, w.heap[i]? = some (.dict o kvs) ∧ kvGet kvs key = some v ∧
      w'.roots = w.roots ++ [rest, value] ∧ Copy w.heap v w'.heap value ∧
      ∀ (fz fz' : Bool) (k : Nat) (ts : List (Key × Tree)), absKvs (absVal fz k w.heap) kvs = some ts →
        ∃ t', absVal fz' (k + 1) w'.heap rest = some t' ∧ canon t' = canon (.node fz (kvErase ts key)) := by
  dsimp only [step] at hs
  simp only [hx, hf] at hs
  obtain ⟨kvs, hin, hs⟩ := ok_of_inner hs
  obtain ⟨v, hget, hs⟩ := ok_of_some hs
  obtain ⟨h1, value, hw, hs⟩ := ok_of_callV hs
  obtain ⟨h2, rest, hm, hs⟩ := ok_of_callV hs
  cases hs
  obtain ⟨o, hi⟩ := innerKvs_ok.mp hin
  exact ⟨o, kvs, v, rest, value, hi, hget, rfl, (wrapVal_content hw).stable List.prefix_rfl (mkFrozen_prefix hm),
    fun fz fz' k ts hts => mkFrozen_content hm fz fz' k _ (absKvs_ext (wrapVal_prefix hw) (absKvs_erase key hts))⟩

/-- `fd.copy(add)` and `fd.copy(view)`: `FrozenDict` of the entries of `fd` updated with those of `add` -/
theorem step_merge_copy {ai : Nat} {av : Val} {op : Op} (hadd : w.roots[ai]? = some av)
    (hop : op = .copy x (some ai) ∨ op = .copyView x ai) (hs : step w op = .ok w') :
    ∃ r, w'.roots = w.roots ++ [r] ∧
      ∀ (fzx fza fz' : Bool) (k : Nat) (tx ta : Tree), absVal fzx (k + 1) w.heap (.ref f) = some tx →
        absVal fza (k + 1) w.heap av = some ta →
        ∃ ts1 ts2 t', absVal fz' (k + 1) w'.heap r = some t' ∧ canon t' = canon (.node false (kvUpdate ts1 ts2)) ∧
          canon (.node false ts1) = canon tx ∧ canon (.node false ts2) = canon ta := by
  rcases hop with rfl | rfl <;> dsimp only [step] at hs <;> simp only [hx, hf, hadd] at hs
  · obtain ⟨h1, xs, hd, hs⟩ := ok_of_callK hs
    obtain ⟨h2, u, hdeep, hs⟩ := ok_of_callV hs
    obtain ⟨h3, ys, hd2, hs⟩ := ok_of_callK hs
    obtain ⟨h4, r, hm, hs⟩ := ok_of_callV hs
    cases hs
    refine ⟨r, rfl, fun fzx fza fz' k tx ta hax haa => ?_⟩
    have e1 := dictOf_prefix hd
    have e23 := (deep_prefix hdeep).trans (dictOf_prefix hd2)
    obtain ⟨ts1, hts1, hc1⟩ := dictOf_content hd fzx false k _ hax
    obtain ⟨tu, htu, hcu⟩ := deep_content hdeep fza false (k + 1) _ (absVal_ext e1 (k + 1) fza av _ haa)
    obtain ⟨ts2, hts2, hc2⟩ := dictOf_content hd2 false false k tu htu
    obtain ⟨t', ht', hc'⟩ := mkFrozen_content hm false fz' k _ (absKvs_kvUpdate (absKvs_ext e23 hts1) hts2)
    exact ⟨ts1, ts2, t', ht', hc', hc1, hc2.trans hcu⟩
  · obtain ⟨h1, xs, hd, hs⟩ := ok_of_callK hs
    obtain ⟨h2, ys, hd2, hs⟩ := ok_of_callK hs
    obtain ⟨h3, r, hm, hs⟩ := ok_of_callV hs
    cases hs
    refine ⟨r, rfl, fun fzx fza fz' k tx ta hax haa => ?_⟩
    have e1 := dictOf_prefix hd
    obtain ⟨ts1, hts1, hc1⟩ := dictOf_content hd fzx false k _ hax
    obtain ⟨ts2, hts2, hc2⟩ := dictOf_content hd2 fza false k _ (absVal_ext e1 (k + 1) fza av _ haa)
    obtain ⟨t', ht', hc'⟩ := mkFrozen_content hm false fz' k _ (absKvs_kvUpdate (absKvs_ext (dictOf_prefix hd2) hts1) hts2)
    exact ⟨ts1, ts2, t', ht', hc', hc1, hc2⟩

end

/-- module-level `pop(d, key)` on a dict: `ts'` is what the `tree_map` copy of the (sorted) entries denotes -/
theorem step_pop_dict_copy {w w' : World} {x : Nat} {key : Key} {a : Addr} {o : Bool} {kvs : List (Key × Val)}
    (hx : w.roots[x]? = some (.ref a)) (hg : w.heap[a]? = some (.dict o kvs))
    (hs : step w (.pop x key) = .ok w') :
    ∃ rest value, w'.roots = w.roots ++ [rest, value] ∧
      ∀ (fz fz' : Bool) (k : Nat) (ts : List (Key × Tree)), absKvs (absVal fz k w.heap) kvs = some ts →
        ∃ ts' tv, canonKvs ts' = canonKvs (sortKvs ts) ∧ lookupT key ts' = some tv ∧
          absVal fz' (k + 1) w'.heap rest = some (.node fz' (kvErase ts' key)) ∧
          absVal fz' k w'.heap value = some tv := by
  dsimp only [step] at hs
  simp only [hx, hg] at hs
  obtain ⟨h1, kvs', hmap, hs⟩ := ok_of_callK hs
  obtain ⟨value, hget, hs⟩ := ok_of_some hs
  cases hs
  refine ⟨_, value, rfl, fun fz fz' k ts hts => ?_⟩
  obtain ⟨ts', h2, hc⟩ := mapKvs_content deep_prefix deep_content hmap fz fz' k _ (absKvs_sort hts)
  obtain ⟨tv, hl, hv⟩ := absKvs_get h2 hget
  exact ⟨ts', tv, hc, hl, absVal_new_dict (absKvs_erase key h2),
    absVal_ext (List.prefix_append _ _) k fz' value tv hv⟩

end Flax.C15
