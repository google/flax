/- Generic pytree nodes (NamedTuple / OrderedDict / registered dataclasses), in a small model of their own (not in
Model/Graph): flatten sorts the children by key and remembers each key's declared position (`_flatten_pytree`),
unflatten sorts them back by that position (`_unflatten_pytree`). -/
import Flax.Proofs.GraphOrder
namespace Flax.Graph
open Flax.Heap

/-- `key_index[k]`: the position of `k` in the declared order -/
def keyIndex (k : Key) : List Key → Nat
  | [] => 0
  | x :: r => if x = k then 0 else keyIndex k r + 1

def natLt (a b : Nat) : Bool := decide (a < b)

theorem natLt_strictTotal : StrictTotal natLt :=
  ⟨fun a => by simp [natLt], fun a b c h1 h2 => by simp [natLt] at *; omega, fun a b h => by simp [natLt]; omega⟩

/-- `_flatten_pytree`: children sorted by key, plus the declared key order (`key_index`) as metadata -/
def pyFlatten {α : Type} (decl : List (Key × α)) : List (Key × α) × List Key := (sortKV decl, decl.map (·.1))

/-- `_unflatten_pytree`: `sorted(nodes, key=lambda x: key_index[x[0]])`, then the values -/
def pyUnflatten {α : Type} (nodes : List (Key × α)) (order : List Key) : List (Key × α) :=
  (sortBy natLt (nodes.map (fun kv => (keyIndex kv.1 order, kv)))).map (·.2)

/-- the inverse permutation, `nodes[key_index[key]] for key, _ in nodes`: wrong on a 3-cycle -/
def pyUnflattenInv {α : Type} [Inhabited α] (nodes : List (Key × α)) (order : List Key) : List (Key × α) :=
  nodes.map (fun kv => nodes.getD (keyIndex kv.1 order) kv)

theorem keyIndex_eq_idxOf (k : Key) : ∀ l : List Key, keyIndex k l = l.idxOf k
  | [] => rfl
  | x :: r => by
    rw [keyIndex, List.idxOf_cons, keyIndex_eq_idxOf k r]
    by_cases e : x = k
    · rw [if_pos e, beq_iff_eq.mpr e, cond_true]
    · rw [if_neg e, beq_false_of_ne e, cond_false]

/-- tagged with their declared positions, the declared children are in order: in a duplicate-free key list the key
at position `i` has index `i` -/
theorem tag_ssorted {α : Type} (l : List (Key × α)) (hn : keysNodup l) :
    SSorted natLt (l.map (fun kv => (keyIndex kv.1 (l.map (·.1)), kv))) := by
  have pos : ∀ i (hi : i < l.length), keyIndex l[i].1 (l.map (·.1)) = i := by
    intro i hi
    have := List.Nodup.idxOf_getElem hn i (by rw [List.length_map]; exact hi)
    rwa [List.getElem_map, ← keyIndex_eq_idxOf] at this
  rw [SSorted, List.pairwise_map, List.pairwise_iff_getElem]
  intro i j hi hj hij
  rw [pos i hi, pos j hj]
  exact decide_eq_true hij

theorem pytree_unflatten_flatten_id {α : Type} (decl : List (Key × α)) (hn : keysNodup decl) :
    pyUnflatten (pyFlatten decl).1 (pyFlatten decl).2 = decl := by
  simp only [pyFlatten, pyUnflatten]
  have hp : ((sortKV decl).map (fun kv => (keyIndex kv.1 (decl.map (·.1)), kv))).Perm
      (decl.map (fun kv => (keyIndex kv.1 (decl.map (·.1)), kv))) := (sortBy_perm decl).map _
  rw [sortBy_of_perm natLt_strictTotal hp (tag_ssorted decl hn)]
  rw [List.map_map]
  have : ((fun x : Nat × (Key × α) => x.2) ∘ fun kv => (keyIndex kv.1 (decl.map (·.1)), kv)) = id := by funext kv; rfl
  rw [this, List.map_id]

end Flax.Graph
