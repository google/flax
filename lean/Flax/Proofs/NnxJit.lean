/-
The four steps: outer split (1), inner merge (2), the body, inner split (3), outer merge (4).  (1)+(2) build an isomorphic,
closed copy `G` of what the arguments reach (`inner_copyF`), the body runs alike on the caller's heap and on `G` (`pureRun_sim`),
(4) rebuilds the result inside the caller's own objects (`outer_merge`): together `proto_eager`, which concludes
`C04.RefinesEager` (defined here).  `jitCall_eq`, `rematCall_eq`: `jit` and `remat` are `protoCall` without the arguments.
-/
import Flax.Proofs.NnxSim
import Flax.Proofs.NnxProg
import Flax.Proofs.NnxStep
import Flax.Proofs.GraphTotal
import Flax.Proofs.GraphPaths

namespace Flax.Nnx
open Flax.Heap Flax.Graph

theorem flattenRoots_total {g : Heap} (hc : HeapClosed g) : ∀ (vs : List PVal), (∀ v ∈ vs, ValClosed g v) → ∀ (idx : RefIndex),
    ∃ gds fss idx', flattenRoots g vs idx = .ok (gds, fss, idx')
  | [], _, idx => ⟨[], [], idx, rfl⟩
  | v :: vs, hv, idx => by
    have hfuel : valSize v + unvisited g idx ≤ fuelFor g v := by
      have := unvisited_mono g (idx := []) (idx' := idx) (fun a ha => by simp at ha)
      rw [unvisited_nil] at this
      simp [fuelFor]; omega
    obtain ⟨gd, ls, idx1, he⟩ := (flatten_total_aux g hc (fuelFor g v)).1 [] v idx (hv v (by simp)) hfuel
    obtain ⟨gds, fss, idx2, he2⟩ := flattenRoots_total hc vs (fun w hw => hv w (List.mem_cons_of_mem _ hw)) idx1
    exact ⟨gd :: gds, ls :: fss, idx2, by simp [flattenRoots, he, he2]⟩

theorem clearArg_closed {g : Heap} {v : PVal} (hv : ValClosed g v) : ValClosed g (clearArg v) := by
  cases v <;> first | exact hv | (intro b hb; simp [clearArg, deepRefs] at hb)

theorem irInv_some {ir : IndexRef} {b : Addr} {i : Nat} (h : irInv ir b = some i) :
    irLookup i ir = some b ∧ i < ir.length := by
  unfold irInv at h
  have h1 := List.find?_some h
  have h2 := List.mem_of_find?_eq_some h
  simp at h1 h2
  exact ⟨h1, h2⟩

theorem irInv_of {ir : IndexRef} {b : Addr} {i : Nat} (hi : irLookup i ir = some b) (hlt : i < ir.length)
    (huniq : ∀ j, irLookup j ir = some b → j = i) : irInv ir b = some i := by
  unfold irInv
  cases hf : (List.range ir.length).find? (fun i => decide (irLookup i ir = some b)) with
  | some j =>
    have h1 := List.find?_some hf
    simp at h1
    rw [huniq j h1]
  | none =>
    have := List.find?_eq_none.mp hf i (by simp [hlt])
    simp [hi] at this

theorem irInv_none {ir : IndexRef} {b : Addr} (h : ∀ i, irLookup i ir ≠ some b) : irInv ir b = Option.none := by
  unfold irInv
  apply List.find?_eq_none.mpr
  intro i _
  simp [h i]

/-- the stamp table of the inner split (3): index ↦ `inner_ref_outer_index[object registered under it]` -/
def tblOf (idx3 : RefIndex) (ir : IndexRef) : Nat → Option Nat := fun i => (idx3[i]?).bind (irInv ir)

/-- inner object ↦ the caller's object it stands for -/
def reuseOf (idx1 : RefIndex) (ir : IndexRef) : Addr → Option Addr := fun b => (irInv ir b).bind fun i => idx1[i]?

theorem step1_ok_iff {raw : Bool} {h : Heap} {args : List PVal} {gds : List GDef} {lss : List (List Leaf)} {idx1 : RefIndex} :
    step1 raw h args = .ok (gds, lss, idx1) ↔
      ∃ fss, flattenRoots h args [] = .ok (gds, fss, idx1) ∧ lss = fss.map (convLeaves raw) := by
  unfold step1
  cases flattenRoots h args [] with
  | error e => simp
  | ok r =>
    obtain ⟨gds', fss, idx1'⟩ := r
    constructor
    · intro h; simp at h; obtain ⟨rfl, rfl, rfl⟩ := h; exact ⟨fss, rfl, rfl⟩
    · rintro ⟨fss', h1, rfl⟩; simp at h1; obtain ⟨rfl, rfl, rfl⟩ := h1; rfl

theorem step1_flat {raw : Bool} {h : Heap} {args : List PVal} {gds : List GDef} {lss : List (List Leaf)} {idx1 : RefIndex}
    (hs : step1 raw h args = .ok (gds, lss, idx1)) : ∃ fss, FlatRoots h args [] gds fss idx1 ∧ lss = fss.map (convLeaves raw) := by
  obtain ⟨fss, hf, e⟩ := step1_ok_iff.mp hs
  exact ⟨fss, flatRoots_of_flattenRoots hf, e⟩

theorem Rel.isoM {φ : Addr → Option Addr} {h G : Heap} (R : Rel φ h G) {r r' : PVal} (hr : ValRel φ r r') : IsoM h r G r' φ :=
  ⟨hr, R.inj, R.obj⟩

theorem reuse_none (g : Heap) : Reuse g [] (fun _ => Option.none) :=
  ⟨fun _ _ _ h => (by cases h), fun _ _ h => (by cases h), fun _ _ _ h => (by cases h)⟩

/-- what the inner merge (2) builds from the outer split of `(h, args)`; every object of `G` stands for exactly one
object reachable from the arguments -/
structure InnerCopy (h : Heap) (args : List PVal) (idx1 : RefIndex) (args' : List PVal) (G : Heap) (ir : IndexRef) : Prop where
  good : GoodO [] (fun _ => Option.none) idx1 ir G
  rel : Rel (phi idx1 ir) h G
  args : ValsRel (phi idx1 ir) args args'
  lt : ∀ (a : Nat), a ∈ idx1 → a < h.length
  closed : HeapClosed G ∧ ∀ v ∈ args', ValClosed G v
  nodup : AttrsNodup h → AttrsNodup G

/-- steps (1)+(2) = `rebuild` with nothing re-used into the empty heap; the facts about `G` are read off the isomorphism -/
theorem inner_copyF (raw : Bool) {h : Heap} {args : List PVal} {gds : List GDef} {fss : List FlatState} {idx1 : RefIndex}
    (hf : FlatRoots h args [] gds fss idx1) :
    ∃ args' G ir,
      unflattenRootsO (fun _ => Option.none) (gds.map (stampWith (fun _ => Option.none))) (fss.map (convLeaves raw)) [] [] =
        .ok (args', G, ir) ∧ InnerCopy h args idx1 args' G ir := by
  obtain ⟨args', G, ir, hu, Gd, iso, _⟩ := rebuild (reuse_none h) raw (fun _ => Option.none) (fun _ => Option.none) hf
    (fun _ _ _ => rfl)
  have hv : ValsRel (phi idx1 ir) args args' := valsRel_of_seq iso.root
  have hlt : ∀ (a b : Nat), phi idx1 ir a = some b → b < G.length := fun a b hab => phi_ltO (reuse_none h) Gd hab
  have honto : ∀ (b : Nat), b < G.length → ∃ (a : Nat), phi idx1 ir a = some b := by
    intro b hb
    obtain ⟨i, hi⟩ := Gd.onto b (by simp) hb
    have hilt : i < idx1.length := (Gd.dom i).mp (by simp [hi])
    exact ⟨idx1[i], phi_eq_some.mpr ⟨i, indexOf?_of_getElem? Gd.nodup (List.getElem?_eq_getElem hilt), hi⟩⟩
  have hnode : ∀ {b : Nat} {cls : String} {attrs' : List (Key × PVal)}, G[b]? = some (Obj.node cls attrs') →
      ∃ (a : Nat) (attrs : List (Key × PVal)), h[a]? = some (Obj.node cls attrs) ∧ KVsRel (phi idx1 ir) (sortKV attrs) (sortKV attrs') := by
    intro b cls attrs' hb
    obtain ⟨a, hab⟩ := honto b (List.getElem?_eq_some_iff.mp hb).1
    obtain ⟨o, o', ho, hH, hrel⟩ := iso.obj a b hab
    rw [hb] at hH; cases hH
    cases hrel with
    | node hk => exact ⟨a, _, ho, hk⟩
  refine ⟨args', G, ir, hu, Gd, ⟨iso.inj, (iso_toM iso).obj, honto⟩, hv, ?_, ⟨?_, ?_⟩, ?_⟩
  · intro a ha
    obtain ⟨b, hab⟩ := phi_of_memO Gd ha
    obtain ⟨o, _, ho, _⟩ := iso.obj a b hab
    exact (List.getElem?_eq_some_iff.mp ho).1
  · intro b cls attrs' hb b' hb'
    obtain ⟨_, _, _, hk⟩ := hnode hb
    obtain ⟨a', ha'⟩ := kvsRel_range hk b' (mem_deepRefsKV_sortKV.mpr hb')
    exact hlt a' b' ha'
  · intro v hvm b hb
    obtain ⟨a, ha⟩ := valsRel_range hv b (mem_deepRefsL'.mpr ⟨v, hvm, hb⟩)
    exact hlt a b ha
  · intro nh b cls attrs' hb
    obtain ⟨a, attrs, ho, hk⟩ := hnode hb
    have h1 : keysNodup attrs := nh a cls attrs ho
    have hkeys := KVsRel.keys hk
    unfold keysNodup at h1 ⊢
    have p1 : ((sortKV attrs).map (·.1)).Perm (attrs.map (·.1)) := (sortBy_perm attrs).map _
    have p2 : ((sortKV attrs').map (·.1)).Perm (attrs'.map (·.1)) := (sortBy_perm attrs').map _
    exact p2.nodup_iff.mp (hkeys ▸ p1.nodup_iff.mpr h1)

/-- about `flatten` alone, but read off the inner copy: `simO`'s invariant is what proves `Nodup` and the bounds -/
theorem flatRoots_lt {h : Heap} {args : List PVal} {gds : List GDef} {fss : List FlatState} {idx1 : RefIndex}
    (hf : FlatRoots h args [] gds fss idx1) :
    idx1.Nodup ∧ (∀ (a : Nat), a ∈ idx1 → a < h.length) ∧ ∀ (a : Nat), PVal.ref a ∈ args → a < h.length := by
  obtain ⟨_, _, _, _, C⟩ := inner_copyF true hf
  refine ⟨C.good.nodup, C.lt, fun a ha => ?_⟩
  obtain ⟨b, hb⟩ := valsRel_ref_mem C.args ha
  exact C.lt a (phi_mem hb)

theorem clearArg_rel {φ : Addr → Option Addr} {v w : PVal} (h : ValRel φ v w) : ValRel φ (clearArg v) (clearArg w) := by
  cases h with
  | ref hab => exact .ref hab
  | static s => exact .none
  | array d => exact .none
  | none => exact .none
  | seq _ => exact .none
  | dict _ => exact .none

theorem clearArgs_rel {φ : Addr → Option Addr} : ∀ {vs ws : List PVal}, ValsRel φ vs ws →
    ValsRel φ (vs.map clearArg) (ws.map clearArg)
  | _, _, .nil => .nil
  | _, _, .cons hv ht => .cons (clearArg_rel hv) (clearArgs_rel ht)

theorem valsRel_id_eq {ψ : Addr → Option Addr} : ∀ {xs ys : List PVal}, ValsRel ψ (xs.map clearArg) ys →
    (∀ (a c : Nat), PVal.ref a ∈ xs → ψ a = some c → c = a) → ys = xs.map clearArg
  | [], _, h, _ => by cases h; rfl
  | x :: xs, _, h, hid => by
    simp only [List.map_cons] at h
    cases h with
    | cons hv ht =>
      have ih := valsRel_id_eq ht (fun a c ha => hid a c (List.mem_cons_of_mem _ ha))
      rw [ih]
      cases x with
      | ref a =>
        simp only [clearArg] at hv ⊢
        cases hv with
        | ref hab => rw [hid a _ (by simp) hab]; rfl
      | static s => simp only [clearArg] at hv ⊢; cases hv; rfl
      | array d => simp only [clearArg] at hv ⊢; cases hv; rfl
      | none => simp only [clearArg] at hv ⊢; cases hv; rfl
      | seq t ys => simp only [clearArg] at hv ⊢; cases hv; rfl
      | dict kvs => simp only [clearArg] at hv ⊢; cases hv; rfl

/-- the body has run eagerly from `h` to `h2` and inside from `G` to `G3`; `φ'` extends the correspondence of the inner
merge by the objects the body created -/
structure InnerSim (h : Heap) (idx1 : RefIndex) (ir : IndexRef) (G h2 G3 : Heap) (φ' : Addr → Option Addr) : Prop where
  good : GoodO [] (fun _ => Option.none) idx1 ir G
  lt : ∀ (a : Nat), a ∈ idx1 → a < h.length
  rel : Rel φ' h2 G3
  ext : Ext (phi idx1 ir) h G φ' h2
  kind : KindPres h h2

theorem inner_run (f : Fn) {pre : List PVal} (hpre : ∀ v ∈ pre, ∃ d, v = PVal.array d) {h G : Heap} {args args' : List PVal}
    {idx1 : RefIndex} {ir : IndexRef} (C : InnerCopy h args idx1 args' G ir) :
    ExceptRel (fun s t => ∃ φ', InnerSim h idx1 ir G s.2 t.2 φ' ∧ ValsRel φ' args args' ∧ ValsRel φ' s.1 t.1 ∧
        ClosedSt t.2 (args' ++ t.1) ∧ (AttrsNodup h → AttrsNodup s.2 ∧ AttrsNodup t.2))
      (runFn f h (pre ++ args)) (runFn f G (pre ++ args')) := by
  refine (runFn_sim f C.rel (ValsRel.append (valsRel_arrays hpre) C.args)).mono
    (fun ⟨rets, h2⟩ ⟨rets', G3⟩ e1 e2 ⟨φ', R3, hrets, x⟩ => ?_)
  refine ⟨φ', ⟨C.good, C.lt, R3, x, runFn_kind e1⟩, ValsRel.mono x.le C.args, hrets, ?_,
    fun nh => ⟨runFn_nodup nh e1, runFn_nodup (C.nodup nh) e2⟩⟩
  have hcl : ClosedSt G (pre ++ args') := ⟨C.closed.1, fun v hv => by
    rcases List.mem_append.mp hv with h1 | h1
    · obtain ⟨d, rfl⟩ := hpre v h1
      intro b hb; simp [deepRefs] at hb
    · exact C.closed.2 v h1⟩
  have hc3 := runFn_closed hcl e2
  refine ⟨hc3.1, fun v hv => ?_⟩
  rcases List.mem_append.mp hv with h1 | h1
  · exact valClosed_mono (runFn_kind e2).1 (C.closed.2 v h1)
  · exact hc3.2 v h1

section
variable {h G h2 G3 : Heap} {idx1 : RefIndex} {ir : IndexRef} {φ' : Addr → Option Addr}

theorem InnerSim.inv_old (S : InnerSim h idx1 ir G h2 G3 φ') {a b : Nat} (hab : φ' a = some b) (ha : a < h.length) :
    ∃ i, idx1[i]? = some a ∧ irInv ir b = some i := by
  obtain ⟨i, hi1, hi2⟩ := phi_idx (S.ext.old a ha ▸ hab)
  exact ⟨i, hi1, irInv_of hi2 (by rw [S.good.irLen]; exact (List.getElem?_eq_some_iff.mp hi1).1)
    (fun j hj => S.good.inj j i b hj hi2)⟩

theorem InnerSim.inv_new (S : InnerSim h idx1 ir G h2 G3 φ') {a b : Nat} (hab : φ' a = some b) (ha : h.length ≤ a) :
    irInv ir b = Option.none :=
  irInv_none (fun i hi => by
    have hb := S.ext.new a b ha hab
    have hilt : i < idx1.length := (S.good.dom i).mp (by simp [hi])
    rcases S.good.tgt i idx1[i] b (List.getElem?_eq_getElem hilt) hi with h1 | ⟨_, _, h3⟩
    · cases h1
    · omega)

theorem ObjSim.kind {φ : Addr → Option Addr} {o o' : Obj} (h : ObjSim φ o o') : kindOf o = kindOf o' := by
  cases h <;> rfl

theorem InnerSim.reuse (S : InnerSim h idx1 ir G h2 G3 φ') : Reuse G3 h (reuseOf idx1 ir) := by
  have key : ∀ (b c : Nat), reuseOf idx1 ir b = some c → c < h.length ∧ φ' c = some b := by
    intro b c hbc
    obtain ⟨i, hi, hic⟩ : ∃ i, irInv ir b = some i ∧ idx1[i]? = some c := Option.bind_eq_some_iff.mp hbc
    refine ⟨S.lt c (List.mem_of_getElem? hic), S.ext.le c b ?_⟩
    simp [phi, indexOf?_of_getElem? S.good.nodup hic, (irInv_some hi).1]
  refine ⟨fun b b' c h1 h2 => ?_, fun b c h1 => (key b c h1).1, fun b c o' h1 hg => ?_⟩
  · have := (key b c h1).2
    rw [(key b' c h2).2] at this
    exact (Option.some.inj this).symm
  · -- the body keeps the kind of the caller's `c`, and `b` is `c`'s partner after the body
    obtain ⟨hc, hφ⟩ := key b c h1
    obtain ⟨o, _, g1, g2, g3⟩ := S.rel.obj c b hφ
    rw [hg] at g2; cases g2
    rw [← S.kind.2 c hc, g1, Option.map_some, g3.kind]

end

/-- the traced function against the eager call: what all transforms share -/
theorem pureRun_sim (raw keep : Bool) (f : Fn) {pre : List PVal} (hpre : ∀ v ∈ pre, ∃ d, v = PVal.array d)
    {h : Heap} {vals : List PVal} {gds : List GDef} {fss : List FlatState} {idx1 : RefIndex}
    (hf : FlatRoots h vals [] gds fss idx1) :
    (∀ e, runFn f h (pre ++ vals) = .error e → pureRun raw keep f pre gds (fss.map (convLeaves raw)) = .error e) ∧
    (∀ rets h2, runFn f h (pre ++ vals) = .ok (rets, h2) →
      ∃ ir G G3 φ' roots' gds3 fss3 idx3, InnerSim h idx1 ir G h2 G3 φ' ∧
        ValsRel φ' ((if keep then vals.map clearArg else []) ++ rets) roots' ∧ FlatRoots G3 roots' [] gds3 fss3 idx3 ∧
        (AttrsNodup h → AttrsNodup h2 ∧ AttrsNodup G3) ∧
        pureRun raw keep f pre gds (fss.map (convLeaves raw)) =
          .ok (gds3.map (stampWith (tblOf idx3 ir)), fss3.map (convLeaves raw))) := by
  obtain ⟨args', G, ir, hu, C⟩ := inner_copyF raw hf
  rcases (inner_run f hpre C).cases with ⟨e, h1, h2⟩ | ⟨⟨rets, h2⟩, ⟨rets', G3⟩, e1, e2, φ', S, hargs, hrets, hcl, hn⟩
  · refine ⟨fun e' he => ?_, fun rets h2 he => (by rw [h1] at he; cases he)⟩
    rw [h1] at he; cases he
    simp [pureRun, hu, h2]
  · refine ⟨fun e he => (by rw [e1] at he; cases he), fun rets0 h20 he => ?_⟩
    rw [e1] at he; cases he
    have hroots : ∀ v ∈ (if keep then args'.map clearArg else []) ++ rets', ValClosed G3 v := by
      intro v hv
      rcases List.mem_append.mp hv with h1 | h1
      · cases keep
        · simp at h1
        · simp only [if_true] at h1
          obtain ⟨w, hw, rfl⟩ := List.mem_map.mp h1
          exact clearArg_closed (hcl.2 w (List.mem_append_left _ hw))
      · exact hcl.2 v (List.mem_append_right _ h1)
    obtain ⟨gds3, fss3, idx3, hf3⟩ := flattenRoots_total hcl.1 _ hroots []
    refine ⟨ir, G, G3, φ', _, gds3, fss3, idx3, S, ?_, flatRoots_of_flattenRoots hf3, hn, by
      simp [pureRun, hu, e2, hf3]; exact fun _ _ => rfl⟩
    cases keep
    · simpa using hrets
    · simpa using ValsRel.append (clearArgs_rel hargs) hrets

/-- step (4); the conclusion lists the fields of `RefinesEager` (`iso`, `ident`, `frame`, `grows`), for any roots -/
theorem outer_merge (raw : Bool) {h G h2 G3 : Heap} {idx1 : RefIndex} {ir : IndexRef} {φ' : Addr → Option Addr}
    (S : InnerSim h idx1 ir G h2 G3 φ') {roots roots' : List PVal} (hr : ValsRel φ' roots roots')
    {gds3 : List GDef} {fss3 : List FlatState} {idx3 : RefIndex} (hF3 : FlatRoots G3 roots' [] gds3 fss3 idx3) :
    ∃ roots4 h4 ψ, step4 h idx1 (gds3.map (stampWith (tblOf idx3 ir))) (fss3.map (convLeaves raw)) = .ok (roots4, h4) ∧
      IsoM h2 (.seq true roots) h4 (.seq true roots4) ψ ∧
      (∀ (a c : Nat), ψ a = some c → (a < h.length → c = a) ∧ (h.length ≤ a → h.length ≤ c)) ∧
      (∀ (c : Nat), c < h.length → (∀ (a : Nat), ψ a ≠ some c) → h4[c]? = h[c]?) ∧ h.length ≤ h4.length := by
  have hst : ∀ i a, idx3[i]? = some a → (tblOf idx3 ir i).bind (fun i => idx1[i]?) = reuseOf idx1 ir a := by
    intro i a hia
    simp [tblOf, reuseOf, hia]
  obtain ⟨roots4, h4, ir4, hu4, Gd4, iso4, hfr4⟩ := rebuild S.reuse raw (tblOf idx3 ir) (fun i => idx1[i]?) hF3 hst
  -- `ψ` first goes inside (`φ'`), then back out (`phi idx3 ir4`)
  refine ⟨roots4, h4, comp φ' (phi idx3 ir4), by simp [step4, hu4],
    (S.rel.isoM (.seq (t := true) hr)).trans (iso_toM iso4), ?_, ?_, Gd4.len⟩
  · intro a c hac
    obtain ⟨b, ha, hac⟩ := comp_eq_some.mp hac
    constructor
    · intro halt
      -- `a` was registered by step (1); its inner image `b` carries `a`'s index as outer index
      obtain ⟨i, hi1, hinv⟩ := S.inv_old ha halt
      have hre : reuseOf idx1 ir b = some a := by simp [reuseOf, hinv, hi1]
      rcases phi_tgt Gd4 hac with h1 | ⟨h1, _, _⟩
      · rw [hre] at h1; exact (Option.some.inj h1).symm
      · rw [hre] at h1; cases h1
    · intro hage
      -- a new object: nothing is bound to its inner image, so (4) creates it
      have hre : reuseOf idx1 ir b = Option.none := by simp [reuseOf, S.inv_new ha hage]
      rcases phi_tgt Gd4 hac with h1 | ⟨_, h2, _⟩
      · rw [hre] at h1; cases h1
      · exact h2
  · intro c hc hn
    refine hfr4 c hc (fun b hphi => ?_)
    obtain ⟨o, _, ho, _⟩ := iso4.obj b c hphi
    obtain ⟨a, ha⟩ := S.rel.onto b (List.getElem?_eq_some_iff.mp ho).1
    exact hn a (comp_eq_some.mpr ⟨b, ha, hphi⟩)

theorem protoCall_eq {raw : Bool} {f : Fn} {h : Heap} {args : List PVal} {gds : List GDef} {fss : List FlatState}
    {idx1 : RefIndex} (hf : flattenRoots h args [] = .ok (gds, fss, idx1)) {gdsO : List ODef} {lssO : List (List Leaf)}
    (hp : pureRun raw true f [] gds (fss.map (convLeaves raw)) = .ok (gdsO, lssO)) :
    protoCall raw f h args = step4 h idx1 gdsO lssO := by
  simp [protoCall, step1, hf, hp]

theorem jitCall_eq (f : Fn) (h : Heap) (args : List PVal) :
    jitCall f h args = (protoCall true f h args).map fun r => (r.1.drop args.length, r.2) := by
  unfold jitCall
  cases protoCall true f h args <;> rfl

theorem rematCall_eq (f : Fn) (h : Heap) (args : List PVal) :
    rematCall f h args = (protoCall false f h args).map fun r => (r.1.drop args.length, r.2) := by
  unfold rematCall
  cases protoCall false f h args <;> rfl

end Flax.Nnx

namespace Flax.C04
open Flax.Heap Flax.Graph Flax.Nnx

/-- what "same effect as eager, on the caller's own objects" means for a call on the heap `h` with arguments `args`:
eager outcome `(rets, h2)`, outcome under the transform `(outs, h4)` -/
structure RefinesEager (h : Heap) (args rets : List PVal) (h2 : Heap) (outs : List PVal) (h4 : Heap)
    (ψ : Addr → Option Addr) : Prop where
  /-- everything reachable from (arguments, results) is isomorphic: values, attributes, aliasing, cycles -/
  iso : IsoM h2 (.seq true (args.map clearArg ++ rets)) h4 (.seq true (args.map clearArg ++ outs)) ψ
  /-- it is the caller's own objects that carry the changes; created objects are new on both sides -/
  ident : ∀ (a c : Nat), ψ a = some c → (a < h.length → c = a) ∧ (h.length ≤ a → h.length ≤ c)
  /-- the caller's objects the call does not reach are untouched -/
  frame : ∀ (c : Nat), c < h.length → (∀ (a : Nat), ψ a ≠ some c) → h4[c]? = h[c]?
  /-- nothing of the caller's heap disappears -/
  grows : h.length ≤ h4.length

end Flax.C04

namespace Flax.Nnx
open Flax.Heap Flax.Graph

theorem proto_eager (raw : Bool) (f : Fn) {h : Heap} {args : List PVal} {gds : List GDef} {fss : List FlatState}
    {idx1 : RefIndex} (hf1 : flattenRoots h args [] = .ok (gds, fss, idx1)) :
    (∀ rets h2, runFn f h args = .ok (rets, h2) →
      ∃ roots4 h4 ψ, protoCall raw f h args = .ok (roots4, h4) ∧ C04.RefinesEager h args rets h2 (roots4.drop args.length) h4 ψ) ∧
    (∀ e, runFn f h args = .error e → protoCall raw f h args = .error e) := by
  have hF := flatRoots_of_flattenRoots hf1
  obtain ⟨herr, hok⟩ := pureRun_sim raw true f (pre := []) (fun v hv => by simp at hv) hF
  refine ⟨fun rets h2 he => ?_, fun e he => by simp [protoCall, step1, hf1, herr e (by simpa using he)]⟩
  obtain ⟨ir, G, G3, φ', roots', gds3, fss3, idx3, S, hr, hF3, _, hpr⟩ := hok rets h2 (by simpa using he)
  obtain ⟨roots4, h4, ψ, hs4, hiso, hid, hfr, hlen⟩ := outer_merge raw S hr hF3
  simp only [if_true] at hiso
  obtain ⟨h1, _⟩ := ValsRel.split (valsRel_of_seq hiso.root)
  simp only [List.length_map] at h1
  -- `ψ` is the identity on the caller's objects, so the first `args.length` output roots ARE the cleared arguments
  have htake : roots4.take args.length = args.map clearArg :=
    valsRel_id_eq h1 (fun a c ha hac => (hid a c hac).1 ((flatRoots_lt hF).2.2 a ha))
  have hsplit : roots4 = args.map clearArg ++ roots4.drop args.length := by
    rw [← htake]; exact (List.take_append_drop _ _).symm
  exact ⟨roots4, h4, ψ, by rw [protoCall_eq hf1 hpr, hs4], by rw [← hsplit]; exact hiso, hid, hfr, hlen⟩

theorem proto_refines_eager (raw : Bool) (f : Fn) (h : Heap) (args : List PVal)
    (rets : List PVal) (h2 : Heap) (he : runFn f h args = .ok (rets, h2))
    (roots4 : List PVal) (h4 : Heap) (hp : protoCall raw f h args = .ok (roots4, h4)) :
    ∃ ψ, C04.RefinesEager h args rets h2 (roots4.drop args.length) h4 ψ := by
  cases hf1 : flattenRoots h args [] with
  | error e => simp [protoCall, step1, hf1] at hp
  | ok r =>
    obtain ⟨roots4', h4', ψ, hp', hr⟩ := (proto_eager raw f hf1).1 rets h2 he
    rw [hp] at hp'; cases hp'
    exact ⟨ψ, hr⟩

theorem proto_total (raw : Bool) (f : Fn) (h : Heap) (args : List PVal) (hc : HeapClosed h) (ha : ∀ v ∈ args, ValClosed h v) :
    (∀ rets h2, runFn f h args = .ok (rets, h2) →
      ∃ roots4 h4 ψ, protoCall raw f h args = .ok (roots4, h4) ∧ C04.RefinesEager h args rets h2 (roots4.drop args.length) h4 ψ) ∧
    (∀ e, runFn f h args = .error e → protoCall raw f h args = .error e) := by
  obtain ⟨gds, fss, idx1, hf1⟩ := flattenRoots_total hc args ha []
  exact proto_eager raw f hf1

end Flax.Nnx
