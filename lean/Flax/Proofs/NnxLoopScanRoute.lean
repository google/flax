/- C08 proofs: `nnx.scan` — the three routes of `_scan_split_in` / `_scan_merge_in`: what an iteration sees
(`ScanSees`). At the start `optX` (a run with its error forgotten, as the examples of Props/C08 read it), compared to
C06's `opt`. -/
import Flax.Proofs.NnxLoopArgs
import Flax.Proofs.NnxLoopCollect
import Flax.Proofs.LiftLoopLeaf

namespace Flax.NnxLoop
open Flax.Filter Flax.LiftLoop

def optX {β : Type} (x : Except Err β) : Option β :=
  match x with
  | .ok v => some v
  | .error _ => none

@[simp] theorem optX_ok {β : Type} (v : β) : optX (Except.ok v : Except Err β) = some v := rfl
@[simp] theorem optX_error {β : Type} (e : Err) : optX (Except.error e : Except Err β) = none := rfl

theorem optX_eq_some {β : Type} {x : Except Err β} {v : β} : optX x = some v ↔ x = .ok v := by
  cases x <;> simp [optX]

theorem optX_liftL {β : Type} (x : Except LErr β) : optX (liftL x) = opt x := by
  cases x <;> rfl

section route
variable {α : Type} [Inhabited α]

/-- the states of a zipped `(axis, state)` list that go the vectorised route, with their axes -/
def axisStates (zs : List (Ax × State α)) : List (Int × State α) :=
  zs.filterMap (fun z => match z.1 with | .axis k => some (k, z.2) | _ => none)

abbrev vecStates (axes : List Ax) (sts : List (State α)) : List (State α) := (axisStates (axes.zip sts)).map (·.2)

/-- the states with axis `a` (`Carry` or `None`) -/
def kindStates (a : Ax) (zs : List (Ax × State α)) : List (State α) :=
  zs.filterMap (fun z => if z.1 = a then some z.2 else none)

omit [Inhabited α] in
theorem mem_axisStates {zs : List (Ax × State α)} {k : Int} {s : State α} :
    (k, s) ∈ axisStates zs ↔ (Ax.axis k, s) ∈ zs := by
  simp only [axisStates, List.mem_filterMap]
  constructor
  · rintro ⟨⟨a, s'⟩, hm, h⟩
    cases a with
    | axis k' => simp only [Option.some.injEq, Prod.mk.injEq] at h; obtain ⟨rfl, rfl⟩ := h; exact hm
    | bcast => cases h
    | carry => cases h
  · intro h; exact ⟨_, h, rfl⟩

omit [Inhabited α] in
theorem mem_kindStates {a : Ax} {zs : List (Ax × State α)} {s : State α} :
    s ∈ kindStates a zs ↔ (a, s) ∈ zs := by
  simp only [kindStates, List.mem_filterMap]
  constructor
  · rintro ⟨⟨a', s'⟩, hm, h⟩
    split at h
    · rename_i ha; simp only [] at ha; subst ha; injection h with h; subst h; exact hm
    · cases h
  · intro h; exact ⟨_, h, by simp⟩

theorem routeStates_cons_ok {moveIn : Bool} {a : Ax} {s : State α} {zs : List (Ax × State α)}
    {r : List (State α) × List (State α) × List (State α)} :
    routeStates moveIn ((a, s) :: zs) = .ok r ↔ ∃ vec car bc, routeStates moveIn zs = .ok (vec, car, bc) ∧
      match a with
      | .bcast => r = (vec, car, s :: bc)
      | .carry => r = (vec, s :: car, bc)
      | .axis k => ∃ s', (if moveIn then toFrontState k s else .ok s) = .ok s' ∧ r = (s' :: vec, car, bc) := by
  rw [routeStates]
  cases routeStates moveIn zs with
  | error e => exact ⟨nofun, fun ⟨_, _, _, h, _⟩ => nomatch h⟩
  | ok r0 =>
    obtain ⟨vec, car, bc⟩ := r0
    cases a with
    | bcast =>
      constructor
      · intro h; exact ⟨vec, car, bc, rfl, (Except.ok.inj h).symm⟩
      · rintro ⟨_, _, _, h, rfl⟩; cases h; rfl
    | carry =>
      constructor
      · intro h; exact ⟨vec, car, bc, rfl, (Except.ok.inj h).symm⟩
      · rintro ⟨_, _, _, h, rfl⟩; cases h; rfl
    | axis k =>
      cases moveIn with
      | false =>
        constructor
        · intro h; exact ⟨vec, car, bc, rfl, s, rfl, (Except.ok.inj h).symm⟩
        · rintro ⟨_, _, _, h, s', hs, rfl⟩; cases h; cases hs; rfl
      | true =>
        simp only [if_true]
        cases toFrontState k s with
        | error e => exact ⟨nofun, fun ⟨_, _, _, _, _, h, _⟩ => nomatch h⟩
        | ok s' =>
          constructor
          · intro h; exact ⟨vec, car, bc, rfl, s', rfl, (Except.ok.inj h).symm⟩
          · rintro ⟨_, _, _, h, _, hs, rfl⟩; cases h; cases hs; rfl

theorem routeStates_ok_iff {moveIn : Bool} :
    ∀ {zs : List (Ax × State α)} {r : List (State α) × List (State α) × List (State α)},
    routeStates moveIn zs = .ok r ↔
      ∃ vec, mapX (fun ks => if moveIn then toFrontState ks.1 ks.2 else .ok ks.2) (axisStates zs) = .ok vec ∧
        r = (vec, kindStates .carry zs, kindStates .bcast zs) := by
  intro zs
  induction zs with
  | nil =>
    intro r
    exact ⟨fun h => ⟨[], rfl, (Except.ok.inj h).symm⟩, fun ⟨_, hv, e⟩ => by cases hv; rw [e]; rfl⟩
  | cons z zs ih =>
    intro r
    obtain ⟨a, s⟩ := z
    rw [routeStates_cons_ok]
    cases a with
    | bcast =>
      constructor
      · rintro ⟨_, _, _, h, rfl⟩; obtain ⟨v, hv, e'⟩ := ih.1 h; cases e'; exact ⟨_, hv, rfl⟩
      · rintro ⟨v, hv, rfl⟩; exact ⟨_, _, _, ih.2 ⟨v, hv, rfl⟩, rfl⟩
    | carry =>
      constructor
      · rintro ⟨_, _, _, h, rfl⟩; obtain ⟨v, hv, e'⟩ := ih.1 h; cases e'; exact ⟨_, hv, rfl⟩
      · rintro ⟨v, hv, rfl⟩; exact ⟨_, _, _, ih.2 ⟨v, hv, rfl⟩, rfl⟩
    | axis k =>
      constructor
      · rintro ⟨_, _, _, h, s', hs, rfl⟩
        obtain ⟨v, hv, e'⟩ := ih.1 h
        cases e'
        exact ⟨_, mapX_cons_of_ok hs hv, rfl⟩
      · rintro ⟨v, hv, rfl⟩
        obtain ⟨s', v', hs, hv', rfl⟩ := mapX_cons_ok hv
        exact ⟨_, _, _, ih.2 ⟨v', hv', rfl⟩, s', hs, rfl⟩

/-- `_scan_split_out`: the routes without the move -/
theorem routeStates_false (zs : List (Ax × State α)) :
    routeStates false zs = .ok ((axisStates zs).map (·.2), kindStates .carry zs, kindStates .bcast zs) :=
  routeStates_ok_iff.2 ⟨_, mapX_eq_map _ (fun ks _ => by simp), rfl⟩

theorem routeStates_spec {zs : List (Ax × State α)} {vec car bc : List (State α)}
    (h : routeStates true zs = .ok (vec, car, bc)) :
    (∀ s, s ∈ bc ↔ (Ax.bcast, s) ∈ zs) ∧
    (∀ s', s' ∈ vec ↔ ∃ k s, (Ax.axis k, s) ∈ zs ∧ toFrontState k s = .ok s') ∧
    (∀ k s, (Ax.axis k, s) ∈ zs → ∃ s', toFrontState k s = .ok s') := by
  obtain ⟨vec', hv, he⟩ := routeStates_ok_iff.1 h
  simp only [if_true] at hv
  injection he with h1 he
  injection he with h2 h3
  subst h1 h2 h3
  refine ⟨fun s => mem_kindStates, fun s' => ⟨fun hs' => ?_, ?_⟩, fun k s hm => ?_⟩
  · obtain ⟨⟨k, s⟩, hm, hF⟩ := mapX_ok_mem_rev hv s' hs'
    exact ⟨k, s, mem_axisStates.1 hm, hF⟩
  · rintro ⟨k, s, hm, hc⟩
    obtain ⟨y, hy, hym⟩ := mapX_ok_mem hv (k, s) (mem_axisStates.2 hm)
    cases hc.symm.trans hy
    exact hym
  · obtain ⟨y, hy, _⟩ := mapX_ok_mem hv (k, s) (mem_axisStates.2 hm)
    exact ⟨y, hy⟩

theorem routeStates_complete (zs : List (Ax × State α))
    (h : ∀ k s, (Ax.axis k, s) ∈ zs → ∃ s', toFrontState k s = .ok s') : ∃ r, routeStates true zs = .ok r := by
  obtain ⟨vec, hv⟩ := mapX_ok_of_forall
    (f := fun (ks : Int × State α) => if true = true then toFrontState ks.1 ks.2 else .ok ks.2) (axisStates zs)
    (fun ks hks => by
      obtain ⟨s', hs'⟩ := h ks.1 ks.2 (mem_axisStates.1 hks)
      exact ⟨s', by simpa using hs'⟩)
  exact ⟨_, routeStates_ok_iff.2 ⟨vec, hv, rfl⟩⟩

theorem routeStates_car_indep {zs : List (Ax × State α)} {vec car bc : List (State α)}
    (h : routeStates true zs = .ok (vec, car, bc)) : ∃ vec', routeStates false zs = .ok (vec', car, bc) := by
  obtain ⟨vec', _, he⟩ := routeStates_ok_iff.1 h
  cases he
  exact ⟨_, routeStates_false zs⟩

/-- what iteration `i` of `nnx.scan` is to see of an item of the original flat state: by the axis of its group, the
slice of its value, the value the previous iteration left (`flatC`), or its value -/
def ScanSees (p : Prefix) (flatC : Flat α) (i : Nat) (y : Path × VarInfo × Arr α) (w : Arr α) : Prop :=
  ∃ a, axAt p y.1 y.2.1 = some a ∧
    match a with
    | .axis k => liftL (takeAt k i y.2.2) = .ok w
    | .carry => valAt flatC y.1 = .ok w
    | .bcast => w = y.2.2

theorem ScanSees.unique {p : Prefix} {flatC : Flat α} {i : Nat} {y : Path × VarInfo × Arr α} {w w' : Arr α}
    (h : ScanSees p flatC i y w) (h' : ScanSees p flatC i y w') : w = w' := by
  obtain ⟨a, ha, h⟩ := h
  obtain ⟨a', ha', h'⟩ := h'
  cases ha.symm.trans ha'
  cases a with
  | axis k => exact Except.ok.inj (h.symm.trans h')
  | carry => exact Except.ok.inj (h.symm.trans h')
  | bcast => exact h.trans h'.symm

/-- `vec` / `bc` are the vectorised and broadcast routes of the states of the *original* values (`_scan_split_in`), the
carry route is that of the states `stsC` of the values the previous iteration left (`_scan_split_out`).  Each of these
states holds one group and together they cover the groups, so the merge answers every path with `ScanSees`. -/
theorem scan_merge_in_lookup {p : Prefix} {flatS flatC : Flat α} (hnd : (flatS.map (·.1)).Nodup)
    (hk : flatC.map (fun x => (x.1, x.2.1)) = flatS.map (fun x => (x.1, x.2.1)))
    {stsS stsC : List (State α)} (hsS : splitFlat p flatS = .ok stsS) (hsC : splitFlat p flatC = .ok stsC)
    {vec car bc : List (State α)} (hrS : routeStates true (p.axes.zip stsS) = .ok (vec, car, bc))
    {i : Nat} {veci : List (State α)} (hv : mapX (take0State i) vec = .ok veci) :
    ∀ x ∈ flatS, ∃ w, ScanSees p flatC i x w ∧
      (veci ++ kindStates .carry (p.axes.zip stsC) ++ bc).flatten.lookup x.1 = some w := by
  obtain ⟨rbS, rvS, rtS⟩ := routeStates_spec hrS
  have rcC : ∀ s, s ∈ kindStates .carry (p.axes.zip stsC) ↔ (Ax.carry, s) ∈ p.axes.zip stsC := fun _ => mem_kindStates
  have hlS := (splitFlat_spec hsS).1
  have hlC := (splitFlat_spec hsC).1
  have hvec : ∀ {g k s0 sF sI}, p.axes[g]? = some (.axis k) → stsS[g]? = some s0 → toFrontState k s0 = .ok sF →
      take0State i sF = .ok sI → Holds p flatS (ScanSees p flatC i) g sI := by
    intro g k s0 sF sI hg hs0 hF hI
    refine (((holds_split hnd rfl hsS hs0).leafMap hF).leafMap hI).mono ?_
    rintro y hy hgy w ⟨F, ⟨v, hv, hF'⟩, hw⟩
    cases (valAt_of_mem hnd hy).symm.trans hv
    refine ⟨_, axAt_of_group hg y hgy, ?_⟩
    show liftL (takeAt k i y.2.2) = .ok w
    rw [← take_front_eq y.2.2 F k (liftL_ok.1 hF') i]
    exact hw
  have hcar : ∀ {g s}, p.axes[g]? = some .carry → stsC[g]? = some s → Holds p flatS (ScanSees p flatC i) g s :=
    fun hg hs => (holds_split hnd hk hsC hs).mono (fun y _ hgy w hw => ⟨_, axAt_of_group hg y hgy, hw⟩)
  have hbc : ∀ {g s}, p.axes[g]? = some .bcast → stsS[g]? = some s → Holds p flatS (ScanSees p flatC i) g s :=
    fun hg hs => (holds_split hnd rfl hsS hs).mono (fun y hy hgy w hw =>
      ⟨_, axAt_of_group hg y hgy, Except.ok.inj (hw.symm.trans (valAt_of_mem hnd hy))⟩)
  apply lookup_of_holds hnd (p := p) (R := ScanSees p flatC i) (fun _ _ _ => ScanSees.unique)
  · intro s hs
    rcases List.mem_append.1 hs with hs | hs
    · rcases List.mem_append.1 hs with hs | hs
      · obtain ⟨sF, hsF, hI⟩ := mapX_ok_mem_rev hv s hs
        obtain ⟨k, s0, hz, hF⟩ := (rvS sF).1 hsF
        obtain ⟨g, hg, hs0⟩ := mem_zip_iff.1 hz
        exact ⟨g, hvec hg hs0 hF hI⟩
      · obtain ⟨g, hg, hs0⟩ := mem_zip_iff.1 ((rcC s).1 hs)
        exact ⟨g, hcar hg hs0⟩
    · obtain ⟨g, hg, hs0⟩ := mem_zip_iff.1 ((rbS s).1 hs)
      exact ⟨g, hbc hg hs0⟩
  · intro y hy
    have hg := split_group_lt hsS rfl y hy
    have hga := List.getElem?_eq_getElem hg
    generalize p.axes[groupIdx p y.1 y.2.1] = a at hga
    cases a with
    | axis k =>
      have hs0 := List.getElem?_eq_getElem (hlS ▸ hg)
      obtain ⟨sF, hF⟩ := rtS k _ (mem_zip_iff.2 ⟨_, hga, hs0⟩)
      obtain ⟨sI, hI, hm⟩ := mapX_ok_mem hv sF ((rvS sF).2 ⟨k, _, mem_zip_iff.2 ⟨_, hga, hs0⟩, hF⟩)
      exact ⟨sI, List.mem_append_left _ (List.mem_append_left _ hm), hvec hga hs0 hF hI⟩
    | carry =>
      have hs0 := List.getElem?_eq_getElem (hlC ▸ hg)
      exact ⟨_, List.mem_append_left _ (List.mem_append_right _ ((rcC _).2 (mem_zip_iff.2 ⟨_, hga, hs0⟩))),
        hcar hga hs0⟩
    | bcast =>
      have hs0 := List.getElem?_eq_getElem (hlS ▸ hg)
      exact ⟨_, List.mem_append_right _ ((rbS _).2 (mem_zip_iff.2 ⟨_, hga, hs0⟩)), hbc hga hs0⟩

theorem scan_node_lookup {p : Prefix} {owned : List Entry} (hnd : (owned.map (·.path)).Nodup) {store cur : Store α}
    {flatS flatC : Flat α} (hfS : flatOf owned store = .ok flatS) (hfC : flatOf owned cur = .ok flatC)
    {stsS stsC : List (State α)} (hsS : splitFlat p flatS = .ok stsS) (hsC : splitFlat p flatC = .ok stsC)
    {vec car bc : List (State α)} (hrS : routeStates true (p.axes.zip stsS) = .ok (vec, car, bc))
    {i : Nat} {veci : List (State α)} (hv : mapX (take0State i) vec = .ok veci) :
    ∀ e ∈ owned, ∃ v, scanEntryIn store cur i (e, p) = .ok (e.id, v) ∧
      (veci.flatten ++ (kindStates .carry (p.axes.zip stsC)).flatten ++ bc.flatten).lookup e.path = some v := by
  have hndS : (flatS.map (·.1)).Nodup := by rw [flatOf_paths hfS]; exact hnd
  have hndC : (flatC.map (·.1)).Nodup := by rw [flatOf_paths hfC]; exact hnd
  have key := scan_merge_in_lookup hndS ((flatOf_infos hfC).trans (flatOf_infos hfS).symm) hsS hsC hrS hv
  intro e he
  obtain ⟨vS, hvS, hmS⟩ := (flatOf_ok_mem hfS).1 e he
  obtain ⟨vC, hvC, hmC⟩ := (flatOf_ok_mem hfC).1 e he
  obtain ⟨w, ⟨a, ha, hw⟩, hl⟩ := key _ hmS
  have hat : p.at e = .ok a := (prefix_at_eq_axAt p e a).2 ha
  refine ⟨w, ?_, by simpa [List.flatten_append] using hl⟩
  cases a with
  | axis k =>
    have hw' : liftL (takeAt k i vS) = .ok w := hw
    simp only [scanEntryIn, hat, bindX, scanValIn, Store.getX, hvS, hw']
  | carry =>
    cases (valAt_of_mem hndC hmC).symm.trans hw
    simp only [scanEntryIn, hat, bindX, scanValIn, Store.getX, hvC]
  | bcast => simp only [scanEntryIn, hat, bindX, scanValIn, Store.getX, hvS, hw]

end route

end Flax.NnxLoop
