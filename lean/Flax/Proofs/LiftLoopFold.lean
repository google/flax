/- C06: threaded loops.  `runG` threads a state through a list of indices of any type and records
   each step's output under its index; a nest of such loops is one loop over the multi-indices in row-major
   order; `lax.scan` is such a loop over `Nat` followed by `byIndex`, for either direction. -/
import Flax.Model.LiftLoop
import Flax.Proofs.LiftLoopSpec
import Flax.Proofs.Assoc

namespace Flax.LiftLoop

/-- `loopRun` over an arbitrary index type -/
def runG {ι σ ω : Type} (step : σ → ι → Option (σ × ω)) (same : σ → σ → Bool) :
    σ → List ι → Option (σ × List (ι × ω))
  | s, [] => some (s, [])
  | s, i :: is =>
    match step s i with
    | none => none
    | some r =>
      if same s r.1 then
        match runG step same r.1 is with
        | none => none
        | some rest => some (rest.1, (i, r.2) :: rest.2)
      else none

theorem runG_cons {ι σ ω : Type} (step : σ → ι → Option (σ × ω)) (same : σ → σ → Bool) (s : σ) (i : ι)
    (is : List ι) :
    runG step same s (i :: is) =
      ((step s i).filter fun r => same s r.1).bind fun r =>
        (runG step same r.1 is).map fun rest => (rest.1, (i, r.2) :: rest.2) := by
  simp only [runG]
  cases step s i with
  | none => rfl
  | some r =>
    simp only [Option.filter_some]
    split
    · rw [Option.bind_some]; cases runG step same r.1 is <;> rfl
    · rfl

theorem runG_cons_eq_some {ι σ ω : Type} {step : σ → ι → Option (σ × ω)} {same : σ → σ → Bool} {s : σ}
    {i : ι} {is : List ι} {r : σ × List (ι × ω)} :
    runG step same s (i :: is) = some r ↔
      ∃ r1 rest, step s i = some r1 ∧ same s r1.1 = true ∧ runG step same r1.1 is = some rest ∧
        r = (rest.1, (i, r1.2) :: rest.2) := by
  simp only [runG_cons, Option.bind_eq_some_iff, Option.filter_eq_some_iff, Option.map_eq_some_iff, and_assoc]
  exact ⟨fun ⟨a, h1, h2, b, h3, h4⟩ => ⟨a, b, h1, h2, h3, h4.symm⟩,
    fun ⟨a, b, h1, h2, h3, h4⟩ => ⟨a, h1, h2, b, h3, h4.symm⟩⟩

theorem runG_append {ι σ ω : Type} (step : σ → ι → Option (σ × ω)) (same : σ → σ → Bool) :
    ∀ (l1 l2 : List ι) (s : σ), runG step same s (l1 ++ l2) =
      (runG step same s l1).bind (fun r1 => (runG step same r1.1 l2).map (fun r2 => (r2.1, r1.2 ++ r2.2)))
  | [], l2, s => by
    simp only [List.nil_append, runG, Option.bind_some]
    cases runG step same s l2 <;> rfl
  | i :: is, l2, s => by
    simp only [List.cons_append, runG_cons, runG_append step same is l2, Option.bind_assoc]
    refine Option.bind_congr fun r _ => ?_
    cases runG step same r.1 is with
    | none => rfl
    | some r1 => simp only [Option.bind_some, Option.map_some]; cases runG step same r1.1 l2 <;> rfl

theorem runG_same {ι σ ω : Type} (step : σ → ι → Option (σ × ω)) (same : σ → σ → Bool)
    (hrefl : ∀ s, same s s = true) (htrans : ∀ a b c, same a b = true → same b c = true → same a c = true) :
    ∀ (l : List ι) (s : σ) (r : σ × List (ι × ω)), runG step same s l = some r → same s r.1 = true := by
  intro l
  induction l with
  | nil => intro s r h; cases h; exact hrefl s
  | cons i is ih =>
    intro s r h
    obtain ⟨r1, rest, _, hsm, hr, rfl⟩ := runG_cons_eq_some.1 h
    exact htrans _ _ _ hsm (ih r1.1 rest hr)

theorem runG_flatMap {ι κ σ ω : Type} (step : σ → ι → Option (σ × ω)) (same : σ → σ → Bool)
    (hrefl : ∀ s, same s s = true) (htrans : ∀ a b c, same a b = true → same b c = true → same a c = true)
    (blk : κ → List ι) : ∀ (L : List κ) (s : σ),
    runG step same s (L.flatMap blk) =
      (runG (fun s k => runG step same s (blk k)) same s L).map (fun r => (r.1, r.2.flatMap (·.2))) := by
  intro L
  induction L with
  | nil => intro s; rfl
  | cons k ks ih =>
    intro s
    simp only [List.flatMap_cons, runG_append, runG]
    cases hb : runG step same s (blk k) with
    | none => rfl
    | some r1 =>
      have hs := runG_same step same hrefl htrans _ _ _ hb
      simp only [Option.bind_some, hs, if_true, ih]
      cases runG (fun s k => runG step same s (blk k)) same r1.1 ks <;> rfl

/-- the nest: one threaded loop per entry of `lengths`, the innermost body called at the full multi-index -/
def nestRun {σ ω : Type} (step : σ → Ix → Option (σ × ω)) (same : σ → σ → Bool) :
    List Nat → Ix → σ → Option (σ × List (Ix × ω))
  | [], pre, s => runG step same s [pre]
  | l :: ls, pre, s =>
    (runG (fun s i => nestRun step same ls (pre ++ [i]) s) same s (List.range l)).map
      (fun r => (r.1, r.2.flatMap (·.2)))

theorem nestRun_eq_flat {σ ω : Type} (step : σ → Ix → Option (σ × ω)) (same : σ → σ → Bool)
    (hrefl : ∀ s, same s s = true) (htrans : ∀ a b c, same a b = true → same b c = true → same a c = true) :
    ∀ (lengths : List Nat) (pre : Ix) (s : σ),
    nestRun step same lengths pre s = runG step same s ((allIdx lengths).map (fun t => pre ++ t)) := by
  intro lengths
  induction lengths with
  | nil => intro pre s; simp [nestRun, allIdx]
  | cons l ls ih =>
    intro pre s
    simp only [nestRun, allIdx, List.map_flatMap, List.map_map]
    have hblk : (fun i => List.map ((fun t => pre ++ t) ∘ fun t => i :: t) (allIdx ls)) =
        (fun i => (allIdx ls).map (fun t => (pre ++ [i]) ++ t)) := by
      funext i; apply List.map_congr_left; intro t _; simp
    rw [hblk, runG_flatMap step same hrefl htrans]
    congr 2
    funext s' i
    exact ih (pre ++ [i]) s'

theorem allIdx_length : ∀ (lengths : List Nat), (allIdx lengths).length = lengths.foldr (· * ·) 1 := by
  intro lengths
  induction lengths with
  | nil => rfl
  | cons l ls ih =>
    simp only [allIdx, List.length_flatMap, List.length_map, ih, List.foldr_cons]
    induction l with
    | zero => simp
    | succ n ihn => simp [List.range_succ, Nat.succ_mul, ihn]

theorem allIdx_ne_nil : ∀ (lengths : List Nat), (∀ l ∈ lengths, l ≠ 0) → allIdx lengths ≠ [] := by
  intro lengths
  induction lengths with
  | nil => intro _; simp [allIdx]
  | cons l ls ih =>
    intro h hnil
    have hl : l ≠ 0 := h l (by simp)
    obtain ⟨l', rfl⟩ : ∃ l', l = l' + 1 := ⟨l - 1, by omega⟩
    have hls := ih (fun x hx => h x (by simp [hx]))
    cases hA : allIdx ls with
    | nil => exact hls hA
    | cons t ts =>
      simp [allIdx, hA, List.range_succ_eq_map] at hnil

theorem runG_cons_state {ι σ ω : Type} (step : σ → ι → Option (σ × ω)) (same : σ → σ → Bool) (s : σ) (i : ι)
    (is : List ι) :
    (runG step same s (i :: is)).map (·.1) =
      (((step s i).map (·.1)).filter (same s)).bind fun s' => (runG step same s' is).map (·.1) := by
  rw [runG_cons]
  cases step s i with
  | none => rfl
  | some r =>
    simp only [Option.map_some, Option.filter_some]
    split
    · rw [Option.bind_some, Option.bind_some]; cases runG step same r.1 is <;> rfl
    · rfl

theorem runG_single_state {ι σ ω : Type} (step : σ → ι → Option (σ × ω)) (same : σ → σ → Bool) (s : σ) (x : ι) :
    (runG step same s [x]).map (·.1) = ((step s x).map (·.1)).filter (same s) := by
  rw [runG_cons_state]
  cases ((step s x).map (·.1)).filter (same s) <;> rfl

theorem filter_filter_self {β : Type} (p : β → Bool) (o : Option β) : (o.filter p).filter p = o.filter p := by
  rw [Option.filter_filter]
  exact congrArg (Option.filter · o) (funext fun x => Bool.and_self _)

/-- the steps need agree only on the next state, where the carry check `same s` accepts it, and on states satisfying `Inv` -/
theorem runG_state_congr {ι σ ω1 ω2 : Type} (step1 : σ → ι → Option (σ × ω1)) (step2 : σ → ι → Option (σ × ω2))
    (same : σ → σ → Bool) (Inv : σ → Prop)
    (hstep : ∀ s i, Inv s → ((step1 s i).map (·.1)).filter (same s) = ((step2 s i).map (·.1)).filter (same s))
    (hpres : ∀ s i r, Inv s → step2 s i = some r → same s r.1 = true → Inv r.1) :
    ∀ (l : List ι) (s : σ), Inv s → (runG step1 same s l).map (·.1) = (runG step2 same s l).map (·.1)
  | [], _, _ => rfl
  | i :: is, s, hs => by
    rw [runG_cons_state, runG_cons_state, hstep s i hs]
    refine Option.bind_congr fun s' hs' => ?_
    obtain ⟨hm, hsame⟩ := Option.filter_eq_some_iff.1 hs'
    obtain ⟨r, hr, rfl⟩ := Option.map_eq_some_iff.1 hm
    exact runG_state_congr step1 step2 same Inv hstep hpres is r.1 (hpres s i r hs hr hsame)

theorem runG_threaded {ι σ ω : Type} (step : σ → ι → Option (σ × ω)) (same : σ → σ → Bool) :
    ∀ (order : List ι) (s sf : σ) (recs : List (ι × ω)), runG step same s order = some (sf, recs) →
    ∃ states : List σ, states.length = order.length + 1 ∧ states[0]? = some s ∧
      states[order.length]? = some sf ∧ recs.length = order.length ∧
      ∀ p (hp : p < order.length), ∃ s1 s2 y, states[p]? = some s1 ∧ states[p + 1]? = some s2 ∧
        step s1 order[p] = some (s2, y) ∧ same s1 s2 = true ∧ recs[p]? = some (order[p], y) := by
  intro order
  induction order with
  | nil =>
    intro s sf recs h
    cases h
    exact ⟨[s], by simp⟩
  | cons i is ih =>
    intro s sf recs h
    obtain ⟨r, rest, hs, hsame, hr, heq⟩ := runG_cons_eq_some.1 h
    obtain ⟨rfl, rfl⟩ := Prod.mk.inj heq
    obtain ⟨states, hl, h0, hlast, hrl, hsteps⟩ := ih r.1 rest.1 rest.2 hr
    refine ⟨s :: states, congrArg (· + 1) hl, rfl, hlast, congrArg (· + 1) hrl, ?_⟩
    intro p hp
    cases p with
    | zero => exact ⟨s, r.1, r.2, rfl, h0, hs, hsame, rfl⟩
    | succ p => exact hsteps p (Nat.lt_of_succ_lt_succ hp)

theorem runG_last_step {ι σ ω : Type} (step : σ → ι → Option (σ × ω)) (same : σ → σ → Bool)
    (l : List ι) (s : σ) (r : σ × List (ι × ω)) (hne : l ≠ []) (h : runG step same s l = some r) :
    ∃ s' i y, step s' i = some (r.1, y) := by
  have hpos := List.length_pos_iff.2 hne
  obtain ⟨states, _, _, hlast, _, hsteps⟩ := runG_threaded step same l s r.1 r.2 h
  obtain ⟨s1, s2, y, _, h2, hst, _⟩ := hsteps (l.length - 1) (Nat.sub_lt hpos Nat.one_pos)
  rw [Nat.sub_add_cancel hpos, hlast] at h2
  cases h2
  exact ⟨s1, _, y, hst⟩

theorem loopRun_eq_runG {σ ω : Type} (step : σ → Nat → Option (σ × ω)) (same : σ → σ → Bool) :
    ∀ (order : List Nat) (s : σ), loopRun step same s order = runG step same s order := by
  intro order
  induction order with
  | nil => intro s; rfl
  | cons i is ih =>
    intro s
    simp only [loopRun, runG]
    cases step s i with
    | none => rfl
    | some r =>
      simp only [ih]
      by_cases h : same s r.1 = true
      · simp only [h, if_true]; cases runG step same r.1 is <;> rfl
      · simp [h]

theorem loopRun_cons_eq_some {σ ω : Type} {step : σ → Nat → Option (σ × ω)} {same : σ → σ → Bool} {s : σ}
    {i : Nat} {is : List Nat} {r : σ × List (Nat × ω)} :
    loopRun step same s (i :: is) = some r ↔
      ∃ r1 rest, step s i = some r1 ∧ same s r1.1 = true ∧ loopRun step same r1.1 is = some rest ∧
        r = (rest.1, (i, r1.2) :: rest.2) := by
  simp only [loopRun_eq_runG]
  exact runG_cons_eq_some

theorem laxStep_eq {σ χ ω : Type} (xsAt : Nat → Except Err χ) (f : σ → χ → Except Err (σ × ω))
    (same : σ → σ → Bool) (st : σ × List ω) (i : Nat) :
    laxStep xsAt f same st i =
      match xsAt i >>= f st.1 with
      | .error e => .error e
      | .ok r => if same st.1 r.1 then .ok (r.1, st.2 ++ [r.2]) else .error .carryStructure := by
  unfold laxStep
  cases xsAt i with
  | error e => rfl
  | ok x => simp only [bind, Except.bind]; cases f st.1 x <;> rfl

theorem foldE_loopRun {σ χ ω : Type} (xsAt : Nat → Except Err χ) (f : σ → χ → Except Err (σ × ω))
    (same : σ → σ → Bool) : ∀ (order : List Nat) (s : σ) (acc : List ω),
    opt (foldE (laxStep xsAt f same) (s, acc) order)
      = (loopRun (fun s i => opt (xsAt i >>= f s)) same s order).map
          (fun r => (r.1, acc ++ r.2.map (·.2))) := by
  intro order
  induction order with
  | nil => intro s acc; simp [foldE, loopRun]
  | cons i is ih =>
    intro s acc
    simp only [foldE, loopRun, laxStep_eq]
    cases xsAt i >>= f s with
    | error e => rfl
    | ok r =>
      simp only [opt_ok]
      cases same s r.1 with
      | false => rfl
      | true =>
        simp only [if_true, ih r.1 (acc ++ [r.2])]
        cases loopRun (fun s i => opt (xsAt i >>= f s)) same r.1 is with
        | none => rfl
        | some rest => simp

theorem loopRun_keys {σ ω : Type} (step : σ → Nat → Option (σ × ω)) (same : σ → σ → Bool) :
    ∀ (order : List Nat) (s : σ) (r : σ × List (Nat × ω)), loopRun step same s order = some r →
    r.2.map (·.1) = order
  | [], _, _, h => by cases h; rfl
  | i :: is, s, r, h => by
    obtain ⟨r1, rest, _, _, hr, rfl⟩ := loopRun_cons_eq_some.1 h
    simp [loopRun_keys step same is r1.1 rest hr]

theorem loopRun_congr {σ ω : Type} {step1 step2 : σ → Nat → Option (σ × ω)} (same : σ → σ → Bool) :
    ∀ (order : List Nat), (∀ i ∈ order, ∀ s, step1 s i = step2 s i) → ∀ s,
    loopRun step1 same s order = loopRun step2 same s order := by
  intro order
  induction order with
  | nil => intro _ s; rfl
  | cons i is ih =>
    intro h s
    simp only [loopRun, h i (by simp) s]
    cases step2 s i with
    | none => rfl
    | some r => simp only [ih (fun j hj => h j (by simp [hj])) r.1]

theorem byIndex_of_perm {ω : Type} (n : Nat) {recs l : List (Nat × ω)} (hp : l.Perm recs)
    (hk : l.map (·.1) = List.range n) : byIndex n recs = some (l.map (·.2)) := by
  unfold byIndex
  rw [← hk]
  apply mapO_map_of_forall
  have hn : (recs.map (·.1)).Nodup := (hp.map _).nodup_iff.1 (hk ▸ List.nodup_range)
  exact fun p hpl => Assoc.lookup_of_mem hn (hp.mem_iff.1 hpl)

theorem byIndex_fwd {ω : Type} (n : Nat) (recs : List (Nat × ω)) (h : recs.map (·.1) = List.range n) :
    byIndex n recs = some (recs.map (·.2)) := byIndex_of_perm n (List.Perm.refl _) h

theorem byIndex_rev {ω : Type} (n : Nat) (recs : List (Nat × ω)) (h : recs.map (·.1) = (List.range n).reverse) :
    byIndex n recs = some ((recs.map (·.2)).reverse) :=
  List.map_reverse ▸ byIndex_of_perm n (List.reverse_perm recs) (by rw [List.map_reverse, h, List.reverse_reverse])

/-- A-SCAN unfolded: the state is threaded in processing order, and output `i` is that of the iteration that
processed index `i`, for either direction -/
theorem laxScan_opt {σ χ ω : Type} (n : Nat) (reverse : Bool) (xsAt : Nat → Except Err χ)
    (f : σ → χ → Except Err (σ × ω)) (same : σ → σ → Bool) (init : σ) :
    opt (laxScan n reverse xsAt f same init) =
      (loopRun (fun s i => opt (xsAt i >>= f s)) same init
        (if reverse then (List.range n).reverse else List.range n)).bind
        (fun r => (byIndex n r.2).map (fun outs => (r.1, outs))) := by
  unfold laxScan
  rw [opt_bind, foldE_loopRun]
  cases hr : loopRun (fun s i => opt (xsAt i >>= f s)) same init
      (if reverse then (List.range n).reverse else List.range n) with
  | none => rfl
  | some r =>
    have hk := loopRun_keys _ _ _ _ _ hr
    cases reverse with
    | false =>
      simp only [Bool.false_eq_true, if_false] at hk ⊢
      simp [byIndex_fwd n r.2 hk]
    | true =>
      simp only [if_true] at hk ⊢
      simp [byIndex_rev n r.2 hk]

end Flax.LiftLoop
