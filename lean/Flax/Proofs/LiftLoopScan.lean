/- C06: the pieces of `axes_scan.scan` / `lift.scan` against the explicit loop: what the transposed
   inputs hand to iteration `i` (`prepXs_at`, `prepXs_dims`), the key rows, the sizes flax reads being among those
   lax.scan compares -/
import Flax.Model.LiftLoop
import Flax.Proofs.LiftLoopSpec
import Flax.Proofs.LiftLoopTree
import Flax.Proofs.LiftLoopGroup
import Flax.Proofs.LiftLoopFold

set_option linter.unusedSectionVars false

namespace Flax.LiftLoop
open Flax.Filter
variable {α : Type} [Inhabited α]

theorem groupToFront_slice (i : Nat) (p : Int × Vars α) :
    opt (groupToFront p >>= Vars.mapE (fun a : Arr α => a.take 0 i)) = opt (groupSlice i p) :=
  Vars.opt_mapE_bind (fun a => toFront_take a p.1 i) p.2

theorem groupToFront_dims (p : Int × Vars α) :
    opt (groupToFront p >>= fun g => mapE leadDim (Vars.leaves g)) = opt (groupDims p) := by
  unfold groupToFront groupDims
  rw [Vars.mapE_bind_leaves]
  exact opt_mapE_bind _ fun a _ => leadDim_front a p.1

theorem argToFront_take (i : Nat) (p : Option Int × Arr α) :
    opt (argToFront p >>= argTake0 i) = opt (argTakeAt i p) := by
  obtain ⟨o, a⟩ := p
  cases o with
  | none => rfl
  | some ax =>
    show opt ((Arr.toFront ax a).map (fun f => (some f, a)) >>= argTake0 i) = opt (takeAt ax i a)
    rw [← toFront_take]
    cases Arr.toFront ax a <;> rfl

theorem argToFront_dim (p : Option Int × Arr α) :
    opt (argToFront p >>= argLeadDim) = opt (argDimAt p) := by
  obtain ⟨o, a⟩ := p
  cases o with
  | none => rfl
  | some ax =>
    show opt ((Arr.toFront ax a).map (fun f => (some f, a)) >>= argLeadDim) = opt ((dimAt ax a).map fun d => [d])
    rw [opt_map, ← leadDim_front]
    cases Arr.toFront ax a with
    | error e => rfl
    | ok F => exact opt_map (leadDim F) _

theorem prepXs_at (iv : List Int) (ia : List (Option Int)) (svs : List (Vars α)) (rngs : List RngG)
    (args : List (Arr α)) (i : Nat) :
    opt (prepXs iv ia svs rngs args >>= fun xs => xs.at i) =
      (opt (mapE (groupSlice i) (iv.zip svs))).bind fun sv =>
      (opt (mapE (RngG.at i) rngs)).bind fun rg =>
      (opt (mapE (argTakeAt i) (ia.zip args))).bind fun as => some (sv, rg, as) := by
  rw [← opt_mapE_bind _ fun p _ => groupToFront_slice i p, ← opt_mapE_bind _ fun p _ => argToFront_take i p]
  unfold prepXs ScanXs.at
  cases mapE groupToFront (iv.zip svs) with
  | error e => rfl
  | ok svsF =>
    cases mapE argToFront (ia.zip args) with
    | error e => simp only [opt_bind, opt_ok, opt_error, Option.bind_some, Option.bind_none, Option.bind_fun_none]
    | ok asF =>
      show opt (mapE _ svsF >>= _) = _
      exact opt_bind_congr rfl fun sv _ => opt_bind_congr rfl fun rg _ => opt_bind_congr rfl fun as _ => rfl

theorem prepXs_dims (iv : List Int) (ia : List (Option Int)) (svs : List (Vars α)) (rngs : List RngG)
    (args : List (Arr α)) :
    opt (prepXs iv ia svs rngs args >>= ScanXs.dims) =
      (opt (mapE groupDims (iv.zip svs))).bind fun d1 =>
      (opt (mapE argDimAt (ia.zip args))).bind fun d3 =>
      some (d1.flatten ++ rngs.flatMap RngG.dims ++ d3.flatten) := by
  rw [← opt_mapE_bind _ fun p _ => groupToFront_dims p, ← opt_mapE_bind _ fun p _ => argToFront_dim p]
  unfold prepXs ScanXs.dims
  cases mapE groupToFront (iv.zip svs) with
  | error e => rfl
  | ok svsF =>
    cases mapE argToFront (ia.zip args) with
    | error e => simp only [opt_bind, opt_ok, opt_error, Option.bind_some, Option.bind_none, Option.bind_fun_none]
    | ok asF =>
      show opt (mapE _ svsF >>= _) = _
      exact opt_bind_congr rfl fun d1 _ => opt_bind_congr rfl fun d3 _ => rfl

theorem rngAt_rows (g : Rngs) (n i : Nat) (hi : i < n) :
    RngG.at i (.rows (g.map (fun sk => (sk.1, splitKeys sk.2 n)))) =
      .ok (g.map (fun sk => (sk.1, Key.split sk.2 n i))) := by
  simp only [RngG.at, mapE_map]
  apply mapE_ok_of_forall (fun (sk : String × Key) => (sk.1, Key.split sk.2 n i))
  intro sk _
  simp [splitKeys, hi]

theorem rngAt_splitGroups (sr : List (LFilter × Bool)) (rngs : Rngs) (n i : Nat) (hi : i < n) :
    mapE (RngG.at i) (splitGroups (groupDict rngs (sr.map (·.1))) (sr.map (·.2)) n) =
      .ok (iterRngGroups sr rngs n i) := by
  simp only [splitGroups, groupDict_eq, List.length_map, List.zip_map, List.map_map, mapE_map,
    iterRngGroups]
  apply mapE_ok_of_forall
  intro p _
  simp only [Function.comp, Prod.map]
  cases hp : p.2.2 with
  | true => simp only [if_true]; exact rngAt_rows _ n i hi
  | false => simp [RngG.at]

theorem rngDims_splitGroups (sr : List (LFilter × Bool)) (rngs : Rngs) (n : Nat) :
    (splitGroups (groupDict rngs (sr.map (·.1))) (sr.map (·.2)) n).flatMap RngG.dims =
      ((List.range sr.length).zip sr).flatMap (fun p =>
        if p.2.2 then (roleGroup rngs (sr.map (·.1)) p.1).map (fun _ => n) else []) := by
  simp only [splitGroups, groupDict_eq, List.length_map, List.zip_map, List.flatMap_map]
  congr 1
  funext p
  simp only [Prod.map]
  cases p.2.2 with
  | true => simp [RngG.dims, splitKeys]
  | false => simp [RngG.dims]

/-- the sizes flax reads for its own inference are among the sizes jax checks; the entries are scanned arguments
for `lift.scan`, mapped groups and arguments for `lift.vmap` -/
theorem filterMap_sub_flatten {β : Type} {F : β → Except Err (Option Nat)} {G : β → Except Err (List Nat)}
    (hp : ∀ x g e, F x = .ok g → G x = .ok e → ∀ d, g = some d → d ∈ e) : ∀ (Z : List β) (gs : List (Option Nat))
    (ds : List (List Nat)), mapE F Z = .ok gs → mapE G Z = .ok ds → ∀ d ∈ gs.filterMap id, d ∈ ds.flatten
  | [], gs, _, h1, _, d, hd => by cases h1; cases hd
  | x :: xs, gs, ds, h1, h2, d, hd => by
    obtain ⟨g, gs', hg, hgs, rfl⟩ := mapE_cons_ok.1 h1
    obtain ⟨e, ds', he, hds, rfl⟩ := mapE_cons_ok.1 h2
    rw [List.flatten_cons, List.mem_append]
    cases g with
    | none => exact Or.inr (filterMap_sub_flatten hp xs gs' ds' hgs hds d hd)
    | some v =>
      rcases List.mem_cons.1 hd with rfl | hd
      · exact Or.inl (hp x _ e hg he _ rfl)
      · exact Or.inr (filterMap_sub_flatten hp xs gs' ds' hgs hds d hd)

theorem argSize_mem_dim (p : Option Int × Arr α) (g : Option Nat) (e : List Nat) (hg : argSizeOpt p = .ok g)
    (he : argDimAt p = .ok e) (d : Nat) (hd : g = some d) : d ∈ e := by
  obtain ⟨o, a⟩ := p
  cases o with
  | none => cases hg; cases hd
  | some ax =>
    change (shapeAt a ax).map some = .ok g at hg
    change (shapeAt a ax).map (fun d => [d]) = .ok e at he
    cases hs : shapeAt a ax with
    | error _ => rw [hs] at hg; cases hg
    | ok v => rw [hs] at hg he; cases hg; cases he; cases hd; exact List.mem_singleton_self _

theorem argSizes_sub (t : AxesTree) (args : List (Arr α)) (sizes : List Nat) (axes : List (Option Int))
    (d3 : List (List Nat)) (h1 : argSizes t args = .ok sizes) (h2 : t.expand args.length = .ok axes)
    (h3 : mapE argDimAt (axes.zip args) = .ok d3) : ∀ d ∈ sizes, d ∈ d3.flatten := by
  cases t with
  | uniform a =>
    cases a with
    | none => cases h1; nofun
    | some ax =>
      cases args with
      | nil => cases h1; nofun
      | cons a rest =>
        -- the one size flax reads is what jax finds on the first argument: the two are the same expression
        cases Except.ok.inj h2
        obtain ⟨e, d3', he, _, rfl⟩ := mapE_cons_ok.1 (show mapE argDimAt ((some ax, a) :: _) = _ from h3)
        cases Except.ok.inj ((show argDimAt (some ax, a) = .ok sizes from h1).symm.trans he)
        exact fun d hd => List.mem_append_left _ hd
  | perArg as =>
    simp only [argSizes] at h1
    simp only [AxesTree.expand] at h2
    split at h2
    · rename_i hl
      injection h2 with h2
      subst h2
      simp only [hl, if_true] at h1
      cases hm : mapE argSizeOpt (as.zip args) with
      | error e => simp [hm, Except.map] at h1
      | ok gs =>
        simp [hm, Except.map] at h1
        subst h1
        exact filterMap_sub_flatten argSize_mem_dim _ gs d3 hm h3
    · cases h2

end Flax.LiftLoop
