/-
Fuel for the walks of `Model/Frozen.lean`: walks and calls cannot fail on a value of bounded `Depth`, and the
invariant bounds the depth of everything a FrozenDict is made of (its dicts are built bottom-up).  `…_total`: the call
cannot fail with the fuel `step` gives it, so none on a held FrozenDict returns `recursion` or `dangling`
(`step_frozen_total`).
-/
import Flax.Proofs.FrozenInv

namespace Flax.C15
open Flax.Frozen

/-- Everything reachable from `v` exists and lies within `n` levels.  A user dict can be made cyclic (`d['a'] = d`);
Python then raises RecursionError and the model `recursion`: there `Depth` is the hypothesis "acyclic". -/
inductive Depth (h : Heap) : Val → Nat → Prop where
  | leaf (l : Leaf) (n : Nat) : Depth h (.leaf l) n
  | dict {a : Addr} {o : Bool} {kvs : List (Key × Val)} {n : Nat} :
      h[a]? = some (Obj.dict o kvs) → (∀ p ∈ kvs, Depth h p.2 n) → Depth h (.ref a) (n + 1)
  | frozen {a i : Addr} {n : Nat} :
      h[a]? = some (Obj.frozen i) → Depth h (.ref i) n → Depth h (.ref a) (n + 1)

theorem Depth.mono {h h' : Heap} (e : h <+: h') {v : Val} {n : Nat} (d : Depth h v n) :
    ∀ {m : Nat}, n ≤ m → Depth h' v m := by
  induction d with
  | leaf l n => intro m _; exact .leaf l m
  | dict hg _ ih =>
    intro m hm
    cases m with
    | zero => omega
    | succ m => exact .dict (get_of_prefix e hg) (fun p hp => ih p hp (by omega))
  | frozen hg _ ih =>
    intro m hm
    cases m with
    | zero => omega
    | succ m => exact .frozen (get_of_prefix e hg) (ih (by omega))

theorem Depth.mono_ext {h h' : Heap} (e : h <+: h') {v : Val} {n : Nat} (d : Depth h v n) : Depth h' v n :=
  d.mono e (Nat.le_refl n)

theorem Depth.mono_fuel {h : Heap} {v : Val} {n : Nat} (d : Depth h v n) {m : Nat} (hm : n ≤ m) : Depth h v m :=
  d.mono List.prefix_rfl hm

theorem Depth.deep_ok : ∀ {n : Nat} {m : Mode} {own : Bool} {h : Heap} {v : Val},
    Depth h v n → ∃ r, deep m own n h v = .ok r := by
  intro n
  induction n with
  | zero =>
    intro m own h v d
    cases d with
    | leaf l => simp only [deep]; exact ⟨_, rfl⟩
  | succ n ih =>
    intro m own h v d
    cases d with
    | leaf l => simp only [deep]; exact ⟨_, rfl⟩
    | dict hg hk =>
      rename_i a o kvs
      obtain ⟨⟨h1, kvs'⟩, hm⟩ := mapKvs_total (f := deep m own n) deep_prefix
        (if m = .tree then sortKvs kvs else kvs) h
        (fun h1 e p hp => ih (Depth.mono_ext e (hk p (mem_ord hp))))
      simp only [deep, hg, hm]
      exact ⟨_, rfl⟩
    | frozen hg di =>
      rename_i a i
      cases m with
      | prepare => simp only [deep, hg]; exact ⟨_, rfl⟩
      | unfreeze =>
        obtain ⟨r, hr⟩ := ih (m := .tree) (own := own) di
        simp only [deep, hg]; exact ⟨r, hr⟩
      | tree =>
        obtain ⟨⟨h1, v1⟩, hr⟩ := ih (m := .tree) (own := true) di
        obtain ⟨j, rfl⟩ := deep_ref_result hr
        simp only [deep, hg, hr]; exact ⟨_, rfl⟩

theorem depth_owned {h : Heap} (hi : HeapInv h) (a : Nat) : isOwned h a → Depth h (.ref a) (a + 1) := by
  induction a using Nat.strongRecOn with
  | ind a ih =>
    intro ⟨kvs, hg⟩
    refine .dict hg fun p hp => ?_
    cases hv : p.2 with
    | leaf l => exact .leaf l _
    | ref b =>
      -- owned dicts point downward, and so does a FrozenDict object to its `_dict`
      have hb : @LT.lt Nat _ b a := hi.owned_down a kvs hg p hp b hv
      have hown := hi.owned_closed a kvs hg p hp
      rw [hv] at hown
      rcases hown with hob | ⟨ib, hfb⟩
      · exact (ih b hb hob).mono_fuel (by omega)
      · have hib : @LT.lt Nat _ ib b := hi.frozen_down b ib hfb
        exact (Depth.frozen hfb (ih ib (by omega) (hi.frozen_inner b ib hfb))).mono_fuel (by omega)

/-- under the invariant an owned value fits in the fuel `fuelOf h - 1` -/
theorem depth_ownedVal {h : Heap} (hi : HeapInv h) {v : Val} (hv : OwnedVal h v) : Depth h v h.length := by
  cases v with
  | leaf l => exact .leaf l _
  | ref a =>
    rcases hv with ⟨kvs, hg⟩ | ⟨i, hf⟩
    · have := lt_length_of_get hg
      exact (depth_owned hi a ⟨kvs, hg⟩).mono_fuel (by omega)
    · have h1 := lt_length_of_get hf
      have h2 : @LT.lt Nat _ i a := hi.frozen_down a i hf
      exact (Depth.frozen hf (depth_owned hi i (hi.frozen_inner a i hf))).mono_fuel (by omega)

theorem depth_frozen {h : Heap} (hi : HeapInv h) {f i : Addr} (hf : h[f]? = some (Obj.frozen i)) :
    Depth h (.ref f) (fuelOf h) :=
  .frozen hf (depth_ownedVal hi (v := .ref i) (Or.inl (hi.frozen_inner f i hf)))

theorem absVal_of_depth {h : Heap} (hi : HeapInv h) {v : Val} {n : Nat} (d : Depth h v n) :
    ∀ fz, ∃ t, absVal fz n h v = some t := by
  induction d with
  | leaf l n => intro fz; exact ⟨.leaf l, absVal_leaf ..⟩
  | @dict _ _ _ n hg _ ih =>
    intro fz
    obtain ⟨ts, hts⟩ := KvRel.exists_of_forall (r := fun v t => absVal fz n h v = some t) (fun p hp => ih p hp fz)
    exact ⟨.node fz ts, by rw [absVal_dict hg, absKvs_iff.mpr hts]; rfl⟩
  | @frozen a i n hf _ ih =>
    intro fz
    obtain ⟨kvs, hg⟩ := hi.frozen_inner a i hf
    obtain ⟨t, ht⟩ := ih true
    obtain ⟨n, ts, rfl, hts, _⟩ := absVal_dict_inv hg ht
    -- the wrapper and its `_dict` are read with one unit of fuel, `Depth` counts them as two levels
    have hts' := absKvs_mono (fun p _ t ht => absVal_fuel_le h (Nat.le_succ n) true p.2 t ht) hts
    exact ⟨.node true ts, by rw [absVal_frozen hf hg, hts']; rfl⟩

theorem frozen_defined {h : Heap} (hi : HeapInv h) {f i : Addr} (hf : h[f]? = some (Obj.frozen i)) (fz : Bool) :
    ∃ ts, absVal fz (fuelOf h) h (.ref f) = some (.node true ts) := by
  obtain ⟨t, ht⟩ := absVal_of_depth hi (depth_frozen hi hf) fz
  obtain ⟨_, _, _, ts, _, _, _, rfl⟩ := absVal_frozen_inv hf ht
  exact ⟨ts, ht⟩

theorem Depth.of_dict {h : Heap} {a : Addr} {o : Bool} {kvs : List (Key × Val)} {k : Nat}
    (hg : h[a]? = some (Obj.dict o kvs)) (d : Depth h (.ref a) k) : ∃ k0, k = k0 + 1 ∧ ∀ p ∈ kvs, Depth h p.2 k0 := by
  cases d with
  | dict hg' hk => cases hg.symm.trans hg'; exact ⟨_, rfl, hk⟩
  | frozen hg' _ => cases hg.symm.trans hg'

theorem Depth.of_frozen {h : Heap} {a i : Addr} {k : Nat}
    (hg : h[a]? = some (Obj.frozen i)) (d : Depth h (.ref a) k) : ∃ k0, k = k0 + 1 ∧ Depth h (.ref i) k0 := by
  cases d with
  | dict hg' _ => cases hg.symm.trans hg'
  | frozen hg' di => cases hg.symm.trans hg'; exact ⟨_, rfl, di⟩

theorem deep_depth {n : Nat} {m : Mode} {own : Bool} {h h' : Heap} {v v' : Val}
    (hd : deep m own n h v = .ok (h', v')) : ∀ k, Depth h v k → Depth h' v' k := by
  refine deep_ok_induction (motive := fun _ _ h v h' v' => ∀ k, Depth h v k → Depth h' v' k)
    (fun _ d => d) ?_ ?_ ?_ ?_ hd
  · intro m own n h a o kvs h1 kvs' hget hmap ih k d
    obtain ⟨k0, rfl, hk⟩ := d.of_dict hget
    have hc := mapKvs_spec (I := fun _ => True) (Pin := fun h v => Depth h v k0) (Q := fun h v => Depth h v k0)
      deep_prefix (fun e _ d => d.mono_ext e) (fun e _ d => d.mono_ext e) (fun _ d hd => ⟨trivial, ih hd k0 d⟩)
      trivial (fun p hp => hk p (mem_ord hp)) hmap
    exact .dict (o := own) (kvs := kvs') (by simp) (fun p hp => (hc.2 p hp).mono_ext (List.prefix_append _ _))
  · intro own h a i hget k d
    obtain ⟨k0, rfl, di⟩ := d.of_frozen hget
    exact di.mono_fuel (Nat.le_succ _)
  · intro own n h a i h' v' hget _ ih k d
    obtain ⟨k0, rfl, di⟩ := d.of_frozen hget
    exact (ih k0 di).mono_fuel (Nat.le_succ _)
  · intro own n h a i h1 j hget _ ih k d
    obtain ⟨k0, rfl, di⟩ := d.of_frozen hget
    exact .frozen (i := j) (by simp) ((ih k0 di).mono_ext (List.prefix_append _ _))

theorem mkFrozen_total {h : Heap} {kvs : List (Key × Val)}
    (hk : ∀ p ∈ kvs, Depth h p.2 (fuelOf h)) : ∃ r, mkFrozen h kvs = .ok r := by
  obtain ⟨⟨h1, kvs'⟩, hm⟩ := mapKvs_total (f := deep .prepare true (fuelOf h)) deep_prefix kvs h
    (fun h1 e p hp => ((hk p hp).mono_ext e).deep_ok)
  simp only [mkFrozen, hm]
  exact ⟨_, rfl⟩

theorem wrapVal_total {h : Heap} {v : Val} (d : Depth h v (fuelOf h + 1)) : ∃ r, wrapVal h v = .ok r := by
  cases d with
  | leaf l => simp only [wrapVal]; exact ⟨_, rfl⟩
  | dict hg hk =>
    simp only [wrapVal, hg]
    exact mkFrozen_total hk
  | frozen hg _ => simp only [wrapVal, hg]; exact ⟨_, rfl⟩

theorem dictOf_frozen_total {h : Heap} (hi : HeapInv h) {f i : Addr} (hf : h[f]? = some (Obj.frozen i)) :
    ∃ h1 xs, dictOf h (.ref f) = .ok (h1, xs) := by
  obtain ⟨kvs, hg⟩ := hi.frozen_inner f i hf
  obtain ⟨⟨h1, xs⟩, hm⟩ := mapKvs_total (f := wrapVal) wrapVal_prefix kvs h (fun h1 e p hp =>
    wrapVal_total ((depth_ownedVal hi (hi.owned_closed i kvs hg p hp)).mono e
      (Nat.le_succ_of_le (Nat.le_succ_of_le e.length_le))))
  exact ⟨h1, xs, (dictOf_frozen hf hg).trans hm⟩

theorem step_walk_total {w : World} {x : Nat} {v : Val} (hx : w.roots[x]? = some v)
    (d : Depth w.heap v (fuelOf w.heap)) :
    (∃ w', step w (.unfreeze x) = .ok w') ∧ (∃ w', step w (.treeMap x) = .ok w') := by
  obtain ⟨⟨h1, r1⟩, hr1⟩ := d.deep_ok (m := .unfreeze) (own := false)
  obtain ⟨⟨h2, r2⟩, hr2⟩ := d.deep_ok (m := .tree) (own := false)
  refine ⟨?_, ?_⟩ <;> dsimp only [step]
  · simp only [hx, hr1]; exact ⟨_, rfl⟩
  · simp only [hx, hr2]; exact ⟨_, rfl⟩

theorem step_frozen_total {w : World} (hi : HeapInv w.heap) {x : Nat} {f i : Addr}
    (hx : w.roots[x]? = some (.ref f)) (hf : w.heap[f]? = some (Obj.frozen i)) :
    (∃ w', step w (.unfreeze x) = .ok w') ∧ (∃ w', step w (.treeMap x) = .ok w') ∧
    (∃ w', step w (.items x) = .ok w') ∧ (∃ w', step w (.freeze x) = .ok w') ∧
    (∃ w', step w (.copy x none) = .ok w') ∧ (∃ w', step w (.pickle x) = .ok w') ∧
    (∀ key, (∃ w', step w (.getitem x key) = .ok w') ∨ step w (.getitem x key) = .error .keyError) ∧
    (∀ key, (∃ w', step w (.pop x key) = .ok w') ∨ step w (.pop x key) = .error .keyError) := by
  have dF := depth_frozen hi hf
  obtain ⟨kvs, hg⟩ := hi.frozen_inner f i hf
  have hin : innerKvs w.heap i = .ok kvs := innerKvs_ok.mpr ⟨_, hg⟩
  have hown := hi.owned_closed i kvs hg
  obtain ⟨h1, xs, hd⟩ := dictOf_frozen_total hi hf
  obtain ⟨i1, _⟩ := dictOf_spec hi (x := .ref f) (Or.inr ⟨i, hf⟩) hd
  have hw := dictOf_frozen hf hg ▸ hd
  -- what `dict(fd)` hands out are leaves and FrozenDict objects
  obtain ⟨⟨h2, r⟩, hm⟩ := mkFrozen_total (h := h1) (kvs := xs) (by
    intro p hp
    cases hv : p.2 with
    | leaf l => exact .leaf l _
    | ref b =>
      obtain ⟨⟨j, hj⟩, _⟩ := mapWrap_result hw p hp b hv
      exact depth_frozen i1 hj)
  obtain ⟨hunfreeze, htreeMap⟩ := step_walk_total hx dF
  have hwrap : ∀ {key v}, kvGet kvs key = some v → ∃ r, wrapVal w.heap v = .ok r := fun hk =>
    wrapVal_total ((depth_ownedVal hi (hown _ (kvGet_mem hk))).mono_fuel (Nat.le_add_right _ 2))
  refine ⟨hunfreeze, htreeMap, ?_, ?_, ?_, ?_, ?_, ?_⟩
  · dsimp only [step]
    simp only [hx, hf, hd]
    exact ⟨_, rfl⟩
  · dsimp only [step]
    simp only [hx, hd, hm]
    exact ⟨_, rfl⟩
  · dsimp only [step]
    simp only [hx, hf, hd, hm]
    exact ⟨_, rfl⟩
  · -- pickle: `FrozenDict(unfreeze(fd))`
    obtain ⟨⟨hu, u⟩, hr⟩ := dF.deep_ok (m := .unfreeze) (own := false)
    have du := deep_depth hr _ dF
    have eu := deep_prefix hr
    -- the result of unfreezing a FrozenDict is a reference to a fresh dict
    have hr' := hr
    simp only [fuelOf, deep, hf] at hr'
    obtain ⟨j, kvsj, hj1, hj2⟩ := deep_of_dict hg hr'
    subst hj1
    have hdo : dictOf hu (.ref j) = .ok (hu, kvsj) := by simp only [dictOf, hj2]
    have hdj : ∀ p ∈ kvsj, Depth hu p.2 (fuelOf hu) := by
      obtain ⟨k0, hk0, hk⟩ := du.of_dict hj2
      cases hk0
      exact fun p hp => (hk p hp).mono_fuel (Nat.le_succ_of_le eu.length_le)
    obtain ⟨⟨h3, r3⟩, hm3⟩ := mkFrozen_total hdj
    dsimp only [step]
    simp only [hx, hf, hr, hdo, hm3]
    exact ⟨_, rfl⟩
  · intro key
    cases hk : kvGet kvs key with
    | none => exact Or.inr (by dsimp only [step]; simp only [hx, hf, hin, hk])
    | some v =>
      obtain ⟨⟨h', v'⟩, hw⟩ := hwrap hk
      refine Or.inl ?_
      dsimp only [step]
      simp only [hx, hf, hin, hk, hw]
      exact ⟨_, rfl⟩
  · intro key
    cases hk : kvGet kvs key with
    | none => exact Or.inr (by dsimp only [step]; simp only [hx, hf, hin, hk])
    | some v =>
      obtain ⟨⟨h', v'⟩, hw⟩ := hwrap hk
      have e1 := wrapVal_prefix hw
      obtain ⟨⟨h3, r3⟩, hm3⟩ := mkFrozen_total (h := h') (kvs := kvErase kvs key) (fun p hp =>
        (depth_ownedVal hi (hown p (mem_kvErase hp))).mono e1 (Nat.le_succ_of_le e1.length_le))
      refine Or.inl ?_
      dsimp only [step]
      simp only [hx, hf, hin, hk, hw, hm3]
      exact ⟨_, rfl⟩

end Flax.C15
