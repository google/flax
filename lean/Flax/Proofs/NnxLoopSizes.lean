/- C08 proofs: the sizes jax compares, for `nnx.vmap` and `nnx.scan` alike: every mapped size is among them
(`ListsSizes`: `vmapDims_mem`, for scan `scanDims_mem` in NnxLoopScanIter); if they all are `n`, so is every mapped size
(`eq_n`) and the size check returns `n` (`jaxLength_ok`). -/
import Flax.Proofs.NnxLoopToTree
import Flax.Proofs.LiftLoopLength

namespace Flax.NnxLoop
open Flax.Filter Flax.LiftLoop

section dims
variable {α : Type}

theorem vmapDims_ok_iff {pure : List (PureArg α)} {dims : List Nat} :
    vmapDims pure = .ok dims ↔ ∃ ds, mapX argDims pure = .ok ds ∧ dims = ds.flatten := by
  simp only [vmapDims]
  cases mapX argDims pure with
  | error e => exact ⟨fun h => (nomatch h), fun ⟨_, h, _⟩ => (nomatch h)⟩
  | ok ds => exact ⟨fun h => ⟨ds, rfl, (Except.ok.inj h).symm⟩, fun ⟨_, h, hd⟩ => by cases h; rw [hd]⟩

/-- among `dims` is the size along its axis of every mapped Variable and of every mapped array argument -/
def ListsSizes (store : Store α) (pas : List (Prefix × Arg α)) (seen : List VarId) (dims : List Nat) : Prop :=
  (∀ ep ∈ ownedAll pas seen, ∀ k, ep.2.at ep.1 = .ok (.axis k) →
    ∃ v d, store.lookup ep.1.id = some v ∧ dimAt k v = .ok d ∧ d ∈ dims) ∧
  (∀ pa ∈ arrArgs pas, ∀ k, pa.1 = .ax (.axis k) → ∃ d, dimAt k pa.2 = .ok d ∧ d ∈ dims)

theorem vmapDims_mem {store : Store α} {pas : List (Prefix × Arg α)} {np : NodePrefixes} {seen : List VarId}
    {pure : List (PureArg α)} {dims : List Nat} (hS : Splits store pas np seen pure)
    (hd : vmapDims pure = .ok dims) : ListsSizes store pas seen dims := by
  refine And.intro ?_ ?_
  · intro ep hep k hk
    obtain ⟨g, flat, sts, hm, he, hfl, hsp⟩ := hS.of_owned ep hep
    obtain ⟨dss, hdss, rfl⟩ := vmapDims_ok_iff.1 hd
    obtain ⟨dx, hx, hdx⟩ := mapX_ok_mem hdss _ hm
    obtain ⟨v, s, hv, hz, hin⟩ := split_entry_item hfl hsp he hk
    simp only [argDims, statesDims] at hx
    cases hm2 : mapX (fun q => stateDims q.1 q.2) (ep.2.axes.zip sts) with
    | error e' => simp [hm2] at hx
    | ok ds =>
      simp only [hm2] at hx
      cases hx
      obtain ⟨dg, hF, hdg⟩ := mapX_ok_mem hm2 _ hz
      simp only [stateDims] at hF
      obtain ⟨d, hd1, hd2⟩ := mapX_ok_mem hF _ hin
      exact ⟨v, d, hv, liftL_ok.1 hd1, List.mem_flatten.2 ⟨_, hdx, List.mem_flatten.2 ⟨dg, hdg, hd2⟩⟩⟩
  · intro pa hpa k hk
    obtain ⟨dss, hdss, rfl⟩ := vmapDims_ok_iff.1 hd
    obtain ⟨dx, hx, hdx⟩ := mapX_ok_mem hdss _ (hS.of_arr pa hpa)
    rw [hk] at hx
    simp only [argDims] at hx
    cases hda : liftL (dimAt k pa.2) with
    | error e => simp [hda] at hx
    | ok d =>
      simp only [hda] at hx
      cases hx
      exact ⟨d, liftL_ok.1 hda, List.mem_flatten.2 ⟨_, hdx, List.mem_cons_self⟩⟩

theorem ListsSizes.eq_n {store : Store α} {pas : List (Prefix × Arg α)} {seen : List VarId} {dims : List Nat}
    {L : Option Nat} {n : Nat} (h : ListsSizes store pas seen dims) (hn : jaxLength L dims = .ok n) :
    (∀ ep ∈ ownedAll pas seen, ∀ k, ep.2.at ep.1 = .ok (.axis k) →
      ∃ v, store.lookup ep.1.id = some v ∧ dimAt k v = .ok n) ∧
    (∀ pa ∈ arrArgs pas, ∀ k, pa.1 = .ax (.axis k) → dimAt k pa.2 = .ok n) ∧
    (∀ m, L = some m → m = n) := by
  obtain ⟨hall, hL, _⟩ := jaxLength_eq_ok.1 hn
  refine ⟨?_, ?_, hL⟩
  · intro ep hep k hk
    obtain ⟨v, d, e1, e2, e3⟩ := h.1 ep hep k hk
    exact ⟨v, e1, by rw [← hall d e3]; exact e2⟩
  · intro pa hpa k hk
    obtain ⟨d, e1, e2⟩ := h.2 pa hpa k hk
    rw [← hall d e2]; exact e1

/-- something is mapped: jax asks for it when no size is given -/
def HasMapped (pas : List (Prefix × Arg α)) (seen : List VarId) : Prop :=
  (∃ ep ∈ ownedAll pas seen, ∃ k, ep.2.at ep.1 = .ok (.axis k)) ∨ (∃ pa ∈ arrArgs pas, ∃ k, pa.1 = .ax (.axis k))

theorem ListsSizes.jaxLength_ok {store : Store α} {pas : List (Prefix × Arg α)} {seen : List VarId} {dims : List Nat}
    {L : Option Nat} {n : Nat} (h : ListsSizes store pas seen dims) (hall : ∀ d ∈ dims, d = n)
    (h1 : ∀ m, L = some m → m = n) (h2 : L = none → HasMapped pas seen) : jaxLength L dims = .ok n := by
  refine jaxLength_eq_ok.2 ⟨hall, h1, ?_⟩
  intro hnone hde
  subst hde
  rcases h2 hnone with ⟨ep, hep, k, hk⟩ | ⟨pa, hpa, k, hk⟩
  · obtain ⟨_, d, _, _, hd⟩ := h.1 ep hep k hk
    cases hd
  · obtain ⟨d, _, hd⟩ := h.2 pa hpa k hk
    cases hd

end dims

end Flax.NnxLoop
