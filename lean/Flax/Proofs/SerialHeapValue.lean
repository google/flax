/-
Value-level refinement for the in-place passes (`Flax/Model/SerialHeap.lean`): run on a state dict
that was just built out of fresh dict objects, a pass leaves behind a heap whose read-back is the
pure function `mapLeaves step` of the state dict — for the chunking pass, `Serial.chunkLeaves`.
-/
import Flax.Proofs.SerialHeap

namespace Flax.SerialHeap
open Flax.Serial

mutual
  /-- what a pass does to the value: every leaf `step` selects is replaced by what `step` gives
  (which is not visited again) -/
  def mapLeaves (step : Leaf → Option STree) : STree → STree
    | .leaf v =>
      match step v with
      | none => .leaf v
      | some s => s
    | .dict kvs => .dict (mapKvs step kvs)
  def mapKvs (step : Leaf → Option STree) : List (String × STree) → List (String × STree)
    | [] => []
    | (k, v) :: r => (k, mapLeaves step v) :: mapKvs step r
end

mutual
  theorem mapLeaves_chunkStep (T : Nat) (isz : String → Nat) : ∀ (s : STree),
      mapLeaves (chunkStep T isz) s = chunkLeaves T isz s
    | .leaf v => by
      cases v with
      | ndarray a =>
        simp only [mapLeaves, chunkStep, chunkLeaves]
        split <;> simp_all
      | _ => simp [mapLeaves, chunkStep, chunkLeaves]
    | .dict kvs => by simp [mapLeaves, chunkLeaves, mapKvs_chunkStep T isz kvs]
  theorem mapKvs_chunkStep (T : Nat) (isz : String → Nat) : ∀ (kvs : List (String × STree)),
      mapKvs (chunkStep T isz) kvs = chunkKvs T isz kvs
    | [] => rfl
    | (k, v) :: r => by simp [mapKvs, chunkKvs, mapLeaves_chunkStep T isz v, mapKvs_chunkStep T isz r]
end

mutual
  /-- a leaf counts 0, fuel must be above the depth (`MVal.depth`: a leaf counts 1, fuel at least the depth) -/
  def sdepth : STree → Nat
    | .leaf _ => 0
    | .dict kvs => 1 + sdepthKvs kvs
  def sdepthKvs : List (String × STree) → Nat
    | [] => 0
    | (_, v) :: r => max (sdepth v) (sdepthKvs r)
end

mutual
  /-- `v` represents `s` in heap `g` exactly the way `allocSTree` lays it out: post-order, the dict objects of `s`
  occupy the addresses `[lo, hi)`, a dict sits right after its entries, so siblings lie in consecutive intervals. -/
  def RepT (g : Heap) : HVal → STree → Nat → Nat → Prop
    | v, .leaf y, lo, hi => v = .leaf y ∧ lo = hi
    | v, .dict kvs, lo, hi => ∃ a obj, v = .ref a ∧ a + 1 = hi ∧ g[a]? = some obj ∧ RepK g obj kvs lo a
  def RepK (g : Heap) : DictObj → List (String × STree) → Nat → Nat → Prop
    | obj, [], lo, hi => obj = [] ∧ lo = hi
    | obj, (k, s) :: r, lo, hi => ∃ v o mid, obj = (k, v) :: o ∧ RepT g v s lo mid ∧ RepK g o r mid hi
end

mutual
  /-- `v` represents `s` in `g` using only addresses that satisfy `P` (no layout) -/
  def RepO (P : Nat → Prop) (g : Heap) : HVal → STree → Prop
    | v, .leaf y => v = .leaf y
    | v, .dict kvs => ∃ a obj, v = .ref a ∧ P a ∧ g[a]? = some obj ∧ RepOK P g obj kvs
  def RepOK (P : Nat → Prop) (g : Heap) : DictObj → List (String × STree) → Prop
    | obj, [] => obj = []
    | obj, (k, s) :: r => ∃ v o, obj = (k, v) :: o ∧ RepO P g v s ∧ RepOK P g o r
end

mutual
  theorem RepT.le (g : Heap) : ∀ (s : STree) (v : HVal) (lo hi : Nat), RepT g v s lo hi → lo ≤ hi
    | .leaf y, v, lo, hi, h => by simp only [RepT] at h; omega
    | .dict kvs, v, lo, hi, h => by
      simp only [RepT] at h
      obtain ⟨a, obj, _, h2, _, h4⟩ := h
      have := RepK.le g kvs obj lo a h4
      omega
  theorem RepK.le (g : Heap) : ∀ (kvs : List (String × STree)) (obj : DictObj) (lo hi : Nat),
      RepK g obj kvs lo hi → lo ≤ hi
    | [], obj, lo, hi, h => by simp only [RepK] at h; omega
    | (k, s) :: r, obj, lo, hi, h => by
      simp only [RepK] at h
      obtain ⟨v, o, mid, _, h2, h3⟩ := h
      have := RepT.le g s v lo mid h2
      have := RepK.le g r o mid hi h3
      omega
end

mutual
  theorem RepT.frame (g g' : Heap) : ∀ (s : STree) (v : HVal) (lo hi : Nat),
      (∀ x, lo ≤ x → x < hi → g'[x]? = g[x]?) → RepT g v s lo hi → RepT g' v s lo hi
    | .leaf y, v, lo, hi, _, h => by simpa only [RepT] using h
    | .dict kvs, v, lo, hi, hf, h => by
      simp only [RepT] at h ⊢
      obtain ⟨a, obj, h1, h2, h3, h4⟩ := h
      have hle := RepK.le g kvs obj lo a h4
      refine ⟨a, obj, h1, h2, by rw [hf a (by omega) (by omega)]; exact h3, ?_⟩
      exact RepK.frame g g' kvs obj lo a (fun x h1 h2 => hf x h1 (by omega)) h4
  theorem RepK.frame (g g' : Heap) : ∀ (kvs : List (String × STree)) (obj : DictObj) (lo hi : Nat),
      (∀ x, lo ≤ x → x < hi → g'[x]? = g[x]?) → RepK g obj kvs lo hi → RepK g' obj kvs lo hi
    | [], obj, lo, hi, _, h => by simpa only [RepK] using h
    | (k, s) :: r, obj, lo, hi, hf, h => by
      simp only [RepK] at h ⊢
      obtain ⟨v, o, mid, h1, h2, h3⟩ := h
      have l1 := RepT.le g s v lo mid h2
      have l2 := RepK.le g r o mid hi h3
      exact ⟨v, o, mid, h1, RepT.frame g g' s v lo mid (fun x a b => hf x a (by omega)) h2,
        RepK.frame g g' r o mid hi (fun x a b => hf x (by omega) b) h3⟩
end

mutual
  theorem RepO.frame (P Q : Nat → Prop) (g g' : Heap) (hpq : ∀ x, P x → Q x)
      (hf : ∀ x, P x → g'[x]? = g[x]?) : ∀ (s : STree) (v : HVal), RepO P g v s → RepO Q g' v s
    | .leaf y, v, h => by simpa only [RepO] using h
    | .dict kvs, v, h => by
      simp only [RepO] at h ⊢
      obtain ⟨a, obj, h1, h2, h3, h4⟩ := h
      exact ⟨a, obj, h1, hpq a h2, by rw [hf a h2]; exact h3, RepOK.frame P Q g g' hpq hf kvs obj h4⟩
  theorem RepOK.frame (P Q : Nat → Prop) (g g' : Heap) (hpq : ∀ x, P x → Q x)
      (hf : ∀ x, P x → g'[x]? = g[x]?) : ∀ (kvs : List (String × STree)) (obj : DictObj),
      RepOK P g obj kvs → RepOK Q g' obj kvs
    | [], obj, h => by simpa only [RepOK] using h
    | (k, s) :: r, obj, h => by
      simp only [RepOK] at h ⊢
      obtain ⟨v, o, h1, h2, h3⟩ := h
      exact ⟨v, o, h1, RepO.frame P Q g g' hpq hf s v h2, RepOK.frame P Q g g' hpq hf r o h3⟩
end

mutual
  theorem RepT.toRepO (g : Heap) : ∀ (s : STree) (v : HVal) (lo hi : Nat), RepT g v s lo hi →
      RepO (fun x => lo ≤ x ∧ x < hi) g v s
    | .leaf y, v, lo, hi, h => by simp only [RepT] at h; simp only [RepO]; exact h.1
    | .dict kvs, v, lo, hi, h => by
      simp only [RepT] at h
      simp only [RepO]
      obtain ⟨a, obj, h1, h2, h3, h4⟩ := h
      have hle := RepK.le g kvs obj lo a h4
      refine ⟨a, obj, h1, ⟨by omega, by omega⟩, h3, ?_⟩
      exact RepOK.frame _ _ g g (fun x hx => ⟨hx.1, by omega⟩) (fun _ _ => rfl) kvs obj
        (RepK.toRepOK g kvs obj lo a h4)
  theorem RepK.toRepOK (g : Heap) : ∀ (kvs : List (String × STree)) (obj : DictObj) (lo hi : Nat),
      RepK g obj kvs lo hi → RepOK (fun x => lo ≤ x ∧ x < hi) g obj kvs
    | [], obj, lo, hi, h => by simp only [RepK] at h; simp only [RepOK]; exact h.1
    | (k, s) :: r, obj, lo, hi, h => by
      simp only [RepK] at h
      simp only [RepOK]
      obtain ⟨v, o, mid, h1, h2, h3⟩ := h
      have l1 := RepT.le g s v lo mid h2
      have l2 := RepK.le g r o mid hi h3
      exact ⟨v, o, h1,
        RepO.frame _ _ g g (fun x hx => ⟨hx.1, by omega⟩) (fun _ _ => rfl) s v (RepT.toRepO g s v lo mid h2),
        RepOK.frame _ _ g g (fun x hx => ⟨by omega, hx.2⟩) (fun _ _ => rfl) r o (RepK.toRepOK g r o mid hi h3)⟩
end

theorem keys_of_RepK (g : Heap) : ∀ (kvs : List (String × STree)) (obj : DictObj) (lo hi : Nat),
    RepK g obj kvs lo hi → keys obj = keys kvs
  | [], obj, lo, hi, h => by simp only [RepK] at h; rw [h.1]; rfl
  | (k, s) :: r, obj, lo, hi, h => by
    simp only [RepK] at h
    obtain ⟨v, o, mid, h1, _, h3⟩ := h
    rw [h1, keys_cons, keys_cons, keys_of_RepK g r o mid hi h3]

mutual
  theorem readBack_of_RepO (P : Nat → Prop) (g : Heap) : ∀ (s : STree) (v : HVal) (fuel : Nat),
      sdepth s < fuel → RepO P g v s → readBack fuel g v = some s
    | .leaf y, v, fuel, hd, h => by
      simp only [RepO] at h
      cases fuel with
      | zero => omega
      | succ f => simp [h, readBack]
    | .dict kvs, v, fuel, hd, h => by
      simp only [RepO] at h
      obtain ⟨a, obj, h1, _, h3, h4⟩ := h
      cases fuel with
      | zero => omega
      | succ f =>
        simp only [sdepth] at hd
        simp [h1, readBack, h3, readBackGo_of_RepOK P g kvs obj f (by omega) h4]
  theorem readBackGo_of_RepOK (P : Nat → Prop) (g : Heap) : ∀ (kvs : List (String × STree)) (obj : DictObj)
      (fuel : Nat), sdepthKvs kvs < fuel → RepOK P g obj kvs →
      readBack.go (readBack fuel g) obj = some kvs
    | [], obj, fuel, _, h => by simp only [RepOK] at h; simp [h, readBack.go]
    | (k, s) :: r, obj, fuel, hd, h => by
      simp only [RepOK] at h
      obtain ⟨v, o, h1, h2, h3⟩ := h
      simp only [sdepthKvs] at hd
      have e1 := readBack_of_RepO P g s v fuel (by omega) h2
      have e2 := readBackGo_of_RepOK P g r o fuel (by omega) h3
      simp [h1, readBack.go, e1, e2]
end

mutual
  theorem allocSTree_RepT : ∀ (s : STree) (h : Heap),
      RepT (allocSTree h s).1 (allocSTree h s).2 s h.length (allocSTree h s).1.length
    | .leaf v, h => by simp [allocSTree, RepT]
    | .dict kvs, h => by
      have ih := allocKvs_RepK kvs h
      simp only [allocSTree, alloc, RepT]
      refine ⟨(allocKvs h kvs).1.length, (allocKvs h kvs).2, rfl, by simp, by simp, ?_⟩
      exact RepK.frame _ _ kvs _ _ _ (fun x _ hx => List.getElem?_append_left hx) ih
  theorem allocKvs_RepK : ∀ (kvs : List (String × STree)) (h : Heap),
      RepK (allocKvs h kvs).1 (allocKvs h kvs).2 kvs h.length (allocKvs h kvs).1.length
    | [], h => by simp [allocKvs, RepK]
    | (k, s) :: r, h => by
      have i1 := allocSTree_RepT s h
      have i2 := allocKvs_RepK r (allocSTree h s).1
      have p2 := (allocKvs_fresh r (allocSTree h s).1).isPrefix
      simp only [allocKvs, RepK]
      refine ⟨(allocSTree h s).2, (allocKvs (allocSTree h s).1 r).2, (allocSTree h s).1.length, rfl, ?_, i2⟩
      exact RepT.frame _ _ s _ _ _ (fun x _ hx => getElem?_of_prefix p2 hx) i1
end

theorem disjoint_snoc {k : String} {s : STree} {r : List (String × STree)} {doneObj : DictObj}
    (hk : k ∉ keys r) (hdisj : ∀ k', k' ∈ keys ((k, s) :: r) → k' ∉ keys doneObj) (nv : HVal) :
    ∀ k', k' ∈ keys r → k' ∉ keys (doneObj ++ [(k, nv)]) := by
  intro k' hk' hm
  rcases List.mem_append.mp (List.map_append ▸ hm : k' ∈ keys doneObj ++ keys [(k, nv)]) with hm | hm
  · exact hdisj k' (List.mem_cons_of_mem _ hk') hm
  · rcases List.mem_cons.mp hm with rfl | hm
    · exact hk hk'
    · cases hm

theorem RepOK.snoc (P : Nat → Prop) (g : Heap) (k : String) (v : HVal) (s : STree) (hv : RepO P g v s) :
    ∀ (ds : List (String × STree)) (d : DictObj), RepOK P g d ds → RepOK P g (d ++ [(k, v)]) (ds ++ [(k, s)])
  | [], d, h => by
    simp only [RepOK] at h
    subst h
    simp only [List.nil_append, RepOK]
    exact ⟨v, [], rfl, hv, rfl⟩
  | (k0, s0) :: r, d, h => by
    simp only [RepOK] at h
    obtain ⟨v0, o, h1, h2, h3⟩ := h
    subst h1
    simp only [List.cons_append, RepOK]
    exact ⟨v0, o ++ [(k, v)], rfl, h2, RepOK.snoc P g k v s hv r o h3⟩

theorem inPlace_val_ref (step : Leaf → Option STree) (fuel : Nat) (g : Heap) (c : Nat) :
    (inPlace step fuel g (.ref c)).val = .ref c := by
  cases fuel with
  | zero => simp [inPlace]
  | succ f =>
    simp only [inPlace]
    cases g[c]? <;> simp

/-- the addresses a half-done pass may hand out: the part `[lo, hi)` of the original layout it has
walked, and what was allocated from `G` on -/
def Own (lo hi G len x : Nat) : Prop := (lo ≤ x ∧ x < hi) ∨ (G ≤ x ∧ x < len)

theorem Own.mono {lo hi G len lo' hi' G' len' x : Nat} (h : Own lo hi G len x) (h1 : lo' ≤ lo) (h2 : hi ≤ hi')
    (h3 : G' ≤ G) (h4 : len ≤ len') : Own lo' hi' G' len' x :=
  h.elim (fun h => Or.inl ⟨Nat.le_trans h1 h.1, Nat.lt_of_lt_of_le h.2 h2⟩)
    (fun h => Or.inr ⟨Nat.le_trans h3 h.1, Nat.lt_of_lt_of_le h.2 h4⟩)

theorem Own.outside {lo hi G len a x : Nat} (h : Own lo hi G len x) (hG : G ≤ len) (hh : hi ≤ a) (ha : a < G) :
    x < len ∧ ¬(hi ≤ x ∧ x < a + 1) := by
  rcases h with h | h
  · exact ⟨by omega, by omega⟩
  · exact ⟨h.2, by omega⟩

theorem passEntries_entry (step : Leaf → Option STree) (recur : Heap → HVal → Out) {h : Heap} {a : Nat}
    {d o : DictObj} {k : String} {v : HVal} (hget : h[a]? = some (d ++ (k, v) :: o)) (hk : k ∉ keys d)
    (ks : List String) (w : List Nat) :
    passEntries step recur a (k :: ks) h w =
      match v with
      | .leaf y =>
        match step y with
        | none => passEntries step recur a ks h w
        | some s => passEntries step recur a ks (setItem (allocSTree h s).1 a k (allocSTree h s).2) (w ++ [a])
      | .ref c => passEntries step recur a ks (recur h (.ref c)).heap (w ++ (recur h (.ref c)).writes) := by
  simp only [passEntries, hget, lookup_append_of_notin d k v o hk]
  cases v with
  | leaf y => rfl
  | ref c => rfl

theorem setItem_entry {h : Heap} {a : Nat} {d o : DictObj} {k : String} {v : HVal}
    (hget : h[a]? = some (d ++ (k, v) :: o)) (hk : k ∉ keys d) (nv : HVal) :
    (setItem h a k nv)[a]? = some (d ++ [(k, nv)] ++ o) ∧ (setItem h a k nv).length = h.length ∧
    ∀ x, x ≠ a → (setItem h a k nv)[x]? = h[x]? := by
  obtain ⟨h1, h2, h3⟩ := setItem_at h a k nv _ hget
  rw [dictSet_append_of_notin d k v nv o hk] at h1
  exact ⟨by rw [List.append_assoc]; exact h1, h2, h3⟩

/-- `step` never introduces a dict (the step of `_np_convert_in_place`) -/
def LeafOnly (step : Leaf → Option STree) : Prop := ∀ v s, step v = some s → ∃ y, s = .leaf y

theorem RepK.snoc (g : Heap) (k : String) (v : HVal) (s : STree) :
    ∀ (ds : List (String × STree)) (d : DictObj) (lo mid mid' : Nat), RepK g d ds lo mid →
      RepT g v s mid mid' → RepK g (d ++ [(k, v)]) (ds ++ [(k, s)]) lo mid'
  | [], d, lo, mid, mid', h, hv => by
    simp only [RepK] at h
    obtain ⟨rfl, rfl⟩ := h
    simp only [List.nil_append, RepK]
    exact ⟨v, [], mid', rfl, hv, rfl, rfl⟩
  | (k0, s0) :: r, d, lo, mid, mid', h, hv => by
    simp only [RepK] at h
    obtain ⟨v0, o, m0, h1, h2, h3⟩ := h
    subst h1
    simp only [List.cons_append, RepK]
    exact ⟨v0, o ++ [(k, v)], m0, rfl, h2, RepK.snoc g k v s r o m0 mid mid' h3 hv⟩

/-- `step`, run with fuel `n` on a sub-tree laid out in `[lo, hi)`, leaves a representation of
`mapLeaves step` of it in `[lo, hi)` and what it allocated, and touches nothing else. A leaf-only step moreover keeps
the exact layout and allocates nothing: that is what lets the second pass start where the first ended. -/
def Refines (step : Leaf → Option STree) (n : Nat) : Prop :=
  ∀ (s : STree) (g : Heap) (v : HVal) (lo hi : Nat), sdepth s < n → s.wf = true → RepT g v s lo hi →
    hi ≤ g.length →
    RepO (Own lo hi g.length (inPlace step n g v).heap.length) (inPlace step n g v).heap (inPlace step n g v).val
      (mapLeaves step s) ∧
    g.length ≤ (inPlace step n g v).heap.length ∧
    (∀ x, x < g.length → ¬(lo ≤ x ∧ x < hi) → (inPlace step n g v).heap[x]? = g[x]?) ∧
    (LeafOnly step → RepT (inPlace step n g v).heap (inPlace step n g v).val (mapLeaves step s) lo hi ∧
      (inPlace step n g v).heap.length = g.length)

/-- one turn of the loop: the entry under `k` comes to represent `mapLeaves step s`; the heap only grows; nothing changes
outside `[mid, a]`, nor in `[mid', a)` where the entries to come lie; a leaf-only step keeps layout and length -/
theorem entry_refines (step : Leaf → Option STree) (f : Nat) (hrec : Refines step f) {a mid mid' : Nat}
    {gc : Heap} {d o : DictObj} {k : String} {v : HVal} {s : STree}
    (hget : gc[a]? = some (d ++ (k, v) :: o)) (hk : k ∉ keys d) (hds : sdepth s < f) (hw : s.wf = true)
    (hv : RepT gc v s mid mid') (hma : mid' ≤ a) (ks : List String) (w : List Nat) :
    ∃ g1 v1 w1, passEntries step (inPlace step f) a (k :: ks) gc w = passEntries step (inPlace step f) a ks g1 w1 ∧
      g1[a]? = some (d ++ [(k, v1)] ++ o) ∧
      RepO (Own mid mid' gc.length g1.length) g1 v1 (mapLeaves step s) ∧ gc.length ≤ g1.length ∧
      (∀ x, x < gc.length → ¬(mid ≤ x ∧ x < a + 1) → g1[x]? = gc[x]?) ∧
      (∀ x, mid' ≤ x → x < a → g1[x]? = gc[x]?) ∧
      (LeafOnly step → RepT g1 v1 (mapLeaves step s) mid mid' ∧ g1.length = gc.length) := by
  have ha : a < gc.length := (List.getElem?_eq_some_iff.mp hget).1
  have hget' : gc[a]? = some (d ++ [(k, v)] ++ o) := by rw [List.append_assoc]; exact hget
  rw [passEntries_entry step _ hget hk]
  cases s with
  | leaf y =>
    simp only [RepT] at hv
    obtain ⟨rfl, rfl⟩ := hv
    simp only [mapLeaves]
    cases hst : step y with
    | none =>
      exact ⟨gc, .leaf y, w, rfl, hget', rfl, Nat.le_refl _, fun _ _ _ => rfl, fun _ _ _ => rfl,
        fun _ => ⟨⟨rfl, rfl⟩, rfl⟩⟩
    | some s' =>
      have hpre := (allocSTree_fresh s' gc).isPrefix
      have hlen : gc.length ≤ (allocSTree gc s').1.length := hpre.length_le
      have hsame : ∀ x, x < gc.length → (allocSTree gc s').1[x]? = gc[x]? := fun x hx => getElem?_of_prefix hpre hx
      obtain ⟨hs1, hs2, hs3⟩ := setItem_entry (hget ▸ hsame a ha) hk (allocSTree gc s').2
      refine ⟨_, _, _, rfl, hs1, ?_, by rw [hs2]; exact hlen,
        fun x hx hn => by rw [hs3 x (by omega), hsame x hx],
        fun x _ hxa => by rw [hs3 x (Nat.ne_of_lt hxa), hsame x (Nat.lt_trans hxa ha)],
        fun hl => by obtain ⟨z, rfl⟩ := hl y s' hst; exact ⟨⟨rfl, rfl⟩, hs2⟩⟩
      apply RepO.frame _ _ (allocSTree gc s').1 _ _ _ s' _ (RepT.toRepO _ s' _ _ _ (allocSTree_RepT s' gc))
      · intro x hx; exact Or.inr ⟨hx.1, by rw [hs2]; exact hx.2⟩
      · intro x hx; exact hs3 x (Nat.ne_of_gt (Nat.lt_of_lt_of_le ha hx.1))
  | dict kvs' =>
    obtain ⟨m1, m2, m3, m4⟩ := hrec (.dict kvs') gc v mid mid' hds hw hv (Nat.le_trans hma (Nat.le_of_lt ha))
    simp only [RepT] at hv
    obtain ⟨c, objc, rfl, _, _, _⟩ := hv
    rw [inPlace_val_ref] at m1 m4
    refine ⟨_, _, _, rfl, ?_, m1, m2, fun x hx hn => m3 x hx (by omega),
      fun x h1 h2 => m3 x (Nat.lt_trans h2 ha) (fun h => Nat.not_lt.mpr h1 h.2), m4⟩
    rw [m3 a ha (fun h => Nat.not_lt.mpr hma h.2)]
    exact hget'

/-- the loop over the dict at `a`, part-way: the walked entries `doneObj` represent `doneS` in `[lo, mid)` and what was
allocated from `G` on; those to come, `todoObj`, are still laid out as `kvs` in `[mid, a)` -/
theorem loop_refines (step : Leaf → Option STree) (f : Nat) (hrec : Refines step f) (a lo G : Nat) (haG : a < G) :
    ∀ (kvs : List (String × STree)) (mid : Nat) (gc : Heap) (doneObj todoObj : DictObj)
      (doneS : List (String × STree)) (w : List Nat) (g' : Heap) (w' : List Nat),
      sdepthKvs kvs < f → swfKvs kvs = true → (keys kvs).Nodup → (∀ k, k ∈ keys kvs → k ∉ keys doneObj) →
      G ≤ gc.length → lo ≤ mid → gc[a]? = some (doneObj ++ todoObj) → RepK gc todoObj kvs mid a →
      RepOK (Own lo mid G gc.length) gc doneObj doneS → (LeafOnly step → RepK gc doneObj doneS lo mid) →
      passEntries step (inPlace step f) a (keys kvs) gc w = (g', w') →
      ∃ fin, g'[a]? = some fin ∧ RepOK (Own lo a G g'.length) g' fin (doneS ++ mapKvs step kvs) ∧
        gc.length ≤ g'.length ∧ (∀ x, x < gc.length → ¬(mid ≤ x ∧ x < a + 1) → g'[x]? = gc[x]?) ∧
        (LeafOnly step → RepK g' fin (doneS ++ mapKvs step kvs) lo a ∧ g'.length = gc.length) := by
  intro kvs
  induction kvs with
  | nil =>
    intro mid gc doneObj todoObj doneS w g' w' _ _ _ _ _ _ hget hk hdone hdoneT hp
    simp only [RepK] at hk
    obtain ⟨rfl, rfl⟩ := hk
    obtain ⟨rfl, rfl⟩ := Prod.mk.inj hp
    rw [List.append_nil] at hget
    rw [mapKvs, List.append_nil]
    exact ⟨doneObj, hget, hdone, Nat.le_refl _, fun _ _ _ => rfl, fun hl => ⟨hdoneT hl, rfl⟩⟩
  | cons p r ih =>
    obtain ⟨k, s⟩ := p
    intro mid gc doneObj todoObj doneS w g' w' hd hw hnd hdisj hG hlo hget hk hdone hdoneT hp
    simp only [RepK] at hk
    obtain ⟨v, o', mid', rfl, hv, hrest⟩ := hk
    obtain ⟨hds, hdr⟩ := Nat.max_lt.mp hd
    simp only [swfKvs, Bool.and_eq_true] at hw
    rw [keys_cons, List.nodup_cons] at hnd
    have hkd : k ∉ keys doneObj := hdisj k List.mem_cons_self
    have hmm := RepT.le gc s v mid mid' hv
    have hma := RepK.le gc r o' mid' a hrest
    have hmida : mid ≤ a := Nat.le_trans hmm hma
    obtain ⟨g1, v1, w1, e, hg1, hnew, hlen, hout, hin, hT⟩ :=
      entry_refines step f hrec hget hkd hds hw.1 hv hma (keys r) w
    rw [keys_cons, e] at hp
    have hdone1 : RepOK (Own lo mid' G g1.length) g1 doneObj doneS :=
      RepOK.frame _ _ gc g1 (fun x hx => hx.mono (Nat.le_refl _) hmm (Nat.le_refl _) hlen)
        (fun x hx => hout x (hx.outside hG hmida haG).1 (hx.outside hG hmida haG).2) doneS doneObj hdone
    have hnew1 : RepO (Own lo mid' G g1.length) g1 v1 (mapLeaves step s) :=
      RepO.frame _ _ g1 g1 (fun x hx => hx.mono hlo (Nat.le_refl _) hG (Nat.le_refl _)) (fun _ _ => rfl) _ _ hnew
    -- leaf-only: the walked entries keep their layout, as nothing below `mid` was touched
    have hdoneT1 : LeafOnly step → RepK g1 (doneObj ++ [(k, v1)]) (doneS ++ [(k, mapLeaves step s)]) lo mid' :=
      fun hl => RepK.snoc g1 k v1 _ doneS doneObj lo mid mid'
        (RepK.frame gc g1 doneS doneObj lo mid
          (fun x _ hx => hout x (Nat.lt_of_lt_of_le (Nat.lt_of_lt_of_le hx hmida) (Nat.le_trans (Nat.le_of_lt haG) hG))
            (fun h => Nat.not_lt.mpr h.1 hx)) (hdoneT hl)) (hT hl).1
    obtain ⟨fin, h1, h2, h3, h4, h5⟩ := ih mid' g1 (doneObj ++ [(k, v1)]) o' (doneS ++ [(k, mapLeaves step s)]) w1 g' w'
      hdr hw.2 hnd.2 (disjoint_snoc hnd.1 hdisj v1) (Nat.le_trans hG hlen) (Nat.le_trans hlo hmm) hg1
      (RepK.frame gc g1 r o' mid' a hin hrest) (RepOK.snoc _ g1 k v1 _ hnew1 doneS doneObj hdone1) hdoneT1 hp
    rw [mapKvs, List.append_cons]
    refine ⟨fin, h1, h2, Nat.le_trans hlen h3, fun x hx hn => ?_, fun hl => ⟨(h5 hl).1, by rw [(h5 hl).2, (hT hl).2]⟩⟩
    rw [h4 x (Nat.lt_of_lt_of_le hx hlen) (fun h => hn ⟨Nat.le_trans hmm h.1, h.2⟩)]
    exact hout x hx hn

theorem inPlace_refines (step : Leaf → Option STree) : ∀ (fuel : Nat), Refines step fuel := by
  intro fuel
  induction fuel with
  | zero => intro s g v lo hi hd; omega
  | succ f ih =>
    intro s g v lo hi hd hw hr hhi
    cases s with
    | leaf y =>
      simp only [RepT] at hr
      obtain ⟨rfl, rfl⟩ := hr
      simp only [inPlace, mapLeaves]
      cases hst : step y with
      | none => exact ⟨rfl, Nat.le_refl _, fun _ _ _ => rfl, fun _ => ⟨⟨rfl, rfl⟩, rfl⟩⟩
      | some s' =>
        simp only
        have hpre := (allocSTree_fresh s' g).isPrefix
        exact ⟨RepO.frame _ _ _ _ (fun x hx => Or.inr hx) (fun _ _ => rfl) s' _
          (RepT.toRepO _ s' _ _ _ (allocSTree_RepT s' g)), hpre.length_le, fun x hx _ => getElem?_of_prefix hpre hx,
          fun hl => by obtain ⟨z, rfl⟩ := hl y s' hst; exact ⟨⟨rfl, rfl⟩, rfl⟩⟩
    | dict kvs =>
      simp only [RepT] at hr
      obtain ⟨a, obj, rfl, rfl, hget, hk⟩ := hr
      simp only [STree.wf, Bool.and_eq_true, decide_eq_true_eq] at hw
      simp only [sdepth] at hd
      have hle := RepK.le g kvs obj lo a hk
      obtain ⟨fin, h1, h2, h3, h4, h5⟩ := loop_refines step f ih a lo g.length (by omega) kvs lo g [] obj [] [] _ _
        (by omega) hw.2 hw.1 (fun _ _ hm => by cases hm) (Nat.le_refl _) (Nat.le_refl _) hget hk rfl
        (fun _ => ⟨rfl, rfl⟩) rfl
      simp only [inPlace, hget, keys_of_RepK g kvs obj lo a hk, mapLeaves, RepO, RepT]
      exact ⟨⟨a, fin, rfl, Or.inl ⟨hle, by omega⟩, h1,
        RepOK.frame _ _ _ _ (fun x hx => hx.mono (Nat.le_refl _) (by omega) (Nat.le_refl _) (Nat.le_refl _))
          (fun _ _ => rfl) _ _ h2⟩, h3, h4, fun hl => ⟨⟨a, fin, rfl, rfl, h1, (h5 hl).1⟩, (h5 hl).2⟩⟩

/-- the in-place pass computes `mapLeaves step` on a state dict just built out of fresh dict objects, with any `fuel`
above the nesting depth -/
theorem inPlace_fresh (step : Leaf → Option STree) (h : Heap) (s : STree) (fuel : Nat)
    (hw : s.wf = true) (hf : sdepth s < fuel) (rfuel : Nat) (hr : sdepth (mapLeaves step s) < rfuel) :
    readBack rfuel (inPlace step fuel (allocSTree h s).1 (allocSTree h s).2).heap
      (inPlace step fuel (allocSTree h s).1 (allocSTree h s).2).val = some (mapLeaves step s) := by
  have := inPlace_refines step fuel s (allocSTree h s).1 (allocSTree h s).2 h.length
    (allocSTree h s).1.length hf hw (allocSTree_RepT s h) (Nat.le_refl _)
  exact readBack_of_RepO _ _ _ _ rfuel hr this.1

theorem loop_leafOnly (step : Leaf → Option STree) (hstep : LeafOnly step) :
      ∀ (kvs : List (String × STree)) (f a lo mid : Nat)
      (gc : Heap) (doneObj todoObj : DictObj) (doneS : List (String × STree)) (w : List Nat),
      sdepthKvs kvs < f → swfKvs kvs = true → (keys kvs).Nodup → (∀ k, k ∈ keys kvs → k ∉ keys doneObj) →
      a < gc.length → lo ≤ mid →
      gc[a]? = some (doneObj ++ todoObj) → RepK gc todoObj kvs mid a → RepK gc doneObj doneS lo mid →
      ∃ fin, (passEntries step (inPlace step f) a (keys kvs) gc w).1[a]? = some fin ∧
        RepK (passEntries step (inPlace step f) a (keys kvs) gc w).1 fin (doneS ++ mapKvs step kvs) lo a ∧
        (passEntries step (inPlace step f) a (keys kvs) gc w).1.length = gc.length ∧
        ∀ x, x < gc.length → ¬(mid ≤ x ∧ x < a + 1) →
          (passEntries step (inPlace step f) a (keys kvs) gc w).1[x]? = gc[x]? :=
  fun kvs f a lo mid gc doneObj todoObj doneS w hd hw hnd hdisj ha hlo hget hk hdone =>
    have ⟨fin, h1, _, _, h4, h5⟩ := loop_refines step f (inPlace_refines step f) a lo gc.length ha kvs mid gc
      doneObj todoObj doneS w _ _ hd hw hnd hdisj (Nat.le_refl _) hlo hget hk
      (RepOK.frame _ _ gc gc (fun _ hx => Or.inl hx) (fun _ _ => rfl) _ _ (RepK.toRepOK gc doneS doneObj lo mid hdone))
      (fun _ => hdone) rfl
    ⟨fin, h1, (h5 hstep).1, (h5 hstep).2, h4⟩

theorem leafOnly_npStep (isJax : Leaf → Bool) (toNp : Leaf → Leaf) : LeafOnly (npStep isJax toNp) := by
  intro v s h
  simp only [npStep] at h
  split at h
  · exact ⟨toNp v, (Option.some.inj h).symm⟩
  · cases h

mutual
  theorem wf_mapLeaves_leafOnly (step : Leaf → Option STree) (hstep : LeafOnly step) : ∀ (s : STree),
      s.wf = true → (mapLeaves step s).wf = true ∧ sdepth (mapLeaves step s) = sdepth s
    | .leaf y, _ => by
      simp only [mapLeaves]
      cases hst : step y with
      | none => simp [STree.wf, sdepth]
      | some s' => obtain ⟨z, rfl⟩ := hstep y s' hst; simp [STree.wf, sdepth]
    | .dict kvs, h => by
      simp only [STree.wf, Bool.and_eq_true, decide_eq_true_eq] at h
      have := wf_mapKvs_leafOnly step hstep kvs h.2
      simp only [mapLeaves, STree.wf, sdepth, Bool.and_eq_true, decide_eq_true_eq, this.2.1, this.2.2]
      exact ⟨⟨h.1, this.1⟩, trivial⟩
  theorem wf_mapKvs_leafOnly (step : Leaf → Option STree) (hstep : LeafOnly step) :
      ∀ (kvs : List (String × STree)), swfKvs kvs = true →
      swfKvs (mapKvs step kvs) = true ∧ keys (mapKvs step kvs) = keys kvs ∧
        sdepthKvs (mapKvs step kvs) = sdepthKvs kvs
    | [], _ => by simp [mapKvs, swfKvs, sdepthKvs]
    | (k, v) :: r, h => by
      simp only [swfKvs, Bool.and_eq_true] at h
      have h1 := wf_mapLeaves_leafOnly step hstep v h.1
      have h2 := wf_mapKvs_leafOnly step hstep r h.2
      simp only [mapKvs, swfKvs, keys_cons, sdepthKvs, Bool.and_eq_true, h1.1, h1.2, h2.1, h2.2.1, h2.2.2]
      exact ⟨⟨trivial, trivial⟩, trivial, trivial⟩
end

/-- both passes of `msgpack_serialize`, run on a freshly built state dict, compute the pure pipeline: conversion of
the JAX leaves, then `chunkLeaves` -/
theorem passes_fresh (isJax : Leaf → Bool) (toNp : Leaf → Leaf) (T : Nat) (isz : String → Nat)
    (h : Heap) (s : STree) (fuel : Nat) (hw : s.wf = true) (hf : sdepth s < fuel)
    (rfuel : Nat) (hr : sdepth (chunkLeaves T isz (mapLeaves (npStep isJax toNp) s)) < rfuel) :
    readBack rfuel (passes isJax toNp T isz fuel (allocSTree h s).1 (allocSTree h s).2).heap
      (passes isJax toNp T isz fuel (allocSTree h s).1 (allocSTree h s).2).val
      = some (chunkLeaves T isz (mapLeaves (npStep isJax toNp) s)) := by
  have hl := leafOnly_npStep isJax toNp
  obtain ⟨a1, a2⟩ := (inPlace_refines _ fuel s (allocSTree h s).1 (allocSTree h s).2 h.length
    (allocSTree h s).1.length hf hw (allocSTree_RepT s h) (Nat.le_refl _)).2.2.2 hl
  have hw' := wf_mapLeaves_leafOnly _ hl s hw
  have b := inPlace_refines (chunkStep T isz) fuel (mapLeaves (npStep isJax toNp) s) _ _ h.length
    (allocSTree h s).1.length (by rw [hw'.2]; exact hf) hw'.1 a1 (by rw [a2]; exact Nat.le_refl _)
  simp only [passes]
  rw [← mapLeaves_chunkStep] at hr ⊢
  exact readBack_of_RepO _ _ _ _ rfuel hr b.1

mutual
  theorem mapLeaves_id (step : Leaf → Option STree) (hnone : ∀ v, step v = none) : ∀ (s : STree),
      mapLeaves step s = s
    | .leaf y => by simp [mapLeaves, hnone y]
    | .dict kvs => by simp [mapLeaves, mapKvs_id step hnone kvs]
  theorem mapKvs_id (step : Leaf → Option STree) (hnone : ∀ v, step v = none) :
      ∀ (kvs : List (String × STree)), mapKvs step kvs = kvs
    | [] => rfl
    | (k, v) :: r => by simp [mapKvs, mapLeaves_id step hnone v, mapKvs_id step hnone r]
end

mutual
  theorem wf_toStateDict : ∀ (t : Tree), t.wf = true → (toStateDict t).wf = true
    | .leaf v, _ => by simp [toStateDict, STree.wf]
    | .dict kvs, h | .fdict kvs, h | .named _ kvs, h | .struct _ kvs _, h => by
      simp only [Tree.wf, Bool.and_eq_true, decide_eq_true_eq] at h
      simp [toStateDict, STree.wf, keys_toSDFields, h.1, wf_toSDFields kvs h.2]
    | .list xs, h | .tuple xs, h => by
      simp only [Tree.wf] at h
      simp [toStateDict, STree.wf, nodup_keys_toSDList xs 0, wf_toSDList xs 0 h]
  theorem wf_toSDFields : ∀ (kvs : List (String × Tree)), wfFields kvs = true → swfKvs (toSDFields kvs) = true
    | [], _ => by simp [toSDFields, swfKvs]
    | (k, v) :: r, h => by
      simp only [wfFields, Bool.and_eq_true] at h
      simp [toSDFields, swfKvs, wf_toStateDict v h.1, wf_toSDFields r h.2]
  theorem wf_toSDList : ∀ (xs : List Tree) (i : Nat), wfList xs = true → swfKvs (toSDList i xs) = true
    | [], _, _ => by simp [toSDList, swfKvs]
    | x :: r, i, h => by
      simp only [wfList, Bool.and_eq_true] at h
      simp [toSDList, swfKvs, wf_toStateDict x h.1, wf_toSDList r (i + 1) h.2]
end

end Flax.SerialHeap
