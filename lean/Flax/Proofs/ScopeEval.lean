/-
The evaluator `eval` of `Flax.Model.ModuleTree`: two evaluations of one expression on related scalars (`ScalarSim`,
`evalE_rel`), what a successful run of each statement form, of `runTop`, `apply` and `init` consists of, the induction
over programs for any relation closed under the store steps (`eval_rel`, `apply_rel`), `eval_res_mono`,
`eval_fuel_mono`, and `init_returns_store`.
-/
import Flax.Proofs.ScopeLemmas

namespace Flax.ScopeLemmas
open Flax.Filter (LFilter inFilter)
open Flax.Scope Flax.ModuleTree
open Flax.ObsSim (ResSub)

structure ScalarSim (I : Int → Int → Prop) : Prop where
  const : ∀ k, I k k
  add : ∀ {a a' b b'}, I a a' → I b b' → I (a + b) (a' + b')
  mul : ∀ {a a' b b'}, I a a' → I b b' → I (a * b) (a' * b')

theorem scalarSim_eq : ScalarSim Eq := ⟨fun _ => rfl, fun h1 h2 => by rw [h1, h2], fun h1 h2 => by rw [h1, h2]⟩

theorem scalarSim_any : ScalarSim (fun _ _ => True) := ⟨fun _ => trivial, fun _ _ => trivial, fun _ _ => trivial⟩

/-- of an expression: on `I`-related argument and locals it evaluates to `J`-related scalars -/
def StoresRel (I J : Int → Int → Prop) (e : Expr) : Prop :=
  ∀ {x x' : Int} {env env' : List Int}, I x x' → env'.length = env.length →
    (∀ (i : Nat) (v v' : Int), env[i]? = some v → env'[i]? = some v' → I v v') →
    ∀ v, evalE x env e = .ok v → ∃ v', evalE x' env' e = .ok v' ∧ J v v'

theorem evalE_rel {I : Int → Int → Prop} (hI : ScalarSim I) (e : Expr) : StoresRel I I e := by
  intro x x' env env' hx hlen henv
  induction e with
  | const k => intro v h; cases h; exact ⟨k, rfl, hI.const k⟩
  | arg => intro v h; cases h; exact ⟨x', rfl, hx⟩
  | loc i =>
    intro v h
    simp only [evalE] at h ⊢
    cases hi : env[i]? with
    | none => simp [hi] at h
    | some w =>
      have hlt : i < env'.length := by rw [hlen]; exact (List.getElem?_eq_some_iff.mp hi).1
      rw [hi] at h
      cases h
      rw [List.getElem?_eq_getElem hlt]
      exact ⟨_, rfl, henv i v _ hi (List.getElem?_eq_getElem hlt)⟩
  | add a b iha ihb =>
    intro v h
    simp only [evalE] at h ⊢
    cases ha : evalE x env a with
    | error err => simp [ha] at h
    | ok u =>
      cases hb : evalE x env b with
      | error err => simp [ha, hb] at h
      | ok w =>
        obtain ⟨u', hu', hiu⟩ := iha u ha
        obtain ⟨w', hw', hiw⟩ := ihb w hb
        rw [ha, hb] at h
        cases h
        exact ⟨u' + w', by simp [hu', hw'], hI.add hiu hiw⟩
  | mul a b iha ihb =>
    intro v h
    simp only [evalE] at h ⊢
    cases ha : evalE x env a with
    | error err => simp [ha] at h
    | ok u =>
      cases hb : evalE x env b with
      | error err => simp [ha, hb] at h
      | ok w =>
        obtain ⟨u', hu', hiu⟩ := iha u ha
        obtain ⟨w', hw', hiw⟩ := ihb w hb
        rw [ha, hb] at h
        cases h
        exact ⟨u' * w', by simp [hu', hw'], hI.mul hiu hiw⟩

-- a statement's branch of `eval` is reached by `whnf` on the call: `simp only [eval]` instantiates the whole `match`

section
variable {cfg : Cfg} {fuel : Nat} {π : Path} {x : Int} {l l1 : Local} {s s1 : Store}

theorem eval_zero (p : SProg) : eval cfg 0 p π x l s = (.error .fuel, s) := rfl

theorem eval_skip_ok : eval cfg (fuel + 1) .skip π x l s = (.ok l1, s1) ↔ l1 = l ∧ s1 = s := by
  conv => lhs; lhs; whnf
  constructor
  · intro h; cases h; exact ⟨rfl, rfl⟩
  · rintro ⟨rfl, rfl⟩; rfl

theorem eval_seq_ok {a b : SProg} : eval cfg (fuel + 1) (.seq a b) π x l s = (.ok l1, s1) ↔
    ∃ l2 s2, eval cfg fuel a π x l s = (.ok l2, s2) ∧ eval cfg fuel b π x l2 s2 = (.ok l1, s1) := by
  conv => lhs; lhs; whnf
  rcases eval cfg fuel a π x l s with ⟨_ | l2, s2⟩
  · constructor
    · intro h; cases h
    · rintro ⟨_, _, h, _⟩; cases h
  · constructor
    · intro h; exact ⟨l2, s2, rfl, h⟩
    · rintro ⟨_, _, h, h'⟩; cases h; exact h'

theorem eval_bind_ok {e : Expr} : eval cfg (fuel + 1) (.bind e) π x l s = (.ok l1, s1) ↔
    ∃ v, evalE x l.env e = .ok v ∧ l1 = push l v ∧ s1 = s := by
  conv => lhs; lhs; whnf
  rcases evalE x l.env e with _ | v
  · constructor
    · intro h; cases h
    · rintro ⟨_, h, _⟩; cases h
  · constructor
    · intro h; cases h; exact ⟨v, rfl, rfl, rfl⟩
    · rintro ⟨_, h, rfl, rfl⟩; cases h; rfl

theorem eval_ret_ok {e : Expr} : eval cfg (fuel + 1) (.ret e) π x l s = (.ok l1, s1) ↔
    ∃ v, evalE x l.env e = .ok v ∧ l1 = { l with out := v } ∧ s1 = s := by
  conv => lhs; lhs; whnf
  rcases evalE x l.env e with _ | v
  · constructor
    · intro h; cases h
    · rintro ⟨_, h, _⟩; cases h
  · constructor
    · intro h; cases h; exact ⟨v, rfl, rfl, rfl⟩
    · rintro ⟨_, h, rfl, rfl⟩; cases h; rfl

theorem eval_param_ok {n : String} {shape : List Dim} {init : Int} :
    eval cfg (fuel + 1) (.param n shape init) π x l s = (.ok l1, s1) ↔
    ∃ v r, scopeParam π n (resolveDims shape) init l.res s = (.ok (v, r), s1) ∧
      l1 = { push l v.total with res := r } := by
  conv => lhs; lhs; whnf
  rcases scopeParam π n (resolveDims shape) init l.res s with ⟨_ | ⟨v, r⟩, s2⟩
  · constructor
    · intro h; cases h
    · rintro ⟨_, _, h, _⟩; cases h
  · constructor
    · intro h; cases h; exact ⟨v, r, rfl, rfl⟩
    · rintro ⟨_, _, h, rfl⟩; cases h; rfl

theorem eval_var_ok {col n : String} {shape : List Nat} {init : Expr} :
    eval cfg (fuel + 1) (.var col n shape init) π x l s = (.ok l1, s1) ↔
    ∃ iv r v, evalE x l.env init = .ok iv ∧
      scopeVariable π col n (Val.full shape iv) l.res s = (.ok r, s1) ∧ getVar s1 π col n = some v ∧
      l1 = { push l v.total with res := r } := by
  refine ⟨fun h => ?_, ?_⟩
  · conv at h => lhs; whnf
    split at h
    · cases h
    · rename_i iv h0
      split at h
      · cases h
      · rename_i r s2 h1
        split at h
        · rename_i v h2
          cases h
          exact ⟨iv, r, v, h0, h1, h2, rfl⟩
        · cases h
  · rintro ⟨iv, r, v, h0, h1, h2, h3⟩
    conv => lhs; whnf
    simp only [h0, h1, h2, h3]

theorem eval_get_ok {col n : String} : eval cfg (fuel + 1) (.get col n) π x l s = (.ok l1, s1) ↔
    l1 = push l ((getVar s π col n).elim 0 Val.total) ∧ s1 = s := by
  conv => lhs; lhs; whnf
  cases getVar s π col n
  all_goals
    constructor
    · intro h; cases h; exact ⟨rfl, rfl⟩
    · rintro ⟨rfl, rfl⟩; rfl

theorem eval_put_ok {col n : String} {rel : Path} {e : Expr} :
    eval cfg (fuel + 1) (.put col rel n e) π x l s = (.ok l1, s1) ↔
    ∃ v, evalE x l.env e = .ok v ∧ putVar (π ++ rel) col n (.tensor [] [v]) s = (.ok (), s1) ∧ l1 = l := by
  refine ⟨fun h => ?_, ?_⟩
  · conv at h => lhs; whnf
    split at h
    · cases h
    · rename_i v h0
      split at h
      · rename_i s2 h1
        cases h
        exact ⟨v, h0, h1, rfl⟩
      · cases h
  · rintro ⟨v, h0, h1, h2⟩
    conv => lhs; whnf
    simp only [h0, h1, h2]

theorem eval_sow_ok {col n : String} {e : Expr} :
    eval cfg (fuel + 1) (.sow col n e) π x l s = (.ok l1, s1) ↔
    ∃ v r, evalE x l.env e = .ok v ∧ moduleSow π col n v l.res s = (.ok r, s1) ∧ l1 = { l with res := r } := by
  refine ⟨fun h => ?_, ?_⟩
  · conv at h => lhs; whnf
    split at h
    · cases h
    · rename_i v h0
      split at h
      · rename_i r s2 h1
        cases h
        exact ⟨v, r, h0, h1, rfl⟩
      · cases h
  · rintro ⟨v, r, h0, h1, h2⟩
    conv => lhs; whnf
    simp only [h0, h1, h2]

theorem eval_perturb_ok {col n : String} {e : Expr} :
    eval cfg (fuel + 1) (.perturb col n e) π x l s = (.ok l1, s1) ↔
    ∃ v y r, evalE x l.env e = .ok v ∧ modulePerturb π col n v l.res s = (.ok (y, r), s1) ∧
      l1 = { push l y with res := r } := by
  refine ⟨fun h => ?_, ?_⟩
  · conv at h => lhs; whnf
    split at h
    · cases h
    · rename_i v h0
      split at h
      · rename_i y r s2 h1
        cases h
        exact ⟨v, y, r, h0, h1, rfl⟩
      · cases h
  · rintro ⟨v, y, r, h0, h1, h2⟩
    conv => lhs; whnf
    simp only [h0, h1, h2]

theorem eval_child_ok {cls : String} {name : Option String} {body : SProg} :
    eval cfg (fuel + 1) (.child cls name body) π x l s = (.ok l1, s1) ↔
    ∃ nm cs r, childName cfg cls name l = some (nm, cs) ∧ reserve l.res nm none = .ok r ∧
      l1 = { l with res := r, cursors := cs, kids := l.kids ++ [⟨nm, body⟩] } ∧ s1 = s := by
  refine ⟨fun h => ?_, ?_⟩
  · conv at h => lhs; whnf
    split at h
    · cases h
    · rename_i nm cs h0
      split at h
      · cases h
      · rename_i r h1
        cases h
        exact ⟨nm, cs, r, h0, h1, rfl, rfl⟩
  · rintro ⟨nm, cs, r, h0, h1, h2, h3⟩
    conv => lhs; whnf
    simp only [h0, h1, h2, h3]

theorem eval_call_ok {slot : Nat} {a : Expr} {w : Option Nat} :
    eval cfg (fuel + 1) (.call slot a w) π x l s = (.ok l1, s1) ↔
    ∃ k av lk s2 lk', l.kids[slot]? = some k ∧ evalE x l.env a = .ok av ∧
      eval cfg fuel (bindArg w k.body) (π ++ [k.name]) av {} s = (.ok lk, s2) ∧
      finishCall cfg (π ++ [k.name]) lk s2 = (.ok lk', s1) ∧ l1 = push l lk'.out := by
  refine ⟨fun h => ?_, ?_⟩
  · conv at h => lhs; whnf
    split at h
    · cases h
    · rename_i k h0
      split at h
      · cases h
      · rename_i av h1
        split at h
        · cases h
        · rename_i lk s2 h2
          split at h
          · cases h
          · rename_i lk' s3 h3
            cases h
            exact ⟨k, av, lk, s2, lk', h0, h1, h2, h3, rfl⟩
  · rintro ⟨k, av, lk, s2, lk', h0, h1, h2, h3, h4⟩
    conv => lhs; whnf
    simp only [h0, h1, h2, h3, h4]

theorem eval_nested_ok {body : SProg} {m : LFilter} {V : Vars} {a : Expr} :
    eval cfg (fuel + 1) (.nested body m V a) π x l s = (.ok l1, s1) ↔
    ∃ av li si, evalE x l.env a = .ok av ∧ badStructure V = false ∧
      eval (nestedCfg cfg) fuel body [] av {} (Scope.bind m V ["params"]) = (.ok li, si) ∧
      l1 = push (push l li.out) (digest (mutableVariables si)) ∧ s1 = s := by
  refine ⟨fun h => ?_, ?_⟩
  · conv at h => lhs; whnf
    split at h
    · cases h
    · rename_i av h0
      split at h
      · cases h
      · rename_i hb
        split at h
        · cases h
        · rename_i li si h2
          cases h
          exact ⟨av, li, si, h0, by simpa using hb, h2, rfl, rfl⟩
  · rintro ⟨av, li, si, h0, h1, h2, h3, h4⟩
    conv => lhs; whnf
    simp only [h0, h1, h2, h3, h4, Bool.false_eq_true, if_false]
end

theorem runTop_ok_iff {cfg : Cfg} {fuel : Nat} {p : SProg} {x y : Int} {s s2 : Store} :
    runTop cfg fuel p x s = (.ok y, s2) ↔
      ∃ l1 s1 l2, eval cfg fuel p [] x {} s = (.ok l1, s1) ∧ finishCall cfg [] l1 s1 = (.ok l2, s2) ∧ y = l2.out := by
  constructor
  · intro h
    unfold runTop at h
    split at h
    · cases h
    · rename_i l1 s1 h1
      split at h
      · cases h
      · rename_i l2 s3 h2
        cases h
        exact ⟨l1, s1, l2, h1, h2, rfl⟩
  · rintro ⟨l1, s1, l2, h1, h2, h3⟩
    simp only [runTop, h1, h2, h3]

theorem apply_ok_iff {cfg : Cfg} {fuel : Nat} {p : SProg} {m : LFilter} {V R : Vars} {rngs : List String} {x y : Int} :
    (ModuleTree.apply cfg fuel p m V rngs x).result = .ok (y, R) ↔
      badStructure V = false ∧
      ∃ s2, runTop cfg fuel p x (Scope.bind (effMutable cfg m) V rngs) = (.ok y, s2) ∧ R = mutableVariables s2 := by
  unfold ModuleTree.apply Scope.apply
  cases badStructure V
  · simp only [Bool.false_eq_true, if_false, true_and]
    rcases runTop cfg fuel p x (Scope.bind (effMutable cfg m) V rngs) with ⟨_ | y0, s2⟩
    · constructor
      · intro h; cases h
      · rintro ⟨_, h, _⟩; cases h
    · constructor
      · intro h; cases h; exact ⟨s2, rfl, rfl⟩
      · rintro ⟨_, h, rfl⟩; cases h; rfl
  · constructor
    · intro h; cases h
    · intro h; cases h.1

theorem init_ok_iff {cfg : Cfg} {fuel : Nat} {p : SProg} {m : LFilter} {rngs : List String} {x y : Int} {V : Vars} :
    (ModuleTree.init cfg fuel p m rngs x).result = .ok (y, V) ↔
      ∃ s2, runTop cfg fuel p x (Scope.bind (effMutable cfg m) Vars.empty rngs) = (.ok y, s2) ∧
        V = mutableVariables s2 :=
  (apply_ok_iff (V := Vars.empty)).trans ⟨fun h => h.2, fun h => ⟨rfl, h⟩⟩

theorem apply_final (cfg : Cfg) (fuel : Nat) (p : SProg) (m : LFilter) (V : Vars) (rngs : List String) (x : Int) :
    (ModuleTree.apply cfg fuel p m V rngs x).final =
      if badStructure V then Scope.bind (effMutable cfg m) V rngs
      else (runTop cfg fuel p x (Scope.bind (effMutable cfg m) V rngs)).2 := by
  unfold ModuleTree.apply Scope.apply
  cases badStructure V
  · simp only [Bool.false_eq_true, if_false]
    rcases runTop cfg fuel p x (Scope.bind (effMutable cfg m) V rngs) with ⟨_ | y, s⟩ <;> rfl
  · rfl

section
variable {R : Path → Store → Store → Prop}

/-- `ih`: the induction hypothesis of `eval_rel`, or `eval_rel` itself -/
theorem eval_call_rel (hR : StepRel R) {cfg : Cfg} {fuel : Nat}
    (ih : ∀ (p : SProg) (π : Path) (x : Int) (l : Local) (s : Store), R π s (eval cfg fuel p π x l s).2)
    {π : Path} {x : Int} {l : Local} {s : Store} {slot : Nat} {a : Expr} {w : Option Nat} {k : Kid}
    (hk : l.kids[slot]? = some k) : R (π ++ [k.name]) s (eval cfg (fuel + 1) (.call slot a w) π x l s).2 := by
  conv => arg 3; arg 1; whnf
  simp only [hk]
  cases evalE x l.env a with
  | error err => exact hR.refl _ s
  | ok av =>
    dsimp only
    have f1 := ih (bindArg w k.body) (π ++ [k.name]) av {} s
    generalize eval cfg fuel (bindArg w k.body) (π ++ [k.name]) av {} s = y at f1 ⊢
    rcases y with ⟨_ | lk, s1⟩
    · exact f1
    · dsimp only
      have f2 := hR.of_ownPut (finishCall_effect cfg (π ++ [k.name]) lk s1)
      generalize finishCall cfg (π ++ [k.name]) lk s1 = y at f2 ⊢
      rcases y with ⟨_ | lk', s2⟩ <;> exact hR.trans _ _ _ _ f1 f2

theorem eval_rel (hR : StepRel R) (cfg : Cfg) : ∀ (fuel : Nat) (p : SProg) (π : Path) (x : Int) (l : Local) (s : Store),
    R π s (eval cfg fuel p π x l s).2 := by
  intro fuel
  induction fuel with
  | zero => intro p π x l s; exact hR.refl π s
  | succ fuel ih =>
    intro p π x l s
    cases p with
    | skip => exact hR.refl π s
    | seq a b =>
      conv => arg 3; arg 1; whnf
      have f1 := ih a π x l s
      generalize eval cfg fuel a π x l s = y at f1 ⊢
      rcases y with ⟨_ | l1, s1⟩
      · exact f1
      · exact hR.trans _ _ _ _ f1 (ih b π x l1 s1)
    | bind e => conv => arg 3; arg 1; whnf
                cases evalE x l.env e <;> exact hR.refl π s
    | ret e => conv => arg 3; arg 1; whnf
               cases evalE x l.env e <;> exact hR.refl π s
    | param n shape init =>
      conv => arg 3; arg 1; whnf
      have f1 := hR.of_ownPut (scopeParam_effect π n (resolveDims shape) init l.res s)
      generalize scopeParam π n (resolveDims shape) init l.res s = y at f1 ⊢
      rcases y with ⟨_ | ⟨v, r⟩, s1⟩ <;> exact f1
    | var col n shape init =>
      conv => arg 3; arg 1; whnf
      cases evalE x l.env init with
      | error err => exact hR.refl π s
      | ok iv =>
        dsimp only
        have f1 := hR.of_ownPut (scopeVariable_effect π col n (Val.full shape iv) l.res s)
        generalize scopeVariable π col n (Val.full shape iv) l.res s = y at f1 ⊢
        rcases y with ⟨_ | r, s1⟩
        · exact f1
        · dsimp only
          cases getVar s1 π col n <;> exact f1
    | get col n => conv => arg 3; arg 1; whnf
                   cases getVar s π col n <;> exact hR.refl π s
    | put col rel n e =>
      conv => arg 3; arg 1; whnf
      cases evalE x l.env e with
      | error err => exact hR.refl π s
      | ok v =>
        dsimp only
        have f1 := hR.descend π rel _ _ (hR.put (π ++ rel) col n (.tensor [] [v]) s)
        generalize putVar (π ++ rel) col n (.tensor [] [v]) s = y at f1 ⊢
        rcases y with ⟨_ | u, s1⟩ <;> exact f1
    | sow col n e =>
      conv => arg 3; arg 1; whnf
      cases evalE x l.env e with
      | error err => exact hR.refl π s
      | ok v =>
        dsimp only
        have f1 := hR.of_ownPut (moduleSow_effect π col n v l.res s)
        generalize moduleSow π col n v l.res s = y at f1 ⊢
        rcases y with ⟨_ | r, s1⟩ <;> exact f1
    | perturb col n e =>
      conv => arg 3; arg 1; whnf
      cases evalE x l.env e with
      | error err => exact hR.refl π s
      | ok v =>
        dsimp only
        have f1 := hR.of_ownPut (modulePerturb_effect π col n v l.res s)
        generalize modulePerturb π col n v l.res s = y at f1 ⊢
        rcases y with ⟨_ | ⟨y, r⟩, s1⟩ <;> exact f1
    | child cls name body =>
      conv => arg 3; arg 1; whnf
      rcases childName cfg cls name l with _ | ⟨nm, cs⟩
      · exact hR.refl π s
      · dsimp only
        cases reserve l.res nm none <;> exact hR.refl π s
    | call slot a w =>
      cases hk : l.kids[slot]? with
      | none =>
        conv => arg 3; arg 1; whnf
        simp only [hk]
        exact hR.refl π s
      | some k => exact hR.child _ _ _ _ (eval_call_rel hR ih hk)
    | nested body m V a =>
      conv => arg 3; arg 1; whnf
      cases evalE x l.env a with
      | error err => exact hR.refl π s
      | ok av =>
        dsimp only
        cases badStructure V
        · rcases eval (nestedCfg cfg) fuel body [] av {} (Scope.bind m V ["params"]) with ⟨_ | li, si⟩ <;>
            exact hR.refl π s
        · exact hR.refl π s

theorem runTop_rel (hR : StepRel R) (cfg : Cfg) (fuel : Nat) (p : SProg) (x : Int) (s : Store) :
    R [] s (runTop cfg fuel p x s).2 := by
  unfold runTop
  have f1 := eval_rel hR cfg fuel p [] x {} s
  split
  · rename_i heq; rw [heq] at f1; exact f1
  · rename_i l s1 heq
    rw [heq] at f1
    have f2 := hR.of_ownPut (finishCall_effect cfg [] l s1)
    split
    · rename_i heq2; rw [heq2] at f2; exact hR.trans _ _ _ _ f1 f2
    · rename_i heq2; rw [heq2] at f2; exact hR.trans _ _ _ _ f1 f2

theorem apply_rel (hR : StepRel R) (cfg : Cfg) (fuel : Nat) (p : SProg) (m : LFilter) (V : Vars) (rngs : List String)
    (x : Int) : R [] (Scope.bind (effMutable cfg m) V rngs) (ModuleTree.apply cfg fuel p m V rngs x).final := by
  rw [apply_final]
  split
  · exact hR.refl _ _
  · exact runTop_rel hR cfg fuel p x _

end

theorem eval_frame (cfg : Cfg) (fuel : Nat) (p : SProg) (π : Path) (x : Int) (l : Local) (s : Store) :
    Frame s (eval cfg fuel p π x l s).2 := eval_rel frame_step cfg fuel p π x l s

theorem apply_frame (cfg : Cfg) (fuel : Nat) (p : SProg) (m : LFilter) (V : Vars) (rngs : List String) (x : Int) :
    Frame (Scope.bind (effMutable cfg m) V rngs) (ModuleTree.apply cfg fuel p m V rngs x).final :=
  apply_rel frame_step cfg fuel p m V rngs x

/-- within one execution of a body the reservations only grow (they are reset between calls) -/
theorem eval_res_mono (cfg : Cfg) : ∀ (fuel : Nat) (p : SProg) (π : Path) (x : Int) (l l1 : Local) (s s1 : Store),
    eval cfg fuel p π x l s = (.ok l1, s1) → ResSub l.res l1.res := by
  intro fuel
  induction fuel with
  | zero => intro p π x l l1 s s1 h; rw [eval_zero] at h; cases h
  | succ fuel ih =>
    intro p π x l l1 s s1 h
    have keep := ResSub.refl l.res
    cases p with
    | skip => obtain ⟨rfl, _⟩ := eval_skip_ok.mp h; exact keep
    | seq a b =>
      obtain ⟨l2, s2, ha, hb⟩ := eval_seq_ok.mp h
      exact (ih a π x l l2 s s2 ha).trans (ih b π x l2 l1 s2 s1 hb)
    | bind e => obtain ⟨_, _, rfl, _⟩ := eval_bind_ok.mp h; exact keep
    | ret e => obtain ⟨_, _, rfl, _⟩ := eval_ret_ok.mp h; exact keep
    | param n shape init =>
      obtain ⟨_, _, hp, rfl⟩ := eval_param_ok.mp h
      rw [scopeParam_res hp]; exact keep.cons_right _
    | var col n shape init =>
      obtain ⟨_, _, _, _, hp, _, rfl⟩ := eval_var_ok.mp h
      rw [scopeVariable_res hp]; exact keep.cons_right _
    | get col n => obtain ⟨rfl, _⟩ := eval_get_ok.mp h; exact keep
    | put col rel n e => obtain ⟨_, _, _, rfl⟩ := eval_put_ok.mp h; exact keep
    | sow col n e => obtain ⟨_, _, _, hp, rfl⟩ := eval_sow_ok.mp h; exact moduleSow_res hp
    | perturb col n e => obtain ⟨_, _, _, _, hp, rfl⟩ := eval_perturb_ok.mp h; exact modulePerturb_res hp
    | child cls name body =>
      obtain ⟨_, _, _, _, hr, rfl, _⟩ := eval_child_ok.mp h
      rw [reserve_res hr]; exact keep.cons_right _
    | call slot a w => obtain ⟨_, _, _, _, _, _, _, _, _, rfl⟩ := eval_call_ok.mp h; exact keep
    | nested body m V a => obtain ⟨_, _, _, _, _, _, rfl, _⟩ := eval_nested_ok.mp h; exact keep

theorem eval_fuel_mono : ∀ (fuel : Nat) (cfg : Cfg) (p : SProg) (π : Path) (x : Int) (l : Local) (s : Store),
    (eval cfg fuel p π x l s).1 ≠ .error .fuel → eval cfg (fuel + 1) p π x l s = eval cfg fuel p π x l s := by
  intro fuel
  induction fuel with
  | zero => intro cfg p π x l s h; exact absurd rfl h
  | succ fuel ih =>
    intro cfg p π x l s h
    -- only three forms run a body with the fuel that is left; there the inner run either failed with the error of
    -- the whole (`h`) or returned, so it did not run out of fuel either
    cases p with
    | seq a b =>
      conv at h => lhs; arg 1; whnf
      conv => lhs; whnf
      conv => rhs; whnf
      have ha := ih cfg a π x l s
      generalize eval cfg fuel a π x l s = y at ha h ⊢
      rcases y with ⟨_ | l1, s1⟩
      · rw [ha h]
      · rw [ha (fun hh => nomatch hh)]
        exact ih cfg b π x l1 s1 h
    | call slot a w =>
      conv at h => lhs; arg 1; whnf
      conv => lhs; whnf
      conv => rhs; whnf
      revert h
      cases l.kids[slot]? with
      | none => exact fun _ => rfl
      | some k =>
        dsimp only
        cases evalE x l.env a with
        | error err => exact fun _ => rfl
        | ok av =>
          intro h
          dsimp only at h ⊢
          have hb := ih cfg (bindArg w k.body) (π ++ [k.name]) av {} s
          generalize eval cfg fuel (bindArg w k.body) (π ++ [k.name]) av {} s = y at hb h ⊢
          rcases y with ⟨_ | lk, s1⟩
          · rw [hb h]
          · rw [hb (fun hh => nomatch hh)]
    | nested body m V a =>
      conv at h => lhs; arg 1; whnf
      conv => lhs; whnf
      conv => rhs; whnf
      revert h
      cases evalE x l.env a with
      | error err => exact fun _ => rfl
      | ok av =>
        dsimp only
        cases badStructure V with
        | true => exact fun _ => rfl
        | false =>
          intro h
          simp only [Bool.false_eq_true, if_false] at h ⊢
          have hb := ih (nestedCfg cfg) body [] av {} (Scope.bind m V ["params"])
          generalize eval (nestedCfg cfg) fuel body [] av {} (Scope.bind m V ["params"]) = y at hb h ⊢
          rcases y with ⟨_ | li, si⟩
          · rw [hb h]
          · rw [hb (fun hh => nomatch hh)]
    | _ => rfl

/-- a store reached from the empty variable dict holds a variable only in collections selected by `mutable` -/
theorem returned_from_empty {m : LFilter} {rngs : List String} {s2 : Store}
    (fr : Frame (Scope.bind m Vars.empty rngs) s2) (hn : NilKept [] (Scope.bind m Vars.empty rngs) s2) (q : Path) :
    lookupP q (mutableVariables s2).vars = lookupP q s2.vars := by
  rw [lookupP_mutableVariables]
  split
  · rfl
  · rename_i hq
    cases q with
    | nil => exact hn.symm
    | cons c rest => exact (fr.imm c rest (by rw [← fr.mutable_eq]; exact Bool.eq_false_iff.mpr hq)).symm

theorem init_returns_store {cfg : Cfg} {fuel : Nat} {p : SProg} {m : LFilter} {rngs : List String} {x y : Int} {V : Vars}
    (h : (ModuleTree.init cfg fuel p m rngs x).result = .ok (y, V)) :
    ∃ s2, runTop cfg fuel p x (Scope.bind (effMutable cfg m) Vars.empty rngs) = (.ok y, s2) ∧ V = mutableVariables s2 ∧
      ∀ q, lookupP q (mutableVariables s2).vars = lookupP q s2.vars := by
  obtain ⟨s2, hrun, rfl⟩ := init_ok_iff.mp h
  have fr := runTop_rel frame_step cfg fuel p x (Scope.bind (effMutable cfg m) Vars.empty rngs)
  have hn := runTop_rel nilkept_step cfg fuel p x (Scope.bind (effMutable cfg m) Vars.empty rngs)
  rw [hrun] at fr hn
  exact ⟨s2, hrun, rfl, returned_from_empty fr hn⟩

end Flax.ScopeLemmas
