/-
If nothing a program stores depends on the call argument, the variables it produces do not depend on
the argument at all (values, not only shapes): the lockstep of `Flax.Lockstep` on one store with unconstrained
locals and equal stored scalars.  Used by C02 (`lazy_init_values`).
-/
import Flax.Proofs.Lockstep

namespace Flax.ArgFree
open Flax.Filter (LFilter inFilter)
open Flax.Scope Flax.ModuleTree Flax.ScopeLemmas
open Flax.Lockstep

theorem evalE_const {x x' : Int} {env env' : List Int} : ∀ (e : Expr), e.isConst = true →
    evalE x' env' e = evalE x env e := by
  intro e
  induction e with
  | const k => intro _; rfl
  | arg => intro h; simp [Expr.isConst] at h
  | loc i => intro h; simp [Expr.isConst] at h
  | add a b iha ihb =>
    intro h
    simp only [Expr.isConst, Bool.and_eq_true] at h
    simp only [evalE, iha h.1, ihb h.2]
  | mul a b iha ihb =>
    intro h
    simp only [Expr.isConst, Bool.and_eq_true] at h
    simp only [evalE, iha h.1, ihb h.2]

theorem stored_of_argFree : ∀ (p : SProg), argFree p = true → Stored (StoresRel (fun _ _ => True) Eq) p := by
  have const : ∀ e : Expr, e.isConst = true → StoresRel (fun _ _ => True) Eq e :=
    fun e hc => @fun _ _ _ _ _ _ _ v he => ⟨v, (evalE_const e hc).trans he, rfl⟩
  intro p
  induction p with
  | seq a b iha ihb =>
    intro h
    simp only [argFree, Bool.and_eq_true] at h
    exact ⟨iha h.1, ihb h.2⟩
  | child _ _ b ih => exact ih
  | nested b _ _ _ _ => intro h; cases h
  | var _ _ _ e => exact const e
  | put _ _ _ e => exact const e
  | sow _ _ e => exact const e
  | perturb _ _ e => exact const e
  | _ => intro _; trivial

/-- `hcap`: `capture_intermediates` stores every call's return value, which may depend on the argument -/
theorem init_argfree (cfg : Cfg) (hcap : cfg.capture = false) (fuel : Nat) (p : SProg) (hp : argFree p = true)
    (m : LFilter) (rngs : List String) (x x' y : Int) (V : Vars)
    (h : (ModuleTree.init cfg fuel p m rngs x).result = .ok (y, V)) :
    ∃ y', (ModuleTree.init cfg fuel p m rngs x').result = .ok (y', V) := by
  obtain ⟨y', _, _, e, _, rfl, rfl⟩ := init_lockstep (valSim_exact scalarSim_any) (nestedSim_eq scalarSim_any) (x' := x')
    (fun hc => by rw [hcap] at hc; cases hc) (stored_of_argFree p hp) trivial h
  exact ⟨y', e⟩

end Flax.ArgFree
