/- C08 proofs: what is rejected before anything is traced: inconsistent aliasing by `nnx.vmap`, and `_check_out_axes` of
`nnx.scan` -/
import Flax.Proofs.NnxLoopToTree

namespace Flax.NnxLoop
open Flax.Filter Flax.LiftLoop

/-- `nnx.vmap` raises `Inconsistent aliasing`: read at `Flax.C08.inconsistent_aliasing_rejected` -/
theorem nnxVmap_inconsistent {α : Type} [Inhabited α] (inAxes outAxes : AxesSpec) (axisSize : Option Nat)
    (verdict : Bool) (body : Body α) (args : List (Arg α)) (store : Store α) (ps : List Prefix) (npF : NodePrefixes)
    (hok : (inAxes.isBareStateAxes || inAxes.hasCarry || outAxes.hasCarry) = false)
    (hps : inAxes.expand args.length = .ok ps)
    (h : allPrefixes (ps.zip args) [] = .ok npF) (hnc : consistent npF = false)
    (hst : ∀ ep ∈ ownedAll (ps.zip args) [], (store.lookup ep.1.id).isSome) :
    nnxVmap inAxes outAxes axisSize verdict body args store = .error .inconsistentAliasing := by
  obtain ⟨_, hp⟩ := toTree_total store _ [] [] npF h rfl hst
  simp only [nnxVmap, hok, hps, hp, hnc]
  rfl

theorem firstErr_spec {β : Type} (chk : β → Except Err Unit) (all : List β → Except Err Unit)
    (hnil : all [] = .ok ())
    (hcons : ∀ x xs, all (x :: xs) = match chk x with | .error e => .error e | .ok _ => all xs) (l : List β) :
    (all l = .ok () ↔ ∀ x ∈ l, chk x = .ok ()) ∧ ∀ e, all l = .error e → ∃ x ∈ l, chk x = .error e := by
  induction l with
  | nil => exact ⟨by simp [hnil], fun e h => by rw [hnil] at h; cases h⟩
  | cons x xs ih =>
    rw [hcons]
    cases hx : chk x with
    | error e' =>
      refine ⟨⟨fun h => (nomatch h), fun h => ?_⟩, fun e h => ⟨x, List.mem_cons_self, hx.trans h⟩⟩
      have := h x List.mem_cons_self
      rw [hx] at this; cases this
    | ok u =>
      simp only [List.forall_mem_cons, hx, true_and]
      exact ⟨ih.1, fun e h => let ⟨y, hy, he⟩ := ih.2 e h; ⟨y, List.mem_cons_of_mem _ hy, he⟩⟩

theorem stateAxesOutOk_cons (fa : NFilter × Ax) (rest : StateAxes) :
    stateAxesOutOk (fa :: rest) =
      match stateAxesOutOk [fa] with | .error e => .error e | .ok _ => stateAxesOutOk rest := by
  obtain ⟨f, a⟩ := fa
  cases a <;> rfl

theorem stateAxesOutOk_iff (s : StateAxes) :
    stateAxesOutOk s = .ok () ↔ ∀ fa ∈ s, ∃ k, fa.2 = .axis k := by
  rw [(firstErr_spec _ stateAxesOutOk rfl stateAxesOutOk_cons s).1]
  refine forall₂_congr (fun fa _ => ?_)
  obtain ⟨f, a⟩ := fa
  cases a <;> simp [stateAxesOutOk]

/-- an entry `_check_out_axes` lets through: an int, `Carry` itself, or a `StateAxes` of ints only -/
def Prefix.okOut : Prefix → Prop
  | .ax .bcast => False
  | .ax _ => True
  | .sa s => ∀ fa ∈ s, ∃ k, fa.2 = .axis k

theorem prefix_outOk_iff (p : Prefix) : p.outOk = .ok () ↔ p.okOut := by
  cases p with
  | ax a => cases a <;> simp [Prefix.outOk, Prefix.okOut]
  | sa s => simp only [Prefix.outOk, Prefix.okOut]; exact stateAxesOutOk_iff s

theorem prefixesOutOk_iff (ps : List Prefix) : prefixesOutOk ps = .ok () ↔ ∀ p ∈ ps, p.okOut := by
  rw [(firstErr_spec Prefix.outOk prefixesOutOk rfl (fun _ _ => rfl) ps).1]
  exact forall₂_congr (fun p _ => prefix_outOk_iff p)

theorem prefix_outOk_error {p : Prefix} {e : Err} (h : p.outOk = .error e) :
    e = .outAxesBroadcast ∨ e = .outAxesCarry := by
  cases p with
  | ax a => cases a <;> simp [Prefix.outOk] at h <;> simp [h]
  | sa s =>
    obtain ⟨⟨f, a⟩, _, hx⟩ := (firstErr_spec _ stateAxesOutOk rfl stateAxesOutOk_cons s).2 e h
    cases a <;> simp [stateAxesOutOk] at hx <;> simp [hx]

theorem prefixesOutOk_error {ps : List Prefix} {e : Err} (h : prefixesOutOk ps = .error e) :
    e = .outAxesBroadcast ∨ e = .outAxesCarry :=
  let ⟨_, _, hp⟩ := (firstErr_spec Prefix.outOk prefixesOutOk rfl (fun _ _ => rfl) ps).2 e h
  prefix_outOk_error hp

end Flax.NnxLoop
