/- C08 proofs: `nnx.vmap` — what every index sees, what is written back -/
import Flax.Proofs.NnxLoopToTree
import Flax.Proofs.NnxLoopCollect

namespace Flax.NnxLoop
open Flax.Filter Flax.LiftLoop

theorem sliceArg_node_ok {α : Type} [Inhabited α] {i : Nat} {g : GraphDef} {p : Prefix} {sts : List (State α)} {y : PureArg α} :
    sliceArg i (.node g p sts) = .ok y ↔
      ∃ sts', mapX (fun q => sliceState i q.1 q.2) (p.axes.zip sts) = .ok sts' ∧ y = .node g p sts' := by
  rw [sliceArg]
  constructor
  · intro h
    cases hm : mapX (fun q => sliceState i q.1 q.2) (p.axes.zip sts) with
    | error e => rw [hm] at h; cases h
    | ok v => rw [hm] at h; exact ⟨v, rfl, (Except.ok.inj h).symm⟩
  · rintro ⟨v, hm, rfl⟩
    rw [hm]

theorem sliceArg_arr_ok {α : Type} [Inhabited α] {i : Nat} {p : Prefix} {a : Arr α} {y : PureArg α} :
    sliceArg i (.arr p a) = .ok y ↔ ∃ ax v, p = .ax ax ∧ sliceVal i ax a = .ok v ∧ y = .arr (.ax ax) v := by
  cases p with
  | sa s => exact ⟨nofun, fun ⟨_, _, h, _⟩ => nomatch h⟩
  | ax ax =>
    rw [sliceArg]
    constructor
    · intro h
      cases hv : sliceVal i ax a with
      | error e => rw [hv] at h; cases h
      | ok v => rw [hv] at h; exact ⟨ax, v, rfl, hv, (Except.ok.inj h).symm⟩
    · rintro ⟨_, _, h, hv, rfl⟩
      cases h
      rw [hv]

theorem collectEntry_ok_iff {α : Type} [Inhabited α] {afters : List (Store α)} {ep : Entry × Prefix} {iv : VarId × Arr α} :
    collectEntry afters ep = .ok iv ↔ ∃ a vs v, ep.2.at ep.1 = .ok a ∧
      mapX (fun (st : Store α) => st.getX ep.1.id) afters = .ok vs ∧ collectVal a vs = .ok v ∧ iv = (ep.1.id, v) := by
  rw [collectEntry]
  cases ep.2.at ep.1 with
  | error e => exact ⟨nofun, fun ⟨_, _, _, h, _⟩ => nomatch h⟩
  | ok a =>
    cases mapX (fun (st : Store α) => st.getX ep.1.id) afters with
    | error e => exact ⟨nofun, fun ⟨_, _, _, _, h, _⟩ => nomatch h⟩
    | ok vs =>
      constructor
      · intro h
        cases hc : collectVal a vs with
        | error e => simp only [hc] at h; cases h
        | ok v => simp only [hc] at h; exact ⟨a, vs, v, rfl, rfl, hc, (Except.ok.inj h).symm⟩
      · rintro ⟨_, _, _, h, h', hc, rfl⟩
        cases h; cases h'
        simp only [hc]

/-- `sl` are the pure arguments sliced by jax.vmap at index `i`, `inner` the `index_ref` of the inner `from_tree` so far:
the merge adds every reachable Variable once, in first-occurrence order, with its slice. -/
theorem vmap_call_sees_slices {α : Type} [Inhabited α] {store : Store α} (i : Nat) {pas : List (Prefix × Arg α)}
    {np : NodePrefixes} {seen : List VarId} {pure : List (PureArg α)} (hS : Splits store pas np seen pure)
    (hwf : WFArgs pas) : ∀ (sl : List (PureArg α)) (inner : Store α), mapX (sliceArg i) pure = .ok sl →
      inner.map (·.1) = seen →
      ∃ ins, mapX (sliceEntry store i) (ownedAll pas seen) = .ok ins ∧
        mergeAll sl inner = .ok (inner ++ ins) ∧
        mapX (sliceArr i) (arrArgs pas) = .ok (arraysOf sl) := by
  induction hS with
  | nil =>
    intro sl inner hsl _
    cases hsl
    exact ⟨[], rfl, by simp [mergeAll], rfl⟩
  | @arr p a rest np seen r _ ih =>
    intro sl inner hsl hinv
    obtain ⟨y, ys, hy, hys, rfl⟩ := mapX_cons_ok hsl
    obtain ⟨ins, h1, h2, h3⟩ := ih (WFArgs_tail hwf) ys inner hys hinv
    obtain ⟨ax, v', rfl, hv, rfl⟩ := sliceArg_arr_ok.1 hy
    refine ⟨ins, h1, by simpa [mergeAll] using h2, ?_⟩
    simp only [arrArgs, arraysOf]
    exact mapX_cons_of_ok (by simp [sliceArr, hv]) h3
  | @node p es rest np np' seen flat sts r _ hfl hsp _ ih =>
    intro sl inner hsl hinv
    obtain ⟨y, ys, hy, hys, rfl⟩ := mapX_cons_ok hsl
    obtain ⟨sts', hst, rfl⟩ := sliceArg_node_ok.1 hy
    have hnd : (flat.map (·.1)).Nodup := by
      rw [flatOf_paths hfl]; exact hwf.head_owned_nodup _
    have hlk := leafwise_lookup hsp hnd (sliceVal i) (sts' := sts') hst
    obtain ⟨hfa, _⟩ := flatOf_ok_mem hfl
    have hown : ∀ e ∈ ownedOf es (markOwn es seen).1,
        ∃ v, sliceEntry store i (e, p) = .ok (e.id, v) ∧ sts'.flatten.lookup e.path = some v := by
      intro e he
      obtain ⟨v, hv, hm⟩ := hfa e he
      obtain ⟨a, v', ha, hv', hl⟩ := hlk _ hm
      have hat : p.at e = .ok a := (prefix_at_eq_axAt p e a).2 ha
      refine ⟨v', ?_, hl⟩
      simp only [sliceEntry, hat, hv]
      simp only [] at hv'
      rw [hv']
    obtain ⟨ins1, hm1, hmerge, hinv'⟩ := mergeEntries_collected (F := fun e => sliceEntry store i (e, p))
      sts'.flatten es seen inner hinv hown
    obtain ⟨ins, h1, h2, h3⟩ := ih (WFArgs_tail hwf) ys _ hys hinv'
    refine ⟨ins1 ++ ins, ?_, ?_, ?_⟩
    · simp only [ownedAll]
      apply mapX_append_of_ok _ h1
      rw [mapX_map]
      exact hm1
    · simp only [mergeAll, hmerge]
      rw [h2, List.append_assoc]
    · simpa [arrArgs, arraysOf] using h3

theorem splitArgOut_node {α : Type} (st : Store α) (g : GraphDef) (p : Prefix) (sts : List (State α)) :
    splitArgOut st (.node g p sts) = (flatOf g.owned st >>= splitFlat p) := by
  simp only [splitArgOut]
  cases flatOf g.owned st <;> rfl

theorem collectEntry_lookup {α : Type} [Inhabited α] {p : Prefix} {owned : List Entry}
    (hndO : (owned.map (·.path)).Nodup) {afters : List (Store α)} {n0 : Flat α} {frest : List (Flat α)}
    (hflats : mapX (flatOf owned) afters = .ok (n0 :: frest)) {a0 : Store α} (hn0 : flatOf owned a0 = .ok n0)
    {cs : List (State α)}
    (hlk : ∀ x ∈ n0, ∃ a vs v, axAt p x.1 x.2.1 = some a ∧ mapX (fun fl => valAt fl x.1) (n0 :: frest) = .ok vs ∧
      collectVal a vs = .ok v ∧ cs.flatten.lookup x.1 = some v) :
    ∀ e ∈ owned, ∃ v, collectEntry afters (e, p) = .ok (e.id, v) ∧ cs.flatten.lookup e.path = some v := by
  intro e he
  obtain ⟨v0, _, hm⟩ := (flatOf_ok_mem hn0).1 e he
  obtain ⟨a, vs, v, ha, hvs, hv, hl⟩ := hlk _ hm
  have hat : p.at e = .ok a := (prefix_at_eq_axAt p e a).2 ha
  have hvals : mapX (fun (st : Store α) => st.getX e.id) afters = .ok vs := by
    rw [valAt_flats_eq_getX hndO he hflats]; exact hvs
  exact ⟨v, collectEntry_ok_iff.2 ⟨a, vs, v, hat, hvals, hv, rfl⟩, hl⟩

/-- `a0 :: arest` are the values the traced function left at each index, `rows` the states every index returned for the
arguments (inner `to_tree` of the objects after the call). -/
theorem vmap_write_back {α : Type} [Inhabited α] {store0 : Store α} {pas : List (Prefix × Arg α)}
    {np : NodePrefixes} {seen : List VarId} {pure : List (PureArg α)} (hS : Splits store0 pas np seen pure)
    (hwf : WFArgs pas) (a0 : Store α) (arest : List (Store α)) :
    ∀ (rows : List (List (List (State α)))), mapX (fun st => mapX (splitArgOut st) pure) (a0 :: arest) = .ok rows →
      ∀ store store', vmapWriteBack rows pure store = .ok store' →
      ∃ vals, mapX (collectEntry (a0 :: arest)) (ownedAll pas seen) = .ok vals ∧ store' = writeAll vals store := by
  induction hS with
  | nil =>
    intro rows _ store store' hwb
    cases hwb
    exact ⟨[], rfl, rfl⟩
  | arr _ ih =>
    intro rows hrows store store' hwb
    obtain ⟨heads, rows', _, e2, _, e4⟩ := rows_cons hrows
    simp only [vmapWriteBack, e4] at hwb
    exact ih (WFArgs_tail hwf) rows' e2 store store' hwb
  | @node p es rest np np' seen flat sts r _ hfl hsp _ ih =>
    intro rows hrows store store' hwb
    obtain ⟨heads, rows', e1, e2, e3, e4⟩ := rows_cons hrows
    simp only [vmapWriteBack, e3, e4] at hwb
    cases hcs : vmapCollectStates p.axes heads with
    | error e => simp [hcs] at hwb
    | ok cs =>
      simp only [hcs] at hwb
      simp only [splitArgOut_node, GraphDef.owned] at e1
      obtain ⟨flats, hflats, hheads⟩ := mapX_comp_ok e1
      obtain ⟨n0, frest, hn0, hfrest, rfl⟩ := mapX_cons_ok hflats
      have hndO := hwf.head_owned_nodup (markOwn es seen).1
      obtain ⟨hnd, hkeys⟩ := flats_keys hndO hflats
      have hown := collectEntry_lookup (p := p) hndO hflats hn0
        (vmap_collect_lookup hnd hkeys hheads hcs)
      obtain ⟨vals1, hv1', hus⟩ := updateStore_collected (F := collectEntry (a0 :: arest))
        (ownedOf es (markOwn es seen).1) store hown
      simp only [GraphDef.owned, hus] at hwb
      obtain ⟨vals, hv1, hv2⟩ := ih (WFArgs_tail hwf) rows' e2 _ store' hwb
      exact ⟨vals1 ++ vals, mapX_append_of_ok hv1' hv1, by rw [writeAll_append, hv2]⟩

end Flax.NnxLoop
