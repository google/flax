/-
Two runs in lockstep.  The interpreter uses scalars only through constants, `+` and `*`, and looks at a leaf only
for its constructor and its shapes; so a second run of the same program whose scalars and leaves correspond to the
first run's (`ValSim`), from a store whose reads agree and in which one `put_variable` is answered by one
(`StoreSim`), returns whenever the first does, in a related store (`eval_lockstep`).  Re-rooting, shapes-only and
argument-free runs are instances.
-/
import Flax.Proofs.ScopeEval

namespace Flax.Lockstep
open Flax.Filter (LFilter inFilter)
open Flax.Scope Flax.ModuleTree Flax.ScopeLemmas
open Flax.ObsSim (ResSub)

/-- `I` relates the locals and arguments of the two runs, `J` the scalars their statements store, `V` their leaves.
`full`: what `param`, `variable`, `put` and the first half of `perturb` store; `tup₀`, `tup`: the first and the later
`sow`s; `tensor`: what `perturb` returns; `shapeOk`: a `param` that is there; `total`: every read; `stored`:
constants stored; `read`: `perturb` returning its argument. -/
structure ValSim (I J : Int → Int → Prop) (V : Val → Val → Prop) : Prop extends ScalarSim I where
  stored : ∀ k, J k k
  read : ∀ {a a'}, J a a' → I a a'
  full : ∀ sh {a a'}, J a a' → V (Val.full sh a) (Val.full sh a')
  tup₀ : ∀ {a a'}, J a a' → V (.tup [([], [a])]) (.tup [([], [a'])])
  tup : ∀ {xs v'}, V (.tup xs) v' →
    ∃ xs', v' = .tup xs' ∧ ∀ {a a'}, J a a' → V (.tup (xs ++ [([], [a])])) (.tup (xs' ++ [([], [a'])]))
  tensor : ∀ {sh d v'}, V (.tensor sh d) v' →
    ∃ d', v' = .tensor sh d' ∧
      ∀ {a a'}, J a a' → I (a * (d.length : Int) + sumInt d) (a' * (d'.length : Int) + sumInt d')
  shapeOk : ∀ {v v'} sh, V v v' → shapeOk v sh → shapeOk v' sh
  total : ∀ {v v'}, V v v' → I v.total v'.total

theorem valSim_exact {I : Int → Int → Prop} (hI : ScalarSim I) : ValSim I Eq Eq where
  toScalarSim := hI
  stored := fun _ => rfl
  read := fun h => h ▸ hI.const _
  full := fun _ {_ _} h => by rw [h]
  tup₀ := fun h => by rw [h]
  tup := fun h => ⟨_, h.symm, fun h' => by rw [h']⟩
  tensor := fun h => ⟨_, h.symm, fun h' => h' ▸ hI.const _⟩
  shapeOk := fun {_ _} _ h hs => h ▸ hs
  total := fun h => h ▸ hI.const _

/-- `R s t`: the second run's store `t` against the first run's `s`; the second run works at scope path `π` where the
first works at `ψ π`; `C` are the collections the relation speaks about.  `col_ge` asks for a variable of the
collection under `ψ π`, which `perturb` has in hand when it looks the collection up: the subtree a re-rooted store
was cut from need not reach into every collection. -/
structure StoreSim (R : Store → Store → Prop) (ψ : Path → Path) (C : String → Prop) (V : Val → Val → Prop) :
    Prop where
  mutable : ∀ {s t c}, R s t → C c → isMutable t c = isMutable s c
  rngs : ∀ {s t}, R s t → t.rngs = s.rngs
  get_some : ∀ {s t c π n v}, R s t → C c → getVar s (ψ π) c n = some v → ∃ v', getVar t π c n = some v' ∧ V v v'
  get_none : ∀ {s t c π n}, R s t → C c → getVar s (ψ π) c n = none → getVar t π c n = none
  col_le : ∀ {s t c}, R s t → C c → hasCol t c = true → hasCol s c = true
  col_ge : ∀ {s t c π n v}, R s t → C c → hasCol s c = true → getVar s (ψ π) c n = some v → hasCol t c = true
  bump : ∀ {s t}, R s t → R { s with inits := s.inits + 1 } { t with inits := t.inits + 1 }
  put : ∀ {s t s1 c π n v v'}, R s t → C c → V v v' → putVar (ψ π) c n v s = (.ok (), s1) →
    ∃ t1, putVar π c n v' t = (.ok (), t1) ∧ R s1 t1

theorem storeSim_eq : StoreSim Eq id (fun _ => True) Eq where
  mutable := fun h _ => by rw [h]
  rngs := fun h => by rw [h]
  get_some := fun h _ hg => by subst h; exact ⟨_, hg, rfl⟩
  get_none := fun h _ hg => by subst h; exact hg
  col_le := fun h _ hc => by subst h; exact hc
  col_ge := fun h _ hc _ => by subst h; exact hc
  bump := fun h => by rw [h]
  put := fun h _ hv hp => by subst h; cases hv; exact ⟨_, hp, rfl⟩

/-- `Lr r r'`, `r` the first run's: what it could reserve, the second can -/
def ResSim (Lr : Res → Res → Prop) : Prop :=
  ∀ {r r' r1 : Res} {n : String} {c : Option String}, Lr r r' → reserve r n c = .ok r1 →
    ∃ r1', reserve r' n c = .ok r1' ∧ Lr r1 r1'

theorem resSim_eq : ResSim (fun r r' => r' = r) := fun h hr => ⟨_, by rw [h]; exact hr, rfl⟩

theorem resSub_sim : ResSim (fun r r' => ResSub r' r) := by
  intro r r' r1 n c h hr
  obtain ⟨hnr, rfl⟩ := reserve_ok_iff.mp hr
  have hnr' : nameReserved r' n c = false := by
    cases hh : nameReserved r' n c with
    | false => rfl
    | true => rw [nameReserved_mono h n c hh] at hnr; cases hnr
  exact ⟨_, reserve_ok_iff.mpr ⟨hnr', rfl⟩, h.cons _⟩

section ops
variable {I J : Int → Int → Prop} {V : Val → Val → Prop} {R : Store → Store → Prop} {ψ : Path → Path}
  {C : String → Prop} {Lr : Res → Res → Prop}
  {s t s1 : Store} {r r' r1 : Res} {π : Path} {col n : String}

theorem StoreSim.hasVar_eq (hS : StoreSim R ψ C V) (hr : R s t) (hc : C col) (π : Path) (n : String) :
    hasVar t π col n = hasVar s (ψ π) col n := by
  unfold hasVar
  cases hg : getVar s (ψ π) col n with
  | none => rw [hS.get_none hr hc hg]
  | some v => obtain ⟨v', hg', _⟩ := hS.get_some hr hc hg; rw [hg']; rfl

theorem scopeParam_sim (hV : ValSim I J V) (hS : StoreSim R ψ C V) (hL : ResSim Lr) (hr : R s t) (hres : Lr r r')
    (hc : C "params") {shape : List Nat} {init : Int} {v : Val}
    (h : scopeParam (ψ π) n shape init r s = (.ok (v, r1), s1)) :
    ∃ v' r1' t1, scopeParam π n shape init r' t = (.ok (v', r1'), t1) ∧ V v v' ∧ Lr r1 r1' ∧ R s1 t1 := by
  obtain ⟨hres1, hcase⟩ := scopeParam_ok_iff.mp h
  obtain ⟨r1', hres1', hsub⟩ := hL hres hres1
  rcases hcase with ⟨hg, hsh, rfl⟩ | ⟨hg, hm, hrng, rfl, hp⟩
  · obtain ⟨v', hg', hv⟩ := hS.get_some hr hc hg
    exact ⟨v', r1', t, scopeParam_ok_iff.mpr ⟨hres1', .inl ⟨hg', hV.shapeOk _ hv hsh, rfl⟩⟩, hv, hsub, hr⟩
  · have hv := hV.full shape (hV.stored init)
    obtain ⟨t1, hp', hr1⟩ := hS.put (hS.bump hr) hc hv hp
    exact ⟨_, r1', t1, scopeParam_ok_iff.mpr ⟨hres1', .inr ⟨hS.get_none hr hc hg, (hS.mutable hr hc).trans hm,
      by rw [hS.rngs hr]; exact hrng, rfl, hp'⟩⟩, hv, hsub, hr1⟩

theorem scopeVariable_sim (hS : StoreSim R ψ C V) (hL : ResSim Lr) (hr : R s t) (hres : Lr r r') (hc : C col)
    {iv iv' : Val} (hiv : V iv iv') (h : scopeVariable (ψ π) col n iv r s = (.ok r1, s1)) :
    ∃ r1' t1, scopeVariable π col n iv' r' t = (.ok r1', t1) ∧ Lr r1 r1' ∧ R s1 t1 := by
  obtain ⟨hres1, hcase⟩ := scopeVariable_ok_iff.mp h
  obtain ⟨r1', hres1', hsub⟩ := hL hres hres1
  rcases hcase with ⟨hv, rfl⟩ | ⟨hv, hm, hp⟩
  · exact ⟨r1', t, scopeVariable_ok_iff.mpr ⟨hres1', .inl ⟨(hS.hasVar_eq hr hc π n).trans hv, rfl⟩⟩, hsub, hr⟩
  · obtain ⟨t1, hp', hr1⟩ := hS.put hr hc hiv hp
    exact ⟨r1', t1, scopeVariable_ok_iff.mpr ⟨hres1', .inr ⟨(hS.hasVar_eq hr hc π n).trans hv,
      (hS.mutable hr hc).trans hm, hp'⟩⟩, hsub, hr1⟩

theorem moduleSow_sim (hV : ValSim I J V) (hS : StoreSim R ψ C V) (hL : ResSim Lr) (hr : R s t) (hres : Lr r r')
    (hc : C col) {e e' : Int} (he : J e e') (h : moduleSow (ψ π) col n e r s = (.ok r1, s1)) :
    ∃ r1' t1, moduleSow π col n e' r' t = (.ok r1', t1) ∧ Lr r1 r1' ∧ R s1 t1 := by
  rcases moduleSow_ok_iff.mp h with ⟨hm, rfl, rfl⟩ | ⟨hm, ⟨xs, hg, rfl, hp⟩ | ⟨hg, hres1, hp⟩⟩
  · exact ⟨r', t, moduleSow_ok_iff.mpr (.inl ⟨(hS.mutable hr hc).trans hm, rfl, rfl⟩), hres, hr⟩
  · obtain ⟨v0', hg', hv0⟩ := hS.get_some hr hc hg
    obtain ⟨xs', rfl, hxs⟩ := hV.tup hv0
    obtain ⟨t1, hp', hr1⟩ := hS.put hr hc (hxs he) hp
    exact ⟨r', t1, moduleSow_ok_iff.mpr (.inr ⟨(hS.mutable hr hc).trans hm, .inl ⟨xs', hg', rfl, hp'⟩⟩), hres, hr1⟩
  · obtain ⟨r1', hres1', hsub⟩ := hL hres hres1
    obtain ⟨t1, hp', hr1⟩ := hS.put hr hc (hV.tup₀ he) hp
    exact ⟨r1', t1, moduleSow_ok_iff.mpr (.inr ⟨(hS.mutable hr hc).trans hm,
      .inr ⟨hS.get_none hr hc hg, hres1', hp'⟩⟩), hsub, hr1⟩

theorem modulePerturb_sim (hV : ValSim I J V) (hS : StoreSim R ψ C V) (hL : ResSim Lr) (hr : R s t) (hres : Lr r r')
    (hc : C col) {e e' y : Int} (he : J e e') (h : modulePerturb (ψ π) col n e r s = (.ok (y, r1), s1)) :
    ∃ y' r1' t1, modulePerturb π col n e' r' t = (.ok (y', r1'), t1) ∧ I y y' ∧ Lr r1 r1' ∧ R s1 t1 := by
  obtain ⟨hinit, hread⟩ := modulePerturb_ok_iff.mp h
  have hcond : (isMutable t col && !hasVar t π col n) = (isMutable s col && !hasVar s (ψ π) col n) := by
    rw [hS.mutable hr hc, hS.hasVar_eq hr hc]
  have hinit' : ∃ r1' t1, Lr r1 r1' ∧ R s1 t1 ∧
      (((isMutable t col && !hasVar t π col n) = true ∧ reserve r' n (some col) = .ok r1' ∧
          putVar π col n (.tensor [] [0]) t = (.ok (), t1)) ∨
       ((isMutable t col && !hasVar t π col n) = false ∧ r1' = r' ∧ t1 = t)) := by
    rcases hinit with ⟨hcd, hres1, hp⟩ | ⟨hcd, rfl, rfl⟩
    · obtain ⟨r1', hres1', hsub⟩ := hL hres hres1
      obtain ⟨t1, hp', hr1⟩ := hS.put hr hc (hV.full [] (hV.stored 0)) hp
      exact ⟨r1', t1, hsub, hr1, .inl ⟨hcond.trans hcd, hres1', hp'⟩⟩
    · exact ⟨r', t, hres, hr, .inr ⟨hcond.trans hcd, rfl, rfl⟩⟩
  obtain ⟨r1', t1, hsub, hr1, hi⟩ := hinit'
  -- `col_ge` where the first run found the variable, `col_le` where it found no collection: same branch
  rcases hread with ⟨hcl, sh, d, hg, rfl⟩ | ⟨hcl, rfl⟩
  · obtain ⟨v0', hg', hv0⟩ := hS.get_some hr1 hc hg
    obtain ⟨d', rfl, hy⟩ := hV.tensor hv0
    exact ⟨_, r1', t1, modulePerturb_ok_iff.mpr ⟨hi, .inl ⟨hS.col_ge hr1 hc hcl hg, sh, d', hg', rfl⟩⟩,
      hy he, hsub, hr1⟩
  · refine ⟨e', r1', t1, modulePerturb_ok_iff.mpr ⟨hi, .inr ⟨?_, rfl⟩⟩, hV.read he, hsub, hr1⟩
    cases hh : hasCol t1 col with
    | false => rfl
    | true => rw [hS.col_le hr1 hc hh] at hcl; cases hcl

theorem finishCall_sim (hV : ValSim I J V) (hS : StoreSim R ψ C V) (hL : ResSim Lr) {cfg : Cfg}
    (hcap : cfg.capture = true → C "intermediates") (hr : R s t) {l l' l1 : Local}
    (hout : cfg.capture = true → J l.out l'.out) (hres : Lr l.res l'.res) (h : finishCall cfg (ψ π) l s = (.ok l1, s1)) :
    ∃ r1 r1' t1, l1 = { l with res := r1 } ∧ finishCall cfg π l' t = (.ok { l' with res := r1' }, t1) ∧
      Lr r1 r1' ∧ R s1 t1 := by
  rcases finishCall_ok_iff.mp h with ⟨hcp, r, hsow, rfl⟩ | ⟨hcp, rfl, rfl⟩
  · obtain ⟨r1', t1, e1, hsub, hr1⟩ := moduleSow_sim hV hS hL hr hres (hcap hcp) (hout hcp) hsow
    exact ⟨r, r1', t1, rfl, finishCall_ok_iff.mpr (.inl ⟨hcp, r1', e1, rfl⟩), hsub, hr1⟩
  · exact ⟨l1.res, l'.res, t, rfl, finishCall_ok_iff.mpr (.inr ⟨hcp, rfl, rfl⟩), hres, hr⟩

end ops

/-- `P` holds of every expression whose value the program, its children or a module it applies stores -/
def Stored (P : Expr → Prop) : SProg → Prop
  | .seq a b => Stored P a ∧ Stored P b
  | .child _ _ b => Stored P b
  | .nested b _ _ _ => Stored P b
  | .var _ _ _ e => P e
  | .put _ _ _ e => P e
  | .sow _ _ e => P e
  | .perturb _ _ e => P e
  | _ => True

theorem stored_bindArg (P : Expr → Prop) (w : Option Nat) (p : SProg) : Stored P (bindArg w p) = Stored P p :=
  fold_bindArg (Stored P) And (fun _ _ => rfl) (fun _ _ _ _ => rfl) w p

theorem stored_of_all {P : Expr → Prop} (h : ∀ e, P e) (p : SProg) : Stored P p := by
  induction p with
  | seq a b iha ihb => exact ⟨iha, ihb⟩
  | child _ _ b ih => exact ih
  | nested b _ _ _ ih => exact ih
  | var _ _ _ e => exact h e
  | put _ _ _ e => exact h e
  | sow _ _ e => exact h e
  | perturb _ _ e => exact h e
  | _ => trivial

/-- locals of the two runs: scalars related entry by entry, everything that steers the run equal -/
structure LocalRel (I J : Int → Int → Prop) (l l' : Local) : Prop where
  env_len : l'.env.length = l.env.length
  env : ∀ (i : Nat) (v v' : Int), l.env[i]? = some v → l'.env[i]? = some v' → I v v'
  out : I l.out l'.out
  res_eq : l'.res = l.res
  cursors_eq : l'.cursors = l.cursors
  kids_eq : l'.kids = l.kids
  kids_ok : ∀ k ∈ l.kids, Stored (StoresRel I J) k.body

section prog
variable {I J : Int → Int → Prop} {V : Val → Val → Prop} {R R₀ : Store → Store → Prop} {ψ : Path → Path}

theorem LocalRel.refl (hI : ScalarSim I) {l : Local} (hk : ∀ k ∈ l.kids, Stored (StoresRel I J) k.body) :
    LocalRel I J l l :=
  ⟨rfl, fun _ v _ h h' => by rw [h] at h'; cases h'; exact hI.const v, hI.const _, rfl, rfl, rfl, hk⟩

theorem LocalRel.empty (hI : ScalarSim I) : LocalRel I J {} {} := LocalRel.refl hI fun _ hk => nomatch hk

theorem LocalRel.eq {l l' : Local} (h : LocalRel Eq J l l') : l' = l := by
  have henv : l'.env = l.env :=
    List.ext_getElem h.env_len fun i h1 h2 =>
      (h.env i _ _ (List.getElem?_eq_getElem h2) (List.getElem?_eq_getElem h1)).symm
  obtain ⟨e, r, c, k, o⟩ := l
  obtain ⟨e', r', c', k', o'⟩ := l'
  obtain ⟨_, _, ho, hr, hc, hk, _⟩ := h
  simp only at henv ho hr hc hk
  subst henv ho hr hc hk
  rfl

theorem push_rel {l l' : Local} (h : LocalRel I J l l') {v v' : Int} (hv : I v v') :
    LocalRel I J (push l v) (push l' v') where
  env_len := by simp [push, h.env_len]
  env := by
    intro i a a' ha ha'
    simp only [push] at ha ha'
    by_cases hi : i < l.env.length
    · rw [List.getElem?_append_left hi] at ha
      rw [List.getElem?_append_left (by rw [h.env_len]; exact hi)] at ha'
      exact h.env i a a' ha ha'
    · have hi' : l.env.length ≤ i := Nat.le_of_not_lt hi
      rw [List.getElem?_append_right hi'] at ha
      rw [List.getElem?_append_right (by rw [h.env_len]; exact hi'), h.env_len] at ha'
      cases hk : i - l.env.length with
      | zero =>
        rw [hk] at ha ha'
        cases ha; cases ha'; exact hv
      | succ k => rw [hk] at ha; cases ha
  out := h.out
  res_eq := h.res_eq
  cursors_eq := h.cursors_eq
  kids_eq := h.kids_eq
  kids_ok := h.kids_ok

theorem LocalRel.withRes {l l' : Local} (h : LocalRel I J l l') (r : Res) :
    LocalRel I J { l with res := r } { l' with res := r } :=
  ⟨h.env_len, h.env, h.out, rfl, h.cursors_eq, h.kids_eq, h.kids_ok⟩

theorem stored_same (hI : ScalarSim I) (p : SProg) : Stored (StoresRel I I) p :=
  stored_of_all (evalE_rel hI) p

/-- A nested apply is a fresh pair of runs, of another module on one and the same variable dict, at the root: `R₀`
relates their stores, and what the enclosing body keeps of the returned state is related. -/
structure NestedSim (I : Int → Int → Prop) (V : Val → Val → Prop) (R₀ : Store → Store → Prop) : Prop where
  sim : StoreSim R₀ id (fun _ => True) V
  refl : ∀ s, R₀ s s
  digest : ∀ {s t}, R₀ s t → I (digest (mutableVariables s)) (digest (mutableVariables t))

theorem nestedSim_eq (hI : ScalarSim I) : NestedSim I Eq Eq := ⟨storeSim_eq, fun _ => rfl, fun h => h ▸ hI.const _⟩

/-- the statement of `eval_lockstep` at one amount of fuel: the induction needs it of `R₀` at the root, for the nested
applies, where the enclosing run needs it of `R` along `ψ` -/
def LockAt (I J : Int → Int → Prop) (R : Store → Store → Prop) (ψ : Path → Path) (fuel : Nat) : Prop :=
  ∀ (cfg : Cfg) (p : SProg) (ρ : Path) (x x' : Int) (l l' l1 : Local) (s t s1 : Store),
    (cfg.capture = true → ∀ a b, I a b → J a b) → Stored (StoresRel I J) p →
    I x x' → LocalRel I J l l' → R s t → eval cfg fuel p (ψ ρ) x l s = (.ok l1, s1) →
    ∃ l1' t1, eval cfg fuel p ρ x' l' t = (.ok l1', t1) ∧ LocalRel I J l1 l1' ∧ R s1 t1

theorem lockAt_succ (hV : ValSim I J V) (hS : StoreSim R ψ (fun _ => True) V)
    (hψ : ∀ ρ rel, ψ (ρ ++ rel) = ψ ρ ++ rel) (hN : NestedSim I V R₀) {fuel : Nat}
    (ih₀ : LockAt I J R₀ id fuel) (ih : LockAt I J R ψ fuel) : LockAt I J R ψ (fuel + 1) := by
  intro cfg p ρ x x' l l' l1 s t s1 hcap hp hx hl hr h
  have hE := fun e => evalE_rel hV.toScalarSim e hx hl.env_len hl.env
  cases p with
  | skip =>
    obtain ⟨rfl, rfl⟩ := eval_skip_ok.mp h
    exact ⟨l', t, eval_skip_ok.mpr ⟨rfl, rfl⟩, hl, hr⟩
  | seq a b =>
    obtain ⟨l2, s2, ha, hb⟩ := eval_seq_ok.mp h
    obtain ⟨l2', t2, e1, hl2, hr2⟩ := ih cfg a ρ x x' l l' l2 s t s2 hcap hp.1 hx hl hr ha
    obtain ⟨l3', t3, e2, hl3, hr3⟩ := ih cfg b ρ x x' l2 l2' l1 s2 t2 s1 hcap hp.2 hx hl2 hr2 hb
    exact ⟨l3', t3, eval_seq_ok.mpr ⟨l2', t2, e1, e2⟩, hl3, hr3⟩
  | bind e =>
    obtain ⟨v, he, rfl, rfl⟩ := eval_bind_ok.mp h
    obtain ⟨v', hv', hiv⟩ := hE e v he
    exact ⟨_, t, eval_bind_ok.mpr ⟨v', hv', rfl, rfl⟩, push_rel hl hiv, hr⟩
  | ret e =>
    obtain ⟨v, he, rfl, rfl⟩ := eval_ret_ok.mp h
    obtain ⟨v', hv', hiv⟩ := hE e v he
    exact ⟨_, t, eval_ret_ok.mpr ⟨v', hv', rfl, rfl⟩,
      ⟨hl.env_len, hl.env, hiv, hl.res_eq, hl.cursors_eq, hl.kids_eq, hl.kids_ok⟩, hr⟩
  | param n shape init =>
    obtain ⟨v, r, hp1, rfl⟩ := eval_param_ok.mp h
    obtain ⟨v', r1', t1, e1, hv, rfl, hr1⟩ := scopeParam_sim hV hS resSim_eq hr hl.res_eq trivial hp1
    exact ⟨_, t1, eval_param_ok.mpr ⟨v', r1', e1, rfl⟩, (push_rel hl (hV.total hv)).withRes r1', hr1⟩
  | var col n shape init =>
    obtain ⟨iv, r, v, he, hp1, hg, rfl⟩ := eval_var_ok.mp h
    obtain ⟨iv', hiv', hii⟩ := hp hx hl.env_len hl.env iv he
    obtain ⟨r1', t1, e1, rfl, hr1⟩ := scopeVariable_sim hS resSim_eq hr hl.res_eq trivial (hV.full shape hii) hp1
    obtain ⟨v', hg', hv⟩ := hS.get_some hr1 trivial hg
    exact ⟨_, t1, eval_var_ok.mpr ⟨iv', r1', v', hiv', e1, hg', rfl⟩, (push_rel hl (hV.total hv)).withRes r1', hr1⟩
  | get col n =>
    obtain ⟨rfl, rfl⟩ := eval_get_ok.mp h
    refine ⟨_, t, eval_get_ok.mpr ⟨rfl, rfl⟩, push_rel hl ?_, hr⟩
    cases hg : getVar s1 (ψ ρ) col n with
    | none => rw [hS.get_none hr trivial hg]; exact hV.const 0
    | some v => obtain ⟨v', hg', hv⟩ := hS.get_some hr trivial hg; rw [hg']; exact hV.total hv
  | put col rel n e =>
    obtain ⟨v, he, hp1, rfl⟩ := eval_put_ok.mp h
    obtain ⟨v', hv', hiv⟩ := hp hx hl.env_len hl.env v he
    rw [← hψ] at hp1
    obtain ⟨t1, e1, hr1⟩ := hS.put hr trivial (hV.full [] hiv) hp1
    exact ⟨l', t1, eval_put_ok.mpr ⟨v', hv', e1, rfl⟩, hl, hr1⟩
  | sow col n e =>
    obtain ⟨v, r, he, hp1, rfl⟩ := eval_sow_ok.mp h
    obtain ⟨v', hv', hiv⟩ := hp hx hl.env_len hl.env v he
    obtain ⟨r1', t1, e1, rfl, hr1⟩ := moduleSow_sim hV hS resSim_eq hr hl.res_eq trivial hiv hp1
    exact ⟨_, t1, eval_sow_ok.mpr ⟨v', r1', hv', e1, rfl⟩, hl.withRes r1', hr1⟩
  | perturb col n e =>
    obtain ⟨v, y, r, he, hp1, rfl⟩ := eval_perturb_ok.mp h
    obtain ⟨v', hv', hiv⟩ := hp hx hl.env_len hl.env v he
    obtain ⟨y', r1', t1, e1, hy, rfl, hr1⟩ := modulePerturb_sim hV hS resSim_eq hr hl.res_eq trivial hiv hp1
    exact ⟨_, t1, eval_perturb_ok.mpr ⟨v', y', r1', hv', e1, rfl⟩, (push_rel hl hy).withRes r1', hr1⟩
  | child cls name body =>
    obtain ⟨nm, cs, r, hn, hres, rfl, rfl⟩ := eval_child_ok.mp h
    have hn' : childName cfg cls name l' = some (nm, cs) := (childName_congr hl.cursors_eq (by rw [hl.kids_eq]) (fun _ => hl.res_eq) cls name).trans hn
    have hres' : reserve l'.res nm none = .ok r := by rw [hl.res_eq]; exact hres
    exact ⟨_, t, eval_child_ok.mpr ⟨nm, cs, r, hn', hres', rfl, rfl⟩,
      ⟨hl.env_len, hl.env, hl.out, rfl, rfl, by simp [hl.kids_eq], kids_snoc hl.kids_ok (body := body) hp nm⟩, hr⟩
  | call slot a w =>
    obtain ⟨k, av, lk, s2, lk2, hk, he, hb, hf, rfl⟩ := eval_call_ok.mp h
    obtain ⟨av', hav', hia⟩ := hE a av he
    have hkb : Stored (StoresRel I J) (bindArg w k.body) := by
      rw [stored_bindArg]; exact hl.kids_ok k (List.mem_of_getElem? hk)
    rw [← hψ] at hb hf
    obtain ⟨lk', t2, e1, hlk, hr2⟩ :=
      ih cfg (bindArg w k.body) (ρ ++ [k.name]) av av' {} {} lk s t s2 hcap hkb hia (LocalRel.empty hV.toScalarSim) hr hb
    obtain ⟨r1, r1', t3, rfl, e2, _, hr3⟩ :=
      finishCall_sim hV hS resSim_eq (fun _ => trivial) hr2 (fun hc => hcap hc _ _ hlk.out) hlk.res_eq hf
    rw [← hl.kids_eq] at hk
    exact ⟨_, t3, eval_call_ok.mpr ⟨k, av', lk', t2, _, hk, hav', e1, e2, rfl⟩, push_rel hl hlk.out, hr3⟩
  | nested body m V0 a =>
    obtain ⟨av, li, si, he, hbs, hb, rfl, rfl⟩ := eval_nested_ok.mp h
    obtain ⟨av', hav', hia⟩ := hE a av he
    obtain ⟨li', ti, e1, hli, hri⟩ := ih₀ (nestedCfg cfg) body [] av av' {} {} li _ _ si (fun hc => nomatch hc) hp hia
      (LocalRel.empty hV.toScalarSim) (hN.refl _) hb
    exact ⟨_, t, eval_nested_ok.mpr ⟨av', li', ti, hav', hbs, e1, rfl, rfl⟩,
      push_rel (push_rel hl hli.out) (hN.digest hri), hr⟩

/-- `hcap`: under `capture_intermediates` the return value of every call is stored -/
theorem eval_lockstep (hV : ValSim I J V) (hS : StoreSim R ψ (fun _ => True) V)
    (hψ : ∀ ρ rel, ψ (ρ ++ rel) = ψ ρ ++ rel) (hN : NestedSim I V R₀) {cfg : Cfg} {fuel : Nat} {p : SProg} {ρ : Path}
    {x x' : Int} {l l' l1 : Local} {s t s1 : Store} (hcap : cfg.capture = true → ∀ a b, I a b → J a b)
    (hp : Stored (StoresRel I J) p) (hx : I x x') (hl : LocalRel I J l l') (hr : R s t)
    (h : eval cfg fuel p (ψ ρ) x l s = (.ok l1, s1)) :
    ∃ l1' t1, eval cfg fuel p ρ x' l' t = (.ok l1', t1) ∧ LocalRel I J l1 l1' ∧ R s1 t1 := by
  have zero : ∀ {R : Store → Store → Prop} {ψ : Path → Path}, LockAt I J R ψ 0 :=
    fun _ p _ _ _ _ _ _ _ _ _ _ _ _ _ _ h => by rw [eval_zero] at h; cases h
  have both : ∀ fuel, LockAt I J R₀ id fuel ∧ LockAt I J R ψ fuel := by
    intro fuel
    induction fuel with
    | zero => exact ⟨zero, zero⟩
    | succ fuel ih =>
      exact ⟨lockAt_succ hV hN.sim (fun _ _ => rfl) hN ih.1 ih.1, lockAt_succ hV hS hψ hN ih.1 ih.2⟩
  exact (both fuel).2 cfg p ρ x x' l l' l1 s t s1 hcap hp hx hl hr h

theorem eval_lockstep_eq (hS : StoreSim R ψ (fun _ => True) Eq) (hψ : ∀ ρ rel, ψ (ρ ++ rel) = ψ ρ ++ rel)
    {cfg : Cfg} {fuel : Nat} {p : SProg} {ρ : Path} {x : Int} {l l1 : Local} {s t s1 : Store} (hr : R s t)
    (h : eval cfg fuel p (ψ ρ) x l s = (.ok l1, s1)) : ∃ t1, eval cfg fuel p ρ x l t = (.ok l1, t1) ∧ R s1 t1 := by
  obtain ⟨l1', t1, e1, hl1, hr1⟩ := eval_lockstep (valSim_exact scalarSim_eq) hS hψ (nestedSim_eq scalarSim_eq)
    (fun _ _ _ h => h) (stored_same scalarSim_eq p) rfl
    (LocalRel.refl scalarSim_eq fun k _ => stored_same scalarSim_eq k.body) hr h
  rw [hl1.eq] at e1
  exact ⟨t1, e1, hr1⟩

theorem runTop_lockstep (hV : ValSim I J V) (hN : NestedSim I V R) {cfg : Cfg} {fuel : Nat} {p : SProg} {x x' y : Int}
    {s t s2 : Store} (hcap : cfg.capture = true → ∀ a b, I a b → J a b) (hp : Stored (StoresRel I J) p) (hx : I x x')
    (hr : R s t) (h : runTop cfg fuel p x s = (.ok y, s2)) :
    ∃ y' t2, runTop cfg fuel p x' t = (.ok y', t2) ∧ I y y' ∧ R s2 t2 := by
  obtain ⟨l1, s1, l2, hev, hf, rfl⟩ := runTop_ok_iff.mp h
  obtain ⟨l1', t1, e1, hl1, hr1⟩ :=
    eval_lockstep hV hN.sim (fun _ _ => rfl) hN hcap hp hx (LocalRel.empty hV.toScalarSim) hr hev
  obtain ⟨_, _, t2, rfl, e2, _, hr2⟩ := finishCall_sim hV hN.sim resSim_eq (fun _ => trivial) hr1
    (fun hc => hcap hc _ _ hl1.out) hl1.res_eq hf
  exact ⟨l1'.out, t2, runTop_ok_iff.mpr ⟨l1', t1, _, e1, e2, rfl⟩, hl1.out, hr2⟩

theorem init_lockstep (hV : ValSim I J V) (hN : NestedSim I V R) {cfg : Cfg} {fuel : Nat} {p : SProg} {m : LFilter}
    {rngs : List String} {x x' y : Int} {Vr : Vars} (hcap : cfg.capture = true → ∀ a b, I a b → J a b)
    (hp : Stored (StoresRel I J) p) (hx : I x x') (h : (ModuleTree.init cfg fuel p m rngs x).result = .ok (y, Vr)) :
    ∃ y' s2 t2, (ModuleTree.init cfg fuel p m rngs x').result = .ok (y', mutableVariables t2) ∧ I y y' ∧
      Vr = mutableVariables s2 ∧ R s2 t2 := by
  obtain ⟨s2, hrun, rfl⟩ := init_ok_iff.mp h
  obtain ⟨y', t2, e, hy, hr2⟩ := runTop_lockstep hV hN hcap hp hx (hN.refl _) hrun
  exact ⟨y', s2, t2, init_ok_iff.mpr ⟨t2, e, rfl⟩, hy, rfl, hr2⟩

end prog

end Flax.Lockstep
