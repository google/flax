/-
C12: row-major index arithmetic; reads through `Tensor.ofFn`, a reshape and the batch flattening; the bias on the last
axis; `sumOver`; `sortNat`/`dedupSorted` sort and deduplicate; `filter_range_succ`.
-/
import Flax.Model.Layers
import Flax.Proofs.InsertSort
import Flax.Proofs.ListLemmas

namespace Flax.Layers

theorem inBounds_cons (d i : Nat) (ds is : List Nat) :
    inBounds (d :: ds) (i :: is) = true ↔ i < d ∧ inBounds ds is = true := by
  simp [inBounds]

theorem inBounds_induct {motive : List Nat → List Nat → Prop} (nil : motive [] [])
    (cons : ∀ d ds i is, i < d → inBounds ds is = true → motive ds is → motive (d :: ds) (i :: is)) :
    ∀ {shape idx : List Nat}, inBounds shape idx = true → motive shape idx
  | [], [], _ => nil
  | [], _ :: _, h => nomatch h
  | _ :: _, [], h => nomatch h
  | d :: ds, i :: is, h =>
    have h' := (inBounds_cons d i ds is).mp h
    cons d ds i is h'.1 h'.2 (inBounds_induct nil cons h'.2)

theorem inBounds_length {shape idx : List Nat} (h : inBounds shape idx = true) : idx.length = shape.length :=
  inBounds_induct (motive := fun s i => i.length = s.length) rfl (fun _ _ _ _ _ _ ih => congrArg (· + 1) ih) h

theorem ravel_lt {shape idx : List Nat} (h : inBounds shape idx = true) : ravel shape idx < prod shape :=
  inBounds_induct (motive := fun s i => ravel s i < prod s) (Nat.lt_succ_self 0) (fun d ds i is hi _ ih => by
    show i * prod ds + ravel ds is < d * prod ds
    calc i * prod ds + ravel ds is < i * prod ds + prod ds := by omega
      _ = (i + 1) * prod ds := (Nat.succ_mul _ _).symm
      _ ≤ d * prod ds := Nat.mul_le_mul_right _ hi) h

theorem unravel_ravel {shape idx : List Nat} (h : inBounds shape idx = true) : unravel shape (ravel shape idx) = idx :=
  inBounds_induct (motive := fun s i => unravel s (ravel s i) = i) rfl (fun d ds i is _ his ih => by
    have h2 := ravel_lt his
    show (i * prod ds + ravel ds is) / prod ds :: unravel ds ((i * prod ds + ravel ds is) % prod ds) = i :: is
    rw [Nat.add_comm, Nat.add_mul_mod_self_right, Nat.mod_eq_of_lt h2, Nat.add_mul_div_right _ _ (by omega),
      Nat.div_eq_of_lt h2, Nat.zero_add, ih]) h

theorem prod_append (a b : List Nat) : prod (a ++ b) = prod a * prod b := by
  induction a with
  | nil => simp [prod]
  | cons d ds ih => simp [prod, ih, Nat.mul_assoc]

theorem ravel_append (bs b rs r : List Nat) (h : b.length = bs.length) :
    ravel (bs ++ rs) (b ++ r) = ravel bs b * prod rs + ravel rs r := by
  induction bs generalizing b with
  | nil =>
    cases b with
    | nil => show ravel rs r = 0 * prod rs + ravel rs r; rw [Nat.zero_mul, Nat.zero_add]
    | cons _ _ => cases h
  | cons d ds ih =>
    cases b with
    | nil => cases h
    | cons i is =>
      show i * prod (ds ++ rs) + ravel (ds ++ rs) (is ++ r) = (i * prod ds + ravel ds is) * prod rs + ravel rs r
      rw [ih is (Nat.succ.inj h), prod_append, Nat.add_mul, Nat.mul_assoc, Nat.add_assoc]

theorem inBounds_append_eq (bs b rs r : List Nat) (h : b.length = bs.length) :
    inBounds (bs ++ rs) (b ++ r) = (inBounds bs b && inBounds rs r) := by
  induction bs generalizing b with
  | nil =>
    cases b with
    | nil => simp [inBounds]
    | cons _ _ => cases h
  | cons d ds ih =>
    cases b with
    | nil => cases h
    | cons i is => simp only [List.cons_append, inBounds, ih is (Nat.succ.inj h), Bool.and_assoc]

theorem inBounds_snoc {ds is : List Nat} {d i : Nat} (h : inBounds ds is = true) (hi : i < d) :
    inBounds (ds ++ [d]) (is ++ [i]) = true := by
  rw [inBounds_append_eq ds is [d] [i] (inBounds_length h), h]; simp [inBounds, hi]

theorem inBounds_nth (shape idx : List Nat) (h : inBounds shape idx = true) :
    ∀ a, a < shape.length → nth idx a 0 < nth shape a :=
  inBounds_induct (motive := fun s i => ∀ a, a < s.length → nth i a 0 < nth s a) (fun _ ha => nomatch ha)
    (fun d ds i is hi _ ih a ha => by
      cases a with
      | zero => exact hi
      | succ a => exact ih a (Nat.lt_of_succ_lt_succ ha)) h

theorem inBounds_map (S I : Nat → Nat) : ∀ L : List Nat, (∀ a ∈ L, I a < S a) → inBounds (L.map S) (L.map I) = true
  | [], _ => rfl
  | a :: L, h => by
    simp [inBounds, h a (List.mem_cons_self), inBounds_map S I L (fun b hb => h b (List.mem_cons_of_mem _ hb))]

theorem inBounds_of_pointwise (sh p : List Nat) (hl : p.length = sh.length)
    (h : ∀ j, j < sh.length → nth p j 0 < nth sh j) : inBounds sh p = true := by
  rw [← Lists.map_getD_range 1 sh, ← Lists.map_getD_range 0 p, hl]
  apply inBounds_map
  intro a ha
  exact h a (List.mem_range.mp ha)

theorem bcast_inBounds (shape idx : List Nat) (h : inBounds shape idx = true) :
    List.zipWith (fun i d => if d = 1 then 0 else i) idx shape = idx :=
  inBounds_induct (motive := fun s i => List.zipWith (fun i d => if d = 1 then 0 else i) i s = i) rfl
    (fun d ds i is hi _ ih => by
      rw [List.zipWith_cons_cons, ih]
      split
      · congr 1; omega
      · rfl) h

theorem length_unravel : ∀ (shape : List Nat) (n : Nat), (unravel shape n).length = shape.length
  | [], _ => rfl
  | _ :: ds, n => by simp [unravel, length_unravel ds]

theorem inBounds_unravel : ∀ (shape : List Nat) (n : Nat), n < prod shape → inBounds shape (unravel shape n) = true
  | [], _, _ => rfl
  | d :: ds, n, h => by
    simp only [prod] at h
    have hpos : 0 < prod ds := by
      rcases Nat.eq_zero_or_pos (prod ds) with h0 | h0
      · rw [h0] at h; simp at h
      · exact h0
    have h1 : n / prod ds < d := (Nat.div_lt_iff_lt_mul hpos).mpr h
    have h2 := inBounds_unravel ds (n % prod ds) (Nat.mod_lt _ hpos)
    simp [unravel, inBounds, h1, h2]

theorem indices_length (shape : List Nat) : (indices shape).length = prod shape := by
  simp [indices]

theorem mem_indices_length {shape c : List Nat} (h : c ∈ indices shape) : c.length = shape.length := by
  simp only [indices, List.mem_map] at h
  obtain ⟨i, _, rfl⟩ := h
  exact length_unravel _ _

theorem inBounds_of_mem_indices {shape idx : List Nat} (h : idx ∈ indices shape) : inBounds shape idx = true := by
  obtain ⟨i, hi, rfl⟩ := List.mem_map.mp h
  exact inBounds_unravel _ _ (List.mem_range.mp hi)

theorem indices_singleton (n : Nat) : indices [n] = (List.range n).map (fun i => [i]) := by
  simp [indices, unravel, prod]

theorem getD_ofFn {α : Type} (shape : List Nat) (f : List Nat → α) (d : α) {idx : List Nat}
    (h : inBounds shape idx = true) : (Tensor.ofFn shape f).getD idx d = f idx := by
  have hl := ravel_lt h
  simp only [Tensor.getD, Tensor.ofFn, Array.getD_eq_getD_getElem?]
  simp [indices, hl, unravel_ravel h]

theorem get_ofFn {R : Type} [Zero R] (shape : List Nat) (f : List Nat → R) {idx : List Nat}
    (h : inBounds shape idx = true) : (Tensor.ofFn shape f).get idx = f idx :=
  getD_ofFn shape f 0 h

theorem Tensor.getD_reshape {α : Type} (t : Tensor α) (s i j : List Nat) (d : α) (h : ravel s i = ravel t.shape j) :
    (t.reshape s).getD i d = t.getD j d := by
  simp only [Tensor.reshape, Tensor.getD, h]

theorem ravel_flat (bs b rs r : List Nat) (hbl : b.length = bs.length) :
    ravel (prod bs :: rs) (ravel bs b :: r) = ravel (bs ++ rs) (b ++ r) := by
  rw [ravel_append bs b rs r hbl]; rfl

theorem flattenBatch_eq {α : Type} (nsp : Nat) (x : Tensor α) (bs rs : List Nat) (hx : x.shape = bs ++ rs)
    (hrs : rs.length = nsp + 1) : flattenBatch nsp x = (bs, x.reshape (prod bs :: rs)) := by
  have hnb : x.rank - (nsp + 1) = bs.length := by simp [Tensor.rank, hx, hrs]
  simp [flattenBatch, hnb, hx]

section
variable {R : Type} [Zero R]

theorem reshape_flat_get (x : Tensor R) (bs rs b : List Nat) (hx : x.shape = bs ++ rs) (hbl : b.length = bs.length)
    (r : List Nat) : (x.reshape (prod bs :: rs)).get (ravel bs b :: r) = x.get (b ++ r) :=
  Tensor.getD_reshape x _ _ _ 0 (hx ▸ ravel_flat bs b rs r hbl)

theorem unflattenBatch_get (y : Tensor R) (bs os b : List Nat) (hy : y.shape = prod bs :: os) (hbl : b.length = bs.length)
    (o : List Nat) : (unflattenBatch bs y).get (b ++ o) = y.get (ravel bs b :: o) :=
  Tensor.getD_reshape y _ _ _ 0 (by rw [hy]; exact (ravel_flat bs b os o hbl).symm)

variable [Add R]

theorem addBiasSuffix_shape (y : Tensor R) (bias : Option (Tensor R)) : (addBiasSuffix y bias).shape = y.shape := by
  cases bias <;> rfl

theorem addBiasSuffix_get_last (y : Tensor R) (bias : Option (Tensor R)) (lead : List Nat) (f : Nat)
    (hbias : ∀ bb, bias = some bb → bb.rank = 1) (hy : y.rank = lead.length + 1)
    (hb : inBounds y.shape (lead ++ [f]) = true) :
    (addBiasSuffix y bias).get (lead ++ [f]) =
      bias.elim (y.get (lead ++ [f])) (fun bb => y.get (lead ++ [f]) + bb.get [f]) := by
  cases bias with
  | none => rfl
  | some bb =>
    simp only [addBiasSuffix]
    rw [get_ofFn _ _ hb, hy, hbias bb rfl, Nat.add_sub_cancel, List.drop_left' rfl]
    rfl
end

theorem sumOver_congr {R α : Type} [Zero R] [Add R] (xs : List α) (f g : α → R) (h : ∀ a ∈ xs, f a = g a) :
    sumOver xs f = sumOver xs g := by
  simp only [sumOver]
  congr 1
  exact List.map_congr_left h

theorem sumOver_map {R : Type} [Zero R] [Add R] (α β : Type) (xs : List α) (g : α → β) (f : β → R) :
    sumOver (xs.map g) f = sumOver xs (fun a => f (g a)) := by
  simp [sumOver, List.map_map, Function.comp_def]

theorem insertSorted_isInsert : IsInsert (· ≤ ·) insertSorted :=
  ⟨fun _ => rfl, fun _ h => if_pos h, fun _ h => if_neg h⟩

theorem sortNat_perm (xs : List Nat) : (sortNat xs).Perm xs := insertSorted_isInsert.sort_perm xs

theorem mem_sortNat (a : Nat) (xs : List Nat) : a ∈ sortNat xs ↔ a ∈ xs := (sortNat_perm xs).mem_iff

theorem length_sortNat (xs : List Nat) : (sortNat xs).length = xs.length := (sortNat_perm xs).length_eq

theorem sortNat_sorted (xs : List Nat) : (sortNat xs).Pairwise (· ≤ ·) :=
  insertSorted_isInsert.sort_pairwise id Nat.le_of_not_le Nat.le_trans xs

theorem mem_dedupSorted (a : Nat) (l : List Nat) : a ∈ dedupSorted l ↔ a ∈ l := by
  fun_induction dedupSorted l with
  | case1 y rest ih => simp [ih]
  | case2 x y rest hne ih => simp [ih]
  | case3 xs h => rfl

theorem dedupSorted_strict (l : List Nat) (h : l.Pairwise (· ≤ ·)) : (dedupSorted l).Pairwise (· < ·) := by
  fun_induction dedupSorted l with
  | case1 y rest ih => exact ih (List.pairwise_cons.mp h).2
  | case2 x y rest hne ih =>
    have hc := List.pairwise_cons.mp h
    refine List.pairwise_cons.mpr ⟨?_, ih hc.2⟩
    intro b hb
    have hb' := (mem_dedupSorted b _).mp hb
    have hxy := hc.1 y (by simp)
    rcases List.mem_cons.mp hb' with rfl | hb''
    · omega
    · have := (List.pairwise_cons.mp hc.2).1 b hb''
      omega
  | case3 xs hx =>
    match xs, hx with
    | [], _ => simp
    | [a], _ => simp
    | a :: b :: r, hx => exact absurd rfl (fun e => hx a b r e)

theorem filter_range_succ (P : Nat → Bool) (n : Nat) :
    (List.range (n + 1)).filter P = (List.range n).filter P ++ (if P n then [n] else []) := by
  rw [List.range_succ, List.filter_append, List.filter_cons, List.filter_nil]

end Flax.Layers
