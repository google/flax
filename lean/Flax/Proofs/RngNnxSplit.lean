/-
C09, NNX: `split_rngs` followed by `restore_rngs` on a whole `Rngs` (the loops over streams and backups).
-/
import Flax.Proofs.RngNnx

namespace Flax.Rng

/-- all streams scalar, with keys `seeds` and counts `c` -/
def streamsOf (seeds : List (String × SymKey)) (c : String → Nat) : List (String × Stream) :=
  seeds.map (fun ks => (ks.1, ({ tag := ks.1, key := .scalar ks.2, count := .scalar (c ks.1) } : Stream)))

def splitStreams (only : Option (List String)) (shape : List Nat) (seeds : List (String × SymKey)) (c : String → Nat) :
    List (String × Stream) :=
  seeds.map (fun ks => (ks.1,
    if selectedBy only ks.1 then
      ({ tag := ks.1, key := .batched (.foldIn ks.2 (c ks.1)) shape, count := .batched shape 0 } : Stream)
    else ({ tag := ks.1, key := .scalar ks.2, count := .scalar (c ks.1) } : Stream)))

theorem find?_streamsOf (seeds : List (String × SymKey)) (c : String → Nat) (n : String) :
    find? n (streamsOf seeds c) =
      (find? n seeds).map (fun k => ({ tag := n, key := .scalar k, count := .scalar (c n) } : Stream)) :=
  find?_map_key (fun n k => ({ tag := n, key := .scalar k, count := .scalar (c n) } : Stream)) n seeds

theorem find?_splitStreams (only : Option (List String)) (shape : List Nat) (c : String → Nat) (n : String)
    (seeds : List (String × SymKey)) :
    find? n (splitStreams only shape seeds c) =
      (find? n seeds).map (fun k =>
        if selectedBy only n then ({ tag := n, key := .batched (.foldIn k (c n)) shape, count := .batched shape 0 } : Stream)
        else ({ tag := n, key := .scalar k, count := .scalar (c n) } : Stream)) :=
  find?_map_key (fun n k =>
    if selectedBy only n then ({ tag := n, key := .batched (.foldIn k (c n)) shape, count := .batched shape 0 } : Stream)
    else ({ tag := n, key := .scalar k, count := .scalar (c n) } : Stream)) n seeds

/-- what `split_rngs` backs up: the key, and the count after the one draw the split itself makes (`+ 1`) -/
def backupsOf (only : Option (List String)) (seeds : List (String × SymKey)) (c : String → Nat) : List Backup :=
  (seeds.filter (fun ks => selectedBy only ks.1)).map
    (fun ks => ({ stream := ks.1, key := .scalar ks.2, count := .scalar (c ks.1 + 1) } : Backup))

theorem splitLoop_streamsOf (only : Option (List String)) (shape : List Nat) (c : String → Nat) :
    ∀ seeds : List (String × SymKey),
      splitLoop only shape false (streamsOf seeds c) = .ok (backupsOf only seeds c, splitStreams only shape seeds c) := by
  intro seeds
  induction seeds with
  | nil => rfl
  | cons a l ih =>
    obtain ⟨n, k⟩ := a
    simp only [streamsOf, List.map_cons, splitLoop] at ih ⊢
    cases hs : selectedBy only n with
    | true =>
      simp only [Stream.splitOne, Stream.call, bind, Except.bind, ih, Bool.false_eq_true, if_false]
      simp [backupsOf, splitStreams, hs]
    | false =>
      simp only [bind, Except.bind, ih]
      simp [backupsOf, splitStreams, hs]

theorem restoreLoop_find (bs : List Backup) (hn : (bs.map (·.stream)).Nodup) :
    ∀ (streams : List (String × Stream)) (n : String),
      find? n (restoreLoop streams bs) =
        match bs.find? (fun b => decide (b.stream = n)) with
        | some b => (find? n streams).map (fun s => { s with key := b.key, count := b.count })
        | none => find? n streams := by
  induction bs with
  | nil => intro streams n; rfl
  | cons b bs ih =>
    intro streams n
    simp only [List.map_cons, List.nodup_cons] at hn
    simp only [restoreLoop]
    rw [ih hn.2]
    by_cases h : b.stream = n
    · subst h
      have hnone : bs.find? (fun b' => decide (b'.stream = b.stream)) = none := by
        rw [List.find?_eq_none]
        intro b' hb'
        simp only [decide_eq_true_eq]
        intro he
        exact hn.1 (by rw [← he]; exact List.mem_map_of_mem hb')
      simp only [hnone, List.find?_cons, decide_true]
      cases hf : find? b.stream streams with
      | none => simp [hf]
      | some s => simp [find?_set_self]
    · simp only [List.find?_cons, h, decide_false]
      cases hf : find? b.stream streams with
      | none => rfl
      | some s =>
        simp only [find?_set_ne _ _ _ _ (fun e : n = b.stream => h e.symm)]

theorem find?_backupsOf (only : Option (List String)) (c : String → Nat) (n : String) (seeds : List (String × SymKey)) :
    (backupsOf only seeds c).find? (fun b => decide (b.stream = n)) =
      (if selectedBy only n then find? n seeds else none).map
        (fun k => ({ stream := n, key := .scalar k, count := .scalar (c n + 1) } : Backup)) := by
  rw [backupsOf, List.find?_map, find?_eq_lookup, ← Assoc.lookup_filter_key (fun k => selectedBy only k),
    ← Assoc.lookup_map (fun n k => ({ stream := n, key := .scalar k, count := .scalar (c n + 1) } : Backup)),
    ← Assoc.find?_key_eq_lookup, List.find?_map, Option.map_map]
  rfl

theorem backupsOf_streams (only : Option (List String)) (c : String → Nat) (seeds : List (String × SymKey)) :
    (backupsOf only seeds c).map (·.stream) = (seeds.filter (fun ks => selectedBy only ks.1)).map (·.1) := by
  simp [backupsOf, List.map_map, Function.comp_def]

/-- **Restoring the backups of a split**, in whatever state `streams'` the streams are by then (they may have been drawn from
inside the window). -/
theorem find?_restore_backupsOf (only : Option (List String)) (c : String → Nat) (n : String) :
    ∀ (seeds : List (String × SymKey)), (seeds.map (·.1)).Nodup → ∀ (streams' : List (String × Stream)),
      find? n (restoreLoop streams' (backupsOf only seeds c)) =
        match (if selectedBy only n then find? n seeds else none) with
        | some k => (find? n streams').map (fun s => { s with key := .scalar k, count := .scalar (c n + 1) })
        | none => find? n streams' := by
  intro seeds hnd streams'
  rw [restoreLoop_find _ (by rw [backupsOf_streams]; exact (List.filter_sublist.map _).nodup hnd), find?_backupsOf]
  cases (if selectedBy only n then find? n seeds else none) <;> rfl

theorem split_streamsOf (seeds : List (String × SymKey)) (c : String → Nat) (only : Option (List String)) (shape : List Nat)
    (bk : List (List Backup)) :
    Rngs.split { streams := streamsOf seeds c, backups := bk } only shape false =
      .ok (bk.length, { streams := splitStreams only shape seeds c, backups := bk ++ [backupsOf only seeds c] }) := by
  simp only [Rngs.split, splitLoop_streamsOf, bind, Except.bind]

theorem restore_ok (r : Rngs) (bid : Nat) (bs : List Backup) (h : r.backups[bid]? = some bs) :
    r.restore bid = .ok { r with streams := restoreLoop r.streams bs } := by
  simp only [Rngs.restore, h]

end Flax.Rng
