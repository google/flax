/-
Successful runs of the heap walks of `Model/Frozen.lean`.  `…_ok`: what a successful call did (`ok_of_*`: likewise the
matches `step` is made of); `…_prefix`: it only allocates (`h <+: h'`); `…_result`: what indexing hands out (`Handed`).
Induction over a successful `mapKvs` (`mapKvs_rel`) and `deep`; `mapKvs_total`.
-/
import Flax.Proofs.FrozenKv

namespace Flax.Frozen

theorem lt_length_of_get {h : Heap} {a : Nat} {o : Obj} (hg : h[a]? = some o) : a < h.length :=
  (List.getElem?_eq_some_iff.mp hg).1

theorem get_of_prefix {h h' : Heap} (e : h <+: h') {a : Addr} {o : Obj} (hg : h[a]? = some o) :
    h'[a]? = some o := by
  obtain ⟨ext, rfl⟩ := e
  rw [List.getElem?_append_left (lt_length_of_get hg)]; exact hg

theorem get_of_prefix_lt {h h' : Heap} (e : h <+: h') {a : Addr} (ha : a < h.length) : h'[a]? = h[a]? := by
  obtain ⟨ext, rfl⟩ := e
  exact List.getElem?_append_left ha

/-! The model passes a failed call on (`match e with | .error e => .error e | .ok (h1, a) => …`) and raises on a
receiver of the wrong kind by matches of a few fixed shapes.  Each lemma below is stated with one of those matches at
the model's types: its matcher unfolds to the same term as `step`'s, so it applies to `step … = .ok w'` by unification
and hands back the result of the call (or the receiver) and the rest of the run.  Matchers unfold alike only when
types, patterns and their order agree (hence the primed variants); otherwise: a type mismatch, and `split` does the
work.  Use: `cases op`, `dsimp only [step] at hs`, then one `obtain … := ok_of_… hs` per match, outermost first. -/

theorem ok_of_callV {β : Type} {e : Except Err (Heap × Val)} {k : Heap → Val → Except Err β} {r : β}
    (h : (match e with
      | .error x => (Except.error x : Except Err β)
      | .ok (h1, a) => k h1 a) = .ok r) : ∃ h1 a, e = .ok (h1, a) ∧ k h1 a = .ok r := by
  cases e with
  | error x => cases h
  | ok p => exact ⟨p.1, p.2, rfl, h⟩

theorem ok_of_callK {β : Type} {e : Except Err (Heap × List (Key × Val))}
    {k : Heap → List (Key × Val) → Except Err β} {r : β}
    (h : (match e with
      | .error x => (Except.error x : Except Err β)
      | .ok (h1, a) => k h1 a) = .ok r) : ∃ h1 a, e = .ok (h1, a) ∧ k h1 a = .ok r := by
  cases e with
  | error x => cases h
  | ok p => exact ⟨p.1, p.2, rfl, h⟩

theorem ok_of_inner {β : Type} {e : Except Err (List (Key × Val))} {k : List (Key × Val) → Except Err β} {r : β}
    (h : (match e with
      | .error x => (Except.error x : Except Err β)
      | .ok a => k a) = .ok r) : ∃ a, e = .ok a ∧ k a = .ok r := by
  cases e with
  | error x => cases h
  | ok p => exact ⟨p, rfl, h⟩

theorem ok_of_some {β : Type} {o : Option Val} {err : Err} {k : Val → Except Err β} {r : β}
    (h : (match o with
      | none => (Except.error err : Except Err β)
      | some v => k v) = .ok r) : ∃ v, o = some v ∧ k v = .ok r := by
  cases o with
  | none => cases h
  | some v => exact ⟨v, rfl, h⟩

theorem ok_of_some' {β : Type} {o : Option Val} {err : Err} {k : Val → Except Err β} {r : β}
    (h : (match o with
      | some v => k v
      | none => (Except.error err : Except Err β)) = .ok r) : ∃ v, o = some v ∧ k v = .ok r := by
  cases o with
  | none => cases h
  | some v => exact ⟨v, rfl, h⟩

theorem ok_of_root {β : Type} {o : Option Val} {k : Addr → Except Err β} {r : β}
    (h : (match o with
      | some (.ref a) => k a
      | some (.leaf _) => (Except.error Err.typeError : Except Err β)
      | none => .error .badHandle) = .ok r) : ∃ a, o = some (.ref a) ∧ k a = .ok r := by
  cases o with
  | none => cases h
  | some v =>
    cases v with
    | leaf l => cases h
    | ref a => exact ⟨a, rfl, h⟩

theorem ok_of_obj {β : Type} {o : Option Obj} {kd : Bool → List (Key × Val) → Except Err β}
    {kf : Addr → Except Err β} {r : β}
    (h : (match o with
      | some (.dict own kvs) => kd own kvs
      | some (.frozen i) => kf i
      | none => (Except.error Err.dangling : Except Err β)) = .ok r) :
    (∃ own kvs, o = some (.dict own kvs) ∧ kd own kvs = .ok r) ∨ ∃ i, o = some (.frozen i) ∧ kf i = .ok r := by
  cases o with
  | none => cases h
  | some ob =>
    cases ob with
    | dict own kvs => exact .inl ⟨own, kvs, rfl, h⟩
    | frozen i => exact .inr ⟨i, rfl, h⟩

theorem ok_of_obj' {β : Type} {o : Option Obj} {kd : Bool → List (Key × Val) → Except Err β}
    {kf : Addr → Except Err β} {r : β}
    (h : (match o with
      | some (.frozen i) => kf i
      | some (.dict own kvs) => kd own kvs
      | none => (Except.error Err.dangling : Except Err β)) = .ok r) :
    (∃ own kvs, o = some (.dict own kvs) ∧ kd own kvs = .ok r) ∨ ∃ i, o = some (.frozen i) ∧ kf i = .ok r := by
  cases o with
  | none => cases h
  | some ob =>
    cases ob with
    | dict own kvs => exact .inl ⟨own, kvs, rfl, h⟩
    | frozen i => exact .inr ⟨i, rfl, h⟩

theorem ok_of_root₂ {β : Type} {o1 o2 : Option Val} {k : Addr → Val → Except Err β} {r : β}
    (h : (match o1, o2 with
      | some (.ref a), some v => k a v
      | some (.leaf _), some _ => (Except.error Err.typeError : Except Err β)
      | _, _ => .error .badHandle) = .ok r) : ∃ a v, o1 = some (.ref a) ∧ o2 = some v ∧ k a v = .ok r := by
  cases o1 with
  | none => cases h
  | some x =>
    cases o2 with
    | none => cases x <;> cases h
    | some v =>
      cases x with
      | leaf l => cases h
      | ref a => exact ⟨a, v, rfl, rfl, h⟩

theorem mapKvs_ok_induction {f : Heap → Val → Except Err (Heap × Val)}
    {motive : Heap → List (Key × Val) → Heap → List (Key × Val) → Prop}
    (nil : ∀ h, motive h [] h [])
    (cons : ∀ {h h1 h2 k v v1 rest rest'}, f h v = .ok (h1, v1) → mapKvs f h1 rest = .ok (h2, rest') →
      motive h1 rest h2 rest' → motive h ((k, v) :: rest) h2 ((k, v1) :: rest')) :
    ∀ {kvs h h' kvs'}, mapKvs f h kvs = .ok (h', kvs') → motive h kvs h' kvs' := by
  intro kvs
  induction kvs with
  | nil =>
    intro h h' kvs' hm
    simp only [mapKvs, Except.ok.injEq, Prod.mk.injEq] at hm
    obtain ⟨rfl, rfl⟩ := hm
    exact nil h
  | cons p rest ih =>
    intro h h' kvs' hm
    obtain ⟨k, v⟩ := p
    dsimp only [mapKvs] at hm
    obtain ⟨h1, v1, hfv, hm⟩ := ok_of_callV hm
    obtain ⟨h2, rest', hrest, hm⟩ := ok_of_callK hm
    cases hm
    exact cons hfv hrest (ih hrest)

theorem mapKvs_keys {f : Heap → Val → Except Err (Heap × Val)} {kvs kvs' : List (Key × Val)} {h h' : Heap}
    (hm : mapKvs f h kvs = .ok (h', kvs')) : kvs'.map (·.1) = kvs.map (·.1) :=
  mapKvs_ok_induction (motive := fun _ kvs _ kvs' => kvs'.map (·.1) = kvs.map (·.1))
    (fun _ => rfl) (fun _ _ ih => by simp [ih]) hm

theorem mapKvs_prefix {f : Heap → Val → Except Err (Heap × Val)}
    (hf : ∀ {h v h' v'}, f h v = .ok (h', v') → h <+: h') {kvs kvs' : List (Key × Val)} {h h' : Heap}
    (hm : mapKvs f h kvs = .ok (h', kvs')) : h <+: h' :=
  mapKvs_ok_induction (motive := fun h _ h' _ => h <+: h')
    (fun _ => List.prefix_rfl) (fun hv _ ih => (hf hv).trans ih) hm

/-- `I`: an invariant of the heap the calls keep; `Pin`: what a call needs of its source; `R` relates a source in the
heap its call starts from to the result in the heap it returns; `stable` carries `R` over to the first and last heap. -/
theorem mapKvs_rel {f : Heap → Val → Except Err (Heap × Val)}
    (f_prefix : ∀ {h v h' v'}, f h v = .ok (h', v') → h <+: h')
    {I : Heap → Prop} {Pin : Heap → Val → Prop} {R : Heap → Val → Heap → Val → Prop}
    (pin_mono : ∀ {h h'}, h <+: h' → ∀ {v}, Pin h v → Pin h' v)
    (stable : ∀ {h0 h h1 h2 v v1}, h0 <+: h → h1 <+: h2 → R h v h1 v1 → R h0 v h2 v1)
    (hf : ∀ {h v h1 v1}, I h → Pin h v → f h v = .ok (h1, v1) → I h1 ∧ R h v h1 v1)
    {kvs kvs' : List (Key × Val)} {h h' : Heap} (hm : mapKvs f h kvs = .ok (h', kvs')) (hi : I h)
    (hp : ∀ p ∈ kvs, Pin h p.2) : I h' ∧ KvRel (fun v v' => R h v h' v') kvs kvs' := by
  refine mapKvs_ok_induction
    (motive := fun h kvs h' kvs' => I h → (∀ p ∈ kvs, Pin h p.2) → I h' ∧ KvRel (fun v v' => R h v h' v') kvs kvs')
    (fun _ hi _ => ⟨hi, .nil⟩) ?_ hm hi hp
  intro h h1 h2 k v v1 rest rest' hv hrest ih hi hp
  obtain ⟨i1, r1⟩ := hf hi (hp _ List.mem_cons_self) hv
  have e1 := f_prefix hv
  obtain ⟨i2, r2⟩ := ih i1 (fun p hp' => pin_mono e1 (hp p (List.mem_cons_of_mem _ hp')))
  exact ⟨i2, .cons (stable List.prefix_rfl (mapKvs_prefix f_prefix hrest) r1)
    (r2.imp fun _ _ _ r => stable e1 List.prefix_rfl r)⟩

theorem mapKvs_spec {f : Heap → Val → Except Err (Heap × Val)} {I : Heap → Prop} {Pin Q : Heap → Val → Prop}
    (f_prefix : ∀ {h v h' v'}, f h v = .ok (h', v') → h <+: h')
    (pin_mono : ∀ {h h'}, h <+: h' → ∀ {v}, Pin h v → Pin h' v)
    (q_mono : ∀ {h h'}, h <+: h' → ∀ {v}, Q h v → Q h' v)
    (hf : ∀ {h v h' v'}, I h → Pin h v → f h v = .ok (h', v') → I h' ∧ Q h' v')
    {kvs kvs' : List (Key × Val)} {h h' : Heap} (hi : I h) (hp : ∀ p ∈ kvs, Pin h p.2)
    (hm : mapKvs f h kvs = .ok (h', kvs')) : I h' ∧ ∀ p ∈ kvs', Q h' p.2 := by
  obtain ⟨i1, r⟩ := mapKvs_rel f_prefix (R := fun _ _ h1 v1 => Q h1 v1) pin_mono (fun _ e r => q_mono e r) hf hm hi hp
  exact ⟨i1, fun q hq => let ⟨_, _, hq'⟩ := r.mem_right q hq; hq'⟩

theorem mapKvs_total {f : Heap → Val → Except Err (Heap × Val)}
    (f_prefix : ∀ {h v h' v'}, f h v = .ok (h', v') → h <+: h') :
    ∀ (kvs : List (Key × Val)) (h : Heap),
      (∀ h1, h <+: h1 → ∀ p ∈ kvs, ∃ r, f h1 p.2 = .ok r) → ∃ r, mapKvs f h kvs = .ok r := by
  intro kvs
  induction kvs with
  | nil => intro h _; exact ⟨_, rfl⟩
  | cons p rest ih =>
    intro h hf
    obtain ⟨k, v⟩ := p
    obtain ⟨⟨h1, v1⟩, hv⟩ := hf h List.prefix_rfl (k, v) List.mem_cons_self
    have e1 := f_prefix hv
    obtain ⟨⟨h2, rest'⟩, hr⟩ := ih h1 (fun h2 e2 p hp => hf h2 (e1.trans e2) p (List.mem_cons_of_mem _ hp))
    simp only [mapKvs, hv, hr]
    exact ⟨_, rfl⟩

/-- `dict` gets the induction hypothesis for every call with the smaller fuel, to hand to a `mapKvs` lemma. -/
theorem deep_ok_induction {motive : Mode → Bool → Heap → Val → Heap → Val → Prop}
    (leaf : ∀ {m own h l}, motive m own h (.leaf l) h (.leaf l))
    (dict : ∀ {m own n h a o kvs h1 kvs'}, h[a]? = some (.dict o kvs) →
      mapKvs (deep m own n) h (if m = .tree then sortKvs kvs else kvs) = .ok (h1, kvs') →
      (∀ {h v h' v'}, deep m own n h v = .ok (h', v') → motive m own h v h' v') →
      motive m own h (.ref a) (h1 ++ [.dict own kvs']) (.ref h1.length))
    (prepare : ∀ {own h a i}, h[a]? = some (.frozen i) → motive .prepare own h (.ref a) h (.ref i))
    (unfreeze : ∀ {own n h a i h' v'}, h[a]? = some (.frozen i) → deep .tree own n h (.ref i) = .ok (h', v') →
      motive .tree own h (.ref i) h' v' → motive .unfreeze own h (.ref a) h' v')
    (tree : ∀ {own n h a i h1 j}, h[a]? = some (.frozen i) → deep .tree true n h (.ref i) = .ok (h1, .ref j) →
      motive .tree true h (.ref i) h1 (.ref j) →
      motive .tree own h (.ref a) (h1 ++ [.frozen j]) (.ref h1.length)) :
    ∀ {n m own h v h' v'}, deep m own n h v = .ok (h', v') → motive m own h v h' v' := by
  intro n
  induction n with
  | zero =>
    intro m own h v h' v' hd
    cases v with
    | leaf l => cases hd; exact leaf
    | ref a => cases hd
  | succ n ih =>
    intro m own h v h' v' hd
    cases v with
    | leaf l => cases hd; exact leaf
    | ref a =>
      simp only [deep] at hd
      split at hd
      · cases hd
      · rename_i o kvs hget
        split at hd
        · cases hd
        · rename_i h1 kvs' hm
          cases hd
          exact dict hget hm ih
      · rename_i i hget
        cases m with
        | prepare =>
          cases hd
          exact prepare hget
        | unfreeze => exact unfreeze hget hd (ih hd)
        | tree =>
          simp only at hd
          split at hd
          · cases hd
          · rename_i h1 j hr
            cases hd
            exact tree hget hr (ih hr)
          · cases hd

theorem deep_prefix {n : Nat} {m : Mode} {own : Bool} {h h' : Heap} {v v' : Val}
    (hd : deep m own n h v = .ok (h', v')) : h <+: h' :=
  deep_ok_induction (motive := fun _ _ h _ h' _ => h <+: h')
    List.prefix_rfl
    (fun _ hm ih => (mapKvs_prefix ih hm).trans (List.prefix_append _ _))
    (fun _ => List.prefix_rfl)
    (fun _ _ ih => ih)
    (fun _ _ ih => ih.trans (List.prefix_append _ _)) hd

theorem deep_ref_result {m : Mode} {own : Bool} {n : Nat} {h : Heap} {a : Addr} {h' : Heap} {v' : Val}
    (hd : deep m own n h (.ref a) = .ok (h', v')) : ∃ j, v' = .ref j :=
  deep_ok_induction (motive := fun _ _ _ v _ v' => ∀ a, v = .ref a → ∃ j, v' = .ref j)
    (fun _ ha => nomatch ha)
    (fun _ _ _ _ _ => ⟨_, rfl⟩)
    (fun _ _ _ => ⟨_, rfl⟩)
    (fun _ _ ih _ _ => ih _ rfl)
    (fun _ _ _ _ _ => ⟨_, rfl⟩) hd a rfl

theorem deep_of_dict {m : Mode} {own : Bool} {n : Nat} {h : Heap} {a : Addr} {o : Bool}
    {kvs : List (Key × Val)} {h1 : Heap} {v' : Val} (hg : h[a]? = some (.dict o kvs))
    (hd : deep m own n h (.ref a) = .ok (h1, v')) :
    ∃ j kvs', v' = .ref j ∧ h1[j]? = some (.dict own kvs') := by
  cases n with
  | zero => simp [deep] at hd
  | succ n =>
    simp only [deep, hg] at hd
    obtain ⟨h2, kvs', _, hd⟩ := ok_of_callK hd
    cases hd
    exact ⟨h2.length, kvs', rfl, by simp⟩

theorem mkFrozen_ok {h : Heap} {kvs : List (Key × Val)} {h' : Heap} {v' : Val}
    (hm : mkFrozen h kvs = .ok (h', v')) :
    ∃ h1 kvs', mapKvs (deep .prepare true (fuelOf h)) h kvs = .ok (h1, kvs') ∧
      h' = h1 ++ [.dict true kvs', .frozen h1.length] ∧ v' = .ref (h1.length + 1) := by
  dsimp only [mkFrozen] at hm
  obtain ⟨h1, kvs', hk, hm⟩ := ok_of_callK hm
  cases hm
  exact ⟨h1, kvs', hk, rfl, rfl⟩

theorem mkFrozen_objs (h1 : Heap) (kvs' : List (Key × Val)) :
    (h1 ++ [.dict true kvs', .frozen h1.length])[h1.length]? = some (.dict true kvs') ∧
    (h1 ++ [.dict true kvs', .frozen h1.length])[h1.length + 1]? = some (.frozen h1.length) := by
  refine ⟨by simp, ?_⟩
  rw [List.getElem?_append_right (by omega)]; simp

theorem mkFrozen_prefix {h : Heap} {kvs : List (Key × Val)} {h' : Heap} {v' : Val}
    (hm : mkFrozen h kvs = .ok (h', v')) : h <+: h' := by
  obtain ⟨h1, kvs', hk, rfl, _⟩ := mkFrozen_ok hm
  exact (mapKvs_prefix deep_prefix hk).trans (List.prefix_append _ _)

theorem mkFrozen_fresh {h : Heap} {kvs : List (Key × Val)} {h' : Heap} {v' : Val}
    (hm : mkFrozen h kvs = .ok (h', v')) : ∃ b i, v' = .ref b ∧ h.length ≤ b ∧ h'[b]? = some (.frozen i) := by
  obtain ⟨h1, kvs', hk, rfl, rfl⟩ := mkFrozen_ok hm
  have := (mapKvs_prefix deep_prefix hk).length_le
  exact ⟨h1.length + 1, h1.length, rfl, by omega, (mkFrozen_objs h1 kvs').2⟩

theorem wrapVal_ok {h : Heap} {v : Val} {h' : Heap} {v' : Val} (hm : wrapVal h v = .ok (h', v')) :
    (h' = h ∧ v' = v ∧ ((∃ l, v = .leaf l) ∨ ∃ a i, v = .ref a ∧ h[a]? = some (.frozen i))) ∨
    ∃ a o kvs, v = .ref a ∧ h[a]? = some (.dict o kvs) ∧ mkFrozen h kvs = .ok (h', v') := by
  cases v with
  | leaf l =>
    simp only [wrapVal, Except.ok.injEq, Prod.mk.injEq] at hm
    exact Or.inl ⟨hm.1.symm, hm.2.symm, Or.inl ⟨l, rfl⟩⟩
  | ref a =>
    simp only [wrapVal] at hm
    split at hm
    · cases hm
    · rename_i o kvs hg; exact Or.inr ⟨a, o, kvs, rfl, hg, hm⟩
    · rename_i i hg
      simp only [Except.ok.injEq, Prod.mk.injEq] at hm
      exact Or.inl ⟨hm.1.symm, hm.2.symm, Or.inr ⟨a, i, rfl, hg⟩⟩

theorem wrapVal_prefix {h : Heap} {v : Val} {h' : Heap} {v' : Val}
    (hm : wrapVal h v = .ok (h', v')) : h <+: h' := by
  rcases wrapVal_ok hm with ⟨rfl, _⟩ | ⟨_, _, _, _, _, hm'⟩
  · exact List.prefix_rfl
  · exact mkFrozen_prefix hm'

/-- what indexing or iterating a FrozenDict hands out, if an object, is a FrozenDict object, allocated since `h`
unless it was one in `h` -/
def Handed (h h' : Heap) (r : Val) : Prop :=
  ∀ b, r = .ref b → (∃ j, h'[b]? = some (.frozen j)) ∧ (h.length ≤ b ∨ ∃ j, h[b]? = some (.frozen j))

theorem Handed.stable {h0 h h1 h2 : Heap} {v : Val} (e0 : h0 <+: h) (e2 : h1 <+: h2) (r : Handed h h1 v) :
    Handed h0 h2 v := by
  intro b hb
  obtain ⟨r1, r2⟩ := r b hb
  refine ⟨r1.imp fun j hj => get_of_prefix e2 hj, ?_⟩
  rcases Nat.lt_or_ge b h0.length with hlt | hge
  · rcases r2 with hle | ⟨j, hj⟩
    · have := e0.length_le; omega
    · exact Or.inr ⟨j, (get_of_prefix_lt e0 hlt).symm ▸ hj⟩
  · exact Or.inl hge

theorem wrapVal_result {h h' : Heap} {v v' : Val} (hm : wrapVal h v = .ok (h', v')) : Handed h h' v' := by
  intro b hb
  rcases wrapVal_ok hm with ⟨rfl, rfl, ⟨l, rfl⟩ | ⟨a, i, rfl, hg⟩⟩ | ⟨a, o, kvs, rfl, hg, hm'⟩
  · cases hb
  · cases hb; exact ⟨⟨i, hg⟩, Or.inr ⟨i, hg⟩⟩
  · obtain ⟨b', i, rfl, hle, hfro⟩ := mkFrozen_fresh hm'
    cases hb; exact ⟨⟨i, hfro⟩, Or.inl hle⟩

theorem mapWrap_result {h h' : Heap} {kvs kvs' : List (Key × Val)} (hm : mapKvs wrapVal h kvs = .ok (h', kvs')) :
    ∀ q ∈ kvs', Handed h h' q.2 := by
  have := mapKvs_rel wrapVal_prefix (I := fun _ => True) (Pin := fun _ _ => True)
    (R := fun h _ h1 v1 => Handed h h1 v1)
    (fun _ _ _ => trivial) (fun e0 e2 r => r.stable e0 e2)
    (fun _ _ hv => ⟨trivial, wrapVal_result hv⟩) hm trivial (fun _ _ => trivial)
  exact fun q hq => let ⟨_, _, r⟩ := this.2.mem_right q hq; r

theorem innerKvs_ok {h : Heap} {i : Addr} {kvs : List (Key × Val)} :
    innerKvs h i = .ok kvs ↔ ∃ o, h[i]? = some (.dict o kvs) := by
  simp only [innerKvs]
  split
  · rename_i o kvs0 hg; simp [hg]
  · rename_i hne
    simp only [reduceCtorEq, false_iff, not_exists]
    intro o hg; exact hne o kvs hg

theorem dictOf_ok {h : Heap} {x : Val} {h' : Heap} {kvs : List (Key × Val)} (hm : dictOf h x = .ok (h', kvs)) :
    ∃ a, x = .ref a ∧
      ((∃ o, h[a]? = some (.dict o kvs) ∧ h' = h) ∨
       ∃ i o kvs0, h[a]? = some (.frozen i) ∧ h[i]? = some (.dict o kvs0) ∧ mapKvs wrapVal h kvs0 = .ok (h', kvs)) := by
  cases x with
  | leaf l => simp [dictOf] at hm
  | ref a =>
    simp only [dictOf] at hm
    split at hm
    · cases hm
    · rename_i o kvs0 hg
      simp only [Except.ok.injEq, Prod.mk.injEq] at hm
      obtain ⟨rfl, rfl⟩ := hm
      exact ⟨a, rfl, Or.inl ⟨o, hg, rfl⟩⟩
    · rename_i i hg
      obtain ⟨kvs0, hin, hm⟩ := ok_of_inner hm
      obtain ⟨o, hi⟩ := innerKvs_ok.mp hin
      exact ⟨a, rfl, Or.inr ⟨i, o, kvs0, hg, hi, hm⟩⟩

theorem dictOf_frozen {h : Heap} {f i : Addr} {o : Bool} {kvs : List (Key × Val)}
    (hf : h[f]? = some (.frozen i)) (hi : h[i]? = some (.dict o kvs)) :
    dictOf h (.ref f) = mapKvs wrapVal h kvs := by
  simp only [dictOf, hf, innerKvs, hi]

theorem dictOf_prefix {h : Heap} {x : Val} {h' : Heap} {kvs : List (Key × Val)}
    (hm : dictOf h x = .ok (h', kvs)) : h <+: h' := by
  obtain ⟨a, rfl, ⟨o, _, rfl⟩ | ⟨i, o, kvs0, _, _, hw⟩⟩ := dictOf_ok hm
  · exact List.prefix_rfl
  · exact mapKvs_prefix wrapVal_prefix hw

end Flax.Frozen
