/- C06: `lift.remat_scan` unfolds into nested explicit loops (one per entry of `lengths`); the nest is ONE flat
   loop for configurations that lift no axis and no broadcast collections (carried collections, carry and rng
   streams only) -/
import Flax.Proofs.LiftLoopScanMain
import Flax.Proofs.LiftLoopFold
import Flax.Proofs.LiftLoopDict

set_option linter.unusedSectionVars false

namespace Flax.LiftLoop
open Flax.Filter

section
variable {α : Type}

theorem sameStruct_refl (s : Vars α × List (Arr α)) : sameStruct s s = true := by simp [sameStruct]

theorem sameStruct_trans (a b c : Vars α × List (Arr α)) (h1 : sameStruct a b = true) (h2 : sameStruct b c = true) :
    sameStruct a c = true := by
  simp only [sameStruct, Bool.and_eq_true, decide_eq_true_eq] at h1 h2 ⊢
  exact ⟨h1.1.trans h2.1, h1.2.trans h2.2⟩

theorem names_of_sameStruct {a b : Vars α × List (Arr α)} (h : sameStruct a b = true) :
    a.1.map (fun cc => (cc.1, cc.2.map (·.1))) = b.1.map (fun cc => (cc.1, cc.2.map (·.1))) := by
  simp only [sameStruct, Bool.and_eq_true, decide_eq_true_eq] at h
  have := congrArg (List.map (fun (p : String × List (String × List Nat)) => (p.1, p.2.map (·.1)))) h.1
  rw [List.map_map, List.map_map] at this
  have e : ((fun (p : String × List (String × List Nat)) => (p.1, p.2.map (·.1))) ∘
      fun (cc : String × Col α) => (cc.1, cc.2.map (fun nv => (nv.1, nv.2.shape)))) =
      fun cc => (cc.1, cc.2.map (·.1)) := by
    funext cc; simp [Function.comp, List.map_map]
  rw [e] at this
  exact this

end

variable {α : Type} [Inhabited α]

theorem loopSpec_body_congr (cfg : ScanCfg) (verdict : Bool) (b1 b2 : Body α)
    (h : ∀ m v r c xs, opt (b1 m v r c xs) = opt (b2 m v r c xs)) (scopeMut : LFilter) (outer : Vars α)
    (rngs : Rngs) (init args : List (Arr α)) :
    loopSpec cfg verdict b1 scopeMut outer rngs init args = loopSpec cfg verdict b2 scopeMut outer rngs init args := by
  have hstep : ∀ mutF, loopStep cfg mutF b1 outer rngs = loopStep cfg mutF b2 outer rngs := by
    intro mutF
    funext inArgAxes args dLength b st i
    unfold loopStep
    simp only [h]
  unfold loopSpec loopCore loopCoreChecked loopCoreSimple
  rw [hstep]

/-- a scope function `carry ↦ carry` given by an `Option`-valued description, as a loop body without
per-iteration arguments and outputs -/
def bodyOfSpec (f : LFilter → Vars α → Rngs → List (Arr α) → Option (Vars α × List (Arr α))) : Body α :=
  fun m v r c _ =>
    match f m v r c with
    | some x => .ok (x.1, x.2, [])
    | none => .error (.body "InnerLoop")

/-- `lengths = (l₀, l₁, …)`: the explicit loop of `l₀` iterations whose body is the explicit loop of `l₁`
iterations whose body … is `body_fn`; every level slices the axis collections along their axis once more,
splits the split streams once more and threads the carry -/
def nestedLoops (rc : RematCfg) (verdict : Bool) (body : Body α) :
    List Nat → LFilter → Vars α → Rngs → List (Arr α) → Option (Vars α × List (Arr α))
  | [] => fun _ _ _ _ => none
  | [l] => fun m v r c =>
      (loopSpec (rc.scanCfg l) verdict
        (fun m v r c xs => match body m v r c xs with
          | .error e => .error e
          | .ok o => .ok (o.1, o.2.1, [])) m v r c []).map (fun res => (res.vars, res.carry))
  | l :: l' :: ls => fun m v r c =>
      (loopSpec (rc.scanCfg l) verdict (bodyOfSpec (nestedLoops rc verdict body (l' :: ls))) m v r c []).map
        (fun res => (res.vars, res.carry))

theorem rematScan_opt (rc : RematCfg) (verdict : Bool) (body : Body α) : ∀ (lengths : List Nat)
    (m : LFilter) (v : Vars α) (r : Rngs) (c xs : List (Arr α)),
    opt (rematScan rc verdict body lengths m v r c xs) =
      (nestedLoops rc verdict body lengths m v r c).map (fun x => (x.1, x.2, [])) := by
  intro lengths
  induction lengths with
  | nil => intro m v r c xs; rfl
  | cons l ls ih =>
    intro m v r c xs
    cases ls with
    | nil =>
      simp only [rematScan, nestedLoops]
      rw [← liftScan_opt]
      cases liftScan (rc.scanCfg l) verdict _ m v r c [] <;> rfl
    | cons l' ls' =>
      simp only [rematScan, nestedLoops]
      have hcongr := loopSpec_body_congr (rc.scanCfg l) verdict (rematScan rc verdict body (l' :: ls'))
        (bodyOfSpec (nestedLoops rc verdict body (l' :: ls'))) (by
          intro m' v' r' c' xs'
          rw [ih m' v' r' c' xs']
          unfold bodyOfSpec
          cases nestedLoops rc verdict body (l' :: ls') m' v' r' c' <;> rfl) m v r c []
      rw [← hcongr, ← liftScan_opt]
      cases liftScan (rc.scanCfg l) verdict _ m v r c [] <;> rfl

/-- the filters of every level: `[variable_broadcast, variable_carry]` (no `variable_axes` entries) -/
def RematCfg.fs2 (rc : RematCfg) : List LFilter := [rc.bcast, rc.carry]

theorem scanCfg_inAx (rc : RematCfg) (hax : rc.axes = []) (l : Nat) : (rc.scanCfg l).inAx = [] := by
  simp [RematCfg.scanCfg, ScanCfg.inAx, hax]

theorem scanCfg_outAx (rc : RematCfg) (hax : rc.axes = []) (l : Nat) : (rc.scanCfg l).outAx = [] := by
  simp [RematCfg.scanCfg, ScanCfg.outAx, hax]

theorem scanCfg_inFs (rc : RematCfg) (hax : rc.axes = []) (l : Nat) : (rc.scanCfg l).inFs = rc.fs2 := by
  rw [ScanCfg.inFs, scanCfg_inAx rc hax]; rfl

theorem scanCfg_outFs (rc : RematCfg) (hax : rc.axes = []) (l : Nat) : (rc.scanCfg l).outFs = rc.fs2 := by
  rw [ScanCfg.outFs, scanCfg_outAx rc hax]; rfl

theorem roleGroup_ff_zero {β : Type} (d : List (String × β)) (f : LFilter) : roleGroup d [.ff, f] 0 = [] := by
  simp [roleGroup, firstIdx, inFilter]

theorem roleGroup_idem {β : Type} (d : List (String × β)) (fs : List LFilter) (g : Nat) :
    roleGroup (roleGroup d fs g) fs g = roleGroup d fs g := by
  simp [roleGroup, List.filter_filter]

/-- one iteration of a level that lifts only carried collections: the body on `(carried collections, carry)` with
the iteration's rngs, its mutable carried collections regrouped -/
def levelStep (rc : RematCfg) (B : Body α) (mutF : LFilter) (r : Rngs) (l : Nat)
    (st : Vars α × List (Arr α)) (i : Nat) : Option ((Vars α × List (Arr α)) × (List (Arr α) × List (Vars α))) :=
  (opt (B mutF (mergeGroups ([] :: st.1 :: [])) (mergeGroups (iterRngGroups rc.splitRngs r l i)) st.2 [])).map
    (fun o => ((roleGroup (o.1.filter (fun kv => inFilter mutF kv.1)) rc.fs2 1, o.2.1), (o.2.2, [])))

theorem rngDims_all (sr : List (LFilter × Bool)) (rngs : Rngs) (l : Nat) :
    ∀ d ∈ ((List.range sr.length).zip sr).flatMap (fun p =>
      if p.2.2 then (roleGroup rngs (sr.map (·.1)) p.1).map (fun _ => l) else []), d = l := by
  intro d hd
  simp only [List.mem_flatMap] at hd
  obtain ⟨p, _, hp⟩ := hd
  split at hp
  · simp only [List.mem_map] at hp; obtain ⟨_, _, rfl⟩ := hp; rfl
  · cases hp

theorem loopStep_carryOnly (rc : RematCfg) (hax : rc.axes = []) (hb : rc.bcast = .ff) (B : Body α)
    (mutF : LFilter) (V : Vars α) (r : Rngs) (l : Nat) (st : Vars α × List (Arr α)) (i : Nat) :
    loopStep (rc.scanCfg l) mutF B V r [] [] l [] st i =
      (opt (B mutF (mergeGroups ([] :: st.1 :: [])) (mergeGroups (iterRngGroups rc.splitRngs r l i)) st.2 [])).map
        (fun o => ([], (roleGroup (o.1.filter (fun kv => inFilter mutF kv.1)) rc.fs2 1, o.2.1), (o.2.2, []))) := by
  unfold loopStep iterArgs
  have h3 : (rc.scanCfg l).splitRngs = rc.splitRngs := rfl
  simp only [scanCfg_inAx rc hax, scanCfg_outAx rc hax, h3, scanCfg_outFs rc hax, List.map_nil, List.length_nil,
    axisGroups, List.range_zero, List.zip_nil_left, mapE, opt_ok, Option.bind_some]
  cases B mutF (mergeGroups ([] :: st.1 :: [])) (mergeGroups (iterRngGroups rc.splitRngs r l i)) st.2 [] with
  | error e => rfl
  | ok o =>
    simp only [opt_ok, Option.bind_some, Option.map_some]
    have : roleGroup (o.1.filter (fun kv => inFilter mutF kv.1)) rc.fs2 0 = [] := by
      unfold RematCfg.fs2; rw [hb]; exact roleGroup_ff_zero _ _
    simp [this, reinject]

theorem loopDims_carryOnly (rc : RematCfg) (hax : rc.axes = []) (V : Vars α) (r : Rngs) (l : Nat) :
    ∃ dims, loopDims (rc.scanCfg l) V r [] [] l = some dims ∧ ∀ d ∈ dims, d = l := by
  have h3 : (rc.scanCfg l).splitRngs = rc.splitRngs := rfl
  refine ⟨((List.range rc.splitRngs.length).zip rc.splitRngs).flatMap (fun p =>
      if p.2.2 then (roleGroup r (rc.splitRngs.map (·.1)) p.1).map (fun _ => l) else []), ?_, ?_⟩
  · unfold loopDims
    simp only [scanCfg_inAx rc hax, h3, List.map_nil, List.length_nil, axisGroups, List.range_zero, List.zip_nil_left,
      mapE, opt_ok, Option.bind_some, List.flatten_nil, List.nil_append, List.append_nil]
  · exact rngDims_all rc.splitRngs r l

/-- such a level is a threaded loop of `l` iterations of `levelStep`, its result written back: with no broadcast
collection the broadcast pass is the first iteration again, and there is nothing to slice or stack -/
theorem level_carryOnly (rc : RematCfg) (hax : rc.axes = []) (hb : rc.bcast = .ff) (B : Body α)
    (hys : ∀ mf v rg c xs o, B mf v rg c xs = .ok o → o.2.2 = []) (m : LFilter) (V : Vars α) (r : Rngs)
    (c : List (Arr α)) (l : Nat) (hl : l ≠ 0) :
    loopSpec (rc.scanCfg l) true B m V r c [] =
      (loopRun (levelStep rc B (innerMutable m rc.fs2) r l) sameStruct (roleGroup V rc.fs2 1, c) (List.range l)).map
        (fun res => { vars := publish m V ([] :: res.1.1 :: []), carry := res.1.2, ys := [] }) := by
  obtain ⟨dims, hdims, hall⟩ := loopDims_carryOnly rc hax V r l
  have hstep : (fun st i => (loopStep (rc.scanCfg l) (innerMutable m rc.fs2) B V r [] [] l [] st i).map
      (fun x => (x.2.1, x.2.2))) = levelStep rc B (innerMutable m rc.fs2) r l := by
    funext st i
    rw [loopStep_carryOnly rc hax hb B _ V r l st i]
    unfold levelStep
    cases B (innerMutable m rc.fs2) (mergeGroups ([] :: st.1 :: [])) (mergeGroups (iterRngGroups rc.splitRngs r l i)) st.2 [] <;> rfl
  unfold loopSpec
  have ha : argSizes (rc.scanCfg l).inAxes ([] : List (Arr α)) = .ok [] := rfl
  have hd : decideLength (rc.scanCfg l).length [] = .ok l := rfl
  have he : (rc.scanCfg l).inAxes.expand ([] : List (Arr α)).length = .ok [] := rfl
  simp only [ha, hd, he, opt_ok, Option.bind_some, scanCfg_outFs rc hax]
  unfold loopCore
  have hcc : (rc.scanCfg l).checkConst = true := rfl
  simp only [hcc, if_true]
  unfold loopCoreChecked
  have hlen : (rc.scanCfg l).length = some l := rfl
  have hj : jaxLength (some l) dims = .ok l := jaxLength_eq_ok.2 ⟨hall, fun _ e => (Option.some.inj e).symm, nofun⟩
  simp only [hdims, Option.bind_some, hlen, hj, opt_ok, hl, if_false, scanCfg_inFs rc hax]
  have hrev : (rc.scanCfg l).reverse = false := rfl
  simp only [hrev, Bool.false_eq_true, if_false, Bool.not_true]
  have hb0 : roleGroup V rc.fs2 0 = [] := by unfold RematCfg.fs2; rw [hb]; exact roleGroup_ff_zero _ _
  rw [hb0, loopStep_carryOnly rc hax hb B _ V r l _ 0]
  obtain ⟨l', rfl⟩ := Nat.exists_eq_add_one_of_ne_zero hl
  cases hB : B (innerMutable m rc.fs2) (mergeGroups ([] :: (roleGroup V rc.fs2 1, c).1 :: []))
      (mergeGroups (iterRngGroups rc.splitRngs r (l' + 1) 0)) (roleGroup V rc.fs2 1, c).2 [] with
  | error e =>
    simp only [opt_error, Option.map_none, Option.bind_none]
    have : loopRun (levelStep rc B (innerMutable m rc.fs2) r (l' + 1)) sameStruct (roleGroup V rc.fs2 1, c)
        (List.range (l' + 1)) = none := by
      rw [List.range_succ_eq_map]
      simp [loopRun, levelStep, hB]
    rw [this]; rfl
  | ok o =>
    simp only [opt_ok, Option.map_some, Option.bind_some, hys _ _ _ _ _ _ hB, List.length_nil]
    have hexp : (rc.scanCfg (l' + 1)).outAxes.expand 0 = .ok [] := rfl
    simp only [hexp, opt_ok, Option.bind_some, hstep]
    cases hrun : loopRun (levelStep rc B (innerMutable m rc.fs2) r (l' + 1)) sameStruct (roleGroup V rc.fs2 1, c)
        (List.range (l' + 1)) with
    | none => rfl
    | some res =>
      have hk := loopRun_keys _ _ _ _ _ hrun
      simp only [Option.bind_some, byIndex_fwd _ _ hk, Option.map_some]
      simp [scanCfg_outAx rc hax, collectOuts, mapE, bind, Except.bind, pure, Except.pure]

/-- mutability filter handed to the body at nesting depth `k` -/
def mAt (rc : RematCfg) (m : LFilter) : Nat → LFilter
  | 0 => m
  | k + 1 => innerMutable (mAt rc m k) rc.fs2

/-- the rngs at the end of a path of `(length, index)` pairs: every level regroups and splits them once more -/
def rngsAt (rc : RematCfg) : Rngs → List (Nat × Nat) → Rngs
  | r, [] => r
  | r, (l, i) :: rest => rngsAt rc (mergeGroups (iterRngGroups rc.splitRngs r l i)) rest

theorem rngsAt_append (rc : RematCfg) : ∀ (p q : List (Nat × Nat)) (r : Rngs),
    rngsAt rc r (p ++ q) = rngsAt rc (rngsAt rc r p) q := by
  intro p
  induction p with
  | nil => intro q r; rfl
  | cons x xs ih => intro q r; obtain ⟨l, i⟩ := x; simp [rngsAt, ih]

theorem mAt_mono (rc : RematCfg) (m : LFilter) (c : String) : ∀ (j i : Nat), i ≤ j →
    inFilter (mAt rc m j) c = true → inFilter (mAt rc m i) c = true := by
  intro j
  induction j with
  | zero => intro i hi h; have : i = 0 := by omega
            subst this; exact h
  | succ j ih =>
    intro i hi h
    by_cases he : i = j + 1
    · subst he; exact h
    · apply ih i (by omega)
      simp only [mAt, in_innerMutable, Bool.and_eq_true] at h
      exact h.1

/-- dict well-formedness of the carried collections, and: they are carried collections -/
def InvC (rc : RematCfg) (cv : Vars α) : Prop :=
  (cv.map (·.1)).Nodup ∧ (∀ cc ∈ cv, (cc.2.map (·.1)).Nodup) ∧ (∀ cc ∈ cv, firstIdx rc.fs2 cc.1 = some 1)

theorem invC_of_sameStruct (rc : RematCfg) {a b : Vars α × List (Arr α)} (h : sameStruct a b = true)
    (ha : InvC rc a.1) : InvC rc b.1 := by
  have hn := names_of_sameStruct h
  have hk : a.1.map (·.1) = b.1.map (·.1) := by
    have := congrArg (List.map (·.1)) hn
    rw [List.map_map, List.map_map] at this
    exact this
  obtain ⟨h1, h2, h3⟩ := ha
  refine ⟨hk ▸ h1, ?_, ?_⟩
  · intro cc hcc
    have : (cc.1, cc.2.map (·.1)) ∈ b.1.map (fun cc => (cc.1, cc.2.map (·.1))) := List.mem_map_of_mem hcc
    rw [← hn] at this
    obtain ⟨cc', hcc', he⟩ := List.mem_map.1 this
    have := h2 cc' hcc'
    injection he with _ he2
    rw [← he2]; exact this
  · intro cc hcc
    have : cc.1 ∈ b.1.map (·.1) := List.mem_map_of_mem hcc
    rw [← hk] at this
    obtain ⟨cc', hcc', he⟩ := List.mem_map.1 this
    rw [← he]; exact h3 cc' hcc'

theorem roleGroup_self_of_inv (rc : RematCfg) {cv : Vars α} (h : InvC rc cv) : roleGroup cv rc.fs2 1 = cv := by
  unfold roleGroup
  apply List.filter_eq_self.2
  intro cc hcc
  simp [h.2.2 cc hcc]

theorem merge_self_of_inv (rc : RematCfg) {cv : Vars α} (h : InvC rc cv) : mergeGroups ([] :: cv :: []) = cv := by
  rw [mergeGroups_flatten]
  · simp
  · simpa using h.1

theorem regroup_good (rc : RematCfg) (m : LFilter) (k : Nat) {cv : Vars α} (hi : InvC rc cv)
    (hg : ∀ cc ∈ cv, inFilter (mAt rc m k) cc.1 = true) :
    roleGroup (cv.filter (fun kv => inFilter (mAt rc m k) kv.1)) rc.fs2 1 = cv := by
  have : cv.filter (fun kv => inFilter (mAt rc m k) kv.1) = cv := List.filter_eq_self.2 hg
  rw [this, roleGroup_self_of_inv rc hi]

/-- the loop body at the full multi-index `idx` of the flat loop over `L` -/
def flatStep (rc : RematCfg) (body : Body α) (m : LFilter) (r : Rngs) (L : List Nat)
    (st : Vars α × List (Arr α)) (idx : Ix) : Option ((Vars α × List (Arr α)) × Unit) :=
  (opt (body (mAt rc m L.length) st.1 (rngsAt rc r (L.zip idx)) st.2 [])).map
    (fun o => ((roleGroup (o.1.filter (fun kv => inFilter (mAt rc m L.length) kv.1)) rc.fs2 1, o.2.1), ()))

theorem flatStep_good (rc : RematCfg) (body : Body α) (m : LFilter) (r : Rngs) (L : List Nat)
    {st : Vars α × List (Arr α)} {idx : Ix} {res : (Vars α × List (Arr α)) × Unit}
    (h : flatStep rc body m r L st idx = some res) : ∀ cc ∈ res.1.1, inFilter (mAt rc m L.length) cc.1 = true := by
  unfold flatStep at h
  cases hb : opt (body (mAt rc m L.length) st.1 (rngsAt rc r (L.zip idx)) st.2 []) with
  | none => simp [hb] at h
  | some o =>
    simp [hb] at h
    subst h
    intro cc hcc
    simp only [roleGroup, List.mem_filter] at hcc
    exact hcc.1.2

theorem publish_back (rc : RematCfg) (mL : LFilter) (cv : Vars α) (c : List (Arr α)) (res : Vars α × List (Arr α))
    (hs : sameStruct (cv, c) res = true) (hi : InvC rc cv) (hg : ∀ cc ∈ res.1, inFilter mL cc.1 = true) :
    publish mL cv ([] :: res.1 :: []) = res.1 := by
  have hi' := invC_of_sameStruct rc hs hi
  have hn := names_of_sameStruct hs
  exact publish_same_structure mL cv res.1 hn hi'.1 hi'.2.1 hg

theorem level_eq_runG (rc : RematCfg) (hax : rc.axes = []) (hb : rc.bcast = .ff) (B : Body α)
    (hys : ∀ mf v rg c xs o, B mf v rg c xs = .ok o → o.2.2 = []) (mL : LFilter) (rg : Rngs) (l : Nat)
    (hl : l ≠ 0) {ω : Type} (F : Vars α × List (Arr α) → Nat → Option ((Vars α × List (Arr α)) × ω))
    (hstep : ∀ s i, InvC rc s.1 →
      ((levelStep rc B (innerMutable mL rc.fs2) rg l s i).map (·.1)).filter (sameStruct s) =
        ((F s i).map (·.1)).filter (sameStruct s))
    (cv : Vars α) (c : List (Arr α)) (hinv : InvC rc cv)
    (hgood : ∀ y, runG F sameStruct (cv, c) (List.range l) = some y → ∀ cc ∈ y.1.1, inFilter mL cc.1 = true) :
    (loopSpec (rc.scanCfg l) true B mL cv rg c []).map (fun res => (res.vars, res.carry)) =
      (runG F sameStruct (cv, c) (List.range l)).map (·.1) := by
  rw [level_carryOnly rc hax hb B hys mL cv rg c l hl, roleGroup_self_of_inv rc hinv, loopRun_eq_runG]
  have hXY := runG_state_congr _ F sameStruct (fun s => InvC rc s.1) hstep
    (fun s i x hs _ hsm => invC_of_sameStruct rc hsm hs) (List.range l) (cv, c) hinv
  -- the level's result is its loop's last state written back; for the state `F`'s loop ends in that changes nothing
  have key : ∀ {ω' : Type} (X : Option ((Vars α × List (Arr α)) × ω')),
      (X.map fun res => ({ vars := publish mL cv ([] :: res.1.1 :: []), carry := res.1.2, ys := [] } : Result α)).map
          (fun res => (res.vars, res.carry)) =
        (X.map (·.1)).map fun st => (publish mL cv ([] :: st.1 :: []), st.2) := fun X => by cases X <;> rfl
  rw [key, hXY]
  cases hy : runG F sameStruct (cv, c) (List.range l) with
  | none => rfl
  | some y =>
    have hs := runG_same _ _ sameStruct_refl sameStruct_trans _ _ _ hy
    simp only [Option.map_some, publish_back rc mL cv c y.1 hs hinv (hgood y hy)]

/-- what a level runs in each iteration: the body itself at the innermost level, the rest of the nest above it -/
def innerBody (rc : RematCfg) (body : Body α) : List Nat → Body α
  | [] => fun m v r c xs => match body m v r c xs with
    | .error e => .error e
    | .ok o => .ok (o.1, o.2.1, [])
  | l :: ls => bodyOfSpec (nestedLoops rc true body (l :: ls))

theorem nestedLoops_cons (rc : RematCfg) (body : Body α) (l : Nat) (ls : List Nat) :
    nestedLoops rc true body (l :: ls) = fun m v r c =>
      (loopSpec (rc.scanCfg l) true (innerBody rc body ls) m v r c []).map (fun res => (res.vars, res.carry)) := by
  cases ls <;> rfl

theorem innerBody_ys (rc : RematCfg) (body : Body α) (ls : List Nat) (mf : LFilter) (v : Vars α) (rg : Rngs)
    (c xs : List (Arr α)) (o : Vars α × List (Arr α) × List (Arr α)) (ho : innerBody rc body ls mf v rg c xs = .ok o) :
    o.2.2 = [] := by
  cases ls with
  | nil =>
    simp only [innerBody] at ho
    cases hbd : body mf v rg c xs with
    | error e => rw [hbd] at ho; cases ho
    | ok o' => rw [hbd] at ho; cases ho; rfl
  | cons l ls =>
    simp only [innerBody, bodyOfSpec] at ho
    cases hbd : nestedLoops rc true body (l :: ls) mf v rg c with
    | none => rw [hbd] at ho; cases ho
    | some o' => rw [hbd] at ho; cases ho; rfl

/-- the nest ends with a body call at full depth, so what it returns is mutable there -/
theorem nestRun_flatStep (rc : RematCfg) (body : Body α) (m : LFilter) (r : Rngs) (L : List Nat) {ls : List Nat}
    (hnz : ∀ l ∈ ls, l ≠ 0) {pre : Ix} {s : Vars α × List (Arr α)} {y : (Vars α × List (Arr α)) × List (Ix × Unit)}
    (h : nestRun (flatStep rc body m r L) sameStruct ls pre s = some y) :
    sameStruct s y.1 = true ∧ ∀ cc ∈ y.1.1, inFilter (mAt rc m L.length) cc.1 = true := by
  rw [nestRun_eq_flat _ _ sameStruct_refl sameStruct_trans] at h
  refine ⟨runG_same _ _ sameStruct_refl sameStruct_trans _ _ _ h, ?_⟩
  obtain ⟨s', j, u, hsj⟩ := runG_last_step _ _ _ _ _
    (fun hnil => allIdx_ne_nil _ hnz (List.map_eq_nil_iff.1 hnil)) h
  exact flatStep_good rc body m r L hsj

/-- level by level: the inner loops are the step of the outer one -/
theorem nested_eq_nestRun (rc : RematCfg) (hax : rc.axes = []) (hb : rc.bcast = .ff) (body : Body α)
    (m : LFilter) (r : Rngs) (L : List Nat) :
    ∀ (ls pl : List Nat) (pre : Ix), pl ++ ls = L → pl.length = pre.length → ls ≠ [] → (∀ l ∈ ls, l ≠ 0) →
    ∀ (cv : Vars α) (c : List (Arr α)), InvC rc cv →
    nestedLoops rc true body ls (mAt rc m pl.length) cv (rngsAt rc r (pl.zip pre)) c =
      (nestRun (flatStep rc body m r L) sameStruct ls pre (cv, c)).map (·.1) := by
  intro ls
  induction ls with
  | nil => intro _ _ _ _ h; exact absurd rfl h
  | cons l ls ih =>
    intro pl pre hL hlen _ hnz cv c hinv
    have hl : l ≠ 0 := hnz l (by simp)
    have hnz' : ∀ x ∈ ls, x ≠ 0 := fun x hx => hnz x (by simp [hx])
    have hL' : (pl ++ [l]) ++ ls = L := by rw [← hL]; simp
    have hle : pl.length + 1 ≤ L.length := by rw [← hL']; simp
    have hrng : ∀ i, mergeGroups (iterRngGroups rc.splitRngs (rngsAt rc r (pl.zip pre)) l i) =
        rngsAt rc r ((pl ++ [l]).zip (pre ++ [i])) := by
      intro i; rw [List.zip_append hlen, rngsAt_append]; rfl
    rw [nestedLoops_cons]
    refine (level_eq_runG rc hax hb _ (innerBody_ys rc body ls) _ _ l hl
      (fun s i => nestRun (flatStep rc body m r L) sameStruct ls (pre ++ [i]) s) ?_ cv c hinv ?_).trans ?_
    · intro s i hs
      unfold levelStep
      rw [merge_self_of_inv rc hs, hrng i, show innerMutable (mAt rc m pl.length) rc.fs2 = mAt rc m (pl.length + 1) from rfl]
      cases ls with
      | nil =>
        -- innermost level: one body call; the one-step run only adds the structure check once more
        subst hL
        rw [nestRun, runG_single_state, filter_filter_self]
        refine congrArg _ ?_
        simp only [innerBody, flatStep, List.length_append, List.length_cons, List.length_nil]
        cases body (mAt rc m (pl.length + 1)) s.1 (rngsAt rc r ((pl ++ [l]).zip (pre ++ [i]))) s.2 [] <;> rfl
      | cons l' ls' =>
        have hih := ih (pl ++ [l]) (pre ++ [i]) hL' (by simp [hlen]) (by simp) hnz' s.1 s.2 hs
        simp only [List.length_append, List.length_cons, List.length_nil] at hih
        simp only [innerBody, bodyOfSpec, hih]
        cases hy : nestRun (flatStep rc body m r L) sameStruct (l' :: ls') (pre ++ [i]) (s.1, s.2) with
        | none => rfl
        | some y =>
          -- the inner nest ends with a body call, so its carried collections regroup to themselves
          obtain ⟨hsm, hg⟩ := nestRun_flatStep rc body m r L hnz' hy
          simp only [Option.map_some, opt_ok]
          congr 2
          exact Prod.ext (regroup_good rc m (pl.length + 1) (invC_of_sameStruct rc hsm hs)
            (fun cc hcc => mAt_mono rc m cc.1 _ _ hle (hg cc hcc))) rfl
    · intro y hy cc hcc
      obtain ⟨s', i, u, hsi⟩ := runG_last_step _ _ _ _ _ (fun h => hl (by simpa using h)) hy
      exact mAt_mono rc m cc.1 _ _ (Nat.le_of_succ_le hle) ((nestRun_flatStep rc body m r L hnz' hsi).2 cc hcc)
    · simp only [nestRun]
      cases runG (fun s i => nestRun (flatStep rc body m r L) sameStruct ls (pre ++ [i]) s) sameStruct (cv, c)
        (List.range l) <;> rfl

theorem nested_eq_flat_carryOnly (rc : RematCfg) (hax : rc.axes = []) (hb : rc.bcast = .ff) (body : Body α)
    (m : LFilter) (r : Rngs) (L : List Nat) (hne : L ≠ []) (hnz : ∀ l ∈ L, l ≠ 0) (cv : Vars α) (c : List (Arr α))
    (hinv : InvC rc cv) :
    nestedLoops rc true body L m cv r c = (runG (flatStep rc body m r L) sameStruct (cv, c) (allIdx L)).map (·.1) := by
  have h := nested_eq_nestRun rc hax hb body m r L L [] [] rfl rfl hne hnz cv c hinv
  rw [nestRun_eq_flat _ _ sameStruct_refl sameStruct_trans] at h
  simpa [mAt, rngsAt] using h

end Flax.LiftLoop
