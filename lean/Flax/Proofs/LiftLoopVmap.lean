/-
C06: `lift.vmap` — the specification side (one call of the function per index on `jnp.take` slices, results
stacked along the declared out axes, `None`-axis collections shared) and the proof that the model of the
implementation equals it.
-/
import Flax.Proofs.LiftLoopScan
import Flax.Proofs.LiftLoopLength

set_option linter.unusedSectionVars false

namespace Flax.LiftLoop
open Flax.Filter
variable {α : Type} [Inhabited α]

/-- all role groups of a dict, one per filter: group `g` holds the keys whose first matching filter is `g` -/
def roleGroups {β : Type} (d : List (String × β)) (fs : List LFilter) : List (List (String × β)) :=
  (List.range fs.length).map (roleGroup d fs)

/-- the call at index `i`: collections with an axis are sliced along it, `None`-axis collections are passed
whole; afterwards the mutable collections are sorted by their first matching out filter -/
def mapCall (cfg : VmapCfg) (mutF : LFilter) (body : Body α) (outer : Vars α) (rngs : Rngs)
    (inArgAxes : List (Option Int)) (args : List (Arr α)) (dSize : Nat) (i : Nat) :
    Option (List (Arr α) × List (Vars α)) :=
  (opt (mapE (groupTakeAt i)
      ((cfg.inAx.map (·.axis)).zip (roleGroups outer (cfg.inAx.map (·.filter)))))).bind fun sv =>
  (iterArgs inArgAxes args i).bind fun xs =>
  (opt (body mutF (mergeGroups sv) (mergeGroups (iterRngGroups cfg.splitRngs rngs dSize i)) [] xs)).bind fun r =>
  some (r.2.2, roleGroups (r.1.filter (fun kv => inFilter mutF kv.1)) (cfg.outAx.map (·.filter)))

/-- the sizes of everything that is mapped, along the declared axes -/
def mapDims (cfg : VmapCfg) (outer : Vars α) (rngs : Rngs) (inArgAxes : List (Option Int))
    (args : List (Arr α)) (dSize : Nat) : Option (List Nat) :=
  (opt (mapE groupDimAt
      ((cfg.inAx.map (·.axis)).zip (roleGroups outer (cfg.inAx.map (·.filter)))))).bind fun d1 =>
  (opt (mapE argDimAt (inArgAxes.zip args))).bind fun d3 =>
  some (d1.flatten
    ++ ((List.range cfg.splitRngs.length).zip cfg.splitRngs).flatMap (fun p =>
        if p.2.2 then (roleGroup rngs (cfg.splitRngs.map (·.1)) p.1).map (fun _ => dSize) else [])
    ++ d3.flatten)

/-- **the per-index map** that `lift.vmap` is claimed to equal -/
def mapSpec (cfg : VmapCfg) (verdict : Bool) (body : Body α) (scopeMut : LFilter) (outer : Vars α)
    (rngs : Rngs) (args : List (Arr α)) : Option (Result α) :=
  let inFs := cfg.inAx.map (·.filter)
  let outFs := cfg.outAx.map (·.filter)
  let mutF := innerMutable scopeMut outFs
  (opt (vmapSizes (cfg.inAx.map (·.axis)) (roleGroups outer inFs) cfg.inAxes args)).bind fun sizes =>
  (opt (decideLength cfg.axisSize sizes)).bind fun dSize =>
  (opt (cfg.inAxes.expand args.length)).bind fun inArgAxes =>
  (mapDims cfg outer rngs inArgAxes args dSize).bind fun dims =>
  (opt (jaxLength cfg.axisSize dims)).bind fun n =>
  (mapO (mapCall cfg mutF body outer rngs inArgAxes args dSize) (List.range n)).bind fun outs =>
  match outs.head? with
  | none => none
  | some o0 =>
    (opt (cfg.outAxes.expand o0.1.length)).bind fun outYAxes =>
    if !verdict then none else
    (opt (mapE (vmapY o0.1 outs) ((List.range outYAxes.length).zip outYAxes))).bind fun ys =>
    (opt (mapE (vmapV o0.2 outs) ((List.range cfg.outAx.length).zip (cfg.outAx.map (·.axis))))).bind fun svOut =>
    some { vars := publish scopeMut outer svOut, carry := [], ys := ys }

theorem minKey_mem {β : Type} : ∀ (l : List (String × β)) (kv : String × β), minKey l = some kv → kv ∈ l := by
  intro l
  induction l with
  | nil => intro kv h; simp [minKey] at h
  | cons x xs ih =>
    intro kv h
    simp only [minKey] at h
    cases hm : minKey xs with
    | none => simp [hm] at h; subst h; simp
    | some m =>
      simp only [hm] at h
      split at h
      · injection h with h; subst h; simp
      · injection h with h; subst h; exact List.mem_cons_of_mem _ (ih m hm)

theorem firstLeaf_mem (g : Vars α) (a : Arr α) (h : firstLeaf g = some a) : a ∈ Vars.leaves g := by
  unfold firstLeaf at h
  cases hm : minKey (g.filter (fun cc => !cc.2.isEmpty)) with
  | none => simp [hm] at h
  | some cc =>
    simp only [hm] at h
    have hcc : cc ∈ g := (List.mem_filter.1 (minKey_mem _ cc hm)).1
    cases hn : minKey cc.2 with
    | none => simp [hn] at h
    | some nv =>
      simp [hn] at h
      subst h
      have hnv := minKey_mem _ nv hn
      simp only [Vars.leaves, List.mem_flatMap, List.mem_map]
      exact ⟨cc, hcc, nv, hnv, rfl⟩

/-- the size flax reads off the first leaf of a mapped group is among the sizes jax.vmap checks -/
theorem groupSize_mem_dim (p : Option Int × Vars α) (g : Option Nat) (e : List Nat)
    (hg : groupSizeOpt p = .ok g) (he : groupDimAt p = .ok e) (d : Nat) (hd : g = some d) : d ∈ e := by
  obtain ⟨o, v⟩ := p
  subst hd
  unfold groupSizeOpt at hg
  cases o with
  | none => cases hg
  | some ax =>
    cases hfl : firstLeaf v with
    | none => rw [hfl] at hg; cases hg
    | some a =>
      rw [hfl] at hg
      change (shapeAt a ax).map some = .ok (some d) at hg
      cases hs : shapeAt a ax with
      | error _ => rw [hs] at hg; cases hg
      | ok w =>
        rw [hs] at hg
        cases hg
        exact mapE_mem _ _ he a (firstLeaf_mem _ _ hfl) d hs

theorem vmap_n_eq_dSize (cfg : VmapCfg) (outer : Vars α) (rngs : Rngs) (inArgAxes : List (Option Int))
    (args : List (Arr α)) (sizes : List Nat) (dSize : Nat) (dims : List Nat) (n : Nat)
    (hsizes : vmapSizes (cfg.inAx.map (·.axis)) (roleGroups outer (cfg.inAx.map (·.filter))) cfg.inAxes args
      = .ok sizes)
    (hdl : decideLength cfg.axisSize sizes = .ok dSize)
    (hexp : cfg.inAxes.expand args.length = .ok inArgAxes)
    (hd : mapDims cfg outer rngs inArgAxes args dSize = some dims)
    (hj : jaxLength cfg.axisSize dims = .ok n) : n = dSize := by
  unfold mapDims at hd
  obtain ⟨d1, h1, hd⟩ := Option.bind_eq_some_iff.1 hd
  obtain ⟨d3, h3, hd⟩ := Option.bind_eq_some_iff.1 hd
  cases hd
  unfold vmapSizes at hsizes
  obtain ⟨l1, hl1, hs⟩ := bind_ok.mp hsizes
  obtain ⟨l2, hl2, hs⟩ := bind_ok.mp hs
  cases hs
  refine length_agrees cfg.axisSize _ _ dSize n hdl hj fun x hxm => ?_
  rcases List.mem_append.1 hxm with hxm | hxm
  · exact List.mem_append_left _ (List.mem_append_left _ (filterMap_sub_flatten groupSize_mem_dim _ l1 d1 hl1 (opt_eq_some.1 h1) x hxm))
  · exact List.mem_append_right _ (argSizes_sub cfg.inAxes args l2 inArgAxes d3 hl2 hexp (opt_eq_some.1 h3) x hxm)

theorem vmapCall_opt (cfg : VmapCfg) (m : LFilter) (body : Body α) (outer : Vars α) (rngs : Rngs)
    (inArgAxes : List (Option Int)) (args : List (Arr α)) (dSize : Nat) (i : Nat) (hi : i < dSize) :
    opt (vmapCall (innerMutable m (cfg.outAx.map (·.filter))) (cfg.outAx.map (·.filter)) body
        (cfg.inAx.map (·.axis)) (roleGroups outer (cfg.inAx.map (·.filter)))
        (splitGroups (groupDict rngs (cfg.splitRngs.map (·.1))) (cfg.splitRngs.map (·.2)) dSize)
        inArgAxes args i) =
      mapCall cfg (innerMutable m (cfg.outAx.map (·.filter))) body outer rngs inArgAxes args dSize i := by
  unfold vmapCall mapCall iterArgs
  simp only [rngAt_splitGroups _ _ _ _ hi, repack_eq]
  refine opt_bind_congr rfl fun sv _ => ?_
  show opt (mapE (argTakeAt i) (inArgAxes.zip args) >>= _) = _
  exact opt_bind_congr rfl fun xs _ => opt_bind_congr rfl fun r _ => rfl

theorem vmapDims_opt (cfg : VmapCfg) (outer : Vars α) (rngs : Rngs) (inArgAxes : List (Option Int))
    (args : List (Arr α)) (dSize : Nat) :
    opt (vmapDims (cfg.inAx.map (·.axis)) (roleGroups outer (cfg.inAx.map (·.filter)))
        (splitGroups (groupDict rngs (cfg.splitRngs.map (·.1))) (cfg.splitRngs.map (·.2)) dSize) inArgAxes args) =
      mapDims cfg outer rngs inArgAxes args dSize := by
  unfold vmapDims mapDims
  simp only [opt_bind, opt_pure, rngDims_splitGroups]

theorem jaxVmap_opt (cfg : VmapCfg) (m : LFilter) (body : Body α) (outer : Vars α) (rngs : Rngs)
    (inArgAxes : List (Option Int)) (args : List (Arr α)) (dSize n : Nat) (hn : n ≤ dSize) :
    opt (jaxVmap n (vmapCall (innerMutable m (cfg.outAx.map (·.filter))) (cfg.outAx.map (·.filter)) body
        (cfg.inAx.map (·.axis)) (roleGroups outer (cfg.inAx.map (·.filter)))
        (splitGroups (groupDict rngs (cfg.splitRngs.map (·.1))) (cfg.splitRngs.map (·.2)) dSize)
        inArgAxes args)) =
      mapO (mapCall cfg (innerMutable m (cfg.outAx.map (·.filter))) body outer rngs inArgAxes args dSize)
        (List.range n) := by
  unfold jaxVmap
  rw [opt_mapE]
  apply mapO_congr
  intro i hi
  exact vmapCall_opt cfg m body outer rngs inArgAxes args dSize i
    (Nat.lt_of_lt_of_le (List.mem_range.1 hi) hn)

/-- **`lift.vmap` is the per-index map** (success and result; which error is raised is not compared) -/
theorem liftVmap_opt (cfg : VmapCfg) (verdict : Bool) (body : Body α) (scopeMut : LFilter) (outer : Vars α)
    (rngs : Rngs) (args : List (Arr α)) :
    opt (liftVmap cfg verdict body scopeMut outer rngs args) = mapSpec cfg verdict body scopeMut outer rngs args := by
  unfold liftVmap mapSpec
  simp only [show groupDict outer (cfg.inAx.map (·.filter)) = roleGroups outer (cfg.inAx.map (·.filter)) from
    groupDict_eq _ _]
  refine opt_bind_congr rfl fun sizes hsizes => opt_bind_congr rfl fun dSize hdl =>
    opt_bind_congr rfl fun inArgAxes hexp => opt_bind_congr (vmapDims_opt ..) fun dims hd =>
    opt_bind_congr rfl fun n hj => ?_
  have hn := vmap_n_eq_dSize cfg outer rngs inArgAxes args sizes dSize dims n hsizes hdl hexp
    ((vmapDims_opt ..).symm.trans (congrArg opt hd)) hj
  refine opt_bind_congr (jaxVmap_opt cfg scopeMut body outer rngs inArgAxes args dSize n (Nat.le_of_eq hn))
    fun outs _ => ?_
  cases outs.head? with
  | none => rfl
  | some o0 =>
    refine opt_bind_congr rfl fun outYAxes _ => ?_
    cases verdict with
    | false => rfl
    | true => exact opt_bind_congr rfl fun ys _ => opt_bind_congr rfl fun svOut _ => rfl

end Flax.LiftLoop
