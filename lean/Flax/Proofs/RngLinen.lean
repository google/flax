/-
C09, Linen part: the scope machine of `Flax/Model/Rng.lean` (counter dictionaries shared by reference, looked up through
the parent on `push`; `fork_rngs` for `nn.jit`) computes the keys of the reference semantics `specProg` (`RngSpec`) for every
module program (`runProg_specProg`; from `bind`: `runTop_specProg`), which without `nn.jit` is the fold over its draws.
-/
import Flax.Proofs.RngLinenDraws

namespace Flax.Rng

theorem runProg_draw (cfg : Cfg) (s : String) (rest : Prog) (sc : Scope) (st : Store) :
    runProg cfg (.draw s rest) sc st =
      andThen ((makeRng cfg sc s st).map (fun r => ([r.1], r.2))) (runProg cfg rest sc) := by
  rw [runProg]
  cases makeRng cfg sc s st <;> rfl

theorem runProg_sub (cfg : Cfg) (n : String) (body rest : Prog) (sc : Scope) (st : Store) :
    runProg cfg (.sub n body rest) sc st =
      andThen (runProg cfg body (push sc n st).1 (push sc n st).2) (runProg cfg rest sc) := rfl

theorem runProg_jit (cfg : Cfg) (body rest : Prog) (sc : Scope) (st : Store) :
    runProg cfg (.jit body rest) sc st =
      (forkRngs cfg sc st).bind (fun r => andThen (runProg cfg body r.1 r.2) (runProg cfg rest sc)) := rfl

theorem foldInStatic_suffixOf (sep : Bool) (k : SymKey) (π : Path) (j : Nat) :
    foldInStatic sep k (π.map Datum.str ++ [Datum.int j]) = keyAt sep k π j := by
  unfold keyAt suffixOf
  cases h : π.map Datum.str ++ [Datum.int j] with
  | nil => simp at h
  | cons d ds => rfl

def seedRngs (seeds : List (String × SymKey)) (π : Path) : List (String × LazyRng) :=
  seeds.map (fun ks => (ks.1, ({ base := ks.2, suffix := π.map Datum.str } : LazyRng)))

/-- the `Scope` at path `π` with base keys `B` and the names `rel` pushed since they were installed (`bind`: `B` = the seeds,
`rel = π`; inside a jit-ted method: `B` = the forked keys) -/
def scopeG (B : List (String × SymKey)) (rel π : Path) : Scope :=
  { rngs := seedRngs B rel, path := π, cref := (0, π) }

theorem find?_seedRngs (seeds : List (String × SymKey)) (π : Path) (s : String) :
    find? s (seedRngs seeds π) = (find? s seeds).map (fun k => ({ base := k, suffix := π.map Datum.str } : LazyRng)) :=
  find?_map_val (fun k => ({ base := k, suffix := π.map Datum.str } : LazyRng)) s seeds

theorem find?_zeros (seeds : List (String × SymKey)) (π : Path) (s : String) :
    find? s (zeros (seedRngs seeds π)) = (find? s seeds).map (fun _ => 0) := by
  have : zeros (seedRngs seeds π) = seeds.map (fun ks => (ks.1, (fun _ => (0 : Nat)) ks.2)) := by
    simp [zeros, seedRngs, List.map_map, Function.comp_def]
  rw [this]
  exact find?_map_val (fun _ => (0 : Nat)) s seeds

/-- the store holds exactly the counts `c`: an existing dict has one entry per supplied stream, a dict that
was never created stands for zeros -/
def Rep (seeds : List (String × SymKey)) (st : Store) (c : Counts) : Prop :=
  ∀ π : Path,
    (∀ d, find? ((0 : Nat), π) st.dicts = some d → ∀ s, find? s d = (find? s seeds).map (fun _ => c π s)) ∧
    (find? ((0 : Nat), π) st.dicts = none → ∀ s, c π s = 0)

def Mono (st st' : Store) : Prop :=
  ∀ cref : CRef, (find? cref st.dicts).isSome → (find? cref st'.dicts).isSome

theorem Mono.refl (st : Store) : Mono st st := fun _ h => h
theorem Mono.trans {a b c : Store} (h1 : Mono a b) (h2 : Mono b c) : Mono a c := fun r h => h2 r (h1 r h)

theorem Rep.of_names {B B' : List (String × SymKey)} (h : ∀ s, (find? s B).isSome = (find? s B').isSome)
    {st : Store} {c : Counts} (hrep : Rep B st c) : Rep B' st c := by
  intro π
  refine ⟨?_, (hrep π).2⟩
  intro d hd s
  rw [(hrep π).1 d hd s]
  have := h s
  cases h1 : find? s B <;> cases h2 : find? s B' <;> simp [h1, h2] at this ⊢

theorem Rep.update {B : List (String × SymKey)} {st : Store} {c : Counts} (hrep : Rep B st c) (π : Path)
    (d' : List (String × Nat)) (c' : Counts) (dicts' : List (CRef × List (String × Nat)))
    (hfind : ∀ cref, find? cref dicts' = if cref = ((0 : Nat), π) then some d' else find? cref st.dicts)
    (hd' : ∀ s, find? s d' = (find? s B).map (fun _ => c' π s))
    (hc' : ∀ π', π' ≠ π → c' π' = c π') :
    Rep B { st with dicts := dicts' } c' ∧ Mono st { st with dicts := dicts' } := by
  constructor
  · intro π'
    simp only [hfind]
    by_cases hp : π' = π
    · subst hp
      rw [if_pos rfl]
      exact ⟨fun d hd s => by rw [← Option.some.inj hd]; exact hd' s, fun h => nomatch h⟩
    · rw [if_neg (fun e => hp (Prod.mk.inj e).2), hc' π' hp]
      exact hrep π'
  · intro cref h
    simp only [hfind]
    split
    · rfl
    · exact h

theorem bindRoot_eq (seeds : List (String × SymKey)) :
    bindRoot seeds = (scopeG seeds [] [], { dicts := [(((0 : Nat), []), zeros (seedRngs seeds []))], nroots := 1 }) := rfl

theorem rep_init (seeds : List (String × SymKey)) :
    Rep seeds { dicts := [(((0 : Nat), []), zeros (seedRngs seeds []))], nroots := 1 } (fun _ _ => 0) := by
  intro π
  by_cases h : π = []
  · subst h
    simp [find?_cons, find?_zeros]
  · have : ((0 : Nat), ([] : Path)) ≠ ((0 : Nat), π) := by
      intro e; exact h (Prod.mk.inj e).2.symm
    simp [find?_cons, this]

theorem push_scopeG (B : List (String × SymKey)) (rel π : Path) (n : String) (st : Store) (c : Counts)
    (hrep : Rep B st c) :
    ∃ st', push (scopeG B rel π) n st = (scopeG B (rel ++ [n]) (π ++ [n]), st') ∧ Rep B st' c ∧ Mono st st' ∧
      (find? ((0 : Nat), π ++ [n]) st'.dicts).isSome := by
  have hr : (seedRngs B rel).map (fun kr => (kr.1, kr.2.create [Datum.str n])) = seedRngs B (rel ++ [n]) := by
    simp [seedRngs, List.map_map, Function.comp_def, LazyRng.create]
  unfold push
  simp only [scopeG, hr]
  cases hf : find? ((0 : Nat), π ++ [n]) st.dicts with
  | some d =>
    exact ⟨st, rfl, hrep, Mono.refl st, by simp [hf]⟩
  | none =>
    obtain ⟨hrep', hmono⟩ := hrep.update (π ++ [n]) (zeros (seedRngs B (rel ++ [n]))) c _
      (find?_append_fresh _ _ st.dicts hf) (fun s => by rw [find?_zeros, (hrep (π ++ [n])).2 hf s]) (fun _ _ => rfl)
    exact ⟨_, rfl, hrep', hmono, by simp [find?_append_new _ _ _ hf]⟩

theorem effName_scopeG (cfg : Cfg) (B : List (String × SymKey)) (rel π : Path) (s : String) :
    effName cfg (scopeG B rel π) s =
      match effOf cfg B s with
      | some (s', _) => .ok s'
      | none => .error .invalidRng :=
  resolve_effOf cfg B (seedRngs B rel) .invalidRng (fun n => by rw [find?_seedRngs, Option.isSome_map]) s

theorem makeRng_scopeG_none (cfg : Cfg) (B : List (String × SymKey)) (rel π : Path) (s : String) (st : Store)
    (h : effOf cfg B s = none) : makeRng cfg (scopeG B rel π) s st = .error .invalidRng := by
  unfold makeRng
  rw [effName_scopeG, h]
  rfl

theorem makeRng_scopeG (cfg : Cfg) (B : List (String × SymKey)) (rel π : Path) (s : String) (st : Store) (c : Counts)
    (hrep : Rep B st c) (hhas : (find? ((0 : Nat), π) st.dicts).isSome)
    (s' : String) (k : SymKey) (h : effOf cfg B s = some (s', k)) :
    ∃ st', makeRng cfg (scopeG B rel π) s st = .ok (keyAt cfg.sep k rel (c π s' + 1), st') ∧
      Rep B st' (bump c π s') ∧ Mono st st' := by
  have hk := effOf_find cfg B s s' k h
  obtain ⟨d, hd⟩ := Option.isSome_iff_exists.mp hhas
  have hds := (hrep π).1 d hd
  have hcs : find? s' d = some (c π s') := by rw [hds s', hk]; rfl
  unfold makeRng
  rw [effName_scopeG, h]
  simp only [bind, Except.bind, scopeG, hd, find?_seedRngs, hk, Option.map, hcs]
  obtain ⟨hrep', hmono⟩ := hrep.update π (set s' (c π s' + 1) d) (bump c π s') _
    (fun cref => find?_set _ cref _ st.dicts)
    (fun t => by
      rw [find?_set, hds t]
      by_cases ht : t = s'
      · subst ht; simp [hk, bump]
      · simp [bump, ht])
    (fun π' hp => by funext t; simp [bump, hp])
  exact ⟨_, by simp only [LazyRng.asJaxRng, LazyRng.create, foldInStatic_suffixOf], hrep', hmono⟩

/-- the loop of `fork_rngs`, over a part `B'` of the bases `B` (the induction is on `B'`) -/
theorem forkLoop_scopeG (cfg : Cfg) (B : List (String × SymKey)) (rel π : Path) :
    ∀ (B' : List (String × SymKey)), (B'.map (·.1)).Nodup → (∀ nb ∈ B', find? nb.1 B = some nb.2) →
      ∀ (st : Store) (c : Counts), Rep B st c → (find? ((0 : Nat), π) st.dicts).isSome →
      ∃ st', forkLoop cfg (scopeG B rel π) (B'.map (·.1)) st = .ok (seedRngs (forkBases cfg.sep B' rel π c) [], st') ∧
        Rep B st' (bumpAll c π (B'.map (·.1))) ∧ Mono st st' := by
  intro B'
  induction B' with
  | nil =>
    intro _ _ st c hrep _
    exact ⟨st, rfl, by rw [List.map_nil, bumpAll_nil]; exact hrep, Mono.refl st⟩
  | cons nb l ih =>
    intro hnd hin st c hrep hhas
    obtain ⟨n, b⟩ := nb
    simp only [List.map_cons, List.nodup_cons] at hnd
    have hb : find? n B = some b := hin (n, b) List.mem_cons_self
    obtain ⟨st1, hrun1, hrep1, hmono1⟩ := makeRng_scopeG cfg B rel π n st c hrep hhas n b (effOf_self cfg B n b hb)
    obtain ⟨st2, hrun2, hrep2, hmono2⟩ :=
      ih hnd.2 (fun m hm => hin m (List.mem_cons_of_mem _ hm)) st1 (bump c π n) hrep1 (hmono1 _ hhas)
    refine ⟨st2, ?_, by rw [List.map_cons, bumpAll_cons c π n _ hnd.1]; exact hrep2, hmono1.trans hmono2⟩
    -- the later streams are different from `n`, so the bump of `n` does not show in their keys
    have hfb : forkBases cfg.sep l rel π (bump c π n) = forkBases cfg.sep l rel π c := by
      apply List.map_congr_left
      intro m hm
      have hne : m.1 ≠ n := fun e => hnd.1 (e ▸ List.mem_map_of_mem (f := (·.1)) hm)
      simp [bump, hne]
    rw [hfb] at hrun2
    simp only [List.map_cons, forkLoop, hrun1, bind, Except.bind, hrun2]
    rfl

theorem forkRngs_scopeG (cfg : Cfg) (B : List (String × SymKey)) (hnd : (B.map (·.1)).Nodup) (rel π : Path)
    (st : Store) (c : Counts) (hrep : Rep B st c) (hhas : (find? ((0 : Nat), π) st.dicts).isSome) :
    ∃ st', forkRngs cfg (scopeG B rel π) st = .ok (scopeG (forkBases cfg.sep B rel π c) [] π, st') ∧
      Rep B st' (bumpAll c π (B.map (·.1))) ∧ Mono st st' := by
  have hnames : (scopeG B rel π).rngs.map (·.1) = B.map (·.1) := by
    simp [scopeG, seedRngs, List.map_map, Function.comp_def]
  obtain ⟨st', hrun, hrep', hmono⟩ :=
    forkLoop_scopeG cfg B rel π B hnd (fun nb hm => find?_of_mem B hnd nb.1 nb.2 hm) st c hrep hhas
  refine ⟨st', ?_, hrep', hmono⟩
  unfold forkRngs
  rw [hnames, hrun]
  rfl

/-- the machine run (first) follows the reference run, ends in a store holding the reference counts, and drops no dict of `st` -/
def Refines (B : List (String × SymKey)) (st : Store) :
    Except Err (List SymKey × Store) → Except Err (List SymKey × Counts) → Prop :=
  Follows (fun c' st' => Rep B st' c' ∧ Mono st st')

theorem Refines.andThen {B : List (String × SymKey)} {st st1 : Store} (hm : Mono st st1)
    {rb : Except Err (List SymKey × Store)} {sb : Except Err (List SymKey × Counts)}
    {rr : Store → Except Err (List SymKey × Store)} {sr : Counts → Except Err (List SymKey × Counts)}
    (hb : Refines B st1 rb sb)
    (hr : ∀ st2 c1, Rep B st2 c1 → Mono st st2 → Refines B st2 (rr st2) (sr c1)) :
    Refines B st (andThen rb rr) (andThen sb sr) :=
  Follows.andThen hb (fun c1 st2 h =>
    (hr st2 c1 h.1 (hm.trans h.2)).imp (fun _ _ h' => ⟨h'.1, (hm.trans h.2).trans h'.2⟩))

/-- The stream names have to be distinct only where `fork_rngs` loops over them. -/
theorem runProg_specProg (cfg : Cfg) :
    ∀ (p : Prog) (B : List (String × SymKey)), p.jitFree ∨ (B.map (·.1)).Nodup → ∀ (rel π : Path) (st : Store) (c : Counts),
      Rep B st c → (find? ((0 : Nat), π) st.dicts).isSome →
      Refines B st (runProg cfg p (scopeG B rel π) st) (specProg cfg p B rel π c) := by
  intro p
  induction p with
  | done =>
    intro B _ rel π st c hrep _
    exact ⟨st, rfl, hrep, Mono.refl st⟩
  | draw s rest ih =>
    intro B hnd rel π st c hrep hhas
    rw [specProg_draw, runProg_draw]
    cases he : effOf cfg B s with
    | none => rw [makeRng_scopeG_none cfg B rel π s st he]; exact (rfl : Except.error Err.invalidRng = _)
    | some sk =>
      obtain ⟨s', k⟩ := sk
      obtain ⟨st1, hrun1, hrep1, hmono1⟩ := makeRng_scopeG cfg B rel π s st c hrep hhas s' k he
      rw [hrun1]
      exact Refines.andThen (Mono.refl st) ⟨st1, rfl, hrep1, hmono1⟩
        (fun st2 c1 hrep2 hmono2 => ih B hnd rel π st2 c1 hrep2 (hmono2 _ hhas))
  | sub n body rest ihb ihr =>
    intro B hnd rel π st c hrep hhas
    obtain ⟨st1, hpush, hrep1, hmono1, hhasc⟩ := push_scopeG B rel π n st c hrep
    rw [specProg_sub, runProg_sub, hpush]
    exact Refines.andThen hmono1 (ihb B (hnd.imp And.left id) (rel ++ [n]) (π ++ [n]) st1 c hrep1 hhasc)
      (fun st2 c1 hrep2 hmono2 => ihr B (hnd.imp And.right id) rel π st2 c1 hrep2 (hmono2 _ hhas))
  | jit body rest ihb ihr =>
    intro B hnd rel π st c hrep hhas
    have hnd : (B.map (·.1)).Nodup := hnd.resolve_left id
    obtain ⟨st1, hfork, hrep1, hmono1⟩ := forkRngs_scopeG cfg B hnd rel π st c hrep hhas
    have hsn := forkBases_isSome cfg.sep B rel π c
    -- the body runs on the forked bases, which have the names of `B`
    have hb := ihb (forkBases cfg.sep B rel π c) (Or.inr (by rw [forkBases_names]; exact hnd)) [] π st1 _
      (hrep1.of_names hsn) (hmono1 _ hhas)
    rw [specProg_jit, runProg_jit, hfork]
    exact Refines.andThen hmono1 (hb.imp (fun _ _ h => ⟨h.1.of_names (fun s => (hsn s).symm), h.2⟩))
      (fun st2 c1 hrep2 hmono2 => ihr B (Or.inr hnd) rel π st2 c1 hrep2 (hmono2 _ hhas))

theorem runTop_specProg (cfg : Cfg) (seeds : List (String × SymKey)) (p : Prog)
    (hnd : p.jitFree ∨ (seeds.map (·.1)).Nodup) :
    runTop cfg seeds p = (specProg cfg p seeds [] [] (fun _ _ => 0)).map (·.1) := by
  unfold runTop
  rw [bindRoot_eq]
  obtain ⟨herr, hok⟩ :=
    (runProg_specProg cfg p seeds hnd [] [] _ (fun _ _ => 0) (rep_init seeds) (by simp [find?_cons])).elim
  cases hs : specProg cfg p seeds [] [] (fun _ _ => 0) with
  | error e => simp only [herr e hs]; rfl
  | ok r =>
    obtain ⟨st', hrun, _⟩ := hok r.1 r.2 hs
    simp only [hrun]; rfl

theorem runTop_ok (cfg : Cfg) (seeds : List (String × SymKey)) (p : Prog) (hnd : p.jitFree ∨ (seeds.map (·.1)).Nodup)
    (ks : List SymKey) (h : runTop cfg seeds p = .ok ks) :
    ∃ c', specProg cfg p seeds [] [] (fun _ _ => 0) = .ok (ks, c') := by
  rw [runTop_specProg cfg seeds p hnd] at h
  obtain ⟨r, hs, rfl⟩ := map_ok.mp h
  exact ⟨r.2, hs⟩

theorem runTop_spec (cfg : Cfg) (seeds : List (String × SymKey)) (p : Prog) (hjf : p.jitFree) :
    runTop cfg seeds p = (specRun (linenOut cfg.sep) .invalidRng cfg seeds (fun _ _ => 0) (p.draws [])).map (·.1) := by
  rw [runTop_specProg cfg seeds p (Or.inl hjf), specProg_jitFree cfg seeds p hjf]

end Flax.Rng
