/-
`from_state_dict` (`Flax/Model/Serial.lean`): the round trip through `to_state_dict` (`rt_tree`); the notions the
mismatch theorems are stated in (`Tree.child`, `Tree.sub`, `localCheck`, `sameNode`); the one loop all four restore
functions run (`restoreKvs`); what a result says about a node and its children (`node_spec`), and from that along
key paths (`path_ok`, `path_err`); the legacy namedtuple encoding (`legacyLoop_eq`).
-/
import Flax.Proofs.Serial

namespace Flax.Serial

theorem firstErrorBy_all_ok (order : List String) (fs : List (String × Tree)) :
    firstErrorBy order (fs.map (fun kv => (kv.1, (Except.ok kv.2 : Except Err Tree)))) = none := by
  induction order with
  | nil => rfl
  | cons k r ih =>
    rw [firstErrorBy, lookup_eq, Assoc.lookup_map_val]
    cases fs.lookup k <;> exact ih

theorem collect_all_ok : ∀ (fs : List (String × Tree)),
    collect (fs.map (fun kv => (kv.1, (Except.ok kv.2 : Except Err Tree)))) = .ok fs
  | [] => rfl
  | (k, v) :: r => by simp [collect, collect_all_ok r]

/-- `rt_tree`'s hypothesis on the flag, as a `Bool` -/
def okGuard (guard : Bool) (t : Tree) : Bool := guard || t.noLegacyNames

mutual
  /-- the round trip (`rt_`) `from_state_dict(t, to_state_dict(t)) == t`. `g` is `fromSDG`'s flag: `true` the repaired
  `_restore_namedtuple`, `false` the shipped one, which needs that no namedtuple is named name/fields/values. -/
  theorem rt_tree (g : Bool) : ∀ (t : Tree) (path : Path), t.wf = true → (g = false → t.noLegacyNames = true) →
      fromSDG g path t (toStateDict t) = .ok t
    | .leaf v, path, _, _ => by simp only [toStateDict, fromSDG, ofState]
    | .dict kvs, path, hw, hl | .fdict kvs, path, hw, hl => by
      simp only [Tree.wf, Bool.and_eq_true, decide_eq_true_eq] at hw
      have hr := rt_fields g kvs path (toSDFields kvs) hw.2 hl
        (fun k v h => lookup_toSDFields kvs hw.1 k v h)
      simp only [toStateDict, fromSDG, keys_toSDFields, subsetKeys_refl, hr, ↓reduceIte]
    | .list xs, path, hw, hl | .tuple xs, path, hw, hl => by
      simp only [Tree.wf] at hw
      have hr := rt_list g xs path 0 (toSDList 0 xs) hw hl
        (fun j x h => lookup_toSDList xs 0 j x h)
      simp only [toStateDict, fromSDG, pyLen, length_toSDList, hr, ↓reduceIte]
    | .named cls fs, path, hw, hl => by
      simp only [Tree.wf, Bool.and_eq_true, decide_eq_true_eq] at hw
      have hns : namedState g (keys fs) (toSDFields fs) = .ok (toSDFields fs) := by
        simp only [namedState, keys_toSDFields]
        cases g with
        | true => simp
        | false =>
          have := hl rfl
          simp only [Tree.noLegacyNames, Bool.and_eq_true, Bool.not_eq_true'] at this
          simp [this.1]
      have hc := rt_children g fs path (toSDFields fs) hw.2
        (fun h => by have := hl h; simp only [Tree.noLegacyNames, Bool.and_eq_true] at this; exact this.2)
        (fun k v h => lookup_toSDFields fs hw.1 k v h)
      simp only [toStateDict, fromSDG, hns, keys_toSDFields, sameKeySet_refl, hc, firstErrorBy_all_ok,
        collect_all_ok, ↓reduceIte]
    | .struct cls fs aux, path, hw, hl => by
      simp only [Tree.wf, Bool.and_eq_true, decide_eq_true_eq] at hw
      have hr := rt_struct g fs path hw.2 hl
      simp only [toStateDict, fromSDG, hr, List.isEmpty_nil, ↓reduceIte]
  theorem rt_fields (g : Bool) : ∀ (kvs : List (String × Tree)) (path : Path) (skvs : List (String × STree)),
      wfFields kvs = true → (g = false → nlFields kvs = true) →
      (∀ k v, (k, v) ∈ kvs → lookup k skvs = some (toStateDict v)) →
      restoreFields g path kvs skvs = .ok kvs
    | [], _, _, _, _, _ => by simp [restoreFields]
    | (k, v) :: r, path, skvs, hw, hl, hlk => by
      simp only [wfFields, Bool.and_eq_true] at hw
      have h1 := rt_tree g v (path ++ [k]) hw.1
        (fun h => (Bool.and_eq_true_iff.mp (hl h)).1)
      have h2 := rt_fields g r path skvs hw.2
        (fun h => (Bool.and_eq_true_iff.mp (hl h)).2)
        (fun k' v' h => hlk k' v' (List.mem_cons_of_mem _ h))
      simp only [restoreFields, hlk k v (List.mem_cons_self), h1, h2]
  theorem rt_list (g : Bool) : ∀ (xs : List Tree) (path : Path) (i : Nat) (skvs : List (String × STree)),
      wfList xs = true → (g = false → nlList xs = true) →
      (∀ j x, xs[j]? = some x → lookup (idx (i + j)) skvs = some (toStateDict x)) →
      restoreList g path i xs (.dict skvs) = .ok xs
    | [], _, _, _, _, _, _ => by simp [restoreList]
    | x :: r, path, i, skvs, hw, hl, hlk => by
      simp only [wfList, Bool.and_eq_true] at hw
      have h0 : lookup (idx i) skvs = some (toStateDict x) := hlk 0 x rfl
      have h1 := rt_tree g x (path ++ [idx i]) hw.1
        (fun h => (Bool.and_eq_true_iff.mp (hl h)).1)
      have h2 := rt_list g r path (i + 1) skvs hw.2
        (fun h => (Bool.and_eq_true_iff.mp (hl h)).2)
        (fun j y h => by
          rw [Nat.add_right_comm]
          exact hlk (j + 1) y h)
      simp only [restoreList, getItem, h0, h1, h2]
  theorem rt_children (g : Bool) : ∀ (fs : List (String × Tree)) (path : Path) (skvs : List (String × STree)),
      wfFields fs = true → (g = false → nlFields fs = true) →
      (∀ k v, (k, v) ∈ fs → lookup k skvs = some (toStateDict v)) →
      childResults g path fs skvs = fs.map (fun kv => (kv.1, (Except.ok kv.2 : Except Err Tree)))
    | [], _, _, _, _, _ => by simp [childResults]
    | (k, v) :: r, path, skvs, hw, hl, hlk => by
      simp only [wfFields, Bool.and_eq_true] at hw
      have h1 := rt_tree g v (path ++ [k]) hw.1
        (fun h => (Bool.and_eq_true_iff.mp (hl h)).1)
      have h2 := rt_children g r path skvs hw.2
        (fun h => (Bool.and_eq_true_iff.mp (hl h)).2)
        (fun k' v' h => hlk k' v' (List.mem_cons_of_mem _ h))
      simp only [childResults, hlk k v (List.mem_cons_self), h1, h2, List.map_cons]
  theorem rt_struct (g : Bool) : ∀ (fs : List (String × Tree)) (path : Path),
      wfFields fs = true → (g = false → nlFields fs = true) →
      restoreStruct g path fs (toSDFields fs) = .ok (fs, [])
    | [], _, _, _ => by simp [restoreStruct, toSDFields]
    | (k, v) :: r, path, hw, hl => by
      simp only [wfFields, Bool.and_eq_true] at hw
      have h1 := rt_tree g v (path ++ [k]) hw.1
        (fun h => (Bool.and_eq_true_iff.mp (hl h)).1)
      have h2 := rt_struct g r path hw.2
        (fun h => (Bool.and_eq_true_iff.mp (hl h)).2)
      simp only [restoreStruct, toSDFields, lookup, erase, h1, h2, ↓reduceIte]
end

/-- the entry of a container under the key / field name / decimal index `k` -/
def Tree.child : Tree → String → Option Tree
  | .leaf _, _ => none
  | .dict kvs, k => lookup k kvs
  | .fdict kvs, k => lookup k kvs
  | .list xs, k => lookup k (enumL 0 xs)
  | .tuple xs, k => lookup k (enumL 0 xs)
  | .named _ fs, k => lookup k fs
  | .struct _ fs _, k => lookup k fs

def STree.child : STree → String → Option STree
  | .leaf _, _ => none
  | .dict kvs, k => lookup k kvs

def Tree.sub : Tree → Path → Option Tree
  | t, [] => some t
  | t, k :: p =>
    match t.child k with
    | none => none
    | some c => c.sub p

def STree.sub : STree → Path → Option STree
  | s, [] => some s
  | s, k :: p =>
    match s.child k with
    | none => none
    | some c => c.sub p

/-- first index in `i, i+1, …, i+n-1` at which `state[str(index)]` fails -/
def firstIndexErr (s : STree) : Nat → Nat → Option Err
  | _, 0 => none
  | i, n + 1 =>
    match getItem s (idx i) with
    | .error e => some e
    | .ok _ => firstIndexErr s (i + 1) n

/-- first field name (in declaration order) that is not a key of the state -/
def firstMissing : List String → List String → Option String
  | [], _ => none
  | k :: r, ks => if k ∈ ks then firstMissing r ks else some k

/-- The check each restore function makes on its own node, before / apart from restoring the
children: which error (if any) the pair (target node, state node) raises by itself. -/
def localCheck (path : Path) : Tree → STree → Option Err
  | .leaf _, _ => none
  | .dict _, .leaf _ => some .notMapping
  | .dict kvs, .dict skvs => if subsetKeys (keys kvs) (keys skvs) then none else some (.missingKeys path)
  | .fdict _, .leaf _ => some .notMapping
  | .fdict kvs, .dict skvs => if subsetKeys (keys kvs) (keys skvs) then none else some (.missingKeys path)
  | .list xs, s =>
    match pyLen s with
    | none => some .notMapping
    | some n => if n = xs.length then firstIndexErr s 0 xs.length else some (.sizeMismatch path)
  | .tuple xs, s =>
    match pyLen s with
    | none => some .notMapping
    | some n => if n = xs.length then firstIndexErr s 0 xs.length else some (.sizeMismatch path)
  | .named _ _, .leaf _ => some .notMapping
  | .named _ fs, .dict skvs =>
    if sameKeySet (keys skvs) (keys fs) then none else some (.fieldNames path)
  | .struct _ _ _, .leaf _ => some .notMapping
  | .struct _ fs _, .dict skvs =>
    match firstMissing (keys fs) (keys skvs) with
    | some k => some (.missingField path k)
    | none => if subsetKeys (keys skvs) (keys fs) then none else some (.unknownFields path)

/-- what a restored node has in common with its target: container type, class, keys / length -/
def sameNode : Tree → Tree → Prop
  | .leaf _, _ => True
  | .dict kvs, .dict ys => keys ys = keys kvs
  | .fdict kvs, .fdict ys => keys ys = keys kvs
  | .list xs, .list ys => ys.length = xs.length
  | .tuple xs, .tuple ys => ys.length = xs.length
  | .named c fs, .named c' ys => c' = c ∧ keys ys = keys fs
  | .struct c fs a, .struct c' ys a' => c' = c ∧ a' = a ∧ keys ys = keys fs
  | _, _ => False

theorem firstMissing_none_iff (ks : List String) : ∀ (l : List String),
    firstMissing l ks = none ↔ ∀ k ∈ l, k ∈ ks
  | [] => by simp [firstMissing]
  | a :: l => by
    simp only [firstMissing]
    by_cases ha : a ∈ ks
    · simp [ha, firstMissing_none_iff ks l]
    · simp [ha]

/-- Restore every entry `(k, v)` of a target from the state entry `look k`, in the target's order;
a key without state entry raises `miss k`. -/
def restoreKvs (g : Bool) (path : Path) (miss : String → Err) (look : String → Option STree) : List (String × Tree) → Except Err (List (String × Tree))
  | [] => .ok []
  | (k, v) :: r =>
    match look k with
    | none => .error (miss k)
    | some sv =>
      match fromSDG g (path ++ [k]) v sv with
      | .error e => .error e
      | .ok y =>
        match restoreKvs g path miss look r with
        | .error e => .error e
        | .ok ys => .ok ((k, y) :: ys)

/-- first key without entry: what `firstMissing` and `firstIndexErr` compute (`firstMissing_eq`, `firstIndexErr_eq`) -/
def firstMiss {α} (look : String → Option α) : List String → Option String
  | [] => none
  | k :: r => if (look k).isSome then firstMiss look r else some k

theorem firstMiss_some {α} {look : String → Option α} {k : String} : ∀ (l : List String),
    firstMiss look l = some k → k ∈ l ∧ look k = none
  | [], h => nomatch h
  | a :: l, h => by
    rw [firstMiss] at h
    cases ha : look a with
    | none => rw [ha] at h; cases h; exact ⟨List.mem_cons_self, ha⟩
    | some v =>
      rw [ha] at h
      exact ⟨List.mem_cons_of_mem _ (firstMiss_some l h).1, (firstMiss_some l h).2⟩

section
variable {g : Bool} {path : Path} {miss : String → Err} {look : String → Option STree}

theorem restoreKvs_ok : ∀ (kvs ys : List (String × Tree)), restoreKvs g path miss look kvs = .ok ys →
    keys ys = keys kvs ∧ firstMiss look (keys kvs) = none ∧
    ∀ k v, lookup k kvs = some v → ∃ sv y, look k = some sv ∧ fromSDG g (path ++ [k]) v sv = .ok y ∧ lookup k ys = some y
  | [], ys, h => by
    cases h
    exact ⟨rfl, rfl, fun _ _ hk => nomatch hk⟩
  | (k0, v0) :: r, ys, h => by
    rw [restoreKvs] at h
    cases hsv0 : look k0 with
    | none => rw [hsv0] at h; cases h
    | some sv0 =>
      simp only [hsv0] at h
      cases hy0 : fromSDG g (path ++ [k0]) v0 sv0 with
      | error e => rw [hy0] at h; cases h
      | ok y0 =>
        simp only [hy0] at h
        cases hys' : restoreKvs g path miss look r with
        | error e => rw [hys'] at h; cases h
        | ok ys' =>
          rw [hys'] at h; cases h
          have ih := restoreKvs_ok r ys' hys'
          refine ⟨by rw [keys_cons, keys_cons, ih.1], by rw [keys_cons, firstMiss, hsv0]; exact ih.2.1, ?_⟩
          intro k v hk
          rw [lookup] at hk ⊢
          by_cases hkk : k0 = k
          · rw [if_pos hkk] at hk ⊢
            cases hk; subst hkk
            exact ⟨sv0, y0, hsv0, hy0, rfl⟩
          · rw [if_neg hkk] at hk ⊢
            exact ih.2.2 k v hk

theorem restoreKvs_err (e : Err) : ∀ (kvs : List (String × Tree)), restoreKvs g path miss look kvs = .error e →
    (∃ k, firstMiss look (keys kvs) = some k ∧ e = miss k) ∨
    ∃ k v sv, (k, v) ∈ kvs ∧ look k = some sv ∧ fromSDG g (path ++ [k]) v sv = .error e
  | [], h => nomatch h
  | (k0, v0) :: r, h => by
    rw [restoreKvs] at h
    rw [keys_cons, firstMiss]
    cases hsv0 : look k0 with
    | none =>
      rw [hsv0] at h; cases h
      exact Or.inl ⟨k0, rfl, rfl⟩
    | some sv0 =>
      simp only [hsv0] at h
      cases hy0 : fromSDG g (path ++ [k0]) v0 sv0 with
      | error e0 =>
        rw [hy0] at h; cases h
        exact Or.inr ⟨k0, v0, sv0, List.mem_cons_self, hsv0, hy0⟩
      | ok y0 =>
        simp only [hy0] at h
        cases hys' : restoreKvs g path miss look r with
        | ok ys' => rw [hys'] at h; cases h
        | error e1 =>
          rw [hys'] at h; cases h
          rcases restoreKvs_err e r hys' with hm | ⟨k, v, sv, hm, h1, h2⟩
          · exact Or.inl hm
          · exact Or.inr ⟨k, v, sv, List.mem_cons_of_mem _ hm, h1, h2⟩

theorem restoreKvs_congr {look' : String → Option STree} : ∀ (kvs : List (String × Tree)),
    (∀ k ∈ keys kvs, look' k = look k) → restoreKvs g path miss look' kvs = restoreKvs g path miss look kvs
  | [], _ => rfl
  | (k0, v0) :: r, h => by
    rw [restoreKvs, restoreKvs, h k0 List.mem_cons_self,
      restoreKvs_congr r fun k hk => h k (List.mem_cons_of_mem _ hk)]

end

/-! The model's four loops are that loop: dict and FrozenDict look the key up in the state, list and tuple index it by
`str(i)`, the namedtuple handler restores every field before it reports, the dataclass handler pops from a copy. -/

theorem restoreFields_eq (g : Bool) (path : Path) (skvs : List (String × STree)) :
    ∀ (kvs : List (String × Tree)), restoreFields g path kvs skvs =
      restoreKvs g path (fun _ => .keyError) (fun k => lookup k skvs) kvs
  | [] => by rw [restoreFields, restoreKvs]
  | (k, v) :: r => by rw [restoreFields, restoreKvs, restoreFields_eq g path skvs r]; rfl

theorem collect_childResults (g : Bool) (path : Path) (skvs : List (String × STree)) :
    ∀ (fs : List (String × Tree)), collect (childResults g path fs skvs) =
      restoreKvs g path (fun _ => .keyError) (fun k => lookup k skvs) fs
  | [] => by rw [childResults, collect, restoreKvs]
  | (k, v) :: r => by
    rw [childResults, restoreKvs, ← collect_childResults g path skvs r]
    cases lookup k skvs with
    | none => rfl
    | some sv => dsimp only; cases fromSDG g (path ++ [k]) v sv <;> rfl

theorem mem_childResults (g : Bool) (path : Path) (skvs : List (String × STree)) (k : String)
    (r : Except Err Tree) : ∀ (fs : List (String × Tree)), (k, r) ∈ childResults g path fs skvs →
      ∃ v, (k, v) ∈ fs ∧ r = match lookup k skvs with
        | none => .error .keyError
        | some sv => fromSDG g (path ++ [k]) v sv
  | [], h => nomatch h
  | (k0, v0) :: fs, h => by
    rw [childResults, List.mem_cons] at h
    rcases h with h | h
    · cases h; exact ⟨v0, List.mem_cons_self, rfl⟩
    · obtain ⟨v, hm, hr⟩ := mem_childResults g path skvs k r fs h
      exact ⟨v, List.mem_cons_of_mem _ hm, hr⟩

theorem firstErrorBy_some (rs : List (String × Except Err Tree)) (e : Err) :
    ∀ (order : List String), firstErrorBy order rs = some e → ∃ k, k ∈ order ∧ lookup k rs = some (.error e)
  | [], h => by simp [firstErrorBy] at h
  | k :: r, h => by
    simp only [firstErrorBy] at h
    split at h
    · next e' he' =>
      simp only [Option.some.injEq] at h
      subst h
      exact ⟨k, by simp, he'⟩
    · obtain ⟨k', hk', hl⟩ := firstErrorBy_some rs e r h
      exact ⟨k', by simp [hk'], hl⟩

theorem firstErrorBy_none (rs : List (String × Except Err Tree)) :
    ∀ (order : List String), firstErrorBy order rs = none → ∀ k ∈ order, ∀ e, lookup k rs ≠ some (.error e)
  | [], _, k, hk, _ => by cases hk
  | k0 :: r, h, k, hk, e => by
    simp only [firstErrorBy] at h
    split at h
    · cases h
    · next hne =>
      simp only [List.mem_cons] at hk
      rcases hk with rfl | hk
      · exact hne e
      · exact firstErrorBy_none rs r h k hk e

theorem namedState_noLegacy (g : Bool) (fs : List String) (skvs : List (String × STree))
    (h : sameKeySet (keys skvs) legacyKeys = false) : namedState g fs skvs = .ok skvs := by
  simp [namedState, h]

theorem namedState_legacy (g : Bool) {fs : List String} {skvs : List (String × STree)}
    (h : sameKeySet (keys skvs) legacyKeys = true) (hfs : sameKeySet fs legacyKeys = false) :
    namedState g fs skvs = legacyConvert skvs := by
  simp [namedState, h, hfs]

/-- the error `state[k]` raises for an absent `k` -/
def missErr : STree → Err
  | .leaf _ => .notMapping
  | .dict _ => .keyError

theorem getItem_eq (s : STree) (k : String) :
    getItem s k = match s.child k with
      | some v => .ok v
      | none => .error (missErr s) := by
  cases s with
  | leaf v => rfl
  | dict kvs => rw [getItem, STree.child]; cases lookup k kvs <;> rfl

theorem restoreList_eq (g : Bool) (path : Path) (s : STree) : ∀ (xs : List Tree) (i : Nat),
    restoreList g path i xs s =
      (restoreKvs g path (fun _ => missErr s) s.child (enumL i xs)).map
        (List.map Prod.snd)
  | [], _ => by rw [restoreList, enumL, restoreKvs]; rfl
  | x :: r, i => by
    rw [restoreList, enumL, restoreKvs, getItem_eq, restoreList_eq g path s r (i + 1)]
    cases s.child (idx i) with
    | none => rfl
    | some sv =>
      dsimp only
      cases fromSDG g (path ++ [idx i]) x sv with
      | error e => rfl
      | ok y => cases restoreKvs _ _ _ _ (enumL (i + 1) r) <;> rfl

theorem firstIndexErr_eq (s : STree) : ∀ (xs : List Tree) (i : Nat),
    firstIndexErr s i xs.length = (firstMiss s.child (keys (enumL i xs))).map fun _ => missErr s
  | [], _ => rfl
  | x :: r, i => by
    rw [List.length_cons, firstIndexErr, getItem_eq, enumL, keys_cons, firstMiss]
    cases s.child (idx i) with
    | none => rfl
    | some sv => exact firstIndexErr_eq s r (i + 1)

/-- `d.pop(k)` for every `k` of `ks` -/
def eraseAll {α} (ks : List String) (st : List (String × α)) : List (String × α) :=
  ks.foldl (fun st k => erase k st) st

theorem eraseAll_eq_filter {α} : ∀ (ks : List String) (st : List (String × α)), (keys st).Nodup →
    eraseAll ks st = st.filter fun p => decide (p.1 ∉ ks)
  | [], st, _ => (List.filter_eq_self.mpr fun _ _ => by simp).symm
  | k0 :: ks, st, hn => by
    rw [eraseAll, List.foldl_cons, ← eraseAll, eraseAll_eq_filter ks _ (nodup_keys_erase st k0 hn),
      erase_eq_filter st k0 hn, List.filter_filter]
    exact List.filter_congr fun p _ => by simp [List.mem_cons, not_or, Bool.and_comm]

theorem isEmpty_eraseAll {α} (ks : List String) (st : List (String × α)) (hn : (keys st).Nodup) :
    (eraseAll ks st).isEmpty = subsetKeys (keys st) ks := by
  rw [eraseAll_eq_filter ks st hn, Bool.eq_iff_iff, subsetKeys_iff, List.isEmpty_iff, List.filter_eq_nil_iff]
  simp only [keys, List.mem_map, decide_eq_true_eq, Decidable.not_not, forall_exists_index, and_imp,
    forall_apply_eq_imp_iff₂]

theorem restoreStruct_eq (g : Bool) (path : Path) : ∀ (fs : List (String × Tree)) (st : List (String × STree)),
    (keys fs).Nodup → (keys st).Nodup → restoreStruct g path fs st =
      (restoreKvs g path (.missingField path) (fun k => lookup k st) fs).map
        (fun ys => (ys, eraseAll (keys fs) st))
  | [], st, _, _ => by rw [restoreStruct, restoreKvs]; rfl
  | (k, v) :: r, st, hn, hs => by
    rw [keys_cons, List.nodup_cons] at hn
    -- popping `k` does not change what the later fields find
    rw [restoreStruct, restoreKvs, restoreStruct_eq g path r (erase k st) hn.2 (nodup_keys_erase st k hs),
      restoreKvs_congr (look := fun k => lookup k st) r
        fun k' hk' => lookup_erase_ne st k k' hs fun e => hn.1 (e ▸ hk')]
    cases lookup k st with
    | none => rfl
    | some sv =>
      dsimp only
      cases fromSDG g (path ++ [k]) v sv with
      | error e => rfl
      | ok y => cases restoreKvs _ _ _ _ r <;> rfl

theorem firstMissing_eq {α} (st : List (String × α)) : ∀ (l : List String),
    firstMissing l (keys st) = firstMiss (fun k => lookup k st) l
  | [] => rfl
  | k :: l => by
    rw [firstMissing, firstMiss, firstMissing_eq st l]
    cases h : lookup k st with
    | none => rw [if_neg ((lookup_none_iff st k).mp h)]; rfl
    | some v => rw [if_pos (mem_keys_of_lookup st k v h).1]; rfl

section
variable (g : Bool) (path : Path)

theorem fromSDG_dict (kvs : List (String × Tree)) (skvs : List (String × STree)) :
    fromSDG g path (.dict kvs) (.dict skvs) =
      if subsetKeys (keys kvs) (keys skvs) then
        (restoreKvs g path (fun _ => .keyError) (fun k => lookup k skvs) kvs).map .dict
      else .error (.missingKeys path) := by
  rw [fromSDG, restoreFields_eq]
  cases subsetKeys (keys kvs) (keys skvs) with
  | false => rfl
  | true => cases restoreKvs g path _ _ kvs <;> rfl

theorem fromSDG_fdict (kvs : List (String × Tree)) (skvs : List (String × STree)) :
    fromSDG g path (.fdict kvs) (.dict skvs) =
      if subsetKeys (keys kvs) (keys skvs) then
        (restoreKvs g path (fun _ => .keyError) (fun k => lookup k skvs) kvs).map .fdict
      else .error (.missingKeys path) := by
  rw [fromSDG, restoreFields_eq]
  cases subsetKeys (keys kvs) (keys skvs) with
  | false => rfl
  | true => cases restoreKvs g path _ _ kvs <;> rfl

theorem fromSDG_list (xs : List Tree) (s : STree) :
    fromSDG g path (.list xs) s =
      match pyLen s with
      | none => .error .notMapping
      | some n =>
        if n = xs.length then
          (restoreKvs g path (fun _ => missErr s) s.child (enumL 0 xs)).map fun zs => .list (zs.map Prod.snd)
        else .error (.sizeMismatch path) := by
  rw [fromSDG, restoreList_eq]
  cases pyLen s with
  | none => rfl
  | some n =>
    dsimp only
    by_cases hn : n = xs.length
    · rw [if_pos hn, if_pos hn]; cases restoreKvs g path _ _ (enumL 0 xs) <;> rfl
    · rw [if_neg hn, if_neg hn]

theorem fromSDG_tuple (xs : List Tree) (s : STree) :
    fromSDG g path (.tuple xs) s =
      match pyLen s with
      | none => .error .notMapping
      | some n =>
        if n = xs.length then
          (restoreKvs g path (fun _ => missErr s) s.child (enumL 0 xs)).map fun zs => .tuple (zs.map Prod.snd)
        else .error (.sizeMismatch path) := by
  rw [fromSDG, restoreList_eq]
  cases pyLen s with
  | none => rfl
  | some n =>
    dsimp only
    by_cases hn : n = xs.length
    · rw [if_pos hn, if_pos hn]; cases restoreKvs g path _ _ (enumL 0 xs) <;> rfl
    · rw [if_neg hn, if_neg hn]

/-- `skvs` is the state `_restore_namedtuple` goes on with (the given one, or a legacy encoding converted); the walk
over `state_dict.items()` only decides which of several failing entries is reported -/
theorem fromSDG_named (cls : String) (fs : List (String × Tree)) {skvs0 skvs : List (String × STree)}
    (hns : namedState g (keys fs) skvs0 = .ok skvs) :
    fromSDG g path (.named cls fs) (.dict skvs0) =
      if sameKeySet (keys skvs) (keys fs) then
        match firstErrorBy (keys skvs) (childResults g path fs skvs) with
        | some e => .error e
        | none => (restoreKvs g path (fun _ => .keyError) (fun k => lookup k skvs) fs).map (.named cls)
      else .error (.fieldNames path) := by
  rw [fromSDG]
  dsimp only
  rw [hns]
  dsimp only
  rw [collect_childResults]
  cases sameKeySet (keys skvs) (keys fs) with
  | false => rfl
  | true =>
    rw [if_pos rfl, if_pos rfl]
    cases firstErrorBy (keys skvs) (childResults g path fs skvs) with
    | some e => rfl
    | none => cases restoreKvs g path _ _ fs <;> rfl

theorem fromSDG_struct (cls : String) (fs : List (String × Tree)) (aux : Nat) (skvs : List (String × STree))
    (hn : (keys fs).Nodup) (hs : (keys skvs).Nodup) :
    fromSDG g path (.struct cls fs aux) (.dict skvs) =
      match restoreKvs g path (.missingField path) (fun k => lookup k skvs) fs with
      | .error e => .error e
      | .ok ys =>
        if subsetKeys (keys skvs) (keys fs) then .ok (.struct cls ys aux) else .error (.unknownFields path) := by
  rw [fromSDG, restoreStruct_eq g path fs skvs hn hs]
  cases restoreKvs g path _ _ fs with
  | error e => rfl
  | ok ys => dsimp only [Except.map]; rw [isEmpty_eraseAll _ _ hs]

end

/-- **what `from_state_dict` does at one node.** On success: no error of the node's own, the target's container type /
class / keys, a leaf replaced by the state, every entry restored from the state entry *under the same key* into the
result entry *under the same key*. On failure: the node's own error, or that of restoring one entry that way. -/
theorem node_spec (g : Bool) (path : Path) (t : Tree) (s : STree)
    (hw : t.wf = true) (hs : s.wf = true) (hnl : s.noLegacy = true) :
    match fromSDG g path t s with
    | .ok t' =>
      localCheck path t s = none ∧ sameNode t t' ∧ (∀ v, t = .leaf v → t' = ofState s) ∧
      ∀ k tc, t.child k = some tc → ∃ sc tc', s.child k = some sc ∧
        fromSDG g (path ++ [k]) tc sc = .ok tc' ∧ t'.child k = some tc'
    | .error e =>
      localCheck path t s = some e ∨
      ∃ k tc sc, t.child k = some tc ∧ s.child k = some sc ∧ fromSDG g (path ++ [k]) tc sc = .error e := by
  -- every kind of target by its `fromSDG_<kind>` equation, then `restoreKvs_ok` / `restoreKvs_err`; a key the loop
  -- finds no state entry for is ruled out by the node's own check (dict, namedtuple) or is what that check reports
  -- (list, dataclass)
  cases t with
  | leaf v => exact ⟨by cases s <;> rfl, trivial, fun _ _ => rfl, fun k tc hk => nomatch hk⟩
  | dict kvs | fdict kvs =>
    simp only [Tree.wf, Bool.and_eq_true, decide_eq_true_eq] at hw
    cases s with
    | leaf sv => exact Or.inl rfl
    | dict skvs =>
      simp only [fromSDG_dict, fromSDG_fdict]
      by_cases hsub : subsetKeys (keys kvs) (keys skvs) = true
      · rw [if_pos hsub]
        cases hz : restoreKvs g path (fun _ => .keyError) (fun k => lookup k skvs) kvs with
        | ok ys =>
          have := restoreKvs_ok kvs ys hz
          exact ⟨by simp only [localCheck, hsub, ↓reduceIte], this.1, fun _ hv => (nomatch hv), this.2.2⟩
        | error e =>
          rcases restoreKvs_err _ kvs hz with ⟨k, hk, -⟩ | ⟨k, v, sv, hm, h1, h2⟩
          · have := firstMiss_some _ hk
            exact absurd ((subsetKeys_iff _ _).mp hsub k this.1) ((lookup_none_iff skvs k).mp this.2)
          · exact Or.inr ⟨k, v, sv, lookup_of_mem_keys_nodup kvs k v hw.1 hm, h1, h2⟩
      · rw [if_neg hsub]
        exact Or.inl (by simp only [localCheck, hsub]; rfl)
  | list xs | tuple xs =>
    simp only [fromSDG_list, fromSDG_tuple]
    cases hn : pyLen s with
    | none => exact Or.inl (by simp only [localCheck, hn])
    | some n =>
      dsimp only
      by_cases hlen : n = xs.length
      · rw [if_pos hlen]
        cases hz : restoreKvs g path (fun _ => missErr s) s.child (enumL 0 xs) with
        | ok zs =>
          have := restoreKvs_ok _ zs hz
          refine ⟨?_, ?_, fun _ hv => (nomatch hv), ?_⟩
          · simp only [localCheck, hn, hlen, ↓reduceIte]
            rw [firstIndexErr_eq, this.2.1]; rfl
          · have hl := congrArg List.length this.1
            simp only [keys, List.length_map, length_enumL] at hl
            simpa only [sameNode, List.length_map] using hl
          · intro k tc hk
            obtain ⟨sv, y, h1, h2, h3⟩ := this.2.2 k tc hk
            exact ⟨sv, y, h1, h2, by rw [Tree.child, enumL_vals zs xs 0 this.1]; exact h3⟩
        | error e =>
          rcases restoreKvs_err _ _ hz with ⟨k, hk, rfl⟩ | ⟨k, v, sv, hm, h1, h2⟩
          · exact Or.inl (by simp only [localCheck, hn, hlen, ↓reduceIte]; rw [firstIndexErr_eq, hk]; rfl)
          · exact Or.inr ⟨k, v, sv, lookup_of_mem_keys_nodup _ k v (nodup_keys_enumL xs 0) hm, h1, h2⟩
      · rw [if_neg hlen]
        exact Or.inl (by simp only [localCheck, hn, hlen]; rfl)
  | named cls fs =>
    simp only [Tree.wf, Bool.and_eq_true, decide_eq_true_eq] at hw
    cases s with
    | leaf sv => exact Or.inl rfl
    | dict skvs =>
      simp only [STree.noLegacy, Bool.and_eq_true, Bool.not_eq_true'] at hnl
      rw [fromSDG_named g path cls fs (namedState_noLegacy g (keys fs) skvs hnl.1)]
      by_cases hsame : sameKeySet (keys skvs) (keys fs) = true
      · rw [if_pos hsame]
        have hin : ∀ k v, (k, v) ∈ fs → ∃ sc, lookup k skvs = some sc := fun k v hm => by
          simp only [sameKeySet, Bool.and_eq_true, subsetKeys_iff] at hsame
          exact lookup_isSome_of_mem_keys skvs k (hsame.2 k (List.mem_map.mpr ⟨(k, v), hm, rfl⟩))
        cases hfe : firstErrorBy (keys skvs) (childResults g path fs skvs) with
        | some e1 =>
          obtain ⟨k, _, hl⟩ := firstErrorBy_some _ _ _ hfe
          obtain ⟨v, hm, hr⟩ := mem_childResults g path skvs k _ fs (mem_keys_of_lookup _ k _ hl).2
          obtain ⟨sc, hsc⟩ := hin k v hm
          rw [hsc] at hr
          exact Or.inr ⟨k, v, sc, lookup_of_mem_keys_nodup fs k v hw.1 hm, hsc, hr.symm⟩
        | none =>
          dsimp only
          cases hz : restoreKvs g path (fun _ => .keyError) (fun k => lookup k skvs) fs with
          | ok ys =>
            have := restoreKvs_ok fs ys hz
            exact ⟨by simp only [localCheck, hsame, ↓reduceIte], ⟨rfl, this.1⟩, fun _ hv => (nomatch hv), this.2.2⟩
          | error e =>
            rcases restoreKvs_err _ fs hz with ⟨k, hk, -⟩ | ⟨k, v, sv, hm, h1, h2⟩
            · have := firstMiss_some _ hk
              obtain ⟨v, hv⟩ := lookup_isSome_of_mem_keys fs k this.1
              obtain ⟨sc, hsc⟩ := hin k v (mem_keys_of_lookup fs k v hv).2
              rw [this.2] at hsc; cases hsc
            · exact Or.inr ⟨k, v, sv, lookup_of_mem_keys_nodup fs k v hw.1 hm, h1, h2⟩
      · rw [if_neg hsame]
        exact Or.inl (by simp only [localCheck, hsame]; rfl)
  | struct cls fs aux =>
    simp only [Tree.wf, Bool.and_eq_true, decide_eq_true_eq] at hw
    cases s with
    | leaf sv => exact Or.inl rfl
    | dict skvs =>
      simp only [STree.wf, Bool.and_eq_true, decide_eq_true_eq] at hs
      rw [fromSDG_struct g path cls fs aux skvs hw.1 hs.1]
      cases hz : restoreKvs g path (.missingField path) (fun k => lookup k skvs) fs with
      | error e1 =>
        rcases restoreKvs_err _ fs hz with ⟨k, hk, rfl⟩ | ⟨k, v, sv, hm, h1, h2⟩
        · exact Or.inl (by simp only [localCheck, firstMissing_eq, hk])
        · exact Or.inr ⟨k, v, sv, lookup_of_mem_keys_nodup fs k v hw.1 hm, h1, h2⟩
      | ok ys =>
        dsimp only
        have := restoreKvs_ok fs ys hz
        by_cases hsub : subsetKeys (keys skvs) (keys fs) = true
        · rw [if_pos hsub]
          exact ⟨by simp only [localCheck, firstMissing_eq, this.2.1, hsub, ↓reduceIte], ⟨rfl, rfl, this.1⟩,
            fun _ hv => (nomatch hv), this.2.2⟩
        · rw [if_neg hsub]
          exact Or.inl (by simp only [localCheck, firstMissing_eq, this.2.1, hsub]; rfl)

theorem Tree.wf_child (t : Tree) (k : String) (tc : Tree) (hw : t.wf = true) (h : t.child k = some tc) :
    tc.wf = true := by
  cases t with
  | leaf v => cases h
  | dict fs | fdict fs | named c fs | struct c fs a =>
    simp only [Tree.wf, Bool.and_eq_true] at hw
    exact (wfFields_iff fs).mp hw.2 _ (mem_keys_of_lookup fs k tc h).2
  | list xs | tuple xs => exact (wfList_iff xs).mp hw tc (mem_enumL xs 0 _ (mem_keys_of_lookup _ k tc h).2)

theorem STree.wf_child (s : STree) (k : String) (sc : STree) (hw : s.wf = true) (h : s.child k = some sc) :
    sc.wf = true := by
  cases s with
  | leaf v => cases h
  | dict kvs =>
    simp only [STree.wf, Bool.and_eq_true] at hw
    exact (swfKvs_iff kvs).mp hw.2 _ (mem_keys_of_lookup kvs k sc h).2

theorem STree.noLegacy_child (s : STree) (k : String) (sc : STree) (hw : s.noLegacy = true)
    (h : s.child k = some sc) : sc.noLegacy = true := by
  cases s with
  | leaf v => cases h
  | dict kvs =>
    simp only [STree.noLegacy, Bool.and_eq_true] at hw
    exact (snlKvs_iff kvs).mp hw.2 _ (mem_keys_of_lookup kvs k sc h).2

theorem Tree.sizeOf_child (t : Tree) (k : String) (tc : Tree) (h : t.child k = some tc) : sizeOf tc < sizeOf t := by
  cases t with
  | leaf v => cases h
  | dict fs | fdict fs | named c fs | struct c fs a =>
    have := List.sizeOf_lt_of_mem (mem_keys_of_lookup fs k tc h).2
    simp only [Prod.mk.sizeOf_spec] at this
    simp only [Tree.dict.sizeOf_spec, Tree.fdict.sizeOf_spec, Tree.named.sizeOf_spec, Tree.struct.sizeOf_spec]
    omega
  | list xs | tuple xs =>
    have : sizeOf tc < sizeOf xs := List.sizeOf_lt_of_mem (mem_enumL xs 0 _ (mem_keys_of_lookup _ k tc h).2)
    simp only [Tree.list.sizeOf_spec, Tree.tuple.sizeOf_spec]
    omega

/-- a successful restore reaches every sub-tree of the target, with the state node and the result node under the
same key path -/
theorem path_ok (g : Bool) : ∀ (p : Path) (root : Path) (t : Tree) (s : STree) (t' : Tree),
    t.wf = true → s.wf = true → s.noLegacy = true → fromSDG g root t s = .ok t' →
    ∀ tn, t.sub p = some tn → ∃ sn tn', s.sub p = some sn ∧ t'.sub p = some tn' ∧
      localCheck (root ++ p) tn sn = none ∧ sameNode tn tn' ∧ ∀ v, tn = .leaf v → tn' = ofState sn
  | [], root, t, s, t', hw, hs, hnl, h, tn, htn => by
    cases htn
    have hn := node_spec g root t s hw hs hnl
    rw [h] at hn
    exact ⟨s, t', rfl, rfl, by rw [List.append_nil]; exact hn.1, hn.2.1, hn.2.2.1⟩
  | k :: p, root, t, s, t', hw, hs, hnl, h, tn, htn => by
    simp only [Tree.sub] at htn
    split at htn
    · cases htn
    · next tc htc =>
      have hn := node_spec g root t s hw hs hnl
      rw [h] at hn
      obtain ⟨sc, tc', h1, h2, h3⟩ := hn.2.2.2 k tc htc
      obtain ⟨sn, tn', r1, r2, r3⟩ := path_ok g p (root ++ [k]) tc sc tc'
        (t.wf_child k tc hw htc) (s.wf_child k sc hs h1) (s.noLegacy_child k sc hnl h1) h2 tn htn
      refine ⟨sn, tn', by simp [STree.sub, h1, r1], by simp [Tree.sub, h3, r2], ?_⟩
      simpa using r3

/-- a failed restore fails with the local error of some node that target and state have in common -/
theorem path_err (g : Bool) (root : Path) (t : Tree) (s : STree) (e : Err)
    (hw : t.wf = true) (hs : s.wf = true) (hnl : s.noLegacy = true) (h : fromSDG g root t s = .error e) :
    ∃ p tn sn, t.sub p = some tn ∧ s.sub p = some sn ∧ localCheck (root ++ p) tn sn = some e := by
  have hn := node_spec g root t s hw hs hnl
  rw [h] at hn
  rcases hn with hl | ⟨k, tc, sc, h1, h2, h3⟩
  · exact ⟨[], t, s, rfl, rfl, by rw [List.append_nil]; exact hl⟩
  · obtain ⟨p, tn, sn, r1, r2, r3⟩ := path_err g (root ++ [k]) tc sc e
      (t.wf_child k tc hw h1) (s.wf_child k sc hs h2) (s.noLegacy_child k sc hnl h2) h3
    exact ⟨k :: p, tn, sn, by simp [Tree.sub, h1, r1], by simp [STree.sub, h2, r2], by simpa using r3⟩
termination_by t
decreasing_by exact t.sizeOf_child k tc h1

/-- on the two index dicts of a legacy encoding the loop is `mkDict`'s fold over the (name, value) pairs from `i` on -/
theorem legacyLoop_eq (names : List String) (vals : List STree) (hlen : names.length = vals.length) :
    ∀ (n i : Nat) (acc : List (String × STree)), i + n = names.length →
    legacyLoop (.dict (enumL 0 (names.map (fun nm => STree.leaf (.str nm))))) (.dict (enumL 0 vals)) n i acc =
      .ok (((names.zip vals).drop i).foldl (fun acc kv => dictSet acc kv.1 kv.2) acc)
  | 0, i, acc, h => by
    rw [legacyLoop, List.drop_of_length_le (by rw [List.length_zip, ← hlen, Nat.min_self]; omega)]; rfl
  | n + 1, i, acc, h => by
    have hi : i < names.length := by omega
    have hi' : i < vals.length := by omega
    have h1 : lookup (idx i) (enumL 0 (names.map (fun nm => STree.leaf (.str nm)))) = some (.leaf (.str names[i])) := by
      rw [lookup_enumL_zero, List.getElem?_map, List.getElem?_eq_getElem hi]; rfl
    have h2 : lookup (idx i) (enumL 0 vals) = some vals[i] := by
      rw [lookup_enumL_zero, List.getElem?_eq_getElem hi']
    simp only [legacyLoop, getItem, h1, h2]
    have hz : i < (names.zip vals).length := by rw [List.length_zip, ← hlen, Nat.min_self]; exact hi
    rw [List.drop_eq_getElem_cons hz, List.getElem_zip, List.foldl_cons]
    exact legacyLoop_eq names vals hlen n (i + 1) _ (by omega)

end Flax.Serial
