/-
A module body run at path `π' ++ ρ` of a store behaves like the same body run at `ρ` of the store
re-rooted at `π'` (`Reroot`, `eval_reroot`): the lockstep of `Flax.Lockstep` with equal scalars.  What `restrict` and
`scopeVariables` cut out for a submodule is such a re-rooting (`reroot_bind`, `reroot_scopeVariables`).  Used by C02.
-/
import Flax.Proofs.Lockstep

namespace Flax.PathSim
open Flax.Filter (LFilter inFilter)
open Flax.Scope Flax.ModuleTree Flax.ScopeLemmas Flax.Lockstep

theorem isPrefixOf_append_left (π' u w : Path) : (π' ++ u).isPrefixOf (π' ++ w) = u.isPrefixOf w :=
  Bool.eq_iff_iff.mpr (by rw [List.isPrefixOf_iff_prefix, List.isPrefixOf_iff_prefix, List.prefix_append_right_inj])

theorem properPrefix_shift (π' : Path) (a b : String) (u w : Path) :
    properPrefix (a :: (π' ++ u)) (b :: (π' ++ w)) = properPrefix (a :: u) (b :: w) := by
  unfold properPrefix
  simp only [List.isPrefixOf, isPrefixOf_append_left]
  congr 1
  simp

/-- `t` is the subtree of `s` at module path `π'`, re-rooted -/
structure Reroot (π' : Path) (s t : Store) : Prop where
  rngs_eq : t.rngs = s.rngs
  mut_eq : t.mutable = s.mutable
  vars_eq : ∀ c rest, lookupP (c :: rest) t.vars = lookupP (c :: (π' ++ rest)) s.vars
  hascol_le : ∀ c, hasCol t c = true → hasCol s c = true
  /-- only where the submodule holds a variable: `scope.variables()` drops the other collections -/
  hascol_ge : ∀ c rest v, lookupP (c :: (π' ++ rest)) s.vars = some v → hasCol t c = true
  conflict_le : ∀ c rest, conflict t.vars (c :: rest) = true → conflict s.vars (c :: (π' ++ rest)) = true

variable {π' : Path}

theorem Reroot.getVar_eq {s t : Store} (h : Reroot π' s t) (ρ : Path) (c n : String) :
    getVar t ρ c n = getVar s (π' ++ ρ) c n := by
  unfold getVar fullPath
  rw [h.vars_eq, List.append_assoc]

theorem Reroot.isMutable_eq {s t : Store} (h : Reroot π' s t) (c : String) : isMutable t c = isMutable s c := by
  unfold isMutable; rw [h.mut_eq]

theorem putVar_reroot {s t s1 : Store} (hrel : Reroot π' s t) {ρ : Path} {col n : String} {v : Val}
    (h : putVar (π' ++ ρ) col n v s = (.ok (), s1)) :
    ∃ t1, putVar ρ col n v t = (.ok (), t1) ∧ Reroot π' s1 t1 := by
  obtain ⟨hm, hcs, rfl⟩ := putVar_ok_iff.mp h
  have hfull : ∀ c rest, c :: (π' ++ rest) = fullPath col (π' ++ ρ) n ↔ c :: rest = fullPath col ρ n := by
    intro c rest
    simp only [fullPath, List.append_assoc, List.cons.injEq, List.append_cancel_left_eq]
  have hct : conflict t.vars (fullPath col ρ n) = false := by
    cases hh : conflict t.vars (fullPath col ρ n) with
    | false => rfl
    | true =>
      have := hrel.conflict_le col (ρ ++ [n]) hh
      rw [← List.append_assoc] at this
      exact absurd this (by rw [show col :: (π' ++ ρ ++ [n]) = fullPath col (π' ++ ρ) n from rfl, hcs]; simp)
  refine ⟨_, putVar_ok_iff.mpr ⟨by rw [hrel.isMutable_eq]; exact hm, hct, rfl⟩,
    hrel.rngs_eq, hrel.mut_eq, ?_, ?_, ?_, ?_⟩
  · intro c rest
    by_cases hq : (c :: rest) = fullPath col ρ n
    · rw [hq, (hfull c rest).mpr hq, lookupP_upsert_self, lookupP_upsert_self]
    · rw [lookupP_upsert_ne _ _ _ _ hq, lookupP_upsert_ne _ _ _ _ (mt (hfull c rest).mp hq)]
      exact hrel.vars_eq c rest
  · intro c hc
    rw [hasCol_put] at hc ⊢
    simp only [Bool.or_eq_true] at hc ⊢
    exact hc.imp (hrel.hascol_le c) id
  · intro c rest w hw
    rw [hasCol_put]
    simp only [Bool.or_eq_true, decide_eq_true_eq]
    by_cases hq' : (c :: (π' ++ rest)) = fullPath col (π' ++ ρ) n
    · exact .inr (List.cons.inj hq').1.symm
    · rw [lookupP_upsert_ne _ _ _ _ hq'] at hw
      exact .inl (hrel.hascol_ge c rest w hw)
  · intro c rest
    simp only [conflict_upsert, Bool.or_eq_true]
    rintro (hh | hh)
    · exact .inl (hrel.conflict_le c rest hh)
    · right
      unfold fullPath at hh ⊢
      rw [List.append_assoc, properPrefix_shift, properPrefix_shift]
      exact hh

theorem reroot_storeSim (π' : Path) : StoreSim (Reroot π') (π' ++ ·) (fun _ => True) Eq where
  mutable := fun h _ => h.isMutable_eq _
  rngs := fun h => h.rngs_eq
  get_some := fun h _ hg => ⟨_, (h.getVar_eq _ _ _).trans hg, rfl⟩
  get_none := fun h _ hg => (h.getVar_eq _ _ _).trans hg
  col_le := fun h _ hc => h.hascol_le _ hc
  col_ge := fun h _ _ hg => by
    unfold getVar fullPath at hg
    rw [List.append_assoc] at hg
    exact h.hascol_ge _ _ _ hg
  bump := fun h => ⟨h.rngs_eq, h.mut_eq, h.vars_eq, h.hascol_le, h.hascol_ge, h.conflict_le⟩
  put := fun h _ hv hp => by cases hv; exact putVar_reroot h hp

theorem eval_reroot (cfg : Cfg) (π' : Path) (fuel : Nat) (p : SProg) (ρ : Path) (x : Int) (l l1 : Local)
    (s t s1 : Store) (hrel : Reroot π' s t) (h : eval cfg fuel p (π' ++ ρ) x l s = (.ok l1, s1)) :
    ∃ t1, eval cfg fuel p ρ x l t = (.ok l1, t1) ∧ Reroot π' s1 t1 :=
  eval_lockstep_eq (reroot_storeSim π') (fun _ _ => (List.append_assoc _ _ _).symm) hrel h

theorem strip_eq_some_iff (π' : Path) (q : Path) (c : String) (rest : Path) :
    strip π' q = some (c :: rest) ↔ q = c :: (π' ++ rest) := by
  cases q with
  | nil => simp [strip]
  | cons a r =>
    unfold strip
    simp only
    constructor
    · intro h
      split at h
      · rename_i hp
        simp only [Option.some.injEq, List.cons.injEq] at h
        obtain ⟨rfl, rfl⟩ := h
        rw [List.isPrefixOf_iff_prefix] at hp
        obtain ⟨u, rfl⟩ := hp
        simp
      · simp at h
    · intro h
      injection h with h1 h2
      subst h1 h2
      have : π'.isPrefixOf (π' ++ rest) = true := by
        rw [List.isPrefixOf_iff_prefix]; exact List.prefix_append _ _
      simp [this]

theorem strip_some_shape (π' : Path) (q k : Path) (h : strip π' q = some k) :
    ∃ c rest, k = c :: rest ∧ q = c :: (π' ++ rest) := by
  cases k with
  | nil =>
    cases q with
    | nil => simp [strip] at h
    | cons a r => unfold strip at h; simp only at h; split at h <;> simp at h
  | cons c rest => exact ⟨c, rest, rfl, (strip_eq_some_iff π' q c rest).mp h⟩

theorem lookupP_restrict (π' : Path) (c : String) (rest : Path) (l : List (Path × Val)) :
    lookupP (c :: rest) (l.filterMap (fun kv => (strip π' kv.1).map (fun k => (k, kv.2))))
      = lookupP (c :: (π' ++ rest)) l := by
  rw [lookupP_eq_lookup, lookupP_eq_lookup]
  refine Assoc.lookup_filterMap_key (strip π') (fun a b k' ha hb => ?_) ((strip_eq_some_iff π' _ c rest).mpr rfl) l
  obtain ⟨c', rest', rfl, rfl⟩ := strip_some_shape π' a k' ha
  exact ((strip_eq_some_iff π' b c' rest').mp hb).symm

/-- every leaf of a variable dict sits in one of its collections (true of every dict-of-dicts) -/
def HeadsIn (V : Vars) : Prop := ∀ kv ∈ V.vars, ∀ c r, kv.1 = c :: r → c ∈ V.cols

theorem conflict_restrict (π' : Path) (l : List (Path × Val)) (c : String) (rest : Path)
    (h : conflict (l.filterMap (fun kv => (strip π' kv.1).map (fun k => (k, kv.2)))) (c :: rest) = true) :
    conflict l (c :: (π' ++ rest)) = true := by
  simp only [conflict, List.any_eq_true] at h ⊢
  obtain ⟨kv', hmem, hp⟩ := h
  obtain ⟨kv, hkv, hmap⟩ := List.mem_filterMap.mp hmem
  obtain ⟨k', hs, rfl⟩ := Option.map_eq_some_iff.mp hmap
  obtain ⟨c0, r0, rfl, hq⟩ := strip_some_shape π' kv.1 k' hs
  refine ⟨kv, hkv, ?_⟩
  rw [hq, properPrefix_shift, properPrefix_shift]
  exact hp

theorem reroot_bind (π' : Path) (m : LFilter) (V : Vars) (hV : HeadsIn V) (rngs : List String) :
    Reroot π' (Scope.bind m V rngs) (Scope.bind m (restrict π' V) rngs) :=
  -- the collection of an existing variable is a collection of `V` (well-formed variable dicts), and `restrict`
  -- keeps every collection
  ⟨rfl, rfl, fun c rest => lookupP_restrict π' c rest V.vars, fun _ h => h,
    fun c _ _ hv => hasCol_bind.mpr (hV _ (mem_of_lookupP hv) c _ rfl),
    fun c rest h => conflict_restrict π' V.vars c rest h⟩

def StoreHeadsIn (s : Store) : Prop := ∀ kv ∈ s.vars, ∀ c r, kv.1 = c :: r → hasCol s c = true

theorem storeHeadsIn_bind (m : LFilter) (V : Vars) (hV : HeadsIn V) (rngs : List String) :
    StoreHeadsIn (Scope.bind m V rngs) := fun kv hkv c r hc => hasCol_bind.mpr (hV kv hkv c r hc)

theorem mem_scopeVariables_cols {π : Path} {s : Store} {c : String} :
    c ∈ (scopeVariables π s).cols ↔
      c ∈ s.cols.map (·.1) ∧ (π = [] ∨ ∃ kv ∈ (scopeVariables π s).vars, kv.1.head? = some c) := by
  unfold scopeVariables restrict
  by_cases hπ : π = []
  · simp only [hπ, if_true, true_or, and_true]
  · simp only [hπ, if_false, false_or, List.mem_filter, List.any_eq_true, decide_eq_true_eq]

theorem reroot_scopeVariables (π' : Path) (s : Store) (hs : StoreHeadsIn s) :
    Reroot π' s (Scope.bind s.mutable (scopeVariables π' s) s.rngs) := by
  refine ⟨rfl, rfl, fun c rest => lookupP_restrict π' c rest s.vars, ?_, ?_,
    fun c rest h => conflict_restrict π' s.vars c rest h⟩
  · intro c hc
    exact hasCol_iff.mpr (mem_scopeVariables_cols.mp (hasCol_bind.mp hc)).1
  · intro c rest v hv
    have hmem := mem_of_lookupP hv
    refine hasCol_bind.mpr (mem_scopeVariables_cols.mpr
      ⟨hasCol_iff.mp (hs _ hmem c _ rfl), .inr ⟨(c :: rest, v), ?_, rfl⟩⟩)
    exact List.mem_filterMap.mpr
      ⟨(c :: (π' ++ rest), v), hmem, by simp [(strip_eq_some_iff π' (c :: (π' ++ rest)) c rest).mpr rfl]⟩

end Flax.PathSim
