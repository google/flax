/-
`Flax.Model.Scope` and the store operations of `Flax.Model.ModuleTree`, for C01 and C02: reads of the store, what
`bindArg` and a new child leave alone, when each operation returns (`*_ok_iff`), the frame around it (`Frame`), what it
does to the store whether it returns or raises (`OwnPut`, also for `leakedOp`), and the relations closed under the
store steps (`StepRel`: `Frame`, `KeysIn`, `NilKept`).  `ObsSim.ResSub` (one list of reservations is contained in
another) stands here with its lemmas.
-/
import Flax.Model.ModuleTree
import Flax.Proofs.Assoc

namespace Flax.ObsSim
open Flax.Scope

def ResSub (r' r : Res) : Prop := ∀ e ∈ r', e ∈ r

theorem ResSub.refl (r : Res) : ResSub r r := fun _ h => h

theorem ResSub.trans {r r' r'' : Res} (h : ResSub r r') (h' : ResSub r' r'') : ResSub r r'' :=
  fun e he => h' e (h e he)

theorem ResSub.cons_right {r' r : Res} (h : ResSub r' r) (e : String × Option String) : ResSub r' (e :: r) :=
  fun x hx => List.mem_cons_of_mem _ (h x hx)

theorem ResSub.cons {r' r : Res} (h : ResSub r' r) (e : String × Option String) : ResSub (e :: r') (e :: r) :=
  List.cons_subset_cons e h

end Flax.ObsSim

namespace Flax.ScopeLemmas
open Flax.Filter (LFilter inFilter)
open Flax.Scope Flax.ModuleTree
open Flax.ObsSim (ResSub)

theorem lookupP_eq_lookup (q : Path) (l : List (Path × Val)) : lookupP q l = l.lookup q :=
  Assoc.lookup_unique (fun _ => rfl) (fun _ _ _ _ => rfl) q l

theorem upsert_isUpsert : Assoc.IsUpsert upsert :=
  ⟨fun _ _ => rfl, fun _ _ _ _ => if_pos rfl, fun _ _ _ h => if_neg h⟩

theorem lookupP_upsert_self (q : Path) (v : Val) (l : List (Path × Val)) :
    lookupP q (upsert q v l) = some v := by
  rw [lookupP_eq_lookup, upsert_isUpsert.lookup_self]

theorem lookupP_upsert_ne (q q' : Path) (v : Val) (l : List (Path × Val)) (h : q' ≠ q) :
    lookupP q' (upsert q v l) = lookupP q' l := by
  rw [lookupP_eq_lookup, lookupP_eq_lookup, upsert_isUpsert.lookup_ne h]

def headMutable (m : LFilter) (q : Path) : Bool :=
  match q with
  | c :: _ => inFilter m c
  | [] => false

theorem mutableVariables_vars (s : Store) :
    (mutableVariables s).vars = s.vars.filter (fun kv => headMutable s.mutable kv.1) := rfl

theorem lookupP_mutableVariables (s : Store) (q : Path) :
    lookupP q (mutableVariables s).vars = if headMutable s.mutable q then lookupP q s.vars else none := by
  rw [mutableVariables_vars, lookupP_eq_lookup, lookupP_eq_lookup, Assoc.lookup_filter_key]

theorem conflict_upsert (q : Path) (v : Val) (l : List (Path × Val)) (p : Path) :
    conflict (upsert q v l) p = (conflict l p || (properPrefix q p || properPrefix p q)) :=
  upsert_isUpsert.any_key (fun k => properPrefix k p || properPrefix p k) q v l

theorem mem_of_lookupP {q : Path} {v : Val} {l : List (Path × Val)} (h : lookupP q l = some v) : (q, v) ∈ l :=
  Assoc.mem_of_lookup (lookupP_eq_lookup q l ▸ h)

theorem hasVar_iff {s : Store} {π : Path} {col n : String} :
    hasVar s π col n = true ↔ ∃ v, getVar s π col n = some v := Option.isSome_iff_exists

theorem hasVar_eq_false {s : Store} {π : Path} {col n : String} :
    hasVar s π col n = false ↔ getVar s π col n = none := Option.isSome_eq_false_iff.trans Option.isNone_iff_eq_none

theorem hasVar_of_getVar {s : Store} {π : Path} {col n : String} {v : Val} (h : getVar s π col n = some v) :
    hasVar s π col n = true := hasVar_iff.mpr ⟨v, h⟩

theorem hasCol_iff {s : Store} {c : String} : hasCol s c = true ↔ c ∈ s.cols.map (·.1) := by
  simp only [hasCol, List.any_eq_true, decide_eq_true_eq, List.mem_map]

theorem hasCol_bind {m : LFilter} {V : Vars} {rngs : List String} {c : String} :
    hasCol (Scope.bind m V rngs) c = true ↔ c ∈ V.cols := by
  rw [hasCol_iff]
  simp [Scope.bind, List.map_map, Function.comp_def]

theorem mem_bind_cols {m : LFilter} {V : Vars} {rngs : List String} {e : String × Bool} :
    e ∈ (Scope.bind m V rngs).cols ↔ e.1 ∈ V.cols ∧ e.2 = inFilter m e.1 := by
  simp only [Scope.bind, List.mem_map]
  constructor
  · rintro ⟨a, ha, rfl⟩; exact ⟨ha, rfl⟩
  · rintro ⟨h1, h2⟩; exact ⟨e.1, h1, by rw [← h2]⟩

theorem borrowed_iff {s : Store} {c : String} : borrowed s c = true ↔ (c, false) ∈ s.cols := by
  simp only [borrowed, List.any_eq_true, Bool.and_eq_true, decide_eq_true_eq, Bool.not_eq_true']
  constructor
  · rintro ⟨⟨_, _⟩, he, rfl, rfl⟩; exact he
  · intro h; exact ⟨_, h, rfl, rfl⟩

theorem effMutable_quiet {cfg : Cfg} (hcap : cfg.capture = false) (m : LFilter) : effMutable cfg m = m := by
  simp [effMutable, hcap]

/-- `bindArg` only rewrites the shapes of the parameter declarations along the `seq` spine: a recursion over `seq`
that does not look at parameter shapes computes the same before and after -/
theorem fold_bindArg {α : Sort _} (f : SProg → α) (g : α → α → α) (hseq : ∀ a b, f (.seq a b) = g (f a) (f b))
    (hpar : ∀ n sh sh' i, f (.param n sh i) = f (.param n sh' i)) (w : Option Nat) (p : SProg) :
    f (bindArg w p) = f p := by
  cases w with
  | none => rfl
  | some w =>
    show f (bindW w p) = f p
    induction p with
    | seq a b iha ihb => rw [bindW, hseq, hseq, iha, ihb]
    | param n sh i => exact hpar ..
    | _ => rfl

theorem sowCols_bindArg (w : Option Nat) (p : SProg) : sowCols (bindArg w p) = sowCols p :=
  fold_bindArg sowCols (· ++ ·) (fun _ _ => rfl) (fun _ _ _ _ => rfl) w p

theorem otherCols_bindArg (w : Option Nat) (p : SProg) : otherCols (bindArg w p) = otherCols p :=
  fold_bindArg otherCols (· ++ ·) (fun _ _ => rfl) (fun _ _ _ _ => rfl) w p

theorem declOnly_bindArg (w : Option Nat) (p : SProg) : declOnly (bindArg w p) = declOnly p :=
  fold_bindArg declOnly (· && ·) (fun _ _ => rfl) (fun _ _ _ _ => rfl) w p

theorem eraseSow_bindArg (w : Option Nat) (p : SProg) : eraseSow (bindArg w p) = bindArg w (eraseSow p) := by
  cases w with
  | none => rfl
  | some w =>
    show eraseSow (bindW w p) = bindW w (eraseSow p)
    induction p with
    | seq a b iha ihb => rw [bindW, eraseSow, eraseSow, iha, ihb, bindW]
    | _ => rfl

theorem kids_snoc {P : SProg → Prop} {kids : List Kid} (hk : ∀ k ∈ kids, P k.body) {body : SProg} (hp : P body)
    (nm : String) : ∀ k ∈ kids ++ [⟨nm, body⟩], P k.body := by
  intro k hkk
  rcases List.mem_append.mp hkk with h1 | h1
  · exact hk k h1
  · rw [List.mem_singleton.mp h1]; exact hp

theorem childName_congr {cfg : Cfg} {l l' : Local} (hc : l'.cursors = l.cursors)
    (hk : l'.kids.length = l.kids.length) (hr : cfg.style = .core → l'.res = l.res) (cls : String)
    (name : Option String) : childName cfg cls name l' = childName cfg cls name l := by
  cases name with
  | some nm => simp only [childName, hc]
  | none =>
    unfold childName autoName
    cases hs : cfg.style with
    | core => simp only [hc, hr hs]
    | compact => simp only [hc]
    | setup => simp only [hc, hk]

/-! One equivalence per operation for the runs that return (`*_ok_iff`), which is what the two-run inductions follow.
`scopeParam` and `scopeVariable` are characterised for every way they can end (`ParamRun`, `VariableRun`), since C01
and C02 also say which error is raised. -/

theorem nameReserved_iff {r : Res} {n : String} {c : Option String} :
    nameReserved r n c = true ↔ ∃ co, (n, co) ∈ r ∧ (co = none ∨ c = none ∨ co = c) := by
  unfold nameReserved
  simp only [List.any_eq_true, Bool.and_eq_true, Bool.or_eq_true, decide_eq_true_eq, or_assoc]
  constructor
  · rintro ⟨⟨_, co⟩, hm, rfl, hc⟩; exact ⟨co, hm, hc⟩
  · rintro ⟨co, hm, hc⟩; exact ⟨(n, co), hm, rfl, hc⟩

theorem nameReserved_mono {r' r : Res} (h : ResSub r' r) (n : String) (c : Option String)
    (hn : nameReserved r' n c = true) : nameReserved r n c = true :=
  let ⟨co, hm, hc⟩ := nameReserved_iff.mp hn
  nameReserved_iff.mpr ⟨co, h _ hm, hc⟩

theorem nameReserved_of_mem {r : Res} {n : String} {co co' : Option String} (hm : (n, co) ∈ r)
    (hc : co = none ∨ co' = none ∨ co = co') : nameReserved r n co' = true :=
  nameReserved_iff.mpr ⟨co, hm, hc⟩

theorem reserve_ok_iff {r r1 : Res} {n : String} {c : Option String} :
    reserve r n c = .ok r1 ↔ nameReserved r n c = false ∧ r1 = (n, c) :: r := by
  unfold reserve
  cases nameReserved r n c
  · exact ⟨fun h => ⟨rfl, (Except.ok.inj h).symm⟩, fun h => by rw [h.2]; rfl⟩
  · exact ⟨fun h => (nomatch h), fun h => (nomatch h.1)⟩

theorem reserve_err_iff {r : Res} {n : String} {c : Option String} {e : Err} :
    reserve r n c = .error e ↔ nameReserved r n c = true ∧ e = .nameInUse := by
  unfold reserve
  cases nameReserved r n c
  · exact ⟨fun h => (nomatch h), fun h => (nomatch h.1)⟩
  · exact ⟨fun h => ⟨rfl, (Except.error.inj h).symm⟩, fun h => by rw [h.2]; rfl⟩

theorem putVar_ok_iff {π : Path} {col n : String} {v : Val} {s s1 : Store} :
    putVar π col n v s = (.ok (), s1) ↔
      isMutable s col = true ∧ conflict s.vars (fullPath col π n) = false ∧
      s1 = { s with cols := if hasCol s col then s.cols else s.cols ++ [(col, true)],
                    vars := upsert (fullPath col π n) v s.vars,
                    dirty := s.dirty || borrowed s col } := by
  unfold putVar
  cases isMutable s col
  · exact ⟨fun h => (nomatch (Prod.mk.inj h).1), fun h => (nomatch h.1)⟩
  · cases conflict s.vars (fullPath col π n)
    · exact ⟨fun h => ⟨rfl, rfl, (Prod.mk.inj h).2.symm⟩, fun h => by rw [h.2.2]; rfl⟩
    · exact ⟨fun h => (nomatch (Prod.mk.inj h).1), fun h => (nomatch h.2.1)⟩

theorem putVar_immutable {π : Path} {col n : String} {v : Val} {s : Store} (h : isMutable s col = false) :
    putVar π col n v s = (.error .modifyImmutable, s) := by simp [putVar, h]

theorem hasCol_put (s : Store) (col c : String) (vars : List (Path × Val)) (d : Bool) (i : Nat) :
    hasCol { s with cols := if hasCol s col then s.cols else s.cols ++ [(col, true)], vars := vars,
                    dirty := d, inits := i } c
      = (hasCol s c || decide (col = c)) := by
  unfold hasCol
  by_cases hh : (s.cols.any fun c => decide (c.1 = col)) = true
  · simp only [hh, if_true]
    by_cases hcc : col = c
    · subst hcc; simp [hh]
    · simp [hcc]
  · simp only [hh, Bool.false_eq_true, if_false, List.any_append, List.any_cons, List.any_nil, Bool.or_false]

/-- the `eval_shape` check of `Scope.param` on a stored value: its first leaf, if any, has the declared shape -/
def shapeOk (v : Val) (shape : List Nat) : Prop :=
  match v.leafShapes with
  | [] => True
  | sh :: _ => sh = shape

inductive ParamRun (π : Path) (n : String) (shape : List Nat) (init : Int) (r : Res) (s : Store) :
    Except Err (Val × Res) × Store → Prop
  | clash {e : Err} : reserve r n (some "params") = .error e → ParamRun π n shape init r s (.error e, s)
  | reuse {r1 : Res} {v : Val} : reserve r n (some "params") = .ok r1 → getVar s π "params" n = some v →
      shapeOk v shape → ParamRun π n shape init r s (.ok (v, r1), s)
  | misshaped {r1 : Res} {v : Val} : reserve r n (some "params") = .ok r1 → getVar s π "params" n = some v →
      ¬ shapeOk v shape → ParamRun π n shape init r s (.error .paramShape, s)
  | missing {r1 : Res} : reserve r n (some "params") = .ok r1 → getVar s π "params" n = none →
      isMutable s "params" = false →
      ParamRun π n shape init r s (.error (if colEmpty s "params" then .collectionNotFound else .paramNotFound), s)
  | noRng {r1 : Res} : reserve r n (some "params") = .ok r1 → getVar s π "params" n = none →
      isMutable s "params" = true → "params" ∉ s.rngs → ParamRun π n shape init r s (.error .noRng, s)
  | init {r1 : Res} {s1 : Store} : reserve r n (some "params") = .ok r1 → getVar s π "params" n = none →
      isMutable s "params" = true → "params" ∈ s.rngs →
      putVar π "params" n (Val.full shape init) { s with inits := s.inits + 1 } = (.ok (), s1) →
      ParamRun π n shape init r s (.ok (Val.full shape init, r1), s1)
  | initRaises {r1 : Res} {e : Err} {s1 : Store} : reserve r n (some "params") = .ok r1 →
      getVar s π "params" n = none → isMutable s "params" = true → "params" ∈ s.rngs →
      putVar π "params" n (Val.full shape init) { s with inits := s.inits + 1 } = (.error e, s1) →
      ParamRun π n shape init r s (.error e, s1)

theorem scopeParam_iff {π : Path} {n : String} {shape : List Nat} {init : Int} {r : Res} {s : Store}
    {y : Except Err (Val × Res) × Store} : scopeParam π n shape init r s = y ↔ ParamRun π n shape init r s y := by
  constructor
  · rintro rfl
    unfold scopeParam
    cases hr : reserve r n (some "params") with
    | error e => exact .clash hr
    | ok r1 =>
      cases hg : getVar s π "params" n with
      | some v =>
        dsimp only
        cases hl : v.leafShapes with
        | nil => exact .reuse hr hg (by simp [shapeOk, hl])
        | cons sh _ =>
          dsimp only
          by_cases hsh : sh = shape
          · rw [if_pos hsh]; exact .reuse hr hg (by simp [shapeOk, hl, hsh])
          · rw [if_neg hsh]; exact .misshaped hr hg (by simp [shapeOk, hl, hsh])
      | none =>
        cases hm : isMutable s "params" with
        | false =>
          have := ParamRun.missing (shape := shape) (init := init) hr hg hm
          cases hce : colEmpty s "params" <;> simpa [hce] using this
        | true =>
          by_cases hrng : "params" ∈ s.rngs
          · rw [decide_eq_true hrng]
            rcases hp : putVar π "params" n (Val.full shape init) { s with inits := s.inits + 1 } with ⟨e | u, s1⟩
            · exact .initRaises hr hg hm hrng hp
            · exact .init hr hg hm hrng hp
          · rw [decide_eq_false hrng]; exact .noRng hr hg hm hrng
  · intro h
    cases h with
    | clash hr => simp [scopeParam, hr]
    | reuse hr hg hsh =>
      unfold shapeOk at hsh
      unfold scopeParam
      simp only [hr, hg]
      split
      · rfl
      · rename_i hl; simp only [hl] at hsh; simp [hsh]
    | misshaped hr hg hsh =>
      unfold shapeOk at hsh
      unfold scopeParam
      simp only [hr, hg]
      split
      · rename_i hl; simp only [hl] at hsh; exact absurd trivial hsh
      · rename_i hl; simp only [hl] at hsh; simp [hsh]
    | missing hr hg hm => cases hce : colEmpty s "params" <;> simp [scopeParam, hr, hg, hm, hce]
    | noRng hr hg hm hrng => simp [scopeParam, hr, hg, hm, hrng]
    | init hr hg hm hrng hp => simp [scopeParam, hr, hg, hm, hrng, hp]
    | initRaises hr hg hm hrng hp => simp [scopeParam, hr, hg, hm, hrng, hp]

theorem scopeParam_ok_iff {π : Path} {n : String} {shape : List Nat} {init : Int} {r r1 : Res} {s s1 : Store}
    {v : Val} : scopeParam π n shape init r s = (.ok (v, r1), s1) ↔
      reserve r n (some "params") = .ok r1 ∧
      ((getVar s π "params" n = some v ∧ shapeOk v shape ∧ s1 = s) ∨
       (getVar s π "params" n = none ∧ isMutable s "params" = true ∧ "params" ∈ s.rngs ∧
        v = Val.full shape init ∧
        putVar π "params" n (Val.full shape init) { s with inits := s.inits + 1 } = (.ok (), s1))) := by
  rw [scopeParam_iff]
  constructor
  · intro h
    cases h with
    | reuse hr hg hsh => exact ⟨hr, .inl ⟨hg, hsh, rfl⟩⟩
    | init hr hg hm hrng hp => exact ⟨hr, .inr ⟨hg, hm, hrng, rfl, hp⟩⟩
  · rintro ⟨hr, ⟨hg, hsh, rfl⟩ | ⟨hg, hm, hrng, rfl, hp⟩⟩
    · exact .reuse hr hg hsh
    · exact .init hr hg hm hrng hp

inductive VariableRun (π : Path) (col n : String) (iv : Val) (r : Res) (s : Store) : Except Err Res × Store → Prop
  | clash {e : Err} : reserve r n (some col) = .error e → VariableRun π col n iv r s (.error e, s)
  | present {r1 : Res} : reserve r n (some col) = .ok r1 → hasVar s π col n = true →
      VariableRun π col n iv r s (.ok r1, s)
  | missing {r1 : Res} : reserve r n (some col) = .ok r1 → hasVar s π col n = false → isMutable s col = false →
      VariableRun π col n iv r s (.error (if colEmpty s col then .collectionNotFound else .variableNotFound), s)
  | init {r1 : Res} {s1 : Store} : reserve r n (some col) = .ok r1 → hasVar s π col n = false →
      isMutable s col = true → putVar π col n iv s = (.ok (), s1) → VariableRun π col n iv r s (.ok r1, s1)
  | initRaises {r1 : Res} {e : Err} {s1 : Store} : reserve r n (some col) = .ok r1 → hasVar s π col n = false →
      isMutable s col = true → putVar π col n iv s = (.error e, s1) → VariableRun π col n iv r s (.error e, s1)

theorem scopeVariable_iff {π : Path} {col n : String} {iv : Val} {r : Res} {s : Store} {y : Except Err Res × Store} :
    scopeVariable π col n iv r s = y ↔ VariableRun π col n iv r s y := by
  constructor
  · rintro rfl
    unfold scopeVariable
    cases hr : reserve r n (some col) with
    | error e => exact .clash hr
    | ok r1 =>
      cases hv : hasVar s π col n with
      | true => exact .present hr hv
      | false =>
        cases hm : isMutable s col with
        | false =>
          have := VariableRun.missing (iv := iv) hr hv hm
          cases hce : colEmpty s col <;> simpa [hce] using this
        | true =>
          rcases hp : putVar π col n iv s with ⟨e | u, s1⟩
          · exact .initRaises hr hv hm hp
          · exact .init hr hv hm hp
  · intro h
    cases h with
    | clash hr => simp [scopeVariable, hr]
    | present hr hv => simp [scopeVariable, hr, hv]
    | missing hr hv hm => cases hce : colEmpty s col <;> simp [scopeVariable, hr, hv, hm, hce]
    | init hr hv hm hp => simp [scopeVariable, hr, hv, hm, hp]
    | initRaises hr hv hm hp => simp [scopeVariable, hr, hv, hm, hp]

theorem scopeVariable_ok_iff {π : Path} {col n : String} {iv : Val} {r r1 : Res} {s s1 : Store} :
    scopeVariable π col n iv r s = (.ok r1, s1) ↔
      reserve r n (some col) = .ok r1 ∧
      ((hasVar s π col n = true ∧ s1 = s) ∨
       (hasVar s π col n = false ∧ isMutable s col = true ∧ putVar π col n iv s = (.ok (), s1))) := by
  rw [scopeVariable_iff]
  constructor
  · intro h
    cases h with
    | present hr hv => exact ⟨hr, .inl ⟨hv, rfl⟩⟩
    | init hr hv hm hp => exact ⟨hr, .inr ⟨hv, hm, hp⟩⟩
  · rintro ⟨hr, ⟨hv, rfl⟩ | ⟨hv, hm, hp⟩⟩
    · exact .present hr hv
    · exact .init hr hv hm hp

theorem moduleSow_ok_iff {π : Path} {col n : String} {e : Int} {r r1 : Res} {s s1 : Store} :
    moduleSow π col n e r s = (.ok r1, s1) ↔
      (isMutable s col = false ∧ r1 = r ∧ s1 = s) ∨
      (isMutable s col = true ∧
        ((∃ xs, getVar s π col n = some (.tup xs) ∧ r1 = r ∧
            putVar π col n (.tup (xs ++ [([], [e])])) s = (.ok (), s1)) ∨
         (getVar s π col n = none ∧ reserve r n (some col) = .ok r1 ∧
            putVar π col n (.tup [([], [e])]) s = (.ok (), s1)))) := by
  constructor
  · unfold moduleSow
    cases isMutable s col with
    | false =>
      rintro ⟨⟩
      exact .inl ⟨rfl, rfl, rfl⟩
    | true =>
      cases getVar s π col n with
      | some v0 =>
        cases v0 with
        | tensor sh d => rintro ⟨⟩
        | tup xs =>
          dsimp only
          rcases hp : putVar π col n (.tup (xs ++ [([], [e])])) s with ⟨_ | u, s'⟩
          · rintro ⟨⟩
          · rintro ⟨⟩
            exact .inr ⟨rfl, .inl ⟨xs, rfl, rfl, hp⟩⟩
      | none =>
        cases reserve r n (some col) with
        | error err => rintro ⟨⟩
        | ok r2 =>
          rcases putVar π col n (.tup [([], [e])]) s with ⟨_ | u, s'⟩
          · rintro ⟨⟩
          · rintro ⟨⟩
            exact .inr ⟨rfl, .inr ⟨rfl, rfl, rfl⟩⟩
  · rintro (⟨hm, rfl, rfl⟩ | ⟨hm, ⟨xs, hg, rfl, hp⟩ | ⟨hg, hr, hp⟩⟩)
    · simp [moduleSow, hm]
    · simp [moduleSow, hm, hg, hp]
    · simp [moduleSow, hm, hg, hr, hp]

theorem modulePerturb_ok_iff {π : Path} {col n : String} {e y : Int} {r r1 : Res} {s s1 : Store} :
    modulePerturb π col n e r s = (.ok (y, r1), s1) ↔
      (((isMutable s col && !hasVar s π col n) = true ∧ reserve r n (some col) = .ok r1 ∧
          putVar π col n (.tensor [] [0]) s = (.ok (), s1)) ∨
       ((isMutable s col && !hasVar s π col n) = false ∧ r1 = r ∧ s1 = s)) ∧
      ((hasCol s1 col = true ∧ ∃ sh d, getVar s1 π col n = some (.tensor sh d) ∧
          y = e * (d.length : Int) + sumInt d) ∨
       (hasCol s1 col = false ∧ y = e)) := by
  have second : ∀ (r' : Res) (s' : Store),
      (if hasCol s' col then
        match getVar s' π col n with
        | some (.tensor _ d) => ((.ok (e * (d.length : Int) + sumInt d, r') : Except Err (Int × Res)), s')
        | some (.tup _) => (.error .unsupported, s')
        | none => (.error .perturbMissing, s')
       else (.ok (e, r'), s')) = (.ok (y, r1), s1) ↔
      r1 = r' ∧ s1 = s' ∧
      ((hasCol s' col = true ∧ ∃ sh d, getVar s' π col n = some (.tensor sh d) ∧
          y = e * (d.length : Int) + sumInt d) ∨ (hasCol s' col = false ∧ y = e)) := by
    intro r' s'
    cases hc : hasCol s' col with
    | false =>
      simp only [Bool.false_eq_true, if_false, Prod.mk.injEq, Except.ok.injEq, false_and, false_or, true_and]
      exact ⟨fun ⟨⟨h1, h2⟩, h3⟩ => ⟨h2.symm, h3.symm, h1.symm⟩, fun ⟨h1, h2, h3⟩ => ⟨⟨h3.symm, h1.symm⟩, h2.symm⟩⟩
    | true =>
      cases hg : getVar s' π col n with
      | none => simp
      | some v0 =>
        cases v0 with
        | tup xs => simp
        | tensor sh d =>
          simp only [if_true, Prod.mk.injEq, Except.ok.injEq, true_and, Bool.true_eq_false, false_and, or_false,
            Option.some.injEq, Val.tensor.injEq]
          constructor
          · rintro ⟨⟨h1, h2⟩, h3⟩; exact ⟨h2.symm, h3.symm, sh, d, ⟨rfl, rfl⟩, h1.symm⟩
          · rintro ⟨h1, h2, _, _, ⟨_, rfl⟩, h3⟩; exact ⟨⟨h3.symm, h1.symm⟩, h2.symm⟩
  unfold modulePerturb
  cases hcond : (isMutable s col && !hasVar s π col n) with
  | false =>
    simp only [Bool.false_eq_true, if_false, false_and, false_or, true_and]
    refine (second r s).trans ?_
    constructor
    · rintro ⟨rfl, rfl, h⟩; exact ⟨⟨rfl, rfl⟩, h⟩
    · rintro ⟨⟨rfl, rfl⟩, h⟩; exact ⟨rfl, rfl, h⟩
  | true =>
    simp only [if_true, true_and, Bool.true_eq_false, false_and, or_false]
    cases hr : reserve r n (some col) with
    | error err => simp
    | ok r2 =>
      cases hp : putVar π col n (.tensor [] [0]) s with
      | mk res s2 =>
        cases res with
        | error err => simp
        | ok u =>
          simp only [Except.ok.injEq, Prod.mk.injEq, true_and]
          refine (second r2 s2).trans ?_
          constructor
          · rintro ⟨rfl, rfl, h⟩; exact ⟨⟨rfl, rfl⟩, h⟩
          · rintro ⟨⟨rfl, rfl⟩, h⟩; exact ⟨rfl, rfl, h⟩

theorem finishCall_ok_iff {cfg : Cfg} {π : Path} {l l1 : Local} {s s1 : Store} :
    finishCall cfg π l s = (.ok l1, s1) ↔
      (cfg.capture = true ∧ ∃ r, moduleSow π "intermediates" "__call__" l.out l.res s = (.ok r, s1) ∧
          l1 = { l with res := r }) ∨
      (cfg.capture = false ∧ l1 = l ∧ s1 = s) := by
  refine ⟨?_, fun h => ?_⟩
  · unfold finishCall
    cases cfg.capture with
    | false =>
      rintro ⟨⟩
      exact .inr ⟨rfl, rfl, rfl⟩
    | true =>
      rcases moduleSow π "intermediates" "__call__" l.out l.res s with ⟨_ | r, s2⟩
      · rintro ⟨⟩
      · rintro ⟨⟩
        exact .inl ⟨rfl, r, rfl, rfl⟩
  · rcases h with ⟨hc, r, hsow, rfl⟩ | ⟨hc, rfl, rfl⟩
    · simp only [finishCall, hc, if_true, hsow]
    · simp only [finishCall, hc, Bool.false_eq_true, if_false]

theorem finishCall_quiet {cfg : Cfg} (hcap : cfg.capture = false) (π : Path) (l : Local) (s : Store) :
    finishCall cfg π l s = (.ok l, s) := finishCall_ok_iff.mpr (.inr ⟨hcap, rfl, rfl⟩)

theorem reserve_res {r r1 : Res} {n : String} {c : Option String} (h : reserve r n c = .ok r1) :
    r1 = (n, c) :: r := (reserve_ok_iff.mp h).2

theorem putVar_ok_vars {π : Path} {col n : String} {v : Val} {s s1 : Store}
    (h : putVar π col n v s = (.ok (), s1)) : s1.vars = upsert (fullPath col π n) v s.vars := by
  rw [(putVar_ok_iff.mp h).2.2]

theorem putVar_vars (π : Path) (col n : String) (v : Val) (s : Store) :
    (putVar π col n v s).2 = s ∨
      (isMutable s col = true ∧ (putVar π col n v s).2.vars = upsert (fullPath col π n) v s.vars) := by
  unfold putVar
  cases isMutable s col
  · exact .inl rfl
  · cases conflict s.vars (fullPath col π n)
    · exact .inr ⟨rfl, rfl⟩
    · exact .inl rfl

theorem putVar_stored {π : Path} {col n : String} {v : Val} {s s1 : Store}
    (h : putVar π col n v s = (.ok (), s1)) : getVar s1 π col n = some v := by
  unfold getVar
  rw [putVar_ok_vars h]; exact lookupP_upsert_self _ _ _

theorem scopeParam_res {π : Path} {n : String} {shape : List Nat} {init : Int} {r r1 : Res} {s s1 : Store}
    {v : Val} (h : scopeParam π n shape init r s = (.ok (v, r1), s1)) : r1 = (n, some "params") :: r :=
  reserve_res (scopeParam_ok_iff.mp h).1

theorem scopeParam_stored {π : Path} {n : String} {shape : List Nat} {init : Int} {r r1 : Res} {s s1 : Store}
    {v : Val} (h : scopeParam π n shape init r s = (.ok (v, r1), s1)) : getVar s1 π "params" n = some v := by
  obtain ⟨_, ⟨hg, _, rfl⟩ | ⟨_, _, _, rfl, hp⟩⟩ := scopeParam_ok_iff.mp h
  · exact hg
  · exact putVar_stored hp

theorem scopeVariable_res {π : Path} {col n : String} {iv : Val} {r r1 : Res} {s s1 : Store}
    (h : scopeVariable π col n iv r s = (.ok r1, s1)) : r1 = (n, some col) :: r :=
  reserve_res (scopeVariable_ok_iff.mp h).1

theorem scopeVariable_present {π : Path} {col n : String} {iv : Val} {r r1 : Res} {s s1 : Store}
    (h : scopeVariable π col n iv r s = (.ok r1, s1)) : hasVar s1 π col n = true := by
  obtain ⟨_, ⟨hv, rfl⟩ | ⟨_, _, hp⟩⟩ := scopeVariable_ok_iff.mp h
  · exact hv
  · exact hasVar_of_getVar (putVar_stored hp)

theorem moduleSow_res {π : Path} {col n : String} {e : Int} {r r1 : Res} {s s1 : Store}
    (h : moduleSow π col n e r s = (.ok r1, s1)) : ResSub r r1 := by
  obtain ⟨_, rfl, _⟩ | ⟨_, ⟨_, _, rfl, _⟩ | ⟨_, hr, _⟩⟩ := moduleSow_ok_iff.mp h
  · exact .refl _
  · exact .refl _
  · rw [reserve_res hr]; exact (ResSub.refl _).cons_right _

theorem modulePerturb_res {π : Path} {col n : String} {e y : Int} {r r1 : Res} {s s1 : Store}
    (h : modulePerturb π col n e r s = (.ok (y, r1), s1)) : ResSub r r1 := by
  obtain ⟨⟨_, hr, _⟩ | ⟨_, rfl, _⟩, _⟩ := modulePerturb_ok_iff.mp h
  · rw [reserve_res hr]; exact (ResSub.refl _).cons_right _
  · exact .refl _

/-- every collection selected by `mutable` is owned by the scope (a fresh copy or created by it) -/
def OwnedInv (s : Store) : Prop := ∀ c ∈ s.cols, inFilter s.mutable c.1 = true → c.2 = true

/-- what any sequence of scope operations may change between `s` and `s'` -/
structure Frame (s s' : Store) : Prop where
  mutable_eq : s'.mutable = s.mutable
  imm : ∀ c rest, inFilter s.mutable c = false → lookupP (c :: rest) s'.vars = lookupP (c :: rest) s.vars
  cols_old : ∀ c, c ∈ s.cols → c ∈ s'.cols
  cols_new : ∀ c, c ∈ s'.cols → c ∈ s.cols ∨ (inFilter s.mutable c.1 = true ∧ c.2 = true)
  dirty : OwnedInv s → s'.dirty = s.dirty
  inits_imm : inFilter s.mutable "params" = false → s'.inits = s.inits

theorem Frame.refl (s : Store) : Frame s s :=
  ⟨rfl, fun _ _ _ => rfl, fun _ h => h, fun _ h => Or.inl h, fun _ => rfl, fun _ => rfl⟩

theorem Frame.owned {s s' : Store} (f : Frame s s') (h : OwnedInv s) : OwnedInv s' := by
  intro c hc hm
  rcases f.cols_new c hc with h1 | h1
  · exact h c h1 (by rw [← f.mutable_eq]; exact hm)
  · exact h1.2

theorem Frame.trans {s s' s'' : Store} (f : Frame s s') (g : Frame s' s'') : Frame s s'' where
  mutable_eq := by rw [g.mutable_eq, f.mutable_eq]
  imm := by
    intro c rest h
    rw [g.imm c rest (by rw [f.mutable_eq]; exact h), f.imm c rest h]
  cols_old := fun c h => g.cols_old c (f.cols_old c h)
  cols_new := by
    intro c h
    rcases g.cols_new c h with h1 | h1
    · exact f.cols_new c h1
    · right; rw [← f.mutable_eq]; exact h1
  dirty := by
    intro h
    rw [g.dirty (f.owned h), f.dirty h]
  inits_imm := by
    intro h
    rw [g.inits_imm (by rw [f.mutable_eq]; exact h), f.inits_imm h]

theorem borrowed_false_of_owned {s : Store} (h : OwnedInv s) {col : String}
    (hm : inFilter s.mutable col = true) : borrowed s col = false := by
  rw [Bool.eq_false_iff]
  intro hb
  cases h _ (borrowed_iff.mp hb) hm

/-- `_unfreeze_variables` copies the collections selected by `mutable` -/
theorem owned_bind (m : LFilter) (V : Vars) (rngs : List String) : OwnedInv (Scope.bind m V rngs) :=
  fun _ hc hm => (mem_bind_cols.mp hc).2.trans hm

theorem putVar_frame (π : Path) (col n : String) (v : Val) (s : Store) :
    Frame s (putVar π col n v s).2 := by
  unfold putVar
  by_cases hm : isMutable s col = true
  · simp only [hm, Bool.not_true, Bool.false_eq_true, if_false]
    by_cases hc : conflict s.vars (fullPath col π n) = true
    · simp only [hc, if_true]; exact Frame.refl s
    · simp only [hc, Bool.false_eq_true, if_false]
      unfold isMutable at hm
      refine ⟨rfl, ?_, ?_, ?_, ?_, fun _ => rfl⟩
      · intro c rest h
        apply lookupP_upsert_ne
        intro heq
        unfold fullPath at heq
        have : c = col := by injection heq
        rw [this, hm] at h
        exact absurd h (by simp)
      · intro c h
        by_cases hh : hasCol s col = true
        · simp only [hh, if_true]; exact h
        · simp only [hh, Bool.false_eq_true, if_false]; exact List.mem_append_left _ h
      · intro c h
        by_cases hh : hasCol s col = true
        · simp only [hh, if_true] at h; exact Or.inl h
        · simp only [hh, Bool.false_eq_true, if_false] at h
          rcases List.mem_append.mp h with h1 | h1
          · exact Or.inl h1
          · right
            simp only [List.mem_singleton] at h1
            subst h1
            exact ⟨hm, rfl⟩
      · intro ho
        simp [borrowed_false_of_owned ho hm]
  · simp only [hm, Bool.not_false, if_true]; exact Frame.refl s

theorem frame_bump_inits (s : Store) (hm : inFilter s.mutable "params" = true) :
    Frame s { s with inits := s.inits + 1 } :=
  ⟨rfl, fun _ _ _ => rfl, fun _ h => h, fun _ h => Or.inl h, fun _ => rfl,
    (by intro h; rw [hm] at h; exact absurd h (by simp))⟩

/-- The store after a Scope operation on the variable `col/n` of the scope at `π`, whether it returned or raised: the
store before, or one `put_variable` of that variable in it (which leaves the store alone when it raises) — for a new
parameter after the count of initialisations went up. -/
inductive OwnPut (π : Path) (col n : String) (s : Store) : Store → Prop
  | same : OwnPut π col n s s
  | put (v : Val) : OwnPut π col n s (putVar π col n v s).2
  | init (v : Val) (hc : col = "params") (hm : isMutable s col = true) :
      OwnPut π col n s (putVar π col n v { s with inits := s.inits + 1 }).2

theorem scopeParam_effect (π : Path) (n : String) (shape : List Nat) (init : Int) (r : Res) (s : Store) :
    OwnPut π "params" n s (scopeParam π n shape init r s).2 := by
  generalize hy : scopeParam π n shape init r s = y
  cases scopeParam_iff.mp hy with
  | init _ _ hm _ hp => exact congrArg Prod.snd hp ▸ OwnPut.init (Val.full shape init) rfl hm
  | initRaises _ _ hm _ hp => exact congrArg Prod.snd hp ▸ OwnPut.init (Val.full shape init) rfl hm
  | _ => exact .same

theorem scopeVariable_effect (π : Path) (col n : String) (iv : Val) (r : Res) (s : Store) :
    OwnPut π col n s (scopeVariable π col n iv r s).2 := by
  generalize hy : scopeVariable π col n iv r s = y
  cases scopeVariable_iff.mp hy with
  | init _ _ _ hp => exact congrArg Prod.snd hp ▸ OwnPut.put iv
  | initRaises _ _ _ hp => exact congrArg Prod.snd hp ▸ OwnPut.put iv
  | _ => exact .same

theorem moduleSow_effect (π : Path) (col n : String) (e : Int) (r : Res) (s : Store) :
    OwnPut π col n s (moduleSow π col n e r s).2 := by
  unfold moduleSow
  split
  · exact .same
  · split
    · rename_i xs _
      have f2 : OwnPut π col n s _ := .put (.tup (xs ++ [([], [e])]))
      generalize putVar π col n (.tup (xs ++ [([], [e])])) s = y at f2 ⊢
      rcases y with ⟨_ | u, s'⟩ <;> exact f2
    · exact .same
    · split
      · exact .same
      · have f2 : OwnPut π col n s _ := .put (.tup [([], [e])])
        generalize putVar π col n (.tup [([], [e])]) s = y at f2 ⊢
        rcases y with ⟨_ | u, s'⟩ <;> exact f2

theorem modulePerturb_effect (π : Path) (col n : String) (e : Int) (r : Res) (s : Store) :
    OwnPut π col n s (modulePerturb π col n e r s).2 := by
  unfold modulePerturb
  -- the second half of `perturb` only reads
  have key : ∀ (st : Except Err Res × Store), OwnPut π col n s st.2 →
      OwnPut π col n s (match st with
        | (.error err, s') => ((.error err : Except Err (Int × Res)), s')
        | (.ok r', s') =>
          if hasCol s' col then
            match getVar s' π col n with
            | some (.tensor _ d) => (.ok (e * (d.length : Int) + sumInt d, r'), s')
            | some (.tup _) => (.error .unsupported, s')
            | none => (.error .perturbMissing, s')
          else (.ok (e, r'), s')).2 := by
    intro st hst
    obtain ⟨res, s'⟩ := st
    cases res with
    | error err => exact hst
    | ok r' =>
      simp only
      split
      · split <;> exact hst
      · exact hst
  apply key
  split
  · split
    · exact .same
    · have f2 : OwnPut π col n s _ := .put (.tensor [] [0])
      generalize putVar π col n (.tensor [] [0]) s = y at f2 ⊢
      rcases y with ⟨_ | u, s'⟩ <;> exact f2
  · exact .same

theorem finishCall_effect (cfg : Cfg) (π : Path) (l : Local) (s : Store) :
    OwnPut π "intermediates" "__call__" s (finishCall cfg π l s).2 := by
  unfold finishCall
  split
  · have f2 := moduleSow_effect π "intermediates" "__call__" l.out l.res s
    generalize moduleSow π "intermediates" "__call__" l.out l.res s = y at f2 ⊢
    rcases y with ⟨_ | r, s'⟩ <;> exact f2
  · exact .same

theorem checked_effect {α : Type} (h : Handle) (op : Op α) (s : Store) {col n : String}
    (hop : OwnPut h.path col n s (op s).2) :
    (checked h op s).2 = s ∨ (h.invalid = false ∧ ∃ col n, OwnPut h.path col n s (checked h op s).2) := by
  unfold checked
  cases h.invalid
  · exact .inr ⟨rfl, col, n, hop⟩
  · exact .inl rfl

theorem leakedOp_effect (h : Handle) (r : Res) (op : LeakOp) (s : Store) :
    (leakedOp h r op s).2 = s ∨ (h.invalid = false ∧ ∃ col n, OwnPut h.path col n s (leakedOp h r op s).2) := by
  cases op with
  | put col n v => exact checked_effect h _ s (.put v)
  | get col n => exact .inl rfl
  | var col n iv =>
    simp only [leakedOp]
    cases reserve r n (some col) with
    | error e => exact .inl rfl
    | ok _ =>
      dsimp only
      cases hasVar s h.path col n
      · cases isMutable s col
        · cases colEmpty s col <;> exact .inl rfl
        · exact checked_effect h _ s (.put iv)
      · exact .inl rfl
  | param n shape init =>
    simp only [leakedOp]
    cases reserve r n (some "params") with
    | error e => exact .inl rfl
    | ok _ =>
      cases getVar s h.path "params" n with
      | some v =>
        dsimp only
        cases v.leafShapes with
        | nil => exact .inl rfl
        | cons sh _ => dsimp only; split <;> exact .inl rfl
      | none =>
        dsimp only
        cases hm : isMutable s "params"
        · cases colEmpty s "params" <;> exact .inl rfl
        · cases decide ("params" ∈ s.rngs)
          · exact .inl rfl
          · exact checked_effect h (fun s' => putVar h.path "params" n (Val.full shape init) { s' with inits := s'.inits + 1 })
              s (.init (Val.full shape init) rfl hm)
  | push name =>
    refine checked_effect h _ s (col := "") (n := "") ?_
    split <;> exact .same
  | rewound => exact checked_effect h _ s (col := "") (n := "") .same

/-! Every change of the store made by `eval` at scope path `π` is a `put_variable` at `π` or at a descendant of
`π`, or a bump of the ghost initialisation counter: that is what a relation must be closed under for the
induction over programs (`eval_rel` in `ScopeEval`). -/

structure StepRel (R : Path → Store → Store → Prop) : Prop where
  refl : ∀ π s, R π s s
  trans : ∀ π s s' s'', R π s s' → R π s' s'' → R π s s''
  put : ∀ π col n v s, R π s (putVar π col n v s).2
  bump : ∀ π s, inFilter s.mutable "params" = true → R π s { s with inits := s.inits + 1 }
  child : ∀ π nm s s', R (π ++ [nm]) s s' → R π s s'

section
variable {R : Path → Store → Store → Prop}

theorem StepRel.descend (hR : StepRel R) : ∀ (π rel : Path) (s s' : Store), R (π ++ rel) s s' → R π s s' := by
  intro π rel
  induction rel generalizing π with
  | nil => intro s s' h; simpa using h
  | cons a rest ih =>
    intro s s' h
    apply hR.child π a
    apply ih (π ++ [a])
    simpa using h

theorem StepRel.of_ownPut (hR : StepRel R) {π : Path} {col n : String} {s s' : Store} : OwnPut π col n s s' → R π s s'
  | .same => hR.refl π s
  | .put v => hR.put π col n v s
  | .init v hc hm => hR.trans _ _ _ _ (hR.bump π s (by subst hc; exact hm)) (hR.put π col n v _)

end

theorem frame_step : StepRel (fun _ => Frame) where
  refl := fun _ s => Frame.refl s
  trans := fun _ _ _ _ f g => f.trans g
  put := fun π col n v s => putVar_frame π col n v s
  bump := fun _ s hm => frame_bump_inits s hm
  child := fun _ _ _ _ f => f

theorem leakedOp_frame (h : Handle) (r : Res) (op : LeakOp) (s : Store) : Frame s (leakedOp h r op s).2 := by
  rcases leakedOp_effect h r op s with e | ⟨_, _, _, ho⟩
  · rw [e]; exact Frame.refl s
  · exact frame_step.of_ownPut ho

theorem leakedOps_frame (h : Handle) (r : Res) : ∀ (ops : List LeakOp) (s : Store), Frame s (leakedOps h r ops s) := by
  intro ops
  induction ops with
  | nil => intro s; exact Frame.refl s
  | cons op rest ih => intro s; exact (leakedOp_frame h r op s).trans (ih _)

def KeysIn (s t : Store) : Prop := ∀ q, (lookupP q s.vars).isSome = true → (lookupP q t.vars).isSome = true

theorem keysIn_step : StepRel (fun _ => KeysIn) where
  refl := fun _ _ _ h => h
  trans := fun _ _ _ _ h1 h2 q hq => h2 q (h1 q hq)
  put := by
    intro π col n v s q hq
    rcases putVar_vars π col n v s with h | ⟨_, h⟩ <;> rw [h]
    · exact hq
    · by_cases heq : q = fullPath col π n
      · rw [heq, lookupP_upsert_self]; rfl
      · rw [lookupP_upsert_ne _ _ _ _ heq]; exact hq
  bump := fun _ _ _ _ h => h
  child := fun _ _ _ _ h => h

/-- the empty path, which is no variable's (a path starts with its collection), reads the same -/
def NilKept (_ : Path) (s s' : Store) : Prop := lookupP [] s'.vars = lookupP [] s.vars

theorem nilkept_step : StepRel NilKept where
  refl := fun _ _ => rfl
  trans := fun _ _ _ _ h1 h2 => by unfold NilKept at *; rw [h2, h1]
  put := by
    intro π col n v s
    unfold NilKept
    rcases putVar_vars π col n v s with h | ⟨_, h⟩ <;> rw [h]
    exact lookupP_upsert_ne _ _ _ _ (fun hh => nomatch hh)
  bump := fun _ _ _ => rfl
  child := fun _ _ _ _ h => h

end Flax.ScopeLemmas
