/-
The deep clone of `Module.clone` keeps sharing: while the positions are visited the cache stays a partial injection
into the ids below the counter (`Inv`), so two positions receive the same clone exactly when they held the same
instance (`deepClone_positions`).  Used by C02 (`clone_preserves_sharing`).
-/
import Flax.Model.CloneCache

namespace Flax.CloneCache

structure Inv (c : Cache) (n : Nat) : Prop where
  below : ∀ i j, clookup i c = some j → j < n
  inj : ∀ i i' j, clookup i c = some j → clookup i' c = some j → i = i'

theorem clookup_cons_self (i v : Nat) (c : Cache) : clookup i ((i, v) :: c) = some v := by simp [clookup]

theorem clookup_cons_ne {i k : Nat} (v : Nat) (c : Cache) (h : k ≠ i) : clookup i ((k, v) :: c) = clookup i c := by
  simp [clookup, h]

theorem Inv.extend {c : Cache} {n : Nat} (h : Inv c n) (i : Nat) (hi : clookup i c = none) : Inv ((i, n) :: c) (n + 1) := by
  constructor
  · intro a j ha
    by_cases hk : i = a
    · subst hk; rw [clookup_cons_self] at ha; injection ha with ha; omega
    · rw [clookup_cons_ne _ _ hk] at ha; exact Nat.lt_succ_of_lt (h.below a j ha)
  · intro a a' j ha ha'
    by_cases hk : i = a
    · subst hk
      rw [clookup_cons_self] at ha; injection ha with ha
      by_cases hk' : i = a'
      · exact hk'
      · rw [clookup_cons_ne _ _ hk'] at ha'
        have := h.below a' j ha'; omega
    · rw [clookup_cons_ne _ _ hk] at ha
      by_cases hk' : i = a'
      · subst hk'
        rw [clookup_cons_self] at ha'; injection ha' with ha'
        have := h.below a j ha; omega
      · rw [clookup_cons_ne _ _ hk'] at ha'; exact h.inj a a' j ha ha'

theorem cloneRefs_length : ∀ (refs : List Nat) (c : Cache) (n : Nat), (cloneRefs refs c n).1.length = refs.length := by
  intro refs
  induction refs with
  | nil => intro c n; rfl
  | cons i rest ih =>
    intro c n
    cases hl : clookup i c with
    | some j => simp [cloneRefs, hl, ih]
    | none => simp [cloneRefs, hl, ih]

/-- `Inv` kept; old entries stay; output `k` is the entry for `refs[k]`; an entry is old or an id from `n` on -/
theorem cloneRefs_spec : ∀ (refs : List Nat) (c : Cache) (n : Nat), Inv c n →
    Inv (cloneRefs refs c n).2.1 (cloneRefs refs c n).2.2 ∧
    (∀ i j, clookup i c = some j → clookup i (cloneRefs refs c n).2.1 = some j) ∧
    (∀ k (hk : k < refs.length) (hk' : k < (cloneRefs refs c n).1.length),
      clookup refs[k] (cloneRefs refs c n).2.1 = some (cloneRefs refs c n).1[k]) ∧
    ∀ i j, clookup i (cloneRefs refs c n).2.1 = some j → clookup i c = some j ∨ n ≤ j := by
  intro refs
  induction refs with
  | nil => intro c n h; exact ⟨h, fun _ _ h => h, fun k hk => absurd hk (by simp), fun _ _ h => .inl h⟩
  | cons i rest ih =>
    intro c n h
    cases hl : clookup i c with
    | some j =>
      obtain ⟨h1, h2, h4, h5⟩ := ih c n h
      simp only [cloneRefs, hl]
      refine ⟨h1, h2, ?_, h5⟩
      intro k hk hk'
      cases k with
      | zero => simp only [List.getElem_cons_zero]; exact h2 i j hl
      | succ k =>
        simp only [List.getElem_cons_succ]
        exact h4 k (by simpa using hk) (by simpa using hk')
    | none =>
      obtain ⟨h1, h2, h4, h5⟩ := ih ((i, n) :: c) (n + 1) (h.extend i hl)
      simp only [cloneRefs, hl]
      refine ⟨h1, ?_, ?_, ?_⟩
      · intro a j ha
        apply h2
        by_cases hk : i = a
        · subst hk; rw [hl] at ha; exact absurd ha (by simp)
        · rw [clookup_cons_ne _ _ hk]; exact ha
      · intro k hk hk'
        cases k with
        | zero => simp only [List.getElem_cons_zero]; exact h2 i n (clookup_cons_self i n c)
        | succ k =>
          simp only [List.getElem_cons_succ]
          exact h4 k (by simpa using hk) (by simpa using hk')
      · intro a j ha
        rcases h5 a j ha with h6 | h6
        · by_cases hk : i = a
          · subst hk; rw [clookup_cons_self] at h6; exact .inr (Nat.le_of_eq (Option.some.inj h6))
          · exact .inl (clookup_cons_ne _ _ hk ▸ h6)
        · exact .inr (Nat.le_of_succ_le h6)

theorem inv_empty (n : Nat) : Inv [] n := ⟨fun _ _ h => by simp [clookup] at h, fun _ _ _ h => by simp [clookup] at h⟩

theorem cloneRefs_append : ∀ (a b : List Nat) (c : Cache) (n : Nat),
    cloneRefs (a ++ b) c n =
      ((cloneRefs a c n).1 ++ (cloneRefs b (cloneRefs a c n).2.1 (cloneRefs a c n).2.2).1,
       (cloneRefs b (cloneRefs a c n).2.1 (cloneRefs a c n).2.2).2) := by
  intro a
  induction a with
  | nil => intro b c n; rfl
  | cons i as iha =>
    intro b c n
    cases hl : clookup i c with
    | some j => simp only [List.cons_append, cloneRefs, hl, iha]
    | none => simp only [List.cons_append, cloneRefs, hl, iha]

theorem cloneFields_flatten : ∀ (fs : List (List Nat)) (c : Cache) (n : Nat),
    (cloneFields fs c n).1.flatten = (cloneRefs fs.flatten c n).1 ∧
    (cloneFields fs c n).1.map List.length = fs.map List.length := by
  intro fs
  induction fs with
  | nil => intro c n; exact ⟨rfl, rfl⟩
  | cons f rest ih =>
    intro c n
    obtain ⟨h1, h3⟩ := ih (cloneRefs f c n).2.1 (cloneRefs f c n).2.2
    simp only [cloneFields, List.flatten_cons, cloneRefs_append]
    exact ⟨by rw [h1], by simp only [List.map_cons, h3, cloneRefs_length]⟩

theorem deepClone_positions (fields : List (List Nat)) (fresh : Nat) :
    (deepClone fields fresh).flatten.length = fields.flatten.length ∧
    (∀ a b (ha : a < fields.flatten.length) (hb : b < fields.flatten.length)
        (ha' : a < (deepClone fields fresh).flatten.length) (hb' : b < (deepClone fields fresh).flatten.length),
      ((deepClone fields fresh).flatten[a] = (deepClone fields fresh).flatten[b] ↔
        fields.flatten[a] = fields.flatten[b])) ∧
    (∀ a (ha' : a < (deepClone fields fresh).flatten.length), fresh ≤ (deepClone fields fresh).flatten[a]) := by
  unfold deepClone
  have hflat := (cloneFields_flatten fields [] fresh).1
  obtain ⟨hinv, _, hpos, hnew⟩ := cloneRefs_spec fields.flatten [] fresh (inv_empty fresh)
  have hlen := cloneRefs_length fields.flatten [] fresh
  rw [hflat]
  refine ⟨hlen, ?_, ?_⟩
  · intro a b ha hb ha' hb'
    have pa := hpos a ha ha'
    have pb := hpos b hb hb'
    constructor
    · intro heq
      rw [heq] at pa
      exact hinv.inj _ _ _ pa pb
    · intro heq
      rw [heq] at pa
      rw [pa] at pb
      injection pb
  · intro a ha'
    have ha : a < fields.flatten.length := by rw [← hlen]; exact ha'
    have pa := hpos a ha ha'
    exact (hnew _ _ pa).resolve_left (fun h => by simp [clookup] at h)

end Flax.CloneCache
