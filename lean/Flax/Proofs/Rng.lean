/-
C09, encodings: the model's association lists read as core `List.lookup`; `natBytes`, `strBytes` and, for NUL-free chunks,
`encodeSuffix true` are injective (`joinZ`); `suffixOf`, the suffix `make_rng` folds in.
-/
import Flax.Model.Rng
import Flax.Proofs.Assoc

namespace Flax.Rng

section alist
variable {κ ν : Type} [DecidableEq κ]

@[simp] theorem find?_nil (k : κ) : find? k ([] : List (κ × ν)) = none := rfl

theorem find?_cons (k k' : κ) (v : ν) (xs : List (κ × ν)) :
    find? k ((k', v) :: xs) = if k' = k then some v else find? k xs := rfl

theorem find?_eq_lookup (k : κ) (l : List (κ × ν)) : find? k l = l.lookup k :=
  Assoc.lookup_unique (fun _ => rfl) (fun _ _ _ _ => rfl) k l

theorem set_isUpsert : Assoc.IsUpsert (set (κ := κ) (ν := ν)) :=
  ⟨fun _ _ => rfl, fun _ _ _ _ => if_pos rfl, fun _ _ _ h => if_neg h⟩

theorem find?_set (k k' : κ) (v : ν) (l : List (κ × ν)) :
    find? k' (set k v l) = if k' = k then some v else find? k' l := by
  rw [find?_eq_lookup, find?_eq_lookup, set_isUpsert.lookup]

theorem find?_set_self (k : κ) (v : ν) (l : List (κ × ν)) : find? k (set k v l) = some v := by
  rw [find?_set, if_pos rfl]

theorem find?_set_ne (k k' : κ) (v : ν) (l : List (κ × ν)) (h : k' ≠ k) :
    find? k' (set k v l) = find? k' l := by
  rw [find?_set, if_neg h]

theorem find?_append_fresh (k : κ) (v : ν) (l : List (κ × ν)) (h : find? k l = none) (k' : κ) :
    find? k' (l ++ [(k, v)]) = if k' = k then some v else find? k' l := by
  rw [← set_isUpsert.of_not_mem v (Assoc.lookup_eq_none_iff.mp (find?_eq_lookup k l ▸ h)), find?_set]

theorem find?_append_new (k : κ) (v : ν) (l : List (κ × ν)) (h : find? k l = none) :
    find? k (l ++ [(k, v)]) = some v := by
  rw [find?_append_fresh k v l h, if_pos rfl]

theorem find?_append_ne (k k' : κ) (v : ν) (l : List (κ × ν)) (h : k' ≠ k) :
    find? k' (l ++ [(k, v)]) = find? k' l := by
  rw [find?_eq_lookup, find?_eq_lookup, List.lookup_append, Assoc.lookup_cons, if_neg (Ne.symm h)]
  exact Option.or_none

theorem find?_map_key {μ : Type} (f : κ → ν → μ) (k : κ) (l : List (κ × ν)) :
    find? k (l.map (fun kv => (kv.1, f kv.1 kv.2))) = (find? k l).map (f k) := by
  rw [find?_eq_lookup, find?_eq_lookup, Assoc.lookup_map]

theorem find?_map_val {μ : Type} (f : ν → μ) (k : κ) (l : List (κ × ν)) :
    find? k (l.map (fun kv => (kv.1, f kv.2))) = (find? k l).map f :=
  find?_map_key (fun _ => f) k l

theorem find?_mem (k : κ) (v : ν) (l : List (κ × ν)) (h : find? k l = some v) : (k, v) ∈ l :=
  Assoc.mem_of_lookup (find?_eq_lookup k l ▸ h)

theorem find?_of_mem (l : List (κ × ν)) (hn : (l.map (·.1)).Nodup) (k : κ) (v : ν) (h : (k, v) ∈ l) : find? k l = some v :=
  find?_eq_lookup k l ▸ Assoc.lookup_of_mem hn h

theorem find?_isSome_iff_mem (l : List (κ × ν)) (k : κ) : (find? k l).isSome = true ↔ k ∈ l.map (·.1) :=
  find?_eq_lookup k l ▸ Assoc.lookup_isSome_iff

theorem find?_eq_none_of_not_mem (l : List (κ × ν)) (k : κ) (h : k ∉ l.map (·.1)) : find? k l = none :=
  find?_eq_lookup k l ▸ Assoc.lookup_eq_none_iff.mpr h

theorem find?_some_mem (k : κ) (v : ν) (l : List (κ × ν)) (h : find? k l = some v) : v ∈ l.map (·.2) :=
  List.mem_map_of_mem (f := (·.2)) (find?_mem k v l h)

theorem find?_inj_of_nodup_vals (l : List (κ × ν)) (hn : (l.map (·.2)).Nodup) (s t : κ) (v : ν)
    (hs : find? s l = some v) (ht : find? t l = some v) : s = t :=
  congrArg (·.1) (Assoc.eq_of_nodup_map hn (find?_mem s v l hs) (find?_mem t v l ht) rfl)

end alist

def bytesNat (bs : List UInt8) : Nat := bs.foldl (fun a b => a * 256 + b.toNat) 0

theorem bytesNat_append_single (bs : List UInt8) (b : UInt8) :
    bytesNat (bs ++ [b]) = bytesNat bs * 256 + b.toNat := by
  simp [bytesNat, List.foldl_append]

theorem bytesNat_natBytesAux (fuel : Nat) : ∀ n, n ≤ fuel → bytesNat (natBytesAux fuel n) = n := by
  induction fuel with
  | zero => intro n h; rw [Nat.le_zero.mp h]
            rfl
  | succ f ih =>
    intro n h
    unfold natBytesAux
    by_cases h0 : n = 0
    · simp [h0, bytesNat]
    · simp only [h0, if_false]
      rw [bytesNat_append_single, ih (n / 256) (by omega)]
      have : (UInt8.ofNat (n % 256)).toNat = n % 256 := by
        simp [UInt8.toNat_ofNat']
      rw [this]
      exact Nat.div_add_mod' n 256

theorem bytesNat_natBytes (n : Nat) : bytesNat (natBytes n) = n :=
  bytesNat_natBytesAux n n (Nat.le_refl n)

theorem natBytes_injective {a b : Nat} (h : natBytes a = natBytes b) : a = b := by
  have := congrArg bytesNat h
  simpa [bytesNat_natBytes] using this

theorem natBytes_small (j : Nat) (h1 : 1 ≤ j) (h2 : j < 256) : natBytes j = [UInt8.ofNat j] := by
  obtain ⟨f, rfl⟩ : ∃ f, j = f + 1 := ⟨j - 1, by omega⟩
  have h0 : natBytesAux f 0 = [] := by cases f <;> rfl
  rw [natBytes, natBytesAux, if_neg (Nat.succ_ne_zero f), Nat.div_eq_of_lt h2, Nat.mod_eq_of_lt h2, h0]
  rfl

theorem natBytes_small_nulfree (j : Nat) (h1 : 1 ≤ j) (h2 : j < 256) : (0 : UInt8) ∉ natBytes j := by
  rw [natBytes_small j h1 h2, List.mem_singleton]
  intro hm
  have := congrArg UInt8.toNat hm
  simp only [UInt8.toNat_ofNat', UInt8.toNat_zero] at this
  omega

theorem strBytes_injective {s t : String} (h : strBytes s = strBytes t) : s = t := by
  unfold strBytes at h
  apply String.toByteArray_inj.mp
  have h2 : s.toUTF8.data = t.toUTF8.data := Array.toList_inj.mp h
  cases hs : s.toUTF8
  cases ht : t.toUTF8
  simp_all [String.toUTF8]

theorem encodeSuffix_append (sep : Bool) (a b : List Datum) :
    encodeSuffix sep (a ++ b) = encodeSuffix sep a ++ encodeSuffix sep b := by
  induction a with
  | nil => rfl
  | cons d ds ih => simp [encodeSuffix, ih, List.append_assoc]

theorem encodeSuffix_singleton_inj (sep : Bool) {d₁ d₂ : Datum} (h : encodeSuffix sep [d₁] = encodeSuffix sep [d₂]) :
    datumBytes d₁ = datumBytes d₂ := by
  cases sep <;> simpa [encodeSuffix] using h

/-- NUL-separated join: `joinZ [x, y] = 0 :: x ++ 0 :: y` -/
def joinZ : List (List UInt8) → List UInt8
  | [] => []
  | x :: xs => (0 :: x) ++ joinZ xs

theorem encodeSuffix_true (ds : List Datum) : encodeSuffix true ds = joinZ (ds.map datumBytes) := by
  induction ds with
  | nil => rfl
  | cons d ds ih => simp [encodeSuffix, joinZ, ih]

def concatB : List (List UInt8) → List UInt8
  | [] => []
  | x :: xs => x ++ concatB xs

theorem encodeSuffix_false (ds : List Datum) : encodeSuffix false ds = concatB (ds.map datumBytes) := by
  induction ds with
  | nil => rfl
  | cons d ds ih => simp [encodeSuffix, concatB, ih]

theorem concatB_append (a b : List (List UInt8)) : concatB (a ++ b) = concatB a ++ concatB b := by
  induction a with
  | nil => rfl
  | cons x xs ih => simp [concatB, ih, List.append_assoc]

/-- a NUL-free chunk followed by "nothing or a NUL" is determined by the whole -/
theorem chunk_split (x y r1 r2 : List UInt8) (hx : (0 : UInt8) ∉ x) (hy : (0 : UInt8) ∉ y)
    (h1 : r1 = [] ∨ ∃ t, r1 = 0 :: t) (h2 : r2 = [] ∨ ∃ t, r2 = 0 :: t)
    (h : x ++ r1 = y ++ r2) : x = y ∧ r1 = r2 := by
  induction x generalizing y with
  | nil =>
    cases y with
    | nil => simpa using h
    | cons b y' =>
      exfalso
      simp only [List.nil_append] at h
      rcases h1 with h1 | ⟨t, h1⟩
      · subst h1; simp at h
      · subst h1
        simp only [List.cons_append, List.cons.injEq] at h
        exact hy (by rw [← h.1]; simp)
  | cons a x' ih =>
    cases y with
    | nil =>
      exfalso
      simp only [List.nil_append] at h
      rcases h2 with h2 | ⟨t, h2⟩
      · subst h2; simp at h
      · subst h2
        simp only [List.cons_append, List.cons.injEq] at h
        exact hx (by rw [h.1]; simp)
    | cons b y' =>
      simp only [List.cons_append, List.cons.injEq] at h
      have hx' : (0 : UInt8) ∉ x' := fun hm => hx (List.mem_cons_of_mem _ hm)
      have hy' : (0 : UInt8) ∉ y' := fun hm => hy (List.mem_cons_of_mem _ hm)
      obtain ⟨e1, e2⟩ := ih y' hx' hy' h.2
      exact ⟨by rw [h.1, e1], e2⟩

theorem joinZ_head (xs : List (List UInt8)) : joinZ xs = [] ∨ ∃ t, joinZ xs = 0 :: t := by
  cases xs with
  | nil => exact Or.inl rfl
  | cons x xs => exact Or.inr ⟨x ++ joinZ xs, rfl⟩

theorem joinZ_injective (xs ys : List (List UInt8)) (hx : ∀ x ∈ xs, (0 : UInt8) ∉ x)
    (hy : ∀ y ∈ ys, (0 : UInt8) ∉ y) (h : joinZ xs = joinZ ys) : xs = ys := by
  induction xs generalizing ys with
  | nil =>
    cases ys with
    | nil => rfl
    | cons y ys => simp [joinZ] at h
  | cons x xs ih =>
    cases ys with
    | nil => simp [joinZ] at h
    | cons y ys =>
      simp only [joinZ, List.cons_append, List.cons.injEq, true_and] at h
      obtain ⟨e1, e2⟩ := chunk_split x y (joinZ xs) (joinZ ys) (hx x (by simp)) (hy y (by simp))
        (joinZ_head xs) (joinZ_head ys) h
      rw [e1, ih ys (fun x hm => hx x (List.mem_cons_of_mem _ hm)) (fun y hm => hy y (List.mem_cons_of_mem _ hm)) e2]

/-- the suffix `make_rng` folds in: the scope path, then the call count -/
def suffixOf (π : List String) (j : Nat) : List Datum := π.map Datum.str ++ [Datum.int j]

theorem suffixOf_ne_nil (π : List String) (j : Nat) : suffixOf π j ≠ [] := by
  simp [suffixOf]

theorem map_datumBytes_suffixOf (π : List String) (j : Nat) :
    (suffixOf π j).map datumBytes = π.map strBytes ++ [natBytes j] := by
  simp [suffixOf, datumBytes, Function.comp_def]

theorem encodeSuffix_true_chunks_inj (d₁ d₂ : List Datum) (h₁ : ∀ d ∈ d₁, (0 : UInt8) ∉ datumBytes d)
    (h₂ : ∀ d ∈ d₂, (0 : UInt8) ∉ datumBytes d) (h : encodeSuffix true d₁ = encodeSuffix true d₂) :
    d₁.map datumBytes = d₂.map datumBytes := by
  rw [encodeSuffix_true, encodeSuffix_true] at h
  apply joinZ_injective _ _ _ _ h
  · intro x hx
    obtain ⟨d, hd, rfl⟩ := List.mem_map.mp hx
    exact h₁ d hd
  · intro x hx
    obtain ⟨d, hd, rfl⟩ := List.mem_map.mp hx
    exact h₂ d hd

theorem suffixOf_nulfree (π : List String) (j : Nat) (hπ : ∀ n ∈ π, (0 : UInt8) ∉ strBytes n) (hj : (0 : UInt8) ∉ natBytes j) :
    ∀ d ∈ suffixOf π j, (0 : UInt8) ∉ datumBytes d := by
  intro d hd
  simp only [suffixOf, List.mem_append, List.mem_map, List.mem_singleton] at hd
  rcases hd with ⟨n, hn, rfl⟩ | rfl
  · exact hπ n hn
  · exact hj

theorem encodeSuffix_true_inj (π₁ π₂ : List String) (j₁ j₂ : Nat)
    (hπ₁ : ∀ n ∈ π₁, (0 : UInt8) ∉ strBytes n) (hπ₂ : ∀ n ∈ π₂, (0 : UInt8) ∉ strBytes n)
    (hj₁ : (0 : UInt8) ∉ natBytes j₁) (hj₂ : (0 : UInt8) ∉ natBytes j₂)
    (h : encodeSuffix true (suffixOf π₁ j₁) = encodeSuffix true (suffixOf π₂ j₂)) : π₁ = π₂ ∧ j₁ = j₂ := by
  have hc := encodeSuffix_true_chunks_inj _ _ (suffixOf_nulfree π₁ j₁ hπ₁ hj₁) (suffixOf_nulfree π₂ j₂ hπ₂ hj₂) h
  rw [map_datumBytes_suffixOf, map_datumBytes_suffixOf] at hc
  obtain ⟨e1, e2⟩ := List.append_singleton_inj.mp hc
  exact ⟨(List.map_inj_right fun _ _ => strBytes_injective).mp e1, natBytes_injective e2⟩

theorem exists_ok_of_decide {ε α : Type} {x : Except ε α} {P : α → Prop} [DecidablePred P]
    (h : (match x with | .ok a => decide (P a) | .error _ => false) = true) : ∃ a, x = .ok a ∧ P a := by
  cases x with
  | error e => cases h
  | ok a => exact ⟨a, rfl, of_decide_eq_true h⟩

-- lets `decide` close `run = .error e` and `run = .ok [k₁, …]` for closed runs
deriving instance DecidableEq for Except

end Flax.Rng
