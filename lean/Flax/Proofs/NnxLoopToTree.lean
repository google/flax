/- C08 proofs: `to_tree`, argument by argument: `toTree` threads the aliasing table and the shared `ref_index` through
the arguments, but the later stages use only what it made of each argument; `Splits` lists that, `toTree` returns
exactly when it holds, and facts about one Variable or array argument are read off its argument (`SplitFrom`).  On a
store holding the Variables it reads it returns exactly on consistent aliasing (`toTree_accepts_iff`) and raises the
inconsistency otherwise (`toTree_total`). -/
import Flax.Proofs.NnxLoopArgs

namespace Flax.NnxLoop
open Flax.Filter Flax.LiftLoop

section args
variable {α : Type}

/-- what `to_tree` makes of the arguments, given the aliasing table and the Variables met before them -/
inductive Splits (store : Store α) :
    List (Prefix × Arg α) → NodePrefixes → List VarId → List (PureArg α) → Prop where
  | nil {np : NodePrefixes} {seen : List VarId} : Splits store [] np seen []
  | arr {p : Prefix} {a : Arr α} {rest : List (Prefix × Arg α)} {np : NodePrefixes} {seen : List VarId}
      {r : List (PureArg α)} :
      Splits store rest np seen r → Splits store ((p, .arr a) :: rest) np seen (.arr p a :: r)
  | node {p : Prefix} {es : List Entry} {rest : List (Prefix × Arg α)} {np np' : NodePrefixes} {seen : List VarId}
      {flat : Flat α} {sts : List (State α)} {r : List (PureArg α)} :
      checkAliasing p es np = .ok np' → flatOf (ownedOf es (markOwn es seen).1) store = .ok flat →
      splitFlat p flat = .ok sts → Splits store rest np' (markOwn es seen).2 r →
      Splits store ((p, .node es) :: rest) np seen (.node ⟨es, (markOwn es seen).1⟩ p sts :: r)

theorem toTree_ok_iff {store : Store α} {pas : List (Prefix × Arg α)} {np : NodePrefixes} {seen : List VarId}
    {pure : List (PureArg α)} : toTree store pas np seen = .ok pure ↔ Splits store pas np seen pure := by
  constructor
  · intro h
    induction pas generalizing np seen pure with
    | nil => cases h; exact .nil
    | cons pa rest ih =>
      obtain ⟨p, arg⟩ := pa
      cases arg with
      | arr a =>
        simp only [toTree] at h
        cases hr : toTree store rest np seen with
        | error e => rw [hr] at h; cases h
        | ok r => rw [hr] at h; cases h; exact .arr (ih hr)
      | node es =>
        simp only [toTree] at h
        cases h1 : checkAliasing p es np with
        | error e => simp [h1] at h
        | ok np' =>
          simp only [h1] at h
          cases h2 : flatOf (ownedOf es (markOwn es seen).1) store with
          | error e => simp [h2] at h
          | ok flat =>
            simp only [h2] at h
            cases h3 : splitFlat p flat with
            | error e => simp [h3] at h
            | ok sts =>
              simp only [h3] at h
              cases h4 : toTree store rest np' (markOwn es seen).2 with
              | error e => simp [h4] at h
              | ok r => simp only [h4] at h; cases h; exact .node h1 h2 h3 (ih h4)
  · intro h
    induction h with
    | nil => rfl
    | arr _ ih => simp only [toTree, ih]
    | node h1 h2 h3 _ ih => simp only [toTree, h1, h2, h3, ih]

/-- what `Splits` says of one argument, without its position in the list -/
inductive SplitFrom (store : Store α) (pas : List (Prefix × Arg α)) (seen : List VarId) : PureArg α → Prop where
  | arr {p : Prefix} {a : Arr α} : (p, a) ∈ arrArgs pas → SplitFrom store pas seen (.arr p a)
  | node {g : GraphDef} {p : Prefix} {flat : Flat α} {sts : List (State α)} :
      (p, Arg.node g.es) ∈ pas → flatOf g.owned store = .ok flat → splitFlat p flat = .ok sts →
      (∀ e ∈ g.owned, (e, p) ∈ ownedAll pas seen) → SplitFrom store pas seen (.node g p sts)

theorem SplitFrom.cons {store : Store α} {pa : Prefix × Arg α} {rest : List (Prefix × Arg α)} {seen seen' : List VarId}
    {x : PureArg α} (h : SplitFrom store rest seen' x) (harr : ∀ q ∈ arrArgs rest, q ∈ arrArgs (pa :: rest))
    (hown : ∀ ep ∈ ownedAll rest seen', ep ∈ ownedAll (pa :: rest) seen) : SplitFrom store (pa :: rest) seen x := by
  cases h with
  | arr h => exact .arr (harr _ h)
  | node h0 h1 h2 h3 => exact .node (List.mem_cons_of_mem _ h0) h1 h2 (fun e he => hown _ (h3 e he))

variable {store : Store α} {pas : List (Prefix × Arg α)} {np : NodePrefixes} {seen : List VarId}
  {pure : List (PureArg α)}

theorem Splits.mem (h : Splits store pas np seen pure) : ∀ x ∈ pure, SplitFrom store pas seen x := by
  induction h with
  | nil => intro x hx; cases hx
  | arr _ ih =>
    intro x hx
    rcases List.mem_cons.1 hx with rfl | hx
    · exact .arr List.mem_cons_self
    · exact (ih x hx).cons (fun q hq => List.mem_cons_of_mem _ hq) (fun ep hep => hep)
  | node _ hfl hsp _ ih =>
    intro x hx
    rcases List.mem_cons.1 hx with rfl | hx
    · exact .node List.mem_cons_self hfl hsp (fun e he => List.mem_append_left _ (List.mem_map.2 ⟨e, he, rfl⟩))
    · exact (ih x hx).cons (fun q hq => hq) (fun ep hep => List.mem_append_right _ hep)

theorem Splits.of_owned (h : Splits store pas np seen pure) : ∀ ep ∈ ownedAll pas seen, ∃ g flat sts,
    PureArg.node g ep.2 sts ∈ pure ∧ ep.1 ∈ g.owned ∧ flatOf g.owned store = .ok flat ∧
      splitFlat ep.2 flat = .ok sts := by
  induction h with
  | nil => intro ep hep; cases hep
  | arr _ ih =>
    intro ep hep
    obtain ⟨g, flat, sts, hm, rest⟩ := ih ep hep
    exact ⟨g, flat, sts, List.mem_cons_of_mem _ hm, rest⟩
  | node _ hfl hsp _ ih =>
    intro ep hep
    rcases List.mem_append.1 hep with hep | hep
    · obtain ⟨e, he, rfl⟩ := List.mem_map.1 hep
      exact ⟨_, _, _, List.mem_cons_self, he, hfl, hsp⟩
    · obtain ⟨g, flat, sts, hm, rest⟩ := ih ep hep
      exact ⟨g, flat, sts, List.mem_cons_of_mem _ hm, rest⟩

theorem Splits.of_arr (h : Splits store pas np seen pure) : ∀ pa ∈ arrArgs pas, PureArg.arr pa.1 pa.2 ∈ pure := by
  induction h with
  | nil => intro pa hpa; cases hpa
  | arr _ ih =>
    intro pa hpa
    rcases List.mem_cons.1 hpa with rfl | hpa
    · exact List.mem_cons_self
    · exact List.mem_cons_of_mem _ (ih pa hpa)
  | node _ _ _ _ ih => intro pa hpa; exact List.mem_cons_of_mem _ (ih pa hpa)

end args


theorem consistent_nil : consistent [] = true := rfl

/-- what `to_tree` accepts is consistent: read at `Flax.C08.accepted_aliasing_is_consistent` -/
theorem toTree_ok_consistent {α : Type} (store : Store α) (pas : List (Prefix × Arg α)) (np : NodePrefixes)
    (seen : List VarId) (pure : List (PureArg α)) (hc : consistent np = true)
    (ht : toTree store pas np seen = .ok pure) : ∃ npF, allPrefixes pas np = .ok npF ∧ consistent npF = true := by
  have hS := toTree_ok_iff.1 ht
  clear ht
  induction hS with
  | nil => exact ⟨_, rfl, hc⟩
  | arr _ ih => exact ih hc
  | node hca _ _ _ ih =>
    obtain ⟨l, hl, hnp, hcons⟩ := checkAliasing_ok hca
    obtain ⟨npF, h1, h2⟩ := ih hcons
    refine ⟨npF, ?_, h2⟩
    simp only [allPrefixes, collect_eq, hl, ← hnp]
    exact h1

theorem splitFlat_owned_ok {α : Type} [Inhabited α] {p : Prefix} {owned : List Entry}
    (hat : ∀ e ∈ owned, ∃ a, p.at e = .ok a) (st : Store α) :
    ∃ sts, splitFlat p (owned.map (fun e => (e.path, e.info, (st.lookup e.id).getD default))) = .ok sts := by
  apply splitFlat_ok_of_at
  intro x hx
  obtain ⟨e, he, rfl⟩ := List.mem_map.1 hx
  obtain ⟨a, ha⟩ := hat e he
  exact ⟨a, by cases p <;> simpa [Prefix.at] using ha⟩

section comp
variable {α : Type} [Inhabited α]

omit [Inhabited α] in
theorem allPrefixes_extends : ∀ (pas : List (Prefix × Arg α)) (np npF : NodePrefixes),
    allPrefixes pas np = .ok npF → ∃ more, npF = np ++ more := by
  intro pas
  induction pas with
  | nil => intro np npF h; simp only [allPrefixes] at h; injection h with h; exact ⟨[], by simp [h]⟩
  | cons pa rest ih =>
    intro np npF h
    obtain ⟨p, arg⟩ := pa
    cases arg with
    | arr a => exact ih np npF (by simpa [allPrefixes] using h)
    | node es =>
      simp only [allPrefixes, collect_eq] at h
      cases hl : leafPrefixes p es with
      | error e => simp [hl] at h
      | ok l =>
        simp only [hl] at h
        obtain ⟨more, hm⟩ := ih _ npF h
        exact ⟨l ++ more, by rw [hm, List.append_assoc]⟩

/-- on a store holding the Variables it reads, with every occurrence given an axis, `to_tree` returns or raises
`InconsistentAliasing` by the consistency of all the `(Variable, axis)` pairs -/
theorem toTree_total (store : Store α) :
    ∀ (pas : List (Prefix × Arg α)) (np : NodePrefixes) (seen : List VarId) (npF : NodePrefixes),
      allPrefixes pas np = .ok npF → consistent np = true →
      (∀ ep ∈ ownedAll pas seen, (store.lookup ep.1.id).isSome) →
      ∃ pure, toTree store pas np seen = if consistent npF = true then .ok pure else .error .inconsistentAliasing
  | [], np, seen, npF, h, hc, _ => by cases h; exact ⟨[], by rw [if_pos hc]; rfl⟩
  | (p, .arr a) :: rest, np, seen, npF, h, hc, hst => by
    obtain ⟨r, hr⟩ := toTree_total store rest np seen npF h hc hst
    refine ⟨.arr p a :: r, ?_⟩
    rw [toTree, hr]
    cases consistent npF <;> rfl
  | (p, .node es) :: rest, np, seen, npF, h, hc, hst => by
    simp only [allPrefixes] at h
    cases hcol : collect p es np with
    | error e => rw [hcol] at h; cases h
    | ok np' =>
      simp only [hcol] at h
      obtain ⟨more, hm⟩ := allPrefixes_extends rest np' npF h
      simp only [toTree, checkAliasing, hcol]
      by_cases hc' : consistent np' = true
      · have hown : ∀ e ∈ ownedOf es (markOwn es seen).1, (store.lookup e.id).isSome :=
          fun e he => hst (e, p) (List.mem_append_left _ (List.mem_map.2 ⟨e, he, rfl⟩))
        obtain ⟨l, hl, _⟩ := collect_ok hcol
        obtain ⟨sts, hsts⟩ := splitFlat_owned_ok (owned := ownedOf es (markOwn es seen).1)
          (fun e he => let ⟨a, ha, _⟩ := leafPrefixes_ok_at hl e (ownedOf_subset _ _ e he); ⟨a, ha⟩) store
        obtain ⟨r, hr⟩ := toTree_total store rest np' _ npF h hc' (fun ep hep => hst ep (List.mem_append_right _ hep))
        refine ⟨.node ⟨es, (markOwn es seen).1⟩ p sts :: r, ?_⟩
        simp only [hc', if_true, flatOf_of_total _ _ hown, hsts, hr]
        cases consistent npF <;> rfl
      · have hF : ¬ consistent npF = true := fun hF => hc' (consistent_of_append (hm ▸ hF))
        exact ⟨[], by simp only [hc', hF]; rfl⟩

/-- consistent aliasing is accepted: ← of `Flax.C08.to_tree_accepts_iff` -/
theorem toTree_complete (store : Store α) (pas : List (Prefix × Arg α)) (np : NodePrefixes) (seen : List VarId)
    (npF : NodePrefixes) (h : allPrefixes pas np = .ok npF) (hc : consistent npF = true)
    (hst : ∀ ep ∈ ownedAll pas seen, (store.lookup ep.1.id).isSome) : ∃ pure, toTree store pas np seen = .ok pure := by
  obtain ⟨more, hm⟩ := allPrefixes_extends pas np npF h
  obtain ⟨pure, hp⟩ := toTree_total store pas np seen npF h (consistent_of_append (hm ▸ hc)) hst
  exact ⟨pure, by rw [hp, if_pos hc]⟩

omit [Inhabited α] in
theorem owned_stored_of_all {store : Store α} {pas : List (Prefix × Arg α)} (seen : List VarId)
    (hst : ∀ pa ∈ pas, ∀ es, pa.2 = .node es → ∀ e ∈ es, (store.lookup e.id).isSome) :
    ∀ ep ∈ ownedAll pas seen, (store.lookup ep.1.id).isSome := by
  intro ep hep
  obtain ⟨es, h1, h2⟩ := ownedAll_mem pas seen ep hep
  exact hst _ h1 es rfl _ h2

theorem toTree_owned_at (store : Store α) :
    ∀ (pas : List (Prefix × Arg α)) (np : NodePrefixes) (seen : List VarId) (pure : List (PureArg α)),
      toTree store pas np seen = .ok pure → ∀ ep ∈ ownedAll pas seen, ∃ a, ep.2.at ep.1 = .ok a := by
  intro pas np seen pure ht ep hep
  obtain ⟨g, flat, sts, _, he, hfl, hsp⟩ := (toTree_ok_iff.1 ht).of_owned ep hep
  exact split_owned_at hfl hsp _ he

theorem toTree_accepts_iff (store : Store α) (pas : List (Prefix × Arg α)) (np : NodePrefixes) (seen : List VarId)
    (hc : consistent np = true) (hst : ∀ ep ∈ ownedAll pas seen, (store.lookup ep.1.id).isSome) :
    (∃ pure, toTree store pas np seen = .ok pure) ↔ ∃ npF, allPrefixes pas np = .ok npF ∧ consistent npF = true :=
  ⟨fun ⟨pure, h⟩ => toTree_ok_consistent store pas np seen pure hc h,
   fun ⟨npF, h1, h2⟩ => toTree_complete store pas np seen npF h1 h2 hst⟩

end comp

end Flax.NnxLoop
