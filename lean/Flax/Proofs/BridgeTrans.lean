/-
The two directions of conversion between Linen variables (collection-major) and Variables
(attribute-major) for C18, leaf by leaf: `convertCols` (`LBox.OkIn` leaves in, `ColConv` columns out,
listwise by `Rel₂`) under `VarsOk` and the two ways of uniting its result; `Exposes r V S` / `expose`
for "`V` is the Linen form of the state `S`" and the rebuild from a state; the round trips.
-/
import Flax.Proofs.BridgeMerge
import Flax.Proofs.BridgeReg
import Flax.Proofs.BridgeBox

namespace Flax.Bridge
variable {α β γ : Type}

theorem pairwise_of_nodup_keys {R : String × Tree β → String × Tree β → Prop} (l : List (String × Tree β))
    (hn : (l.map Prod.fst).Nodup) (h : ∀ a ∈ l, ∀ b ∈ l, a.1 ≠ b.1 → R a b) : l.Pairwise R :=
  (List.pairwise_map.mp hn).imp_of_mem fun ha hb hne => h _ ha _ hb hne

inductive Rel₂ (R : β → γ → Prop) : List β → List γ → Prop
  | nil : Rel₂ R [] []
  | cons {a : β} {b : γ} {l : List β} {l' : List γ} : R a b → Rel₂ R l l' → Rel₂ R (a :: l) (b :: l')

theorem forall₂_mem_left {R : β → γ → Prop} {l : List β} {l' : List γ} (h : Rel₂ R l l') :
    ∀ a ∈ l, ∃ b ∈ l', R a b := by
  induction h with
  | nil => intro a ha; cases ha
  | cons hab _ ih =>
    intro a ha
    rcases List.mem_cons.mp ha with rfl | ha
    · exact ⟨_, by simp, hab⟩
    · obtain ⟨b, hb, hr⟩ := ih a ha
      exact ⟨b, by simp [hb], hr⟩

theorem forall₂_mem_right {R : β → γ → Prop} {l : List β} {l' : List γ} (h : Rel₂ R l l') :
    ∀ b ∈ l', ∃ a ∈ l, R a b := by
  induction h with
  | nil => intro a ha; cases ha
  | cons hab _ ih =>
    intro b hb
    rcases List.mem_cons.mp hb with rfl | hb
    · exact ⟨_, by simp, hab⟩
    · obtain ⟨a, ha, hr⟩ := ih b hb
      exact ⟨a, by simp [ha], hr⟩

theorem forall₂_pairwise {R : β → γ → Prop} {P : β → β → Prop} {Q : γ → γ → Prop}
    {l : List β} {l' : List γ} (h : Rel₂ R l l') (hp : l.Pairwise P)
    (hq : ∀ a a' b b', R a a' → R b b' → P a b → Q a' b') : l'.Pairwise Q := by
  induction h with
  | nil => exact List.Pairwise.nil
  | cons hab hrest ih =>
    rw [List.pairwise_cons] at hp ⊢
    refine ⟨?_, ih hp.2⟩
    intro b' hb'
    obtain ⟨b, hb, hr⟩ := forall₂_mem_right hrest b' hb'
    exact hq _ _ _ _ hab hr (hp.1 b hb)

/-- a Linen leaf that `to_nnx_var(col, ·)` accepts and `to_linen_var` gives back, judged against the
registry before the call: an `NNXMeta` box sits in the collection registered for its type -/
def LBox.OkIn (r : Reg) (c : String) : LBox α → Prop
  | .nnxMeta vt _ md => r.typeOf c = some vt ∧ Meta.get? md "linen_meta_type" = none ∧ isVanilla md = false
  | .box cls _ fields => cls ≠ clsPartitioned ∧ cls ≠ clsLogical ∧ Meta.get? fields "linen_meta_type" = none
  | _ => True

theorem LBox.OkIn.mono {r r' : Reg} (hg : r.Grows r') {c : String} {x : LBox α} (h : x.OkIn r c) :
    x.OkIn r' c := by
  cases x with
  | nnxMeta vt a md => exact ⟨hg.typeOf h.1, h.2⟩
  | box cls a fields => exact h
  | plain a => trivial
  | partitioned a n m => trivial
  | logical a n m ru => trivial

theorem LBox.okIn_iff {r : Reg} {c : String} {t : VType} (ht : r.typeOf c = some t) (x : LBox α) :
    x.OkIn r c ↔ x.Ok t := by
  cases x with
  | nnxMeta vt a md =>
    simp only [LBox.OkIn, LBox.Ok, ht, Option.some.injEq]
    exact and_congr_left' eq_comm
  | box cls a fields => exact Iff.rfl
  | plain a => exact Iff.rfl
  | partitioned a n m => exact Iff.rfl
  | logical a n m ru => exact Iff.rfl

/-- what `convertCols` relates: same shape, and each leaf converted at the type the registry gives the
collection afterwards -/
structure ColConv (r' : Reg) (ct : String × Tree (LBox α)) (ct' : String × Tree (NVar α)) : Prop where
  node : ∀ f, ct.2 = .node f → ∃ f', ct'.2 = .node f' ∧ (WFF f → WFF f') ∧ (NoEmptyF f → NoEmptyF f')
  leaf : ∀ q x, ct.2.leafAt q = some x →
    ∃ t v, r'.typeOf ct.1 = some t ∧ toNnxVarWith t x = .ok v ∧ ct'.2.leafAt q = some v
  none : ∀ q, ct.2.leafAt q = none → ct'.2.leafAt q = none

theorem ColConv.of_mapE {r' : Reg} {c : String} {t : Tree (LBox α)} {t' : Tree (NVar α)} {vt : VType}
    (h : t.mapE (toNnxVarWith vt) = .ok t') (hty : ∀ q x, t.leafAt q = some x → r'.typeOf c = some vt) :
    ColConv r' (c, t) (c, t') where
  node := by
    intro f hf
    subst hf
    obtain ⟨f', hf', rfl⟩ := Tree.mapE_node.mp h
    exact ⟨f', rfl, (mapEF_shape _ f f' hf').1, (mapEF_shape _ f f' hf').2.1⟩
  leaf := fun q x hx => by
    obtain ⟨v, hv, hl⟩ := (Tree.mapE_spec _ t t' h q).1 x hx
    exact ⟨vt, v, hty q x hx, hv, hl⟩
  none := fun q => (Tree.mapE_spec _ t t' h q).2

theorem convertCols_spec : ∀ (cols : List (String × Tree (LBox α))) (r : Reg), r.Inj → r.Bounded →
    (∀ ct ∈ cols, ∀ pb ∈ ct.2.flatten, pb.2.OkIn r ct.1) →
    ∃ r' cols', convertCols r cols = .ok (r', cols') ∧ r.Grows r' ∧
      ((∀ ct ∈ cols, (r.typeOf ct.1).isSome) → r' = r) ∧
      Rel₂ (ColConv r') cols cols' := by
  intro cols
  induction cols with
  | nil => intro r hi hb _; exact ⟨r, [], rfl, .refl hi hb, fun _ => rfl, Rel₂.nil⟩
  | cons ct rest ih =>
    intro r hi hb hok
    obtain ⟨c, t⟩ := ct
    obtain ⟨r1, vt, htf⟩ := (Reg.typeFromName_spec r hi hb c true).1 rfl
    obtain ⟨hg1, _, hty1, _⟩ := (Reg.typeFromName_spec r hi hb c true).2 r1 vt htf
    obtain ⟨t', ht'⟩ := Tree.mapE_ok (toNnxVarWith vt) t (by
      intro pb hpb
      have hok1 := (LBox.okIn_iff hty1 pb.2).mp ((hok (c, t) (by simp) pb hpb).mono hg1)
      obtain ⟨v, hv, _⟩ := box_roundtrip_aux vt pb.2 hok1
      exact ⟨v, hv⟩)
    have hr2 : ∃ r2 : Reg, r2 = (if t.flatten.isEmpty then r else r1) ∧ r.Grows r2 ∧
        (t.flatten ≠ [] → r2 = r1) := by
      by_cases he : t.flatten.isEmpty
      · refine ⟨r, by simp [he], .refl hi hb, ?_⟩
        intro hne; simp [List.isEmpty_iff] at he; exact absurd he hne
      · exact ⟨r1, by simp [he], hg1, fun _ => rfl⟩
    obtain ⟨r2, hr2eq, hg2, hr2ne⟩ := hr2
    obtain ⟨r', rest', hrest, hg', hsame', hfa⟩ := ih r2 hg2.inj hg2.bounded
      (fun ct' hct' pb hpb => (hok ct' (by simp [hct']) pb hpb).mono hg2)
    refine ⟨r', (c, t') :: rest', ?_, hg2.trans hg', ?_, ?_⟩
    · simp only [convertCols, convertCol, htf, ht', bind, Except.bind, pure, Except.pure, ← hr2eq, hrest]
    · intro hall
      have hc : (r.typeOf c).isSome := hall (c, t) (by simp)
      have hr1 : r1 = r := by
        obtain ⟨t0, h⟩ := Option.isSome_iff_exists.mp hc
        rw [Reg.typeFromName_of_typeOf r c true t0 h] at htf; cases htf; rfl
      have hr2r : r2 = r := by rw [hr2eq, hr1]; simp
      rw [hsame' (by intro ct' hct'; rw [hr2r]; exact hall ct' (by simp [hct'])), hr2r]
    · refine Rel₂.cons (ColConv.of_mapE ht' ?_) hfa
      intro q x hl
      have : r2 = r1 := hr2ne (fun e => by have := Tree.flatten_complete t q x hl; rw [e] at this; cases this)
      exact (this ▸ hg').typeOf hty1

/-- what the theorems ask of a Linen variables dict `V` (collection ↦ nested dict):
every collection is a dict without empty sub-dicts, leaves are convertible, and the attribute paths of
two different collections neither coincide nor nest (no variable and sub-layer of the same name) -/
structure VarsOk (r : Reg) (V : Forest (LBox α)) : Prop where
  wf : WFF V
  cols : ∀ ct ∈ V, ∃ f, ct.2 = .node f ∧ NoEmptyF f
  boxes : ∀ ct ∈ V, ∀ pb ∈ ct.2.flatten, pb.2.OkIn r ct.1
  apart : ∀ ct ∈ V, ∀ ct' ∈ V, ct.1 ≠ ct'.1 → ∀ f f', ct.2 = .node f → ct'.2 = .node f' → Disjoint f f'

theorem VarsOk.sublist {r : Reg} {V V' : Forest (LBox α)} (hs : V'.Sublist V) (h : VarsOk r V) : VarsOk r V' :=
  ⟨(WFF_iff V').mpr ⟨(hs.map _).nodup (wf_nodup V h.wf), fun kt hkt => wf_of_mem V h.wf kt (hs.subset hkt)⟩,
    fun ct hct => h.cols ct (hs.subset hct), fun ct hct => h.boxes ct (hs.subset hct),
    fun ct hct ct' hct' => h.apart ct (hs.subset hct) ct' (hs.subset hct')⟩

/-- the common start of `linen_vars_to_nnx_attrs` (`keep` everything) and ToLinen's apply path (all but
`nnx`), which differ only in how they then unite the converted collections -/
theorem convertCols_of_varsOk (r : Reg) (hi : r.Inj) (hb : r.Bounded) (V : Forest (LBox α)) (hV : VarsOk r V)
    (keep : String → Prop) (cols : List (String × Tree (LBox α)))
    (hmem : ∀ ct, ct ∈ cols ↔ ct ∈ V ∧ keep ct.1) (hnd : (cols.map Prod.fst).Nodup) :
    ∃ r' cols', convertCols r cols = .ok (r', cols') ∧ r.Grows r' ∧
      ((∀ ct ∈ V, (r.typeOf ct.1).isSome) → r' = r) ∧
      (∀ ct' ∈ cols', ∃ f', ct'.2 = .node f' ∧ WFF f' ∧ NoEmptyF f') ∧
      cols'.Pairwise (fun ct ct' => ∀ f f', ct.2 = .node f → ct'.2 = .node f' → Disjoint f f') ∧
      (∀ c q x, keep c → leafAtF V (c :: q) = some x → ∃ t, r'.typeOf c = some t) ∧
      ∀ q v, (∃ ct' ∈ cols', ct'.2.leafAt q = some v) ↔
        ∃ c x t, keep c ∧ leafAtF V (c :: q) = some x ∧ r'.typeOf c = some t ∧ toNnxVarWith t x = .ok v := by
  obtain ⟨r', cols', hconv, hg, hsame, hfa⟩ := convertCols_spec cols r hi hb
    (fun ct hct pb hpb => hV.boxes ct ((hmem ct).mp hct).1 pb hpb)
  have hsrc : ∀ ct' ∈ cols', ∃ ct ∈ V, keep ct.1 ∧ ColConv r' ct ct' ∧ ∃ f, ct.2 = .node f ∧ WFF f ∧ NoEmptyF f := by
    intro ct' hct'
    obtain ⟨ct, hct, hcc⟩ := forall₂_mem_right hfa ct' hct'
    have hctV := (hmem ct).mp hct
    obtain ⟨f, hf, hne⟩ := hV.cols ct hctV.1
    have hwf : WFF f := (Tree.WF_node f).mp (hf ▸ wf_of_mem V hV.wf ct hctV.1)
    exact ⟨ct, hctV.1, hctV.2, hcc, f, hf, hwf, hne⟩
  have hdst : ∀ c tr, (c, tr) ∈ V → keep c → ∃ ct' ∈ cols', ColConv r' (c, tr) ct' :=
    fun c tr hm hk => forall₂_mem_left hfa (c, tr) ((hmem _).mpr ⟨hm, hk⟩)
  refine ⟨r', cols', hconv, hg, fun hall => hsame (fun ct hct => hall ct ((hmem ct).mp hct).1),
    ?_, ?_, ?_, ?_⟩
  · intro ct' hct'
    obtain ⟨ct, _, _, hcc, f, hf, hwf, hne⟩ := hsrc ct' hct'
    obtain ⟨f', hf', h1, h2⟩ := hcc.node f hf
    exact ⟨f', hf', h1 hwf, h2 hne⟩
  · refine forall₂_pairwise (P := fun a b => ∃ f f', a.2 = .node f ∧ b.2 = .node f' ∧ Disjoint f f') hfa
      (pairwise_of_nodup_keys cols hnd fun a ha b hb hne => ?_) ?_
    · obtain ⟨f, hf, _⟩ := hV.cols a ((hmem a).mp ha).1
      obtain ⟨f', hf', _⟩ := hV.cols b ((hmem b).mp hb).1
      exact ⟨f, f', hf, hf', hV.apart a ((hmem a).mp ha).1 b ((hmem b).mp hb).1 hne f f' hf hf'⟩
    · rintro a a' b b' hca hcb ⟨f1, f2, hf1, hf2, hd⟩ f1' f2' hf1' hf2' q q' h1 h2
      refine hd q q' (fun hn => h1 ?_) (fun hn => h2 ?_)
      · have := hca.none q (by rw [hf1]; exact hn)
        rwa [hf1'] at this
      · have := hcb.none q' (by rw [hf2]; exact hn)
        rwa [hf2'] at this
  · intro c q x hk hl
    obtain ⟨tr, hm, hl⟩ := (leafAtF_col V hV.wf c q x).mp hl
    obtain ⟨ct', _, hcc⟩ := hdst c tr hm hk
    obtain ⟨t, _, hty, _⟩ := hcc.leaf q x hl
    exact ⟨t, hty⟩
  · intro q v
    constructor
    · rintro ⟨ct', hct', hl⟩
      obtain ⟨ct, hctV, hk, hcc, _⟩ := hsrc ct' hct'
      cases hx : ct.2.leafAt q with
      | none => rw [hcc.none q hx] at hl; cases hl
      | some x =>
        obtain ⟨t, v', hty, hv', hl'⟩ := hcc.leaf q x hx
        rw [hl] at hl'; cases hl'
        exact ⟨ct.1, x, t, hk, (leafAtF_col V hV.wf _ _ _).mpr ⟨ct.2, hctV, hx⟩, hty, hv'⟩
    · rintro ⟨c, x, t, hk, hl, hty, hv⟩
      obtain ⟨tr, hm, hl⟩ := (leafAtF_col V hV.wf c q x).mp hl
      obtain ⟨ct', hct', hcc⟩ := hdst c tr hm hk
      obtain ⟨t0, v0, hty0, hv0, hl0⟩ := hcc.leaf q x hl
      rw [show r'.typeOf c = some t from hty] at hty0; cases hty0
      rw [hv] at hv0; cases hv0
      exact ⟨ct', hct', hl0⟩

theorem insertCol_isInsert : IsInsert (fun kt kt' : String × Tree β => kt.1 ≤ kt'.1) insertCol :=
  ⟨fun _ => rfl, fun _ hs => if_pos hs, fun _ hs => if_neg hs⟩

theorem sortedCols_perm (f : Forest β) : (sortedCols f).Perm f := insertCol_isInsert.sort_perm f

theorem sortedCols_nodup (V : Forest β) (hw : WFF V) : ((sortedCols V).map Prod.fst).Nodup :=
  ((sortedCols_perm V).map Prod.fst).nodup_iff.mpr (wf_nodup V hw)

theorem linenVarsToNnxAttrs_spec (r : Reg) (hi : r.Inj) (hb : r.Bounded) (V : Forest (LBox α))
    (hV : VarsOk r V) :
    ∃ r' A, linenVarsToNnxAttrs r V = .ok (r', A) ∧ r.Grows r' ∧
      ((∀ ct ∈ V, (r.typeOf ct.1).isSome) → r' = r) ∧ WFF A ∧ NoEmptyF A ∧
      (∀ c q x, leafAtF V (c :: q) = some x → ∃ t, r'.typeOf c = some t) ∧
      ∀ q v, leafAtF A q = some v ↔
        ∃ c x t, leafAtF V (c :: q) = some x ∧ r'.typeOf c = some t ∧ toNnxVarWith t x = .ok v := by
  obtain ⟨r', cols', hconv, hg, hsame, hnode, hpw, hreg, hleaf⟩ :=
    convertCols_of_varsOk r hi hb V hV (fun _ => True) (sortedCols V)
      (fun ct => by simp [(sortedCols_perm V).mem_iff]) (sortedCols_nodup V hV.wf)
  obtain ⟨A, hA, hwA, hnA, hleafA⟩ := foldAddCol_spec cols' [] (by simp [WFF])
    (fun ct' hct' => by
      obtain ⟨f', hf', hw', hn'⟩ := hnode ct' hct'
      exact ⟨f', hf', hw', hn', fun q q' h _ => by simp at h⟩)
    hpw
  refine ⟨r', A, ?_, hg, hsame, hwA, hnA (by simp [NoEmptyF]), fun c q x => hreg c q x trivial, ?_⟩
  · simp only [linenVarsToNnxAttrs, hconv, hA, bind, Except.bind, pure, Except.pure]
  · intro q v
    rw [hleafA q v, hleaf q v]
    simp only [leafAtF_nil, reduceCtorEq, false_or, true_and]

theorem decodeVars_spec (r : Reg) (hi : r.Inj) (hb : r.Bounded) (V : Forest (LBox α)) (hV : VarsOk r V) :
    ∃ r' S, decodeVars r V = .ok (r', S) ∧ ((∀ ct ∈ V, (r.typeOf ct.1).isSome) → r' = r) ∧ WFF S ∧
      ∀ q v, leafAtF S q = some v ↔
        ∃ c x t, c ≠ "nnx" ∧ leafAtF V (c :: q) = some x ∧ r'.typeOf c = some t ∧ toNnxVarWith t x = .ok v := by
  obtain ⟨r', cols', hconv, _, hsame, hnode, hpw, _, hleaf⟩ :=
    convertCols_of_varsOk r hi hb V hV (fun c => c ≠ "nnx") ((sortedCols V).filter fun ct => ct.1 ≠ "nnx")
      (fun ct => by simp [List.mem_filter, (sortedCols_perm V).mem_iff])
      (List.Pairwise.sublist (List.Sublist.map _ List.filter_sublist) (sortedCols_nodup V hV.wf))
  obtain ⟨S, hS, hSw, hSleaf⟩ := mergeCols_spec cols'
    (fun ct' h => by obtain ⟨f', hf', hw', _⟩ := hnode ct' h; exact ⟨f', hf', hw'⟩) hpw
  refine ⟨r', S, ?_, hsame, hSw, fun q v => by rw [hSleaf q v, hleaf q v]⟩
  simp only [decodeVars, bind, Except.bind, pure, Except.pure, hconv, hS]

/-- what the theorems ask of an attribute tree of Variables: distinct keys, every Variable is one
`to_nnx_var` can produce, and its type has a name in the registry -/
structure AttrsOk (r : Reg) (A : Forest (NVar α)) : Prop where
  wf : WFF A
  canon : ∀ q v, leafAtF A q = some v → v.Canon
  named : ∀ q v, leafAtF A q = some v → ∃ n, r.nameOf v.vtype = some n

/-- no Variable type is named `nnx` (that collection holds the graph definition) -/
def NoNnx (r : Reg) (S : Forest (NVar α)) : Prop :=
  ∀ q v, leafAtF S q = some v → r.nameOf v.vtype ≠ some "nnx"

theorem conv_of_attrs (r : Reg) (S : Forest (NVar α)) (hS : AttrsOk r S) (q : Path) (v : NVar α)
    (hl : leafAtF S q = some v) :
    ∃ n x, r.nameOf v.vtype = some n ∧ toLinenVar v = .ok x ∧ toNnxVarWith v.vtype x = .ok v := by
  obtain ⟨n, hn⟩ := hS.named q v hl
  obtain ⟨x, hx, _, hback⟩ := var_roundtrip_aux v (hS.canon q v hl)
  exact ⟨n, x, hn, hx, hback⟩

theorem AttrsOk.leaves {r : Reg} {S : Forest (NVar α)} (hS : AttrsOk r S) (q : Path) (v : NVar α)
    (hl : leafAtF S q = some v) : ∃ n x, r.nameOf v.vtype = some n ∧ toLinenVar v = .ok x := by
  obtain ⟨n, x, hn, hx, _⟩ := conv_of_attrs r S hS q v hl
  exact ⟨n, x, hn, hx⟩

theorem AttrsOk.of_equiv {r : Reg} {S S0 : Forest (NVar α)} (hS : AttrsOk r S) (hw : WFF S0) (he : Equiv S0 S) :
    AttrsOk r S0 :=
  ⟨hw, fun q v hl => hS.canon q v (by rw [← he q]; exact hl), fun q v hl => hS.named q v (by rw [← he q]; exact hl)⟩

theorem AttrsOk.mono {r r' : Reg} {S : Forest (NVar α)} (hS : AttrsOk r S) (hg : r.Grows r') : AttrsOk r' S :=
  ⟨hS.wf, hS.canon, fun q v hl => (hS.named q v hl).imp fun _ hn => hg.nameOf hn⟩

/-- a dict every leaf of which is a leaf of `A` or of `B` (an overlay of the two, or of parts of them) -/
theorem AttrsOk.of_or {r : Reg} {A B G : Forest (NVar α)} (hA : AttrsOk r A) (hB : AttrsOk r B) (hw : WFF G)
    (h : ∀ q v, leafAtF G q = some v → leafAtF A q = some v ∨ leafAtF B q = some v) : AttrsOk r G :=
  ⟨hw, fun q v hl => (h q v hl).elim (hA.canon q v) (hB.canon q v),
    fun q v hl => (h q v hl).elim (hA.named q v) (hB.named q v)⟩

/-- the Linen collections `V` expose the NNX state `S`: at `c :: q` sits the Linen form of the Variable
at `q` whose type is named `c`, and nothing else -/
structure Exposes (r : Reg) (V : Forest (LBox α)) (S : Forest (NVar α)) : Prop where
  wf : WFF V
  ne : NoEmptyF V
  leaf : ∀ p x, leafAtF V p = some x ↔
    ∃ c q v, p = c :: q ∧ leafAtF S q = some v ∧ r.nameOf v.vtype = some c ∧ toLinenVar v = .ok x

theorem Exposes.col {r : Reg} {V : Forest (LBox α)} {S : Forest (NVar α)} (h : Exposes r V S)
    (c : String) (q : Path) (x : LBox α) :
    leafAtF V (c :: q) = some x ↔
      ∃ v, leafAtF S q = some v ∧ r.nameOf v.vtype = some c ∧ toLinenVar v = .ok x := by
  rw [h.leaf]
  constructor
  · rintro ⟨c', q', v, hp, hv⟩; cases hp; exact ⟨v, hv⟩
  · rintro ⟨v, hv⟩; exact ⟨c, q, v, rfl, hv⟩

/-- the Linen leaf map of a state map: the Variable at `q` appears at `c :: q`, converted, where `c` names
its type; `Exposes r V S` says that `V` is a dict for `expose r (leafAtF S)` (`exposes_iff`). The
round trips start from a Linen leaf and read exposure as a relation between leaves (`Exposes.col`); the
merges of updates know only the leaf map of the dict they rebuild and are equations between maps (`expose_or`) -/
def expose (r : Reg) (L : Path → Option (NVar α)) : Path → Option (LBox α)
  | [] => none
  | c :: q => (L q).bind fun v => if r.nameOf v.vtype = some c then (toLinenVar v).toOption else none

theorem expose_eq_some_iff (r : Reg) (L : Path → Option (NVar α)) (c : String) (q : Path) (x : LBox α) :
    expose r L (c :: q) = some x ↔ ∃ v, L q = some v ∧ r.nameOf v.vtype = some c ∧ toLinenVar v = .ok x := by
  simp only [expose, Option.bind_eq_some_iff]
  refine exists_congr fun v => and_congr_right fun _ => ?_
  split
  · rename_i hn
    cases toLinenVar v <;> simp [Except.toOption, hn]
  · rename_i hn; simp [hn]

theorem treeLike_expose (r : Reg) {L : Path → Option (NVar α)} (h : TreeLike L) : TreeLike (expose r L) :=
  h.under rfl fun c q hx hn => hx (by simp [expose, hn])

theorem expose_congr (r : Reg) {L L' : Path → Option (NVar α)} (h : ∀ q, L q = L' q) (p : Path) :
    expose r L p = expose r L' p := by
  cases p with
  | nil => rfl
  | cons c q => simp only [expose, h]

theorem exposes_iff (r : Reg) (V : Forest (LBox α)) (S : Forest (NVar α)) :
    Exposes r V S ↔ WFF V ∧ NoEmptyF V ∧ ∀ p, leafAtF V p = expose r (leafAtF S) p := by
  constructor
  · intro h
    refine ⟨h.wf, h.ne, fun p => ?_⟩
    cases p with
    | nil => rfl
    | cons c q => exact Option.ext fun x => by rw [h.col, expose_eq_some_iff]
  · rintro ⟨hw, hn, h⟩
    refine ⟨hw, hn, fun p x => ?_⟩
    cases p with
    | nil => exact ⟨fun h => by simp at h, fun ⟨_, _, _, hp, _⟩ => by cases hp⟩
    | cons c q =>
      rw [h, expose_eq_some_iff]
      constructor
      · rintro ⟨v, hv⟩; exact ⟨c, q, v, rfl, hv⟩
      · rintro ⟨c', q', v, hp, hv⟩; cases hp; exact ⟨v, hv⟩

theorem expose_or (r : Reg) (F S : Path → Option (NVar α))
    (hF : ∀ q f, F q = some f → ∃ y, toLinenVar f = .ok y)
    (hname : ∀ q f v, F q = some f → S q = some v → r.nameOf v.vtype = r.nameOf f.vtype) (p : Path) :
    expose r (fun q => (F q).or (S q)) p = (expose r F p).or (expose r S p) := by
  cases p with
  | nil => rfl
  | cons c q =>
    simp only [expose]
    cases hf : F q with
    | none => simp
    | some f =>
      obtain ⟨y, hy⟩ := hF q f hf
      simp only [Option.some_or, Option.bind_some]
      by_cases hc : r.nameOf f.vtype = some c
      · simp [hc, hy, Except.toOption]
      · simp only [hc, if_false, Option.none_or]
        cases hs : S q with
        | none => rfl
        | some v => simp [hname q f v hf hs, hc]

theorem expose_mono {r r' : Reg} (hg : r.Grows r')
    (L : Path → Option (NVar α)) (hnamed : ∀ q v, L q = some v → ∃ n, r.nameOf v.vtype = some n) (p : Path) :
    expose r' L p = expose r L p := by
  cases p with
  | nil => rfl
  | cons c q =>
    simp only [expose]
    cases hl : L q with
    | none => rfl
    | some v =>
      obtain ⟨n, hn⟩ := hnamed q v hl
      simp only [Option.bind_some, hn, hg.nameOf hn]

theorem nodup_of_map {σ τ : Type} (f : σ → τ) (l : List σ) (h : (l.map f).Nodup) : l.Nodup :=
  List.Pairwise.of_map f (fun _ _ hne e => hne (congrArg f e)) h

theorem linenEntries_rep (allow : Bool) (r : Reg) (S : Forest (NVar α)) (hw : WFF S)
    (hleaves : ∀ q v, leafAtF S q = some v → ∃ n x, r.nameOf v.vtype = some n ∧ toLinenVar v = .ok x) :
    ∃ es, linenEntries allow r (flattenF S) = .ok (r, es) ∧ FlatRep es (expose r (leafAtF S)) := by
  -- with every type registered, `variable_name_from_type` never touches the registry, whatever
  -- `allow_register` says, and each entry goes under the name of its type
  have key : ∀ flat : List (Path × NVar α),
      (∀ pv ∈ flat, ∃ n x, r.nameOf pv.2.vtype = some n ∧ toLinenVar pv.2 = .ok x) →
      ∃ es, linenEntries allow r flat = .ok (r, es) ∧ (paths es).map List.tail = paths flat ∧
        (∀ x, ([], x) ∉ es) ∧
        ∀ c q x, (c :: q, x) ∈ es ↔ ∃ v, (q, v) ∈ flat ∧ r.nameOf v.vtype = some c ∧ toLinenVar v = .ok x := by
    intro flat
    induction flat with
    | nil => intro _; exact ⟨[], rfl, rfl, by simp, by simp⟩
    | cons pv rest ih =>
      intro h
      obtain ⟨n, x, hn, hx⟩ := h pv (by simp)
      obtain ⟨es, hes, htail, hnil, hmem⟩ := ih (fun pv' h' => h pv' (by simp [h']))
      refine ⟨(n :: pv.1, x) :: es, ?_, by simpa [paths] using htail, ?_, fun c q x' => ?_⟩
      · simp only [linenEntries, linenEntry, Reg.nameFromType_of_nameOf r _ allow n hn, hx, hes, bind, Except.bind,
          pure, Except.pure]
      · intro x' h'
        rcases List.mem_cons.mp h' with h' | h'
        · cases h'
        · exact hnil x' h'
      · rw [List.mem_cons, hmem]
        constructor
        · rintro (h' | ⟨v, hm, hv⟩)
          · cases h'; exact ⟨pv.2, by simp, hn, hx⟩
          · exact ⟨v, by simp [hm], hv⟩
        · rintro ⟨v, hm, hc, hv⟩
          rcases List.mem_cons.mp hm with rfl | hm
          · rw [hn] at hc; cases hc
            rw [hx] at hv; cases hv
            exact Or.inl rfl
          · exact Or.inr ⟨v, hm, hc, hv⟩
  obtain ⟨es, hes, htail, hnil, hmem⟩ := key (flattenF S)
    (fun pv hpv => hleaves pv.1 pv.2 (flattenF_sound S pv.1 pv.2 hpv hw))
  refine ⟨es, hes, nodup_of_map List.tail _ (by rw [htail]; exact flattenF_nodup S hw), fun p x => ?_⟩
  cases p with
  | nil => exact ⟨fun h => absurd h (hnil x), fun h => by cases h⟩
  | cons c q =>
    rw [hmem, expose_eq_some_iff]
    exact exists_congr fun v => and_congr_left' (flattenF_mem S hw q v)

/-- the rebuild shared by `nnx_attrs_to_linen_vars` (keeps everything) and `_update_variables` (keeps the
mutable collections) -/
theorem entriesToVars_spec (allow : Bool) (keep : String → Bool) (r : Reg) (S : Forest (NVar α)) (hw : WFF S)
    (hleaves : ∀ q v, leafAtF S q = some v → ∃ n x, r.nameOf v.vtype = some n ∧ toLinenVar v = .ok x) :
    ∃ es V, linenEntries allow r (flattenF S) = .ok (r, es) ∧
      unflatten (dictOfEntries (es.filter fun e => keep (e.1.headD ""))) = .ok V ∧ WFF V ∧ NoEmptyF V ∧
      ∀ p, leafAtF V p = (expose r (leafAtF S) p).filter fun _ => keep (p.headD "") := by
  obtain ⟨es, hes, hrep⟩ := linenEntries_rep allow r S hw hleaves
  obtain ⟨V, hV, hleaf, hwV, hnV⟩ := unflatten_rep
    ((FlatRep.nil.mergeFlat (hrep.filter fun e => keep (e.1.headD ""))).congr fun _ => Option.or_none)
    ((treeLike_expose r (treeLike_leafAtF S)).sub fun q h hn => h (by rw [hn]; rfl))
  exact ⟨es, V, hes, hV, hwV, hnV, hleaf⟩

theorem nnxAttrsToLinenVars_spec (r : Reg) (A : Forest (NVar α)) (hw : WFF A)
    (hleaves : ∀ q v, leafAtF A q = some v → ∃ n x, r.nameOf v.vtype = some n ∧ toLinenVar v = .ok x) :
    ∃ V, nnxAttrsToLinenVars r A = .ok V ∧ Exposes r V A := by
  obtain ⟨es, V, hes, hV, hwV, hnV, hleaf⟩ := entriesToVars_spec false (fun _ => true) r A hw hleaves
  rw [List.filter_eq_self.mpr (fun _ _ => rfl)] at hV
  refine ⟨V, ?_, (exposes_iff r V A).mpr ⟨hwV, hnV, fun p => by rw [hleaf]; cases expose r (leafAtF A) p <;> rfl⟩⟩
  simp only [nnxAttrsToLinenVars, hes, bind, Except.bind]; exact hV

theorem encodeState_spec (r : Reg) (isMutable : String → Bool) (S : Forest (NVar α)) (hw : WFF S)
    (hleaves : ∀ q v, leafAtF S q = some v → ∃ n x, r.nameOf v.vtype = some n ∧ toLinenVar v = .ok x) :
    ∃ V, encodeState r isMutable S = .ok (r, V) ∧ WFF V ∧ NoEmptyF V ∧
      ∀ p, leafAtF V p = (expose r (leafAtF S) p).filter fun _ => isMutable (p.headD "") := by
  obtain ⟨es, V, hes, hV, h⟩ := entriesToVars_spec true isMutable r S hw hleaves
  exact ⟨V, by simp only [encodeState, hes, hV, bind, Except.bind, pure, Except.pure], h⟩

theorem encodeState_exposes (r : Reg) (S : Forest (NVar α)) (hS : AttrsOk r S) :
    ∃ V, encodeState r (fun _ => true) S = .ok (r, V) ∧ Exposes r V S := by
  obtain ⟨V, hV, hwV, hnV, hleaf⟩ := encodeState_spec r (fun _ => true) S hS.wf hS.leaves
  exact ⟨V, hV, (exposes_iff r V S).mpr ⟨hwV, hnV, fun p => by rw [hleaf]; cases expose r (leafAtF S) p <;> rfl⟩⟩

/-- idea: each leaf of `A` converts back to its leaf of `V` (`hback`) -/
theorem linenVarsToNnxAttrs_exposes (r : Reg) (hi : r.Inj) (hb : r.Bounded) (V : Forest (LBox α))
    (hV : VarsOk r V) :
    ∃ r' A, linenVarsToNnxAttrs r V = .ok (r', A) ∧ r.Grows r' ∧
      AttrsOk r' A ∧ NoEmptyF A ∧ (∀ p, leafAtF V p = expose r' (leafAtF A) p) ∧
      (∀ q v, leafAtF A q = some v →
        ∃ c x, leafAtF V (c :: q) = some x ∧ r'.typeOf c = some v.vtype ∧ v.value = x.value ∧
          (∀ n, x.names? = some n → Meta.get? v.md "sharding" = some n)) := by
  obtain ⟨r', A, hfwd, hg, _, hwA, hnA, hreg, hleafA⟩ := linenVarsToNnxAttrs_spec r hi hb V hV
  have hbox : ∀ c q x t, leafAtF V (c :: q) = some x → r'.typeOf c = some t →
      ∃ v, toNnxVarWith t x = .ok v ∧ v.vtype = t ∧ v.value = x.value ∧ toLinenVar v = .ok x ∧
        (∀ n, x.names? = some n → Meta.get? v.md "sharding" = some n) ∧ v.Canon := by
    intro c q x t hx hty
    obtain ⟨tr, hm, hxl⟩ := (leafAtF_col V hV.wf c q x).mp hx
    exact box_roundtrip_aux t x ((LBox.okIn_iff hty x).mp
      ((hV.boxes (c, tr) hm (q, x) (Tree.flatten_complete tr q x hxl)).mono hg))
  have hback : ∀ q v, leafAtF A q = some v →
      ∃ c x, leafAtF V (c :: q) = some x ∧ r'.typeOf c = some v.vtype ∧ v.value = x.value ∧
        toLinenVar v = .ok x ∧ (∀ n, x.names? = some n → Meta.get? v.md "sharding" = some n) ∧ v.Canon := by
    intro q v hl
    obtain ⟨c, x, t, hx, hty, hconv⟩ := (hleafA q v).mp hl
    obtain ⟨v', hv', h1, h2, h3, h4, h5⟩ := hbox c q x t hx hty
    rw [hconv] at hv'; cases hv'
    exact ⟨c, x, hx, by rw [h1]; exact hty, h2, h3, h4, h5⟩
  refine ⟨r', A, hfwd, hg, ⟨hwA, ?_, ?_⟩, hnA, ?_, ?_⟩
  · intro q v hl
    obtain ⟨_, _, _, _, _, _, _, hcan⟩ := hback q v hl
    exact hcan
  · intro q v hl
    obtain ⟨c, _, _, hty, _⟩ := hback q v hl
    exact ⟨c, Reg.nameOf_of_typeOf r' hg.inj c _ hty⟩
  · intro p
    cases p with
    | nil => rfl
    | cons c q =>
      refine Option.ext fun x => ?_
      rw [expose_eq_some_iff]
      constructor
      · intro hp
        obtain ⟨t, hty⟩ := hreg c q x hp
        obtain ⟨v, hv, h1, _, h3, _⟩ := hbox c q x t hp hty
        exact ⟨v, (hleafA q v).mpr ⟨c, x, t, hp, hty, hv⟩,
          by rw [h1]; exact Reg.nameOf_of_typeOf r' hg.inj c t hty, h3⟩
      · rintro ⟨v, hl, hn, hx⟩
        obtain ⟨c0, x0, hx0, hty0, _, hback0, _⟩ := hback q v hl
        have := Reg.nameOf_of_typeOf r' hg.inj c0 _ hty0
        rw [hn] at this; cases this
        rw [hback0] at hx; cases hx
        exact hx0
  · intro q v hl
    obtain ⟨c, x, h1, h2, h3, _, h5, _⟩ := hback q v hl
    exact ⟨c, x, h1, h2, h3, h5⟩

theorem vars_attrs_vars (r : Reg) (hi : r.Inj) (hb : r.Bounded) (V : Forest (LBox α)) (hV : VarsOk r V) :
    ∃ r' A V', linenVarsToNnxAttrs r V = .ok (r', A) ∧ nnxAttrsToLinenVars r' A = .ok V' ∧
      r.Grows r' ∧ AttrsOk r' A ∧ Exposes r' V' A ∧ Equiv V' V ∧
      (∀ q v, leafAtF A q = some v →
        ∃ c x, leafAtF V (c :: q) = some x ∧ r'.typeOf c = some v.vtype ∧ v.value = x.value ∧
          (∀ n, x.names? = some n → Meta.get? v.md "sharding" = some n)) := by
  obtain ⟨r', A, hfwd, hg, hA, _, hcol, hplace⟩ := linenVarsToNnxAttrs_exposes r hi hb V hV
  obtain ⟨V', hV', hE⟩ := nnxAttrsToLinenVars_spec r' A hA.wf hA.leaves
  refine ⟨r', A, V', hfwd, hV', hg, hA, hE, ?_, hplace⟩
  exact fun p => by rw [((exposes_iff r' V' A).mp hE).2.2 p, hcol p]

/-- the hinge of both round trips: what exposes a good state converts back, the registry untouched -/
theorem varsOk_of_attrs (r : Reg) (hi : r.Inj) (A : Forest (NVar α)) (hA : AttrsOk r A)
    (V : Forest (LBox α)) (hE : Exposes r V A) :
    VarsOk r V ∧ ∀ ct ∈ V, (r.typeOf ct.1).isSome := by
  have hwV := hE.wf
  have hnV := hE.ne
  have hcol : ∀ ct ∈ V, ∃ f, ct.2 = .node f ∧ f ≠ [] ∧ NoEmptyF f := by
    intro ct hct
    obtain ⟨c, t⟩ := ct
    have hne := NoEmpty_of_mem V hnV (c, t) hct
    cases t with
    | leaf x =>
      obtain ⟨v, hl, _⟩ := (hE.col c [] x).mp ((leafAtF_col V hwV c [] x).mpr ⟨_, hct, rfl⟩)
      simp at hl
    | node f => exact ⟨f, rfl, hne.1, hne.2⟩
  have hsrc : ∀ ct ∈ V, ∀ f, ct.2 = .node f → ∀ q x, leafAtF f q = some x →
      ∃ v, leafAtF A q = some v ∧ r.nameOf v.vtype = some ct.1 ∧ toLinenVar v = .ok x := by
    intro ct hct f hf q x hl
    exact (hE.col ct.1 q x).mp ((leafAtF_col V hwV ct.1 q x).mpr ⟨ct.2, hct, by rw [hf]; exact hl⟩)
  refine ⟨⟨hwV, ?_, ?_, ?_⟩, ?_⟩
  · intro ct hct
    obtain ⟨f, hf, _, hn⟩ := hcol ct hct
    exact ⟨f, hf, hn⟩
  · intro ct hct pb hpb
    obtain ⟨f, hf, _, _⟩ := hcol ct hct
    have hwf : WFF f := (Tree.WF_node f).mp (hf ▸ wf_of_mem V hwV ct hct)
    rw [hf] at hpb
    obtain ⟨v, hl, hn, hx⟩ := hsrc ct hct f hf pb.1 pb.2 (flattenF_sound f pb.1 pb.2 hpb hwf)
    obtain ⟨x', hx', hok, _⟩ := var_roundtrip_aux v (hA.canon _ v hl)
    rw [hx] at hx'; cases hx'
    exact (LBox.okIn_iff (Reg.typeOf_of_nameOf r hi ct.1 _ hn) pb.2).mpr hok
  · intro ct hct ct' hct' hne f f' hf hf' q q' h1 h2 hp
    cases hq : leafAtF f q with
    | none => exact h1 hq
    | some x =>
      cases hq' : leafAtF f' q' with
      | none => exact h2 hq'
      | some x' =>
        obtain ⟨v, hl, hn, _⟩ := hsrc ct hct f hf q x hq
        obtain ⟨v', hl', hn', _⟩ := hsrc ct' hct' f' hf' q' x' hq'
        have : q = q' := by
          rcases hp with hp | hp
          · exact leafAtF_prefix_eq A q q' (by simp [hl]) (by simp [hl']) hp
          · exact (leafAtF_prefix_eq A q' q (by simp [hl']) (by simp [hl]) hp).symm
        subst this
        rw [hl] at hl'; cases hl'
        rw [hn] at hn'; exact hne (Option.some.inj hn')
  · intro ct hct
    obtain ⟨f, hf, hne, hn⟩ := hcol ct hct
    obtain ⟨q, x, hq⟩ := exists_leaf f hne hn
    obtain ⟨v, _, hnm, _⟩ := hsrc ct hct f hf q x hq
    rw [Reg.typeOf_of_nameOf r hi ct.1 _ hnm]; rfl

theorem equiv_of_exposes (r : Reg) (hi : r.Inj) (V : Forest (LBox α)) (S S0 : Forest (NVar α))
    (hS : AttrsOk r S) (hE : Exposes r V S) (keep : String → Prop)
    (hk : ∀ q v c, leafAtF S q = some v → r.nameOf v.vtype = some c → keep c)
    (hleaf0 : ∀ q v, leafAtF S0 q = some v ↔
      ∃ c x t, keep c ∧ leafAtF V (c :: q) = some x ∧ r.typeOf c = some t ∧ toNnxVarWith t x = .ok v) :
    Equiv S0 S := by
  intro q
  cases hq : leafAtF S q with
  | some v =>
    obtain ⟨n, x, hn, hx, hback⟩ := conv_of_attrs r S hS q v hq
    exact (hleaf0 q v).mpr ⟨n, x, v.vtype, hk q v n hq hn,
      (hE.col n q x).mpr ⟨v, hq, hn, hx⟩, Reg.typeOf_of_nameOf r hi n _ hn, hback⟩
  | none =>
    cases hq' : leafAtF S0 q with
    | none => rfl
    | some v' =>
      obtain ⟨c, x, t, _, hl, _, _⟩ := (hleaf0 q v').mp hq'
      obtain ⟨v, hl', _⟩ := (hE.col c q x).mp hl
      rw [hq] at hl'; cases hl'

theorem attrs_vars_attrs (r : Reg) (hi : r.Inj) (hb : r.Bounded) (A : Forest (NVar α)) (hA : AttrsOk r A) :
    ∃ V A', nnxAttrsToLinenVars r A = .ok V ∧ linenVarsToNnxAttrs r V = .ok (r, A') ∧
      VarsOk r V ∧ NoEmptyF V ∧ WFF A' ∧ Equiv A' A ∧
      (∀ c q x, leafAtF V (c :: q) = some x →
        ∃ v, leafAtF A q = some v ∧ r.nameOf v.vtype = some c ∧ v.value = x.value) := by
  obtain ⟨V, hV, hE⟩ := nnxAttrsToLinenVars_spec r A hA.wf hA.leaves
  obtain ⟨hVok, hreg⟩ := varsOk_of_attrs r hi A hA V hE
  obtain ⟨r', A', hfwd, _, hsame, hwA', _, _, hleafA'⟩ := linenVarsToNnxAttrs_spec r hi hb V hVok
  have hr : r' = r := hsame hreg
  subst hr
  refine ⟨V, A', hV, hfwd, hVok, hE.ne, hwA', ?_, ?_⟩
  · exact equiv_of_exposes r' hi V A A' hA hE (fun _ => True) (fun _ _ _ _ _ => trivial)
      (fun q v => by rw [hleafA' q v]; simp only [true_and])
  · intro c q x hl
    obtain ⟨v, hl', hn, hx⟩ := (hE.col c q x).mp hl
    exact ⟨v, hl', hn, toLinenVar_value (hA.canon q v hl') hx⟩

theorem decode_of_exposes (r : Reg) (hi : r.Inj) (hb : r.Bounded) (V : Forest (LBox α)) (S : Forest (NVar α))
    (hS : AttrsOk r S) (hnn : NoNnx r S) (hE : Exposes r V S) :
    ∃ S0, decodeVars r V = .ok (r, S0) ∧ WFF S0 ∧ Equiv S0 S := by
  obtain ⟨hVok, hreg⟩ := varsOk_of_attrs r hi S hS V hE
  obtain ⟨r', S0, hdec, hsame, hw0, hleaf0⟩ := decodeVars_spec r hi hb V hVok
  have hr : r' = r := hsame hreg
  subst hr
  exact ⟨S0, hdec, hw0, equiv_of_exposes r' hi V S S0 hS hE (fun c => c ≠ "nnx")
    (fun q v c hq hn e => hnn q v hq (e ▸ hn)) hleaf0⟩

end Flax.Bridge
