/- Positions in `ref_index`; the induction over the successful runs of `flatten`; its first instances: more budget
changes nothing, `ref_index` only grows, a root gives a node definition, the leaves come out in path order. -/
import Flax.Model.Graph
import Flax.Proofs.GraphOrder
import Flax.Proofs.HeapKV
namespace Flax.Graph
open Flax.Heap

theorem indexOf?_eq_idxOf? (a : Addr) : ∀ l : List Addr, indexOf? a l = l.idxOf? a
  | [] => rfl
  | b :: rest => by
    rw [indexOf?, List.idxOf?_cons, indexOf?_eq_idxOf? a rest]
    by_cases e : b = a <;> simp [e]

theorem indexOf?_eq_some_iff {a : Addr} {l : List Addr} {i : Nat} :
    indexOf? a l = some i ↔ ∃ h : i < l.length, l[i] = a ∧ ∀ j (_ : j < i), ¬ l[j] = a :=
  indexOf?_eq_idxOf? a l ▸ List.idxOf?_eq_some_iff

theorem indexOf?_none {a : Addr} {l : List Addr} : indexOf? a l = Option.none ↔ a ∉ l :=
  indexOf?_eq_idxOf? a l ▸ List.idxOf?_eq_none_iff

theorem indexOf?_some {a : Addr} {l : List Addr} {i : Nat} (h : indexOf? a l = some i) : l[i]? = some a := by
  obtain ⟨hi, e, _⟩ := indexOf?_eq_some_iff.mp h
  rw [List.getElem?_eq_getElem hi, e]

theorem indexOf?_lt {a : Addr} {l : List Addr} {i : Nat} (h : indexOf? a l = some i) : i < l.length :=
  let ⟨hi, _⟩ := indexOf?_eq_some_iff.mp h
  hi

theorem indexOf?_mem {a : Addr} {l : List Addr} {i : Nat} (h : indexOf? a l = some i) : a ∈ l :=
  List.mem_of_getElem? (indexOf?_some h)

theorem indexOf?_of_mem {a : Addr} {l : List Addr} (h : a ∈ l) : ∃ i, indexOf? a l = some i := by
  cases e : indexOf? a l with
  | none => exact absurd h (indexOf?_none.mp e)
  | some i => exact ⟨i, rfl⟩

theorem indexOf?_append_left {a : Addr} {l : List Addr} (m : List Addr) {i : Nat} (h : indexOf? a l = some i) :
    indexOf? a (l ++ m) = some i := by
  obtain ⟨hi, e, hj⟩ := indexOf?_eq_some_iff.mp h
  refine indexOf?_eq_some_iff.mpr ⟨by rw [List.length_append]; omega, by rw [List.getElem_append_left hi]; exact e,
    fun j hji => ?_⟩
  rw [List.getElem_append_left (Nat.lt_trans hji hi)]
  exact hj j hji

theorem indexOf?_append_new {a : Addr} {l : List Addr} (h : a ∉ l) : indexOf? a (l ++ [a]) = some l.length :=
  indexOf?_eq_some_iff.mpr ⟨by simp, by simp, fun j hj => by
    rw [List.getElem_append_left hj]
    exact fun e => h (e ▸ List.getElem_mem hj)⟩

theorem indexOf?_inj {a b : Addr} {l : List Addr} {i : Nat} (h1 : indexOf? a l = some i)
    (h2 : indexOf? b l = some i) : a = b := by
  have x := indexOf?_some h1
  have y := indexOf?_some h2
  rw [x] at y; exact Option.some.inj y

theorem indexOf?_of_getElem? {a : Addr} {l : List Addr} {i : Nat} (hn : l.Nodup) (h : l[i]? = some a) :
    indexOf? a l = some i := by
  obtain ⟨hi, e⟩ := List.getElem?_eq_some_iff.mp h
  refine indexOf?_eq_some_iff.mpr ⟨hi, e, fun j hji ej => ?_⟩
  have := (List.getElem_inj (h₀ := Nat.lt_trans hji hi) (h₁ := hi) hn).mp (ej.trans e.symm)
  omega

/-- The fuel is an index of the motives so that a second traversal can be run beside `flatten` with a budget tied to that of `flatten` (the same or larger: `trace_flatten`). -/
theorem flatten_induct (h : Heap)
    {P : Nat → Path → PVal → RefIndex → GDef → FlatState → RefIndex → Prop}
    {Q : Nat → Path → List (Key × PVal) → RefIndex → List (Key × GDef) → FlatState → RefIndex → Prop}
    (static : ∀ fuel path s idx, P (fuel + 1) path (.static s) idx (.static s) [] idx)
    (array : ∀ fuel path d idx, P (fuel + 1) path (.array d) idx .array [(path, .arr d)] idx)
    (none : ∀ fuel path idx, P (fuel + 1) path .none idx (.node .none Option.none []) [] idx)
    (seq : ∀ fuel path t xs idx as ls idx', flattenItems fuel h path (enumFrom 0 xs) idx = .ok (as, ls, idx') →
      Q fuel path (enumFrom 0 xs) idx as ls idx' →
      P (fuel + 1) path (.seq t xs) idx (.node (.seq t) Option.none as) ls idx')
    (dict : ∀ fuel path kvs idx as ls idx', flattenItems fuel h path (sortKV kvs) idx = .ok (as, ls, idx') →
      Q fuel path (sortKV kvs) idx as ls idx' →
      P (fuel + 1) path (.dict kvs) idx (.node .dict Option.none as) ls idx')
    (seen : ∀ fuel path a idx i, indexOf? a idx = some i →
      P (fuel + 1) path (.ref a) idx (.ref (typeName h a) i) [] idx)
    (var : ∀ fuel path a idx ty val md, a ∉ idx → h[a]? = some (.var ty val md) →
      P (fuel + 1) path (.ref a) idx (.var ty idx.length md) [(path, .vstate ty val md)] (idx ++ [a]))
    (node : ∀ fuel path a idx cls attrs as ls idx', a ∉ idx → h[a]? = some (.node cls attrs) →
      flattenItems fuel h path (sortKV attrs) (idx ++ [a]) = .ok (as, ls, idx') →
      Q fuel path (sortKV attrs) (idx ++ [a]) as ls idx' →
      P (fuel + 1) path (.ref a) idx (.node (.obj cls) (some idx.length) as) ls idx')
    (nil : ∀ fuel path idx, Q (fuel + 1) path [] idx [] [] idx)
    (cons : ∀ fuel path k v rest idx g ls1 idx1 gs ls2 idx2,
      flattenVal fuel h (path ++ [k]) v idx = .ok (g, ls1, idx1) →
      flattenItems fuel h path rest idx1 = .ok (gs, ls2, idx2) →
      P fuel (path ++ [k]) v idx g ls1 idx1 → Q fuel path rest idx1 gs ls2 idx2 →
      Q (fuel + 1) path ((k, v) :: rest) idx ((k, g) :: gs) (ls1 ++ ls2) idx2) :
    ∀ fuel,
      (∀ path v idx gd ls idx', flattenVal fuel h path v idx = .ok (gd, ls, idx') → P fuel path v idx gd ls idx') ∧
      (∀ path items idx gs ls idx', flattenItems fuel h path items idx = .ok (gs, ls, idx') →
        Q fuel path items idx gs ls idx') := by
  intro fuel
  induction fuel with
  | zero => exact ⟨fun _ _ _ _ _ _ hh => (nomatch hh), fun _ _ _ _ _ _ hh => (nomatch hh)⟩
  | succ fuel ih =>
    constructor
    · intro path v idx gd ls idx' hh
      cases v with
      | static s =>
        cases hh
        exact static fuel path s idx
      | array d =>
        cases hh
        exact array fuel path d idx
      | none =>
        cases hh
        exact none fuel path idx
      | seq t xs =>
        dsimp only [flattenVal] at hh
        split at hh
        · cases hh
        · next as ls1 idx1 heq =>
          cases hh
          exact seq fuel path t xs idx as ls idx' heq (ih.2 _ _ _ _ _ _ heq)
      | dict kvs =>
        dsimp only [flattenVal] at hh
        split at hh
        · cases hh
        · next as ls1 idx1 heq =>
          cases hh
          exact dict fuel path kvs idx as ls idx' heq (ih.2 _ _ _ _ _ _ heq)
      | ref a =>
        dsimp only [flattenVal] at hh
        split at hh
        · next i hi =>
          cases hh
          exact seen fuel path a idx i hi
        · next hnone =>
          have ha : a ∉ idx := indexOf?_none.mp hnone
          split at hh
          · cases hh
          · next ty val md hget =>
            cases hh
            exact var fuel path a idx ty val md ha hget
          · next cls attrs hget =>
            split at hh
            · cases hh
            · next as ls1 idx1 heq =>
              cases hh
              exact node fuel path a idx cls attrs as ls idx' ha hget heq (ih.2 _ _ _ _ _ _ heq)
    · intro path items idx gs ls idx' hh
      cases items with
      | nil =>
        cases hh
        exact nil fuel path idx
      | cons kv rest =>
        obtain ⟨k, v⟩ := kv
        dsimp only [flattenItems] at hh
        split at hh
        · cases hh
        · next g ls1 idx1 heq1 =>
          split at hh
          · cases hh
          · next gs2 ls2 idx2 heq2 =>
            cases hh
            exact cons fuel path k v rest idx g ls1 idx1 gs2 ls2 idx' heq1 heq2 (ih.1 _ _ _ _ _ _ heq1)
              (ih.2 _ _ _ _ _ _ heq2)

theorem flatten_ok {h : Heap} {root : PVal} {r : GDef × FlatState × RefIndex} (hf : flatten h root = .ok r) :
    isRootable root = true ∧ flattenVal (fuelFor h root) h [] root [] = .ok r := by
  unfold flatten at hf
  split at hf
  · next hroot => exact ⟨hroot, hf⟩
  · cases hf

theorem flatten_mono (g : Heap) : ∀ fuel : Nat,
    (∀ path v idx gd ls idx', flattenVal fuel g path v idx = .ok (gd, ls, idx') →
      flattenVal (fuel + 1) g path v idx = .ok (gd, ls, idx')) ∧
    (∀ path items idx gs ls idx', flattenItems fuel g path items idx = .ok (gs, ls, idx') →
      flattenItems (fuel + 1) g path items idx = .ok (gs, ls, idx')) := by
  refine flatten_induct g
    (P := fun fuel path v idx gd ls idx' => flattenVal (fuel + 1) g path v idx = .ok (gd, ls, idx'))
    (Q := fun fuel path items idx gs ls idx' => flattenItems (fuel + 1) g path items idx = .ok (gs, ls, idx'))
    ?_ ?_ ?_ ?_ ?_ ?_ ?_ ?_ ?_ ?_
  · exact fun _ _ _ _ => rfl
  · exact fun _ _ _ _ => rfl
  · exact fun _ _ _ => rfl
  · intro _ _ _ _ _ _ _ _ _ ih; rw [flattenVal, ih]
  · intro _ _ _ _ _ _ _ _ ih; rw [flattenVal, ih]
  · intro _ _ _ _ _ hi; rw [flattenVal, hi]
  · intro _ _ _ _ _ _ _ ha hget; rw [flattenVal, indexOf?_none.mpr ha, hget]
  · intro _ _ _ _ _ _ _ _ _ ha hget _ ih; rw [flattenVal, indexOf?_none.mpr ha, hget]; simp only [ih]
  · exact fun _ _ _ => rfl
  · intro _ _ _ _ _ _ _ _ _ _ _ _ _ _ ih1 ih2; rw [flattenItems, ih1]; simp only [ih2]

theorem flatten_le (g : Heap) {fuel fuel' : Nat} (hle : fuel ≤ fuel') {path : Path} {v : PVal} {idx : RefIndex}
    {r : GDef × FlatState × RefIndex} (h : flattenVal fuel g path v idx = .ok r) : flattenVal fuel' g path v idx = .ok r := by
  induction hle with
  | refl => exact h
  | step _ ih => exact (flatten_mono g _).1 _ _ _ _ _ _ ih

theorem flatten_det (g : Heap) {f1 f2 : Nat} {path : Path} {v : PVal} {idx : RefIndex} {r1 r2 : GDef × FlatState × RefIndex}
    (h1 : flattenVal f1 g path v idx = .ok r1) (h2 : flattenVal f2 g path v idx = .ok r2) : r1 = r2 := by
  have a := flatten_le g (Nat.le_max_left f1 f2) h1
  have b := flatten_le g (Nat.le_max_right f1 f2) h2
  rw [a] at b; exact Except.ok.inj b

theorem flatten_prefix (g : Heap) : ∀ fuel : Nat,
    (∀ path v idx gd ls idx', flattenVal fuel g path v idx = .ok (gd, ls, idx') → ∃ new, idx' = idx ++ new) ∧
    (∀ path items idx gs ls idx', flattenItems fuel g path items idx = .ok (gs, ls, idx') → ∃ new, idx' = idx ++ new) := by
  refine flatten_induct g (P := fun _ _ _ idx _ _ idx' => ∃ new, idx' = idx ++ new)
    (Q := fun _ _ _ idx _ _ idx' => ∃ new, idx' = idx ++ new) ?_ ?_ ?_ ?_ ?_ ?_ ?_ ?_ ?_ ?_
  · exact fun _ _ _ _ => ⟨[], by simp⟩
  · exact fun _ _ _ _ => ⟨[], by simp⟩
  · exact fun _ _ _ => ⟨[], by simp⟩
  · exact fun _ _ _ _ _ _ _ _ _ h => h
  · exact fun _ _ _ _ _ _ _ _ h => h
  · exact fun _ _ _ _ _ _ => ⟨[], by simp⟩
  · exact fun _ _ a _ _ _ _ _ _ => ⟨[a], rfl⟩
  · intro _ _ a idx _ _ _ _ idx' _ _ _ ⟨new, e⟩
    exact ⟨a :: new, by rw [e]; simp⟩
  · exact fun _ _ _ => ⟨[], by simp⟩
  · intro _ _ _ _ _ idx _ _ idx1 _ _ idx2 _ _ ⟨n1, e1⟩ ⟨n2, e2⟩
    exact ⟨n1 ++ n2, by rw [e2, e1]; simp⟩

theorem flattenVal_gdef {fuel : Nat} {h : Heap} {path : Path} {v : PVal} {idx : RefIndex} {gd : GDef} {ls : FlatState}
    {idx' : RefIndex} (hh : flattenVal fuel h path v idx = .ok (gd, ls, idx')) (hv : isRootable v = true) :
    (∀ s, gd ≠ .static s) ∧ gd ≠ .array := by
  have key := flatten_induct h
    (P := fun _ _ v _ gd _ _ => isRootable v = true → (∀ s, gd ≠ .static s) ∧ gd ≠ .array)
    (Q := fun _ _ _ _ _ _ _ => True)
    ?static ?array ?none ?seq ?dict ?seen ?var ?node ?nil ?cons fuel
  case static => exact fun _ _ _ _ hr => Bool.noConfusion hr
  case array => exact fun _ _ _ _ hr => Bool.noConfusion hr
  case none => exact fun _ _ _ _ => ⟨fun _ e => GDef.noConfusion e, fun e => GDef.noConfusion e⟩
  case seq => exact fun _ _ _ _ _ _ _ _ _ _ _ => ⟨fun _ e => GDef.noConfusion e, fun e => GDef.noConfusion e⟩
  case dict => exact fun _ _ _ _ _ _ _ _ _ _ => ⟨fun _ e => GDef.noConfusion e, fun e => GDef.noConfusion e⟩
  case seen => exact fun _ _ _ _ _ _ _ => ⟨fun _ e => GDef.noConfusion e, fun e => GDef.noConfusion e⟩
  case var => exact fun _ _ _ _ _ _ _ _ _ _ => ⟨fun _ e => GDef.noConfusion e, fun e => GDef.noConfusion e⟩
  case node => exact fun _ _ _ _ _ _ _ _ _ _ _ _ _ _ => ⟨fun _ e => GDef.noConfusion e, fun e => GDef.noConfusion e⟩
  case nil => exact fun _ _ _ => trivial
  case cons => exact fun _ _ _ _ _ _ _ _ _ _ _ _ _ _ _ _ => trivial
  exact key.1 path v idx gd ls idx' hh hv

/-- leaves emitted below `path`: strictly increasing paths, all extending `path` -/
def Under (path : Path) (ls : FlatState) : Prop :=
  SSorted Path.lt ls ∧ ∀ it ∈ ls, ∃ s, it.1 = path ++ s

def UnderItems (path : Path) (items : List (Key × PVal)) (ls : FlatState) : Prop :=
  SSorted Path.lt ls ∧ ∀ it ∈ ls, ∃ kv ∈ items, ∃ s, it.1 = path ++ kv.1 :: s

theorem Under.nil (path : Path) : Under path [] :=
  ⟨List.Pairwise.nil, fun _ hit => nomatch hit⟩

theorem Under.single (path : Path) (l : Leaf) : Under path [(path, l)] :=
  ⟨List.pairwise_singleton _ _, fun it hit => ⟨[], by rw [List.mem_singleton.mp hit, List.append_nil]⟩⟩

theorem UnderItems.under {path : Path} {items : List (Key × PVal)} {ls : FlatState}
    (hu : UnderItems path items ls) : Under path ls := by
  refine ⟨hu.1, fun it hit => ?_⟩
  obtain ⟨kv, _, s, e⟩ := hu.2 it hit
  exact ⟨kv.1 :: s, e⟩

theorem UnderItems.nil (path : Path) : UnderItems path [] [] :=
  ⟨List.Pairwise.nil, fun _ hit => nomatch hit⟩

theorem UnderItems.cons {path : Path} {k : Key} {v : PVal} {rest : List (Key × PVal)} {ls1 ls2 : FlatState}
    (hk : ∀ kv ∈ rest, Key.lt k kv.1 = true) (u1 : Under (path ++ [k]) ls1) (u2 : UnderItems path rest ls2) :
    UnderItems path ((k, v) :: rest) (ls1 ++ ls2) := by
  refine ⟨List.pairwise_append.mpr ⟨u1.1, u2.1, ?_⟩, ?_⟩
  · intro x hx y hy
    obtain ⟨s, e1⟩ := u1.2 x hx
    obtain ⟨kv', hkv', s', e2⟩ := u2.2 y hy
    rw [e1, e2, List.append_assoc]
    exact Path.lt_of_diverge path s s' (hk kv' hkv')
  · intro it hit
    rcases List.mem_append.mp hit with h1 | h2
    · obtain ⟨s, e⟩ := u1.2 it h1
      exact ⟨(k, v), List.mem_cons_self, s, by rw [e, List.append_assoc]; rfl⟩
    · obtain ⟨kv', hkv', s', e⟩ := u2.2 it h2
      exact ⟨kv', List.mem_cons_of_mem _ hkv', s', e⟩

theorem flatten_sorted_aux (h : Heap) (hw : Heap.wf h = true) : ∀ fuel : Nat,
    (∀ path v idx gd ls idx', v.wf = true → flattenVal fuel h path v idx = .ok (gd, ls, idx') → Under path ls) ∧
    (∀ path items idx gs ls idx', SSorted Key.lt items → (∀ kv ∈ items, kv.2.wf = true) →
        flattenItems fuel h path items idx = .ok (gs, ls, idx') → UnderItems path items ls) := by
  intro fuel
  have key := flatten_induct h
    (P := fun _ path v _ _ ls _ => v.wf = true → Under path ls)
    (Q := fun _ path items _ _ ls _ => SSorted Key.lt items → (∀ kv ∈ items, kv.2.wf = true) →
      UnderItems path items ls)
    ?static ?array ?none ?seq ?dict ?seen ?var ?node ?nil ?cons fuel
  case static => exact fun _ path _ _ _ => Under.nil path
  case array => exact fun _ path d _ _ => Under.single path (.arr d)
  case none => exact fun _ path _ _ => Under.nil path
  case seq =>
    intro _ path t xs _ _ ls _ _ ih hv
    exact (ih (enumFrom_ssorted 0 xs) ((Kids.seq t xs).wf hw hv).2).under
  case dict =>
    intro _ path kvs _ _ ls _ _ ih hv
    have hn := (Kids.dict kvs).wf hw hv
    exact (ih (sortKV_ssorted hn.1) (fun kv hkv => hn.2 kv (mem_sortKV.mp hkv))).under
  case seen => exact fun _ path _ _ _ _ _ => Under.nil path
  case var => exact fun _ path _ _ ty val md _ _ _ => Under.single path (.vstate ty val md)
  case node =>
    intro _ path a _ cls attrs _ ls _ _ hget _ ih _
    have hn := heap_wf_node hw hget
    exact (ih (sortKV_ssorted hn.1) (fun kv hkv => hn.2 kv (mem_sortKV.mp hkv))).under
  case nil => exact fun _ path _ _ _ => UnderItems.nil path
  case cons =>
    intro _ path k v rest _ _ ls1 _ _ ls2 _ _ _ ih1 ih2 hs hwf
    have hs' := List.pairwise_cons.mp hs
    exact UnderItems.cons hs'.1 (ih1 (hwf (k, v) List.mem_cons_self))
      (ih2 hs'.2 (fun kv hkv => hwf kv (List.mem_cons_of_mem _ hkv)))
  exact ⟨fun path v idx gd ls idx' hv hh => key.1 path v idx gd ls idx' hh hv,
    fun path items idx gs ls idx' hs hwf hh => key.2 path items idx gs ls idx' hh hs hwf⟩

end Flax.Graph
