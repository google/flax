/-
Optimizer part of C17: `nnx.state` / `nnx.update` as select and write-back, and `nnx.Optimizer.update` as the
hand-written step followed by the two write-backs (`update_eq`), from which simulation, atomicity, the counter and what
a call leaves untouched (`ModelFrame`, `Frame`) are read off.
-/
import Flax.Model.Optim

namespace Flax.Optim
open Flax.Filter (VarInfo Path)

section Manual
variable {P S : Type} {w : Width} {tx : Tx P S} {applyUpd : P → P → Except Err P} {m m' : Manual P S} {g : P}

theorem manualStep_ok (h : manualStep w tx applyUpd m g = .ok m') :
    ∃ u, tx.update g m.optState m.params = .ok (u, m'.optState) ∧ applyUpd m.params u = .ok m'.params ∧
      m'.step = incStep w m.step := by
  simp only [manualStep] at h
  cases hu : tx.update g m.optState m.params with
  | error e => rw [hu] at h; cases h
  | ok us =>
    obtain ⟨u, s'⟩ := us
    simp only [hu] at h
    cases ha : applyUpd m.params u with
    | error e => rw [ha] at h; cases h
    | ok p' =>
      simp only [ha, Except.ok.injEq] at h
      subst h
      exact ⟨u, rfl, ha, rfl⟩

theorem manualStep_step (h : manualStep w tx applyUpd m g = .ok m') : m'.step = incStep w m.step :=
  let ⟨_, _, _, hs⟩ := manualStep_ok h
  hs

theorem manualLoop_cons_ok {gs : List P} (h : manualLoop w tx applyUpd m (g :: gs) = .ok m') :
    ∃ m1, manualStep w tx applyUpd m g = .ok m1 ∧ manualLoop w tx applyUpd m1 gs = .ok m' := by
  rw [manualLoop] at h
  split at h
  · cases h
  · exact ⟨_, ‹_›, h⟩

end Manual

theorem manualLoop_step (w : Width) (tx : Tx P S) (applyUpd : P → P → Except Err P) (gs : List P) :
    ∀ (m m' : Manual P S), manualLoop w tx applyUpd m gs = .ok m' →
    match w with
    | none => m'.step = m.step + gs.length
    | some b => m'.step % 2 ^ b = (m.step + gs.length) % 2 ^ b := by
  induction gs with
  | nil =>
    intro m m' h
    cases h
    cases w <;> rfl
  | cons g gs ih =>
    intro m m' h
    obtain ⟨m1, hs, hl⟩ := manualLoop_cons_ok h
    have h1 := ih m1 m' hl
    rw [manualStep_step hs] at h1
    cases w with
    | none => exact h1.trans (Nat.add_right_comm _ _ _)
    | some b =>
      dsimp only at h1 ⊢
      rw [h1, incStep, List.length_cons, Nat.mod_add_mod, Nat.add_right_comm, Nat.add_assoc]

theorem applyGradients_step [Add α] {w : Width} {owg : String} {tx : Tx (PT α) σ} {s s' : TrainState α σ X}
    {g : PT α} {kw : List (String × X)} (h : s.applyGradients w owg tx g kw = .ok s') :
    s'.step = incStep w s.step := by
  -- a raising leaf of the definition contradicts `h`; the two successful ones set `step := incStep w s.step`
  unfold TrainState.applyGradients at h
  repeat' split at h
  all_goals cases h
  all_goals rfl

theorem nnx_applyGradients_step {w : Width} {tx : Tx P S} {applyUpd : P → P → Except Err P} {s s' : NTrainState P S X}
    {g : P} {kw : List (String × X)} (h : s.applyGradients w tx applyUpd g kw = .ok s') :
    s'.step = incStep w s.step := by
  unfold NTrainState.applyGradients at h
  repeat' split at h
  all_goals cases h
  rfl

/-- the pytree structure of a State: paths with VariableState type/metadata -/
def keysOf (st : NState α) : List (Path × VarInfo) := st.map (fun e => (e.1, e.2.info))

/-- the paths `nnx.state(model)` reports, in order; `nnx.update` addresses Variables by them, so they
have to be pairwise distinct for write-back and select to be inverse -/
def paths (m : Model α) : List Path := m.map (·.path)

theorem mem_paths {m : Model α} {v : Var α} (h : v ∈ m) : v.path ∈ paths m :=
  List.mem_map.mpr ⟨v, h, rfl⟩

theorem paths_cons (v : Var α) (m : Model α) : paths (v :: m) = v.path :: paths m := rfl

theorem applyUpdatesN_keys [Add α] : ∀ (ps us r : NState α), applyUpdatesN ps us = .ok r → keysOf r = keysOf ps := by
  intro ps
  induction ps with
  | nil =>
    intro us r h
    cases us with
    | nil => cases h; rfl
    | cons u us => cases h
  | cons p ps ih =>
    intro us r h
    cases us with
    | nil => cases h
    | cons u us =>
      rw [applyUpdatesN] at h
      split at h
      · cases hr : applyUpdatesN ps us with
        | error e => rw [hr] at h; cases h
        | ok r' =>
          rw [hr] at h
          cases h
          exact congrArg ((p.1, p.2.info) :: ·) (ih us r' hr)
      · cases h

theorem stateOf_cons_pos {sel : Path → VarInfo → Bool} {v : Var α} (h : sel v.path v.info = true) (m : Model α) :
    stateOf sel (v :: m) = (v.path, { info := v.info, value := v.value }) :: stateOf sel m := by
  simp only [stateOf, List.filter_cons, h, if_true, List.map_cons]

theorem stateOf_cons_neg {sel : Path → VarInfo → Bool} {v : Var α} (h : sel v.path v.info = false) (m : Model α) :
    stateOf sel (v :: m) = stateOf sel m := by
  simp only [stateOf, List.filter_cons, h, Bool.false_eq_true, if_false]

theorem keysOf_stateOf (sel : Path → VarInfo → Bool) (m : Model α) :
    keysOf (stateOf sel m) = (m.filter (fun v => sel v.path v.info)).map (fun v => (v.path, v.info)) := by
  simp [keysOf, stateOf, List.map_map, Function.comp_def]

theorem fst_mem_paths {sel : Path → VarInfo → Bool} {m : Model α} {st : NState α}
    (hk : keysOf st = keysOf (stateOf sel m)) : ∀ e ∈ st, e.1 ∈ paths m := by
  intro e he
  have h1 : (e.1, e.2.info) ∈ keysOf st := List.mem_map.mpr ⟨e, he, rfl⟩
  rw [hk, keysOf_stateOf] at h1
  obtain ⟨v, hv, hp⟩ := List.mem_map.mp h1
  exact (congrArg Prod.fst hp) ▸ mem_paths (List.mem_filter.mp hv).1

theorem lookupN_eq_none (st : NState α) (p : Path) (h : ∀ e ∈ st, e.1 ≠ p) : lookupN st p = none := by
  simp only [lookupN, Option.map_eq_none_iff, List.find?_eq_none, decide_eq_true_eq]
  exact h

theorem lookupN_cons_ne (e : Path × VState α) (st : NState α) (p : Path) (h : e.1 ≠ p) :
    lookupN (e :: st) p = lookupN st p := by
  simp [lookupN, h]

theorem lookupN_cons_eq (e : Path × VState α) (st : NState α) : lookupN (e :: st) e.1 = some e.2 := by
  simp [lookupN]

/-- the write-back function of `nnx.update` on one Variable -/
def writeVar (st : NState α) (v : Var α) : Var α :=
  match lookupN st v.path with
  | some vs => { v with value := vs.value, info := { v.info with tag := vs.info.tag } }
  | none => v

theorem writeVar_of_not_key (st : NState α) (v : Var α) (h : ∀ e ∈ st, e.1 ≠ v.path) : writeVar st v = v := by
  rw [writeVar, lookupN_eq_none st v.path h]

theorem writeVar_cons_ne (e : Path × VState α) (st : NState α) (v : Var α) (h : e.1 ≠ v.path) :
    writeVar (e :: st) v = writeVar st v := by
  rw [writeVar, writeVar, lookupN_cons_ne e st v.path h]

theorem writeVar_cons_self (v : Var α) (ev : VState α) (st : NState α) (hi : ev.info = v.info) :
    writeVar ((v.path, ev) :: st) v = { v with value := ev.value } := by
  rw [writeVar, lookupN_cons_eq (v.path, ev) st]
  show ({ v with value := ev.value, info := { v.info with tag := ev.info.tag } } : Var α) = _
  rw [hi]

theorem updateModel_eq (m : Model α) (st : NState α)
    (h : ∀ e ∈ st, e.1 ∈ paths m) : updateModel m st = .ok (m.map (writeVar st)) := by
  unfold updateModel
  rw [if_pos]
  · rfl
  · simp only [List.all_eq_true, List.any_eq_true, decide_eq_true_eq]
    intro e he
    obtain ⟨v, hv, hp⟩ := List.mem_map.mp (h e he)
    exact ⟨v, hv, hp⟩

theorem select_writeback (sel : Path → VarInfo → Bool) : ∀ (m : Model α) (st : NState α),
    (paths m).Nodup → keysOf st = keysOf (stateOf sel m) →
    stateOf sel (m.map (writeVar st)) = st ∧
    (m.map (writeVar st)).map (fun v => (v.path, v.info)) = m.map (fun v => (v.path, v.info)) ∧
    (∀ v ∈ m, sel v.path v.info = false → writeVar st v = v) := by
  intro m
  -- walk `m`: the head of `st` is consumed exactly at the selected Variables
  induction m with
  | nil =>
    intro st _ hk
    cases st with
    | nil => exact ⟨rfl, rfl, nofun⟩
    | cons e st => cases hk
  | cons v m ih =>
    intro st hnd hk
    rw [paths_cons, List.nodup_cons] at hnd
    obtain ⟨hv, hnd'⟩ := hnd
    cases hs : sel v.path v.info with
    | true =>
      -- `v` is selected: `st` starts with the entry for `v`, the rest of `st` is for `m`
      rw [stateOf_cons_pos hs] at hk
      cases st with
      | nil => cases hk
      | cons e st' =>
        obtain ⟨ep, ev⟩ := e
        simp only [keysOf, List.map_cons, List.cons.injEq, Prod.mk.injEq] at hk
        obtain ⟨⟨hp, hi⟩, hk'⟩ := hk
        subst hp
        have hrest : ∀ w ∈ m, writeVar ((v.path, ev) :: st') w = writeVar st' w :=
          fun w hw => writeVar_cons_ne _ _ _ (fun (heq : v.path = w.path) => hv (heq ▸ mem_paths hw))
        have hmap := List.map_congr_left hrest
        obtain ⟨i1, i2, i3⟩ := ih st' hnd' hk'
        have hwv := writeVar_cons_self v ev st' hi
        refine ⟨?_, ?_, ?_⟩
        · rw [List.map_cons, hmap, hwv, stateOf_cons_pos (v := { v with value := ev.value }) hs, i1, ← hi]
        · simp only [List.map_cons, hmap, hwv, i2]
        · intro w hw hsel
          rcases List.mem_cons.mp hw with rfl | hw
          · rw [hs] at hsel; cases hsel
          · rw [hrest w hw]; exact i3 w hw hsel
    | false =>
      -- `v` is not selected: its path is not a key of `st`, all of `st` is for `m`
      rw [stateOf_cons_neg hs] at hk
      obtain ⟨i1, i2, i3⟩ := ih st hnd' hk
      have hwv : writeVar st v = v :=
        writeVar_of_not_key st v (fun e he heq => hv (heq ▸ fst_mem_paths hk e he))
      refine ⟨?_, ?_, ?_⟩
      · rw [List.map_cons, hwv, stateOf_cons_neg hs, i1]
      · simp only [List.map_cons, hwv, i2]
      · intro w hw hsel
        rcases List.mem_cons.mp hw with rfl | hw
        · exact hwv
        · exact i3 w hw hsel

/-- the part of the frame that holds for *every* transformation, well behaved or not, and whether
or not the call raises -/
structure ModelFrame {α : Type} (sel : Path → VarInfo → Bool) (m m' : Model α) : Prop where
  keys : m'.map (fun (v : Var α) => (v.path, v.info)) = m.map (fun (v : Var α) => (v.path, v.info))
  unselected : ∀ (i : Nat) (v : Var α), m[i]? = some v → sel v.path v.info = false → m'[i]? = some v

theorem ModelFrame.refl (sel : Path → VarInfo → Bool) (m : Model α) : ModelFrame sel m m :=
  ⟨rfl, fun _ _ h _ => h⟩

theorem ModelFrame.trans {sel : Path → VarInfo → Bool} {a b c : Model α} (h1 : ModelFrame sel a b)
    (h2 : ModelFrame sel b c) : ModelFrame sel a c :=
  ⟨h2.keys.trans h1.keys, fun i v hv hs => h2.unselected i v (h1.unselected i v hv hs) hs⟩

theorem ModelFrame.paths_eq {sel : Path → VarInfo → Bool} {a b : Model α} (h : ModelFrame sel a b) :
    Optim.paths b = Optim.paths a := by
  have := congrArg (List.map Prod.fst) h.keys
  simpa [Optim.paths, List.map_map, Function.comp_def] using this

theorem updateModel_applied [Add α] (sel : Path → VarInfo → Bool) (m : Model α) (hwf : (paths m).Nodup)
    (u np : NState α) (ha : applyUpdatesN (stateOf sel m) u = .ok np) :
    updateModel m np = .ok (m.map (writeVar np)) ∧ stateOf sel (m.map (writeVar np)) = np ∧
      ModelFrame sel m (m.map (writeVar np)) := by
  have hk := applyUpdatesN_keys _ _ _ ha
  obtain ⟨w1, w2, w3⟩ := select_writeback sel m np hwf hk
  refine ⟨updateModel_eq m np (fst_mem_paths hk), w1, w2, ?_⟩
  intro i v hv hs
  rw [List.getElem?_map, hv, Option.map_some, w3 v (List.mem_of_getElem? hv) hs]

theorem unwrap_wrap (l : OptLeaf α) : unwrapLeaf (wrapLeaf l) = l := by cases l <;> rfl
theorem wrap_unwrap (x : OptVar α) : wrapLeaf (unwrapLeaf x) = x := by cases x <;> rfl

theorem shape_unwrap (x : OptVar α) : (unwrapLeaf x).shape = x.shape := by cases x <;> rfl

theorem updateOptLeaves_ok : ∀ (cur : List (OptVar α)) (new : List (OptLeaf α)),
    cur.map OptVar.shape = new.map OptLeaf.shape →
    ∃ cur', updateOptLeaves cur new = (cur', none) ∧ cur'.map unwrapLeaf = new ∧
      cur'.map OptVar.shape = cur.map OptVar.shape := by
  intro cur
  induction cur with
  | nil =>
    intro new h
    cases new with
    | nil => exact ⟨[], rfl, rfl, rfl⟩
    | cons u us => cases h
  | cons x xs ih =>
    intro new h
    cases new with
    | nil => cases h
    | cons u us =>
      rw [List.map_cons, List.map_cons, List.cons.injEq] at h
      obtain ⟨r, hr, hr1, hr2⟩ := ih us h.2
      -- a leaf of the same kind is written; the two mixed pairs have different shapes
      have hleaf : ∃ x', updateOptLeaf x u = .ok x' ∧ unwrapLeaf x' = u ∧ x'.shape = x.shape := by
        cases x with
        | optVariable s v =>
          cases u with
          | vstate i w =>
            have hi : s = i := Option.some.inj h.1
            exact ⟨.optVariable s w, rfl, by rw [hi]; rfl, rfl⟩
          | arr w => cases h.1
        | optArray v =>
          cases u with
          | vstate i w => cases h.1
          | arr w => exact ⟨.optArray w, rfl, rfl, rfl⟩
      obtain ⟨x', hx, hx1, hx2⟩ := hleaf
      refine ⟨x' :: r, ?_, ?_, ?_⟩
      · simp only [updateOptLeaves, hx, hr]
      · rw [List.map_cons, hx1, hr1]
      · rw [List.map_cons, List.map_cons, hx2, hr2]

theorem updateOptState_ok (cur : List (OptVar α)) (new : List (OptLeaf α))
    (h : cur.map OptVar.shape = new.map OptLeaf.shape) :
    ∃ cur', updateOptState cur new = (cur', none) ∧ cur'.map unwrapLeaf = new ∧
      cur'.map OptVar.shape = cur.map OptVar.shape := by
  have hl : cur.length = new.length := by simpa using congrArg List.length h
  simp only [updateOptState, hl, if_true]
  exact updateOptLeaves_ok cur new h

/-- A-OPTAX, structural part: a transformation returns a state with the structure of the state it
was given (same leaf kinds, same VariableState type/metadata) -/
def ShapePreserving (tx : NTx α) : Prop :=
  ∀ g s p u s', tx.update g s p = .ok (u, s') → s'.map OptLeaf.shape = s.map OptLeaf.shape

/-- what one successful `Optimizer.update` leaves untouched -/
structure Frame {α : Type} (sel : Path → VarInfo → Bool) (o o' : Optimizer α) : Prop where
  keys : o'.model.map (fun (v : Var α) => (v.path, v.info)) = o.model.map (fun (v : Var α) => (v.path, v.info))
  unselected : ∀ (i : Nat) (v : Var α), o.model[i]? = some v → sel v.path v.info = false → o'.model[i]? = some v
  optShape : o'.optState.map OptVar.shape = o.optState.map OptVar.shape

theorem Frame.refl (sel : Path → VarInfo → Bool) (o : Optimizer α) : Frame sel o o :=
  ⟨rfl, fun _ _ h _ => h, rfl⟩

theorem Frame.trans {sel : Path → VarInfo → Bool} {a b c : Optimizer α} (h1 : Frame sel a b) (h2 : Frame sel b c) :
    Frame sel a c :=
  ⟨h2.keys.trans h1.keys, fun i v hv hs => h2.unselected i v (h1.unselected i v hv hs) hs,
   h2.optShape.trans h1.optShape⟩

theorem Frame.paths_eq {sel : Path → VarInfo → Bool} {a b : Optimizer α} (h : Frame sel a b) :
    Optim.paths b.model = Optim.paths a.model :=
  ModelFrame.paths_eq ⟨h.keys, h.unselected⟩

section Update
variable [Add α] (w : Width) (tx : NTx α) (sel : Path → VarInfo → Bool)

/-- `Optimizer.update` is the hand-written step on the abstraction, followed by the two write-backs
`nnx.update(model, new_params)` and `_update_opt_state`; `step` is bumped in between, so a raising
write-back leaves it bumped. -/
theorem update_eq (o : Optimizer α) (g : NState α) :
    o.update w tx sel g =
      match manualStep w tx applyUpdatesN (o.abs sel) g with
      | .error e => (o, some e)
      | .ok m =>
        match updateModel o.model m.params with
        | .error e => ({ o with step := m.step }, some e)
        | .ok model =>
          ({ step := m.step, model := model, optState := (updateOptState o.optState m.optState).1 },
           (updateOptState o.optState m.optState).2) := by
  simp only [Optimizer.update, manualStep, Optimizer.abs]
  cases tx.update g (o.optState.map unwrapLeaf) (stateOf sel o.model) with
  | error e => rfl
  | ok us =>
    obtain ⟨u, s'⟩ := us
    dsimp only
    cases applyUpdatesN (stateOf sel o.model) u with
    | error e => rfl
    | ok np => rfl

theorem update_simulates (htx : ShapePreserving tx)
    (o : Optimizer α) (hwf : (paths o.model).Nodup) (g : NState α) (m : Manual (NState α) (List (OptLeaf α)))
    (hm : manualStep w tx applyUpdatesN (o.abs sel) g = .ok m) :
    ∃ o', o.update w tx sel g = (o', none) ∧ o'.abs sel = m ∧ Frame sel o o' := by
  obtain ⟨u, hu, ha, _⟩ := manualStep_ok hm
  obtain ⟨hum, hsel, hframe⟩ := updateModel_applied sel o.model hwf u m.params ha
  have hshape : o.optState.map OptVar.shape = m.optState.map OptLeaf.shape := by
    rw [htx _ _ _ _ _ hu, Optimizer.abs, List.map_map]
    exact List.map_congr_left (fun x _ => (shape_unwrap x).symm)
  obtain ⟨os, hos, hos1, hos2⟩ := updateOptState_ok o.optState m.optState hshape
  refine ⟨{ step := m.step, model := o.model.map (writeVar m.params), optState := os }, ?_, ?_,
    hframe.keys, hframe.unselected, hos2⟩
  · rw [update_eq, hm]
    simp only [hum, hos]
  · simp only [Optimizer.abs, hsel, hos1]

theorem update_error_atomic (o : Optimizer α) (g : NState α)
    (e : Err) (hm : manualStep w tx applyUpdatesN (o.abs sel) g = .error e) :
    o.update w tx sel g = (o, some e) := by
  rw [update_eq, hm]

theorem update_step (o : Optimizer α) (g : NState α) :
    ((o.update w tx sel g).2 = none → (o.update w tx sel g).1.step = incStep w o.step) ∧
    ((o.update w tx sel g).1.step = o.step ∨ (o.update w tx sel g).1.step = incStep w o.step) := by
  rw [update_eq]
  cases hm : manualStep w tx applyUpdatesN (o.abs sel) g with
  | error e => exact ⟨nofun, .inl rfl⟩
  | ok m =>
    have hs : m.step = incStep w o.step := manualStep_step hm
    dsimp only
    cases updateModel o.model m.params with
    | error e => exact ⟨fun _ => hs, .inr hs⟩
    | ok model => exact ⟨fun _ => hs, .inr hs⟩

theorem update_model_frame (o : Optimizer α)
    (hwf : (paths o.model).Nodup) (g : NState α) : ModelFrame sel o.model (o.update w tx sel g).1.model := by
  rw [update_eq]
  cases hm : manualStep w tx applyUpdatesN (o.abs sel) g with
  | error e => exact ModelFrame.refl sel _
  | ok m =>
    obtain ⟨u, _, ha, _⟩ := manualStep_ok hm
    obtain ⟨hum, _, hframe⟩ := updateModel_applied sel o.model hwf u m.params ha
    simp only [hum]
    exact hframe

theorem run_model_frame (gs : List (NState α)) :
    ∀ (o : Optimizer α), (paths o.model).Nodup → ModelFrame sel o.model (o.run w tx sel gs).1.model := by
  induction gs with
  | nil => intro o _; exact ModelFrame.refl sel _
  | cons g gs ih =>
    intro o hwf
    have h1 := update_model_frame w tx sel o hwf g
    simp only [Optimizer.run]
    cases hr : o.update w tx sel g with
    | mk o' e =>
      rw [hr] at h1
      cases e with
      | some e => exact h1
      | none =>
        simp only
        have hwf' : (paths o'.model).Nodup := by rw [h1.paths_eq]; exact hwf
        exact h1.trans (ih o' hwf')

end Update

end Flax.Optim
