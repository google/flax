/- C08 proofs: lemmas on `column` and rows, then the states of one group over the indices / iterations (a column of the
per-index splits of one graph node) and what stacking them leaf by leaf holds, in the terms of `Holds`. -/
import Flax.Proofs.NnxLoopHolds

namespace Flax.NnxLoop
open Flax.Filter Flax.LiftLoop

theorem column_ok {β : Type} {g : Nat} {rows : List (List β)} {col : List β} (h : column g rows = .ok col) :
    col.length = rows.length ∧ ∀ i (h1 : i < rows.length) (h2 : i < col.length), rows[i][g]? = some col[i] :=
  ⟨mapX_length h, fun i h1 h2 => pickX_ok_iff.1 (mapX_ok_getElem h i h1 h2)⟩

theorem column_getD {β : Type} (g : Nat) (d : β) (rows : List (List β)) (h : ∀ row ∈ rows, g < row.length) :
    column g rows = .ok (rows.map (fun row => row.getD g d)) := by
  simp only [column]
  apply mapX_eq_map
  intro row hr
  have := h row hr
  simp [pickX, List.getElem?_eq_getElem this, List.getD_eq_getElem?_getD]

theorem column_drop {β : Type} (s j : Nat) (rows : List (List β)) :
    column j (rows.map (·.drop s)) = column (s + j) rows := by
  simp only [column, mapX_map]
  exact mapX_congr _ (fun row _ => by simp [pickX])

theorem column0_cons {β ι : Type} (is : List ι) (h : ι → β) (t : ι → List β) :
    column 0 (is.map (fun i => h i :: t i)) = .ok (is.map h) := by
  simp only [column, mapX_map]
  exact mapX_eq_map _ (fun i _ => by simp [pickX])

theorem rows_cons {σ β γ : Type} {F : σ → β → Except Err γ} {x : β} {r : List β} : ∀ {sts : List σ}
    {rows : List (List γ)}, mapX (fun st => mapX (F st) (x :: r)) sts = .ok rows →
    ∃ heads rows', mapX (fun st => F st x) sts = .ok heads ∧ mapX (fun st => mapX (F st) r) sts = .ok rows' ∧
      column 0 rows = .ok heads ∧ rows.map (·.drop 1) = rows' := by
  intro sts
  induction sts with
  | nil => intro rows h; simp [mapX] at h; subst h; exact ⟨[], [], rfl, rfl, rfl, rfl⟩
  | cons st sts ih =>
    intro rows h
    obtain ⟨y, ys, hy, hys, rfl⟩ := mapX_cons_ok h
    obtain ⟨h0, ht, hh, hr, rfl⟩ := mapX_cons_ok hy
    obtain ⟨heads, rows', e1, e2, e3, e4⟩ := ih hys
    refine ⟨h0 :: heads, ht :: rows', mapX_cons_of_ok hh e1, mapX_cons_of_ok hr e2, ?_, ?_⟩
    · simp only [column] at e3 ⊢
      exact mapX_cons_of_ok (by simp [pickX]) e3
    · subst e4; simp

theorem valAt_flats_eq_getX {α : Type} {owned : List Entry} (hnd : (owned.map (·.path)).Nodup) {e : Entry} (he : e ∈ owned) :
    ∀ {sts : List (Store α)} {flats : List (Flat α)}, mapX (flatOf owned) sts = .ok flats →
    mapX (fun (st : Store α) => st.getX e.id) sts = mapX (fun fl => valAt fl e.path) flats := by
  intro sts flats h
  apply mapX_pointwise _ _ (by have := mapX_length h; omega)
  intro i h1 h2
  have hfi := mapX_ok_getElem h i h1 h2
  obtain ⟨hfa, _⟩ := flatOf_ok_mem hfi
  obtain ⟨vi, hvi, hmi⟩ := hfa e he
  have hndi : ((flats[i]).map (·.1)).Nodup := by rw [flatOf_paths hfi]; exact hnd
  have := valAt_of_mem hndi hmi
  simp only [] at this
  rw [this, Store.getX, hvi]

theorem flats_keys {α : Type} {owned : List Entry} (hndO : (owned.map (·.path)).Nodup) {sts : List (Store α)}
    {n0 : Flat α} {frest : List (Flat α)} (h : mapX (flatOf owned) sts = .ok (n0 :: frest)) :
    (n0.map (·.1)).Nodup ∧
    ∀ fl ∈ n0 :: frest, fl.map (fun x => (x.1, x.2.1)) = n0.map (fun x => (x.1, x.2.1)) := by
  obtain ⟨st0, hst0, hn0⟩ := mapX_ok_mem_rev h n0 List.mem_cons_self
  refine ⟨by rw [flatOf_paths hn0]; exact hndO, fun fl hfl => ?_⟩
  obtain ⟨st, _, hst⟩ := mapX_ok_mem_rev h fl hfl
  rw [flatOf_infos hst, flatOf_infos hn0]

section collect
variable {α : Type} {p : Prefix} {n0 : Flat α} {g : Nat}

theorem holds_column {flats : List (Flat α)} {rows : List (List (State α))} (hnd : (n0.map (·.1)).Nodup)
    (hkeys : ∀ fl ∈ flats, fl.map (fun x => (x.1, x.2.1)) = n0.map (fun x => (x.1, x.2.1)))
    (hrows : mapX (splitFlat p) flats = .ok rows) {col : List (State α)} (hcol : column g rows = .ok col) :
    col.length = flats.length ∧ ∀ i (h1 : i < flats.length) (h2 : i < col.length),
      Holds p n0 (fun y v => valAt flats[i] y.1 = .ok v) g col[i] := by
  obtain ⟨hcl, hce⟩ := column_ok hcol
  have hrl := mapX_length hrows
  refine ⟨by omega, fun i h1 h2 => ?_⟩
  exact holds_split hnd (hkeys _ (List.getElem_mem h1)) (mapX_ok_getElem hrows i h1 (by omega)) (hce i (by omega) h2)

theorem holds_lookups {flats : List (Flat α)} {col : List (State α)} (hnd : (n0.map (·.1)).Nodup)
    (hlen : col.length = flats.length)
    (hcol : ∀ i (h1 : i < flats.length) (h2 : i < col.length), Holds p n0 (fun y v => valAt flats[i] y.1 = .ok v) g col[i])
    {y : Path × VarInfo × Arr α} (hy : y ∈ n0) (hg : groupIdx p y.1 y.2.1 = g) :
    ∃ vs, mapX (fun fl => valAt fl y.1) flats = .ok vs ∧
      mapX (fun (s : State α) => match s.lookup y.1 with
        | some a => Except.ok a
        | none => .error (.lax .stackMismatch)) col = .ok vs := by
  have hpt : ∀ i (h1 : i < flats.length) (h2 : i < col.length), ∃ v, valAt flats[i] y.1 = .ok v ∧
      col[i].lookup y.1 = some v :=
    fun i h1 h2 => (hcol i h1 h2).lookup hnd (fun _ _ _ h h' => Except.ok.inj (h.symm.trans h')) hy hg
  obtain ⟨vs, hvs⟩ := mapX_ok_of_forall (f := fun fl => valAt fl y.1) flats (fun fl hfl => by
    obtain ⟨i, hi, rfl⟩ := List.getElem_of_mem hfl
    obtain ⟨v, hv, _⟩ := hpt i hi (by omega)
    exact ⟨v, hv⟩)
  refine ⟨vs, hvs, ?_⟩
  rw [← hvs]
  apply mapX_pointwise _ _ hlen
  intro i h1 h2
  obtain ⟨v, hv, hl⟩ := hpt i h2 h1
  rw [hv, hl]

theorem vals_head {n0 : Flat α} {rest : List (Flat α)} (hnd : (n0.map (·.1)).Nodup) {y : Path × VarInfo × Arr α}
    (hy : y ∈ n0) {vs : List (Arr α)} (hvs : mapX (fun fl => valAt fl y.1) (n0 :: rest) = .ok vs) :
    ∃ t, vs = y.2.2 :: t := by
  obtain ⟨v0, vt, h0, _, rfl⟩ := mapX_cons_ok hvs
  rw [valAt_of_mem hnd hy] at h0
  injection h0 with h0
  exact ⟨vt, by rw [h0]⟩

theorem Holds.stack {rest : List (Flat α)} {col : List (State α)} (hnd : (n0.map (·.1)).Nodup)
    (hlen : col.length = (n0 :: rest).length)
    (hcol : ∀ i (h1 : i < (n0 :: rest).length) (h2 : i < col.length),
      Holds p n0 (fun y v => valAt (n0 :: rest)[i] y.1 = .ok v) g col[i])
    (stk : List Nat → List (Arr α) → Except LErr (Arr α)) {c : State α} (hc : stackStates stk col = .ok c) :
    Holds p n0 (fun y v => ∃ vs, mapX (fun fl => valAt fl y.1) (n0 :: rest) = .ok vs ∧
      liftL (stk y.2.2.shape vs) = .ok v) g c := by
  cases col with
  | nil => cases hlen
  | cons s0 t =>
  have h0 := hcol 0 (Nat.zero_lt_succ _) (Nat.zero_lt_succ _)
  simp only [stackStates] at hc
  -- what the stacking function does on the item of `s0` that belongs to `z`
  have hF : ∀ z ∈ n0, groupIdx p z.1 z.2.1 = g → ∀ r,
      (match mapX (fun (s : State α) => match s.lookup (z.1, z.2.2).1 with
          | some a => Except.ok a
          | none => .error (.lax .stackMismatch)) (s0 :: t) with
        | .error e => Except.error e
        | .ok ls =>
          match liftL (stk (z.1, z.2.2).2.shape ls) with
          | .error e => .error e
          | .ok a => .ok ((z.1, z.2.2).1, a)) = .ok r →
      ∃ vs v, mapX (fun fl => valAt fl z.1) (n0 :: rest) = .ok vs ∧ liftL (stk z.2.2.shape vs) = .ok v ∧
        r = (z.1, v) := by
    intro z hz hgz r hr
    obtain ⟨vs, hvs, hlk⟩ := holds_lookups hnd hlen hcol hz hgz
    simp only [hlk] at hr
    cases hst : liftL (stk z.2.2.shape vs) with
    | error e => rw [hst] at hr; cases hr
    | ok v => rw [hst] at hr; exact ⟨vs, v, hvs, hst, (Except.ok.inj hr).symm⟩
  have hitem : ∀ pv ∈ s0, ∃ z ∈ n0, groupIdx p z.1 z.2.1 = g ∧ pv = (z.1, z.2.2) := by
    intro pv hpv
    obtain ⟨z, hz, hgz, hk, hv⟩ := h0.2 pv hpv
    exact ⟨z, hz, hgz, Prod.ext hk (Except.ok.inj ((valAt_of_mem hnd hz).symm.trans hv)).symm⟩
  constructor
  · intro y hy hgy
    obtain ⟨v0, hv0, hin0⟩ := h0.1 y hy hgy
    cases (valAt_of_mem hnd hy).symm.trans hv0
    obtain ⟨r, hr, hrm⟩ := mapX_ok_mem hc _ hin0
    obtain ⟨vs, v, h1, h2, h3⟩ := hF y hy hgy r hr
    exact ⟨v, ⟨vs, h1, h2⟩, h3 ▸ hrm⟩
  · intro kb hkb
    obtain ⟨pv, hpv, hf⟩ := mapX_ok_mem_rev hc kb hkb
    obtain ⟨z, hz, hgz, rfl⟩ := hitem pv hpv
    obtain ⟨vs, v, h1, h2, h3⟩ := hF z hz hgz kb hf
    exact ⟨z, hz, hgz, by rw [h3], vs, h1, by rw [h3]; exact h2⟩

end collect

section collect2
variable {α : Type} [Inhabited α] {p : Prefix} {n0 : Flat α} {g : Nat}

theorem vmapCollectStates_ok {axes : List Ax} {rows : List (List (State α))} {cs : List (State α)}
    (h : vmapCollectStates axes rows = .ok cs) :
    cs.length = axes.length ∧
    ∀ (g : Nat) (a : Ax), axes[g]? = some a →
      ∃ col c, column g rows = .ok col ∧ vmapCollectState col a = .ok c ∧ cs[g]? = some c := by
  have hl := mapX_length h
  simp only [List.length_zip, List.length_range, Nat.min_self] at hl
  refine ⟨hl, ?_⟩
  intro g a ha
  have hg : g < axes.length := (List.getElem?_eq_some_iff.1 ha).1
  have hz : g < ((List.range axes.length).zip axes).length := by simp [List.length_zip]; exact hg
  have := mapX_ok_getElem h g hz (by omega)
  rw [zip_range_getElem axes g hz hg, (List.getElem_eq_iff hg).2 ha] at this
  simp only [] at this
  cases hc : column g rows with
  | error e => simp [hc] at this
  | ok col =>
    simp only [hc] at this
    exact ⟨col, cs[g]'(by omega), rfl, this, List.getElem?_eq_getElem (by omega)⟩

theorem holds_collect {rest : List (Flat α)} {col : List (State α)} (hnd : (n0.map (·.1)).Nodup)
    (hlen : col.length = (n0 :: rest).length)
    (hcol : ∀ i (h1 : i < (n0 :: rest).length) (h2 : i < col.length),
      Holds p n0 (fun y v => valAt (n0 :: rest)[i] y.1 = .ok v) g col[i])
    {a : Ax} {c : State α} (hc : vmapCollectState col a = .ok c) :
    Holds p n0 (fun y v => ∃ vs, mapX (fun fl => valAt fl y.1) (n0 :: rest) = .ok vs ∧ collectVal a vs = .ok v)
      g c := by
  cases a with
  | carry => cases hc
  | axis k =>
    -- `collectVal (.axis k)` of values starting with the item's own is `stackAt k` at the item's shape
    refine (Holds.stack hnd hlen hcol (stackAt k) hc).mono ?_
    rintro y hy _ v ⟨vs, hvs, hv⟩
    obtain ⟨t, rfl⟩ := vals_head hnd hy hvs
    exact ⟨_, hvs, hv⟩
  | bcast =>
    cases col with
    | nil => cases hlen
    | cons s0 t =>
      cases hc
      refine (hcol 0 (Nat.zero_lt_succ _) (Nat.zero_lt_succ _)).mono ?_
      intro y hy hgy v hv
      obtain ⟨vs, hvs, _⟩ := holds_lookups hnd hlen hcol hy hgy
      obtain ⟨t', rfl⟩ := vals_head hnd hy hvs
      cases (valAt_of_mem hnd hy).symm.trans hv
      exact ⟨_, hvs, rfl⟩

/-- The states `nnx.vmap` rebuilds for one graph node (`jnp.stack` along the group's axis leaf by leaf, the index-0
state for `None`), concatenated, answer the path of a Variable with `collectVal axis [its per-index values]`. -/
theorem vmap_collect_lookup {rest : List (Flat α)} {rows : List (List (State α))}
    {cs : List (State α)} (hnd : (n0.map (·.1)).Nodup)
    (hkeys : ∀ fl ∈ n0 :: rest, fl.map (fun x => (x.1, x.2.1)) = n0.map (fun x => (x.1, x.2.1)))
    (hrows : mapX (splitFlat p) (n0 :: rest) = .ok rows) (hc : vmapCollectStates p.axes rows = .ok cs) :
    ∀ x ∈ n0, ∃ a vs v, axAt p x.1 x.2.1 = some a ∧ mapX (fun fl => valAt fl x.1) (n0 :: rest) = .ok vs ∧
      collectVal a vs = .ok v ∧ cs.flatten.lookup x.1 = some v := by
  obtain ⟨hcl, hcg⟩ := vmapCollectStates_ok hc
  obtain ⟨row0, _, hrow0, _, _⟩ := mapX_cons_ok hrows
  have key := lookup_by_axis hnd
    (Q := fun a y v => ∃ vs, mapX (fun fl => valAt fl y.1) (n0 :: rest) = .ok vs ∧ collectVal a vs = .ok v)
    (fun a y v v' ⟨vs, hvs, hv⟩ ⟨vs', hvs', hv'⟩ => by cases hvs.symm.trans hvs'; exact Except.ok.inj (hv.symm.trans hv'))
    hcl (split_group_lt hrow0 rfl) fun g a c ha hgc => by
      obtain ⟨col, c', hcol, hcs, hcg'⟩ := hcg _ _ ha
      cases hgc.symm.trans hcg'
      obtain ⟨hlen, hh⟩ := holds_column hnd hkeys hrows hcol
      exact holds_collect hnd hlen hh hcs
  exact fun x hx => let ⟨a, v, ha, ⟨vs, hvs, hv⟩, hl⟩ := key x hx; ⟨a, vs, v, ha, hvs, hv, hl⟩

end collect2

end Flax.NnxLoop
