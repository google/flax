/-
Abstract values of the FrozenDict heap model (`absVal`, `absKvs` of `Model/Frozen.lean`): `absKvs` is an entrywise
relation (`absKvs_iff`), so every association-list operation keeps it; a defined value stays the same when the heap
or the fuel grows.
-/
import Flax.Proofs.FrozenKv
import Flax.Proofs.FrozenWalk

namespace Flax.Frozen

theorem absKvs_iff {f : Val → Option Tree} {kvs : List (Key × Val)} {ts : List (Key × Tree)} :
    absKvs f kvs = some ts ↔ KvRel (fun v t => f v = some t) kvs ts := by
  constructor
  · intro h
    induction kvs generalizing ts with
    | nil => cases h; exact .nil
    | cons p r ih =>
      obtain ⟨k, v⟩ := p
      dsimp only [absKvs] at h
      cases hv : f v with
      | none => rw [hv] at h; cases h
      | some t =>
        cases hr : absKvs f r with
        | none => rw [hv, hr] at h; cases h
        | some ts0 =>
          rw [hv, hr] at h
          cases h
          exact .cons hv (ih hr)
  · intro h
    induction h with
    | nil => rfl
    | cons hr _ ih => dsimp only [absKvs]; rw [hr, ih]

section
variable {f : Val → Option Tree} {kvs : List (Key × Val)} {ts : List (Key × Tree)}

theorem absKvs_congr {g : Val → Option Tree} (h : ∀ p ∈ kvs, f p.2 = g p.2) : absKvs f kvs = absKvs g kvs :=
  Option.ext fun _ => absKvs_iff.trans <| Iff.trans
    ⟨(·.imp fun p hp _ ht => h p hp ▸ ht), (·.imp fun p hp _ ht => h p hp ▸ ht)⟩ absKvs_iff.symm

theorem absKvs_mono {g : Val → Option Tree} (hfg : ∀ p ∈ kvs, ∀ t, f p.2 = some t → g p.2 = some t)
    (h : absKvs f kvs = some ts) : absKvs g kvs = some ts :=
  absKvs_iff.mpr ((absKvs_iff.mp h).imp hfg)

theorem absKvs_keys (h : absKvs f kvs = some ts) : ts.map (·.1) = kvs.map (·.1) := (absKvs_iff.mp h).keys

theorem absKvs_get {key : Key} {v : Val} (h : absKvs f kvs = some ts) (hg : kvGet kvs key = some v) :
    ∃ tc, lookupT key ts = some tc ∧ f v = some tc :=
  lookupT_eq_lookup key ts ▸ (absKvs_iff.mp h).lookup_some (kvGet_eq_lookup kvs key ▸ hg)

theorem absKvs_erase (key : Key) (h : absKvs f kvs = some ts) :
    absKvs f (kvErase kvs key) = some (kvErase ts key) :=
  absKvs_iff.mpr ((absKvs_iff.mp h).kvErase key)

theorem absKvs_sort (h : absKvs f kvs = some ts) : absKvs f (sortKvs kvs) = some (sortKvs ts) :=
  absKvs_iff.mpr (absKvs_iff.mp h).sortKvs

theorem absKvs_kvUpdate {ys : List (Key × Val)} {b : List (Key × Tree)} (hx : absKvs f kvs = some ts)
    (hy : absKvs f ys = some b) : absKvs f (kvUpdate kvs ys) = some (kvUpdate ts b) :=
  absKvs_iff.mpr ((absKvs_iff.mp hy).kvUpdate (absKvs_iff.mp hx))

end

theorem absVal_leaf (fz : Bool) (k : Nat) (h : Heap) (l : Leaf) : absVal fz k h (.leaf l) = some (.leaf l) := by
  cases k <;> rfl

theorem absVal_dict {fz : Bool} {k : Nat} {h : Heap} {a : Addr} {o : Bool} {kvs : List (Key × Val)}
    (hg : h[a]? = some (.dict o kvs)) :
    absVal fz (k + 1) h (.ref a) = (absKvs (absVal fz k h) kvs).map (Tree.node fz) := by
  simp [absVal, hg]

theorem absVal_frozen {fz : Bool} {k : Nat} {h : Heap} {a i : Addr} {o : Bool} {kvs : List (Key × Val)}
    (hg : h[a]? = some (.frozen i)) (hi : h[i]? = some (.dict o kvs)) :
    absVal fz (k + 1) h (.ref a) = (absKvs (absVal true k h) kvs).map (Tree.node true) := by
  simp [absVal, hg, hi]

theorem absVal_dict_inv {fz o : Bool} {k : Nat} {h : Heap} {a : Addr} {kvs : List (Key × Val)} {t : Tree}
    (hg : h[a]? = some (.dict o kvs)) (ha : absVal fz k h (.ref a) = some t) :
    ∃ k0 ts, k = k0 + 1 ∧ absKvs (absVal fz k0 h) kvs = some ts ∧ t = .node fz ts := by
  cases k with
  | zero => cases ha
  | succ k0 =>
    rw [absVal_dict hg] at ha
    obtain ⟨ts, hts, rfl⟩ := Option.map_eq_some_iff.mp ha
    exact ⟨k0, ts, rfl, hts, rfl⟩

theorem absVal_frozen_inv {fz : Bool} {k : Nat} {h : Heap} {a i : Addr} {t : Tree}
    (hg : h[a]? = some (.frozen i)) (ha : absVal fz k h (.ref a) = some t) :
    ∃ k0 o kvs ts, k = k0 + 1 ∧ h[i]? = some (.dict o kvs) ∧ absKvs (absVal true k0 h) kvs = some ts ∧ t = .node true ts := by
  cases k with
  | zero => cases ha
  | succ k0 =>
    simp only [absVal, hg] at ha
    cases hi : h[i]? with
    | none => simp [hi] at ha
    | some oi =>
      cases oi with
      | frozen j => simp [hi] at ha
      | dict o kvs =>
        simp only [hi, Option.map_eq_some_iff] at ha
        obtain ⟨ts, h1, rfl⟩ := ha
        exact ⟨k0, o, kvs, ts, rfl, rfl, h1, rfl⟩

theorem absVal_frozen_inner {fz : Bool} {k : Nat} {h : Heap} {a i : Addr} {t : Tree}
    (hg : h[a]? = some (.frozen i)) (ha : absVal fz k h (.ref a) = some t) :
    ∃ k0 o kvs ts, k = k0 + 1 ∧ t = .node true ts ∧ h[i]? = some (.dict o kvs) ∧
      absVal true (k0 + 1) h (.ref i) = some (.node true ts) := by
  obtain ⟨k0, o, kvs, ts, rfl, hi, hts, rfl⟩ := absVal_frozen_inv hg ha
  exact ⟨k0, o, kvs, ts, rfl, rfl, hi, by rw [absVal_dict hi, hts]; rfl⟩

theorem absVal_frozen_node {fz o : Bool} {k : Nat} {h : Heap} {a i : Addr} {kvs : List (Key × Val)}
    {ts : List (Key × Tree)} (hg : h[a]? = some (.frozen i)) (hi : h[i]? = some (.dict o kvs))
    (ha : absVal fz (k + 1) h (.ref a) = some (.node true ts)) : absKvs (absVal true k h) kvs = some ts := by
  rw [absVal_frozen hg hi] at ha
  obtain ⟨ts', hts, hn⟩ := Option.map_eq_some_iff.mp ha
  cases hn
  exact hts

theorem absVal_some_induction {h : Heap} {motive : Bool → Nat → Val → Tree → Prop}
    (leaf : ∀ {fz k l}, motive fz k (.leaf l) (.leaf l))
    (dict : ∀ {fz k a o kvs ts}, h[a]? = some (.dict o kvs) → absKvs (absVal fz k h) kvs = some ts →
      (∀ p ∈ kvs, ∀ t, absVal fz k h p.2 = some t → motive fz k p.2 t) →
      motive fz (k + 1) (.ref a) (.node fz ts))
    (frozen : ∀ {fz k a i o kvs ts}, h[a]? = some (.frozen i) → h[i]? = some (.dict o kvs) →
      absKvs (absVal true k h) kvs = some ts →
      (∀ p ∈ kvs, ∀ t, absVal true k h p.2 = some t → motive true k p.2 t) →
      motive fz (k + 1) (.ref a) (.node true ts)) :
    ∀ {k fz v t}, absVal fz k h v = some t → motive fz k v t := by
  intro k
  induction k with
  | zero =>
    intro fz v t ha
    cases v with
    | leaf l => rw [absVal_leaf] at ha; cases ha; exact leaf
    | ref a => cases ha
  | succ k ih =>
    intro fz v t ha
    cases v with
    | leaf l => rw [absVal_leaf] at ha; cases ha; exact leaf
    | ref a =>
      cases hg : h[a]? with
      | none => simp [absVal, hg] at ha
      | some o =>
        cases o with
        | dict own kvs =>
          obtain ⟨k0, ts, hk, hts, rfl⟩ := absVal_dict_inv hg ha
          cases hk
          exact dict hg hts (fun p _ t ht => ih ht)
        | frozen i =>
          obtain ⟨k0, oi, kvsi, ts, hk, hi, hts, rfl⟩ := absVal_frozen_inv hg ha
          cases hk
          exact frozen hg hi hts (fun p _ t ht => ih ht)

theorem absVal_mono {h h' : Heap} (e : h <+: h') {k : Nat} {fz : Bool} {v : Val} {t : Tree}
    (ha : absVal fz k h v = some t) : ∀ {k'}, k ≤ k' → absVal fz k' h' v = some t := by
  refine absVal_some_induction (motive := fun fz k v t => ∀ {k'}, k ≤ k' → absVal fz k' h' v = some t)
    (fun _ => absVal_leaf ..) ?_ ?_ ha
  · intro fz k a o kvs ts hg hts ih k' hk
    obtain ⟨k', rfl⟩ : ∃ n, k' = n + 1 := ⟨k' - 1, by omega⟩
    rw [absVal_dict (get_of_prefix e hg), absKvs_mono (fun p hp t ht => ih p hp t ht (Nat.le_of_succ_le_succ hk)) hts]
    rfl
  · intro fz k a i o kvs ts hg hi hts ih k' hk
    obtain ⟨k', rfl⟩ : ∃ n, k' = n + 1 := ⟨k' - 1, by omega⟩
    rw [absVal_frozen (get_of_prefix e hg) (get_of_prefix e hi),
      absKvs_mono (fun p hp t ht => ih p hp t ht (Nat.le_of_succ_le_succ hk)) hts]
    rfl

theorem absVal_ext {h h' : Heap} (e : h <+: h') (k : Nat) (fz : Bool) (v : Val) (t : Tree)
    (ha : absVal fz k h v = some t) : absVal fz k h' v = some t :=
  absVal_mono e ha (Nat.le_refl _)

theorem absKvs_ext {h h' : Heap} (e : h <+: h') {k : Nat} {fz : Bool} {kvs : List (Key × Val)}
    {ts : List (Key × Tree)} (hts : absKvs (absVal fz k h) kvs = some ts) : absKvs (absVal fz k h') kvs = some ts :=
  absKvs_mono (fun p _ t ht => absVal_ext e k fz p.2 t ht) hts

theorem absVal_fuel_le (h : Heap) {k k' : Nat} (hle : k ≤ k') (fz : Bool) (v : Val) (t : Tree)
    (ha : absVal fz k h v = some t) : absVal fz k' h v = some t :=
  absVal_mono List.prefix_rfl ha hle

theorem absVal_new_dict {fz own : Bool} {k : Nat} {h : Heap} {kvs : List (Key × Val)} {ts : List (Key × Tree)}
    (hts : absKvs (absVal fz k h) kvs = some ts) :
    absVal fz (k + 1) (h ++ [.dict own kvs]) (.ref h.length) = some (.node fz ts) := by
  rw [absVal_dict (o := own) (kvs := kvs) (by simp),
    absKvs_ext (List.prefix_append _ _) hts]
  rfl

theorem absVal_new_frozen {fz o : Bool} {k : Nat} {h : Heap} {j : Addr} {kvs : List (Key × Val)}
    {ts : List (Key × Tree)} (hj : h[j]? = some (.dict o kvs)) (hts : absKvs (absVal true k h) kvs = some ts) :
    absVal fz (k + 1) (h ++ [.frozen j]) (.ref h.length) = some (.node true ts) := by
  have e : h <+: h ++ [.frozen j] := List.prefix_append _ _
  rw [absVal_frozen (i := j) (by simp) (get_of_prefix e hj),
    absKvs_ext e hts]
  rfl

/-- the two objects of `mkFrozen` / `tree_unflatten`: a `_dict` and its wrapper -/
theorem absVal_new_frozenDict {fz : Bool} {k : Nat} {h : Heap} {kvs : List (Key × Val)} {ts : List (Key × Tree)}
    (hts : absKvs (absVal true k h) kvs = some ts) :
    absVal fz (k + 1) (h ++ [.dict true kvs, .frozen h.length]) (.ref (h.length + 1)) = some (.node true ts) := by
  rw [absVal_frozen (mkFrozen_objs h kvs).2 (mkFrozen_objs h kvs).1,
    absKvs_ext (List.prefix_append _ _) hts]
  rfl

end Flax.Frozen
