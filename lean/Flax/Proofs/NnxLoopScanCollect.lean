/- C08 proofs: `nnx.scan` — what `_scan_merge_out` rebuilds for one graph node: first group by group (`unroute_groups`),
then by path (`scan_final_lookup`); and a result of the traced function is collected by `nnx.scan` as by `nnx.vmap`
(`scanCollectOut_vmap`, `scan_collect_out`) -/
import Flax.Proofs.NnxLoopScanRoute
import Flax.Proofs.NnxLoopOuts

namespace Flax.NnxLoop
open Flax.Filter Flax.LiftLoop

section sc
variable {α : Type} [Inhabited α]

theorem unrouteStates_axis (k : Int) (rest : List Ax) (v : State α) (vec car bc : List (State α)) :
    unrouteStates (.axis k :: rest) (v :: vec) car bc = (unrouteStates rest vec car bc).map (v :: ·) := by
  rw [unrouteStates]; cases unrouteStates rest vec car bc <;> rfl

theorem unrouteStates_carry (rest : List Ax) (c : State α) (vec car bc : List (State α)) :
    unrouteStates (.carry :: rest) vec (c :: car) bc = (unrouteStates rest vec car bc).map (c :: ·) := by
  rw [unrouteStates]; cases unrouteStates rest vec car bc <;> rfl

theorem unrouteStates_bcast (rest : List Ax) (b : State α) (vec car bc : List (State α)) :
    unrouteStates (.bcast :: rest) vec car (b :: bc) = (unrouteStates rest vec car bc).map (b :: ·) := by
  rw [unrouteStates]; cases unrouteStates rest vec car bc <;> rfl

/-- The `popleft`s of `_scan_merge_out` meet the right groups: with the deques holding the routes in group order, walking
`prefix.axes` puts at position `j` the stack of column `j` of `rows`, state `j` of `F` (last values) or state `j` of `S`
(original values), by the kind of axis `j`.  Induction over the axes: the head axis decides which deque loses its head. -/
theorem unroute_groups : ∀ (axes : List Ax) (rows : List (List (State α))) (F S V sts : List (State α)),
    (∀ row ∈ rows, row.length = axes.length) → F.length = axes.length → S.length = axes.length →
    scanCollectVecK (axisKs axes) (rows.map (vecStates axes)) = .ok V →
    unrouteStates axes V (kindStates .carry (axes.zip F)) (kindStates .bcast (axes.zip S)) = .ok sts →
    sts.length = axes.length ∧ ∀ j (a : Ax) st, axes[j]? = some a → sts[j]? = some st →
      match a with
      | .axis k => ∃ col, column j rows = .ok col ∧ stackStates (stackFront k) col = .ok st
      | .carry => F[j]? = some st
      | .bcast => S[j]? = some st := by
  intro axes
  induction axes with
  | nil =>
    intro rows F S V sts _ _ _ _ hU
    cases hU
    exact ⟨rfl, fun j a st h => by simp at h⟩
  | cons a rest ih =>
    intro rows F S V sts hrows hF hS hV hU
    obtain ⟨f0, ft, rfl⟩ : ∃ f0 ft, F = f0 :: ft := by cases F with | nil => simp at hF | cons x xs => exact ⟨x, xs, rfl⟩
    obtain ⟨s0, st', rfl⟩ : ∃ s0 st', S = s0 :: st' := by cases S with | nil => simp at hS | cons x xs => exact ⟨x, xs, rfl⟩
    have hrow : ∀ row ∈ rows, ∃ x xs, row = x :: xs := by
      intro row hr
      have := hrows row hr
      cases row with
      | nil => simp at this
      | cons x xs => exact ⟨x, xs, rfl⟩
    have hrows' : ∀ row ∈ rows.map (·.drop 1), row.length = rest.length := by
      intro row hr
      obtain ⟨r, hr', rfl⟩ := List.mem_map.1 hr
      have := hrows r hr'
      simp only [List.length_cons] at this
      simp [this]
    have hF' : ft.length = rest.length := by simpa using hF
    have hS' : st'.length = rest.length := by simpa using hS
    -- the head state `h0` holds what the head axis asks; the states of the later groups come from the induction
    -- hypothesis on the rows without their first state
    have step : ∀ {V' sts' : List (State α)} (h0 : State α),
        (match a with
          | .axis k => ∃ col, column 0 rows = .ok col ∧ stackStates (stackFront k) col = .ok h0
          | .carry => (f0 :: ft)[0]? = some h0
          | .bcast => (s0 :: st')[0]? = some h0) →
        scanCollectVecK (axisKs rest) (rows.map (fun row => vecStates rest (row.drop 1))) = .ok V' →
        unrouteStates rest V' (kindStates .carry (rest.zip ft)) (kindStates .bcast (rest.zip st')) = .ok sts' →
        (h0 :: sts').length = (a :: rest).length ∧ ∀ j (a' : Ax) st, (a :: rest)[j]? = some a' →
          (h0 :: sts')[j]? = some st →
          match a' with
          | .axis k => ∃ col, column j rows = .ok col ∧ stackStates (stackFront k) col = .ok st
          | .carry => (f0 :: ft)[j]? = some st
          | .bcast => (s0 :: st')[j]? = some st := by
      intro V' sts' h0 hh h1 h2
      obtain ⟨hl, hg⟩ := ih (rows.map (·.drop 1)) ft st' V' sts' hrows' hF' hS' (by rw [List.map_map]; exact h1) h2
      refine ⟨by simp [hl], fun j a' st ha hst => ?_⟩
      cases j with
      | zero =>
        simp only [List.getElem?_cons_zero, Option.some.injEq] at ha hst
        subst ha; subst hst
        cases a <;> exact hh
      | succ j =>
        have := hg j a' st (by simpa using ha) (by simpa using hst)
        cases a' with
        | axis k =>
          obtain ⟨col, h1, h2⟩ := this
          exact ⟨col, by rw [Nat.add_comm, ← column_drop 1]; exact h1, h2⟩
        | carry => simpa using this
        | bcast => simpa using this
    cases a with
    | axis k =>
      have e : rows.map (vecStates (Ax.axis k :: rest)) =
          rows.map (fun row => row.getD 0 [] :: vecStates rest (row.drop 1)) :=
        List.map_congr_left (fun row hr => by obtain ⟨x, xs, rfl⟩ := hrow row hr; rfl)
      have hk : axisKs (Ax.axis k :: rest) = k :: axisKs rest := rfl
      rw [e, hk] at hV
      simp only [scanCollectVecK, column0_cons, List.map_map, Function.comp_def, List.drop_succ_cons,
        List.drop_zero] at hV
      cases hst : stackStates (stackFront k) (rows.map (fun i => i.getD 0 [])) with
      | error e => simp only [hst] at hV; cases hV
      | ok st0 =>
        simp only [hst] at hV
        cases hr : scanCollectVecK (axisKs rest) (rows.map (fun x => vecStates rest (x.drop 1))) with
        | error e => simp only [hr] at hV; cases hV
        | ok r =>
          simp only [hr] at hV
          cases hV
          obtain ⟨sts', hu, rfl⟩ := map_ok.1 ((unrouteStates_axis k rest st0 r _ _).symm.trans hU)
          exact step st0 ⟨_, column_getD 0 [] rows (fun row hr => by rw [hrows row hr]; simp), hst⟩ hr hu
    | carry =>
      have e : rows.map (vecStates (Ax.carry :: rest)) = rows.map (fun row => vecStates rest (row.drop 1)) :=
        List.map_congr_left (fun row hr => by obtain ⟨x, xs, rfl⟩ := hrow row hr; rfl)
      have hk : axisKs (Ax.carry :: rest) = axisKs rest := rfl
      rw [e, hk] at hV
      obtain ⟨sts', hu, rfl⟩ := map_ok.1 ((unrouteStates_carry rest f0 V _ _).symm.trans hU)
      exact step f0 rfl hV hu
    | bcast =>
      have e : rows.map (vecStates (Ax.bcast :: rest)) = rows.map (fun row => vecStates rest (row.drop 1)) :=
        List.map_congr_left (fun row hr => by obtain ⟨x, xs, rfl⟩ := hrow row hr; rfl)
      have hk : axisKs (Ax.bcast :: rest) = axisKs rest := rfl
      rw [e, hk] at hV
      obtain ⟨sts', hu, rfl⟩ := map_ok.1 ((unrouteStates_bcast rest s0 V _ _).symm.trans hU)
      exact step s0 rfl hV hu

theorem item_of_keys {fl n0 : Flat α} (hnd : (n0.map (·.1)).Nodup)
    (hk : fl.map (fun x => (x.1, x.2.1)) = n0.map (fun x => (x.1, x.2.1))) {x : Path × VarInfo × Arr α} (hx : x ∈ n0)
    {z : Path × VarInfo × Arr α} (hz : z ∈ fl) (hp : z.1 = x.1) : z.2.1 = x.2.1 := by
  obtain ⟨y, hy, hy1, hy2⟩ := mem_of_keys (fl := n0) (fl0 := fl) hk.symm hz
  cases Assoc.eq_of_nodup_map hnd hy hx (hy1.trans hp)
  exact hy2.symm

/-- what `stackFront` returns, `jnp.stack` along `k` returns (one way of C06's `stackFront_eq_ok`) -/
theorem stackFront_ok_stackAt {k : Int} {sh : List Nat} {ls : List (Arr α)} {v : Arr α}
    (h : liftL (stackFront k sh ls) = .ok v) : liftL (stackAt k sh ls) = .ok v :=
  liftL_ok.2 (stackFront_eq_ok.1 (liftL_ok.1 h))

theorem stackStates_front {k : Int} {col : List (State α)} {st : State α}
    (h : stackStates (stackFront k) col = .ok st) : stackStates (stackAt k) col = .ok st := by
  cases col with
  | nil => cases h
  | cons s0 t =>
    simp only [stackStates] at h ⊢
    refine mapX_imp_pos _ _ _ rfl (fun j h1 _ y hy => ?_) h
    generalize mapX _ (s0 :: t) = m at hy ⊢
    cases m with
    | error e => cases hy
    | ok ls =>
      simp only [] at hy ⊢
      cases hst : liftL (stackFront k s0[j].2.shape ls) with
      | error e => simp [hst] at hy
      | ok a => simp only [hst] at hy; simp only [stackFront_ok_stackAt hst]; exact hy

/-- what a Variable of one graph node ends with after `nnx.scan`, by the axis of its group: its per-iteration values put
together as `nnx.vmap` would (`collectVal`), the value the last iteration left, or its original value -/
def ScanEnds (flats : List (Flat α)) (flatF flatS : Flat α) (a : Ax) (y : Path × VarInfo × Arr α) (v : Arr α) :
    Prop :=
  match a with
  | .axis k => ∃ vs, mapX (fun fl => valAt fl y.1) flats = .ok vs ∧ collectVal (.axis k) vs = .ok v
  | .carry => valAt flatF y.1 = .ok v
  | .bcast => valAt flatS y.1 = .ok v

/-- `rows` are the states of the per-iteration values, `stsF` / `stsS` those of the values the last iteration left / of
the original values.  Group by group the rebuilt states hold what `unroute_groups` says, so a look-up by path gives
`ScanEnds`. -/
theorem scan_final_lookup {p : Prefix} {n0 : Flat α} {rest : List (Flat α)} {flatF flatS : Flat α}
    (hnd : (n0.map (·.1)).Nodup)
    (hkeys : ∀ fl ∈ n0 :: rest, fl.map (fun x => (x.1, x.2.1)) = n0.map (fun x => (x.1, x.2.1)))
    (hkF : flatF.map (fun x => (x.1, x.2.1)) = n0.map (fun x => (x.1, x.2.1)))
    (hkS : flatS.map (fun x => (x.1, x.2.1)) = n0.map (fun x => (x.1, x.2.1)))
    {rows : List (List (State α))} {stsF stsS : List (State α)}
    (hrows : mapX (splitFlat p) (n0 :: rest) = .ok rows) (hsF : splitFlat p flatF = .ok stsF)
    (hsS : splitFlat p flatS = .ok stsS)
    {V sts : List (State α)} (hV : scanCollectVec p.axes (rows.map (vecStates p.axes)) = .ok V)
    (hU : unrouteStates p.axes V (kindStates .carry (p.axes.zip stsF)) (kindStates .bcast (p.axes.zip stsS)) = .ok sts) :
    ∀ x ∈ n0, ∃ a v, axAt p x.1 x.2.1 = some a ∧ ScanEnds (n0 :: rest) flatF flatS a x v ∧
      sts.flatten.lookup x.1 = some v := by
  have hm : ∀ row ∈ rows, row.length = p.axes.length := fun row hr =>
    let ⟨_, _, hfl⟩ := mapX_ok_mem_rev hrows row hr; (splitFlat_spec hfl).1
  obtain ⟨hlen, hgrp⟩ := unroute_groups p.axes rows stsF stsS V sts hm (splitFlat_spec hsF).1 (splitFlat_spec hsS).1 hV hU
  obtain ⟨row0, _, hrow0, _, _⟩ := mapX_cons_ok hrows
  exact lookup_by_axis hnd (p := p) (sts := sts) (Q := ScanEnds (n0 :: rest) flatF flatS)
    (fun a y v v' h h' => by
      cases a with
      | axis k =>
        obtain ⟨vs, hvs, hv⟩ := h
        obtain ⟨vs', hvs', hv'⟩ := h'
        cases hvs.symm.trans hvs'
        exact Except.ok.inj (hv.symm.trans hv')
      | carry => exact Except.ok.inj (h.symm.trans h')
      | bcast => exact Except.ok.inj (h.symm.trans h'))
    hlen (split_group_lt hrow0 rfl) (fun g a s ha hs => by
      have hgs := hgrp g a s ha hs
      cases a with
      | axis k =>
        obtain ⟨col, hcol, hst⟩ := hgs
        obtain ⟨hlen', hh⟩ := holds_column hnd hkeys hrows hcol
        exact holds_collect hnd hlen' hh (a := .axis k) (stackStates_front hst)
      | carry => exact holds_split hnd hkF hsF hgs
      | bcast => exact holds_split hnd hkS hsS hgs)

/-- A fresh result node has empty carry and broadcast deques, so `_scan_merge_out` walks integer axes only, one `popleft`
each: the state popped at position `s` is the stack of column `s`, as in `vmapCollectStates`. -/
theorem scanCollectVecK_vmap : ∀ (axes : List Ax) (s : Nat) (rows : List (List (State α))) (V sts : List (State α)),
    scanCollectVecK (axisKs axes) (rows.map (·.drop s)) = .ok V → unrouteStates axes V [] [] = .ok sts →
    mapX (fun q => match column q.1 rows with
      | .error e => .error e
      | .ok col => vmapCollectState col q.2) ((List.range' s axes.length).zip axes) = .ok sts := by
  intro axes
  induction axes with
  | nil => intro s rows V sts _ hu; cases hu; rfl
  | cons a rest ih =>
    intro s rows V sts hV hu
    cases a with
    | bcast => cases hu
    | carry => cases hu
    | axis k =>
      have hk : axisKs (Ax.axis k :: rest) = k :: axisKs rest := rfl
      have hd : (rows.map (·.drop s)).map (·.drop 1) = rows.map (·.drop (s + 1)) := by
        simp [List.map_map, Function.comp_def]
      rw [hk] at hV
      simp only [scanCollectVecK, column_drop, Nat.add_zero, hd] at hV
      cases hcol : column s rows with
      | error e => simp [hcol] at hV
      | ok col =>
        simp only [hcol] at hV
        cases hst : stackStates (stackFront k) col with
        | error e => simp [hst] at hV
        | ok st =>
          simp only [hst] at hV
          cases hr : scanCollectVecK (axisKs rest) (rows.map (·.drop (s + 1))) with
          | error e => simp [hr] at hV
          | ok r =>
            simp only [hr] at hV
            cases hV
            obtain ⟨r', hu', rfl⟩ := map_ok.1 ((unrouteStates_axis k rest st r _ _).symm.trans hu)
            simp only [List.length_cons, List.range'_succ, List.zip_cons_cons]
            exact mapX_cons_of_ok (by simp only [hcol, vmapCollectState]; exact stackStates_front hst)
              (ih (s + 1) rows r r' hr hu')

theorem scanCollectOut_vmap {p0 : PureOut α} {col : List (PureOut α)} {out : Out α}
    (h : scanCollectOut p0 col = .ok out) : vmapCollectOut p0 col = .ok out := by
  cases p0 with
  | arr p a0 =>
    cases p with
    | sa s => cases h
    | ax a =>
      cases a with
      | carry => cases h
      | bcast => cases h
      | axis k =>
        simp only [scanCollectOut, vmapCollectOut] at h ⊢
        cases hm : mapX outArr col with
        | error e => simp [hm] at h
        | ok ls =>
          simp only [hm] at h ⊢
          cases hst : liftL (stackFront k a0.shape ls) with
          | error e => simp [hst] at h
          | ok v => simp only [hst] at h; simp only [stackFront_ok_stackAt hst]; exact h
  | node p vs sts0 =>
    simp only [scanCollectOut, vmapCollectOut] at h ⊢
    cases hrows : mapX outStates col with
    | error e => simp [hrows] at h
    | ok rows =>
      simp only [hrows] at h ⊢
      cases hcv : scanCollectVec p.axes rows with
      | error e => simp [hcv] at h
      | ok V =>
        simp only [hcv] at h
        cases hun : unrouteStates p.axes V [] [] with
        | error e => simp [hun] at h
        | ok sts =>
          simp only [hun] at h
          have hcs : vmapCollectStates p.axes rows = .ok sts := by
            rw [vmapCollectStates, List.range_eq_range']
            exact scanCollectVecK_vmap p.axes 0 rows V sts (by simpa [scanCollectVec] using hcv) hun
          simp only [hcs]
          exact h

theorem scan_collect_out {q : Prefix} {o0 : Out α} {orest : List (Out α)} {p0 : PureOut α} {prest : List (PureOut α)}
    {out : Out α} (hsp : mapX (fun o => splitOut (q, o)) (o0 :: orest) = .ok (p0 :: prest))
    (hwf : OutColWF (o0 :: orest)) (hc : scanCollectOut p0 (p0 :: prest) = .ok out) :
    collectOut q (o0 :: orest) = .ok out :=
  vmap_collect_out hsp hwf (scanCollectOut_vmap hc)

end sc

end Flax.NnxLoop
