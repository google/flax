/- Attention (`Flax/Model/Seq.lean` §2): the hypothesis on the row function (`SeesOnlyVisible`); the allowed pairs of a row as a
function of the mask; the invariant of the decode cache;
the softmax weights scattered over a masked row, under a weighted sum that ignores weight zero. -/
import Flax.Model.Seq

namespace Flax.C13
open Flax.Seq

section Attn
variable {Q K V B S O : Type}

/-- A-SOFTMAX as a hypothesis on the abstract row function: softmax-then-weighted-sum sees a row only
through its allowed (logit, value) pairs. (For the real code: `exp(finfo.min - max)` underflows to exactly 0
when at least one entry is allowed, `0 * v = 0` for finite `v`, and `x + 0 = x`.) -/
def SeesOnlyVisible (cfg : AttnCfg Q K V B S O) : Prop :=
  ∀ r r' : List (Option S × V), visible r = visible r' → cfg.attend r = cfg.attend r'

end Attn

end Flax.C13

namespace Flax.Seq
open Flax.C13 (SeesOnlyVisible)
section Attn
variable {Q K V B S O : Type}

theorem attnWholeFrom_length (cfg : AttnCfg Q K V B S O) (kvs : List (K × V)) (bias : Nat → Nat → B)
    (mask : Nat → Nat → Bool) (qs : List Q) (i0 : Nat) :
    (attnWholeFrom cfg kvs bias mask i0 qs).length = qs.length := by
  induction qs generalizing i0 with
  | nil => rfl
  | cons q qs ih => simp [attnWholeFrom, ih]

theorem getElem?_attnWholeFrom (cfg : AttnCfg Q K V B S O) (kvs : List (K × V)) (bias : Nat → Nat → B)
    (mask : Nat → Nat → Bool) (qs : List Q) (i0 i : Nat) :
    (attnWholeFrom cfg kvs bias mask i0 qs)[i]? =
      (qs[i]?).map fun q => attnRow cfg q kvs (bias (i0 + i)) (mask (i0 + i)) := by
  induction qs generalizing i0 i with
  | nil => rfl
  | cons q qs ih =>
    cases i with
    | zero => rfl
    | succ i => simp [attnWholeFrom, ih, Nat.add_assoc, Nat.add_comm 1 i]

theorem visible_cons_none (v : V) (r : List (Option S × V)) : visible ((none, v) :: r) = visible r := rfl

theorem visible_cons_some (s : S) (v : V) (r : List (Option S × V)) : visible ((some s, v) :: r) = (s, v) :: visible r :=
  rfl

theorem visible_slotsFrom_cons (score : Q → K → S) (addBias : S → B → S) (q : Q) (bias : Nat → B)
    (mask : Nat → Bool) (x : K × V) (l : List (K × V)) (j : Nat) :
    visible (rowOf score addBias q (slotsFrom bias mask j (x :: l))) =
      if mask j = true then
        (addBias (score q x.1) (bias j), x.2) :: visible (rowOf score addBias q (slotsFrom bias mask (j + 1) l))
      else visible (rowOf score addBias q (slotsFrom bias mask (j + 1) l)) := by
  cases h : mask j <;> simp [slotsFrom, rowOf, visible_cons_none, visible_cons_some, h]

theorem visible_eq_nil (score : Q → K → S) (addBias : S → B → S) (q : Q) (bias : Nat → B)
    (mask : Nat → Bool) (l : List (K × V)) (j : Nat) (h : ∀ k, mask (j + k) = true → l[k]? = none) :
    visible (rowOf score addBias q (slotsFrom bias mask j l)) = [] := by
  induction l generalizing j with
  | nil => rfl
  | cons x l ih =>
    rw [visible_slotsFrom_cons, if_neg fun (hm : mask j = true) => nomatch h 0 hm]
    exact ih (j + 1) fun k hm => h (k + 1) (by rwa [Nat.add_assoc, Nat.add_comm 1 k] at hm)

/-- `l[k]? = l'[k]?`: a position present in only one of the two sequences has to be masked -/
theorem visible_congr (score : Q → K → S) (addBias : S → B → S) (q : Q) (bias bias' : Nat → B) (mask : Nat → Bool)
    (l l' : List (K × V)) (j : Nat)
    (h : ∀ k, mask (j + k) = true → l[k]? = l'[k]? ∧ (k < l.length → bias (j + k) = bias' (j + k))) :
    visible (rowOf score addBias q (slotsFrom bias mask j l)) =
      visible (rowOf score addBias q (slotsFrom bias' mask j l')) := by
  induction l generalizing l' j with
  | nil => exact (visible_eq_nil _ _ _ _ _ l' j fun k hm => (h k hm).1.symm).symm
  | cons x l ih =>
    cases l' with
    | nil => exact visible_eq_nil _ _ _ _ _ (x :: l) j fun k hm => (h k hm).1
    | cons x' l' =>
      rw [visible_slotsFrom_cons, visible_slotsFrom_cons, ih l' (j + 1) fun k hm => by
        rw [Nat.add_assoc, Nat.add_comm 1 k] at hm ⊢
        exact ⟨by simpa using (h (k + 1) hm).1, fun hk => (h (k + 1) hm).2 (Nat.succ_lt_succ hk)⟩]
      cases hmj : mask j with
      | false => rfl
      | true =>
        have hx : x = x' := by simpa using (h 0 hmj).1
        have hb : bias j = bias' j := (h 0 hmj).2 (Nat.zero_lt_succ _)
        rw [hx, hb]

theorem attnRow_congr (cfg : AttnCfg Q K V B S O)
    (h : SeesOnlyVisible cfg) (q : Q)
    (kvs kvs' : List (K × V)) (bias bias' : Nat → B) (mask : Nat → Bool)
    (hkv : ∀ j, mask j = true → kvs[j]? = kvs'[j]? ∧ (j < kvs.length → bias j = bias' j)) :
    attnRow cfg q kvs bias mask = attnRow cfg q kvs' bias' mask :=
  h _ _ (visible_congr _ _ _ _ _ _ _ _ 0 fun k => by rw [Nat.zero_add]; exact hkv k)

theorem Cache.write_append (done tail : List (K × V)) (x kv : K × V) :
    Cache.write ⟨done ++ x :: tail, done.length⟩ kv = ⟨(done ++ [kv]) ++ tail, (done ++ [kv]).length⟩ := by
  simp [Cache.write]

/-- The invariant of decoding, for any contents `tail` of the slots not yet written: unwritten slots and the
keys/values of later steps lie after the causal position of each row. -/
theorem decodeRun_eq_attnWholeFrom (cfg : AttnCfg Q K V B S O)
    (h : SeesOnlyVisible cfg) (bias : Nat → Nat → B)
    (user : Nat → Nat → Bool) (rest : List (Q × (K × V))) (done tail : List (K × V))
    (hL : rest.length ≤ tail.length) :
    decodeRun cfg bias user ⟨done ++ tail, done.length⟩ rest =
      attnWholeFrom cfg (done ++ rest.map Prod.snd) bias (causal user) done.length (rest.map Prod.fst) := by
  induction rest generalizing done tail with
  | nil => rfl
  | cons s r ih =>
    obtain ⟨q, kv⟩ := s
    cases tail with
    | nil => cases hL
    | cons x tail' =>
      simp only [decodeRun, decodeStep, attnWholeFrom, List.map_cons, Cache.write_append]
      congr 1
      · apply attnRow_congr cfg h
        intro j hj
        have hj : j < (done ++ [kv]).length := by
          have : j ≤ done.length := of_decide_eq_true (Bool.and_eq_true _ _ ▸ hj).1
          simpa using Nat.lt_succ_of_le this
        refine ⟨?_, fun _ => rfl⟩
        rw [List.getElem?_append_left hj, List.append_cons done kv (r.map Prod.snd), List.getElem?_append_left hj]
      · simpa using ih (done ++ [kv]) tail' (Nat.le_of_succ_le_succ hL)

theorem wsum_scatter {W : Type} (ops : SoftmaxOps S W V O) (zero : W)
    (h2 : ∀ (a b : List (W × V)) (v : V), ops.wsum (a ++ (zero, v) :: b) = ops.wsum (a ++ b))
    (row : List (Option S × V)) : ∀ (ws : List W) (acc : List (W × V)),
    ws.length = (visible row).length →
    ops.wsum (acc ++ (scatter zero (row.map (·.1)) ws).zip (row.map (·.2))) =
      ops.wsum (acc ++ ws.zip ((visible row).map (·.2))) := by
  induction row with
  | nil => intro ws acc h; simp [scatter, visible]
  | cons p row ih =>
    intro ws acc h
    obtain ⟨s, v⟩ := p
    cases s with
    | none =>
      rw [visible_cons_none] at h ⊢
      simp only [List.map_cons, scatter, List.zip_cons_cons, h2]
      exact ih ws acc h
    | some s =>
      rw [visible_cons_some] at h ⊢
      cases ws with
      | nil => cases h
      | cons w ws => simpa [scatter] using ih ws (acc ++ [(w, v)]) (Nat.succ.inj h)

theorem map_fst_visible (row : List (Option S × V)) : (visible row).map (·.1) = (row.map (·.1)).filterMap id := by
  rw [visible, List.map_filterMap, List.filterMap_map]
  congr 1
  funext ⟨s, v⟩
  cases s <;> rfl

/-- `h1`: the softmax gives weight `zero` to the masked positions and `sm` of the allowed logits to the others;
`h2`: the weighted sum ignores weight `zero`. -/
theorem attendOf_eq_wsum_visible {W : Type} (ops : SoftmaxOps S W V O) (zero : W) (sm : List S → List W)
    (hsm : ∀ l, (sm l).length = l.length)
    (h1 : ∀ row : List (Option S), ops.softmax (row.map (·.getD ops.bigNeg)) = scatter zero row (sm (row.filterMap id)))
    (h2 : ∀ (a b : List (W × V)) (v : V), ops.wsum (a ++ (zero, v) :: b) = ops.wsum (a ++ b))
    (row : List (Option S × V)) :
    attendOf ops row = ops.wsum ((sm ((visible row).map (·.1))).zip ((visible row).map (·.2))) := by
  have hs := h1 (row.map (·.1))
  rw [List.map_map, ← map_fst_visible] at hs
  rw [attendOf, show (row.map fun p => p.1.getD ops.bigNeg) = row.map ((·.getD ops.bigNeg) ∘ (·.1)) from rfl, hs]
  simpa using wsum_scatter ops zero h2 row (sm ((visible row).map (·.1))) [] (by simp [hsm])

end Attn
end Flax.Seq
