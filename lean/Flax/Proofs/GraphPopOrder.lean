/- `pop` with arbitrary filters, in DFS order.  `enc` (the encounters of the DFS of `flatten`, GraphFirst.lean) is also
the order in which `_graph_pop` meets references.  An encounter `(b, q)` *matches* when `b` is a Variable and some
predicate holds for `(q, b)`.  A Variable is popped iff it has a matching encounter; it is returned under the path of
its FIRST matching encounter; and the attribute of every encounter at or after that one is removed. -/
import Flax.Proofs.GraphPopAny
namespace Flax.Graph
open Flax.Heap
open Flax.Filter (NFilter)

section PopOrder
variable (preds : List NFilter) (h0 : Heap) (root0 : PVal)

/-- some predicate matches the Variable `e.1` at the path `e.2` -/
def encMatches (e : Addr × Path) : Bool :=
  match h0[e.1]? with
  | some (.var ty val md) => decide (bucketOf preds (e.2, Leaf.vstate ty val md) < preds.length)
  | _ => false

def encPred (b : Addr) (e : Addr × Path) : Bool := decide (e.1 = b) && encMatches preds h0 e

/-- `b` has a matching encounter in `E` -/
def popped (E : Log) (b : Addr) : Bool := E.any (encPred preds h0 b)

/-- the path of the first matching encounter of `b` -/
def firstM (E : Log) (b : Addr) : Option Path := (E.find? (encPred preds h0 b)).map (·.2)

def KeyGone (hp : Heap) (a : Addr) (k : Key) : Prop :=
  ∀ cls live, hp[a]? = some (.node cls live) → ∀ kv ∈ live, kv.1 ≠ k

variable {preds h0 root0}

theorem popped_snoc (E : Log) (e : Addr × Path) (b : Addr) :
    popped preds h0 (E ++ [e]) b = (popped preds h0 E b || encPred preds h0 b e) := by
  simp [popped, List.any_append]

theorem firstM_append (E X : Log) (b : Addr) :
    firstM preds h0 (E ++ X) b = (firstM preds h0 E b).or (firstM preds h0 X b) := by
  simp only [firstM, List.find?_append]
  cases List.find? (encPred preds h0 b) E <;> simp

theorem firstM_none_iff (E : Log) (b : Addr) : firstM preds h0 E b = Option.none ↔ popped preds h0 E b = false := by
  simp [firstM, popped, List.find?_eq_none, List.any_eq_false]

theorem firstM_stable {E : Log} {b : Addr} {q : Path} (X : Log) (h : firstM preds h0 E b = some q) :
    firstM preds h0 (E ++ X) b = some q := by
  rw [firstM_append, h]; rfl

theorem firstM_some_of_popped {E : Log} {b : Addr} (h : popped preds h0 E b = true) : ∃ q, firstM preds h0 E b = some q := by
  cases hf : firstM preds h0 E b with
  | none => rw [(firstM_none_iff E b).mp hf] at h; cases h
  | some q => exact ⟨q, rfl⟩

theorem KeyGone.mono {hp hp' : Heap} {a : Addr} {k : Key} (s : PShape hp hp') (g : KeyGone hp a k) : KeyGone hp' a k := by
  intro cls live' hg kv hkv
  obtain ⟨live, ho, hsub⟩ := s.node_back hg
  exact g _ live ho kv (hsub kv hkv)

theorem keyGone_erase (hp : Heap) (a : Addr) (k : Key) : KeyGone (eraseAttr hp a k) a k := by
  intro cls live hg kv hkv
  obtain ⟨attrs0, h0, _⟩ := (eraseAttr_shape hp a k).node_back hg
  rw [eraseAttr_self k h0] at hg
  cases hg
  exact (mem_eraseKV.mp hkv).2

theorem snoc_decomp {α : Type} {E E1 E2 : List α} {e x : α} (h : E ++ [e] = E1 ++ x :: E2) :
    (E2 = [] ∧ E1 = E ∧ x = e) ∨ ∃ E2', E2 = E2' ++ [e] ∧ E = E1 ++ x :: E2' := by
  rcases List.append_eq_append_iff.mp h with ⟨as, h1, h2⟩ | ⟨bs, h1, h2⟩
  · cases as with
    | nil => simp at h2; obtain ⟨rfl, rfl⟩ := h2; exact Or.inl ⟨rfl, by simpa using h1, rfl⟩
    | cons y ys => simp at h2
  · cases bs with
    | nil => simp at h2; obtain ⟨rfl, rfl⟩ := h2; exact Or.inl ⟨rfl, by simpa using h1.symm, rfl⟩
    | cons y ys =>
      simp at h2
      exact Or.inr ⟨ys, h2.2, by rw [h1, h2.1]⟩

/-- the order invariant over the encounters `E` seen so far: popped = has a matching encounter (`vis`); the outputs are
the first matching encounters, all of them (`outF`, `outC`); every encounter from a match on has lost its attribute (`rem`) -/
structure Ord (preds : List NFilter) (h0 : Heap) (root0 : PVal) (E : Log) (st : PopSt) : Prop where
  len : st.out.length = preds.length
  vis : ∀ (b : Nat) ty val md, h0[b]? = some (.var ty val md) → (b ∈ st.visited ↔ popped preds h0 E b = true)
  outF : ∀ i it, it ∈ st.out.getD i [] → ∃ (b : Nat), firstM preds h0 E b = some it.1
  outC : ∀ (b : Nat), popped preds h0 E b = true → ∃ i it, it ∈ st.out.getD i [] ∧ firstM preds h0 E b = some it.1
  rem : ∀ E1 e E2, E = E1 ++ e :: E2 → popped preds h0 (E1 ++ [e]) e.1 = true →
    ∃ (a : Nat), ∃ k q', e.2 = q' ++ [k] ∧ resolve h0 root0 q' = some (.ref a) ∧ KeyGone st.heap a k

theorem Ord.not_popped {E : Log} {st : PopSt} (o : Ord preds h0 root0 E st) {b : Nat} {ty : VType} {val : Data} {md : Meta}
    (hb0 : h0[b]? = some (.var ty val md)) (hnv : b ∉ st.visited) : popped preds h0 E b = false :=
  Bool.eq_false_iff.mpr fun hx => hnv ((o.vis b ty val md hb0).mpr hx)

theorem Ord.snoc_nomatch {E : Log} {st : PopSt} (o : Ord preds h0 root0 E st) (e : Addr × Path)
    (hm : encMatches preds h0 e = false) (hnp : popped preds h0 E e.1 = false) : Ord preds h0 root0 (E ++ [e]) st := by
  have hp : ∀ b, popped preds h0 (E ++ [e]) b = popped preds h0 E b := by
    intro b; rw [popped_snoc, encPred, hm, Bool.and_false, Bool.or_false]
  refine ⟨o.len, ?_, ?_, ?_, ?_⟩
  · intro b ty val md hb; rw [hp]; exact o.vis b ty val md hb
  · intro i it hit; obtain ⟨b, hb⟩ := o.outF i it hit; exact ⟨b, firstM_stable _ hb⟩
  · intro b hb; rw [hp] at hb; obtain ⟨i, it, h1, h2⟩ := o.outC b hb; exact ⟨i, it, h1, firstM_stable _ h2⟩
  · intro E1 x E2 hd hpx
    rcases snoc_decomp hd with ⟨_, rfl, rfl⟩ | ⟨E2', _, hE⟩
    · rw [hp] at hpx
      rw [hnp] at hpx; cases hpx
    · exact o.rem E1 x E2' hE hpx

theorem encMatches_of_node {e : Addr × Path} (hn : ∀ ty val md, h0[e.1]? ≠ some (.var ty val md)) :
    encMatches preds h0 e = false := by
  unfold encMatches
  split
  · next ty val md ho => exact absurd ho (hn ty val md)
  · rfl

theorem popped_of_node {E : Log} {a : Addr} (hn : ∀ ty val md, h0[a]? ≠ some (.var ty val md)) :
    popped preds h0 E a = false := by
  simp only [popped, List.any_eq_false, encPred, Bool.and_eq_true, decide_eq_true_eq, not_and]
  intro e _ he
  rw [encMatches_of_node (he ▸ hn)]
  exact Bool.false_ne_true

theorem Ord.reg_node {E : Log} {st : PopSt} (o : Ord preds h0 root0 E st) {a : Nat}
    (hn : ∀ ty val md, h0[a]? ≠ some (.var ty val md)) :
    Ord preds h0 root0 E { st with visited := st.visited ++ [a] } := by
  refine ⟨o.len, ?_, o.outF, o.outC, o.rem⟩
  intro b ty val md hb
  have : b ≠ a := fun e => hn ty val md (e ▸ hb)
  simp only [List.mem_append, List.mem_singleton, this, or_false]
  exact o.vis b ty val md hb

theorem Ord.rem_erase {E : Log} {st : PopSt} (o : Ord preds h0 root0 E st) {a : Nat} (b : Nat) (k : Key) {q' : Path}
    (hres : resolve h0 root0 q' = some (.ref a)) :
    ∀ E1 e E2, E ++ [(b, q' ++ [k])] = E1 ++ e :: E2 → popped preds h0 (E1 ++ [e]) e.1 = true →
      ∃ (a' : Nat), ∃ k' p, e.2 = p ++ [k'] ∧ resolve h0 root0 p = some (.ref a') ∧
        KeyGone (eraseAttr st.heap a k) a' k' := by
  intro E1 x E2 hd hpx
  rcases snoc_decomp hd with ⟨_, rfl, rfl⟩ | ⟨E2', _, hE⟩
  · exact ⟨a, k, q', rfl, hres, keyGone_erase _ _ _⟩
  · obtain ⟨a', k', p, e1, e2, e3⟩ := o.rem E1 x E2' hE hpx
    exact ⟨a', k', p, e1, e2, e3.mono (eraseAttr_shape _ _ _)⟩

theorem Ord.erase_popped {E : Log} {st : PopSt} (o : Ord preds h0 root0 E st) {a b : Nat} (k : Key) {q' : Path}
    {ty : VType} {val : Data} {md : Meta} (hb0 : h0[b]? = some (.var ty val md))
    (hres : resolve h0 root0 q' = some (.ref a)) (hv : b ∈ st.visited) :
    Ord preds h0 root0 (E ++ [(b, q' ++ [k])]) { st with heap := eraseAttr st.heap a k } := by
  have hp : ∀ b', popped preds h0 (E ++ [(b, q' ++ [k])]) b' = popped preds h0 E b' := by
    intro b'
    rw [popped_snoc]
    by_cases e : b = b'
    · subst e; rw [(o.vis b ty val md hb0).mp hv]; rfl
    · simp [encPred, e]
  refine ⟨o.len, ?_, ?_, ?_, o.rem_erase b k hres⟩
  · intro b' ty' val' md' hb'; rw [hp]; exact o.vis b' ty' val' md' hb'
  · intro i it hit; obtain ⟨b', hb'⟩ := o.outF i it hit; exact ⟨b', firstM_stable _ hb'⟩
  · intro b' hb'; rw [hp] at hb'; obtain ⟨i, it, h1, h2⟩ := o.outC b' hb'
    exact ⟨i, it, h1, firstM_stable _ h2⟩

theorem Ord.erase_pop {E : Log} {st : PopSt} (o : Ord preds h0 root0 E st) {a b : Nat} {k : Key} {q' : Path}
    {ty : VType} {val : Data} {md : Meta} (hb0 : h0[b]? = some (.var ty val md))
    (hres : resolve h0 root0 q' = some (.ref a)) (hnv : b ∉ st.visited)
    (hlt : bucketOf preds (q' ++ [k], Leaf.vstate ty val md) < preds.length) :
    Ord preds h0 root0 (E ++ [(b, q' ++ [k])])
      { heap := eraseAttr st.heap a k, visited := st.visited ++ [b],
        out := pushOut st.out (bucketOf preds (q' ++ [k], Leaf.vstate ty val md)) (q' ++ [k], Leaf.vstate ty val md) } := by
  have hm : encMatches preds h0 (b, q' ++ [k]) = true := by simp [encMatches, hb0, hlt]
  have hpE : ∀ b', popped preds h0 (E ++ [(b, q' ++ [k])]) b' = (popped preds h0 E b' || decide (b = b')) := by
    intro b'; rw [popped_snoc, encPred, hm, Bool.and_true]
  have hnpE := o.not_popped hb0 hnv
  have hmemb := mem_pushOut_getD (it := (q' ++ [k], Leaf.vstate ty val md)) (show _ < st.out.length by rw [o.len]; exact hlt)
  have hfb : firstM preds h0 (E ++ [(b, q' ++ [k])]) b = some (q' ++ [k]) := by
    rw [firstM_append, (firstM_none_iff E b).mpr hnpE]
    simp [firstM, encPred, hm]
  refine ⟨by rw [pushOut_length]; exact o.len, ?_, ?_, ?_, o.rem_erase b k hres⟩
  · intro b' ty' val' md' hb'
    rw [hpE, List.mem_append, List.mem_singleton, o.vis b' ty' val' md' hb', Bool.or_eq_true, decide_eq_true_eq]
    exact or_congr_right ⟨Eq.symm, Eq.symm⟩
  · intro i it hit
    rcases (hmemb i it).mp hit with h1 | ⟨_, rfl⟩
    · obtain ⟨b', hb'⟩ := o.outF i it h1; exact ⟨b', firstM_stable _ hb'⟩
    · exact ⟨b, hfb⟩
  · intro b' hb'
    rw [hpE, Bool.or_eq_true, decide_eq_true_eq] at hb'
    rcases hb' with hb' | rfl
    · obtain ⟨i, it, h1, h2⟩ := o.outC b' hb'
      exact ⟨i, it, (hmemb i it).mpr (Or.inl h1), firstM_stable _ h2⟩
    · exact ⟨_, _, (hmemb _ _).mpr (Or.inr ⟨rfl, rfl⟩), hfb⟩

theorem Ord.step {E : Log} {e : Addr × Path} {st st1 : PopSt} (o : Ord preds h0 root0 E st)
    (s : PopStep preds h0 root0 e st st1) : Ord preds h0 root0 (E ++ [e]) st1 := by
  cases s with
  | seen hn _ _ => exact o.snoc_nomatch _ (encMatches_of_node (node_not_var hn)) (popped_of_node (node_not_var hn))
  | enter hn _ _ =>
    exact (o.snoc_nomatch _ (encMatches_of_node (node_not_var hn)) (popped_of_node (node_not_var hn))).reg_node
      (node_not_var hn)
  | keep hb0 hnv hnlt _ => exact o.snoc_nomatch _ (by simp [encMatches, hb0, hnlt]) (o.not_popped hb0 hnv)
  | again hb0 hv hra _ => exact o.erase_popped _ hb0 hra hv
  | take hb0 hnv hlt hra _ => exact o.erase_pop hb0 hra hnv hlt

theorem Ord.run {E es : Log} {st st' : PopSt} (o : Ord preds h0 root0 E st) (r : PopRun preds h0 root0 es st st') :
    Ord preds h0 root0 (E ++ es) st' := by
  induction r generalizing E with
  | nil => rw [List.append_nil]; exact o
  | cons s _ ih => rw [List.append_cons]; exact ih (o.step s)

theorem ord_init (h : Heap) (root : PVal) :
    Ord preds h root [] { heap := h, visited := [], out := List.map (fun _ => []) preds } := by
  refine ⟨by simp, ?_, ?_, ?_, ?_⟩
  · intro b ty val md _; simp [popped]
  · intro i it hit; simp only [getD_map_nil] at hit; cases hit
  · intro b hb; simp [popped] at hb
  · intro E1 e E2 hd; cases E1 <;> simp at hd

theorem step_shrink {hp : Heap} (hw0 : Heap.wf h0 = true) (s0 : PShape h0 hp) {r u : PVal} (k : Key)
    (hstep : step hp r k = some u) : step h0 r k = some u := by
  cases r with
  | ref a =>
    obtain ⟨cls, live, hg, hl⟩ := step_ref_some hstep
    obtain ⟨attrs0, hg0, hsub⟩ := s0.node_back hg
    exact (step_ref hg0 k).trans (lookupKV_of_mem (heap_wf_node hw0 hg0).1 (hsub _ (lookupKV_mem hl)))
  | _ => exact hstep

theorem resolve_shrink {hp : Heap} (hw0 : Heap.wf h0 = true) (s0 : PShape h0 hp) (q : Path) (r v : PVal)
    (h : resolve hp r q = some v) : resolve h0 r q = some v := by
  obtain ⟨_, hr, rfl⟩ := resolve_rel (R := Eq) (fun k e hs => ⟨_, e ▸ step_shrink hw0 s0 k hs, rfl⟩) q rfl h
  exact hr

theorem firstM_some {E : Log} {b : Addr} {q : Path} (h : firstM preds h0 E b = some q) :
    (b, q) ∈ E ∧ encMatches preds h0 (b, q) = true := by
  simp only [firstM, Option.map_eq_some_iff] at h
  obtain ⟨e, he, rfl⟩ := h
  have hp := List.find?_some he
  simp only [encPred, Bool.and_eq_true, decide_eq_true_eq] at hp
  rw [← hp.1]
  exact ⟨List.mem_of_find?_eq_some he, hp.2⟩

/-- `pop` with arbitrary filters, in terms of the DFS encounters `enc` -/
structure PopOrdered (preds : List NFilter) (h : Heap) (root : PVal) (h' : Heap) (outs : List FlatState) (enc : Log) : Prop where
  /-- every returned entry sits at the FIRST matching encounter of its Variable -/
  returned : ∀ i it, it ∈ outs.getD i [] → ∃ (b : Nat), firstM preds h enc b = some it.1 ∧ resolve h root it.1 = some (.ref b)
  /-- every Variable that has a matching encounter is returned (at its first matching encounter) -/
  complete : ∀ (b : Nat), popped preds h enc b = true → ∃ i it, it ∈ outs.getD i [] ∧ firstM preds h enc b = some it.1
  /-- the reference of every encounter at or after a matching encounter of the same Variable is removed -/
  removed : ∀ E1 e E2, enc = E1 ++ e :: E2 → popped preds h (E1 ++ [e]) e.1 = true →
    resolve h' root e.2 ≠ some (.ref e.1)

/-- No hypothesis on `flatten`: the DFS succeeds, with one unit of budget more, whenever `pop` does (`pop_runs`). -/
theorem pop_ordered (h : Heap) (root : PVal) (hw : Heap.wf h = true) (hrw : root.wf = true)
    (h' : Heap) (outs : List FlatState) (hp : pop true h root preds = .ok (h', outs)) :
    ∃ enc reg idx, traceVal (fuelFor h root + 1) h [] root [] = .ok (enc, reg, idx) ∧
      (∀ e ∈ enc, resolve h root e.2 = some (.ref e.1)) ∧ PopOrdered preds h root h' outs enc := by
  obtain ⟨enc, reg, idx, st', ht, r, hshape, rfl, rfl⟩ := pop_runs hw hrw hp
  have hres := r.at
  have o := (ord_init (preds := preds) h root).run r
  rw [List.nil_append] at o
  refine ⟨enc, reg, idx, ht, hres, ?_, o.outC, ?_⟩
  · intro i it hit
    obtain ⟨b, hb⟩ := o.outF i it hit
    exact ⟨b, hb, hres (b, it.1) (firstM_some hb).1⟩
  · intro E1 e E2 hd hpe hr
    obtain ⟨a, k, q', e1, e2, e3⟩ := o.rem E1 e E2 hd hpe
    rw [e1, resolve_snoc] at hr
    cases hu : resolve st'.heap root q' with
    | none => rw [hu] at hr; cases hr
    | some u =>
      rw [hu] at hr
      have := resolve_shrink hw hshape q' root u hu
      rw [e2] at this; cases this
      obtain ⟨cls, live, hg, hl⟩ := step_ref_some hr
      exact e3 cls live hg _ (lookupKV_mem hl) rfl

theorem pop_ordered_aux (h : Heap) (root : PVal) (hw : Heap.wf h = true) (hrw : root.wf = true)
    (h' : Heap) (outs : List FlatState) (hp : pop true h root preds = .ok (h', outs))
    (gd : GDef) (ls : FlatState) (idx : RefIndex) (hf : flatten h root = .ok (gd, ls, idx)) :
    ∃ enc reg, trace h root = .ok (enc, reg, idx) ∧ (∀ e ∈ enc, resolve h root e.2 = some (.ref e.1)) ∧
      PopOrdered preds h root h' outs enc := by
  obtain ⟨enc, reg, idx', ht', hres, po⟩ := pop_ordered h root hw hrw h' outs hp
  exact ⟨enc, reg, trace_of_one_more hw hrw hf ht', hres, po⟩

end PopOrder
end Flax.Graph
