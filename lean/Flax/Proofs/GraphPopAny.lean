/- `pop` with arbitrary (also path-dependent) filters: what it returns, what it removes. -/
import Flax.Proofs.GraphPop
namespace Flax.Graph
open Flax.Heap
open Flax.Filter (NFilter)

theorem pushOut_getD (out : List FlatState) (i j : Nat) (it : Path × Leaf) :
    (pushOut out i it).getD j [] = if j = i ∧ i < out.length then out.getD i [] ++ [it] else out.getD j [] := by
  simp only [pushOut, List.getD_eq_getElem?_getD, List.getElem?_mapIdx]
  by_cases e : j = i
  · subst e
    cases h : out[j]? with
    | none => simp [Nat.not_lt.mpr (List.getElem?_eq_none_iff.mp h)]
    | some s => simp [(List.getElem?_eq_some_iff.mp h).1]
  · cases out[j]? <;> simp [e]

theorem pushOut_length (out : List FlatState) (i : Nat) (it : Path × Leaf) : (pushOut out i it).length = out.length := by
  simp [pushOut]

theorem mem_pushOut_getD {out : List FlatState} {i : Nat} {it : Path × Leaf} (hi : i < out.length) (j : Nat) (x : Path × Leaf) :
    x ∈ (pushOut out i it).getD j [] ↔ (x ∈ out.getD j [] ∨ (j = i ∧ x = it)) := by
  rw [pushOut_getD]
  by_cases e : j = i
  · subst e; simp [hi]
  · simp [e]

theorem getD_map_nil {α : Type} (l : List α) (i : Nat) : (l.map (fun _ => ([] : FlatState))).getD i [] = [] := by
  rw [List.getD_eq_getElem?_getD, List.getElem?_map]
  cases l[i]? <;> rfl

section PopOut
variable (preds : List NFilter) (h0 : Heap) (root0 : PVal)

/-- what the output states record, in terms of the original heap `h0` and absolute paths from `root0` -/
structure OutInv (st : PopSt) : Prop where
  len : st.out.length = preds.length
  sound : ∀ i, ∀ it ∈ st.out.getD i [], ∃ (b : Nat), ∃ ty val md, it.2 = .vstate ty val md ∧ h0[b]? = some (.var ty val md) ∧
    resolve h0 root0 it.1 = some (.ref b) ∧ bucketOf preds it = i ∧ i < preds.length ∧ b ∈ st.visited
  nodup : ∀ i, (st.out.getD i []).Nodup
  once : ∀ i j it it' (b : Nat), it ∈ st.out.getD i [] → it' ∈ st.out.getD j [] →
    resolve h0 root0 it.1 = some (.ref b) → resolve h0 root0 it'.1 = some (.ref b) → it = it' ∧ i = j
  complete : ∀ (b : Nat), b ∈ st.visited → ∀ ty val md, h0[b]? = some (.var ty val md) →
    ∃ i p, (p, Leaf.vstate ty val md) ∈ st.out.getD i [] ∧ resolve h0 root0 p = some (.ref b)

end PopOut

/-! For a filter that looks at the path, "selected" is a property of the *encounter* `(path, Variable)`: the Variable
is popped at the first matching encounter, earlier references stay, later ones go whatever the predicates say. -/

section PopAny
variable (preds : List NFilter) (h0 : Heap) (root0 : PVal)

/-- `v` is a reference to a Variable that has been popped so far -/
def IsPoppedRef (st : PopSt) (v : PVal) : Prop := ∃ (b : Nat), v = .ref b ∧ b ∈ st.visited ∧ ∃ ty val md, h0[b]? = some (.var ty val md)

/-- the invariant of a `pop` run relative to the original heap `h0`, any filters: an attribute is missing exactly when
it referred to a popped Variable (`GInv` in GraphPopIndep is its reading for path-independent filters) -/
structure GInv2 (st : PopSt) : Prop where
  shape0 : PShape h0 st.heap
  keeps : ∀ (a : Nat) cls attrs0, h0[a]? = some (.node cls attrs0) →
    ∃ live, st.heap[a]? = some (.node cls live) ∧ ∀ kv ∈ attrs0, ¬ IsPoppedRef h0 st kv.2 → kv ∈ live
  erased : ∀ (a : Nat) cls attrs0 live, h0[a]? = some (.node cls attrs0) → st.heap[a]? = some (.node cls live) →
    ∀ kv ∈ attrs0, kv ∉ live → IsPoppedRef h0 st kv.2
  out : OutInv preds h0 root0 st

variable {preds h0 root0}

theorem IsPoppedRef.mono {st st' : PopSt} (hs : ∀ x, x ∈ st.visited → x ∈ st'.visited) {v : PVal}
    (h : IsPoppedRef h0 st v) : IsPoppedRef h0 st' v := by
  obtain ⟨b, e, hb, hv⟩ := h
  exact ⟨b, e, hs b hb, hv⟩

theorem outInv_init (h : Heap) (root : PVal) :
    OutInv preds h root { heap := h, visited := [], out := preds.map (fun _ => []) } := by
  refine ⟨by simp, ?_, ?_, ?_, (fun b hb => by cases hb)⟩
  · intro i it hit; simp only [getD_map_nil] at hit; cases hit
  · intro i; simp only [getD_map_nil]; exact List.nodup_nil
  · intro i j it it' b hit; simp only [getD_map_nil] at hit; cases hit

theorem ginv2_init (h : Heap) (root : PVal) :
    GInv2 preds h root { heap := h, visited := [], out := preds.map (fun _ => []) } := by
  refine ⟨PShape.refl h, fun a cls attrs0 hg => ⟨attrs0, hg, fun _ hk _ => hk⟩, ?_, outInv_init h root⟩
  intro a cls attrs0 live hg hl kv hkv hnl
  rw [show (PopSt.mk h [] (preds.map fun _ => [])).heap = h from rfl, hg] at hl
  cases hl
  exact absurd hkv hnl

theorem ginv2_erase {st : PopSt} (g : GInv2 preds h0 root0 st) {a : Nat} {cls : String} {attrs0 : List (Key × PVal)}
    {k : Key} {b : Nat} {ty val md} (hg0 : h0[a]? = some (.node cls attrs0)) (hmem : (k, PVal.ref b) ∈ attrs0)
    (hnd : keysNodup attrs0) (hb0 : h0[b]? = some (.var ty val md))
    (st1 : PopSt) (hheap : st1.heap = eraseAttr st.heap a k) (hvis : ∀ x, x ∈ st.visited → x ∈ st1.visited)
    (hb : b ∈ st1.visited) (hout : OutInv preds h0 root0 st1) : GInv2 preds h0 root0 st1 := by
  obtain ⟨live, hlive, hkeep⟩ := g.keeps a cls attrs0 hg0
  have herase := eraseAttr_self k hlive
  have hpop : IsPoppedRef h0 st1 (.ref b) := ⟨b, rfl, hb, ty, val, md, hb0⟩
  -- by distinctness of keys, the slot `k` of `attrs0` is the reference to `b`
  have slot : ∀ kv ∈ attrs0, kv.1 = k → kv = (k, PVal.ref b) := fun kv hkv hk => Assoc.eq_of_nodup_map hnd hkv hmem hk
  refine ⟨by rw [hheap]; exact g.shape0.trans (eraseAttr_shape _ _ _), ?_, ?_, hout⟩
  · intro a' cls' attrs' hg'
    rw [hheap]
    by_cases e : a' = a
    · subst e
      rw [hg0] at hg'; cases hg'
      refine ⟨eraseKV k live, herase, ?_⟩
      intro kv hkv hns
      refine mem_eraseKV.mpr ⟨hkeep kv hkv (fun hp => hns (hp.mono hvis)), ?_⟩
      intro hk
      exact hns (by rw [slot kv hkv hk]; exact hpop)
    · obtain ⟨live', hl', hk'⟩ := g.keeps a' cls' attrs' hg'
      exact ⟨live', by rw [eraseAttr_other _ _ _ _ e]; exact hl', fun kv hkv hns => hk' kv hkv (fun hp => hns (hp.mono hvis))⟩
  · intro a' cls' attrs' live' hg' hl' kv hkv hnl
    rw [hheap] at hl'
    by_cases e : a' = a
    · subst e
      rw [hg0] at hg'; cases hg'
      rw [herase] at hl'; cases hl'
      by_cases hin : kv ∈ live
      · have hk : kv.1 = k := Classical.byContradiction fun hne => hnl (mem_eraseKV.mpr ⟨hin, hne⟩)
        rw [slot kv hkv hk]; exact hpop
      · exact (g.erased a' cls attrs0 live hg0 hlive kv hkv hin).mono hvis
    · rw [eraseAttr_other _ _ _ _ e] at hl'
      exact (g.erased a' cls' attrs' live' hg' hl' kv hkv hnl).mono hvis

theorem outInv_push {st : PopSt} (o : OutInv preds h0 root0 st) {b : Nat} {p : Path} {ty : VType} {val : Data} {md : Meta}
    (hb0 : h0[b]? = some (.var ty val md)) (hlt : bucketOf preds (p, Leaf.vstate ty val md) < preds.length)
    (hnb : b ∉ st.visited) (hres : resolve h0 root0 p = some (.ref b)) (hp : Heap) :
    OutInv preds h0 root0 (PopSt.mk hp (st.visited ++ [b])
      (pushOut st.out (bucketOf preds (p, Leaf.vstate ty val md)) (p, Leaf.vstate ty val md))) := by
  have hmemb := mem_pushOut_getD (it := (p, Leaf.vstate ty val md)) (show _ < st.out.length by rw [o.len]; exact hlt)
  -- an old entry never resolves to `b`
  have hold : ∀ j it, it ∈ st.out.getD j [] → resolve h0 root0 it.1 ≠ some (.ref b) := by
    intro j it hit hr
    obtain ⟨b', _, _, _, _, _, hr', _, _, hb'⟩ := o.sound j it hit
    rw [hr] at hr'; cases hr'
    exact hnb hb'
  refine ⟨by rw [pushOut_length]; exact o.len, ?_, ?_, ?_, ?_⟩
  · intro j it hit
    rcases (hmemb j it).mp hit with h1 | ⟨ej, eit⟩
    · obtain ⟨b', ty', val', md', e1, e2, e3, e4, e5, e6⟩ := o.sound j it h1
      exact ⟨b', ty', val', md', e1, e2, e3, e4, e5, List.mem_append_left _ e6⟩
    · subst eit
      exact ⟨b, ty, val, md, rfl, hb0, hres, ej.symm, ej ▸ hlt, by simp⟩
  · intro j
    rw [pushOut_getD]
    split
    · exact Lists.nodup_concat (o.nodup _) fun hx => hold _ _ hx hres
    · exact o.nodup j
  · intro i j it it' b' hit hit' hr hr'
    rcases (hmemb i it).mp hit with h1 | ⟨ei, eit⟩ <;> rcases (hmemb j it').mp hit' with h2 | ⟨ej, eit'⟩
    · exact o.once i j it it' b' h1 h2 hr hr'
    · subst eit'
      rw [hres] at hr'; cases hr'
      exact absurd hr (hold i it h1)
    · subst eit
      rw [hres] at hr; cases hr
      exact absurd hr' (hold j it' h2)
    · subst eit; subst eit'
      exact ⟨rfl, ei.trans ej.symm⟩
  · intro x hx ty' val' md' hx0
    rcases List.mem_append.mp hx with h1 | h1
    · obtain ⟨i, q, hq, hrq⟩ := o.complete x h1 ty' val' md' hx0
      exact ⟨i, q, (hmemb i _).mpr (Or.inl hq), hrq⟩
    · obtain rfl := List.mem_singleton.mp h1
      rw [hb0] at hx0; cases hx0
      exact ⟨_, p, (hmemb _ _).mpr (Or.inr ⟨rfl, rfl⟩), hres⟩

theorem outInv_heap {st : PopSt} (o : OutInv preds h0 root0 st) (hp : Heap) :
    OutInv preds h0 root0 { st with heap := hp } :=
  ⟨o.len, o.sound, o.nodup, o.once, o.complete⟩

theorem ginv2_reg {st : PopSt} (g : GInv2 preds h0 root0 st) {a : Nat}
    (hnv : ∀ ty val md, h0[a]? ≠ some (.var ty val md)) : GInv2 preds h0 root0 { st with visited := st.visited ++ [a] } := by
  have hsub : ∀ x, x ∈ st.visited → x ∈ st.visited ++ [a] := fun x hx => List.mem_append_left _ hx
  refine ⟨g.shape0, ?_, ?_, ⟨g.out.len, ?_, g.out.nodup, g.out.once, ?_⟩⟩
  · intro a' cls' attrs' hg'
    obtain ⟨live, hl, hk⟩ := g.keeps a' cls' attrs' hg'
    exact ⟨live, hl, fun kv hkv hns => hk kv hkv (fun hp => hns (hp.mono hsub))⟩
  · intro a' cls' attrs' live hg' hl' kv hkv hnl
    exact (g.erased a' cls' attrs' live hg' hl' kv hkv hnl).mono hsub
  · intro j it hit
    obtain ⟨b', ty', val', md', e1, e2, e3, e4, e5, e6⟩ := g.out.sound j it hit
    exact ⟨b', ty', val', md', e1, e2, e3, e4, e5, List.mem_append_left _ e6⟩
  · intro x hx ty val md hx0
    rcases List.mem_append.mp hx with h1 | h1
    · exact g.out.complete x h1 ty val md hx0
    · rw [List.mem_singleton.mp h1] at hx0; exact absurd hx0 (hnv ty val md)

theorem owner_slot {h : Heap} {root : PVal} {q : Path} {k : Key} {a : Addr} {v : PVal}
    (hq : resolve h root q = some (.ref a)) (hk : resolve h root (q ++ [k]) = some v) :
    ∃ cls attrs, h[a]? = some (.node cls attrs) ∧ (k, v) ∈ attrs := by
  rw [resolve_snoc, hq] at hk
  obtain ⟨cls, attrs, hg, hl⟩ := step_ref_some hk
  exact ⟨cls, attrs, hg, lookupKV_mem hl⟩

theorem GInv2.step (hw0 : Heap.wf h0 = true) {e : Addr × Path} {st st1 : PopSt} (g : GInv2 preds h0 root0 st)
    (s : PopStep preds h0 root0 e st st1) : GInv2 preds h0 root0 st1 := by
  cases s with
  | seen _ _ _ => exact g
  | enter hn _ _ => exact ginv2_reg g (node_not_var hn)
  | keep _ _ _ _ => exact g
  | again hb0 hv hra hrb =>
    obtain ⟨cls, attrs0, hg0, hmem⟩ := owner_slot hra hrb
    exact ginv2_erase g hg0 hmem (heap_wf_node hw0 hg0).1 hb0 _ rfl (fun _ hx => hx) hv (outInv_heap g.out _)
  | take hb0 hnv hlt hra hrb =>
    obtain ⟨cls, attrs0, hg0, hmem⟩ := owner_slot hra hrb
    exact ginv2_erase g hg0 hmem (heap_wf_node hw0 hg0).1 hb0 _ rfl (fun x hx => List.mem_append_left _ hx)
      (List.mem_append_right _ (List.mem_singleton.mpr rfl)) (outInv_push g.out hb0 hlt hnv hrb _)

theorem GInv2.run (hw0 : Heap.wf h0 = true) {es : Log} {st st' : PopSt} (g : GInv2 preds h0 root0 st)
    (r : PopRun preds h0 root0 es st st') : GInv2 preds h0 root0 st' := by
  induction r with
  | nil => exact g
  | cons s _ ih => exact ih (g.step hw0 s)

/-- what `pop` does for ARBITRARY filters (repaired definition) -/
structure PopAny (preds : List NFilter) (h : Heap) (root : PVal) (h' : Heap) (outs : List FlatState) : Prop where
  len : outs.length = preds.length
  /-- every returned entry is a Variable of the graph under a path that reaches it, and its state is the
  first filter matching *that* (path, Variable) pair -/
  sound : ∀ i, ∀ it ∈ outs.getD i [], ∃ (b : Nat), ∃ ty val md, it.2 = .vstate ty val md ∧ h[b]? = some (.var ty val md) ∧
    resolve h root it.1 = some (.ref b) ∧ bucketOf preds it = i ∧ i < preds.length
  /-- no Variable is returned twice -/
  once : (∀ i, (outs.getD i []).Nodup) ∧ ∀ i j it it' (b : Nat), it ∈ outs.getD i [] → it' ∈ outs.getD j [] →
    resolve h root it.1 = some (.ref b) → resolve h root it'.1 = some (.ref b) → it = it' ∧ i = j
  shape : PShape h h'
  /-- every removed attribute was a reference to a returned Variable -/
  removed : ∀ (a : Nat) cls attrs0 live, h[a]? = some (.node cls attrs0) → h'[a]? = some (.node cls live) →
    ∀ kv ∈ attrs0, kv ∉ live → ∃ (b : Nat), kv.2 = .ref b ∧
      ∃ i p ty val md, (p, Leaf.vstate ty val md) ∈ outs.getD i [] ∧ resolve h root p = some (.ref b)

theorem pop_any_aux (h : Heap) (root : PVal) (hw : Heap.wf h = true) (hrw : root.wf = true)
    (h' : Heap) (outs : List FlatState) (hp : pop true h root preds = .ok (h', outs)) : PopAny preds h root h' outs := by
  obtain ⟨_, _, _, st', _, r, _, rfl, rfl⟩ := pop_runs hw hrw hp
  have g := (ginv2_init h root).run hw r
  refine ⟨g.out.len, ?_, ⟨g.out.nodup, g.out.once⟩, g.shape0, ?_⟩
  · intro i it hit
    obtain ⟨b, ty, val, md, e1, e2, e3, e4, e5, _⟩ := g.out.sound i it hit
    exact ⟨b, ty, val, md, e1, e2, e3, e4, e5⟩
  · intro a cls attrs0 live hg hl kv hkv hnl
    obtain ⟨b, e, hb, ty, val, md, hb0⟩ := g.erased a cls attrs0 live hg hl kv hkv hnl
    obtain ⟨i, p, hp', hrp⟩ := g.out.complete b hb ty val md hb0
    exact ⟨b, e, i, p, ty, val, md, hp', hrp⟩

end PopAny
end Flax.Graph
