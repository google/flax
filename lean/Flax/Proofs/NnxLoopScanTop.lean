/- C08 proofs: `nnx.scan` — whenever it returns, the reference loop is defined and returns the same -/
import Flax.Proofs.NnxLoopScanFinal
import Flax.Proofs.NnxLoopScanLoop

namespace Flax.NnxLoop
open Flax.Filter Flax.LiftLoop

section top
variable {α : Type} [Inhabited α]

theorem column_outs_scan {pure : List (SPure α)} {outPs : List Prefix} {k : Nat} {q : Prefix}
    (hq : outPs[k]? = some q) {recs : List (Store α × List (Out α))} {ys : List (ScanY α)}
    (h : All2 (YRel pure outPs) recs ys) : ∀ col, column k (ys.map (·.2)) = .ok col →
      ∃ ocol, column k (recs.map (·.2)) = .ok ocol ∧ mapX (fun o => splitOut (q, o)) ocol = .ok col :=
  column_outs_of (fun c r hcr => ⟨outPs, hcr.2.2, fun _ => hq, hcr.2.1⟩) h

theorem parts_of_all2 {pure : List (SPure α)} {outPs : List Prefix} :
    ∀ {recs : List (Store α × List (Out α))} {ys : List (ScanY α)}, All2 (YRel pure outPs) recs ys →
    ∃ partsRows, mapX (fun st => mapX (scanSplitArgOut st) pure) (recs.map (·.1)) = .ok partsRows ∧
      ys.map (·.1) = partsRows.map (fun parts => (parts.filterMap id).map (·.1)) := by
  intro recs ys h
  induction h with
  | nil => exact ⟨[], rfl, rfl⟩
  | cons hR _ ih =>
    obtain ⟨⟨parts, hp1, hp2⟩, _, _⟩ := hR
    obtain ⟨pr, e1, e2⟩ := ih
    refine ⟨parts :: pr, ?_, by simp [hp2, e2]⟩
    simp only [List.map_cons]
    exact mapX_cons_of_ok (f := fun st => mapX (scanSplitArgOut st) pure) hp1 e1

/-- whenever `nnx.scan` returns, `scanSpecN` returns the same: `hwf`, `houts` read at `Flax.C08.scan_eq_loop_nnx` -/
theorem nnxScan_sound {inAxes outAxes : AxesSpec} {length : Option Nat} {reverse : Bool} {nOuts : Nat}
    {body : Body α} {args : List (Arg α)} {store : Store α} {res : Store α × List (Out α)}
    (h : nnxScan inAxes outAxes length reverse nOuts body args store = .ok res)
    (hwf : ∀ ps, inAxes.expand args.length = .ok ps → WFArgs (ps.zip args))
    (houts : ∀ ps n ca cout outPs fin recs, inAxes.expand args.length = .ok ps →
      laxScanX n reverse (fun i => .ok i) (scanStepSpec body ca cout outPs store (ps.zip args)) (fun _ _ => true)
        (initCarrySpec (arrArgs (ps.zip args)), store) = .ok (fin, recs) →
      ∀ k col, column k (recs.map (·.2)) = .ok col → OutColWF col) :
    ∃ cin cout ps ca outPs n,
      scanSetup inAxes outAxes = .ok (cin, cout) ∧ inAxes.expand args.length = .ok ps ∧
      carryArgOf cin args = .ok ca ∧ outPrefixes outAxes cout nOuts = .ok outPs ∧ 0 < n ∧
      ((∀ ep ∈ ownedAll (ps.zip args) [], ∀ k, ep.2.at ep.1 = .ok (.axis k) →
          ∃ v, store.lookup ep.1.id = some v ∧ dimAt k v = .ok n) ∧
        (∀ pa ∈ arrArgs (ps.zip args), ∀ k, pa.1 = .ax (.axis k) → dimAt k pa.2 = .ok n) ∧
        (∀ m, length = some m → m = n)) ∧
      scanSpecN n reverse ca cout outPs body (ps.zip args) store = .ok res := by
  obtain ⟨cin, cout, ps, si, ca, outPs, n, cfin, ys, fin, recs, outs, h1, h2, h3, h4, h5, hn, hloop, hinv, hy, hwb,
    ⟨y0, yt, hys, hco⟩, hic, dims, hdims, hjl⟩ := nnxScan_loop h hwf
  obtain ⟨pure, hS, hR⟩ := scanSplitIn_ok_iff.1 h3
  refine ⟨cin, cout, ps, ca, outPs, n, h1, h2, h4, h5, hn, (scanDims_mem hS hR hdims).eq_n hjl, ?_⟩
  subst hys
  cases recs with
  | nil => cases hy
  | cons r0 rr =>
  -- the vectorised states `ScanFn` emitted are the vectorised routes of the stores the reference iterations left
  -- (`YRel`), the final carry deque the carry route of the last one (`CarryInv`)
  obtain ⟨hc1, partsF, hpF, hc2⟩ := hinv
  obtain ⟨partsRows, hpr1, hpr2⟩ := parts_of_all2 hy
  rw [hpr2, hc2] at hwb
  obtain ⟨vals, hvals, hstore⟩ := scan_write_back hS hR (hwf ps h2) r0.1 (rr.map (·.1)) fin.2
    partsRows partsF (by simpa using hpr1) hpF store res.1 hwb
  have hR0 : YRel si.pure outPs r0 y0 := by cases hy with | cons h _ => exact h
  obtain ⟨_, hsp0, hlen0⟩ := hR0
  have houtsS : mapX (collectOutAt ((r0 :: rr).map (·.2))) ((List.range outPs.length).zip outPs) = .ok outs :=
    outs_sound (C := scanCollectOut) scan_collect_out (rows := (y0 :: yt).map (fun y : ScanY α => y.2)) rfl
      hsp0 hlen0
      (fun k hk col hcol => column_outs_scan (List.getElem?_eq_getElem hk) hy col hcol)
      (fun k col h => houts ps n ca cout outPs fin (r0 :: rr) h2 hloop k col h) hco
  simp only [scanSpecN, hloop, bindX]
  simp only [List.map_cons] at hvals houtsS
  simp only [List.map_cons, hvals, houtsS]
  rw [← hc1] at hic ⊢
  simp only [hic]
  rw [← hstore]

end top

end Flax.NnxLoop
