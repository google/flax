/-
Python dicts for C18: upsert association lists, then nested dicts (`Forest`) with the invariant `WFF` and the
leaf map `leafAtF f : Path → Option β` through which all else reads a dict (`Equiv`, `Compat`, `Disjoint`).
Such maps are the `TreeLike` ones; a flat dict stands for one (`FlatRep`), `unflatten_mapping` builds a dict
for it (`unflatten_rep`), `_recursive_merge` follows. Last, a `jax.tree.map` that can raise (`Tree.mapE`, `mapEF`).
-/
import Flax.Model.Bridge
import Flax.Proofs.Except
import Flax.Proofs.Assoc

namespace Flax.Bridge
variable {α β γ : Type}

mutual
  /-- keys are distinct at every level (true of every Python dict) -/
  def Tree.WF : Tree β → Prop
    | .leaf _ => True
    | .node f => WFF f
  def WFF : Forest β → Prop
    | [] => True
    | (k, t) :: r => k ∉ dkeys r ∧ t.WF ∧ WFF r
end

mutual
  /-- no empty sub-dict anywhere below -/
  def Tree.NoEmpty : Tree β → Prop
    | .leaf _ => True
    | .node f => f ≠ [] ∧ NoEmptyF f
  def NoEmptyF : Forest β → Prop
    | [] => True
    | (_, t) :: r => t.NoEmpty ∧ NoEmptyF r
end

/-- the leaf paths of two dicts never nest properly; equal paths are allowed -/
def Compat (a : Forest β) (b : Forest γ) : Prop :=
  ∀ q q', leafAtF a q ≠ none → leafAtF b q' ≠ none → (q <+: q' ∨ q' <+: q) → q = q'

/-- no leaf path in common and none nested -/
def Disjoint (a : Forest β) (b : Forest γ) : Prop :=
  ∀ q q', leafAtF a q ≠ none → leafAtF b q' ≠ none → ¬ (q <+: q' ∨ q' <+: q)

theorem Disjoint.symm {a : Forest β} {b : Forest γ} (h : Disjoint a b) : Disjoint b a :=
  fun q q' h1 h2 hp => h q' q h2 h1 hp.symm

theorem disjoint_compat (a : Forest β) (b : Forest γ) (h : Disjoint a b) : Compat a b :=
  fun q q' h1 h2 hp => absurd hp (h q q' h1 h2)

/-- same leaves at the same paths: equality of Python dicts up to empty sub-dicts (dict equality
ignores insertion order) -/
def Equiv (a b : Forest β) : Prop := ∀ q, leafAtF a q = leafAtF b q

def paths (l : List (Path × β)) : List Path := l.map Prod.fst

theorem Tree.WF_node (f : Forest β) : (Tree.node f).WF ↔ WFF f := Iff.rfl

theorem Tree.NoEmpty_node (f : Forest β) : (Tree.node f).NoEmpty ↔ f ≠ [] ∧ NoEmptyF f := Iff.rfl

theorem Tree.induct {P : Tree β → Prop} (leaf : ∀ b, P (.leaf b)) (node : ∀ f, (∀ kt ∈ f, P kt.2) → P (.node f))
    (t : Tree β) : P t :=
  Tree.rec (motive_1 := P) (motive_2 := fun f => ∀ kt ∈ f, P kt.2) (motive_3 := fun kt => P kt.2)
    leaf node (fun _ h => nomatch h)
    (fun _ _ hc hr kt h => (List.mem_cons.mp h).elim (fun e => e ▸ hc) (hr kt)) (fun _ _ h => h) t

theorem dget_eq_lookup (f : Forest β) (k : String) : dget f k = f.lookup k :=
  Assoc.lookup_unique (get := fun k f => dget f k) (fun _ => rfl) (fun _ _ _ _ => ite_congr (propext eq_comm) (fun _ => rfl) (fun _ => rfl)) k f

theorem dset_isUpsert : Assoc.IsUpsert fun k t (f : Forest β) => dset f k t :=
  ⟨fun _ _ => rfl, fun _ _ _ _ => if_pos rfl, fun _ _ _ h => if_neg (Ne.symm h)⟩

theorem setFlat_isUpsert : Assoc.IsUpsert fun p v (a : List (Path × β)) => setFlat a p v :=
  ⟨fun _ _ => rfl, fun _ _ _ _ => if_pos rfl, fun _ _ _ h => if_neg (Ne.symm h)⟩

theorem setAssoc_isUpsert {κ ν : Type} [DecidableEq κ] : Assoc.IsUpsert fun k v (l : List (κ × ν)) => setAssoc l k v :=
  ⟨fun _ _ => rfl, fun _ _ _ _ => if_pos rfl, fun _ _ _ h => if_neg (Ne.symm h)⟩

@[simp] theorem dget_nil (k : String) : dget ([] : Forest β) k = none := rfl

theorem dget_cons (k : String) (t : Tree β) (r : Forest β) (k' : String) :
    dget ((k, t) :: r) k' = if k' = k then some t else dget r k' := rfl

@[simp] theorem dkeys_nil : dkeys ([] : Forest β) = [] := rfl
@[simp] theorem dkeys_cons (k : String) (t : Tree β) (r : Forest β) : dkeys ((k, t) :: r) = k :: dkeys r := rfl

theorem dget_dset (f : Forest β) (k : String) (t : Tree β) (k' : String) :
    dget (dset f k t) k' = if k' = k then some t else dget f k' := by
  rw [dget_eq_lookup, dget_eq_lookup]; exact dset_isUpsert.lookup k k' t f

theorem dkeys_dset (f : Forest β) (k : String) (t : Tree β) :
    dkeys (dset f k t) = if k ∈ dkeys f then dkeys f else dkeys f ++ [k] := dset_isUpsert.keys k t f

theorem dget_eq_none_iff (f : Forest β) (k : String) : dget f k = none ↔ k ∉ dkeys f := by
  rw [dget_eq_lookup]; exact Assoc.lookup_eq_none_iff

theorem dget_mem (f : Forest β) (k : String) (t : Tree β) (h : dget f k = some t) : (k, t) ∈ f :=
  Assoc.mem_of_lookup (dget_eq_lookup f k ▸ h)

theorem WFF_iff (f : Forest β) : WFF f ↔ (dkeys f).Nodup ∧ ∀ kt ∈ f, kt.2.WF := by
  induction f with
  | nil => simp [WFF]
  | cons kt r ih =>
    obtain ⟨k0, t0⟩ := kt
    simp only [WFF, ih, dkeys_cons, List.nodup_cons, List.mem_cons, forall_eq_or_imp]
    constructor
    · rintro ⟨h1, h2, h3, h4⟩; exact ⟨⟨h1, h3⟩, h2, h4⟩
    · rintro ⟨⟨h1, h3⟩, h2, h4⟩; exact ⟨h1, h2, h3, h4⟩

theorem wf_nodup (f : Forest β) (hf : WFF f) : (dkeys f).Nodup := ((WFF_iff f).mp hf).1

theorem wf_of_mem (f : Forest β) (hf : WFF f) : ∀ kt ∈ f, kt.2.WF := ((WFF_iff f).mp hf).2

theorem WFF_dset (f : Forest β) (k : String) (t : Tree β) (hf : WFF f) (ht : t.WF) : WFF (dset f k t) := by
  rw [WFF_iff] at hf ⊢
  refine ⟨dset_isUpsert.nodup_keys k t hf.1, fun kt h => ?_⟩
  rcases dset_isUpsert.mem h with rfl | h
  · exact ht
  · exact hf.2 kt h

theorem wf_get (f : Forest β) (k : String) (t : Tree β) (hf : WFF f) (h : dget f k = some t) : t.WF :=
  wf_of_mem f hf _ (dget_mem f k t h)

theorem dget_of_mem (f : Forest β) (hf : WFF f) (k : String) (t : Tree β) (h : (k, t) ∈ f) :
    dget f k = some t := by
  rw [dget_eq_lookup]; exact Assoc.lookup_of_mem (wf_nodup f hf) h

theorem shallowMerge_eq_append (A acc : Forest β) (hd : ∀ k ∈ dkeys A, k ∉ dkeys acc) (hn : (dkeys A).Nodup) :
    shallowMerge acc A = acc ++ A :=
  dset_isUpsert.foldl_append hn hd

theorem NoEmptyF_iff (f : Forest β) : NoEmptyF f ↔ ∀ kt ∈ f, kt.2.NoEmpty := by
  induction f with
  | nil => simp [NoEmptyF]
  | cons kt r ih => simp only [NoEmptyF, ih, List.mem_cons, forall_eq_or_imp]

theorem NoEmpty_of_mem (f : Forest β) (h : NoEmptyF f) : ∀ kt ∈ f, kt.2.NoEmpty := (NoEmptyF_iff f).mp h

theorem NoEmptyF_dset (f : Forest β) (k : String) (t : Tree β) (hf : NoEmptyF f) (ht : t.NoEmpty) :
    NoEmptyF (dset f k t) := by
  rw [NoEmptyF_iff] at hf ⊢
  intro kt h
  rcases dset_isUpsert.mem h with rfl | h
  · exact ht
  · exact hf kt h

theorem NoEmpty_dget (f : Forest β) (k : String) (t : Tree β) (hf : NoEmptyF f) (h : dget f k = some t) :
    t.NoEmpty := NoEmpty_of_mem f hf _ (dget_mem f k t h)

theorem dset_ne_nil (f : Forest β) (k : String) (t : Tree β) : dset f k t ≠ [] := by
  cases f with
  | nil => simp [dset]
  | cons kt r => obtain ⟨k0, t0⟩ := kt; unfold dset; split <;> simp

@[simp] theorem leafAtF_nil_path (f : Forest β) : leafAtF f [] = none := rfl

theorem leafAtF_cons (f : Forest β) (k : String) (p : Path) :
    leafAtF f (k :: p) = match dget f k with | some t => t.leafAt p | none => none := rfl

@[simp] theorem leafAtF_nil (p : Path) : leafAtF ([] : Forest β) p = none := by
  cases p <;> rfl

@[simp] theorem Tree.leafAt_node (f : Forest β) (p : Path) : (Tree.node f).leafAt p = leafAtF f p := rfl

theorem Tree.leafAt_leaf (b : β) (p : Path) : (Tree.leaf b).leafAt p = if p = [] then some b else none := by
  cases p <;> rfl

theorem leafAtF_dset (f : Forest β) (k : String) (t : Tree β) (k' : String) (p : Path) :
    leafAtF (dset f k t) (k' :: p) = if k' = k then t.leafAt p else leafAtF f (k' :: p) := by
  rw [leafAtF_cons, dget_dset]
  by_cases h : k' = k
  · simp [h]
  · simp [h, leafAtF_cons]

theorem leafAtF_cons_cons (k : String) (t : Tree β) (r : Forest β) (k' : String) (p : Path) :
    leafAtF ((k, t) :: r) (k' :: p) = if k' = k then t.leafAt p else leafAtF r (k' :: p) := by
  rw [leafAtF_cons, dget_cons]
  by_cases h : k' = k
  · simp [h]
  · simp [h, leafAtF_cons]

theorem leafAtF_of_not_mem (r : Forest β) (k : String) (p : Path) (h : k ∉ dkeys r) :
    leafAtF r (k :: p) = none := by
  rw [leafAtF_cons, (dget_eq_none_iff r k).mpr h]

theorem leafAtF_col (V : Forest β) (hw : WFF V) (c : String) (q : Path) (x : β) :
    leafAtF V (c :: q) = some x ↔ ∃ t, (c, t) ∈ V ∧ t.leafAt q = some x := by
  rw [leafAtF_cons]
  constructor
  · intro h
    cases hd : dget V c with
    | none => rw [hd] at h; cases h
    | some t => rw [hd] at h; exact ⟨t, dget_mem V c t hd, h⟩
  · rintro ⟨t, hm, hl⟩
    rw [dget_of_mem V hw c t hm]; exact hl

theorem Tree.exists_leaf (t : Tree β) (hn : t.NoEmpty) : ∃ q b, t.leafAt q = some b := by
  induction t using Tree.induct with
  | leaf b => exact ⟨[], b, rfl⟩
  | node f ih =>
    cases f with
    | nil => exact absurd rfl hn.1
    | cons kt r =>
      obtain ⟨k, t⟩ := kt
      obtain ⟨q, b, hq⟩ := ih _ List.mem_cons_self (NoEmpty_of_mem _ hn.2 _ List.mem_cons_self)
      exact ⟨k :: q, b, by simp [leafAtF_cons_cons, hq]⟩

theorem exists_leaf (f : Forest β) (hne : f ≠ []) (hn : NoEmptyF f) : ∃ q b, leafAtF f q = some b :=
  Tree.exists_leaf (.node f) ⟨hne, hn⟩

theorem Tree.leafAt_prefix (t : Tree β) : ∀ (q q' : Path) (b : β), t.leafAt q = some b → q <+: q' → q' ≠ q →
    t.leafAt q' = none := by
  intro q
  induction q generalizing t with
  | nil =>
    intro q' b h _ hne
    cases t with
    | leaf b0 => cases q' with
      | nil => exact absurd rfl hne
      | cons _ _ => rfl
    | node f => simp [Tree.leafAt] at h
  | cons k q1 ih =>
    intro q' b h hp hne
    cases t with
    | leaf b0 => simp [Tree.leafAt] at h
    | node f =>
      cases q' with
      | nil => simp at hp
      | cons k' q1' =>
        rw [List.cons_prefix_cons] at hp
        obtain ⟨rfl, hp⟩ := hp
        simp only [Tree.leafAt_node, leafAtF_cons] at h ⊢
        cases hf : dget f k with
        | none => rfl
        | some t1 =>
          rw [hf] at h
          exact ih t1 q1' b h hp (fun e => hne (by rw [e]))

theorem leafAtF_prefix (f : Forest β) (q q' : Path) (b : β) (h : leafAtF f q = some b)
    (hp : q <+: q') (hne : q' ≠ q) : leafAtF f q' = none :=
  Tree.leafAt_prefix (.node f) q q' b h hp hne

theorem leafAtF_prefix_eq (f : Forest β) (q q' : Path) (h : leafAtF f q ≠ none) (h' : leafAtF f q' ≠ none)
    (hp : q <+: q') : q = q' := by
  cases hq : leafAtF f q with
  | none => exact absurd hq h
  | some b =>
    by_cases e : q' = q
    · exact e.symm
    · exact absurd (leafAtF_prefix f q q' b hq hp e) h'

/-- the sub-dict that `insertF` and `addAttr` descend into: empty when `k` is absent -/
theorem dget_sub (f : Forest β) (k : String) (h : ∀ b, dget f k ≠ some (.leaf b)) :
    ∃ sub, (dget f k = none ∧ sub = [] ∨ dget f k = some (.node sub)) ∧
      (∀ q, leafAtF sub q = leafAtF f (k :: q)) ∧ (WFF f → WFF sub) ∧ (NoEmptyF f → NoEmptyF sub) := by
  cases hd : dget f k with
  | none =>
    exact ⟨[], Or.inl ⟨rfl, rfl⟩, fun q => by simp [leafAtF_cons, hd], fun _ => by simp [WFF],
      fun _ => by simp [NoEmptyF]⟩
  | some t =>
    cases t with
    | leaf b => exact absurd hd (h b)
    | node sub =>
      refine ⟨sub, Or.inr rfl, fun q => by simp [leafAtF_cons, hd], fun hf => ?_, fun hf => ?_⟩
      · exact wf_get f k _ hf hd
      · exact (NoEmpty_dget f k _ hf hd).2

/-- second hypothesis: no proper prefix of `p` is a leaf; inner `if`: what was below `p` is gone -/
theorem insertF_spec : ∀ (p : Path) (f : Forest β) (b : β), p ≠ [] →
    (∀ q, q <+: p → q ≠ p → leafAtF f q = none) →
    ∃ g, insertF f p b = .ok g ∧
      (∀ q, leafAtF g q = if p <+: q then (if q = p then some b else none) else leafAtF f q) ∧
      (WFF f → WFF g) ∧ (NoEmptyF f → NoEmptyF g) ∧ g ≠ [] := by
  intro p
  induction p with
  | nil => intro f b h; exact absurd rfl h
  | cons k ks ih =>
    intro f b _ hpre
    cases ks with
    | nil =>
      refine ⟨dset f k (.leaf b), rfl, fun q => ?_, fun hf => WFF_dset f k _ hf trivial,
        fun hf => NoEmptyF_dset f k _ hf trivial, dset_ne_nil _ _ _⟩
      cases q with
      | nil => rfl
      | cons k' q' =>
        simp only [leafAtF_dset, List.cons_prefix_cons]
        by_cases hk : k' = k
        · subst hk; simp [Tree.leafAt_leaf]
        · simp [hk, Ne.symm hk]
    | cons k2 ks2 =>
      obtain ⟨sub, hsub, hsubleaf, hsubwf, hsubne⟩ := dget_sub f k (by
        intro b0 hf
        have h1 := hpre [k] (by rw [List.cons_prefix_cons]; exact ⟨rfl, List.nil_prefix⟩) (by simp)
        simp [leafAtF_cons, hf, Tree.leafAt] at h1)
      obtain ⟨sub', hins, hleaf, hwf, hne, hnn⟩ := ih sub b (by simp) (by
        intro q hq hne
        rw [hsubleaf]
        exact hpre (k :: q) (by rw [List.cons_prefix_cons]; exact ⟨rfl, hq⟩) (by simpa using hne))
      have hins' : insertF f (k :: k2 :: ks2) b = .ok (dset f k (.node sub')) := by
        rcases hsub with ⟨h1, rfl⟩ | h1
        · simp only [insertF, h1]; rw [hins]; rfl
        · simp only [insertF, h1]; rw [hins]; rfl
      refine ⟨dset f k (.node sub'), hins', fun q => ?_, fun hf => WFF_dset f k _ hf (hwf (hsubwf hf)),
        fun hf => NoEmptyF_dset f k _ hf ⟨hnn, hne (hsubne hf)⟩, dset_ne_nil _ _ _⟩
      cases q with
      | nil => rfl
      | cons k' q' =>
        simp only [leafAtF_dset, List.cons_prefix_cons]
        by_cases hk : k' = k
        · subst hk; simp [hleaf q', hsubleaf]
        · simp [hk, Ne.symm hk]

theorem flattenF_eq_flatMap : ∀ f : Forest β,
    flattenF f = f.flatMap fun kt => kt.2.flatten.map fun pb => (kt.1 :: pb.1, pb.2)
  | [] => rfl
  | (k, t) :: r => by rw [flattenF, flattenF_eq_flatMap r, List.flatMap_cons]

theorem mem_flattenF {f : Forest β} {q : Path} {b : β} :
    (q, b) ∈ flattenF f ↔ ∃ k t q', (k, t) ∈ f ∧ (q', b) ∈ t.flatten ∧ q = k :: q' := by
  simp only [flattenF_eq_flatMap, List.mem_flatMap, List.mem_map, Prod.mk.injEq, Prod.exists]
  constructor
  · rintro ⟨k, t, hm, q', b', hq, rfl, rfl⟩; exact ⟨k, t, q', hm, hq, rfl⟩
  · rintro ⟨k, t, q', hm, hq, rfl⟩; exact ⟨k, t, hm, q', b, hq, rfl, rfl⟩

theorem Tree.flatten_sound (t : Tree β) (q : Path) (b : β) (h : (q, b) ∈ t.flatten) (hw : t.WF) :
    t.leafAt q = some b := by
  induction t using Tree.induct generalizing q with
  | leaf b0 =>
    simp only [Tree.flatten, List.mem_singleton, Prod.mk.injEq] at h
    obtain ⟨rfl, rfl⟩ := h; rfl
  | node f ih =>
    obtain ⟨k, t, q', hm, hq, rfl⟩ := mem_flattenF.mp h
    exact (leafAtF_col f hw k q' b).mpr ⟨t, hm, ih _ hm q' hq (wf_of_mem f hw _ hm)⟩

theorem flattenF_sound (f : Forest β) (q : Path) (b : β) (h : (q, b) ∈ flattenF f) (hw : WFF f) :
    leafAtF f q = some b := Tree.flatten_sound (.node f) q b h hw

theorem Tree.flatten_complete (t : Tree β) (q : Path) (b : β) (h : t.leafAt q = some b) : (q, b) ∈ t.flatten := by
  induction t using Tree.induct generalizing q with
  | leaf b0 =>
    rw [Tree.leafAt_leaf] at h
    split at h
    · rename_i hq; subst hq; cases h; simp [Tree.flatten]
    · cases h
  | node f ih =>
    cases q with
    | nil => cases h
    | cons k q' =>
      rw [Tree.leafAt_node, leafAtF_cons] at h
      cases hd : dget f k with
      | none => rw [hd] at h; cases h
      | some t =>
        rw [hd] at h
        exact mem_flattenF.mpr ⟨k, t, q', dget_mem f k t hd, ih _ (dget_mem f k t hd) q' h, rfl⟩

theorem flattenF_complete (f : Forest β) (q : Path) (b : β) (h : leafAtF f q = some b) : (q, b) ∈ flattenF f :=
  Tree.flatten_complete (.node f) q b h

theorem flattenF_mem (f : Forest β) (hf : WFF f) (q : Path) (b : β) :
    (q, b) ∈ flattenF f ↔ leafAtF f q = some b :=
  ⟨fun h => flattenF_sound f q b h hf, flattenF_complete f q b⟩

theorem Tree.flatten_nodup (t : Tree β) (hw : t.WF) : (paths t.flatten).Nodup := by
  induction t using Tree.induct with
  | leaf b => simp [Tree.flatten, paths]
  | node f ih =>
    have hf := (WFF_iff f).mp hw
    show (paths (flattenF f)).Nodup
    rw [flattenF_eq_flatMap, paths, List.map_flatMap, List.Nodup, List.pairwise_flatMap]
    simp only [List.map_map, Function.comp_def]
    refine ⟨fun kt hkt => ?_, (List.pairwise_map.mp hf.1).imp fun hne => ?_⟩
    · have := List.pairwise_map.mp (show (kt.2.flatten.map Prod.fst).Pairwise (· ≠ ·) from ih kt hkt (hf.2 kt hkt))
      exact List.pairwise_map.mpr (this.imp fun h e => h (List.cons.inj e).2)
    · intro x hx y hy e
      obtain ⟨_, _, rfl⟩ := List.mem_map.mp hx
      obtain ⟨_, _, rfl⟩ := List.mem_map.mp hy
      exact hne (List.cons.inj e).1

theorem flattenF_nodup (f : Forest β) (hw : WFF f) : (paths (flattenF f)).Nodup := Tree.flatten_nodup (.node f) hw

/-- a partial map on paths that can be the leaf map of a nested dict: nothing at the root, and no defined
path is a proper prefix of another; of a dict put together from several, this is all one needs to know -/
structure TreeLike (L : Path → Option β) : Prop where
  root : L [] = none
  apart : ∀ q q', L q ≠ none → L q' ≠ none → q <+: q' → q = q'

theorem treeLike_leafAtF (f : Forest β) : TreeLike (leafAtF f) :=
  ⟨rfl, leafAtF_prefix_eq f⟩

theorem TreeLike.sub {L : Path → Option β} {L' : Path → Option γ} (h : TreeLike L)
    (hsub : ∀ q, L' q ≠ none → L q ≠ none) : TreeLike L' :=
  ⟨Classical.byContradiction fun hn => hsub [] hn h.root,
   fun q q' h1 h2 hp => h.apart q q' (hsub q h1) (hsub q' h2) hp⟩

theorem TreeLike.under {L : Path → Option β} {L' : Path → Option γ} (h : TreeLike L) (hroot : L' [] = none)
    (hsub : ∀ c q, L' (c :: q) ≠ none → L q ≠ none) : TreeLike L' := by
  refine ⟨hroot, fun p p' h1 h2 hp => ?_⟩
  cases p with
  | nil => exact absurd hroot h1
  | cons c q =>
    cases p' with
    | nil => exact absurd hroot h2
    | cons c' q' =>
      rw [List.cons_prefix_cons] at hp
      rw [hp.1, h.apart q q' (hsub c q h1) (hsub c' q' h2) hp.2]

theorem TreeLike.or {La Lb : Path → Option β} (ha : TreeLike La) (hb : TreeLike Lb)
    (hc : ∀ q q', La q ≠ none → Lb q' ≠ none → (q <+: q' ∨ q' <+: q) → q = q') :
    TreeLike fun q => (Lb q).or (La q) := by
  have dom : ∀ q, (Lb q).or (La q) ≠ none → Lb q ≠ none ∨ La q ≠ none := by
    intro q h
    cases hq : Lb q with
    | some _ => exact Or.inl (by simp)
    | none => rw [hq] at h; exact Or.inr (by simpa using h)
  refine ⟨by simp [ha.root, hb.root], fun q q' h1 h2 hp => ?_⟩
  rcases dom q h1 with h1 | h1 <;> rcases dom q' h2 with h2 | h2
  · exact hb.apart q q' h1 h2 hp
  · exact (hc q' q h2 h1 (Or.inr hp)).symm
  · exact hc q q' h1 h2 (Or.inl hp)
  · exact ha.apart q q' h1 h2 hp

theorem Compat.treeLike {a b : Forest β} (hc : Compat a b) :
    TreeLike fun q => (leafAtF b q).or (leafAtF a q) :=
  (treeLike_leafAtF a).or (treeLike_leafAtF b) hc

theorem compat_of_sub (a : Forest β) (b : Forest γ) (h : ∀ q, leafAtF b q ≠ none → leafAtF a q ≠ none) :
    Compat a b := by
  intro q q' h1 h2 hp
  rcases hp with hp | hp
  · exact leafAtF_prefix_eq a q q' h1 (h q' h2) hp
  · exact (leafAtF_prefix_eq a q' q (h q' h2) h1 hp).symm

/-- the flat dict `l` holds exactly the entries of the map `L`, each path once -/
structure FlatRep (l : List (Path × β)) (L : Path → Option β) : Prop where
  nodup : (paths l).Nodup
  mem : ∀ q v, (q, v) ∈ l ↔ L q = some v

theorem FlatRep.nil : FlatRep ([] : List (Path × β)) fun _ => none :=
  ⟨List.nodup_nil, fun _ _ => by simp⟩

theorem FlatRep.not_mem {l : List (Path × β)} {L : Path → Option β} (h : FlatRep l L) (q : Path) :
    q ∉ paths l ↔ L q = none := by
  constructor
  · intro hq
    cases hL : L q with
    | none => rfl
    | some v => exact absurd (List.mem_map.mpr ⟨(q, v), (h.mem q v).mpr hL, rfl⟩) hq
  · intro hL hq
    obtain ⟨pb, hpb, rfl⟩ := List.mem_map.mp hq
    rw [(h.mem pb.1 pb.2).mp hpb] at hL; cases hL

theorem FlatRep.congr {l : List (Path × β)} {L L' : Path → Option β} (h : FlatRep l L) (he : ∀ q, L q = L' q) :
    FlatRep l L' :=
  ⟨h.nodup, fun q v => by rw [h.mem, he]⟩

theorem flattenF_rep (f : Forest β) (hf : WFF f) : FlatRep (flattenF f) (leafAtF f) :=
  ⟨flattenF_nodup f hf, flattenF_mem f hf⟩

theorem mem_paths_flattenF (f : Forest β) (hf : WFF f) (q : Path) :
    q ∈ paths (flattenF f) ↔ leafAtF f q ≠ none := by
  rw [Ne, ← (flattenF_rep f hf).not_mem q, Classical.not_not]

theorem FlatRep.filter {l : List (Path × β)} {L : Path → Option β} (h : FlatRep l L) (p : Path × β → Bool) :
    FlatRep (l.filter p) fun q => (L q).filter fun v => p (q, v) :=
  ⟨List.Pairwise.sublist (List.Sublist.map _ List.filter_sublist) h.nodup,
   fun q v => by rw [List.mem_filter, h.mem, Option.filter_eq_some_iff]⟩

theorem mergeFlat_spec (b a : List (Path × β)) (ha : (paths a).Nodup) (hb : (paths b).Nodup) :
    (paths (mergeFlat a b)).Nodup ∧
    ∀ q v, (q, v) ∈ mergeFlat a b ↔ (q, v) ∈ b ∨ ((q, v) ∈ a ∧ q ∉ paths b) :=
  ⟨setFlat_isUpsert.foldl_nodup_keys b ha, fun _ _ => setFlat_isUpsert.foldl_mem_iff ha hb⟩

theorem FlatRep.mergeFlat {a b : List (Path × β)} {La Lb : Path → Option β} (ha : FlatRep a La)
    (hb : FlatRep b Lb) : FlatRep (mergeFlat a b) fun q => (Lb q).or (La q) := by
  have hm := mergeFlat_spec b a ha.nodup hb.nodup
  refine ⟨hm.1, fun q v => ?_⟩
  rw [hm.2, hb.mem, ha.mem, hb.not_mem, Option.or_eq_some_iff, and_comm]

/-- the loop of `unflatten_mapping`: all paths in play are defined in `L`, so none of them nest -/
theorem foldInsert_rep {L : Path → Option β} (hL : TreeLike L) : ∀ (flat : List (Path × β)) (g0 : Forest β),
    (∀ pb ∈ flat, L pb.1 = some pb.2) → (∀ q, leafAtF g0 q ≠ none → leafAtF g0 q = L q) →
    ∃ g, flat.foldlM (fun f pb => insertF f pb.1 pb.2) g0 = .ok g ∧
      (∀ q, leafAtF g q = if q ∈ paths flat then L q else leafAtF g0 q) ∧
      (WFF g0 → WFF g) ∧ (NoEmptyF g0 → NoEmptyF g) := by
  intro flat
  induction flat with
  | nil => intro g0 _ _; exact ⟨g0, rfl, by simp [paths], id, id⟩
  | cons hd rest ih =>
    intro g0 hmem hsub
    obtain ⟨p, b⟩ := hd
    have hp : L p = some b := hmem (p, b) (by simp)
    have hdef : L p ≠ none := by simp [hp]
    have in0 : ∀ q, leafAtF g0 q ≠ none → L q ≠ none := fun q h => hsub q h ▸ h
    obtain ⟨g1, hins, hleaf1, hwf1, hne1, _⟩ := insertF_spec p g0 b
      (fun e => by rw [e, hL.root] at hp; cases hp)
      (fun q hq hqne => Classical.byContradiction fun h => hqne (hL.apart q p (in0 q h) hdef hq))
    -- nothing of `g0` sat below `p`, so `g1` differs from it at `p` only
    have h1 : ∀ q, leafAtF g1 q = if q = p then L p else leafAtF g0 q := by
      intro q
      rw [hleaf1 q, hp]
      by_cases hqp : q = p
      · subst hqp; simp
      · simp only [hqp, if_false]
        split
        · rename_i hpq
          exact Classical.byContradiction fun h => hqp (hL.apart p q hdef (in0 q (Ne.symm h)) hpq).symm
        · rfl
    obtain ⟨g, hfold, hleaf, hwf, hne⟩ := ih g1 (fun pb h => hmem pb (by simp [h])) (by
      intro q hq
      rw [h1 q] at hq ⊢
      split
      · rename_i e; rw [e]
      · rename_i e; rw [if_neg e] at hq; exact hsub q hq)
    refine ⟨g, by simp only [List.foldlM_cons, hins]; exact hfold, fun q => ?_,
      fun h => hwf (hwf1 h), fun h => hne (hne1 h)⟩
    rw [hleaf q, h1 q]
    simp only [paths, List.map_cons, List.mem_cons]
    by_cases hqp : q = p
    · subst hqp; simp only [true_or, if_true]; split <;> rfl
    · simp only [hqp, false_or, if_false]

theorem unflatten_rep {l : List (Path × β)} {L : Path → Option β} (h : FlatRep l L) (hL : TreeLike L) :
    ∃ g, unflatten l = .ok g ∧ (∀ q, leafAtF g q = L q) ∧ WFF g ∧ NoEmptyF g := by
  obtain ⟨g, h1, h2, h3, h4⟩ := foldInsert_rep hL l [] (fun pb hpb => (h.mem pb.1 pb.2).mp hpb) (by simp)
  refine ⟨g, h1, fun q => ?_, h3 (by simp [WFF]), h4 (by simp [NoEmptyF])⟩
  rw [h2 q]
  split
  · rfl
  · rename_i hq; rw [leafAtF_nil, (h.not_mem q).mp hq]

theorem unflatten_spec (flat : List (Path × β)) (hn : (paths flat).Nodup) (hne : ∀ pb ∈ flat, pb.1 ≠ [])
    (hpf : ∀ pb ∈ flat, ∀ pb' ∈ flat, pb.1 <+: pb'.1 → pb.1 = pb'.1) :
    ∃ g, unflatten flat = .ok g ∧ (∀ q b, leafAtF g q = some b ↔ (q, b) ∈ flat) ∧ WFF g ∧ NoEmptyF g := by
  have hrep : FlatRep flat fun q => flat.lookup q := ⟨hn, fun q v => (Assoc.lookup_eq_some_iff hn).symm⟩
  have hdef : ∀ q, flat.lookup q ≠ none → ∃ pb ∈ flat, pb.1 = q := by
    intro q h
    cases hq : flat.lookup q with
    | none => exact absurd hq h
    | some v => exact ⟨(q, v), (hrep.mem q v).mpr hq, rfl⟩
  obtain ⟨g, h1, h2, h3, h4⟩ := unflatten_rep hrep
    ⟨Classical.byContradiction fun h => by obtain ⟨pb, hpb, e⟩ := hdef [] h; exact hne pb hpb e,
     fun q q' hq hq' hp => by
      obtain ⟨pb, hpb, rfl⟩ := hdef q hq
      obtain ⟨pb', hpb', rfl⟩ := hdef q' hq'
      exact hpf pb hpb pb' hpb' hp⟩
  exact ⟨g, h1, fun q b => by rw [h2, hrep.mem], h3, h4⟩

theorem unflatten_flatten (f : Forest β) (hf : WFF f) :
    ∃ g, unflatten (flattenF f) = .ok g ∧ Equiv g f ∧ WFF g ∧ NoEmptyF g :=
  unflatten_rep (flattenF_rep f hf) (treeLike_leafAtF f)

theorem recursiveMerge_rep (a b : Forest β) (ha : WFF a) (hb : WFF b) {L : Path → Option β} (hL : TreeLike L)
    (h : ∀ q, (leafAtF b q).or (leafAtF a q) = L q) :
    ∃ g, recursiveMerge a b = .ok g ∧ (∀ q, leafAtF g q = L q) ∧ WFF g ∧ NoEmptyF g :=
  unflatten_rep (((flattenF_rep a ha).mergeFlat (flattenF_rep b hb)).congr h) hL

theorem recursiveMerge_spec (a b : Forest β) (ha : WFF a) (hb : WFF b) (hc : Compat a b) :
    ∃ g, recursiveMerge a b = .ok g ∧ (∀ q, leafAtF g q = (leafAtF b q).or (leafAtF a q)) ∧
      WFF g ∧ NoEmptyF g :=
  recursiveMerge_rep a b ha hb hc.treeLike fun _ => rfl

theorem mapEF_eq_mapM (g : β → Except Err γ) : ∀ f : Forest β,
    mapEF g f = f.mapM fun kt => (kt.2.mapE g).map (kt.1, ·)
  | [] => rfl
  | (k, t) :: r => by rw [mapEF, List.mapM_cons, ← mapEF_eq_mapM g r]; cases t.mapE g <;> rfl

theorem Tree.mapE_node {g : β → Except Err γ} {f : Forest β} {t' : Tree γ} :
    (Tree.node f).mapE g = .ok t' ↔ ∃ f', mapEF g f = .ok f' ∧ t' = .node f' := by
  simp only [Tree.mapE, bind_ok, pure, Except.pure, Except.ok.injEq]
  exact ⟨fun ⟨f', h, e⟩ => ⟨f', h, e.symm⟩, fun ⟨f', h, e⟩ => ⟨f', h, e.symm⟩⟩

theorem Tree.mapE_leaf {g : β → Except Err γ} {b : β} {t' : Tree γ} :
    (Tree.leaf b).mapE g = .ok t' ↔ ∃ c, g b = .ok c ∧ t' = .leaf c := by
  simp only [Tree.mapE, bind_ok, pure, Except.pure, Except.ok.injEq]
  exact ⟨fun ⟨c, h, e⟩ => ⟨c, h, e.symm⟩, fun ⟨c, h, e⟩ => ⟨c, h, e.symm⟩⟩

theorem mapEF_cons_ok {g : β → Except Err γ} {k : String} {t : Tree β} {r : Forest β} {f' : Forest γ} :
    mapEF g ((k, t) :: r) = .ok f' ↔ ∃ t' r', t.mapE g = .ok t' ∧ mapEF g r = .ok r' ∧ f' = (k, t') :: r' := by
  rw [mapEF_eq_mapM, mapM_cons_ok, mapEF_eq_mapM]
  constructor
  · rintro ⟨y, ys, hy, hys, rfl⟩
    obtain ⟨t', ht', rfl⟩ := map_ok.mp hy
    exact ⟨t', ys, ht', hys, rfl⟩
  · rintro ⟨t', r', ht', hr', rfl⟩
    exact ⟨(k, t'), r', map_ok.mpr ⟨t', ht', rfl⟩, hr', rfl⟩

theorem mapEF_keys {g : β → Except Err γ} (f : Forest β) (f' : Forest γ) (h : mapEF g f = .ok f') :
    dkeys f' = dkeys f := by
  induction f generalizing f' with
  | nil => cases h; rfl
  | cons kt r ih =>
    obtain ⟨t', r', _, hr', rfl⟩ := mapEF_cons_ok.mp h
    rw [dkeys_cons, dkeys_cons, ih r' hr']

theorem mapEF_mem {g : β → Except Err γ} {f : Forest β} {f' : Forest γ} (h : mapEF g f = .ok f') :
    ∀ kt' ∈ f', ∃ t, (kt'.1, t) ∈ f ∧ t.mapE g = .ok kt'.2 := by
  rw [mapEF_eq_mapM] at h
  intro kt' hkt'
  obtain ⟨kt, hkt, he⟩ := mapM_ok_mem_rev h kt' hkt'
  obtain ⟨t', ht', rfl⟩ := map_ok.mp he
  exact ⟨kt.2, hkt, ht'⟩

theorem dget_mapEF {g : β → Except Err γ} (f : Forest β) (f' : Forest γ) (h : mapEF g f = .ok f') (k : String) :
    (∀ t, dget f k = some t → ∃ t', t.mapE g = .ok t' ∧ dget f' k = some t') ∧ (dget f k = none → dget f' k = none) := by
  induction f generalizing f' with
  | nil => cases h; exact ⟨fun t ht => (nomatch ht), fun _ => rfl⟩
  | cons kt r ih =>
    obtain ⟨t', r', ht', hr', rfl⟩ := mapEF_cons_ok.mp h
    rw [dget_cons, dget_cons]
    by_cases hk : k = kt.1
    · rw [if_pos hk, if_pos hk]
      exact ⟨fun t ht => by cases ht; exact ⟨t', ht', rfl⟩, fun h => (nomatch h)⟩
    · rw [if_neg hk, if_neg hk]; exact ih r' hr'

theorem Tree.mapE_spec (g : β → Except Err γ) (t : Tree β) (t' : Tree γ) (h : t.mapE g = .ok t') (q : Path) :
    (∀ b, t.leafAt q = some b → ∃ c, g b = .ok c ∧ t'.leafAt q = some c) ∧
    (t.leafAt q = none → t'.leafAt q = none) := by
  induction t using Tree.induct generalizing t' q with
  | leaf b0 =>
    obtain ⟨c, hc, rfl⟩ := Tree.mapE_leaf.mp h
    cases q with
    | nil => exact ⟨fun b hb => by cases hb; exact ⟨c, hc, rfl⟩, fun hn => (nomatch hn)⟩
    | cons k p => exact ⟨fun b hb => (nomatch hb), fun _ => rfl⟩
  | node f ih =>
    obtain ⟨f', hf', rfl⟩ := Tree.mapE_node.mp h
    cases q with
    | nil => exact ⟨fun b hb => (nomatch hb), fun _ => rfl⟩
    | cons k p =>
      simp only [Tree.leafAt_node, leafAtF_cons]
      have hk := dget_mapEF f f' hf' k
      cases hd : dget f k with
      | none => rw [hk.2 hd]; exact ⟨fun b hb => (nomatch hb), fun _ => rfl⟩
      | some t =>
        obtain ⟨t1, ht1, hd'⟩ := hk.1 t hd
        rw [hd']; exact ih _ (dget_mem f k t hd) t1 ht1 p

theorem mapEF_spec (g : β → Except Err γ) (f : Forest β) (f' : Forest γ) (h : mapEF g f = .ok f') (q : Path) :
    (∀ b, leafAtF f q = some b → ∃ c, g b = .ok c ∧ leafAtF f' q = some c) ∧
    (leafAtF f q = none → leafAtF f' q = none) :=
  Tree.mapE_spec g (.node f) (.node f') (Tree.mapE_node.mpr ⟨f', h, rfl⟩) q

theorem Tree.mapE_ok (g : β → Except Err γ) (t : Tree β) (h : ∀ pb ∈ t.flatten, ∃ c, g pb.2 = .ok c) :
    ∃ t', t.mapE g = .ok t' := by
  induction t using Tree.induct with
  | leaf b =>
    obtain ⟨c, hc⟩ := h ([], b) (by simp only [Tree.flatten, List.mem_singleton])
    exact ⟨.leaf c, Tree.mapE_leaf.mpr ⟨c, hc, rfl⟩⟩
  | node f ih =>
    obtain ⟨f', hf'⟩ := mapM_ok_of_forall (f := fun kt : String × Tree β => (kt.2.mapE g).map (kt.1, ·)) f
      fun kt hkt => by
        obtain ⟨t', ht'⟩ := ih kt hkt fun pb hpb =>
          h (kt.1 :: pb.1, pb.2) (mem_flattenF.mpr ⟨kt.1, kt.2, pb.1, hkt, hpb, rfl⟩)
        exact ⟨(kt.1, t'), by rw [ht']; rfl⟩
    exact ⟨.node f', Tree.mapE_node.mpr ⟨f', by rw [mapEF_eq_mapM, hf'], rfl⟩⟩

theorem mapEF_ok (g : β → Except Err γ) : ∀ (f : Forest β), (∀ pb ∈ flattenF f, ∃ c, g pb.2 = .ok c) →
      ∃ f', mapEF g f = .ok f' := fun f h => by
  obtain ⟨t', ht'⟩ := Tree.mapE_ok g (.node f) h
  obtain ⟨f', hf', _⟩ := Tree.mapE_node.mp ht'
  exact ⟨f', hf'⟩

theorem mapEF_shape_of {g : β → Except Err γ} {f : Forest β} {f' : Forest γ} (h : mapEF g f = .ok f')
    (ih : ∀ kt ∈ f, ∀ t', kt.2.mapE g = .ok t' → (kt.2.WF → t'.WF) ∧ (kt.2.NoEmpty → t'.NoEmpty)) :
    (WFF f → WFF f') ∧ (NoEmptyF f → NoEmptyF f') ∧ dkeys f' = dkeys f := by
  have hk := mapEF_keys f f' h
  refine ⟨fun hw => ?_, fun hn => ?_, hk⟩
  · have hf := (WFF_iff f).mp hw
    refine (WFF_iff f').mpr ⟨hk ▸ hf.1, fun kt' hkt' => ?_⟩
    obtain ⟨t, hm, ht⟩ := mapEF_mem h kt' hkt'
    exact (ih _ hm _ ht).1 (hf.2 _ hm)
  · refine (NoEmptyF_iff f').mpr fun kt' hkt' => ?_
    obtain ⟨t, hm, ht⟩ := mapEF_mem h kt' hkt'
    exact (ih _ hm _ ht).2 (NoEmpty_of_mem f hn _ hm)

theorem Tree.mapE_shape (g : β → Except Err γ) : ∀ (t : Tree β) (t' : Tree γ), t.mapE g = .ok t' →
      (t.WF → t'.WF) ∧ (t.NoEmpty → t'.NoEmpty) := fun t => by
  induction t using Tree.induct with
  | leaf b =>
    intro t' h
    obtain ⟨c, _, rfl⟩ := Tree.mapE_leaf.mp h
    exact ⟨fun _ => trivial, fun _ => trivial⟩
  | node f ih =>
    intro t' h
    obtain ⟨f', hf', rfl⟩ := Tree.mapE_node.mp h
    have hs := mapEF_shape_of hf' ih
    refine ⟨hs.1, fun hn => ⟨fun e => ?_, hs.2.1 hn.2⟩⟩
    subst e
    cases f with
    | nil => exact hn.1 rfl
    | cons _ _ => cases hs.2.2

theorem mapEF_shape (g : β → Except Err γ) (f : Forest β) (f' : Forest γ) (h : mapEF g f = .ok f') :
    (WFF f → WFF f') ∧ (NoEmptyF f → NoEmptyF f') ∧ dkeys f' = dkeys f :=
  mapEF_shape_of h fun kt _ => Tree.mapE_shape g kt.2
end Flax.Bridge
