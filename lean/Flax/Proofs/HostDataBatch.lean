/-
The batch helpers of `Model/HostData`: the reshape into device chunks (`chunks`), the arithmetic of
the two padding steps (`padRows`, `pad`) in terms of the padded per-device batch `paddedDb`.
-/
import Flax.Model.HostData

namespace Flax.C20

/-- per-device batch after padding: `max ⌈b/d⌉ min_device_batch` -/
def paddedDb (d mdb b : Nat) : Nat := max ((b + d - 1) / d) mdb

end Flax.C20

namespace Flax.HostData
open Flax.C20 (paddedDb)
variable {α β γ : Type}

theorem chunks_flatten : ∀ (d db : Nat) (xs : List α), (chunks d db xs).flatten = xs.take (d * db) := by
  intro d
  induction d with
  | zero => intro db xs; simp [chunks]
  | succ d ih =>
    intro db xs
    simp only [chunks, List.flatten_cons, ih]
    rw [Nat.succ_mul, Nat.add_comm (d * db) db, List.take_add]

theorem chunks_length (d db : Nat) (xs : List α) : (chunks d db xs).length = d := by
  induction d generalizing xs with
  | zero => simp [chunks]
  | succ d ih => simp [chunks, ih]

theorem chunks_each : ∀ (d db : Nat) (xs : List α), xs.length = d * db →
    ∀ c ∈ chunks d db xs, c.length = db := by
  intro d
  induction d with
  | zero => intro db xs _ c hc; simp [chunks] at hc
  | succ d ih =>
    intro db xs hlen c hc
    simp only [chunks, List.mem_cons] at hc
    rw [Nat.succ_mul] at hlen
    rcases hc with rfl | hc
    · rw [List.length_take, hlen]; exact Nat.min_eq_left (Nat.le_add_left _ _)
    · exact ih db (xs.drop db) (by rw [List.length_drop, hlen, Nat.add_sub_cancel]) c hc

theorem chunks_zipWith (f : α → β → γ) : ∀ (d db : Nat) (xs : List α) (ys : List β),
    List.zipWith (fun c e => List.zipWith f c e) (chunks d db xs) (chunks d db ys)
      = chunks d db (List.zipWith f xs ys) := by
  intro d
  induction d with
  | zero => intro db xs ys; simp [chunks]
  | succ d ih => intro db xs ys; simp [chunks, ih, List.take_zipWith, List.drop_zipWith]

theorem ceil_div (d q r : Nat) (hr : r < d) :
    (d * q + r + d - 1) / d = if r ≠ 0 then q + 1 else q := by
  cases d with
  | zero => cases hr
  | succ e =>
    show ((e + 1) * q + r + e) / (e + 1) = _
    rw [Nat.add_assoc, Nat.mul_add_div (Nat.succ_pos e)]
    cases r with
    | zero => rw [if_neg (not_not_intro rfl), Nat.zero_add, Nat.div_eq_of_lt (Nat.lt_succ_self e)]; rfl
    | succ r =>
      rw [if_pos (Nat.succ_ne_zero r), Nat.succ_add, ← Nat.add_succ, Nat.add_div_right _ (Nat.succ_pos e),
        Nat.div_eq_of_lt (Nat.lt_of_succ_lt hr)]

/-- the second padding step: `d·(mdb - c)` more zero rows raise `c` rows per device to `mdb` -/
theorem padRows_min (z : α) (d mdb b c : Nat) (hle : b ≤ d * c) (xs : List α) :
    (if mdb ≠ 0 ∧ c < mdb then (mdb, (xs ++ List.replicate (d * c - b) z) ++ List.replicate (d * (mdb - c)) z)
      else (c, xs ++ List.replicate (d * c - b) z))
      = (max c mdb, xs ++ List.replicate (d * max c mdb - b) z) ∧ b ≤ d * max c mdb := by
  by_cases h : c < mdb
  · have hmono := Nat.mul_le_mul_left d (Nat.le_of_lt h)
    rw [if_pos ⟨Nat.ne_zero_of_lt h, h⟩, Nat.max_eq_right (Nat.le_of_lt h), List.append_assoc,
      List.replicate_append_replicate, Nat.mul_sub, Nat.add_comm, Nat.sub_add_sub_cancel hmono hle]
    exact ⟨rfl, Nat.le_trans hle hmono⟩
  · rw [if_neg (fun h' => h h'.2), Nat.max_eq_left (Nat.le_of_not_lt h)]
    exact ⟨rfl, hle⟩

theorem padRows_spec (z : α) (d mdb b : Nat) (hd : 1 ≤ d) (xs : List α) :
    padRows z d mdb b xs = (paddedDb d mdb b, xs ++ List.replicate (d * paddedDb d mdb b - b) z) ∧
      b ≤ d * paddedDb d mdb b := by
  -- `b = d·q + r`; the first step pads to `c = ⌈b/d⌉` rows per device, with `d·c - b` zero rows
  have hb := Nat.div_add_mod b d
  have hr := Nat.mod_lt b hd
  simp only [padRows, paddedDb]
  generalize b / d = q, b % d = r at hb hr ⊢
  subst hb
  rw [ceil_div d q r hr]
  by_cases h0 : r = 0
  · subst h0
    rw [if_neg (not_not_intro rfl), if_neg (not_not_intro rfl)]
    have := padRows_min z d mdb (d * q + 0) q (Nat.le_refl _) xs
    rw [Nat.add_zero, Nat.sub_self, List.replicate_zero, List.append_nil] at this
    exact this
  · rw [if_pos h0, if_pos h0]
    have e : d * (q + 1) - (d * q + r) = d - r := by rw [Nat.mul_add_one, Nat.add_sub_add_left]
    have := padRows_min z d mdb (d * q + r) (q + 1) (by rw [Nat.mul_add_one]; exact Nat.add_le_add_left (Nat.le_of_lt hr) _) xs
    rw [e] at this
    exact this

theorem pad_eq (z : α) (d mdb b : Nat) (hd : 1 ≤ d) (xs : List α) (hb : xs.length = b) :
    pad z d mdb b xs = some (chunks d (paddedDb d mdb b) (xs ++ List.replicate (d * paddedDb d mdb b - b) z)) ∧
      b ≤ d * paddedDb d mdb b := by
  obtain ⟨h1, h2⟩ := padRows_spec z d mdb b hd xs
  refine ⟨?_, h2⟩
  rw [pad, if_neg (Nat.ne_of_gt hd), h1, reshape2, if_pos (by simp [hb, Nat.add_sub_of_le h2])]

end Flax.HostData
