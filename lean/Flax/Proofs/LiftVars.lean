/-
The store layer of the lifting model: Python dicts as association lists (`alookup` is core `List.lookup`, `ainsert` an
upsert), variable trees (`getVar`, `putVar`, the dict invariant `VarsWF`) and `group_collections` (`groupBy`).
-/
import Flax.Model.Lift
import Flax.Proofs.Assoc
import Flax.Proofs.Filter

namespace Flax.Lift
open Flax.Filter

theorem alookup_eq_lookup (k : String) (l : List (String × α)) : alookup k l = l.lookup k :=
  Assoc.lookup_unique (fun _ => rfl) (fun _ _ _ _ => rfl) k l

theorem ainsert_isUpsert : Assoc.IsUpsert (ainsert (α := α)) :=
  ⟨fun _ _ => rfl, fun _ _ _ _ => if_pos rfl, fun _ _ _ h => if_neg h⟩

theorem alookup_ainsert (k k' : String) (v : α) (l : List (String × α)) :
    alookup k' (ainsert k v l) = if k' = k then some v else alookup k' l := by
  rw [alookup_eq_lookup, alookup_eq_lookup, ainsert_isUpsert.lookup]

theorem alookup_ainsert_same (k : String) (v : α) (l : List (String × α)) :
    alookup k (ainsert k v l) = some v := by
  rw [alookup_ainsert, if_pos rfl]

theorem alookup_ainsert_ne {k k' : String} (h : k' ≠ k) (v : α) (l : List (String × α)) :
    alookup k' (ainsert k v l) = alookup k' l := by
  rw [alookup_ainsert, if_neg h]

theorem alookup_none_iff (k : String) (l : List (String × α)) : alookup k l = none ↔ k ∉ keys l :=
  alookup_eq_lookup k l ▸ Assoc.lookup_eq_none_iff

theorem alookup_isSome_iff {k : String} {l : List (String × α)} : (alookup k l).isSome ↔ k ∈ keys l :=
  alookup_eq_lookup k l ▸ Assoc.lookup_isSome_iff

theorem mem_of_alookup {k : String} {v : α} {l : List (String × α)} (h : alookup k l = some v) : (k, v) ∈ l :=
  Assoc.mem_of_lookup (alookup_eq_lookup k l ▸ h)

theorem alookup_of_mem {k : String} {v : α} {l : List (String × α)} (hn : (keys l).Nodup) (h : (k, v) ∈ l) :
    alookup k l = some v :=
  alookup_eq_lookup k l ▸ Assoc.lookup_of_mem hn h

theorem alookup_filter_key (p : String → Bool) (k : String) (l : List (String × α)) :
    alookup k (l.filter (fun kv => p kv.1)) = if p k then alookup k l else none := by
  rw [alookup_eq_lookup, alookup_eq_lookup, Assoc.lookup_filter_key]

theorem alookup_append (k : String) (a b : List (String × α)) :
    alookup k (a ++ b) = match alookup k a with | some v => some v | none => alookup k b := by
  rw [alookup_eq_lookup, alookup_eq_lookup, alookup_eq_lookup, List.lookup_append]
  cases a.lookup k <;> rfl

theorem nodup_keys_ainsert (k : String) (v : α) (l : List (String × α)) (h : (keys l).Nodup) :
    (keys (ainsert k v l)).Nodup :=
  ainsert_isUpsert.nodup_keys k v h

theorem mem_ainsert {k : String} {v : α} {l : List (String × α)} {x : String × α} (h : x ∈ ainsert k v l) :
    x = (k, v) ∨ x ∈ l :=
  ainsert_isUpsert.mem h

theorem getVar_putVar (vs : Vars) (c n : String) (v : Int) (c' n' : String) :
    getVar (putVar vs c n v) c' n' = if c' = c ∧ n' = n then some v else getVar vs c' n' := by
  unfold putVar getVar
  by_cases h1 : c' = c
  · subst h1
    cases hc : alookup c' vs with
    | none => simp [alookup_ainsert_same, alookup, eq_comm]
    | some coll => simp only [alookup_ainsert_same, true_and, alookup_ainsert]
  · cases alookup c vs <;> simp [alookup_ainsert_ne h1, h1]

theorem getVar_cons (c0 : String) (coll0 : Coll) (rest : Vars) (c n : String) :
    getVar ((c0, coll0) :: rest) c n = if c0 = c then alookup n coll0 else getVar rest c n := by
  by_cases h : c0 = c <;> simp [getVar, alookup, h]

theorem getVar_filter (p : String → Bool) (vs : Vars) (c n : String) :
    getVar (vs.filter (fun kv => p kv.1)) c n = if p c then getVar vs c n else none := by
  rw [getVar, alookup_filter_key]
  cases p c <;> rfl

theorem getVar_append_left {a b : Vars} {c : String} (h : alookup c b = none) (n : String) :
    getVar (a ++ b) c n = getVar a c n := by
  simp only [getVar, alookup_append, h]
  cases alookup c a <;> rfl

theorem getVar_append_right {a b : Vars} {c : String} (h : alookup c a = none) (n : String) :
    getVar (a ++ b) c n = getVar b c n := by
  simp only [getVar, alookup_append, h]

/-- Stated for `Int`: the `match` of a statement over `Option α` is another matcher constant than the one in the
statements about variables, and the two do not unify. -/
theorem overlay_eq_left {a b : Option Int} (h : b.isSome = true → a.isSome = true) :
    (match (generalizing := false) a with | some v => some v | none => b) = a := by
  cases a with
  | some v => rfl
  | none =>
    cases b with
    | none => rfl
    | some w => cases h rfl

theorem alookup_putVar_ne (vs : Vars) (c n : String) (v : Int) {c' : String} (h : c' ≠ c) :
    alookup c' (putVar vs c n v) = alookup c' vs := by
  unfold putVar
  cases alookup c vs <;> simp [alookup_ainsert_ne h]

theorem varsWF_ainsert {vs : Vars} (h : VarsWF vs) (c : String) {coll : Coll} (hc : (keys coll).Nodup) :
    VarsWF (ainsert c coll vs) := by
  refine ⟨nodup_keys_ainsert _ _ _ h.1, fun c' coll' hm => ?_⟩
  rcases mem_ainsert hm with e | e
  · cases e; exact hc
  · exact h.2 c' coll' e

theorem varsWF_putVar (vs : Vars) (c n : String) (v : Int) (h : VarsWF vs) : VarsWF (putVar vs c n v) := by
  unfold putVar
  cases hc : alookup c vs with
  | none => exact varsWF_ainsert h c (by simp [keys])
  | some coll => exact varsWF_ainsert h c (nodup_keys_ainsert _ _ _ (h.2 c coll (mem_of_alookup hc)))

theorem varsWF_iff (vs : Vars) : VarsWF vs ↔ (keys vs).Nodup ∧ ∀ kv ∈ vs, (keys kv.2).Nodup :=
  ⟨fun h => ⟨h.1, fun kv hkv => h.2 kv.1 kv.2 hkv⟩, fun h => ⟨h.1, fun c coll hm => h.2 (c, coll) hm⟩⟩

instance (vs : Vars) : Decidable (VarsWF vs) := decidable_of_iff _ (varsWF_iff vs).symm

theorem varsWF_append (a b : Vars) (ha : VarsWF a) (hb : VarsWF b) (hd : ∀ c, c ∈ keys a → c ∉ keys b) :
    VarsWF (a ++ b) := by
  refine ⟨?_, ?_⟩
  · simp only [keys, List.map_append]
    rw [List.nodup_append]
    exact ⟨ha.1, hb.1, fun x hx y hy e => hd x hx (e ▸ hy)⟩
  · intro c coll hm
    rcases List.mem_append.mp hm with h | h
    · exact ha.2 c coll h
    · exact hb.2 c coll h

theorem anyMatch_cons (f : LFilter) (fs : List LFilter) (c : String) :
    anyMatch (f :: fs) c = (inFilter f c || anyMatch fs c) := by simp [anyMatch]

theorem alookup_groupBy_flatten (fs : List LFilter) : ∀ (xs : List (String × α)) (k : String),
    alookup k (groupBy xs fs).flatten = if anyMatch fs k then alookup k xs else none := by
  induction fs with
  | nil => intro xs k; simp [groupBy, anyMatch, alookup]
  | cons f fs ih =>
    intro xs k
    simp only [groupBy, List.flatten_cons, alookup_append, anyMatch_cons]
    rw [alookup_filter_key (fun c => inFilter f c)]
    by_cases hf : inFilter f k = true
    · simp only [hf, ↓reduceIte, Bool.true_or]
      cases h : alookup k xs with
      | some v => rfl
      | none =>
        simp only
        rw [ih, alookup_filter_key (fun c => !(inFilter f c))]
        simp [hf]
    · simp only [hf, Bool.false_eq_true, ↓reduceIte, Bool.false_or]
      rw [ih, alookup_filter_key (fun c => !(inFilter f c))]
      simp [hf]

theorem mem_groupBy_flatten (fs : List LFilter) : ∀ (xs : List (String × α)) (x : String × α),
    x ∈ (groupBy xs fs).flatten ↔ (x ∈ xs ∧ anyMatch fs x.1 = true) := by
  induction fs with
  | nil => intro xs x; simp [groupBy, anyMatch]
  | cons f fs ih =>
    intro xs x
    simp only [groupBy, List.flatten_cons, List.mem_append, List.mem_filter, ih, anyMatch_cons]
    by_cases hf : inFilter f x.1 = true <;> simp [hf]

theorem keys_filter_key (p : String → Bool) (xs : List (String × α)) :
    keys (xs.filter (fun kv => p kv.1)) = (keys xs).filter p :=
  List.filter_map.symm

theorem sublist_keys_filter (p : String × α → Bool) (xs : List (String × α)) :
    (keys (xs.filter p)).Sublist (keys xs) := by
  unfold keys
  exact (List.filter_sublist).map _

theorem nodup_keys_groupBy_flatten (fs : List LFilter) : ∀ (xs : List (String × α)),
    (keys xs).Nodup → (keys (groupBy xs fs).flatten).Nodup := by
  induction fs with
  | nil => intro xs _; simp [groupBy, keys]
  | cons f fs ih =>
    intro xs h
    simp only [groupBy, List.flatten_cons, keys, List.map_append]
    rw [List.nodup_append]
    refine ⟨(sublist_keys_filter _ xs).nodup h, ih _ ((sublist_keys_filter _ xs).nodup h), ?_⟩
    intro a ha b hb e
    subst e
    obtain ⟨x, hx, rfl⟩ := List.mem_map.mp ha
    obtain ⟨y, hy, hxy⟩ := List.mem_map.mp hb
    have hy' := (mem_groupBy_flatten fs _ y).mp hy
    simp only [List.mem_filter] at hx hy'
    have h1 := hx.2
    have h2 := hy'.1.2
    rw [hxy] at h2
    simp [h1] at h2

theorem varsWF_groupBy_flatten (fs : List LFilter) (vs : Vars) (h : VarsWF vs) : VarsWF (groupBy vs fs).flatten := by
  refine ⟨nodup_keys_groupBy_flatten fs vs h.1, ?_⟩
  intro c coll hm
  exact h.2 c coll ((mem_groupBy_flatten fs vs (c, coll)).mp hm).1

theorem varsWF_filter (p : String × Coll → Bool) (vs : Vars) (h : VarsWF vs) : VarsWF (vs.filter p) := by
  refine ⟨(sublist_keys_filter p vs).nodup h.1, ?_⟩
  intro c coll hm
  exact h.2 c coll (List.mem_filter.mp hm).1

theorem groupBy_append_tt (fs : List LFilter) : ∀ (xs : List (String × α)),
    groupBy xs (fs ++ [LFilter.tt]) = groupBy xs fs ++ [xs.filter (fun kv => !(anyMatch fs kv.1))] := by
  induction fs with
  | nil => intro xs; simp [groupBy, anyMatch, inFilter]
  | cons f fs ih =>
    intro xs
    simp only [List.cons_append, groupBy, ih, List.filter_filter, anyMatch_cons]
    congr 2
    congr 1
    apply List.filter_congr
    intro x _
    cases inFilter f x.1 <;> simp

theorem groupBy_length (fs : List LFilter) : ∀ (xs : List (String × α)), (groupBy xs fs).length = fs.length := by
  induction fs with
  | nil => intro xs; rfl
  | cons f fs ih => intro xs; simp [groupBy, ih]

theorem groupBy_two (xs : List (String × α)) (a b : LFilter) :
    groupBy xs [a, b] = [xs.filter (fun kv => inFilter a kv.1),
      (xs.filter (fun kv => !(inFilter a kv.1))).filter (fun kv => inFilter b kv.1)] := rfl

theorem alookup_groupBy_rest (xs : List (String × α)) (a b : LFilter) (c : String) :
    alookup c ((xs.filter (fun kv => !(inFilter a kv.1))).filter (fun kv => inFilter b kv.1)) =
      if (!(inFilter a c) && inFilter b c) = true then alookup c xs else none := by
  simp only [alookup_filter_key (fun c => inFilter b c), alookup_filter_key (fun c => !(inFilter a c))]
  cases inFilter a c <;> cases inFilter b c <;> simp

end Flax.Lift
