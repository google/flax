/- The repaired `_graph_pop`: the heap only loses attributes, and a successful `pop` is a run of one-encounter steps along
the DFS of `flatten`. -/
import Flax.Proofs.GraphFirst

namespace Flax.Graph
open Flax.Heap
open Flax.Filter (NFilter)

/-- attributes are only removed: same length, Variables untouched, nodes keep their class and lose entries -/
structure PShape (hp hp' : Heap) : Prop where
  len : hp.length = hp'.length
  var : ∀ (b : Nat) ty val md, hp[b]? = some (.var ty val md) ↔ hp'[b]? = some (.var ty val md)
  node : ∀ (a : Nat) cls attrs, hp[a]? = some (.node cls attrs) →
    ∃ attrs', hp'[a]? = some (.node cls attrs') ∧ ∀ kv ∈ attrs', kv ∈ attrs

theorem PShape.refl (hp : Heap) : PShape hp hp :=
  ⟨rfl, fun _ _ _ _ => Iff.rfl, fun _ _ attrs h => ⟨attrs, h, fun _ hk => hk⟩⟩

theorem PShape.trans {a b c : Heap} (h1 : PShape a b) (h2 : PShape b c) : PShape a c := by
  refine ⟨h1.len.trans h2.len, fun x ty val md => (h1.var x ty val md).trans (h2.var x ty val md), ?_⟩
  intro x cls attrs hx
  obtain ⟨attrs1, hx1, s1⟩ := h1.node x cls attrs hx
  obtain ⟨attrs2, hx2, s2⟩ := h2.node x cls attrs1 hx1
  exact ⟨attrs2, hx2, fun kv hkv => s1 kv (s2 kv hkv)⟩

theorem PShape.node_back {hp hp' : Heap} (s : PShape hp hp') {a : Nat} {cls : String} {live : List (Key × PVal)}
    (hget : hp'[a]? = some (.node cls live)) : ∃ attrs0, hp[a]? = some (.node cls attrs0) ∧ ∀ kv ∈ live, kv ∈ attrs0 := by
  have hlt : a < hp.length := by rw [s.len]; exact (List.getElem?_eq_some_iff.mp hget).1
  obtain ⟨o, ho⟩ : ∃ o, hp[a]? = some o := ⟨hp[a], List.getElem?_eq_getElem hlt⟩
  cases o with
  | var ty val md =>
    have := (s.var a ty val md).mp ho
    rw [hget] at this; cases this
  | node cls0 attrs0 =>
    obtain ⟨live', hl', hsub⟩ := s.node a cls0 attrs0 ho
    rw [hget] at hl'; cases hl'
    exact ⟨attrs0, ho, hsub⟩

theorem eraseAttr_shape (hp : Heap) (a : Addr) (k : Key) : PShape hp (eraseAttr hp a k) := by
  unfold eraseAttr
  split
  · next cls attrs hget =>
    have hlt : a < hp.length := (List.getElem?_eq_some_iff.mp hget).1
    refine ⟨(write_length _ _ _).symm, ?_, ?_⟩
    · intro b ty val md
      by_cases e : b = a
      · subst e; rw [write_get _ _ _ hlt, hget]; simp
      · rw [write_frame _ _ _ _ e]
    · intro x cls' attrs' hx
      by_cases e : x = a
      · subst e
        rw [hget] at hx; cases hx
        exact ⟨_, write_get _ _ _ hlt, fun kv hkv => (mem_eraseKV.mp hkv).1⟩
      · exact ⟨attrs', by rw [write_frame _ _ _ _ e]; exact hx, fun _ hk => hk⟩
  · exact PShape.refl hp

theorem eraseAttr_other (hp : Heap) (a : Addr) (k : Key) (x : Nat) (hne : x ≠ a) : (eraseAttr hp a k)[x]? = hp[x]? := by
  unfold eraseAttr
  split
  · exact write_frame _ _ _ _ hne
  · rfl

theorem eraseAttr_self {hp : Heap} {a : Addr} {cls : String} {live : List (Key × PVal)} (k : Key)
    (hget : hp[a]? = some (.node cls live)) : (eraseAttr hp a k)[a]? = some (.node cls (eraseKV k live)) := by
  have hlt : a < hp.length := (List.getElem?_eq_some_iff.mp hget).1
  simp only [eraseAttr, hget]
  exact write_get _ _ _ hlt

/-- the body of the attribute loop of `_graph_pop` for one `(name, value)` pair: a copy of what the model's `popItems`
inlines, kept equal to it by `popItems_cons := rfl` -/
def popItem (fixed : Bool) (preds : List NFilter) (fuel : Nat) (path : Path) (owner : Option Addr) (k : Key) (v : PVal)
    (st : PopSt) : Except Err PopSt :=
  match v with
  | .static _ => .ok st
  | .array _ => .ok st
  | .ref b =>
    match st.heap[b]? with
    | Option.none => .error .dangling
    | some (.node _ _) => popNode fixed preds fuel (path ++ [k]) v st
    | some (.var ty val md) =>
      if b ∈ st.visited then
        if fixed then
          match owner with
          | Option.none => .error .popFromPytree
          | some a => .ok { st with heap := eraseAttr st.heap a k }
        else .ok st
      else
        let i := bucketOf preds (path ++ [k], .vstate ty val md)
        if i < preds.length then
          match owner with
          | Option.none => .error .popFromPytree
          | some a =>
            .ok { heap := eraseAttr st.heap a k, visited := st.visited ++ [b],
                  out := pushOut st.out i (path ++ [k], .vstate ty val md) }
        else .ok st
  | _ => popNode fixed preds fuel (path ++ [k]) v st

theorem popItems_cons (fixed : Bool) (preds : List NFilter) (fuel : Nat) (path : Path) (owner : Option Addr) (k : Key)
    (v : PVal) (rest : List (Key × PVal)) (st : PopSt) :
    popItems fixed preds (fuel + 1) path owner ((k, v) :: rest) st =
      match popItem fixed preds fuel path owner k v st with
      | .error e => .error e
      | .ok st1 => popItems fixed preds fuel path owner rest st1 := rfl

variable {preds : List NFilter}

theorem popNode_ok {fuel : Nat} {path : Path} {v : PVal} {st st' : PopSt}
    (h : popNode true preds (fuel + 1) path v st = .ok st') :
    (v = .none ∧ st' = st) ∨
    (∃ t xs, v = .seq t xs ∧ popItems true preds fuel path Option.none (enumFrom 0 xs) st = .ok st') ∨
    (∃ kvs, v = .dict kvs ∧ popItems true preds fuel path Option.none (sortKV kvs) st = .ok st') ∨
    ∃ a cls attrs, v = .ref a ∧ st.heap[a]? = some (.node cls attrs) ∧
      ((a ∈ st.visited ∧ st' = st) ∨
       (a ∉ st.visited ∧
         popItems true preds fuel path (some a) (sortKV attrs) { st with visited := st.visited ++ [a] } = .ok st')) := by
  cases v with
  | static s => cases h
  | array d => cases h
  | none => cases h; exact Or.inl ⟨rfl, rfl⟩
  | seq t xs => exact Or.inr (Or.inl ⟨t, xs, rfl, h⟩)
  | dict kvs => exact Or.inr (Or.inr (Or.inl ⟨kvs, rfl, h⟩))
  | ref a =>
    dsimp only [popNode] at h
    split at h
    · cases h
    · cases h
    · next cls attrs hget =>
      refine Or.inr (Or.inr (Or.inr ⟨a, cls, attrs, rfl, hget, ?_⟩))
      split at h
      · next hvis => cases h; exact Or.inl ⟨hvis, rfl⟩
      · next hnvis => exact Or.inr ⟨hnvis, h⟩

theorem popItem_ok {fuel : Nat} {path : Path} {owner : Option Addr} {k : Key} {v : PVal} {st st1 : PopSt}
    (h : popItem true preds fuel path owner k v st = .ok st1) :
    (((∃ s, v = .static s) ∨ (∃ d, v = .array d)) ∧ st1 = st) ∨
    ((∀ b, v = .ref b → ∃ cls attrs, st.heap[b]? = some (.node cls attrs)) ∧
      popNode true preds fuel (path ++ [k]) v st = .ok st1) ∨
    ∃ b ty val md, v = .ref b ∧ st.heap[b]? = some (.var ty val md) ∧
      ((b ∈ st.visited ∧ ∃ a, owner = some a ∧ st1 = { st with heap := eraseAttr st.heap a k }) ∨
       (b ∉ st.visited ∧ bucketOf preds (path ++ [k], .vstate ty val md) < preds.length ∧ ∃ a, owner = some a ∧
          st1 = { heap := eraseAttr st.heap a k, visited := st.visited ++ [b],
                  out := pushOut st.out (bucketOf preds (path ++ [k], .vstate ty val md)) (path ++ [k], .vstate ty val md) }) ∨
       (b ∉ st.visited ∧ ¬ bucketOf preds (path ++ [k], .vstate ty val md) < preds.length ∧ st1 = st)) := by
  cases v with
  | static s => cases h; exact Or.inl ⟨Or.inl ⟨s, rfl⟩, rfl⟩
  | array d => cases h; exact Or.inl ⟨Or.inr ⟨d, rfl⟩, rfl⟩
  | none => exact Or.inr (Or.inl ⟨fun _ e => PVal.noConfusion e, h⟩)
  | seq t xs => exact Or.inr (Or.inl ⟨fun _ e => PVal.noConfusion e, h⟩)
  | dict kvs => exact Or.inr (Or.inl ⟨fun _ e => PVal.noConfusion e, h⟩)
  | ref b =>
    dsimp only [popItem] at h
    cases hg : st.heap[b]? with
    | none => simp only [hg] at h; cases h
    | some o =>
      cases o with
      | node cls attrs =>
        simp only [hg] at h
        exact Or.inr (Or.inl ⟨fun b' e => by cases e; exact ⟨cls, attrs, hg⟩, h⟩)
      | var ty val md =>
        refine Or.inr (Or.inr ⟨b, ty, val, md, rfl, hg, ?_⟩)
        by_cases hvis : b ∈ st.visited
        · simp only [hg, hvis, if_true] at h
          cases owner with
          | none => cases h
          | some a => cases h; exact Or.inl ⟨hvis, a, rfl, rfl⟩
        · by_cases hlt : bucketOf preds (path ++ [k], .vstate ty val md) < preds.length
          · simp only [hg, hvis, hlt, if_true, if_false] at h
            cases owner with
            | none => cases h
            | some a => cases h; exact Or.inr (Or.inl ⟨hvis, hlt, a, rfl, rfl⟩)
          · simp only [hg, hvis, hlt, if_false] at h
            cases h; exact Or.inr (Or.inr ⟨hvis, hlt, rfl⟩)

theorem popItems_ok {fuel : Nat} {path : Path} {owner : Option Addr} {items : List (Key × PVal)} {st st' : PopSt}
    (h : popItems true preds (fuel + 1) path owner items st = .ok st') :
    (items = [] ∧ st' = st) ∨
    ∃ k v rest st1, items = (k, v) :: rest ∧ popItem true preds fuel path owner k v st = .ok st1 ∧
      popItems true preds fuel path owner rest st1 = .ok st' := by
  cases items with
  | nil => cases h; exact Or.inl ⟨rfl, rfl⟩
  | cons kv rest =>
    obtain ⟨k, v⟩ := kv
    rw [popItems_cons] at h
    split at h
    · cases h
    · next st1 hitem => exact Or.inr ⟨k, v, rest, st1, rfl, hitem, h⟩

theorem pop_ok {fixed : Bool} {h : Heap} {root : PVal} {h' : Heap} {outs : List FlatState}
    (hp : pop fixed h root preds = .ok (h', outs)) :
    ∃ st', popNode fixed preds (fuelFor h root) [] root { heap := h, visited := [], out := preds.map (fun _ => []) } = .ok st' ∧
      st'.heap = h' ∧ st'.out = outs := by
  unfold pop at hp
  split at hp
  · cases hp
  · split at hp
    · cases hp
    · next st' hrun =>
      cases hp
      exact ⟨st', hrun, rfl, rfl⟩

def isNodeAt (hp : Heap) (a : Addr) : Prop := ∃ cls attrs, hp[a]? = some (.node cls attrs)

theorem node_not_var {hp : Heap} {a : Nat} (hn : isNodeAt hp a) : ∀ ty val md, hp[a]? ≠ some (.var ty val md) := by
  obtain ⟨c, l, hg⟩ := hn
  intro ty val md hv; rw [hg] at hv; cases hv

/-! `_graph_pop` walks the original graph in the order `trace` records: it only ever removes references to Variables, and it
reads a node's attributes when it first enters it.  At each encounter it does one of five local things (`PopStep`).
`pop_run` is the induction over `popNode` / `popItems` that follows paths; what `pop` returns and removes is then proved
by induction over the list of encounters.  (A second one, `pop_post` in GraphPopIndep, shows without well-formedness
that nothing selected stays reachable.) -/

section Run
variable (preds : List NFilter) (h0 : Heap) (root0 : PVal)

/-- What `_graph_pop` does when the DFS stands on the reference `e.1` at path `e.2`.  A graph node is skipped (`seen`) or
entered (`enter`).  A Variable that no filter matches here and that was not popped before stays (`keep`); one popped
before loses this reference too (`again`, the repair of finding F12); otherwise it is popped here (`take`). -/
inductive PopStep : Addr × Path → PopSt → PopSt → Prop where
  | seen {a q st} : isNodeAt h0 a → a ∈ st.visited → resolve h0 root0 q = some (.ref a) → PopStep (a, q) st st
  | enter {a q st} : isNodeAt h0 a → a ∉ st.visited → resolve h0 root0 q = some (.ref a) →
      PopStep (a, q) st { st with visited := st.visited ++ [a] }
  | keep {b q st ty val md} : h0[b]? = some (.var ty val md) → b ∉ st.visited →
      ¬ bucketOf preds (q, .vstate ty val md) < preds.length → resolve h0 root0 q = some (.ref b) → PopStep (b, q) st st
  | again {b a k q st ty val md} : h0[b]? = some (.var ty val md) → b ∈ st.visited →
      resolve h0 root0 q = some (.ref a) → resolve h0 root0 (q ++ [k]) = some (.ref b) →
      PopStep (b, q ++ [k]) st { st with heap := eraseAttr st.heap a k }
  | take {b a k q st ty val md} : h0[b]? = some (.var ty val md) → b ∉ st.visited →
      bucketOf preds (q ++ [k], .vstate ty val md) < preds.length →
      resolve h0 root0 q = some (.ref a) → resolve h0 root0 (q ++ [k]) = some (.ref b) →
      PopStep (b, q ++ [k]) st
        { heap := eraseAttr st.heap a k, visited := st.visited ++ [b],
          out := pushOut st.out (bucketOf preds (q ++ [k], .vstate ty val md)) (q ++ [k], .vstate ty val md) }

inductive PopRun : Log → PopSt → PopSt → Prop where
  | nil {st} : PopRun [] st st
  | cons {e es st st1 st2} : PopStep preds h0 root0 e st st1 → PopRun es st1 st2 → PopRun (e :: es) st st2

variable {preds h0 root0}

theorem PopRun.single {e st st1} (s : PopStep preds h0 root0 e st st1) : PopRun preds h0 root0 [e] st st1 := .cons s .nil

theorem PopRun.append {es1 es2 st st1 st2} (r1 : PopRun preds h0 root0 es1 st st1) (r2 : PopRun preds h0 root0 es2 st1 st2) :
    PopRun preds h0 root0 (es1 ++ es2) st st2 := by
  induction r1 with
  | nil => exact r2
  | cons s _ ih => exact .cons s (ih r2)

theorem PopStep.sub {e st st1} (s : PopStep preds h0 root0 e st st1) : ∀ x, x ∈ st.visited → x ∈ st1.visited := by
  cases s with
  | seen | keep | again => exact fun _ hx => hx
  | enter | take => exact fun _ hx => List.mem_append_left _ hx

theorem PopRun.sub {es st st1} (r : PopRun preds h0 root0 es st st1) : ∀ x, x ∈ st.visited → x ∈ st1.visited := by
  induction r with
  | nil => exact fun _ hx => hx
  | cons s _ ih => exact fun x hx => ih x (s.sub x hx)

theorem PopStep.at {e st st1} (s : PopStep preds h0 root0 e st st1) : resolve h0 root0 e.2 = some (.ref e.1) := by
  cases s <;> assumption

theorem PopRun.at {es st st1} (r : PopRun preds h0 root0 es st st1) : ∀ e ∈ es, resolve h0 root0 e.2 = some (.ref e.1) := by
  induction r with
  | nil => exact fun _ he => (nomatch he)
  | cons s _ ih => exact fun e he => (List.mem_cons.mp he).elim (fun e' => e' ▸ s.at) (ih e)

/-- `pop` and the DFS of the original heap are at the same point: they have entered the same graph nodes, and
`pop` has only touched nodes it has entered -/
structure Sync (h0 : Heap) (idx : RefIndex) (st : PopSt) : Prop where
  shape : PShape h0 st.heap
  nodes : ∀ (a : Nat), isNodeAt h0 a → (a ∈ idx ↔ a ∈ st.visited)
  same : ∀ (a : Nat), a ∉ st.visited → st.heap[a]? = h0[a]?

theorem Sync.enter {idx : RefIndex} {st : PopSt} (l : Sync h0 idx st) (a : Nat) :
    Sync h0 (idx ++ [a]) { st with visited := st.visited ++ [a] } := by
  refine ⟨l.shape, fun x hx => ?_, fun x hx => l.same x (fun hc => hx (List.mem_append_left _ hc))⟩
  simp only [List.mem_append, List.mem_singleton]
  rw [l.nodes x hx]

/-- an encounter of the Variable `b`: the DFS may register it, `pop` may record it and may erase a key of a node
it has entered -/
theorem Sync.var {idx idx1 : RefIndex} {st : PopSt} (l : Sync h0 idx st) {b : Nat} {ty val md}
    (hb0 : h0[b]? = some (.var ty val md)) (hidx : idx1 = idx ∨ idx1 = idx ++ [b])
    {hp' : Heap} {vis' : List Addr} (out' : List FlatState) (hvis : vis' = st.visited ∨ vis' = st.visited ++ [b])
    (hheap : hp' = st.heap ∨ ∃ a k, a ∈ st.visited ∧ hp' = eraseAttr st.heap a k) :
    Sync h0 idx1 { heap := hp', visited := vis', out := out' } := by
  have hsub : ∀ x, x ∈ st.visited → x ∈ vis' := by
    intro x hx
    rcases hvis with e | e <;> rw [e]
    · exact hx
    · exact List.mem_append_left _ hx
  refine ⟨?_, ?_, ?_⟩
  · rcases hheap with e | ⟨a, k, _, e⟩ <;> rw [e]
    · exact l.shape
    · exact l.shape.trans (eraseAttr_shape _ _ _)
  · intro x hx
    have hxb : x ≠ b := fun e => node_not_var hx ty val md (e ▸ hb0)
    have h1 : x ∈ idx1 ↔ x ∈ idx := by
      rcases hidx with e | e <;> rw [e]
      simp [hxb]
    have h2 : x ∈ vis' ↔ x ∈ st.visited := by
      rcases hvis with e | e <;> rw [e]
      simp [hxb]
    rw [h1, h2]
    exact l.nodes x hx
  · intro x hx
    have hx0 : x ∉ st.visited := fun hc => hx (hsub x hc)
    rcases hheap with e | ⟨a, k, ha, e⟩ <;> rw [e]
    · exact l.same x hx0
    · rw [eraseAttr_other _ _ _ _ (fun e' : x = a => hx0 (e' ▸ ha))]
      exact l.same x hx0

/-- The DFS gets one unit of budget more than `pop`, which handles a Variable attribute without a recursive call. -/
theorem pop_run (hw0 : Heap.wf h0 = true) : ∀ fuel : Nat,
    (∀ path v st st' idx, Sync h0 idx st → v.wf = true → resolve h0 root0 path = some v →
      popNode true preds fuel path v st = .ok st' →
      ∃ enc reg idx', traceVal (fuel + 1) h0 path v idx = .ok (enc, reg, idx') ∧ Sync h0 idx' st' ∧
        PopRun preds h0 root0 enc st st') ∧
    (∀ path owner items st st' idx, Sync h0 idx st →
      (∀ kv ∈ items, kv.2.wf = true ∧ resolve h0 root0 (path ++ [kv.1]) = some kv.2) →
      (∀ a, owner = some a → a ∈ st.visited ∧ resolve h0 root0 path = some (.ref a)) →
      popItems true preds fuel path owner items st = .ok st' →
      ∃ enc reg idx', traceItems (fuel + 1) h0 path items idx = .ok (enc, reg, idx') ∧ Sync h0 idx' st' ∧
        PopRun preds h0 root0 enc st st') := by
  intro fuel
  induction fuel with
  | zero => exact ⟨fun _ _ _ _ _ _ _ _ hp => (nomatch hp), fun _ _ _ _ _ _ _ _ _ hp => (nomatch hp)⟩
  | succ fuel ih =>
    constructor
    · intro path v st st' idx l hwf hres hp
      rcases popNode_ok hp with ⟨rfl, rfl⟩ | ⟨t, xs, rfl, hp⟩ | ⟨kvs, rfl, hp⟩ | ⟨a, cls, live, rfl, hget, hp⟩
      · exact ⟨[], [], idx, rfl, l, .nil⟩
      · exact ih.2 path Option.none _ st st' idx l ((Kids.seq t xs).children hw0 hwf hres) (fun a ha => nomatch ha) hp
      · exact ih.2 path Option.none _ st st' idx l (fun kv hkv => (Kids.dict kvs).children hw0 hwf hres kv (mem_sortKV.mp hkv))
          (fun a ha => nomatch ha) hp
      · have hn0 : isNodeAt h0 a := by
          obtain ⟨attrs0, hg0, _⟩ := l.shape.node_back hget
          exact ⟨cls, attrs0, hg0⟩
        rcases hp with ⟨hvis, rfl⟩ | ⟨hnvis, hp⟩
        · obtain ⟨i, hi⟩ := indexOf?_of_mem ((l.nodes a hn0).mpr hvis)
          exact ⟨[(a, path)], [], idx, by simp only [traceVal, hi], l, .single (.seen hn0 hvis hres)⟩
        · have hnin : a ∉ idx := fun hc => hnvis ((l.nodes a hn0).mp hc)
          -- `a` has not been entered, so `pop` reads the attributes the DFS reads
          have hg0 : h0[a]? = some (.node cls live) := by rw [← l.same a hnvis]; exact hget
          obtain ⟨enc, reg, idx', ht, l', r⟩ := ih.2 path (some a) _ _ st' (idx ++ [a]) (l.enter a)
            (fun kv hkv => (Kids.node hg0).children hw0 hwf hres kv (mem_sortKV.mp hkv))
            (fun a' ha' => by cases ha'; exact ⟨List.mem_append_right _ (List.mem_singleton.mpr rfl), hres⟩) hp
          exact ⟨(a, path) :: enc, (a, path) :: reg, idx', by simp only [traceVal, indexOf?_none.mpr hnin, hg0, ht], l',
            .cons (.enter hn0 hnvis hres) r⟩
    · intro path owner items st st' idx l hit ho hp
      rcases popItems_ok hp with ⟨rfl, rfl⟩ | ⟨k, v, rest, st1, rfl, hitem, hp⟩
      · exact ⟨[], [], idx, rfl, l, .nil⟩
      · have hkv := hit (k, v) List.mem_cons_self
        have step1 : ∃ enc1 reg1 idx1, traceVal (fuel + 1) h0 (path ++ [k]) v idx = .ok (enc1, reg1, idx1) ∧
            Sync h0 idx1 st1 ∧ PopRun preds h0 root0 enc1 st st1 := by
          rcases popItem_ok hitem with ⟨hv, rfl⟩ | ⟨_, hrun⟩ | ⟨b, ty, val, md, rfl, hget, hcase⟩
          · exact ⟨[], [], idx, by rcases hv with ⟨s, rfl⟩ | ⟨d, rfl⟩ <;> rfl, l, .nil⟩
          · exact ih.1 _ _ st st1 idx l hkv.1 hkv.2 hrun
          · have hb0 := (l.shape.var b ty val md).mpr hget
            obtain ⟨reg1, idx1, ht1, hidx⟩ := traceVal_var_ok fuel (path ++ [k]) idx hb0
            refine ⟨[(b, path ++ [k])], reg1, idx1, ht1, ?_⟩
            rcases hcase with ⟨hvis, a, rfl, rfl⟩ | ⟨hnvis, hlt, a, rfl, rfl⟩ | ⟨hnvis, hnlt, rfl⟩
            · obtain ⟨hav, hra⟩ := ho a rfl
              exact ⟨l.var hb0 hidx _ (Or.inl rfl) (Or.inr ⟨a, k, hav, rfl⟩), .single (.again hb0 hvis hra hkv.2)⟩
            · obtain ⟨hav, hra⟩ := ho a rfl
              exact ⟨l.var hb0 hidx _ (Or.inr rfl) (Or.inr ⟨a, k, hav, rfl⟩), .single (.take hb0 hnvis hlt hra hkv.2)⟩
            · exact ⟨l.var hb0 hidx _ (Or.inl rfl) (Or.inl rfl), .single (.keep hb0 hnvis hnlt hkv.2)⟩
        obtain ⟨enc1, reg1, idx1, ht1, l1, r1⟩ := step1
        obtain ⟨enc2, reg2, idx2, ht2, l2, r2⟩ := ih.2 path owner rest st1 st' idx1 l1
          (fun kv' hkv' => hit kv' (List.mem_cons_of_mem _ hkv')) (fun a ha => ⟨r1.sub a (ho a ha).1, (ho a ha).2⟩) hp
        exact ⟨enc1 ++ enc2, reg1 ++ reg2, idx2, by simp only [traceItems, ht1, ht2], l2, r1.append r2⟩

theorem sync_init (h : Heap) (out : List FlatState) : Sync h [] { heap := h, visited := [], out := out } :=
  ⟨PShape.refl h, fun _ _ => Iff.rfl, fun _ _ => rfl⟩

theorem pop_runs {h : Heap} {root : PVal} (hw : Heap.wf h = true) (hrw : root.wf = true) {h' : Heap} {outs : List FlatState}
    (hp : pop true h root preds = .ok (h', outs)) :
    ∃ enc reg idx st', traceVal (fuelFor h root + 1) h [] root [] = .ok (enc, reg, idx) ∧
      PopRun preds h root enc { heap := h, visited := [], out := preds.map (fun _ => []) } st' ∧
      PShape h st'.heap ∧ st'.heap = h' ∧ st'.out = outs := by
  obtain ⟨st', hrun, e1, e2⟩ := pop_ok hp
  obtain ⟨enc, reg, idx, ht, l, r⟩ := (pop_run hw _).1 [] root _ st' [] (sync_init h _) hrw rfl hrun
  exact ⟨enc, reg, idx, st', ht, r, l.shape, e1, e2⟩

end Run

end Flax.Graph
