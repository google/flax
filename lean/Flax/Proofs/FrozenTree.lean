/-
Abstract values (`Tree`) of `Model/Frozen.lean` without the heap.  `MapEq`, equal contents whatever the insertion
orders, is respected when keys are distinct (`wfTree`) by `hash`, `==` and `canon`, which forgets the dict/FrozenDict
tag and sorts the keys at every level, so that having the same contents is an equality (`SameContent`) and composes.
-/
import Flax.Proofs.FrozenKv

namespace Flax.Frozen

theorem Tree.induct {P : Tree → Prop} {Q : List (Key × Tree) → Prop}
    (leaf : ∀ l, P (.leaf l)) (node : ∀ fz kvs, Q kvs → P (.node fz kvs))
    (nil : Q []) (cons : ∀ k t r, P t → Q r → Q ((k, t) :: r)) : (∀ t, P t) ∧ ∀ kvs, Q kvs :=
  ⟨Tree.rec (motive_1 := P) (motive_2 := Q) (motive_3 := fun p => P p.2)
      leaf node nil (fun p r hp hr => cons p.1 p.2 r hp hr) (fun _ _ h => h),
    Tree.rec_1 (motive_1 := P) (motive_2 := Q) (motive_3 := fun p => P p.2)
      leaf node nil (fun p r hp hr => cons p.1 p.2 r hp hr) (fun _ _ h => h)⟩

end Flax.Frozen

namespace Flax.C15
open Flax.Frozen

mutual
  /-- equal contents as finite maps, recursively: at every level the entries of the right-hand side
  are a permutation of entries with the same keys and (recursively) equal values.  The
  dict/FrozenDict tag is ignored. -/
  inductive MapEq : Tree → Tree → Prop where
    | leaf (l : Leaf) : MapEq (.leaf l) (.leaf l)
    | node {f1 f2 : Bool} {k1 k2 k2' : List (Key × Tree)} :
        k2.Perm k2' → KvsEq k1 k2' → MapEq (.node f1 k1) (.node f2 k2)
  inductive KvsEq : List (Key × Tree) → List (Key × Tree) → Prop where
    | nil : KvsEq [] []
    | cons {k : Key} {t1 t2 : Tree} {r1 r2 : List (Key × Tree)} :
        MapEq t1 t2 → KvsEq r1 r2 → KvsEq ((k, t1) :: r1) ((k, t2) :: r2)
end

theorem MapEq.induct {P : Tree → Tree → Prop} {Q : List (Key × Tree) → List (Key × Tree) → Prop}
    (leaf : ∀ l, P (.leaf l) (.leaf l))
    (node : ∀ {f1 f2 k1 k2 k2'}, k2.Perm k2' → KvsEq k1 k2' → Q k1 k2' → P (.node f1 k1) (.node f2 k2))
    (nil : Q [] [])
    (cons : ∀ {k t1 t2 r1 r2}, MapEq t1 t2 → KvsEq r1 r2 → P t1 t2 → Q r1 r2 → Q ((k, t1) :: r1) ((k, t2) :: r2)) :
    (∀ {t1 t2}, MapEq t1 t2 → P t1 t2) ∧ ∀ {k1 k2}, KvsEq k1 k2 → Q k1 k2 :=
  ⟨fun h => MapEq.rec (motive_1 := fun t1 t2 _ => P t1 t2) (motive_2 := fun k1 k2 _ => Q k1 k2)
      leaf (fun hp hk ih => node hp hk ih) nil (fun hm hk ih1 ih2 => cons hm hk ih1 ih2) h,
    fun h => KvsEq.rec (motive_1 := fun t1 t2 _ => P t1 t2) (motive_2 := fun k1 k2 _ => Q k1 k2)
      leaf (fun hp hk ih => node hp hk ih) nil (fun hm hk ih1 ih2 => cons hm hk ih1 ih2) h⟩

theorem kvsHash_cons (H : HashFns) (p : Key × Tree) (r : List (Key × Tree)) :
    kvsHash H (p :: r) =
      match treeHash H p.2, kvsHash H r with
      | some a, some b => some (b ^^^ H.pair (H.hk p.1) a)
      | _, _ => none := by
  obtain ⟨k, t⟩ := p
  simp only [kvsHash]
  rfl

theorem kvsHash_perm (H : HashFns) {l1 l2 : List (Key × Tree)} (hp : l1.Perm l2) :
    kvsHash H l1 = kvsHash H l2 := by
  induction hp with
  | nil => rfl
  | cons x _ ih => rw [kvsHash_cons, kvsHash_cons, ih]
  | swap x y l =>
    rw [kvsHash_cons, kvsHash_cons, kvsHash_cons, kvsHash_cons]
    cases treeHash H x.2 <;> cases treeHash H y.2 <;> cases kvsHash H l <;> simp
    rw [Nat.xor_assoc, Nat.xor_assoc, Nat.xor_comm (H.pair _ _)]
  | trans _ _ ih1 ih2 => rw [ih1, ih2]

theorem treeHash_mapEq (H : HashFns) :
    (∀ {t1 t2}, MapEq t1 t2 → treeHash H t1 = treeHash H t2) ∧
    ∀ {k1 k2}, KvsEq k1 k2 → kvsHash H k1 = kvsHash H k2 := by
  refine MapEq.induct (fun _ => rfl) ?_ rfl ?_
  · intro f1 f2 k1 k2 k2' hp _ ih
    simp only [treeHash]
    rw [ih, kvsHash_perm H hp]
  · intro k t1 t2 r1 r2 _ _ ih1 ih2
    simp only [kvsHash]
    rw [ih1, ih2]

mutual
  /-- keys are distinct at every level (true of every Python dict) -/
  def wfTree : Tree → Bool
    | .leaf _ => true
    | .node _ kvs => decide ((kvs.map (·.1)).Nodup) && wfKvs kvs
  def wfKvs : List (Key × Tree) → Bool
    | [] => true
    | (_, t) :: r => wfTree t && wfKvs r
end

theorem wfKvs_iff {kvs : List (Key × Tree)} : wfKvs kvs = true ↔ ∀ p ∈ kvs, wfTree p.2 = true := by
  induction kvs with
  | nil => exact ⟨fun _ _ hp => (nomatch hp), fun _ => rfl⟩
  | cons q r ih =>
    obtain ⟨k, t⟩ := q
    simp only [wfKvs, Bool.and_eq_true, ih, List.forall_mem_cons]

theorem wfTree_node {f : Bool} {l : List (Key × Tree)} :
    wfTree (.node f l) = true ↔ (l.map (·.1)).Nodup ∧ ∀ p ∈ l, wfTree p.2 = true := by
  simp only [wfTree, Bool.and_eq_true, decide_eq_true_eq, wfKvs_iff]

theorem MapEq.node_wf {f2 : Bool} {k2 k2' : List (Key × Tree)} (hp : k2.Perm k2')
    (hw : wfTree (.node f2 k2) = true) :
    (k2.map (·.1)).Nodup ∧ (∀ p ∈ k2', lookupT p.1 k2 = some p.2) ∧ ∀ p ∈ k2', wfTree p.2 = true :=
  have hw := wfTree_node.mp hw
  ⟨hw.1, fun _ hp' => lookupT_of_mem hw.1 (hp.mem_iff.mpr hp'), fun p hp' => hw.2 p (hp.mem_iff.mpr hp')⟩

theorem treeEq_mapEq :
    (∀ {t1 t2}, MapEq t1 t2 → wfTree t2 = true → treeEq t1 t2 = true) ∧
    ∀ {r1 r2}, KvsEq r1 r2 → ∀ k2, (∀ p ∈ r2, lookupT p.1 k2 = some p.2) → (∀ p ∈ r2, wfTree p.2 = true) →
      r1.length = r2.length ∧ kvsSub r1 k2 = true := by
  refine MapEq.induct ?_ ?_ ?_ ?_
  · intro l _; simp [treeEq]
  · intro f1 f2 k1 k2 k2' hp _ ih hw
    obtain ⟨_, hl, hw'⟩ := MapEq.node_wf hp hw
    obtain ⟨hlen, hsub⟩ := ih k2 hl hw'
    simp only [treeEq, Bool.and_eq_true, decide_eq_true_eq]
    exact ⟨by rw [hlen, hp.length_eq], hsub⟩
  · intro _ _ _; exact ⟨rfl, rfl⟩
  · intro k t1 t2 r1 r2 _ _ ih1 ih2 k2 hl hw
    obtain ⟨hlen, hsub⟩ := ih2 k2 (fun p hp => hl p (List.mem_cons_of_mem _ hp)) (fun p hp => hw p (List.mem_cons_of_mem _ hp))
    refine ⟨by rw [List.length_cons, List.length_cons, hlen], ?_⟩
    simp only [kvsSub, hl (k, t2) List.mem_cons_self, Bool.and_eq_true]
    exact ⟨ih1 (hw (k, t2) List.mem_cons_self), hsub⟩

-- canonical form: tags forgotten, keys sorted at every level
mutual
  def canon : Tree → Tree
    | .leaf l => .leaf l
    | .node _ kvs => .node false (sortKvs (canonKvs kvs))
  def canonKvs : List (Key × Tree) → List (Key × Tree)
    | [] => []
    | (k, t) :: r => (k, canon t) :: canonKvs r
end

/-- equal contents (as finite maps with sorted keys, tags ignored) -/
def SameContent (t1 t2 : Tree) : Prop := canon t1 = canon t2

theorem canonKvs_rel (l : List (Key × Tree)) : KvRel (fun a b => canon a = b) l (canonKvs l) := by
  induction l with
  | nil => exact .nil
  | cons q r ih => exact .cons rfl ih

theorem canonKvs_eq_map (l : List (Key × Tree)) : canonKvs l = l.map (fun q => (q.1, canon q.2)) :=
  (canonKvs_rel l).eq_map

theorem canonKvs_sort (l : List (Key × Tree)) : canonKvs (sortKvs l) = sortKvs (canonKvs l) := by
  rw [canonKvs_eq_map, canonKvs_eq_map, sortKvs_mapVal]

theorem canon_node (f : Bool) (ts : List (Key × Tree)) : canon (.node f ts) = .node false (sortKvs (canonKvs ts)) := by
  simp [canon]

theorem canonKvs_keys (l : List (Key × Tree)) : (canonKvs l).map (·.1) = l.map (·.1) := (canonKvs_rel l).keys

theorem canonKvs_erase (l : List (Key × Tree)) (key : Key) :
    canonKvs (kvErase l key) = kvErase (canonKvs l) key := by
  rw [canonKvs_eq_map]; exact (((canonKvs_rel l).kvErase key).eq_map).symm

theorem lookupT_canonKvs (l : List (Key × Tree)) (key : Key) :
    lookupT key (canonKvs l) = (lookupT key l).map canon := by
  rw [lookupT_eq_lookup, lookupT_eq_lookup, canonKvs_eq_map, Assoc.lookup_map_val]

theorem canonKvs_kvUpdate (b a : List (Key × Tree)) :
    canonKvs (kvUpdate a b) = kvUpdate (canonKvs a) (canonKvs b) := by
  rw [canonKvs_eq_map, canonKvs_eq_map, canonKvs_eq_map]
  exact kvSet_isUpsert.foldl_map_val kvSet_isUpsert canon a b

theorem nodup_of_canon_eq {f1 f2 : Bool} {l1 l2 : List (Key × Tree)}
    (hc : canon (.node f1 l1) = canon (.node f2 l2)) (n2 : (l2.map (·.1)).Nodup) : (l1.map (·.1)).Nodup := by
  rw [canon_node, canon_node] at hc
  injection hc with _ hc
  have h1 := (sortKvs_perm (canonKvs l1)).map (·.1)
  have h2 := (sortKvs_perm (canonKvs l2)).map (·.1)
  rw [canonKvs_keys] at h1 h2
  rw [hc] at h1
  exact (h1.symm.trans h2).nodup_iff.mpr n2

theorem getC_of_canon_eq {f1 f2 : Bool} {l1 l2 : List (Key × Tree)}
    (hc : canon (.node f1 l1) = canon (.node f2 l2)) (n2 : (l2.map (·.1)).Nodup)
    (key : Key) : (lookupT key l1).map canon = (lookupT key l2).map canon := by
  have n1 := nodup_of_canon_eq hc n2
  rw [canon_node, canon_node] at hc
  injection hc with _ hc
  rw [← lookupT_canonKvs, ← lookupT_canonKvs,
    ← lookupT_sortKvs (l := canonKvs l1) (by rw [canonKvs_keys]; exact n1),
    ← lookupT_sortKvs (l := canonKvs l2) (by rw [canonKvs_keys]; exact n2), hc]

theorem lookupT_of_canonKvs_eq {l1 l2 : List (Key × Tree)} (hc : canonKvs l1 = canonKvs l2) {key : Key} {t1 : Tree}
    (h : lookupT key l1 = some t1) : ∃ t2, lookupT key l2 = some t2 ∧ canon t1 = canon t2 := by
  have hl : lookupT key (canonKvs l1) = some (canon t1) := by rw [lookupT_canonKvs, h]; rfl
  rw [hc, lookupT_canonKvs] at hl
  cases hlk : lookupT key l2 with
  | none => rw [hlk] at hl; cases hl
  | some t2 => rw [hlk] at hl; exact ⟨t2, rfl, (Option.some.inj hl).symm⟩

theorem canon_erase_of_canonKvs_eq {l1 l2 : List (Key × Tree)} (hc : canonKvs l1 = canonKvs l2) (f1 f2 : Bool)
    (key : Key) : canon (.node f1 (kvErase l1 key)) = canon (.node f2 (kvErase l2 key)) := by
  rw [canon_node, canon_node, canonKvs_erase, hc, ← canonKvs_erase]

theorem node_of_canon_eq {t : Tree} {f : Bool} {l : List (Key × Tree)} (h : canon t = canon (.node f l)) :
    ∃ fr tsr, t = .node fr tsr := by
  cases t with
  | leaf l => rw [canon_node] at h; simp [canon] at h
  | node fr tsr => exact ⟨fr, tsr, rfl⟩

/-- by contents `tsr` is `kvUpdate ts1 ts2`, `ts1` is `tsx`, `ts2` is `tsa`: a lookup in `tsr` gives `tsa`'s entry, else `tsx`'s -/
theorem merged_content {fr fx fa : Bool} {tsr ts1 ts2 tsx tsa : List (Key × Tree)}
    (hc' : canon (.node fr tsr) = canon (.node false (kvUpdate ts1 ts2)))
    (hc1 : canon (.node false ts1) = canon (.node fx tsx)) (hc2 : canon (.node false ts2) = canon (.node fa tsa))
    (nx : (tsx.map (·.1)).Nodup) (na : (tsa.map (·.1)).Nodup) (key : Key) :
    (lookupT key tsr).map canon =
      match (lookupT key tsa).map canon with
      | some c => some c
      | none => (lookupT key tsx).map canon := by
  have n1 := nodup_of_canon_eq hc1 nx
  have n2 := nodup_of_canon_eq hc2 na
  rw [getC_of_canon_eq hc' (nodup_kvUpdate n1) key, ← lookupT_canonKvs, canonKvs_kvUpdate,
    lookupT_kvUpdate (by rw [canonKvs_keys]; exact n2), lookupT_canonKvs, lookupT_canonKvs,
    getC_of_canon_eq hc2 na key, getC_of_canon_eq hc1 nx key]
  rfl

theorem canon_mapEq :
    (∀ {t1 t2}, MapEq t1 t2 → wfTree t2 = true → canon t1 = canon t2) ∧
    ∀ {r1 r2}, KvsEq r1 r2 → (∀ p ∈ r2, wfTree p.2 = true) → canonKvs r1 = canonKvs r2 := by
  refine MapEq.induct ?_ ?_ ?_ ?_
  · intro l _; rfl
  · intro f1 f2 k1 k2 k2' hp _ ih hw
    obtain ⟨hn, _, hw'⟩ := MapEq.node_wf hp hw
    have h2 : (canonKvs k2).Perm (canonKvs k2') := by
      rw [canonKvs_eq_map, canonKvs_eq_map]; exact hp.map _
    rw [canon_node, canon_node, ih hw', sortKvs_perm_eq h2 (by rw [canonKvs_keys]; exact hn)]
  · intro _; rfl
  · intro k t1 t2 r1 r2 _ _ ih1 ih2 hw
    simp only [canonKvs]
    rw [ih1 (hw (k, t2) List.mem_cons_self), ih2 (fun p hp => hw p (List.mem_cons_of_mem _ hp))]

theorem unflatten_flatten :
    (∀ (t : Tree) (rest : List Leaf), unflatten (flatten t).2 ((flatten t).1 ++ rest) = some (t, rest)) ∧
    ∀ (kvs : List (Key × Tree)) (rest : List Leaf),
      unflattenKvs (flattenKvs kvs).2 ((flattenKvs kvs).1 ++ rest) = some (kvs, rest) := by
  refine Tree.induct ?_ ?_ ?_ ?_
  · intro l rest; rfl
  · intro fz kvs ih rest
    simp only [flatten, unflatten, ih rest]
  · intro rest; rfl
  · intro k t r iht ihr rest
    simp only [flattenKvs, unflattenKvs, List.append_assoc, iht, ihr]

theorem mapEq_sortTree : (∀ t : Tree, MapEq t (sortTree t)) ∧ ∀ kvs : List (Key × Tree), KvsEq kvs (sortTreeKvs kvs) := by
  refine Tree.induct ?_ ?_ ?_ ?_
  · intro l; exact .leaf l
  · intro fz kvs ih
    exact .node (k2' := sortTreeKvs kvs) (sortKvs_perm _) ih
  · exact .nil
  · intro k t r iht ihr
    exact .cons iht ihr

end Flax.C15
