/- C06: one array leaf — what axes_scan's transposes + lax.scan's leading-axis slicing /
   stacking amount to, in terms of jnp.take / jnp.stack along the declared axis -/
import Flax.Model.LiftLoop
import Flax.Proofs.LiftLoopArr
import Flax.Proofs.LiftLoopMonad

namespace Flax.LiftLoop
variable {α : Type} [Inhabited α]

theorem take_front_eq (a F : Arr α) (ax : Int) (hF : a.toFront ax = .ok F) (i : Nat) :
    F.take 0 i = takeAt ax i a := by
  unfold takeAt
  cases hn : normAxis a.rank ax with
  | some n =>
    obtain ⟨F', _, h1, _, h2⟩ := Arr.toFront_of_some a ax n hn
    cases Except.ok.inj (h1.symm.trans hF)
    exact h2 i
  | none =>
    rcases Arr.toFront_of_none a ax hn with ⟨rfl, hs⟩ | he
    · cases Except.ok.inj hF
      simp only [Arr.take, hs, List.getElem?_nil]
    · rw [he] at hF; cases hF

theorem takeAt_error_of_toFront_error (a : Arr α) (ax : Int) (e : Err) (hF : a.toFront ax = .error e)
    (i : Nat) : opt (takeAt ax i a) = none := by
  unfold takeAt
  cases hn : normAxis a.rank ax with
  | some n =>
    obtain ⟨F, _, h1, _⟩ := Arr.toFront_of_some a ax n hn
    rw [h1] at hF; cases hF
  | none => rfl

theorem toFront_take (a : Arr α) (ax : Int) (i : Nat) :
    opt (a.toFront ax >>= fun F => F.take 0 i) = opt (takeAt ax i a) := by
  cases hF : a.toFront ax with
  | ok F => exact congrArg opt (take_front_eq a F ax hF i)
  | error e => exact (takeAt_error_of_toFront_error a ax e hF i).symm

theorem leadDim_front (a : Arr α) (ax : Int) :
    opt (a.toFront ax >>= leadDim) = opt (dimAt ax a) := by
  unfold dimAt shapeAt
  cases hn : normAxis a.shape.length ax with
  | some n =>
    obtain ⟨F, hlt, h1, hs, _⟩ := Arr.toFront_of_some a ax n hn
    rw [h1]
    simp only [bind, Except.bind, leadDim, hs, List.getD_eq_getElem?_getD, List.getElem?_eq_getElem hlt,
      Option.getD_some]
  | none =>
    rcases Arr.toFront_of_none a ax hn with ⟨rfl, hs⟩ | he
    · simp only [Arr.toFront, if_true, bind, Except.bind, leadDim, hs, opt_error]
    · rw [he]; rfl

theorem leadDim_front_ok {a : Arr α} {ax : Int} {n : Nat} :
    dimAt ax a = .ok n ↔ ∃ F, a.toFront ax = .ok F ∧ leadDim F = .ok n := by
  rw [← opt_eq_some, ← leadDim_front]
  cases a.toFront ax with
  | error e => exact ⟨nofun, fun ⟨_, h, _⟩ => nomatch h⟩
  | ok F => exact ⟨fun h => ⟨F, rfl, opt_eq_some.1 h⟩, fun ⟨_, h, hn⟩ => Except.ok.inj h ▸ opt_eq_some.2 hn⟩

theorem take0_of_leadDim {n : Nat} (F : Arr α) (hF : leadDim F = .ok n) (i : Nat) (hi : i < n) :
    ∃ v, F.take 0 i = .ok v := by
  simp only [leadDim] at hF
  cases hsh : F.shape with
  | nil => simp [hsh] at hF
  | cons d ds =>
    simp only [hsh] at hF
    injection hF with hF
    have hi' : i < d := by omega
    exact ⟨Arr.ofFn (F.shape.eraseIdx 0) (fun j => F.getD (j.insertIdx 0 i)), by simp [Arr.take, hsh, hi']⟩

theorem intRange_length (a b : Int) : (intRange a b).length = (b - a).toNat := by simp [intRange]

theorem fromFront_error_of_none (S : Arr α) (ax : Int) (hr : 0 < S.rank) (hn : normAxis S.rank ax = none) :
    opt (S.fromFront ax) = none := by
  have h0 : ax ≠ 0 := by
    intro h; subst h
    exact Nat.ne_of_gt hr (normAxis_zero_none hn)
  simp only [Arr.fromFront, h0, if_false, fromFrontPerm]
  by_cases hneg : ax < 0
  · -- `pax = rank + ax` is negative, so `assert pax < x.ndim` passes; `jnp.transpose` then refuses the permutation,
    -- which has `rank - pax > rank` entries
    simp only [hneg, if_true]
    have hlow : ax < -(S.rank : Int) :=
      (normAxis_eq_none_iff.1 hn).resolve_right (Int.not_le.2 (Int.lt_of_lt_of_le hneg (Int.natCast_nonneg _)))
    have hp : (S.rank : Int) + ax < (S.rank : Int) := Int.add_lt_add_left hneg _
    simp only [hp, if_true, bind, Except.bind, canonPerm]
    generalize hm : List.mapM (normAxis S.rank) _ = M
    cases M with
    | none => rfl
    | some q =>
      have hl := (mapM_some_iff.mp hm).1
      simp only [List.length_append, intRange_length, List.length_cons, List.length_nil] at hl
      have : q.length ≠ S.rank := by omega
      simp [this]
  · simp only [hneg, if_false]
    have hhigh : ¬ (ax < (S.rank : Int)) := by
      have := normAxis_eq_none_iff.1 hn; omega
    simp [hhigh, bind, Except.bind]

/-- error included: a stack fails for the shapes of its operands, whatever the axis -/
theorem stackFront_eq_stack (sh : List Nat) (ls : List (Arr α)) (ax : Int) (n : Nat)
    (hn : normAxis (sh.length + 1) ax = some n) : stackFront ax sh ls = Arr.stack sh n ls := by
  cases hS : Arr.stack sh 0 ls with
  | ok S =>
    simp only [stackFront, hS, bind, Except.bind]
    exact Arr.fromFront_stack sh ls ax n hn S hS
  | error e =>
    simp only [stackFront, hS, bind, Except.bind]
    obtain ⟨rfl, hno⟩ := Arr.stack_eq_error.1 hS
    exact (Arr.stack_eq_error.2 ⟨rfl, fun h => hno ⟨Nat.zero_le _, h.2⟩⟩).symm

theorem stackFront_opt (ax : Int) (sh : List Nat) (ls : List (Arr α)) :
    opt (stackFront ax sh ls) = opt (stackAt ax sh ls) := by
  unfold stackAt
  cases hn : normAxis (sh.length + 1) ax with
  | some n => exact congrArg opt (stackFront_eq_stack sh ls ax n hn)
  | none =>
    unfold stackFront
    cases hS : Arr.stack sh 0 ls with
    | ok S =>
      simp only [bind, Except.bind, opt_error]
      have hr := Arr.rank_of_stack hS
      exact fromFront_error_of_none S ax (hr ▸ Nat.succ_pos _) (by rw [hr]; exact hn)
    | error e => simp [bind, Except.bind]

theorem stackFront_eq_ok {ax : Int} {sh : List Nat} {ls : List (Arr α)} {v : Arr α} :
    stackFront ax sh ls = .ok v ↔ stackAt ax sh ls = .ok v := by
  rw [← opt_eq_some, ← opt_eq_some, stackFront_opt]

end Flax.LiftLoop
