/-
The dictionaries of the state-dict model (`Flax/Model/Serial.lean`: `lookup`, `dictSet`, `erase`), the enumerated
dicts `{'0': x0, …}` of lists and tuples (`enumL`), the distinct-keys predicates `Tree.wf` / `STree.wf`, and what
`to_state_dict` produces.
-/
import Flax.Model.Serial
import Flax.Proofs.Assoc
import Std.Data.String.ToNat

namespace Flax.Serial

theorem idx_inj {i j : Nat} (h : idx i = idx j) : i = j := by
  simp only [idx] at h
  exact Nat.repr_inj.mp h

theorem keys_cons {α} (k : String) (v : α) (r : List (String × α)) : keys ((k, v) :: r) = k :: keys r := rfl

theorem keys_map_val {α β} (f : α → β) (l : List (String × α)) : keys (l.map fun p => (p.1, f p.2)) = keys l := by
  rw [keys, keys, List.map_map]; rfl

theorem lookup_eq {α} (k : String) (l : List (String × α)) : lookup k l = l.lookup k :=
  Assoc.lookup_unique (fun _ => rfl) (fun _ _ _ _ => rfl) k l

theorem lookup_of_mem_keys_nodup {α} (kvs : List (String × α)) (k : String) (v : α)
    (hn : (keys kvs).Nodup) (h : (k, v) ∈ kvs) : lookup k kvs = some v :=
  (lookup_eq k kvs).trans (Assoc.lookup_of_mem hn h)

theorem lookup_isSome_of_mem_keys {α} (kvs : List (String × α)) (k : String) (h : k ∈ keys kvs) :
    ∃ v, lookup k kvs = some v :=
  lookup_eq k kvs ▸ Option.isSome_iff_exists.mp (Assoc.lookup_isSome_iff.mpr h)

theorem mem_keys_of_lookup {α} (kvs : List (String × α)) (k : String) (v : α) (h : lookup k kvs = some v) :
    k ∈ keys kvs ∧ (k, v) ∈ kvs :=
  have hm := Assoc.mem_of_lookup (lookup_eq k kvs ▸ h)
  ⟨List.mem_map_of_mem (f := Prod.fst) hm, hm⟩

theorem lookup_none_iff {α} (st : List (String × α)) (k : String) : lookup k st = none ↔ k ∉ keys st :=
  lookup_eq k st ▸ Assoc.lookup_eq_none_iff

theorem lookup_append_of_notin {α} (d : List (String × α)) (k : String) (v : α) (o : List (String × α))
    (h : k ∉ keys d) : lookup k (d ++ (k, v) :: o) = some v := by
  rw [lookup_eq, List.lookup_append, Assoc.lookup_eq_none_iff.mpr h, List.lookup_cons_self]; rfl

theorem dictSet_isUpsert {α} : Assoc.IsUpsert fun k (v : α) l => dictSet l k v :=
  ⟨fun _ _ => rfl, fun _ _ _ _ => if_pos rfl, fun _ _ _ h => if_neg h⟩

theorem mem_dictSet {α} (obj : List (String × α)) (k : String) (v : α) (k' : String) (v' : α)
    (h : (k', v') ∈ dictSet obj k v) : (k', v') ∈ obj ∨ v' = v :=
  (dictSet_isUpsert.mem h).elim (fun e => Or.inr (congrArg Prod.snd e)) Or.inl

theorem dictSet_append_of_notin {α} (d : List (String × α)) (k : String) (v nv : α) (o : List (String × α))
    (h : k ∉ keys d) : dictSet (d ++ (k, v) :: o) k nv = d ++ (k, nv) :: o :=
  (dictSet_isUpsert.append_of_not_mem nv _ h).trans (congrArg _ (dictSet_isUpsert.hit k nv v o))

theorem mkDict_nodup {α} (pairs : List (String × α)) (h : (keys pairs).Nodup) : mkDict pairs = pairs :=
  dictSet_isUpsert.foldl_append h fun _ _ hm => nomatch hm

theorem subsetKeys_iff (a b : List String) : subsetKeys a b = true ↔ ∀ k ∈ a, k ∈ b := by
  simp [subsetKeys]

theorem subsetKeys_refl (a : List String) : subsetKeys a a = true := by
  simp [subsetKeys]

theorem sameKeySet_refl (a : List String) : sameKeySet a a = true := by
  simp [sameKeySet, subsetKeys_refl]

theorem erase_eq_filter {α} : ∀ (st : List (String × α)) (k : String), (keys st).Nodup →
    erase k st = st.filter fun p => decide (p.1 ≠ k)
  | [], _, _ => rfl
  | (k0, v0) :: r, k, hn => by
    rw [keys_cons, List.nodup_cons] at hn
    rw [erase, List.filter_cons]
    by_cases hk : k0 = k
    · subst hk
      rw [if_pos rfl, if_neg (by simp)]
      exact (List.filter_eq_self.mpr fun p hp => decide_eq_true fun (e : p.1 = k0) =>
        hn.1 (e ▸ List.mem_map_of_mem (f := Prod.fst) hp)).symm
    · rw [if_neg hk, if_pos (decide_eq_true hk), erase_eq_filter r k hn.2]

theorem nodup_keys_erase {α} (st : List (String × α)) (k : String) (hn : (keys st).Nodup) :
    (keys (erase k st)).Nodup := by
  rw [erase_eq_filter st k hn]
  exact hn.sublist (List.filter_sublist.map _)

theorem lookup_erase_ne {α} (st : List (String × α)) (k k' : String) (hn : (keys st).Nodup) (hne : k' ≠ k) :
    lookup k' (erase k st) = lookup k' st := by
  rw [lookup_eq, lookup_eq, erase_eq_filter st k hn, Assoc.lookup_filter_key (fun x => decide (x ≠ k)),
    if_pos (decide_eq_true hne)]

/-- `{'0': x0, '1': x1, …}` starting at index `i` -/
def enumL {α} (i : Nat) : List α → List (String × α)
  | [] => []
  | x :: r => (idx i, x) :: enumL (i + 1) r

/-- closed form of `enumL`; the facts about its keys, length and members below follow without an induction of their own -/
theorem enumL_eq {α} : ∀ (xs : List α) (i : Nat), enumL i xs = (xs.zipIdx i).map fun p => (idx p.2, p.1)
  | [], _ => rfl
  | x :: r, i => by rw [enumL, enumL_eq r (i + 1), List.zipIdx_cons, List.map_cons]

theorem keys_enumL {α} (xs : List α) (i : Nat) : keys (enumL i xs) = (List.range' i xs.length).map idx := by
  rw [enumL_eq, keys, List.map_map, ← List.zipIdx_map_snd, List.map_map]; rfl

theorem length_enumL {α} : ∀ (xs : List α) (i : Nat), (enumL i xs).length = xs.length := fun xs i => by
  rw [enumL_eq, List.length_map, List.length_zipIdx]

theorem lookup_enumL {α} : ∀ (xs : List α) (i j : Nat), lookup (idx (i + j)) (enumL i xs) = xs[j]?
  | [], _, _ => by simp [enumL, lookup]
  | x :: r, i, j => by
    cases j with
    | zero => simp [enumL, lookup]
    | succ j =>
      have hne : idx i ≠ idx (i + (j + 1)) := fun e => by have := idx_inj e; omega
      simp only [enumL, lookup, hne, ↓reduceIte, List.getElem?_cons_succ]
      have := lookup_enumL r (i + 1) j
      rwa [show i + 1 + j = i + (j + 1) by omega] at this

theorem lookup_enumL_zero {α} (xs : List α) (j : Nat) : lookup (idx j) (enumL 0 xs) = xs[j]? := by
  rw [← lookup_enumL xs 0 j, Nat.zero_add]

theorem mem_keys_enumL {α} : ∀ (xs : List α) (i : Nat) (k : String),
    k ∈ keys (enumL i xs) → ∃ j, j < xs.length ∧ k = idx (i + j) := fun xs i k h => by
  rw [keys_enumL] at h
  obtain ⟨m, hm, rfl⟩ := List.mem_map.mp h
  obtain ⟨j, hj, rfl⟩ := List.mem_range'.mp hm
  exact ⟨j, hj, by rw [Nat.one_mul]⟩

theorem mem_enumL {α} : ∀ (xs : List α) (i : Nat) (kv : String × α), kv ∈ enumL i xs → kv.2 ∈ xs := fun xs i kv h => by
  rw [enumL_eq] at h
  obtain ⟨p, hp, rfl⟩ := List.mem_map.mp h
  exact List.fst_mem_of_mem_zipIdx hp

theorem nodup_keys_enumL {α} : ∀ (xs : List α) (i : Nat), (keys (enumL i xs)).Nodup := fun xs i => by
  rw [keys_enumL]
  exact List.Pairwise.map idx (fun _ _ hne e => hne (idx_inj e)) (List.nodup_range' 1)

theorem enumL_vals {α β} : ∀ (zs : List (String × α)) (xs : List β) (i : Nat),
    keys zs = keys (enumL i xs) → enumL i (zs.map Prod.snd) = zs
  | [], _, _, _ => rfl
  | (k, z) :: zs, [], _, h => nomatch h
  | (k, z) :: zs, x :: xs, i, h => by
    rw [enumL, keys_cons, keys_cons, List.cons.injEq] at h
    rw [List.map_cons, enumL, enumL_vals zs xs (i + 1) h.2, h.1]

mutual
  /-- keys of every dict / FrozenDict and field names of every namedtuple / dataclass are distinct -/
  def Tree.wf : Tree → Bool
    | .leaf _ => true
    | .dict kvs => decide (keys kvs).Nodup && wfFields kvs
    | .fdict kvs => decide (keys kvs).Nodup && wfFields kvs
    | .list xs => wfList xs
    | .tuple xs => wfList xs
    | .named _ fs => decide (keys fs).Nodup && wfFields fs
    | .struct _ fs _ => decide (keys fs).Nodup && wfFields fs
  def wfFields : List (String × Tree) → Bool
    | [] => true
    | (_, v) :: r => v.wf && wfFields r
  def wfList : List Tree → Bool
    | [] => true
    | x :: r => x.wf && wfList r
end

mutual
  /-- no namedtuple node has exactly the field names `name`, `fields`, `values` -/
  def Tree.noLegacyNames : Tree → Bool
    | .leaf _ => true
    | .dict kvs => nlFields kvs
    | .fdict kvs => nlFields kvs
    | .list xs => nlList xs
    | .tuple xs => nlList xs
    | .named _ fs => !(sameKeySet (keys fs) legacyKeys) && nlFields fs
    | .struct _ fs _ => nlFields fs
  def nlFields : List (String × Tree) → Bool
    | [] => true
    | (_, v) :: r => v.noLegacyNames && nlFields r
  def nlList : List Tree → Bool
    | [] => true
    | x :: r => x.noLegacyNames && nlList r
end

mutual
  /-- keys of every dict of a state are distinct -/
  def STree.wf : STree → Bool
    | .leaf _ => true
    | .dict kvs => decide (keys kvs).Nodup && swfKvs kvs
  def swfKvs : List (String × STree) → Bool
    | [] => true
    | (_, v) :: r => v.wf && swfKvs r
end

mutual
  /-- no dict of the state has exactly the keys `name`, `fields`, `values` (the marker of the
  pre-2022 namedtuple encoding) -/
  def STree.noLegacy : STree → Bool
    | .leaf _ => true
    | .dict kvs => !(sameKeySet (keys kvs) legacyKeys) && snlKvs kvs
  def snlKvs : List (String × STree) → Bool
    | [] => true
    | (_, v) :: r => v.noLegacy && snlKvs r
end

theorem wfFields_iff : ∀ (kvs : List (String × Tree)), wfFields kvs = true ↔ ∀ kv ∈ kvs, kv.2.wf = true
  | [] => by simp [wfFields]
  | (k, v) :: r => by simp only [wfFields, Bool.and_eq_true, wfFields_iff r, List.mem_cons, forall_eq_or_imp]

theorem wfList_iff : ∀ (xs : List Tree), wfList xs = true ↔ ∀ x ∈ xs, x.wf = true
  | [] => by simp [wfList]
  | x :: r => by simp only [wfList, Bool.and_eq_true, wfList_iff r, List.mem_cons, forall_eq_or_imp]

theorem swfKvs_iff : ∀ (kvs : List (String × STree)), swfKvs kvs = true ↔ ∀ kv ∈ kvs, kv.2.wf = true
  | [] => by simp [swfKvs]
  | (k, v) :: r => by simp only [swfKvs, Bool.and_eq_true, swfKvs_iff r, List.mem_cons, forall_eq_or_imp]

theorem snlKvs_iff : ∀ (kvs : List (String × STree)), snlKvs kvs = true ↔ ∀ kv ∈ kvs, kv.2.noLegacy = true
  | [] => by simp [snlKvs]
  | (k, v) :: r => by simp only [snlKvs, Bool.and_eq_true, snlKvs_iff r, List.mem_cons, forall_eq_or_imp]

theorem toSDList_eq : ∀ (xs : List Tree) (i : Nat), toSDList i xs = enumL i (xs.map toStateDict)
  | [], _ => by simp [toSDList, enumL]
  | x :: r, i => by simp [toSDList, enumL, toSDList_eq r (i + 1)]

theorem nodup_keys_toSDList (xs : List Tree) (i : Nat) : (keys (toSDList i xs)).Nodup := by
  rw [toSDList_eq]; exact nodup_keys_enumL _ i

theorem length_toSDList (xs : List Tree) (i : Nat) : (toSDList i xs).length = xs.length := by
  rw [toSDList_eq, length_enumL, List.length_map]

theorem lookup_toSDList (xs : List Tree) (i j : Nat) (x : Tree) (h : xs[j]? = some x) :
    lookup (idx (i + j)) (toSDList i xs) = some (toStateDict x) := by
  rw [toSDList_eq, lookup_enumL, List.getElem?_map, h]; rfl

theorem toSDFields_eq_map : ∀ (kvs : List (String × Tree)), toSDFields kvs = kvs.map fun p => (p.1, toStateDict p.2)
  | [] => rfl
  | (k, v) :: r => by rw [toSDFields, toSDFields_eq_map r]; rfl

theorem keys_toSDFields (kvs : List (String × Tree)) : keys (toSDFields kvs) = keys kvs :=
  toSDFields_eq_map kvs ▸ keys_map_val toStateDict kvs

theorem lookup_toSDFields (kvs : List (String × Tree)) (hn : (keys kvs).Nodup) (k : String) (v : Tree)
    (h : (k, v) ∈ kvs) : lookup k (toSDFields kvs) = some (toStateDict v) := by
  rw [lookup_eq, toSDFields_eq_map, Assoc.lookup_map_val, Assoc.lookup_of_mem hn h]; rfl

end Flax.Serial

namespace Flax.SerialHeap
open Flax.Serial

theorem swfKvs_of_forall : ∀ (xs : List STree) (i : Nat), (∀ x ∈ xs, x.wf = true) → swfKvs (enumL i xs) = true :=
  fun xs i hx => (swfKvs_iff _).mpr fun kv h => hx _ (mem_enumL xs i kv h)

end Flax.SerialHeap
