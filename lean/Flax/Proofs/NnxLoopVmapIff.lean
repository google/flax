/- C08 proofs: `nnx.vmap` — exactly when it returns (`VmapAccepts`, under `TraceUniform`): what a defined reference
`vmapSpecN` says about each stage, the two result stages, the converse put together from these and the stage lemmas of
NnxLoopVmapComplete, and with `nnxVmap_sound` the two-way statement -/
import Flax.Proofs.NnxLoopVmapComplete

namespace Flax.NnxLoop
open Flax.Filter Flax.LiftLoop

section iff
variable {α : Type} [Inhabited α]

theorem expand_hasCarry {t : AxesSpec} {k : Nat} {ps : List Prefix} (h : t.hasCarry = false)
    (he : t.expand k = .ok ps) : ∀ p ∈ ps, p.hasCarry = false := by
  intro p hp
  obtain ⟨hl, hent⟩ := expand_entry he
  obtain ⟨j, hj, rfl⟩ := List.getElem_of_mem hp
  have hpe : t.entry j = some ps[j] := by rw [← hent j (hl ▸ hj), List.getElem?_eq_getElem hj]
  cases t with
  | uniform q => cases hpe; exact h
  | perArg qs =>
    simp only [AxesSpec.hasCarry, List.any_eq_false] at h
    simpa using h _ (List.mem_of_getElem? hpe)

theorem vmapCall_ok {body : Body α} {store : Store α} {pas : List (Prefix × Arg α)} {i : Nat}
    {c : Store α × List (Out α)} (h : vmapCall body store pas i = .ok c) :
    ∃ ins arrs, mapX (sliceEntry store i) (ownedAll pas []) = .ok ins ∧ mapX (sliceArr i) (arrArgs pas) = .ok arrs ∧
      body ins arrs = .ok c := by
  simp only [vmapCall, bindX] at h
  cases h1 : mapX (sliceEntry store i) (ownedAll pas []) with
  | error e => simp [h1] at h
  | ok ins =>
    simp only [h1] at h
    cases h2 : mapX (sliceArr i) (arrArgs pas) with
    | error e => simp [h2] at h
    | ok arrs => simp only [h2] at h; exact ⟨ins, arrs, rfl, rfl, h⟩

/-- `OutColWF` at every result position, and equally many results at every index -/
def TraceUniform (calls : List (Store α × List (Out α))) : Prop :=
  (∀ c ∈ calls, ∀ c' ∈ calls, c.2.length = c'.2.length) ∧
  ∀ k col, column k (calls.map (·.2)) = .ok col → OutColWF col

theorem vmapSpecN_ok {n : Nat} {outAxes : AxesSpec} {body : Body α} {pas : List (Prefix × Arg α)} {store : Store α}
    {res : Store α × List (Out α)} (h : vmapSpecN n outAxes body pas store = .ok res) :
    ∃ c0 ct vals qs outs, mapX (vmapCall body store pas) (List.range n) = .ok (c0 :: ct) ∧
      mapX (collectEntry (c0.1 :: ct.map (·.1))) (ownedAll pas []) = .ok vals ∧
      (outAxes.isBareStateAxes && decide (c0.2.length ≠ 1)) = false ∧ outAxes.expand c0.2.length = .ok qs ∧
      mapX (collectOutAt (c0.2 :: ct.map (·.2))) ((List.range qs.length).zip qs) = .ok outs := by
  simp only [vmapSpecN, bindX] at h
  cases hcalls : mapX (vmapCall body store pas) (List.range n) with
  | error e => simp [hcalls] at h
  | ok calls =>
  simp only [hcalls] at h
  cases calls with
  | nil => simp at h
  | cons c0 ct =>
  simp only [List.map_cons] at h
  cases hvals : mapX (collectEntry (c0.1 :: ct.map (·.1))) (ownedAll pas []) with
  | error e => simp [hvals] at h
  | ok vals =>
  simp only [hvals] at h
  cases hbare : (outAxes.isBareStateAxes && decide (c0.2.length ≠ 1)) with
  | true => rw [if_pos hbare] at h; cases h
  | false =>
  rw [if_neg (by rw [hbare]; simp)] at h
  cases hqs : outAxes.expand c0.2.length with
  | error e => simp [hqs] at h
  | ok qs =>
  simp only [hqs] at h
  cases houtsS : mapX (collectOutAt (c0.2 :: ct.map (·.2))) ((List.range qs.length).zip qs) with
  | error e => simp [houtsS] at h
  | ok outs => exact ⟨c0, ct, vals, qs, outs, rfl, hvals, hbare, hqs, houtsS⟩

theorem sliceEntry_store_total {store : Store α} {i : Nat} {owned : List (Entry × Prefix)} {ins : Store α}
    (h : mapX (sliceEntry store i) owned = .ok ins) : ∀ ep ∈ owned, (store.lookup ep.1.id).isSome := by
  intro ep hep
  obtain ⟨y, hy, _⟩ := mapX_ok_mem h ep hep
  simp only [sliceEntry] at hy
  cases hat : ep.2.at ep.1 with
  | error e => simp [hat] at hy
  | ok a =>
    simp only [hat] at hy
    cases hl : store.lookup ep.1.id with
    | none => simp [hl] at hy
    | some v => rfl

theorem sliceArr_prefix {i : Nat} {arrs : List (Prefix × Arr α)} {r : List (Arr α)}
    (h : mapX (sliceArr i) arrs = .ok r) : ∀ pa ∈ arrs, (∃ k, pa.1 = .ax (.axis k)) ∨ pa.1 = .ax .bcast := by
  intro pa hpa
  obtain ⟨y, hy, _⟩ := mapX_ok_mem h pa hpa
  simp only [sliceArr] at hy
  cases hp : pa.1 with
  | sa s => simp [hp] at hy
  | ax a =>
    cases a with
    | carry => simp [hp, sliceVal] at hy
    | bcast => exact Or.inr rfl
    | axis k => exact Or.inl ⟨k, rfl⟩

theorem collectEntry_after_total {afters : List (Store α)} {owned : List (Entry × Prefix)}
    {vals : List (VarId × Arr α)} (h : mapX (collectEntry afters) owned = .ok vals) :
    ∀ st ∈ afters, ∀ ep ∈ owned, (st.lookup ep.1.id).isSome := by
  intro st hst ep hep
  obtain ⟨y, hy, _⟩ := mapX_ok_mem h ep hep
  obtain ⟨_, vs, _, _, hg, _⟩ := collectEntry_ok_iff.1 hy
  obtain ⟨v, hv, _⟩ := mapX_ok_mem hg st hst
  rw [Store.getX_ok.1 hv]; rfl

theorem collectOutAt_splitOut {calls : List (Store α × List (Out α))} {qs : List Prefix} {outs : List (Out α)}
    (houtsS : mapX (collectOutAt (calls.map (·.2))) ((List.range qs.length).zip qs) = .ok outs)
    (huW : ∀ k col, column k (calls.map (·.2)) = .ok col → OutColWF col) :
    ∀ c ∈ calls, ∃ pouts, mapX splitOut (qs.zip c.2) = .ok pouts := by
  intro c hc
  apply mapX_ok_of_forall
  intro qo hqo
  obtain ⟨q, o⟩ := qo
  obtain ⟨k, hk1, hk2⟩ := mem_zip_iff.1 hqo
  have hkl : k < qs.length := (List.getElem?_eq_some_iff.1 hk1).1
  have hz : (k, q) ∈ (List.range qs.length).zip qs := mem_zip_iff.2 ⟨k, List.getElem?_range hkl, hk1⟩
  obtain ⟨out, hout, _⟩ := mapX_ok_mem houtsS _ hz
  obtain ⟨ocol, hcol, hout⟩ := collectOutAt_ok_iff.1 hout
  obtain ⟨hcl, hce⟩ := column_ok hcol
  obtain ⟨j, hj, hcj⟩ := List.getElem_of_mem hc
  have hmem : o ∈ ocol := by
    have := hce j (by simpa using hj) (by rw [hcl]; simpa using hj)
    simp only [List.getElem_map, hcj, hk2, Option.some.injEq] at this
    rw [this]; exact List.getElem_mem _
  cases ocol with
  | nil => cases hmem
  | cons o0 orest => exact collectOut_splitOut hout (huW k _ hcol) o hmem

theorem vmap_outs_complete {outAxes : AxesSpec} {pure : List (PureArg α)} {calls : List (Store α × List (Out α))}
    {r0 : List (List (State α)) × List (PureOut α)} {rt : List (List (List (State α)) × List (PureOut α))}
    {qs : List Prefix} {outs : List (Out α)} (hrel : All2 (CallRel outAxes pure) calls (r0 :: rt))
    (hqe : ∀ k, k < qs.length → qs[k]? = outAxes.entry k) (hqc : ∀ q ∈ qs, q.hasCarry = false)
    (hrowlen : ∀ r ∈ r0 :: rt, r.2.length = qs.length)
    (houtsS : mapX (collectOutAt (calls.map (·.2))) ((List.range qs.length).zip qs) = .ok outs)
    (huW : ∀ k col, column k (calls.map (·.2)) = .ok col → OutColWF col) :
    ∃ outs', mapX (fun q => match column q.1 ((r0 :: rt).map (·.2)) with
      | .error e => Except.error e
      | .ok col => vmapCollectOut q.2 col) ((List.range r0.2.length).zip r0.2) = .ok outs' := by
  have hr0l : r0.2.length = qs.length := hrowlen r0 List.mem_cons_self
  apply mapX_ok_of_forall
  intro kp hkp
  obtain ⟨k, p0⟩ := kp
  obtain ⟨j, hj1, hj2⟩ := mem_zip_iff.1 hkp
  have hjl : j < r0.2.length := (List.getElem?_eq_some_iff.1 hj2).1
  have hkj : k = j := by rw [List.getElem?_range hjl] at hj1; exact (Option.some.inj hj1).symm
  subst hkj
  have hkq : k < qs.length := by omega
  have hz : (k, qs[k]) ∈ (List.range qs.length).zip qs :=
    mem_zip_iff.2 ⟨k, List.getElem?_range hkq, List.getElem?_eq_getElem hkq⟩
  obtain ⟨out, hout, _⟩ := mapX_ok_mem houtsS _ hz
  obtain ⟨ocol, hcol, hout⟩ := collectOutAt_ok_iff.1 hout
  have hq : outAxes.entry k = some qs[k] := by rw [← hqe k hkq, List.getElem?_eq_getElem hkq]
  -- the implementation's column exists: every row has `qs.length` results
  obtain ⟨col, hcolI⟩ : ∃ col, column k ((r0 :: rt).map (·.2)) = .ok col :=
    ⟨_, column_getD k p0 _ (fun row hrow => by
      obtain ⟨r, hr, rfl⟩ := List.mem_map.1 hrow
      rw [hrowlen r hr]; exact hkq)⟩
  obtain ⟨ocol', ho1, ho2⟩ := column_outs hq hrel col hcolI
  rw [hcol] at ho1
  injection ho1 with ho1
  subst ho1
  obtain ⟨hcl, hce⟩ := column_ok hcolI
  cases col with
  | nil => simp at hcl
  | cons pc prest =>
    have hp0 : p0 = pc := by
      have := hce 0 (by simp) (by simp)
      simp only [List.map_cons, List.getElem_cons_zero, hj2, Option.some.injEq] at this
      exact this
    subst hp0
    cases ocol with
    | nil => simp [mapX] at ho2
    | cons o0 orest =>
      obtain ⟨out', hout'⟩ := vmap_collect_out_complete (hqc _ (List.getElem_mem _)) ho2 (huW k _ hcol) hout
      exact ⟨out', by simp only [hcolI, hout']⟩

/-- a call on which the reference is defined is not rejected: read at `Flax.C08.vmap_no_spurious_rejection` -/
theorem nnxVmap_complete {inAxes outAxes : AxesSpec} {axisSize : Option Nat} {body : Body α} {args : List (Arg α)}
    {store : Store α} {ps : List Prefix} {npF : NodePrefixes} {n : Nat} {res : Store α × List (Out α)}
    (hok : (inAxes.isBareStateAxes || inAxes.hasCarry || outAxes.hasCarry) = false)
    (hps : inAxes.expand args.length = .ok ps) (hal : allPrefixes (ps.zip args) [] = .ok npF)
    (hcons : consistent npF = true) (hwf : WFArgs (ps.zip args))
    (hsz1 : ∀ ep ∈ ownedAll (ps.zip args) [], ∀ k, ep.2.at ep.1 = .ok (.axis k) →
      ∃ v, store.lookup ep.1.id = some v ∧ dimAt k v = .ok n)
    (hsz2 : ∀ pa ∈ arrArgs (ps.zip args), ∀ k, pa.1 = .ax (.axis k) → dimAt k pa.2 = .ok n)
    (hsz3 : ∀ m, axisSize = some m → m = n) (hsz4 : axisSize = none → HasMapped (ps.zip args) [])
    (hspec : vmapSpecN n outAxes body (ps.zip args) store = .ok res)
    (huni : ∀ calls, mapX (vmapCall body store (ps.zip args)) (List.range n) = .ok calls → TraceUniform calls) :
    ∃ res', nnxVmap inAxes outAxes axisSize true body args store = .ok res' := by
  obtain ⟨_, hic, hoc⟩ := or3_eq_false.1 hok
  obtain ⟨c0, ct, vals, qs, outs, hcalls, hvals, hbare, hqs, houtsS⟩ := vmapSpecN_ok hspec
  obtain ⟨huL, huW⟩ := huni _ hcalls
  obtain ⟨hql, hqe⟩ := expand_entry hqs
  -- `c0` is a call: the store holds every Variable and array prefixes are axes
  obtain ⟨i0, _, hc0⟩ := mapX_ok_mem_rev hcalls c0 List.mem_cons_self
  obtain ⟨ins0, arrs0, hi0, ha0, _⟩ := vmapCall_ok hc0
  obtain ⟨pure, hpure⟩ := toTree_complete store (ps.zip args) [] [] npF hal hcons (sliceEntry_store_total hi0)
  have hS := toTree_ok_iff.1 hpure
  have hnc : ∀ pa ∈ ps.zip args, pa.1.hasCarry = false :=
    fun pa hpa => expand_hasCarry hic hps pa.1 (List.of_mem_zip hpa).1
  have harrP : ∀ pa ∈ arrArgs (ps.zip args),
      (∃ k, pa.1 = .ax (.axis k) ∧ dimAt k pa.2 = .ok n) ∨ pa.1 = .ax .bcast := by
    intro pa hpa
    rcases sliceArr_prefix ha0 pa hpa with ⟨k, hk⟩ | hb
    · exact Or.inl ⟨k, hk, hsz2 pa hpa k hk⟩
    · exact Or.inr hb
  obtain ⟨dims, hdims, hdall⟩ := vmapDims_complete n hS hnc hsz1 harrP
  have hjl : jaxLength axisSize dims = .ok n := (vmapDims_mem hS hdims).jaxLength_ok hdall hsz3 hsz4
  have hafter : ∀ c ∈ c0 :: ct, ∀ ep ∈ ownedAll (ps.zip args) [], (c.1.lookup ep.1.id).isSome :=
    fun c hc => collectEntry_after_total hvals c.1 (List.mem_map_of_mem hc)
  have hsplit := collectOutAt_splitOut (calls := c0 :: ct) houtsS huW
  -- every index: slicing succeeds, the merge hands the function the reference's inputs (`vmap_call_defined`), so
  -- `VmapFn` makes the reference call, and what that left can be split again
  have hcalli : ∀ i ∈ List.range n, ∃ r, (match mapX (sliceArg i) pure with
      | .error e => Except.error e
      | .ok sl => vmapFn body outAxes sl) = .ok r := by
    intro i hi
    obtain ⟨c, hci, hcm⟩ := mapX_ok_mem hcalls i hi
    obtain ⟨ins, arrs, hi1, hi2, hb⟩ := vmapCall_ok hci
    obtain ⟨sl, hsl, e2, e3⟩ := vmap_call_defined i hS hwf hi1 hi2 [] rfl
    obtain ⟨argsOut, hao⟩ := splitArgOut_complete c.1 hS (hafter c hcm)
    rw [← sliceArg_skeleton c.1 hsl] at hao
    obtain ⟨pouts, hpo⟩ := hsplit c hcm
    have hlen : c.2.length = c0.2.length := huL c hcm c0 (by simp)
    refine ⟨(argsOut, pouts), ?_⟩
    simp only [hsl, vmapFn, e2, List.nil_append, e3, hb, hao, hlen, hbare, hqs, hpo]
    rfl
  obtain ⟨rs, hrs⟩ := mapX_ok_of_forall _ hcalli
  -- relate them to the reference calls (as in `nnxVmap_sound`)
  obtain ⟨cs, hcs, hrel⟩ := mapX_factor (C := vmapCall body store (ps.zip args))
    (R := CallRel outAxes pure) hrs (fun i _ r hr => vmap_index_rel hwf hpure hr)
  rw [hcalls] at hcs
  cases hcs
  cases rs with
  | nil => cases hrel
  | cons r0 rt =>
  have hrows : mapX (fun st => mapX (splitArgOut st) pure) ((c0 :: ct).map (·.1)) = .ok ((r0 :: rt).map (·.1)) := by
    rw [mapX_map]
    exact forall2_mapX (G := fun (c : Store α × List (Out α)) => mapX (splitArgOut c.1) pure)
      (proj := fun (r : List (List (State α)) × List (PureOut α)) => r.1) (fun _ _ hR => hR.1) hrel
  obtain ⟨store', hwb⟩ := vmapWriteBack_complete hS hwf hnc _ _
    ((r0 :: rt).map (·.1)) vals (by simpa using hrows) hvals store
  -- every index returned as many results as `out_axes` has entries
  have hrowlen : ∀ r ∈ r0 :: rt, r.2.length = qs.length := by
    refine all2_forall_right hrel (fun c hc r hR => ?_)
    obtain ⟨_, _, ops, hops, hsp⟩ := hR
    have hcl : c.2.length = c0.2.length := huL c hc c0 (by simp)
    rw [hcl, hqs] at hops
    cases hops
    have := mapX_length hsp
    simp only [List.length_zip, hql, hcl, Nat.min_self] at this
    rw [this, hql]
  obtain ⟨outs', houts'⟩ := vmap_outs_complete (calls := c0 :: ct) hrel (fun k hk => hqe k (hql ▸ hk)) (expand_hasCarry hoc hqs) hrowlen
    houtsS huW
  refine ⟨(store', outs'), ?_⟩
  simp only [nnxVmap, hok, hps, hpure, hdims, hjl, liftL]
  generalize hgen : mapX _ (List.range n) = mrs
  have hm1 : mrs = .ok (r0 :: rt) := hgen.symm.trans hrs
  subst hm1
  simp only [Bool.not_true, Bool.false_eq_true, if_false, hwb]
  generalize hgen2 : mapX _ ((List.range r0.2.length).zip r0.2) = mo
  have hm2 : mo = .ok outs' := hgen2.symm.trans houts'
  subst hm2
  rfl

/-- clauses read out at `Flax.C08.vmap_accepts_iff` -/
def VmapAccepts (inAxes outAxes : AxesSpec) (axisSize : Option Nat) (verdict : Bool) (body : Body α)
    (args : List (Arg α)) (store : Store α) : Prop :=
  (inAxes.isBareStateAxes || inAxes.hasCarry || outAxes.hasCarry) = false ∧ verdict = true ∧
  ∃ ps npF n, inAxes.expand args.length = .ok ps ∧
    allPrefixes (ps.zip args) [] = .ok npF ∧ consistent npF = true ∧
    (∀ ep ∈ ownedAll (ps.zip args) [], ∀ k, ep.2.at ep.1 = .ok (.axis k) →
      ∃ v, store.lookup ep.1.id = some v ∧ dimAt k v = .ok n) ∧
    (∀ pa ∈ arrArgs (ps.zip args), ∀ k, pa.1 = .ax (.axis k) → dimAt k pa.2 = .ok n) ∧
    (∀ m, axisSize = some m → m = n) ∧ (axisSize = none → HasMapped (ps.zip args) []) ∧
    ∃ res, vmapSpecN n outAxes body (ps.zip args) store = .ok res

/-- read at `Flax.C08.vmap_accepts_iff` -/
theorem nnxVmap_accepts_iff {inAxes outAxes : AxesSpec} {axisSize : Option Nat} {verdict : Bool} {body : Body α}
    {args : List (Arg α)} {store : Store α}
    (hwf : ∀ ps, inAxes.expand args.length = .ok ps → WFArgs (ps.zip args))
    (huni : ∀ ps n calls, inAxes.expand args.length = .ok ps →
      mapX (vmapCall body store (ps.zip args)) (List.range n) = .ok calls → TraceUniform calls) :
    (∃ res, nnxVmap inAxes outAxes axisSize verdict body args store = .ok res) ↔
      VmapAccepts inAxes outAxes axisSize verdict body args store := by
  constructor
  · rintro ⟨res, h⟩
    obtain ⟨hbad, ps0, pure, dims, n0, hps0, hpure, hdims, hjl⟩ := nnxVmap_ok_pre h
    obtain ⟨ps, n, hps, _, hv, _, _, ⟨s1, s2, s3⟩, hspec⟩ := nnxVmap_sound h hwf
      (fun ps n calls hp hc => (huni ps n calls hp hc).2)
    rw [hps0] at hps
    injection hps with hps
    subst hps
    obtain ⟨npF, hal, hcons⟩ := toTree_ok_consistent store _ [] [] pure rfl hpure
    exact ⟨hbad, hv, ps0, npF, n, hps0, hal, hcons, s1, s2, s3,
      fun hnone => vmapDims_nonempty_mapped (toTree_ok_iff.1 hpure) hdims ((jaxLength_eq_ok.1 hjl).2.2 hnone),
      res, hspec⟩
  · rintro ⟨hbad, hv, ps, npF, n, hps, hal, hcons, s1, s2, s3, s4, res, hspec⟩
    subst hv
    exact nnxVmap_complete hbad hps hal hcons (hwf ps hps) s1 s2 s3 s4 hspec (fun calls hc => huni ps n calls hps hc)

/-- `nnx.vmap` raises iff a clause of `VmapAccepts` fails: `Flax.C08.vmap_rejects_iff` -/
theorem nnxVmap_rejects_iff {inAxes outAxes : AxesSpec} {axisSize : Option Nat} {verdict : Bool} {body : Body α}
    {args : List (Arg α)} {store : Store α}
    (hwf : ∀ ps, inAxes.expand args.length = .ok ps → WFArgs (ps.zip args))
    (huni : ∀ ps n calls, inAxes.expand args.length = .ok ps →
      mapX (vmapCall body store (ps.zip args)) (List.range n) = .ok calls → TraceUniform calls) :
    (∃ e, nnxVmap inAxes outAxes axisSize verdict body args store = .error e) ↔
      ¬ VmapAccepts inAxes outAxes axisSize verdict body args store := by
  rw [← nnxVmap_accepts_iff hwf huni]
  cases nnxVmap inAxes outAxes axisSize verdict body args store with
  | ok r => simp
  | error e => simp

end iff

end Flax.NnxLoop
