/-
C09, NNX: no key is replayed along any accepted history of one stream
(call / split_rngs / vmapped draws / restore_rngs, any number of rounds).
-/
import Flax.Proofs.RngNnx

namespace Flax.C09
open Flax.Rng

/-- the key a lane draws: lane `idx`, `t`-th call after the split of stream `(k, c)` -/
def laneKey (k : SymKey) (c : Nat) (shape idx : List Nat) (t : Nat) : SymKey :=
  .foldIn (.split (.foldIn k c) shape idx) t

end Flax.C09

namespace Flax.Rng
open Flax.C09 (laneKey)

/-- a stream is at top level with count `c`, or inside an open split made at count `c0` whose lanes have drawn `m` times each -/
inductive Phase where
  | top (c : Nat)
  | open (c0 : Nat) (shape : List Nat) (m : Nat)

/-- the machine state of the stream with key `k` in a phase -/
def stateOf (tag : String) (k : SymKey) : Phase → SState
  | .top c => { cur := { tag := tag, key := .scalar k, count := .scalar c }, saved := none }
  | .open c0 shape m =>
    { cur := { tag := tag, key := .batched (.foldIn k c0) shape, count := .batched shape m },
      saved := some { stream := tag, key := .scalar k, count := .scalar (c0 + 1) } }

/-- the keys a stream with key `k` can still hand out in a phase -/
def Future (k : SymKey) : Phase → SymKey → Prop
  | .top c, x => (∃ j, c ≤ j ∧ x = .foldIn k j) ∨ (∃ c' sh i t, c ≤ c' ∧ x = laneKey k c' sh i t)
  | .open c0 shape m, x =>
    (∃ j, c0 + 1 ≤ j ∧ x = .foldIn k j) ∨ (∃ c' sh i t, c0 + 1 ≤ c' ∧ x = laneKey k c' sh i t) ∨
    (∃ i t, m ≤ t ∧ x = laneKey k c0 shape i t)

theorem laneKey_ne_foldIn (k : SymKey) (c : Nat) (shape idx : List Nat) (t j : Nat) : laneKey k c shape idx t ≠ .foldIn k j := by
  intro he
  simp only [laneKey, SymKey.foldIn.injEq] at he
  exact split_foldIn_ne k c shape idx he.1

theorem lanesLoop_closed (tag : String) (K : SymKey) (shape : List Nat) (c m : Nat) :
    ∀ idxs : List (List Nat),
      lanesLoop { tag := tag, key := .batched K shape, count := .batched shape c } m idxs =
        .ok (idxs.flatMap (fun idx => (List.range m).map (fun t => SymKey.foldIn (.split K shape idx) (c + t)))) := by
  intro idxs
  induction idxs with
  | nil => rfl
  | cons idx rest ih =>
    simp only [lanesLoop, Stream.lane, Stream.callN_scalar, ih, List.flatMap_cons]

theorem nodup_flatMap_map {α β γ : Type} (f : α → β → γ) (hf : ∀ a b a' b', f a b = f a' b' → a = a' ∧ b = b')
    {as : List α} {bs : List β} (ha : as.Nodup) (hb : bs.Nodup) : (as.flatMap (fun a => bs.map (f a))).Nodup := by
  simp only [List.Nodup, List.pairwise_flatMap]
  refine ⟨fun a _ => ?_, List.Pairwise.imp ?_ ha⟩
  · rw [List.pairwise_map]
    exact List.Pairwise.imp (fun h he => h (hf _ _ _ _ he).2) hb
  · intro a a' hab x hx y hy he
    obtain ⟨b, _, rfl⟩ := List.mem_map.mp hx
    obtain ⟨b', _, rfl⟩ := List.mem_map.mp hy
    exact hab (hf _ _ _ _ he).1

theorem indices_nodup : ∀ shape : List Nat, (indices shape).Nodup := by
  intro shape
  induction shape with
  | nil => simp [indices]
  | cons n rest ih =>
    exact nodup_flatMap_map (fun i ix => i :: ix) (fun _ _ _ _ he => List.cons.inj he) List.nodup_range ih

theorem lane_block_nodup (K : SymKey) (shape : List Nat) (c m : Nat) :
    ((indices shape).flatMap (fun idx => (List.range m).map (fun t => SymKey.foldIn (.split K shape idx) (c + t)))).Nodup :=
  nodup_flatMap_map (fun idx t => SymKey.foldIn (.split K shape idx) (c + t))
    (fun _ _ _ _ he => by
      simp only [SymKey.foldIn.injEq, SymKey.split.injEq, true_and] at he
      exact ⟨he.1, Nat.add_left_cancel he.2⟩)
    (indices_nodup shape) List.nodup_range

/-- one step: the keys it hands out were possible before, are pairwise different, are impossible afterwards,
and the future only shrinks -/
theorem sstep_phase (tag : String) (k : SymKey) (ph : Phase) (op : SOp) (st' : SState) (ks : List SymKey)
    (h : sstep (stateOf tag k ph) op = .ok (st', ks)) :
    ∃ ph', st' = stateOf tag k ph' ∧ ks.Nodup ∧ (∀ x ∈ ks, Future k ph x ∧ ¬ Future k ph' x) ∧
      (∀ x, Future k ph' x → Future k ph x) := by
  cases ph with
  | top c =>
    cases op with
    | call =>
      cases h
      refine ⟨.top (c + 1), rfl, by simp, ?_, ?_⟩
      · intro x hx
        simp only [List.mem_singleton] at hx
        subst hx
        refine ⟨Or.inl ⟨c, Nat.le_refl c, rfl⟩, ?_⟩
        rintro (⟨j, hj, he⟩ | ⟨c', sh, i, t, _, he⟩)
        · cases he
          exact Nat.not_succ_le_self c hj
        · exact laneKey_ne_foldIn k c' sh i t c he.symm
      · rintro x (⟨j, hj, he⟩ | ⟨c', sh, i, t, hc, he⟩)
        · exact Or.inl ⟨j, Nat.le_of_succ_le hj, he⟩
        · exact Or.inr ⟨c', sh, i, t, Nat.le_of_succ_le hc, he⟩
    | split shape =>
      cases h
      refine ⟨.open c shape 0, rfl, List.nodup_nil, (fun _ hx => nomatch hx), ?_⟩
      rintro x (⟨j, hj, he⟩ | ⟨c', sh, i, t, hc, he⟩ | ⟨i, t, _, he⟩)
      · exact Or.inl ⟨j, Nat.le_of_succ_le hj, he⟩
      · exact Or.inr ⟨c', sh, i, t, Nat.le_of_succ_le hc, he⟩
      · exact Or.inr ⟨c, shape, i, t, Nat.le_refl c, he⟩
    | lanes m => cases h
    | restore => cases h
  | «open» c0 shape m =>
    cases op with
    | call => cases h
    | split sh => cases h
    | lanes m' =>
      simp only [sstep, stateOf, lanesLoop_closed, Except.ok.injEq, Prod.mk.injEq] at h
      obtain ⟨rfl, rfl⟩ := h
      refine ⟨.open c0 shape (m + m'), rfl, lane_block_nodup _ shape m m', ?_, ?_⟩
      · intro x hx
        simp only [List.mem_flatMap, List.mem_map, List.mem_range] at hx
        obtain ⟨idx, _, t, ht, rfl⟩ := hx
        refine ⟨Or.inr (Or.inr ⟨idx, m + t, Nat.le_add_right m t, rfl⟩), ?_⟩
        rintro (⟨j, _, he⟩ | ⟨c', sh, i, t', hc, he⟩ | ⟨i, t', ht', he⟩)
        · exact laneKey_ne_foldIn k c0 shape idx (m + t) j he
        · cases he
          exact Nat.not_succ_le_self _ hc
        · simp only [laneKey, SymKey.foldIn.injEq] at he
          omega
      · rintro x (⟨j, hj, he⟩ | ⟨c', sh, i, t, hc, he⟩ | ⟨i, t, ht, he⟩)
        · exact Or.inl ⟨j, hj, he⟩
        · exact Or.inr (Or.inl ⟨c', sh, i, t, hc, he⟩)
        · exact Or.inr (Or.inr ⟨i, t, Nat.le_trans (Nat.le_add_right m m') ht, he⟩)
    | restore =>
      cases h
      refine ⟨.top (c0 + 1), rfl, List.nodup_nil, (fun _ hx => nomatch hx), ?_⟩
      rintro x (⟨j, hj, he⟩ | ⟨c', sh, i, t, hc, he⟩)
      · exact Or.inl ⟨j, hj, he⟩
      · exact Or.inr (Or.inl ⟨c', sh, i, t, hc, he⟩)

theorem srun_nodup (tag : String) (k : SymKey) : ∀ (ops : List SOp) (ph : Phase) (outs : List SymKey),
    srun (stateOf tag k ph) ops = .ok outs → outs.Nodup ∧ ∀ x ∈ outs, Future k ph x := by
  intro ops
  induction ops with
  | nil =>
    intro ph outs h
    simp only [srun, Except.ok.injEq] at h
    subst h
    exact ⟨by simp, by simp⟩
  | cons op ops ih =>
    intro ph outs h
    simp only [srun] at h
    cases hs : sstep (stateOf tag k ph) op with
    | error e => simp [hs] at h
    | ok r =>
      obtain ⟨st', ks⟩ := r
      obtain ⟨ph', rfl, hnd, hks, hmono⟩ := sstep_phase tag k ph op st' ks hs
      simp only [hs] at h
      cases hr : srun (stateOf tag k ph') ops with
      | error e => simp [hr] at h
      | ok more =>
        simp only [hr, Except.ok.injEq] at h
        subst h
        obtain ⟨hnd2, hfut⟩ := ih ph' more hr
        refine ⟨?_, ?_⟩
        · rw [List.nodup_append]
          refine ⟨hnd, hnd2, ?_⟩
          intro a ha b hb hab
          subst hab
          exact (hks a ha).2 (hfut a hb)
        · intro x hx
          rcases List.mem_append.mp hx with hx | hx
          · exact (hks x hx).1
          · exact hmono x (hfut x hx)

end Flax.Rng
