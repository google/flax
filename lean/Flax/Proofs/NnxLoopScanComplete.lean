/- C08 proofs: `nnx.scan` — the converse up to the first call: `_scan_split_in`, the length check and the per-iteration
slicing do not reject when the aliasing is consistent and every scanned leaf has size `n` along its axis -/
import Flax.Proofs.NnxLoopScanIter

namespace Flax.NnxLoop
open Flax.Filter Flax.LiftLoop

section scomp
variable {α : Type} [Inhabited α]

/-- an array argument `_scan_split_in` accepts (no `StateAxes`), of size `n` if scanned -/
def ScanArrOK (n : Nat) (pa : Prefix × Arr α) : Prop :=
  (∃ k, pa.1 = .ax (.axis k) ∧ dimAt k pa.2 = .ok n) ∨ pa.1 = .ax .bcast ∨ pa.1 = .ax .carry

theorem routes_of_forall : ∀ (pure : List (PureArg α)),
    (∀ p a, PureArg.arr p a ∈ pure →
      (∃ k F, p = .ax (.axis k) ∧ Arr.toFront k a = .ok F) ∨ p = .ax .bcast ∨ p = .ax .carry) →
    (∀ g p sts, PureArg.node g p sts ∈ pure → ∃ r, routeStates true (p.axes.zip sts) = .ok r) →
    ∃ si, Routes pure si
  | [], _, _ => ⟨_, .nil⟩
  | x :: xs, harr, hnode => by
    obtain ⟨s, hs⟩ := routes_of_forall xs (fun p a h => harr p a (List.mem_cons_of_mem _ h))
      (fun g p sts h => hnode g p sts (List.mem_cons_of_mem _ h))
    cases x with
    | arr p a =>
      rcases harr p a List.mem_cons_self with ⟨k, F, rfl, hF⟩ | rfl | rfl
      · exact ⟨_, .arr (.axis hF) hs⟩
      · exact ⟨_, .arr .bcast hs⟩
      · exact ⟨_, .arr .carry hs⟩
    | node g p sts =>
      obtain ⟨⟨vec, car, bc⟩, hr⟩ := hnode g p sts List.mem_cons_self
      exact ⟨_, .node hr hs⟩

theorem scanSplitIn_complete (store : Store α) (n : Nat) (pas : List (Prefix × Arg α)) (np : NodePrefixes)
    (seen : List VarId) (npF : NodePrefixes) (h : allPrefixes pas np = .ok npF) (hc : consistent npF = true)
    (hst : ∀ ep ∈ ownedAll pas seen, (store.lookup ep.1.id).isSome)
    (hsz : ∀ ep ∈ ownedAll pas seen, ∀ k, ep.2.at ep.1 = .ok (.axis k) →
      ∃ v, store.lookup ep.1.id = some v ∧ dimAt k v = .ok n)
    (harr : ∀ pa ∈ arrArgs pas, ScanArrOK n pa) : ∃ si, scanSplitIn store pas np seen = .ok si := by
  obtain ⟨pure, hpure⟩ := toTree_complete store pas np seen npF h hc hst
  have hS := toTree_ok_iff.1 hpure
  obtain ⟨si, hR⟩ := routes_of_forall pure
    (by
      intro p a hm
      cases hS.mem _ hm with
      | arr hpa =>
        rcases harr _ hpa with ⟨k, hk, hd⟩ | hb | hcr
        · obtain ⟨F, hF, _⟩ := leadDim_front_ok.1 hd
          exact .inl ⟨k, F, hk, hF⟩
        · exact .inr (.inl hb)
        · exact .inr (.inr hcr))
    (by
      intro g p sts hm
      cases hS.mem _ hm with
      | node _ hfl hsp hown =>
        refine routeStates_complete (p.axes.zip sts) (fun k s hz => ?_)
        simp only [toFrontState, leafMap]
        apply mapX_ok_of_forall
        intro pv hpv
        obtain ⟨e, heo, hat', _, hv⟩ := split_state_item hfl hsp hz hpv
        obtain ⟨v, hv', hd⟩ := hsz _ (hown e heo) k hat'
        cases hv.symm.trans hv'
        obtain ⟨F, hF, _⟩ := leadDim_front_ok.1 hd
        rw [hF]
        exact ⟨_, rfl⟩)
  exact ⟨si, scanSplitIn_ok_iff.2 ⟨pure, hS, hR⟩⟩

theorem scanDims_complete {store : Store α} (n : Nat) {pas : List (Prefix × Arg α)} {np : NodePrefixes}
    {seen : List VarId} {pure : List (PureArg α)} {si : ScanIn α} (hS : Splits store pas np seen pure)
    (hR : Routes pure si)
    (hsz : ∀ ep ∈ ownedAll pas seen, ∀ k, ep.2.at ep.1 = .ok (.axis k) →
      ∃ v, store.lookup ep.1.id = some v ∧ dimAt k v = .ok n)
    (harr : ∀ pa ∈ arrArgs pas, ∀ k, pa.1 = .ax (.axis k) → dimAt k pa.2 = .ok n) :
    (∃ dims, scanDims si.pure = .ok dims ∧ ∀ d ∈ dims, d = n) ∧
    (∀ i, i < n → ∃ xs, mapX (spureAt i) si.pure = .ok xs) := by
  -- entry by entry: its sizes are `n`, and it can be sliced at every `i < n`
  have hentry : ∀ x ∈ si.pure, (∃ dx, spureDims x = .ok dx ∧ ∀ d ∈ dx, d = n) ∧
      ∀ i, i < n → ∃ y, spureAt i x = .ok y := by
    intro x hx
    obtain ⟨x0, hm, hxy⟩ := hR.mem x hx
    cases hxy with
    | arr ha =>
      cases ha with
      | carry => exact ⟨⟨[], rfl, by simp⟩, fun i _ => ⟨_, rfl⟩⟩
      | bcast => exact ⟨⟨[], rfl, by simp⟩, fun i _ => ⟨_, rfl⟩⟩
      | @axis k a a' ha' =>
        cases hS.mem _ hm with
        | arr hpa =>
          obtain ⟨F, hF, hlF⟩ := leadDim_front_ok.1 (harr _ hpa k rfl)
          cases ha'.symm.trans hF
          refine ⟨⟨[n], by simp [spureDims, hlF, liftL], by simp⟩, fun i hi => ?_⟩
          obtain ⟨v, hv⟩ := take0_of_leadDim a' hlF i hi
          exact ⟨_, spureAt_arrX_ok.2 ⟨v, liftL_ok.2 hv, rfl⟩⟩
    | @node g p sts vec car bc hrt =>
      cases hS.mem _ hm with
      | node _ hfl hsp hown =>
        obtain ⟨_, rv, _⟩ := routeStates_spec hrt
        have hvleaf : ∀ sF ∈ vec, ∀ pvF ∈ sF, leadDim pvF.2 = .ok n := by
          intro sF hsF pvF hpvF
          obtain ⟨k, s, hz, hmv⟩ := (rv sF).1 hsF
          obtain ⟨pv0, hpv0, htf, _⟩ := leafMap_ok_mem_rev hmv pvF hpvF
          obtain ⟨e, heo, hat', _, hv⟩ := split_state_item hfl hsp hz hpv0
          obtain ⟨v, hv', hd⟩ := hsz _ (hown e heo) k hat'
          cases hv.symm.trans hv'
          obtain ⟨F, hF, hlF⟩ := leadDim_front_ok.1 hd
          cases (liftL_ok.1 htf).symm.trans hF
          exact hlF
        constructor
        · obtain ⟨ds, hds, hdn⟩ := mapX_ok_all (f := leadDims) (P := fun dl => ∀ d ∈ dl, d = n) vec
            (fun sF hsF => mapX_ok_all sF (fun pvF hpvF => ⟨n, by rw [hvleaf sF hsF pvF hpvF]; rfl, rfl⟩))
          exact ⟨ds.flatten, by simp only [spureDims, hds], List.forall_mem_flatten.2 hdn⟩
        · intro i hi
          obtain ⟨veci, hveci⟩ := mapX_ok_of_forall (f := take0State i) vec (fun sF hsF =>
            mapX_ok_of_forall sF (fun pvF hpvF => by
              obtain ⟨v, hv⟩ := take0_of_leadDim pvF.2 (hvleaf sF hsF pvF hpvF) i hi
              exact ⟨(pvF.1, v), by simp only [hv, liftL]⟩))
          exact ⟨_, spureAt_node_ok.2 ⟨veci, hveci, rfl⟩⟩
  constructor
  · obtain ⟨ds, hds, hdn⟩ := mapX_ok_all (P := fun dl => ∀ d ∈ dl, d = n) si.pure (fun x hx => (hentry x hx).1)
    exact ⟨ds.flatten, scanDims_ok_iff.2 ⟨ds, hds, rfl⟩, List.forall_mem_flatten.2 hdn⟩
  · intro i hi
    exact mapX_ok_of_forall si.pure (fun x hx => (hentry x hx).2 i hi)

/-- read, with what can still reject afterwards, at `Flax.C08.scan_no_rejection_before_loop` -/
theorem scan_no_rejection_before_loop (store : Store α) (pas : List (Prefix × Arg α))
    (npF : NodePrefixes) (n : Nat) (length : Option Nat) (hwf : WFArgs pas)
    (hal : allPrefixes pas [] = .ok npF) (hcons : consistent npF = true)
    (hst : ∀ ep ∈ ownedAll pas [], (store.lookup ep.1.id).isSome)
    (hsz : ∀ ep ∈ ownedAll pas [], ∀ k, ep.2.at ep.1 = .ok (.axis k) →
      ∃ v, store.lookup ep.1.id = some v ∧ dimAt k v = .ok n)
    (harr : ∀ pa ∈ arrArgs pas, ScanArrOK n pa)
    (hl1 : ∀ m, length = some m → m = n) (hl2 : length = none → HasMapped pas []) :
    ∃ si dims, scanSplitIn store pas [] [] = .ok si ∧ scanDims si.pure = .ok dims ∧
      jaxLength length dims = .ok n ∧
      ∀ i, i < n → ∀ carr, ∃ xs parts ins arrs, mapX (spureAt i) si.pure = .ok xs ∧
        mapX (scanSplitArgOut store) si.pure = .ok parts ∧
        mapX (scanEntryIn store store i) (ownedAll pas []) = .ok ins ∧
        mapX (scanArrIn carr i) (arrArgs pas) = .ok arrs ∧
        scanMergeIn xs ((parts.filterMap id).map (·.2)) si.bcastDeque si.bcastArrays carr [] = .ok (ins, arrs) := by
  obtain ⟨si, hsi⟩ := scanSplitIn_complete store n pas [] [] npF hal hcons hst hsz harr
  obtain ⟨pure, hS, hR⟩ := scanSplitIn_ok_iff.1 hsi
  have harr2 : ∀ pa ∈ arrArgs pas, ∀ k, pa.1 = .ax (.axis k) → dimAt k pa.2 = .ok n := by
    intro pa hpa k hk
    rcases harr pa hpa with ⟨k', hk', hd⟩ | hb | hc
    · rw [hk] at hk'; injection hk' with hk'; injection hk' with hk'; subst hk'; exact hd
    · rw [hk] at hb; cases hb
    · rw [hk] at hc; cases hc
  obtain ⟨⟨dims, hdims, hall⟩, hslice⟩ := scanDims_complete n hS hR hsz harr2
  have hjl : jaxLength length dims = .ok n := (scanDims_mem hS hR hdims).jaxLength_ok hall hl1 hl2
  obtain ⟨⟨parts, hp1, _⟩, _⟩ := scanSplitIn_init hS hR
  refine ⟨si, dims, hsi, hdims, hjl, ?_⟩
  intro i hi carr
  obtain ⟨xs, hxs⟩ := hslice i hi
  obtain ⟨ins, arrs, h1, h2, h3⟩ := scan_iteration_sees store i carr hS hR hwf xs parts [] hxs hp1 rfl
  exact ⟨xs, parts, ins, arrs, hxs, hp1, h1, h2, by simpa using h3⟩

end scomp

end Flax.NnxLoop
