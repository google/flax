/-
Loops.  One application of the traced body to the carried pure value corresponds to one eager application of the body to the
caller's objects: the carried leaves stay the flattening of the caller-side heap, with the SAME graphdef and the SAME
`ref_index` (what the structure check of `fori_loop` / `while_loop` enforces).  By induction on the trip count the final carry
is the flattening of the unrolled loop's heap, and the outer merge writes it back into the caller's own objects.
-/
import Flax.Proofs.NnxCanon

namespace Flax.Nnx
open Flax.Heap Flax.Graph

/-- the structure check of a loop body (`with_same_outer_index`) in eager terms -/
theorem carry_kept_iff {h h2 : Heap} {vals rets : List PVal} {gds gdsE : List GDef} {fss fssE : List FlatState}
    {idx1 idxE : RefIndex} (hf : FlatRoots h vals [] gds fss idx1) (hfE : FlatRoots h2 rets [] gdsE fssE idxE) :
    gdsE.map (stampWith (fun i => (idxE[i]?).bind (fun a => indexOf? a idx1))) = gds.map (stampWith (fun i => some i)) ↔
      gdsE = gds ∧ idxE = idx1 := by
  constructor
  · intro hchk
    obtain rfl := stamp_inj_defs hchk
    have hstamp := stampRoots_eq_on gdsE hchk
    have hlen : idxE.length = idx1.length := by
      simpa using congrArg List.length ((flatRoots_defIdx_nil hfE).symm.trans (flatRoots_defIdx_nil hf))
    refine ⟨rfl, List.ext_getElem? (fun i => ?_)⟩
    by_cases hi : i < idxE.length
    · have ht := hstamp i (by rw [flatRoots_defIdx_nil hfE]; simp [List.mem_range']; omega)
      simp only [List.getElem?_eq_getElem hi, Option.bind_some] at ht
      rw [indexOf?_some ht, List.getElem?_eq_getElem hi]
    · rw [List.getElem?_eq_none (by omega), List.getElem?_eq_none (by omega)]
  · rintro ⟨rfl, rfl⟩
    refine stampRoots_of_eq_on _ (fun i hi => ?_)
    rw [flatRoots_defIdx_nil hf] at hi
    have hi' : i < idxE.length := by simp [List.mem_range'] at hi; omega
    simp only [List.getElem?_eq_getElem hi', Option.bind_some]
    exact indexOf?_of_getElem? (flatRoots_lt hf).1 (List.getElem?_eq_getElem hi')

theorem body_step {f : Fn} {pre : List PVal} (hpre : ∀ v ∈ pre, ∃ d, v = PVal.array d)
    {h : Heap} {vals : List PVal} {gds : List GDef} {fss : List FlatState} {idx1 : RefIndex}
    (hf : FlatRoots h vals [] gds fss idx1) (nh : AttrsNodup h)
    {rets : List PVal} {h2 : Heap} (he : runFn f h (pre ++ vals) = .ok (rets, h2))
    {lss' : List (List Leaf)} (hb : bodyPure f pre gds (fss.map (convLeaves false)) = .ok lss') :
    ∃ fss', FlatRoots h2 rets [] gds fss' idx1 ∧ lss' = fss'.map (convLeaves false) ∧ AttrsNodup h2 ∧ KindPres h h2 := by
  obtain ⟨gdsE, fssE, idxE, hFE, hpr⟩ := pureRun_eager false false f hpre hf nh he
  have hFE' : FlatRoots h2 rets [] gdsE fssE idxE := by simpa using hFE
  simp only [bodyPure, hpr] at hb
  split at hb
  · next hchk =>
    obtain ⟨rfl, rfl⟩ := (carry_kept_iff hf hFE').mp hchk
    cases hb
    exact ⟨fssE, hFE', rfl, runFn_nodup nh he, runFn_kind he⟩
  · cases hb

theorem fori_invariant (f : Fn) (gds : List GDef) (idx1 : RefIndex) : ∀ (n : Nat) (i : Int) (h : Heap) (vals : List PVal)
    (fss : List FlatState) (lssN : List (List Leaf)) (valsE : List PVal) (hE : Heap),
    FlatRoots h vals [] gds fss idx1 → AttrsNodup h →
    foriIter f gds n i (fss.map (convLeaves false)) = .ok lssN → foriEager f n i h vals = .ok (valsE, hE) →
    ∃ fssE, FlatRoots hE valsE [] gds fssE idx1 ∧ lssN = fssE.map (convLeaves false) ∧ KindPres h hE
  | 0, i, h, vals, fss, lssN, valsE, hE, hf, nh, hi, he => by
    simp [foriIter] at hi; simp [foriEager] at he
    obtain ⟨rfl, rfl⟩ := he
    exact ⟨fss, hf, hi.symm, KindPres.refl _⟩
  | n + 1, i, h, vals, fss, lssN, valsE, hE, hf, nh, hi, he => by
    simp only [foriIter] at hi
    simp only [foriEager] at he
    split at hi
    · cases hi
    · next lss1 hb =>
      split at he
      · cases he
      · next vals1 h1 hr =>
        obtain ⟨fss1, hf1, rfl, nh1, k1⟩ :=
          body_step (pre := [.array (wrap32 i)]) (fun v hv => ⟨_, by simpa using hv⟩) hf nh (by simpa using hr) hb
        obtain ⟨fssE, hfE, e, kE⟩ := fori_invariant f gds idx1 n (i + 1) h1 vals1 fss1 lssN valsE hE hf1 nh1 hi he
        exact ⟨fssE, hfE, e, k1.trans kE⟩

theorem condPure_eager {c : Fn} {h : Heap} {vals : List PVal} {gds : List GDef} {fss : List FlatState} {idx1 : RefIndex}
    (hf : FlatRoots h vals [] gds fss idx1) {r : List PVal} {h0 : Heap} (he : runFn c h vals = .ok (r, h0)) :
    condPure c gds (fss.map (convLeaves false)) =
      match r with
      | [.array d] => .ok (decide (d ≠ 0))
      | _ => .error .typeError := by
  obtain ⟨args', G, ir, hu, C⟩ := inner_copyF false hf
  rcases (inner_run c (pre := []) (fun v hv => by simp at hv) C).cases with
    ⟨e, h1, _⟩ | ⟨⟨r0, h20⟩, ⟨rets', G3⟩, e1, e2, φ', _, _, hrets, _⟩
  · rw [List.nil_append, he] at h1; cases h1
  rw [List.nil_append, he] at e1; cases e1
  rw [List.nil_append] at e2
  simp only [condPure, hu, e2]
  cases hrets with
  | nil => rfl
  | cons hv ht => cases hv <;> cases ht <;> rfl

theorem while_invariant (c f : Fn) (hro : c.readOnly = true) (gds : List GDef) (idx1 : RefIndex) :
    ∀ (fuel : Nat) (h : Heap) (vals : List PVal) (fss : List FlatState) (lssN : List (List Leaf)) (valsE : List PVal) (hE : Heap),
    FlatRoots h vals [] gds fss idx1 → AttrsNodup h →
    whileIter c f gds fuel (fss.map (convLeaves false)) = .ok lssN → whileEager c f fuel h vals = .ok (valsE, hE) →
    ∃ fssE, FlatRoots hE valsE [] gds fssE idx1 ∧ lssN = fssE.map (convLeaves false) ∧ KindPres h hE
  | 0, h, vals, fss, lssN, valsE, hE, _, _, hi, _ => by simp [whileIter] at hi
  | fuel + 1, h, vals, fss, lssN, valsE, hE, hf, nh, hi, he => by
    simp only [whileIter] at hi
    simp only [whileEager] at he
    split at he
    · cases he
    · next d h0 hrc =>
      have h0eq := runFn_readOnly hro hrc
      subst h0eq
      rw [condPure_eager hf hrc] at hi
      split at hi
      · cases hi
      · next hcp =>
        have hd0 : d = 0 := by simpa using hcp
        simp [hd0] at he
        obtain ⟨rfl, rfl⟩ := he
        simp at hi
        exact ⟨fss, hf, hi.symm, KindPres.refl _⟩
      · next hcp =>
        have hd0 : d ≠ 0 := by simpa using hcp
        simp only [hd0, ne_eq, not_false_eq_true, if_true] at he
        split at hi
        · cases hi
        · next lss1 hbp =>
          split at he
          · cases he
          · next vals1 h1 hr =>
            obtain ⟨fss1, hf1, rfl, nh1, k1⟩ := body_step (pre := []) (fun v hv => by simp at hv) hf nh (by simpa using hr) hbp
            obtain ⟨fssE, hfE, e, kE⟩ := while_invariant c f hro gds idx1 fuel h1 vals1 fss1 lssN valsE hE hf1 nh1 hi he
            exact ⟨fssE, hfE, e, k1.trans kE⟩
    · cases he

/-- the outcome of a loop: the final carry under the transform `(roots, h4)` against the unrolled Python loop
`(valsE, hE)`.  The address map is the IDENTITY: it is the caller's own objects that hold the final values. -/
structure LoopRefines (h : Heap) (valsE : List PVal) (hE : Heap) (roots : List PVal) (h4 : Heap) (χ : Addr → Option Addr) :
    Prop where
  iso : IsoM hE (.seq true valsE) h4 (.seq true roots) χ
  ident : ∀ (a c : Nat), χ a = some c → c = a ∧ a < h.length
  frame : ∀ (c : Nat), c < h.length → (∀ (a : Nat), χ a ≠ some c) → h4[c]? = h[c]?

def selfReuse (idx1 : RefIndex) : Addr → Option Addr := fun a => if a ∈ idx1 then some a else Option.none

/-- the final merge of a loop is `rebuild` where every object registered by the outer split is its own target -/
theorem loop_merge {h hE : Heap} {valsE : List PVal} {gds : List GDef} {fssE : List FlatState} {idx1 : RefIndex}
    (hlt : ∀ (a : Nat), a ∈ idx1 → a < h.length) (hk : KindPres h hE)
    (hfE : FlatRoots hE valsE [] gds fssE idx1) :
    ∃ roots h4 χ, step4 h idx1 (gds.map (stampWith (fun i => some i))) (fssE.map (convLeaves false)) = .ok (roots, h4) ∧
      LoopRefines h valsE hE roots h4 χ := by
  have key : ∀ (a c : Nat), selfReuse idx1 a = some c → c = a ∧ a ∈ idx1 := by
    intro a c hac
    unfold selfReuse at hac
    split at hac
    · next hm => exact ⟨(Option.some.inj hac).symm, hm⟩
    · cases hac
  have hR : Reuse hE h (selfReuse idx1) := by
    refine ⟨?_, ?_, ?_⟩
    · intro a a' c h1 h2
      rw [(key a c h1).1] at h2
      exact ((key a' a h2).1)
    · intro a c h1
      obtain ⟨rfl, hm⟩ := key a c h1
      exact hlt c hm
    · intro a c o h1 hg
      obtain ⟨rfl, hm⟩ := key a c h1
      rw [← hk.2 c (hlt c hm), hg, Option.map_some]
  obtain ⟨roots, h4, ir4, hu, Gd, iso, hfr⟩ := rebuild hR false (fun i => some i) (fun i => idx1[i]?) hfE
    (fun i a hia => by simp [selfReuse, hia, List.mem_of_getElem? hia])
  refine ⟨roots, h4, phi idx1 ir4, by simp [step4, hu], iso_toM iso, fun a c hac => ?_, hfr⟩
  have hm : a ∈ idx1 := phi_mem hac
  rcases phi_tgt Gd hac with h1 | ⟨h1, _, _⟩
  · exact ⟨(key a c h1).1, hlt a hm⟩
  · simp [selfReuse, hm] at h1

theorem fori_refines (f : Fn) (lower : Int) (n : Nat) (h : Heap) (vals : List PVal) (nh : AttrsNodup h)
    (roots : List PVal) (h4 : Heap) (hc : foriCall f lower n h vals = .ok (roots, h4))
    (valsE : List PVal) (hE : Heap) (he : foriEager f n lower h vals = .ok (valsE, hE)) :
    ∃ χ, LoopRefines h valsE hE roots h4 χ := by
  unfold foriCall at hc
  split at hc
  · cases hc
  · next gds lss idx1 hs1 =>
    obtain ⟨fss, hF, rfl⟩ := step1_flat hs1
    split at hc
    · cases hc
    · split at hc
      · cases hc
      · next lssN hit =>
        obtain ⟨fssE, hfE, rfl, hk⟩ := fori_invariant f gds idx1 n lower h vals fss lssN valsE hE hF nh hit he
        obtain ⟨_, _, χ, hs, hχ⟩ := loop_merge (flatRoots_lt hF).2.1 hk hfE
        rw [hs] at hc; cases hc
        exact ⟨χ, hχ⟩

theorem while_refines (c f : Fn) (hro : c.readOnly = true) (fuel : Nat) (h : Heap) (vals : List PVal) (nh : AttrsNodup h)
    (roots : List PVal) (h4 : Heap) (hc : whileCall c f fuel h vals = .ok (roots, h4))
    (valsE : List PVal) (hE : Heap) (he : whileEager c f fuel h vals = .ok (valsE, hE)) :
    ∃ χ, LoopRefines h valsE hE roots h4 χ := by
  unfold whileCall at hc
  split at hc
  · cases hc
  · next gds lss idx1 hs1 =>
    obtain ⟨fss, hF, rfl⟩ := step1_flat hs1
    split at hc
    · cases hc
    · cases hc
    · split at hc
      · cases hc
      · next lssN hit =>
        obtain ⟨fssE, hfE, rfl, hk⟩ := while_invariant c f hro gds idx1 fuel h vals fss lssN valsE hE hF nh hit he
        obtain ⟨_, _, χ, hs, hχ⟩ := loop_merge (flatRoots_lt hF).2.1 hk hfE
        rw [hs] at hc; cases hc
        exact ⟨χ, hχ⟩

end Flax.Nnx
