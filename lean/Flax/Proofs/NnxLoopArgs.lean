/- C08 proofs: what vmap and scan use of one graph-node argument: a leaf of state `g` of its split is an owned
occurrence with the axis of `g` and the store's value (`split_state_item`, `split_entry_item`), and writing states back
by path writes per Variable (`updateStore_collected`). -/
import Flax.Proofs.NnxLoopSpec
import Flax.Proofs.NnxLoopMerge

namespace Flax.NnxLoop
open Flax.Filter Flax.LiftLoop

theorem WFArgs_tail {α : Type} {pa : Prefix × Arg α} {rest : List (Prefix × Arg α)} (h : WFArgs (pa :: rest)) :
    WFArgs rest := fun q hq => h q (List.mem_cons_of_mem _ hq)

theorem owned_paths_nodup {es : List Entry} (own : List Bool) (h : (es.map (·.path)).Nodup) :
    ((ownedOf es own).map (·.path)).Nodup :=
  ((ownedOf_sublist es own).map _).nodup h

theorem WFArgs.head_owned_nodup {α : Type} {p : Prefix} {es : List Entry} {rest : List (Prefix × Arg α)}
    (h : WFArgs ((p, .node es) :: rest)) (own : List Bool) : ((ownedOf es own).map (·.path)).Nodup :=
  owned_paths_nodup own (h _ List.mem_cons_self es rfl)

theorem ownedAll_mem {α : Type} : ∀ (pas : List (Prefix × Arg α)) (seen : List VarId), ∀ ep ∈ ownedAll pas seen,
    ∃ es, (ep.2, Arg.node es) ∈ pas ∧ ep.1 ∈ es := by
  intro pas
  induction pas with
  | nil => intro seen ep h; cases h
  | cons pa rest ih =>
    intro seen ep h
    obtain ⟨p, arg⟩ := pa
    cases arg with
    | arr a =>
      obtain ⟨es, h1, h2⟩ := ih seen ep h
      exact ⟨es, List.mem_cons_of_mem _ h1, h2⟩
    | node es =>
      rcases List.mem_append.1 h with h | h
      · obtain ⟨e, he, rfl⟩ := List.mem_map.1 h
        exact ⟨es, List.mem_cons_self, ownedOf_subset _ _ e he⟩
      · obtain ⟨es', h1, h2⟩ := ih _ ep h
        exact ⟨es', List.mem_cons_of_mem _ h1, h2⟩

theorem split_state_item {α : Type} {owned : List Entry} {store : Store α} {flat : Flat α} {p : Prefix}
    {sts : List (State α)} (hfl : flatOf owned store = .ok flat) (hsp : splitFlat p flat = .ok sts) {a : Ax}
    {s : State α} (hz : (a, s) ∈ p.axes.zip sts) {pv : Path × Arr α} (hpv : pv ∈ s) :
    ∃ e ∈ owned, p.at e = .ok a ∧ pv.1 = e.path ∧ store.lookup e.id = some pv.2 := by
  obtain ⟨g, hg1, hg2⟩ := mem_zip_iff.1 hz
  obtain ⟨x, hx, he, hgx⟩ := ((splitFlat_spec hsp).2.1 g s hg2 pv).1 hpv
  obtain ⟨e, heo, hv, hp1, hp2⟩ := (flatOf_ok_mem hfl).2 x hx
  refine ⟨e, heo, ?_, by rw [he, hp1], by rw [he]; exact hv⟩
  rw [prefix_at_eq_axAt, ← hp1, ← hp2]
  simp only [axAt, hgx, hg1]

theorem split_entry_item {α : Type} {owned : List Entry} {store : Store α} {flat : Flat α} {p : Prefix}
    {sts : List (State α)} (hfl : flatOf owned store = .ok flat) (hsp : splitFlat p flat = .ok sts) {e : Entry}
    (he : e ∈ owned) {a : Ax} (hat : p.at e = .ok a) :
    ∃ v s, store.lookup e.id = some v ∧ (a, s) ∈ p.axes.zip sts ∧ (e.path, v) ∈ s := by
  obtain ⟨v, hv, hm⟩ := (flatOf_ok_mem hfl).1 e he
  obtain ⟨hlen, hmem, hlt⟩ := splitFlat_spec hsp
  have hg := hlt _ hm
  refine ⟨v, sts[groupIdx p e.path e.info], hv, mem_zip_iff.2 ⟨_, (prefix_at_eq_axAt p e a).1 hat,
    List.getElem?_eq_getElem hg⟩, (hmem _ _ (List.getElem?_eq_getElem hg) _).2 ⟨_, hm, rfl, rfl⟩⟩

theorem split_owned_at {α : Type} {owned : List Entry} {store : Store α} {flat : Flat α} {p : Prefix}
    {sts : List (State α)} (hfl : flatOf owned store = .ok flat) (hsp : splitFlat p flat = .ok sts) :
    ∀ e ∈ owned, ∃ a, p.at e = .ok a := by
  intro e he
  obtain ⟨v, _, hm⟩ := (flatOf_ok_mem hfl).1 e he
  have hg := (splitFlat_spec hsp).2.2 _ hm
  rw [(splitFlat_spec hsp).1] at hg
  exact ⟨_, (prefix_at_eq_axAt p e _).2 (List.getElem?_eq_getElem hg)⟩

theorem writeAll_append {α : Type} (v1 v2 : List (VarId × Arr α)) (store : Store α) :
    writeAll (v1 ++ v2) store = writeAll v2 (writeAll v1 store) := by
  simp [writeAll, List.foldl_append]

theorem updateStore_collected {α : Type} {F : Entry × Prefix → Except Err (VarId × Arr α)} {p : Prefix}
    {sts : State α} : ∀ (owned : List Entry) (store : Store α),
    (∀ e ∈ owned, ∃ v, F (e, p) = .ok (e.id, v) ∧ sts.lookup e.path = some v) →
    ∃ vals, mapX F (owned.map (fun e => (e, p))) = .ok vals ∧
      updateStore owned sts store = .ok (writeAll vals store) := by
  intro owned
  induction owned with
  | nil => intro store _; exact ⟨[], rfl, rfl⟩
  | cons e es ih =>
    intro store h
    obtain ⟨v, hF, hl⟩ := h e List.mem_cons_self
    obtain ⟨vals, h1, h2⟩ := ih (store.set e.id v) (fun x hx => h x (List.mem_cons_of_mem _ hx))
    exact ⟨(e.id, v) :: vals, mapX_cons_of_ok hF h1, by simp only [updateStore, hl, h2]; rfl⟩

end Flax.NnxLoop
