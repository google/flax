/-
Definitions of the C16 proof modules. The theorems are stated in: the flat form of a node seen from the node (`relT`),
prefix-free flat maps and their values, separators overlapping no key, content and leaves of a State, the last value
under a key, lists related entry by entry, the buckets of a first-match split; `build`, `appF`, `under`, `headIsF`
serve lemmas.
-/
import Flax.Model.Traverse
import Flax.Model.State

namespace Flax.Traverse

variable {κ α : Type}

mutual
  /-- `flatT` seen from the node itself: paths are relative, the root check `prefix == ()` is gone -/
  def relT (keep : Bool) (isLeaf : Path κ → Tree κ α → Bool) : Tree κ α → List (Path κ × FVal κ α)
    | .leaf v => [([], .val (.leaf v))]
    | .dict kvs =>
      if isLeaf [] (.dict kvs) then [([], .val (.dict kvs))]
      else if keep && kvs.isEmpty then [([], .emptyNode)]
      else relKvs keep isLeaf kvs
  def relKvs (keep : Bool) (isLeaf : Path κ → Tree κ α → Bool) :
      List (κ × Tree κ α) → List (Path κ × FVal κ α)
    | [] => []
    | (k, c) :: rest =>
      (relT keep (fun p => isLeaf (k :: p)) c).map (fun pv => (k :: pv.1, pv.2)) ++ relKvs keep isLeaf rest
end

section
variable [DecidableEq κ]

/-- the loop of `unflatten_dict` with tuple keys -/
abbrev build (acc : List (κ × Tree κ α)) (m : List (Path κ × FVal κ α)) : Except Err (List (κ × Tree κ α)) :=
  unflattenLoop (fun p => Except.ok p) acc m

/-- neither is a prefix of the other -/
def Incomp (p q : Path κ) : Prop := ¬ p <+: q ∧ ¬ q <+: p

/-- no path is a prefix of another -/
def PrefixFree {β : Type} (m : List (Path κ × β)) : Prop := m.Pairwise (fun a b => Incomp a.1 b.1)

/-- values a flat map may hold so that flattening gives them back: plain leaves, and `empty_node` when
`keep_empty_nodes` is on -/
def OkVal (b : Bool) (v : FVal κ α) : Prop := (∃ a, v = .val (.leaf a)) ∨ (b = true ∧ v = .emptyNode)

/-- a leaf as a flat-map entry -/
abbrev leafEntry (pa : Path κ × α) : Path κ × FVal κ α := (pa.1, .val (.leaf pa.2))

/-- what `path_aware_map` does to one flat entry -/
def appF (f : Path κ → Tree κ α → Tree κ α) (pv : Path κ × FVal κ α) : Path κ × FVal κ α :=
  (pv.1, match pv.2 with
    | .val x => FVal.val (f pv.1 x)
    | .emptyNode => FVal.emptyNode)

abbrev under (b : Bool) (k : κ) (t : Tree κ α) : List (Path κ × FVal κ α) :=
  (relT b noLeaf t).map (fun pv => (k :: pv.1, pv.2))

def headIsF (k : κ) (e : Path κ × FVal κ α) : Bool := decide (e.1.head? = some k)

end

/-- the separator does not occur in `x` followed by a proper prefix of the separator: no occurrence of `sep` in
`x ++ sep ++ …` starts inside `x`. For a one-character separator this is `sep ∉ x`. -/
def NoOverlap (sep x : List Char) : Prop := ¬ sep <:+: (x ++ sep.dropLast)

end Flax.Traverse

namespace Flax.State
open Flax.Traverse

variable {α : Type}

/-- every leaf and every empty sub-dict with its path (`flatten_mapping(keep_empty_nodes=True)`); dicts with the same
content up to order are equal as Python dicts -/
abbrev Content (s : SMap α) : List (SPath × FVal Key α) := relKvs true noLeaf s

/-- the leaves with their paths, in dict order -/
abbrev leaves (s : SMap α) : Flat α := leavesKvs s

section
variable {κ γ : Type} [DecidableEq κ]

/-- the value of the last item with key `k` -/
def lastVal : List (κ × γ) → κ → Option γ
  | [], _ => none
  | x :: rest, k =>
    match lastVal rest k with
    | some v => some v
    | none => if x.1 = k then some x.2 else none

end

section
variable {γ δ : Type}

/-- lists related entry by entry -/
inductive Forall2 (R : γ → δ → Prop) : List γ → List δ → Prop where
  | nil : Forall2 R [] []
  | cons {x y xs ys} : R x y → Forall2 R xs ys → Forall2 R (x :: xs) (y :: ys)

end

end Flax.State

namespace Flax.C16
open Flax.State

variable {α : Type}

/-- the leaves whose first matching predicate is number `i` -/
def bucket (preds : List (SPath → α → Bool)) (i : Nat) (m : Flat α) : Flat α :=
  m.filter (fun e => firstIdx preds e.1 e.2 == i)

end Flax.C16
