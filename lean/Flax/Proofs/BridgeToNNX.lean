/-
ToNNX for C18: the merge of `mutable` updates into the wrapper, and the simulation of plain Linen use
of the wrapped module (single call, histories, `lazy_init`); `call` / `callR` taken apart.
-/
import Flax.Proofs.BridgeRef

namespace Flax.Bridge
variable {α β γ ι ο μ : Type}

/-- `u` is the attribute tree the updates `U` are converted to (and expose); `g` is `u` laid over the
wrapper's attributes leaf by leaf -/
theorem absorb_spec (s : ToNNX α) (hi : s.reg.Inj) (hb : s.reg.Bounded) (hw : WFF s.attrs)
    (U : Forest (LBox α)) (hU : VarsOk s.reg U)
    (hc : ∀ q q', leafAtF s.attrs q ≠ none → (∃ c, leafAtF U (c :: q') ≠ none) →
      (q <+: q' ∨ q' <+: q) → q = q') :
    ∃ r' u g, s.absorb U = .ok { s with attrs := g, reg := r' } ∧
      s.reg.Grows r' ∧ AttrsOk r' u ∧ (∀ p, leafAtF U p = expose r' (leafAtF u) p) ∧
      (∀ q v, leafAtF u q = some v →
        ∃ c x, leafAtF U (c :: q) = some x ∧ r'.typeOf c = some v.vtype ∧ v.value = x.value ∧
          (∀ n, x.names? = some n → Meta.get? v.md "sharding" = some n)) ∧
      WFF g ∧ ∀ q, leafAtF g q = (leafAtF u q).or (leafAtF s.attrs q) := by
  obtain ⟨r', u, hfwd, hr, hAu, hnu, hUu, hplace⟩ := linenVarsToNnxAttrs_exposes s.reg hi hb U hU
  have hcompat : Compat s.attrs u := by
    intro q q' h1 h2 hp
    cases hq' : leafAtF u q' with
    | none => exact absurd hq' h2
    | some v =>
      obtain ⟨c, x, hx, _⟩ := hplace q' v hq'
      exact hc q q' h1 ⟨c, by simp [hx]⟩ hp
  obtain ⟨g, hg, hwg, _, hleafg⟩ := foldStep_spec absorbAttr absorbAttr_spec u s.attrs hw hAu.wf hnu hcompat
  exact ⟨r', u, g, by simp only [ToNNX.absorb, hfwd, hg, bind, Except.bind, pure, Except.pure],
    hr, hAu, hUu, hplace, hwg, hleafg⟩

/-- the updates returned by `apply` fit the wrapper: their attribute paths do not nest with the
wrapper's, and a path that exists already is updated in its own collection -/
structure UpdFits (s : ToNNX α) (U : Forest (LBox α)) : Prop where
  vars : VarsOk s.reg U
  paths : ∀ q q', leafAtF s.attrs q ≠ none → (∃ c, leafAtF U (c :: q') ≠ none) →
    (q <+: q' ∨ q' <+: q) → q = q'
  sameCol : ∀ c q v, leafAtF U (c :: q) ≠ none → leafAtF s.attrs q = some v → s.reg.nameOf v.vtype = some c

theorem heldVars_spec (s : ToNNX α) (hs : WrapOk s) :
    ∃ V, s.heldVars = .ok V ∧ Exposes s.reg V s.attrs ∧ VarsOk s.reg V := by
  obtain ⟨V, hV, hE⟩ := nnxAttrsToLinenVars_spec s.reg s.attrs hs.attrs.wf hs.attrs.leaves
  exact ⟨V, hV, hE, (varsOk_of_attrs s.reg hs.inj s.attrs hs.attrs V hE).1⟩

/-- after a call with `mutable` the wrapper holds the old variables overlaid, leaf by leaf, with the
updates: both are exposures, and exposure commutes with overlay (`expose_or`) -/
theorem held_after_absorb (s : ToNNX α) (hs : WrapOk s) (U : Forest (LBox α)) (hU : UpdFits s U) :
    ∃ s' V V', s.heldVars = .ok V ∧ s.absorb U = .ok s' ∧ s'.heldVars = .ok V' ∧ WrapOk s' ∧
      s'.rngs = s.rngs ∧ ∀ p, leafAtF V' p = (leafAtF U p).or (leafAtF V p) := by
  obtain ⟨V, hV, hE, _⟩ := heldVars_spec s hs
  obtain ⟨r', u, g, habs, hr, hAu, hUu, hplace, hwg, hleafg⟩ :=
    absorb_spec s hs.inj hs.bounded hs.attrs.wf U hU.vars hU.paths
  have hs' : WrapOk { s with attrs := g, reg := r' } :=
    ⟨hr.inj, hr.bounded, hAu.of_or (hs.attrs.mono hr) hwg fun q v hl => by
      rw [hleafg q, Option.or_eq_some_iff] at hl
      exact hl.imp id (·.2)⟩
  obtain ⟨V', hV', hE', _⟩ := heldVars_spec _ hs'
  refine ⟨_, V, V', hV, habs, hV', hs', rfl, fun p => ?_⟩
  rw [((exposes_iff _ _ _).mp hE').2.2, ((exposes_iff _ _ _).mp hE).2.2, hUu,
    ← expose_mono hr _ hs.attrs.named, expose_congr r' hleafg]
  refine expose_or r' (leafAtF u) (leafAtF s.attrs) (fun q f hf => ?_) (fun q f v hf hv => ?_) p
  · obtain ⟨_, y, _, hy⟩ := hAu.leaves q f hf
    exact ⟨y, hy⟩
  · obtain ⟨c, x, hx, hty, _⟩ := hplace q f hf
    rw [Reg.nameOf_of_typeOf r' hr.inj c _ hty]
    exact hr.nameOf (hU.sameCol c q v (by simp [hx]) hv)

/-- the block of `ToNNX.__call__` after `apply`: `absorb` when `mutable` is given -/
def ToNNX.settle (s : ToNNX α) (mu : Option μ) (upd : Forest (LBox α)) : Except Err (ToNNX α) :=
  match mu with
  | none => .ok s
  | some _ => s.absorb upd

theorem ToNNX.absorb_rngs (s s' : ToNNX α) (U : Forest (LBox α)) (h : s.absorb U = .ok s') : s'.rngs = s.rngs := by
  simp only [ToNNX.absorb, bind_ok, pure, Except.pure, Except.ok.injEq] at h
  obtain ⟨_, _, _, _, rfl⟩ := h
  rfl

theorem ToNNX.settle_rngs (s s' : ToNNX α) (mu : Option μ) (U : Forest (LBox α))
    (h : s.settle mu U = .ok s') : s'.rngs = s.rngs := by
  cases mu with
  | none => cases h; rfl
  | some _ => exact ToNNX.absorb_rngs s s' U h

theorem ToNNX.call_eq (m : LinenMod α ι ο μ) (s : ToNNX α) (mu : Option μ) (x : ι) :
    s.call m mu x = (do
      let V ← s.heldVars
      let (o, U) ← m.apply V s.rngs.draw.1 mu x
      let s' ← ToNNX.settle { s with rngs := s.rngs.draw.2 } mu U
      pure (o, s')) := by
  cases mu <;> rfl

theorem ToNNX.callR_eq (m : LinenMod α ι ο μ) (s : ToNNX α) (given : Option Rngs) (mu : Option μ) (x : ι) :
    s.callR m given mu x = (do
      let V ← s.heldVars
      let src := if chooseRngs given then given.getD s.rngs else s.rngs
      let (o, U) ← m.apply V src.draw.1 mu x
      let s' ← ToNNX.settle { s with rngs := if chooseRngs given then s.rngs else src.draw.2 } mu U
      pure (o, s', if chooseRngs given then some src.draw.2 else given)) := by
  cases mu <;> rfl

theorem ToNNX.call_ok (m : LinenMod α ι ο μ) (s : ToNNX α) (mu : Option μ) (x : ι) (o : ο) (s' : ToNNX α) :
    s.call m mu x = .ok (o, s') ↔
      ∃ V U, s.heldVars = .ok V ∧ m.apply V s.rngs.draw.1 mu x = .ok (o, U) ∧
        ToNNX.settle { s with rngs := s.rngs.draw.2 } mu U = .ok s' := by
  simp only [ToNNX.call_eq, bind_ok, pure, Except.pure, Except.ok.injEq, Prod.mk.injEq, Prod.exists]
  constructor
  · rintro ⟨V, hV, o1, U, happ, s1, hs, rfl, rfl⟩; exact ⟨V, U, hV, happ, hs⟩
  · rintro ⟨V, U, hV, happ, hs⟩; exact ⟨V, hV, o, U, happ, s', hs, rfl, rfl⟩

theorem ToNNX.callR_own (m : LinenMod α ι ο μ) (s : ToNNX α) (given : Option Rngs) (mu : Option μ) (x : ι)
    (o : ο) (s' : ToNNX α) (given' : Option Rngs) (hc : chooseRngs given = false) :
    s.callR m given mu x = .ok (o, s', given') ↔ s.call m mu x = .ok (o, s') ∧ given' = given := by
  simp only [ToNNX.callR_eq, ToNNX.call_ok, hc, Bool.false_eq_true, ↓reduceIte, bind_ok, pure, Except.pure,
    Except.ok.injEq, Prod.mk.injEq, Prod.exists]
  constructor
  · rintro ⟨V, hV, o1, U, happ, s1, hs, rfl, rfl, rfl⟩; exact ⟨⟨V, U, hV, happ, hs⟩, rfl⟩
  · rintro ⟨⟨V, U, hV, happ, hs⟩, rfl⟩; exact ⟨V, hV, o, U, happ, s', hs, rfl, rfl, rfl⟩

theorem ToNNX.callR_given (m : LinenMod α ι ο μ) (s : ToNNX α) (g : Rngs) (mu : Option μ) (x : ι)
    (o : ο) (s' : ToNNX α) (given' : Option Rngs) (hc : chooseRngs (some g) = true) :
    s.callR m (some g) mu x = .ok (o, s', given') ↔
      ∃ V U, s.heldVars = .ok V ∧ m.apply V g.draw.1 mu x = .ok (o, U) ∧ s.settle mu U = .ok s' ∧
        given' = some g.draw.2 := by
  simp only [ToNNX.callR_eq, hc, ↓reduceIte, Option.getD_some, bind_ok, pure, Except.pure, Except.ok.injEq,
    Prod.mk.injEq, Prod.exists]
  constructor
  · rintro ⟨V, hV, o1, U, happ, s1, hs, rfl, rfl, rfl⟩; exact ⟨V, U, hV, happ, hs, rfl⟩
  · rintro ⟨V, U, hV, happ, hs, rfl⟩; exact ⟨V, hV, o, U, happ, s', hs, rfl, rfl, rfl⟩

theorem updFits_of_fits (s : ToNNX α) (hs : WrapOk s) (V U : Forest (LBox α))
    (hE : Exposes s.reg V s.attrs) (h : Fits s.reg V U) : UpdFits s U := by
  have hV : ∀ q v, leafAtF s.attrs q = some v → ∃ n x, s.reg.nameOf v.vtype = some n ∧
      leafAtF V (n :: q) = some x := by
    intro q v hl
    obtain ⟨n, x, hn, hx⟩ := hs.attrs.leaves q v hl
    exact ⟨n, x, hn, (hE.col n q x).mpr ⟨v, hl, hn, hx⟩⟩
  refine ⟨h.vars, ?_, ?_⟩
  · intro q q' h1 ⟨c, h2⟩ hp
    cases hq : leafAtF s.attrs q with
    | none => exact absurd hq h1
    | some v =>
      obtain ⟨n, x, _, hx⟩ := hV q v hq
      exact (h.paths n q c q' (by simp [hx]) h2 hp).1
  · intro c q v h2 hl
    obtain ⟨n, x, hn, hx⟩ := hV q v hl
    have := (h.paths n q c q (by simp [hx]) h2 (Or.inl (List.prefix_refl q))).2
    rw [hn, this]

/-- **one call of the wrapper against one call of the reference** -/
theorem call_sim (m : LinenMod α ι ο μ) (hm : ModOk m) (s : ToNNX α) (ref : LinenRef α) (hsim : Sim s ref)
    (mu : Option μ) (x : ι) (o : ο) (ref' : LinenRef α) (h : ref.call m mu x = .ok (o, ref')) :
    ∃ s', s.call m mu x = .ok (o, s') ∧ Sim s' ref' := by
  obtain ⟨V, hV, hE, hVok⟩ := heldVars_spec s hsim.wrap
  obtain ⟨V0, hV0, hequiv⟩ := hsim.held
  rw [hV] at hV0; cases hV0
  simp only [LinenRef.call, Rngs.draw, bind_ok] at h
  obtain ⟨⟨o1, U⟩, happ, h⟩ := h
  have happ' : m.apply V (s.rngs.draw.1) mu x = .ok (o1, U) := by
    rw [hm.ext V ref.vars _ mu x hE.wf hsim.wf hequiv, hsim.rngs]; exact happ
  have hfits : Fits s.reg V U := hm.fits s.reg V _ mu x o1 U hsim.wrap.inj hsim.wrap.bounded hVok happ'
  have hs1 : WrapOk { s with rngs := s.rngs.draw.2 } :=
    ⟨hsim.wrap.inj, hsim.wrap.bounded, hsim.wrap.attrs⟩
  cases mu with
  | none =>
    simp only [pure, Except.pure, Except.ok.injEq, Prod.mk.injEq] at h
    obtain ⟨rfl, rfl⟩ := h
    exact ⟨_, (ToNNX.call_ok m s none x o1 _).mpr ⟨V, U, hV, happ', rfl⟩,
      hs1, by simp [Rngs.draw, hsim.rngs], hsim.wf, V, hV, hequiv⟩
  | some mv =>
    simp only [bind_ok, pure, Except.pure, Except.ok.injEq, Prod.mk.injEq] at h
    obtain ⟨v, hmerge, rfl, rfl⟩ := h
    obtain ⟨s', V1, V', hV1, habs, hV', hs', hrng, hover⟩ := held_after_absorb _ hs1 U
      (updFits_of_fits _ hs1 V U hE hfits)
    rw [show ToNNX.heldVars { s with rngs := s.rngs.draw.2 } = .ok V from hV] at hV1; cases hV1
    -- the reference merges leaf by leaf into what the wrapper now holds
    obtain ⟨v', hv', hvleaf, hvw, _⟩ := recursiveMerge_rep ref.vars U hsim.wf hfits.vars.wf (treeLike_leafAtF V')
      (fun q => by rw [hover q, hequiv q])
    rw [hmerge] at hv'; cases hv'
    refine ⟨s', (ToNNX.call_ok m s (some mv) x o1 s').mpr ⟨V, U, hV, happ', habs⟩, hs', ?_, hvw, V', hV',
      fun p => (hvleaf p).symm⟩
    rw [hrng]; simp [Rngs.draw, hsim.rngs]

theorem run_sim (m : LinenMod α ι ο μ) (hm : ModOk m) : ∀ (hist : List (Option μ × ι)) (s : ToNNX α)
    (ref : LinenRef α), Sim s ref → ∀ outs ref', runRef m ref hist = .ok (outs, ref') →
    ∃ s', runWrapper m s hist = .ok (outs, s') ∧ Sim s' ref' := by
  intro hist
  induction hist with
  | nil =>
    intro s ref hsim outs ref' h
    simp only [runRef, Except.ok.injEq, Prod.mk.injEq] at h
    obtain ⟨rfl, rfl⟩ := h
    exact ⟨s, rfl, hsim⟩
  | cons hd rest ih =>
    intro s ref hsim outs ref' h
    obtain ⟨mu, x⟩ := hd
    simp only [runRef, bind_ok, pure, Except.pure, Except.ok.injEq, Prod.mk.injEq] at h
    obtain ⟨⟨o, ref1⟩, hcall, ⟨os, ref2⟩, hrest, rfl, rfl⟩ := h
    obtain ⟨s1, hs1, hsim1⟩ := call_sim m hm s ref hsim mu x o ref1 hcall
    obtain ⟨s2, hs2, hsim2⟩ := ih s1 ref1 hsim1 os ref2 hrest
    exact ⟨s2, by simp only [runWrapper, hs1, hs2, bind, Except.bind, pure, Except.pure], hsim2⟩

theorem lazyInit_sim (m : LinenMod α ι ο μ) (hm : ModOk m) (s : ToNNX α) (hi : s.reg.Inj) (hb : s.reg.Bounded)
    (hempty : s.attrs = []) (x : ι) (o : ο) (V : Forest (LBox α))
    (hinit : m.init (renameDefault s.rngs.draw.1) x = .ok (o, V)) :
    ∃ s', s.lazyInit m x = .ok (o, s') ∧ Sim s' { vars := V, rngs := s.rngs.draw.2 } ∧
      (∀ q v, leafAtF s'.attrs q = some v →
        ∃ c b, leafAtF V (c :: q) = some b ∧ s'.reg.typeOf c = some v.vtype ∧ v.value = b.value ∧
          (∀ n, b.names? = some n → Meta.get? v.md "sharding" = some n)) := by
  have hVok := hm.initOk s.reg _ x o V hi hb hinit
  obtain ⟨r', A, V', hfwd, hback, hr, hA, hE, hequiv, hplace⟩ := vars_attrs_vars s.reg hi hb V hVok
  have hattrs : setAttrs s.attrs A = A := by
    rw [hempty, setAttrs, shallowMerge_eq_append A [] (by simp) (wf_nodup A hA.wf)]; simp
  refine ⟨{ attrs := A, reg := r', rngs := s.rngs.draw.2 }, ?_,
    ⟨⟨hr.inj, hr.bounded, hA⟩, rfl, hVok.wf, V', hback, hequiv⟩, hplace⟩
  simp only [ToNNX.lazyInit, Rngs.draw, bind, Except.bind, pure, Except.pure] at hinit ⊢
  rw [hinit]; simp only [hfwd, hattrs]

end Flax.Bridge
