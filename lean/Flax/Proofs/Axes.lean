/-
The names side and the array side of `Flax/Model/Axes.lean`. Inside the range the array side accepts, every `add_axis`
variant is `insertAt` at the index `normIdx` gives, and every `remove_axis` variant is `eraseIdx` there. Then `Box`, one
transform level (`outBox`, `inBox`), nestings (`initThrough`, `applyIn`), `dictSet`.
-/
import Flax.Model.Axes
import Flax.Proofs.Assoc
import Flax.Proofs.ListLemmas

namespace Flax.Axes

@[simp] theorem insertAt_zero {α : Type} (xs : List α) (x : α) : insertAt xs 0 x = x :: xs := rfl

@[simp] theorem insertAt_succ_cons {α : Type} (y : α) (ys : List α) (j : Nat) (x : α) :
    insertAt (y :: ys) (j + 1) x = y :: insertAt ys j x := rfl

/-- beyond the length `insertAt` appends and `List.insertIdx` does nothing -/
theorem insertAt_eq_insertIdx {α : Type} (xs : List α) (j : Nat) (x : α) (h : j ≤ xs.length) :
    insertAt xs j x = xs.insertIdx j x := by
  induction xs generalizing j with
  | nil => obtain rfl : j = 0 := by simpa using h
           rfl
  | cons y ys ih =>
    cases j with
    | zero => rfl
    | succ j => simp [ih j (by simpa using h)]

@[simp] theorem length_insertAt {α : Type} (xs : List α) (j : Nat) (x : α) :
    (insertAt xs j x).length = xs.length + 1 := by
  simp only [insertAt, List.length_append, List.length_cons, List.length_take, List.length_drop]
  omega

theorem getElem?_insertAt {α : Type} (xs : List α) (j : Nat) (x : α) (h : j ≤ xs.length) (i : Nat) :
    (insertAt xs j x)[i]? = if i < j then xs[i]? else if i = j then some x else xs[i - 1]? := by
  rw [insertAt_eq_insertIdx _ _ _ h, List.getElem?_insertIdx]
  by_cases hi : i = j <;> simp [hi, h]

theorem getElem?_insertAt_self {α : Type} (xs : List α) (j : Nat) (x : α) (h : j ≤ xs.length) :
    (insertAt xs j x)[j]? = some x := by
  simp [getElem?_insertAt _ _ _ h]

theorem eraseIdx_insertAt {α : Type} (xs : List α) (j : Nat) (x : α) (h : j ≤ xs.length) :
    (insertAt xs j x).eraseIdx j = xs := by
  rw [insertAt_eq_insertIdx _ _ _ h, List.eraseIdx_insertIdx_self]

theorem insertAt_eraseIdx {α : Type} (xs : List α) (j : Nat) (x : α) (h : xs[j]? = some x) :
    insertAt (xs.eraseIdx j) j x = xs := by
  obtain ⟨hj, rfl⟩ := List.getElem?_eq_some_iff.mp h
  rw [insertAt_eq_insertIdx _ _ _ (by rw [List.length_eraseIdx_of_lt hj]; omega), Lists.insertIdx_eraseIdx_self xs j hj]

theorem zip_insertAt {α β : Type} (a : List α) (b : List β) (j : Nat) (x : α) (y : β)
    (h : a.length = b.length) :
    (insertAt a j x).zip (insertAt b j y) = insertAt (a.zip b) j (x, y) := by
  unfold insertAt
  rw [List.zip_append (by simp [h]), List.zip_cons_cons]
  simp only [List.zip_eq_zipWith, List.take_zipWith, List.drop_zipWith]

theorem normIdx_eq_some_iff {n : Nat} {k : Int} {j : Nat} :
    normIdx n k = some j ↔ j < n ∧ (k = j ∨ k + n = j) := by
  unfold normIdx
  by_cases hk : k < 0
  · by_cases h0 : 0 ≤ k + n
    · simp only [hk, h0, ↓reduceIte, Option.some.injEq]; omega
    · simp only [hk, h0, ↓reduceIte, reduceCtorEq, false_iff]; omega
  · by_cases h0 : k.toNat < n
    · simp only [hk, h0, ↓reduceIte, Option.some.injEq]; omega
    · simp only [hk, h0, ↓reduceIte, reduceCtorEq, false_iff]; omega

theorem lt_of_normIdx {n : Nat} {k : Int} {j : Nat} (h : normIdx n k = some j) : j < n :=
  (normIdx_eq_some_iff.mp h).1

theorem le_of_normIdx_succ {n : Nat} {k : Int} {j : Nat} (h : normIdx (n + 1) k = some j) : j ≤ n :=
  Nat.le_of_lt_succ (lt_of_normIdx h)

theorem normIdx_isSome_iff {n : Nat} {k : Int} :
    (normIdx n k).isSome ↔ -(n : Int) ≤ k ∧ k < n := by
  unfold normIdx
  split <;> split <;>
    simp only [Option.isSome_some, Option.isSome_none, true_iff, Bool.false_eq_true, false_iff] <;> omega

theorem normIdx_succ_isSome_iff {n : Nat} {k : Int} :
    (normIdx (n + 1) k).isSome ↔ -((n : Int) + 1) ≤ k ∧ k ≤ n := by
  rw [normIdx_isSome_iff]; omega

theorem exists_normIdx_succ {n : Nat} {k : Int} (h1 : -((n : Int) + 1) ≤ k) (h2 : k ≤ n) :
    ∃ j, normIdx (n + 1) k = some j :=
  Option.isSome_iff_exists.mp (normIdx_succ_isSome_iff.mpr ⟨h1, h2⟩)

/-- `add_axis` normalises a negative index against the new length before `list.insert` -/
theorem shift_of_normIdx_succ {n : Nat} {k : Int} {j : Nat} (h : normIdx (n + 1) k = some j) :
    (if k < 0 then k + ((n + 1 : Nat) : Int) else k) = (j : Int) := by
  obtain ⟨_, h | h⟩ := normIdx_eq_some_iff.mp h <;> split <;> omega

theorem padTo_of_le (names : Names) (k : Int) (h : k ≤ names.length) : padTo names k = names := by
  have : k.toNat - names.length = 0 := by omega
  simp [padTo, this]

theorem pyInsert_natCast {α : Type} (xs : List α) (j : Nat) (x : α) (h : j ≤ xs.length) :
    pyInsert xs (j : Int) x = insertAt xs j x := by
  have hneg : ¬ ((j : Int) < 0) := by omega
  simp only [pyInsert, insertPos, hneg, ↓reduceIte, Int.toNat_natCast, Nat.min_eq_left h]

theorem addAxisLegacy_eq_insertAt (names : Names) (k : Int) (nm : Name) (j : Nat)
    (h : normIdx (names.length + 1) k = some j) : addAxisLegacy k nm names = insertAt names j nm := by
  simp only [addAxisLegacy, shift_of_normIdx_succ h]
  exact pyInsert_natCast _ _ _ (le_of_normIdx_succ h)

theorem addAxis_eq_insertAt (names : Names) (k : Int) (nm : Name) (j : Nat)
    (h : normIdx (names.length + 1) k = some j) : addAxis k nm names = insertAt names j nm := by
  have hj := le_of_normIdx_succ h
  simp only [addAxis, shift_of_normIdx_succ h]
  rw [padTo_of_le _ _ (by omega), pyInsert_natCast _ _ _ hj]

theorem toNat_le_length_padTo (names : Names) (k : Int) : k.toNat ≤ (padTo names k).length := by
  simp only [padTo, List.length_append, List.length_replicate]
  omega

theorem addAxis_of_nonneg (names : Names) (k : Int) (nm : Name) (hk : 0 ≤ k) :
    addAxis k nm names = insertAt (padTo names k) k.toNat nm := by
  have hk' : ¬ k < 0 := by omega
  simp only [addAxis, pyInsert, insertPos, hk', ↓reduceIte, Nat.min_eq_left (toNat_le_length_padTo names k)]

theorem effName_padTo (names : Names) (k : Int) (i : Nat) :
    effName (padTo names k) i = effName names i := by
  unfold effName padTo
  rw [List.getElem?_append]
  split
  · rfl
  · rw [List.getElem?_replicate, List.getElem?_eq_none (by omega)]
    split <;> rfl

theorem effName_insertAt (p : Names) (j : Nat) (nm : Name) (hj : j ≤ p.length) (i : Nat) :
    effName (insertAt p j nm) i
      = if i < j then effName p i else if i = j then nm else effName p (i - 1) := by
  unfold effName
  rw [getElem?_insertAt _ _ _ hj]
  split
  · rfl
  · split <;> rfl

theorem removeAxis_eq_ok_iff {names ns' : Names} {k : Int} {nm : Name} :
    removeAxis k nm names = .ok ns' ↔
      ∃ j, normIdx names.length k = some j ∧ names[j]? = some nm ∧ ns' = names.eraseIdx j := by
  unfold removeAxis
  cases normIdx names.length k with
  | none => simp
  | some j =>
    simp only [Option.some.injEq, exists_eq_left']
    split
    · rename_i hn
      simp only [Except.ok.injEq, hn, true_and, eq_comm]
    · rename_i hn
      simp only [reduceCtorEq, hn, false_and]

theorem addAxis_of_removeAxis {names ns' : Names} {k : Int} {nm : Name}
    (h : removeAxis k nm names = .ok ns') : addAxis k nm ns' = names := by
  obtain ⟨j, hj, hn, rfl⟩ := removeAxis_eq_ok_iff.mp h
  have hlt := lt_of_normIdx hj
  have hlen : (names.eraseIdx j).length + 1 = names.length := by
    rw [List.length_eraseIdx_of_lt hlt]; omega
  rw [addAxis_eq_insertAt _ _ _ j (by rw [hlen]; exact hj)]
  exact insertAt_eraseIdx _ _ _ hn

theorem removeAxis_insertAt (names : Names) (k : Int) (nm : Name) (j : Nat)
    (h : normIdx (names.length + 1) k = some j) : removeAxis k nm (insertAt names j nm) = .ok names := by
  have hj := le_of_normIdx_succ h
  simp [removeAxis, h, getElem?_insertAt_self _ _ _ hj, eraseIdx_insertAt _ _ _ hj]

theorem removeAxisLegacy_insertAt (names : Names) (k : Int) (nm : Name) (j : Nat)
    (h : normIdx (names.length + 1) k = some j) :
    removeAxisLegacy k nm (insertAt names j nm) = .ok names := by
  have hj := le_of_normIdx_succ h
  simp [removeAxisLegacy, h, getElem?_insertAt_self _ _ _ hj, eraseIdx_insertAt _ _ _ hj]

theorem sliceAt_insertAt {δ : Type} (dims : List δ) (k : Int) (d : δ) (j : Nat)
    (h : normIdx (dims.length + 1) k = some j) : sliceAt k (insertAt dims j d) = some dims := by
  have hj := le_of_normIdx_succ h
  simp [sliceAt, h, eraseIdx_insertAt _ _ _ hj]

namespace Box
variable {α : Type}

@[simp] theorem unbox_replaceBoxed (b : Box α) (v : α) : (b.replaceBoxed v).unbox = v := by
  induction b with
  | raw _ => rfl
  | boxed ns inner ih => exact ih

@[simp] theorem names?_replaceBoxed (b : Box α) (v : α) : (b.replaceBoxed v).names? = b.names? := by
  cases b <;> rfl

@[simp] theorem replaceBoxed_unbox (b : Box α) : b.replaceBoxed b.unbox = b := by
  induction b with
  | raw _ => rfl
  | boxed ns inner ih => simp [replaceBoxed, unbox, ih]

@[simp] theorem replaceBoxed_replaceBoxed (b : Box α) (v w : α) :
    (b.replaceBoxed v).replaceBoxed w = b.replaceBoxed w := by
  induction b with
  | raw _ => rfl
  | boxed ns inner ih => simp [replaceBoxed, ih]

@[simp] theorem setValue_raw (w v : α) : (raw w).setValue v = raw v := rfl

@[simp] theorem setValue_boxed (ns : Names) (inner : Box α) (v : α) :
    (boxed ns inner).setValue v = boxed ns (inner.replaceBoxed v) := rfl

@[simp] theorem names?_setValue (b : Box α) (v : α) : (b.setValue v).names? = b.names? := by
  cases b <;> rfl

@[simp] theorem unbox_setValue (b : Box α) (v : α) : (b.setValue v).unbox = v := by
  cases b with
  | raw _ => rfl
  | boxed ns inner => exact unbox_replaceBoxed _ _

end Box

/-- the variable after one level's way out, when the new axis lands at position `j` -/
def stacked {δ : Type} (l : Level δ) (j : Nat) : VarBox δ → VarBox δ
  | .raw v => .raw (insertAt v j l.size)
  | .boxed ns inner =>
    .boxed (addAxis l.axis l.pname ns) (inner.replaceBoxed (insertAt inner.unbox j l.size))

theorem outBox_eq {δ : Type} (l : Level δ) (b : VarBox δ) :
    outBox l b = match normIdx (b.unbox.length + 1) l.axis with
      | none => .error .axisError
      | some j => .ok (stacked l j b) := by
  unfold outBox stackAt
  cases normIdx (b.unbox.length + 1) l.axis with
  | none => rfl
  | some j => cases b <;> rfl

theorem outBox_eq_ok_iff {δ : Type} {l : Level δ} {b b' : VarBox δ} :
    outBox l b = .ok b' ↔ ∃ j, normIdx (b.unbox.length + 1) l.axis = some j ∧ b' = stacked l j b := by
  rw [outBox_eq]
  cases normIdx (b.unbox.length + 1) l.axis <;> simp [eq_comm]

@[simp] theorem unbox_stacked {δ : Type} (l : Level δ) (j : Nat) (b : VarBox δ) :
    (stacked l j b).unbox = insertAt b.unbox j l.size := by
  cases b with
  | raw v => rfl
  | boxed ns inner => exact Box.unbox_replaceBoxed _ _

@[simp] theorem names?_stacked {δ : Type} (l : Level δ) (j : Nat) (b : VarBox δ) :
    (stacked l j b).names? = b.names?.map (addAxis l.axis l.pname) := by
  cases b <;> rfl

theorem inBox_raw {δ : Type} (l : Level δ) (v : List δ) :
    inBox l (.raw v) = match normIdx v.length l.axis with
      | none => .error .axisError
      | some j => .ok (.raw (v.eraseIdx j)) := by
  simp only [inBox, sliceAt, Box.unbox, Box.removeAxis]
  cases normIdx v.length l.axis <;> rfl

theorem inBox_boxed {δ : Type} (l : Level δ) (ns : Names) (inner : VarBox δ) :
    inBox l (.boxed ns inner) = match removeAxis l.axis l.pname ns with
      | .error e => .error e
      | .ok ns' => match normIdx inner.unbox.length l.axis with
        | none => .error .axisError
        | some j => .ok (.boxed ns' (inner.replaceBoxed (inner.unbox.eraseIdx j))) := by
  simp only [inBox, sliceAt, Box.removeAxis, Box.unbox]
  cases removeAxis l.axis l.pname ns with
  | error e => rfl
  | ok ns' => cases normIdx inner.unbox.length l.axis <;> rfl

theorem inBox_raw_eq_ok_iff {δ : Type} {l : Level δ} {v : List δ} {b' : VarBox δ} :
    inBox l (.raw v) = .ok b' ↔ ∃ j, normIdx v.length l.axis = some j ∧ b' = .raw (v.eraseIdx j) := by
  rw [inBox_raw]
  cases normIdx v.length l.axis <;> simp [eq_comm]

theorem inBox_boxed_eq_ok_iff {δ : Type} {l : Level δ} {ns : Names} {inner b' : VarBox δ} :
    inBox l (.boxed ns inner) = .ok b' ↔
      ∃ ns' j, removeAxis l.axis l.pname ns = .ok ns' ∧ normIdx inner.unbox.length l.axis = some j ∧
        b' = .boxed ns' (inner.replaceBoxed (inner.unbox.eraseIdx j)) := by
  rw [inBox_boxed]
  cases removeAxis l.axis l.pname ns with
  | error e => simp
  | ok ns' => cases normIdx inner.unbox.length l.axis <;> simp [eq_comm]

theorem inBox_raw_unbox {δ : Type} {l : Level δ} {b b' : VarBox δ} (h : inBox l b = .ok b') :
    inBox l (.raw b.unbox) = .ok (.raw b'.unbox) := by
  cases b with
  | raw v =>
    obtain ⟨j, -, rfl⟩ := inBox_raw_eq_ok_iff.mp h
    exact h
  | boxed ns inner =>
    obtain ⟨ns', j, -, hj, rfl⟩ := inBox_boxed_eq_ok_iff.mp h
    exact inBox_raw_eq_ok_iff.mpr ⟨j, hj, by simp only [Box.unbox, Box.unbox_replaceBoxed]⟩

/-- `add_axis` puts the name back where `remove_axis` took it -/
theorem outBox_setValue_of_inBox {δ : Type} {l : Level δ} {b b0 b' : VarBox δ} (v : List δ)
    (hin : inBox l b = .ok b0) (hout : outBox l (b0.setValue v) = .ok b') :
    ∃ v', v'.length = v.length + 1 ∧ b' = b.setValue v' := by
  obtain ⟨j, -, rfl⟩ := outBox_eq_ok_iff.mp hout
  refine ⟨insertAt v j l.size, length_insertAt _ _ _, ?_⟩
  cases b with
  | raw w =>
    obtain ⟨i, -, rfl⟩ := inBox_raw_eq_ok_iff.mp hin
    rfl
  | boxed ns inner =>
    obtain ⟨ns', i, hr, -, rfl⟩ := inBox_boxed_eq_ok_iff.mp hin
    simp [stacked, addAxis_of_removeAxis hr]

theorem initThrough_cons_ok_iff {δ : Type} {l : Level δ} {ls : List (Level δ)} {b b' : VarBox δ} :
    initThrough (l :: ls) b = .ok b' ↔ ∃ b1, outBox l b = .ok b1 ∧ initThrough ls b1 = .ok b' := by
  simp only [initThrough]
  cases outBox l b <;> simp [Except.bind]

theorem applyIn_cons_ok_iff {δ : Type} {l : Level δ} {ls : List (Level δ)} {b b' : VarBox δ} :
    applyIn (l :: ls) b = .ok b' ↔ ∃ b1, applyIn ls b = .ok b1 ∧ inBox l b1 = .ok b' := by
  simp only [applyIn]
  cases applyIn ls b <;> simp [Except.bind]

theorem initThrough_raw_unbox {δ : Type} (ls : List (Level δ)) (b : VarBox δ) :
    initThrough ls (.raw b.unbox) = (initThrough ls b).map (fun b' => .raw b'.unbox) := by
  induction ls generalizing b with
  | nil => rfl
  | cons l ls ih =>
    simp only [initThrough]
    rw [outBox_eq, outBox_eq]
    simp only [Box.unbox]
    cases normIdx (b.unbox.length + 1) l.axis with
    | none => rfl
    | some j =>
      have := ih (stacked l j b)
      rw [unbox_stacked] at this
      exact this

theorem lookup_dictSet_self (d : PyDict) (k : String) (v : Fld) : (dictSet d k v).lookup k = some v := by
  unfold dictSet
  split
  · next hs =>
    -- `dictSet` rewrites every entry under the key (no `Assoc.IsUpsert` where a key repeats): a map over the entries
    obtain ⟨w, hw⟩ := Option.isSome_iff_exists.mp hs
    have hf : (fun kv : String × Fld => if kv.1 = k then (k, v) else kv) =
        fun p => (p.1, if p.1 = k then v else p.2) := by
      funext p; split
      · next h => rw [h]
      · rfl
    rw [hf, Assoc.lookup_map (fun k' v' => if k' = k then v else v'), hw, Option.map_some, if_pos rfl]
  · next hs => rw [List.lookup_append, Option.not_isSome_iff_eq_none.mp hs, Option.none_or, List.lookup_cons_self]

end Flax.Axes
