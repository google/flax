/-
Chunking of large arrays (`_chunk` / `_unchunk` / `*_array_leaves_in_place` in `Flax/Model/Serial.lean`): the
hypotheses `STree.noMarker` and `STree.arraysOk` (`NdArray.ok`), and `unchunk ∘ chunk` on an array and on a state.
-/
import Flax.Proofs.Serial

namespace Flax.Serial
open Flax.Msgpack

mutual
  /-- no dict of the state uses the reserved key `__msgpack_chunked_array__` -/
  def STree.noMarker : STree → Bool
    | .leaf _ => true
    | .dict kvs => !decide (marker ∈ keys kvs) && nmKvs kvs
  def nmKvs : List (String × STree) → Bool
    | [] => true
    | (_, v) :: r => v.noMarker && nmKvs r
end

/-- NumPy's invariant for one array: positive item size, `len(tobytes()) = itemsize * size` -/
def NdArray.ok (isz : String → Nat) (a : NdArray) : Prop :=
  1 ≤ isz a.dtype ∧ a.data.length = isz a.dtype * prod a.shape

mutual
  /-- every array leaf of the state satisfies NumPy's invariant -/
  def STree.arraysOk (isz : String → Nat) : STree → Prop
    | .leaf (.ndarray a) => a.ok isz
    | .leaf _ => True
    | .dict kvs => aokKvs isz kvs
  def aokKvs (isz : String → Nat) : List (String × STree) → Prop
    | [] => True
    | (_, v) :: r => v.arraysOk isz ∧ aokKvs isz r
end

theorem splitEvery_flatten (n : Nat) (hn : 1 ≤ n) : ∀ (fuel : Nat) (l : Bytes), l.length ≤ fuel →
    (splitEvery n fuel l).flatten = l
  | 0, l, h => by
    have : l = [] := List.eq_nil_of_length_eq_zero (by omega)
    simp [splitEvery, this]
  | fuel + 1, l, h => by
    simp only [splitEvery]
    split
    · next he => simp at he; simp [he]
    · next he =>
      have hpos : 0 < l.length := by
        cases l with
        | nil => simp at he
        | cons a l => simp
      simp only [List.flatten_cons]
      rw [splitEvery_flatten n hn fuel (l.drop n) (by simp; omega)]
      exact List.take_append_drop n l

/-- the element counts of the pieces add up to the element count of the array -/
theorem splitEvery_counts (c z : Nat) (hc : 1 ≤ c) (hz : 1 ≤ z) : ∀ (fuel : Nat) (l : Bytes) (m : Nat),
    l.length ≤ fuel → l.length = m * z →
    ((splitEvery (c * z) fuel l).map (fun p => p.length / z)).sum = m
  | 0, l, m, h, hm => by
    rw [Nat.le_zero.mp h] at hm
    rw [(Nat.mul_eq_zero.mp hm.symm).resolve_right (Nat.ne_of_gt hz)]
    rfl
  | fuel + 1, [], m, h, hm => by
    rw [(Nat.mul_eq_zero.mp hm.symm).resolve_right (Nat.ne_of_gt hz)]
    rfl
  | fuel + 1, a :: l, m, h, hm => by
    -- the first piece holds `min c m` elements, `m - c` are left
    have hdrop : ((a :: l).drop (c * z)).length = (m - c) * z := by rw [List.length_drop, hm, Nat.sub_mul]
    have hc' : 1 ≤ c * z := Nat.mul_pos hc hz
    have ih := splitEvery_counts c z hc hz fuel _ (m - c) (by rw [List.length_drop]; omega) hdrop
    rw [splitEvery, if_neg (by simp), List.map_cons, List.sum_cons, ih, List.length_take, hm,
      Nat.mul_min_mul_right, Nat.mul_div_cancel _ hz]
    omega

theorem splitEvery_ne_nil (n : Nat) (fuel : Nat) (l : Bytes) (h : 0 < l.length) (hf : l.length ≤ fuel) :
    splitEvery n fuel l ≠ [] := by
  cases fuel with
  | zero => omega
  | succ fuel =>
    simp only [splitEvery]
    split
    · next he => simp at he; simp [he] at h
    · simp

theorem enumDict_eq : ∀ (xs : List STree) (i : Nat), enumDict i xs = enumL i xs
  | [], _ => rfl
  | x :: r, i => by simp [enumDict, enumL, enumDict_eq r (i + 1)]

theorem dictToTuple_go (xs : List STree) : ∀ (n i : Nat), i + n = xs.length →
    dictToTuple.go (enumL 0 xs) n i = .ok (xs.drop i)
  | 0, i, h => by
    simp only [dictToTuple.go]
    rw [List.drop_eq_nil_of_le (by omega)]
  | n + 1, i, h => by
    have hi : i < xs.length := by omega
    simp only [dictToTuple.go, lookup_enumL_zero, List.getElem?_eq_getElem hi]
    rw [dictToTuple_go xs n (i + 1) (by omega), List.drop_eq_getElem_cons hi]

theorem dictToTuple_enumDict (xs : List STree) : dictToTuple (.dict (enumDict 0 xs)) = .ok xs := by
  simp only [dictToTuple, enumDict_eq, length_enumL]
  rw [dictToTuple_go xs xs.length 0 (by omega)]
  simp

theorem allSome_map {α β γ} (f : α → Option β) (g : γ → α) (h : γ → β) (hg : ∀ c, f (g c) = some (h c)) :
    ∀ (cs : List γ), allSome f (cs.map g) = some (cs.map h)
  | [] => rfl
  | c :: r => by simp [allSome, hg c, allSome_map f g h hg r]

theorem unchunk_dict {β} (m : STree) (shape : List Nat) (f : β → NdArray) (b : β) (bs : List β)
    (hd : ∀ p ∈ bs, (f p).dtype = (f b).dtype) (hs : prod shape = ((b :: bs).map fun p => prod (f p).shape).sum) :
    unchunk [(marker, m), ("shape", .dict (enumDict 0 (shape.map (fun (d : Nat) => STree.leaf (.int (d : Int)))))),
      ("chunks", .dict (enumDict 0 ((b :: bs).map (fun p => STree.leaf (.ndarray (f p))))))] =
      .ok { dtype := (f b).dtype, shape := shape, data := ((b :: bs).map fun p => (f p).data).flatten } := by
  have hmk : marker ≠ "shape" ∧ marker ≠ "chunks" := by simp [marker]
  have hsc : ("shape" : String) ≠ "chunks" := by simp
  have hall : ((b :: bs).map f).all (fun p => decide (p.dtype = (f b).dtype)) = true := by
    simpa [List.all_cons, List.all_map] using hd
  simp only [unchunk, lookup, hmk.1, hmk.2, hsc, ↓reduceIte, dictToTuple_enumDict]
  rw [allSome_map asDim _ id (fun d => by simp [asDim]), allSome_map asArray _ f (fun p => rfl)]
  simp only [List.map_cons, List.map_map, List.map_id, Function.comp_def] at hall hs ⊢
  simp only [hall, ← hs, decide_true, Bool.and_self, ↓reduceIte]

theorem unchunk_chunk (T : Nat) (isz : String → Nat) (a : NdArray) (hok : a.ok isz)
    (hbig : oversize T isz a = true) :
    ∃ kvs, chunk T isz a = .dict kvs ∧ marker ∈ keys kvs ∧ unchunk kvs = .ok a := by
  obtain ⟨hz, hlen⟩ := hok
  simp only [oversize, decide_eq_true_eq] at hbig
  have hdata : 0 < a.data.length := by
    rw [hlen]
    rcases Nat.eq_zero_or_pos (prod a.shape) with h0 | hp
    · simp [h0] at hbig
    · exact Nat.mul_pos (by omega) hp
  refine ⟨_, rfl, by simp [keys], ?_⟩
  have hcs : 1 ≤ max 1 (T / isz a.dtype) := Nat.le_max_left _ _
  have hn : 1 ≤ max 1 (T / isz a.dtype) * isz a.dtype := Nat.mul_pos (by omega) (by omega)
  have hflat := splitEvery_flatten _ hn a.data.length a.data (Nat.le_refl _)
  have hcnt := splitEvery_counts (max 1 (T / isz a.dtype)) (isz a.dtype) hcs hz a.data.length a.data
    (prod a.shape) (Nat.le_refl _) (by rw [hlen, Nat.mul_comm])
  cases hp : splitEvery (max 1 (T / isz a.dtype) * isz a.dtype) a.data.length a.data with
  | nil => exact absurd hp (splitEvery_ne_nil _ _ _ hdata (Nat.le_refl _))
  | cons p0 ps =>
    rw [hp] at hflat hcnt
    rw [unchunk_dict _ a.shape _ p0 ps (fun _ _ => rfl)
      (by rw [← hcnt]; simp only [prod, List.foldr, Nat.mul_one])]
    simp only [List.map_id', hflat]

theorem chunkKvs_eq_map (T : Nat) (isz : String → Nat) : ∀ (kvs : List (String × STree)),
    chunkKvs T isz kvs = kvs.map fun p => (p.1, chunkLeaves T isz p.2)
  | [] => rfl
  | (k, v) :: r => by rw [chunkKvs, chunkKvs_eq_map T isz r]; rfl

theorem keys_chunkKvs (T : Nat) (isz : String → Nat) (kvs : List (String × STree)) :
    keys (chunkKvs T isz kvs) = keys kvs :=
  chunkKvs_eq_map T isz kvs ▸ keys_map_val _ kvs

theorem length_chunkKvs (T : Nat) (isz : String → Nat) (kvs : List (String × STree)) :
    (chunkKvs T isz kvs).length = kvs.length := by
  rw [chunkKvs_eq_map, List.length_map]

mutual
  theorem unchunk_chunk_tree (T : Nat) (isz : String → Nat) : ∀ (s : STree),
      s.noMarker = true → s.arraysOk isz → unchunkLeaves (chunkLeaves T isz s) = .ok s
    | .leaf v, _, hok => by
      cases v with
      | ndarray a =>
        simp only [STree.arraysOk] at hok
        simp only [chunkLeaves]
        split
        · next hbig =>
          obtain ⟨kvs, h1, h2, h3⟩ := unchunk_chunk T isz a hok hbig
          rw [h1]
          simp [unchunkLeaves, h2, h3]
        · simp [unchunkLeaves]
      | _ => simp [chunkLeaves, unchunkLeaves]
    | .dict kvs, hnm, hok => by
      simp only [STree.noMarker, Bool.and_eq_true, Bool.not_eq_true', decide_eq_false_iff_not] at hnm
      simp only [STree.arraysOk] at hok
      have := unchunk_chunk_kvs T isz kvs hnm.2 hok
      simp [chunkLeaves, unchunkLeaves, keys_chunkKvs, hnm.1, this]
  theorem unchunk_chunk_kvs (T : Nat) (isz : String → Nat) : ∀ (kvs : List (String × STree)),
      nmKvs kvs = true → aokKvs isz kvs → unchunkKvs (chunkKvs T isz kvs) = .ok kvs
    | [], _, _ => by simp [chunkKvs, unchunkKvs]
    | (k, v) :: r, hnm, hok => by
      simp only [nmKvs, Bool.and_eq_true] at hnm
      simp only [aokKvs] at hok
      simp [chunkKvs, unchunkKvs, unchunk_chunk_tree T isz v hnm.1 hok.1,
        unchunk_chunk_kvs T isz r hnm.2 hok.2]
end

end Flax.Serial
