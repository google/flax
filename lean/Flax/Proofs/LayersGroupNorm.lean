/-
C12, GroupNorm: the statistics tensor `keep ++ [G]` read back through repeat, view with the statistics shape and broadcast.
-/
import Flax.Proofs.Layers

namespace Flax.Layers

theorem repeatAxis_shape_last {α : Type} (t : Tensor α) (keep : List Nat) (g gs : Nat) (d : α)
    (ht : t.shape = keep ++ [g]) : (repeatAxis t keep.length gs d).shape = keep ++ [g * gs] := by
  show t.shape.set keep.length (nth t.shape keep.length * gs) = _
  rw [ht]
  simp [nth, List.set_append_right]

theorem repeat_last_axis {α : Type} (t : Tensor α) (keep : List Nat) (g gs : Nat) (d : α)
    (ht : t.shape = keep ++ [g]) (kidx : List Nat) (ch : Nat) (hk : inBounds keep kidx = true) (hch : ch < g * gs) :
    (repeatAxis t keep.length gs d).getD (kidx ++ [ch]) d = t.getD (kidx ++ [ch / gs]) d := by
  have hb : inBounds (repeatAxis t keep.length gs d).shape (kidx ++ [ch]) = true := by
    rw [repeatAxis_shape_last t keep g gs d ht]
    exact inBounds_snoc hk hch
  rw [repeatAxis, getD_ofFn _ _ _ (by exact hb)]
  simp [nth, ← inBounds_length hk, List.set_append_right]

theorem ravel_filter (S I S' I' : Nat → Nat) (keep : Nat → Bool) : ∀ L : List Nat,
    (∀ a ∈ L, if keep a = true then S a = S' a ∧ I a = I' a else S a = 1 ∧ I a = 0) →
    ravel (L.map S) (L.map I) = ravel ((L.filter keep).map S') ((L.filter keep).map I') ∧
      prod (L.map S) = prod ((L.filter keep).map S')
  | [], _ => ⟨rfl, rfl⟩
  | a :: L, h => by
    have ih := ravel_filter S I S' I' keep L (fun b hb => h b (List.mem_cons_of_mem _ hb))
    have ha := h a List.mem_cons_self
    rw [List.filter_cons]
    cases hk : keep a
    · -- a dropped axis has size 1 and index 0: it contributes nothing to offset or size
      rw [hk, if_neg Bool.false_ne_true] at ha
      rw [if_neg Bool.false_ne_true, ← ih.1, ← ih.2]
      show I a * prod (L.map S) + ravel (L.map S) (L.map I) = _ ∧ S a * prod (L.map S) = _
      rw [ha.1, ha.2, Nat.zero_mul, Nat.zero_add, Nat.one_mul]
      exact ⟨rfl, rfl⟩
    · rw [hk, if_pos rfl] at ha
      rw [if_pos rfl]
      show I a * prod (L.map S) + ravel (L.map S) (L.map I) = I' a * prod ((L.filter keep).map S') + ravel _ _
        ∧ S a * prod (L.map S) = S' a * prod ((L.filter keep).map S')
      rw [← ih.1, ← ih.2, ha.1, ha.2]
      exact ⟨rfl, rfl⟩

/-- the repeated statistics, read through the `statsShape` view at the broadcast index of `idx` -/
theorem groupnorm_view_get {α : Type} (sh redLead : List Nat) (n G gs : Nat) (T : Tensor α) (d : α) (idx : List Nat)
    (hn : sh.length = n) (hn1 : 1 ≤ n) (hlast : ∀ a ∈ redLead, a < n - 1)
    (hT : T.shape = ((List.range (n - 1)).filter (fun a => !(redLead.contains a))).map (nth sh ·) ++ [G])
    (hc : G * gs = nth sh (n - 1)) (hidx : inBounds sh idx = true) :
    ((repeatAxis T ((List.range (n - 1)).filter (fun a => !(redLead.contains a))).length gs d).reshape
        ((List.range n).map (fun a => if redLead.contains a then 1 else nth sh a))).getD
      (List.zipWith (fun i d => if d = 1 then 0 else i) idx ((List.range n).map (fun a => if redLead.contains a then 1 else nth sh a))) d
    = T.getD (((List.range (n - 1)).filter (fun a => !(redLead.contains a))).map (fun a => nth idx a 0) ++ [nth idx (n - 1) 0 / gs]) d := by
  generalize hkeep : (List.range (n - 1)).filter (fun a => !(redLead.contains a)) = keepAx at hT ⊢
  replace hkeep := hkeep.symm
  have hil : idx.length = n := by rw [inBounds_length hidx, hn]
  have hlt : ∀ a, a < n → nth idx a 0 < nth sh a := fun a ha => inBounds_nth sh idx hidx a (hn ▸ ha)
  let sS : Nat → Nat := fun a => if redLead.contains a then 1 else nth sh a
  let I : Nat → Nat := fun a => if sS a = 1 then 0 else nth idx a 0
  have hbc : List.zipWith (fun i d => if d = 1 then 0 else i) idx ((List.range n).map sS) = (List.range n).map I := by
    conv => lhs; rw [← Lists.map_getD_range 0 idx, hil]
    rw [List.zipWith_map]
    simp [List.zipWith_self, I, nth]
  -- drop the size-1 axes; on a kept axis the broadcast index is the index itself (size 1 forces index 0)
  have hrf := ravel_filter sS I (nth sh ·) (fun a => nth idx a 0) (fun a => !(redLead.contains a)) (List.range n) (by
    intro a ha
    have h2 := hlt a (List.mem_range.mp ha)
    cases hm : redLead.contains a
    · simp only [sS, I, hm, Bool.not_false, if_true, Bool.false_eq_true, if_false, true_and]
      split
      · omega
      · rfl
    · simp only [sS, I, hm, Bool.not_true, Bool.false_eq_true, if_false, if_true, and_self])
  have hK : (List.range n).filter (fun a => !(redLead.contains a)) = keepAx ++ [n - 1] := by
    have hm : n - 1 ∉ redLead := fun h => Nat.lt_irrefl _ (hlast _ h)
    conv => lhs; rw [← Nat.sub_add_cancel hn1, filter_range_succ]
    simp [hkeep, hm]
  have hravel : ravel ((List.range n).map sS) ((List.range n).map I)
      = ravel (keepAx.map (nth sh ·) ++ [nth sh (n - 1)]) (keepAx.map (fun a => nth idx a 0) ++ [nth idx (n - 1) 0]) := by
    rw [hrf.1, hK, List.map_append, List.map_append, List.map_singleton, List.map_singleton]
  have hrep : (repeatAxis T keepAx.length gs d).shape = keepAx.map (nth sh ·) ++ [nth sh (n - 1)] := by
    have := repeatAxis_shape_last T (keepAx.map (nth sh ·)) G gs d hT
    rwa [List.length_map, hc] at this
  have hkb : inBounds (keepAx.map (nth sh ·)) (keepAx.map (fun a => nth idx a 0)) = true := by
    apply inBounds_map
    intro a ha
    have := List.mem_range.mp (List.mem_filter.mp (hkeep ▸ ha)).1
    exact hlt a (by omega)
  have hch : nth idx (n - 1) 0 < G * gs := by rw [hc]; exact hlt (n - 1) (Nat.sub_one_lt_of_lt hn1)
  have := repeat_last_axis T (keepAx.map (nth sh ·)) G gs d hT (keepAx.map (fun a => nth idx a 0)) (nth idx (n - 1) 0) hkb hch
  rw [hbc]
  simp only [List.length_map] at this
  rw [← this]
  exact Tensor.getD_reshape _ _ _ _ d (hrep ▸ hravel)

/-- `red`'s last entry is the channel axis, reduced group by group in `groupStatsAt`; `red.dropLast` are the others -/
theorem groupNormCore_formula (x : Tensor Int) (numGroups : Nat) (red : List Nat) (useFast : Bool)
    (mask scale bias : Option (Tensor Int))
    (hn : 1 ≤ x.rank) (hlast : ∀ a ∈ red.dropLast, a < x.rank - 1)
    (hG : numGroups * (nth x.shape (x.rank - 1) / numGroups) = nth x.shape (x.rank - 1)) :
    groupNormCore x numGroups red useFast mask scale bias
        ((List.range (x.rank - 1)).filter (fun a => !(red.dropLast.contains a))).length =
      (indices x.shape).map (fun idx =>
        ⟨groupStatsAt x (nth x.shape (x.rank - 1) / numGroups) red.dropLast
            ((List.range (x.rank - 1)).filter (fun a => !(red.dropLast.contains a))) useFast mask
            (((List.range (x.rank - 1)).filter (fun a => !(red.dropLast.contains a))).map (fun a => nth idx a 0)
              ++ [nth idx (x.rank - 1) 0 / (nth x.shape (x.rank - 1) / numGroups)]),
         featureParam x.shape [x.rank - 1] scale 1 idx, featureParam x.shape [x.rank - 1] bias 0 idx⟩) := by
  simp only [groupNormCore]
  apply List.map_congr_left
  intro idx hidx
  have hib := inBounds_of_mem_indices hidx
  rw [groupnorm_view_get x.shape red.dropLast x.rank numGroups _ _ none idx rfl hn hlast rfl hG hib]
  have hlt : ∀ a, a < x.rank → nth idx a 0 < nth x.shape a := inBounds_nth x.shape idx hib
  have hch : nth idx (x.rank - 1) 0 < numGroups * (nth x.shape (x.rank - 1) / numGroups) := by
    rw [hG]; exact hlt _ (by omega)
  have hq : nth idx (x.rank - 1) 0 / (nth x.shape (x.rank - 1) / numGroups) < numGroups :=
    Nat.div_lt_of_lt_mul (by rwa [Nat.mul_comm] at hch)
  rw [getD_ofFn]
  refine inBounds_snoc (inBounds_map _ _ _ fun a ha => ?_) hq
  have := List.mem_range.mp (List.mem_filter.mp ha).1
  exact hlt a (by omega)

end Flax.Layers
