/-
Lemmas about the multi-scope model (Flax/Model/ModScopes.lean): `get_module_scopes` and `set_module_scopes` walk the
module in lock-step; dict flattening order; `_dedup_scopes` entries reconstruct their scopes.
-/
import Flax.Model.ModScopes
import Flax.Proofs.InsertSort

namespace Flax.ModScopes

theorem insertKey_isInsert : IsInsert (fun x y : String × α => x.1 ≤ y.1) insertKey :=
  ⟨fun _ => rfl, fun _ h => if_pos h, fun _ h => if_neg h⟩

theorem sortKeys_eq_foldr (l : List (String × α)) : sortKeys l = l.foldr insertKey [] := by
  induction l with
  | nil => rfl
  | cons x xs ih => rw [sortKeys, ih]; rfl

theorem sortKeys_perm (l : List (String × α)) : (sortKeys l).Perm l :=
  sortKeys_eq_foldr l ▸ insertKey_isInsert.sort_perm l

theorem mem_sortKeys {l : List (String × α)} {x : String × α} : x ∈ sortKeys l ↔ x ∈ l :=
  (sortKeys_perm l).mem_iff

theorem sortKeys_sorted (l : List (String × α)) : (sortKeys l).Pairwise (fun a b => a.1 ≤ b.1) :=
  sortKeys_eq_foldr l ▸ insertKey_isInsert.sort_pairwise id (fun h => (String.le_total _ _).resolve_left h) String.le_trans l

/-- scopes handed out position by position -/
def annot (S : List Nat) : Nat → List Owner → List (Owner × Option Nat)
  | _, [] => []
  | i, o :: os => (o, S[i]?) :: annot S (i + 1) os

theorem annot_append (S : List Nat) : ∀ (a : List Owner) (i : Nat) (b : List Owner),
    annot S i (a ++ b) = annot S i a ++ annot S (i + a.length) b := by
  intro a
  induction a with
  | nil => intro i b; simp [annot]
  | cons o os ih =>
    intro i b
    simp only [List.cons_append, annot, ih, List.length_cons]
    have : i + 1 + os.length = i + (os.length + 1) := by omega
    rw [this]

/-- `set_module_scopes` (`s`) in lock-step with `get_module_scopes` (`g`): same memo, one scope of `S` consumed per owner
collected -/
structure Rel (S : List Nat) (g : GSt) (s : SSt) : Prop where
  memo : s.memo = g.seen
  idx : s.idx = g.out.length
  asg : s.asg = annot S 0 g.out

theorem rel_push (S : List Nat) {g : GSt} {s : SSt} (h : Rel S g s) (o : Owner) (seen : List Nat) :
    Rel S { seen := seen, out := g.out ++ [o] } { memo := seen, idx := s.idx + 1, asg := s.asg ++ [(o, S[s.idx]?)] } where
  memo := rfl
  idx := by simp [h.idx]
  asg := by simp [h.asg, annot_append, annot, h.idx]

theorem rel_node (ord : List (String × Node) → List (String × Node)) (S : List Nat) :
    ∀ (f : Nat) (n : Node) (g : GSt) (s : SSt), Rel S g s → Rel S (getNode ord f n g) (setNode ord S f n s) := by
  intro f
  induction f with
  | zero => intro n g s h; simpa [getNode, setNode] using h
  | succ f ih =>
    intro n g s h
    cases n with
    | mod id scope fields =>
      cases scope with
      | none => simpa [getNode, setNode] using h
      | some sc =>
        simp only [getNode, setNode, h.memo]
        by_cases hm : id ∈ g.seen
        · simpa [hm] using h
        · simp only [hm, ↓reduceIte]
          have h1 := List.foldl_rel (l := (ord fields).map (·.2)) h fun x _ g s => ih x g s
          have := rel_push S h1 (.m id sc) (id :: (List.foldl (fun st x => getNode ord f x st) g ((ord fields).map (·.2))).seen)
          rw [h1.memo]
          exact this
    | var scope =>
      cases scope with
      | none => simpa [getNode, setNode] using h
      | some sc =>
        simp only [getNode, setNode]
        have := rel_push S h (.v sc) g.seen
        rw [← h.memo] at this ⊢
        exact this
    | dict kvs => simp only [getNode, setNode]; exact List.foldl_rel h fun x _ g s => ih x g s
    | seq xs => simp only [getNode, setNode]; exact List.foldl_rel h fun x _ g s => ih x g s
    | other => simpa [getNode, setNode] using h

theorem annot_map (fn : Owner → Nat) : ∀ (os : List Owner) (pre : List Nat),
    annot (pre ++ os.map fn) pre.length os = os.map (fun o => (o, some (fn o))) := by
  intro os
  induction os with
  | nil => intro pre; simp [annot]
  | cons o r ih =>
    intro pre
    simp only [annot, List.map_cons]
    have h1 : (pre ++ fn o :: r.map fn)[pre.length]? = some (fn o) := by simp
    rw [h1]
    have := ih (pre ++ [fn o])
    simp only [List.append_assoc, List.singleton_append, List.length_append, List.length_cons, List.length_nil] at this
    rw [this]

theorem maxParent_recon (set : List Path) (leaf : Path) :
    (maxParent set leaf).1 ++ (maxParent set leaf).2 = leaf := by
  unfold maxParent
  generalize List.range leaf.length = ks
  -- every value the walk up can hold splits `leaf`
  generalize hb : (leaf, ([] : List String)) = best
  have hbest : best.1 ++ best.2 = leaf := by rw [← hb]; exact List.append_nil leaf
  clear hb
  induction ks generalizing best with
  | nil => exact hbest
  | cons k r ih =>
    refine ih _ ?_
    dsimp only
    split
    · exact List.take_append_drop _ _
    · exact hbest

theorem dedupLoop_recon : ∀ (todo set : List Path) (acc : List (Path × List String)),
    (dedupLoop todo set acc).2.map (fun rp => rp.1 ++ rp.2) = acc.map (fun rp => rp.1 ++ rp.2) ++ todo := by
  intro todo
  induction todo with
  | nil => intro set acc; simp [dedupLoop]
  | cons leaf rest ih =>
    intro set acc
    simp only [dedupLoop]
    rw [ih]
    simp [maxParent_recon]

theorem setAssign_getOwners (ord : List (String × Node) → List (String × Node)) (m : Node) (ρ : Nat → Nat) :
    setAssign ord m ((getOwners ord m).map (fun o => ρ o.scope)) =
      ((getOwners ord m).map (fun o => (o, some (ρ o.scope))), true) := by
  have h := rel_node ord ((getOwners ord m).map (fun o => ρ o.scope)) (m.depth + 1) m ⟨[], []⟩ ⟨[], 0, []⟩
    ⟨rfl, rfl, rfl⟩
  have ha := annot_map (fun o => ρ o.scope) (getOwners ord m) []
  simp only [List.nil_append, List.length_nil] at ha
  have h1 := h.asg
  have h2 := h.idx
  apply Prod.ext
  · simp only [setAssign]
    rw [h1]
    simpa [getOwners] using ha
  · simp only [setAssign, decide_eq_true_eq]
    rw [h2]
    simp [getOwners]

end Flax.ModScopes
