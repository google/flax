/-
Metrics part of C17. The statistics of a stream are carried by `(n, Σx, Σx²)`, which is additive under concatenation;
`Welford.update` is one algebraic identity on top of that (`merge_mean`, `merge_m2`, over core `Rat` by `grind`).
`Accuracy` is `Average` fed the 0/1 arrays, so its batching invariance is that of `Average`.
-/
import Flax.Model.Metrics

namespace Flax.Metrics

theorem cast0 : ((0 : Nat) : Rat) = 0 := rfl
theorem cast1 : ((1 : Nat) : Rat) = 1 := rfl

theorem sum_append (xs ys : List Rat) : sum (xs ++ ys) = sum xs + sum ys := by
  induction xs with
  | nil => exact (Rat.zero_add _).symm
  | cons x xs ih => simp only [List.cons_append, sum, ih, Rat.add_assoc]

def sumSq (xs : List Rat) : Rat := sum (xs.map (fun x => x * x))

theorem sumSq_append (xs ys : List Rat) : sumSq (xs ++ ys) = sumSq xs + sumSq ys := by
  simp only [sumSq, List.map_append, sum_append]

theorem sqDev_eq (c : Rat) (xs : List Rat) :
    sqDev c xs = sumSq xs - 2 * c * sum xs + (xs.length : Rat) * c * c := by
  induction xs with
  | nil =>
    simp only [sqDev, sumSq, sum, List.map_nil, List.length_nil, cast0, Rat.mul_zero, Rat.zero_mul, Rat.sub_self,
      Rat.add_zero]
  | cons x xs ih =>
    simp only [sqDev, sumSq, List.map_cons, sum, List.length_cons, Rat.natCast_add, cast1] at ih ⊢
    rw [ih]
    grind

theorem natCast_ne_zero {k : Nat} (h : 0 < k) : (k : Rat) ≠ 0 :=
  Rat.ne_of_gt (Rat.natCast_pos.mpr h)

/-- holds for the empty stream too (`0 / 0 = 0`): stating the merge identities through this product
instead of the quotient makes the first batch (`n = 0`) no special case. -/
theorem length_mul_mean (xs : List Rat) : (xs.length : Rat) * mean xs = sum xs := by
  cases xs with
  | nil => exact Rat.zero_mul _
  | cons x xs =>
    rw [mean, Rat.mul_comm]
    exact Rat.div_mul_cancel (natCast_ne_zero (Nat.succ_pos _))

theorem length_mul_mean_append (xs ys : List Rat) :
    ((xs.length : Rat) + (ys.length : Rat)) * mean (xs ++ ys)
      = (xs.length : Rat) * mean xs + (ys.length : Rat) * mean ys := by
  rw [length_mul_mean, length_mul_mean, ← sum_append, ← length_mul_mean (xs ++ ys), List.length_append,
    Rat.natCast_add]

theorem sqDev_mean (xs : List Rat) :
    sqDev (mean xs) xs = sumSq xs - (xs.length : Rat) * mean xs * mean xs := by
  rw [sqDev_eq, ← length_mul_mean xs]
  grind

/-- `a`, `b` are the means of `n` and `k` values, `m` the mean of all -/
theorem merge_mean (n k a b m : Rat) (h : n + k ≠ 0) (hm : (n + k) * m = n * a + k * b) :
    a + (b - a) * k / (n + k) = m := by
  grind

/-- the pairwise-merge identity `m2' = m2_a + m2_b + δ² n_a n_b / n` in sum-of-squares form
(`qa`, `qb` are the two `Σx²`) -/
theorem merge_m2 (n k a b m qa qb : Rat) (h : n + k ≠ 0) (hm : (n + k) * m = n * a + k * b) :
    qa - n * a * a + (qb - k * b * b + (b - a) * (b - a) * k * n / (n + k)) = qa + qb - (n + k) * m * m := by
  grind

def welfordOf (xs : List Rat) : WState :=
  { count := xs.length, mean := mean xs, m2 := sqDev (mean xs) xs }

theorem welfordOf_nil : welfordOf [] = WState.init := by
  have : mean [] = 0 := by rw [mean, Rat.div_def]; exact Rat.zero_mul _
  simp only [welfordOf, this]
  rfl

theorem welfordMerge_of (xs ys : List Rat) (hy : ys ≠ []) :
    welfordMerge (welfordOf xs) ys.length (mean ys) (var ys * (ys.length : Rat)) = welfordOf (xs ++ ys) := by
  have hk : (ys.length : Rat) ≠ 0 := natCast_ne_zero (List.length_pos_iff.mpr hy)
  have hN : (xs.length : Rat) + (ys.length : Rat) ≠ 0 := by
    rw [← Rat.natCast_add]
    exact natCast_ne_zero (Nat.add_pos_right _ (List.length_pos_iff.mpr hy))
  have hm := length_mul_mean_append xs ys
  simp only [welfordMerge, welfordOf, List.length_append, WState.mk.injEq, true_and, Rat.natCast_add]
  refine ⟨merge_mean _ _ _ _ _ hN hm, ?_⟩
  rw [var, Rat.div_mul_cancel hk, sqDev_mean, sqDev_mean, sqDev_mean, sumSq_append, List.length_append,
    Rat.natCast_add]
  exact merge_m2 _ _ _ _ _ _ _ hN hm

theorem welfordUpdate_scalar (s : WState) (v : Rat) :
    welfordUpdate s (.scalar v) = welfordUpdate s (.array [v]) := by
  have h1 : mean [v] = v := by
    simp only [mean, sum, List.length_cons, List.length_nil, Rat.add_zero, Rat.div_def]
    grind
  have h2 : var [v] * ((([v] : List Rat).length : Nat) : Rat) = 0 := by
    simp only [var, sqDev, h1, sum, List.map_cons, List.map_nil, Rat.sub_self, Rat.zero_mul, Rat.add_zero,
      Rat.div_def]
  simp only [welfordUpdate]
  rw [h1, h2]
  rfl

theorem welfordUpdate_of (xs : List Rat) (b : Batch) (hb : b.values ≠ []) :
    welfordUpdate (welfordOf xs) b = some (welfordOf (xs ++ b.values)) := by
  cases b with
  | scalar v =>
    rw [welfordUpdate_scalar]
    exact congrArg some (welfordMerge_of xs [v] hb)
  | array ys =>
    cases ys with
    | nil => exact absurd rfl hb
    | cons y ys => exact congrArg some (welfordMerge_of xs (y :: ys) hb)

theorem welfordRun_of (bs : List Batch) : ∀ (xs : List Rat), (∀ b ∈ bs, b.values ≠ []) →
    welfordRun (welfordOf xs) bs = some (welfordOf (xs ++ bs.flatMap Batch.values)) := by
  induction bs with
  | nil => intro xs _; rw [List.flatMap_nil, List.append_nil]; rfl
  | cons b bs ih =>
    intro xs hne
    rw [welfordRun, welfordUpdate_of xs b (hne b List.mem_cons_self), List.flatMap_cons, ← List.append_assoc]
    exact ih _ (fun b' hb' => hne b' (List.mem_cons_of_mem b hb'))

theorem avgUpdate_values (s : AvgState) (b : Batch) :
    avgUpdate s b = { total := s.total + sum b.values, count := s.count + b.values.length } := by
  cases b with
  | scalar v => simp only [avgUpdate, Batch.values, sum, Rat.add_zero, List.length_cons, List.length_nil, Nat.zero_add]
  | array xs => rfl

theorem avgRun_values (bs : List Batch) : ∀ s : AvgState,
    avgRun s bs = { total := s.total + sum (bs.flatMap Batch.values),
                    count := s.count + (bs.flatMap Batch.values).length } := by
  induction bs with
  | nil => intro s; simp only [avgRun, List.foldl_nil, List.flatMap_nil, sum, List.length_nil, Rat.add_zero, Nat.add_zero]
  | cons b bs ih =>
    intro s
    have := ih (avgUpdate s b)
    simp only [avgRun, List.foldl_cons] at this ⊢
    rw [this, avgUpdate_values]
    simp only [List.flatMap_cons, sum_append, List.length_append, Rat.add_assoc, Nat.add_assoc]

theorem indicators_spec : ∀ (ps ls : List Int),
    indicators ps ls =
      if ps.length = ls.length then some (List.zipWith (fun p l => boolRat (decide (p = l))) ps ls) else none
  | [], [] => rfl
  | [], _ :: _ => rfl
  | _ :: _, [] => rfl
  | p :: ps, l :: ls => by
    rw [indicators, indicators_spec ps ls]
    simp only [List.length_cons, Nat.add_right_cancel_iff, List.zipWith_cons_cons]
    split <;> rfl

theorem indicators_eq : ∀ (ps ls : List Int), ps.length = ls.length →
    indicators ps ls = some (List.zipWith (fun p l => boolRat (decide (p = l))) ps ls) :=
  fun ps ls h => by rw [indicators_spec, if_pos h]

theorem indicators_none : ∀ (ps ls : List Int), ps.length ≠ ls.length → indicators ps ls = none :=
  fun ps ls h => by rw [indicators_spec, if_neg h]

/-- per-example 0/1 correctness of a multi-class batch: `argmax(logits, -1) == labels` -/
def correct (rs : List (List Rat)) (ls : List Int) : List Rat :=
  List.zipWith (fun r l => boolRat (decide ((argmax r : Int) = l))) rs ls

/-- per-example 0/1 correctness of a binary batch: `(logits >= threshold) == (labels > 0)` -/
def correctBin (t : Rat) (xs : List Rat) (ls : List Int) : List Rat :=
  List.zipWith (fun x l => boolRat (decide ((if t ≤ x then (1 : Int) else 0) = (if 0 < l then (1 : Int) else 0)))) xs ls

theorem accuracyValues_rows (rs : List (List Rat)) (ls : List Int) (hlen : rs.length = ls.length)
    (hne : ∀ r ∈ rs, r ≠ []) : accuracyValues none (.rows rs) ls = .ok (correct rs ls) := by
  have h1 : (rs.any fun r => r.isEmpty) = false := by
    simp only [List.any_eq_false, List.isEmpty_iff]
    exact fun r hr => hne r hr
  simp only [accuracyValues, h1]
  rw [indicators_eq _ _ (by simpa using hlen)]
  simp [correct, List.zipWith_map_left]

theorem accuracyValues_flat (t : Rat) (xs : List Rat) (ls : List Int) (hlen : xs.length = ls.length) :
    accuracyValues (some t) (.flat xs) ls = .ok (correctBin t xs ls) := by
  simp only [accuracyValues]
  rw [indicators_eq _ _ (by simpa using hlen)]
  simp [correctBin, List.zipWith_map_left, List.zipWith_map_right]

/-- the keyword arguments of one `Accuracy.update(logits=…, labels=…)` call -/
def accKw (b : List (List Rat) × List Int) : Kwargs := [("logits", .rows b.1), ("labels", .ints b.2)]
/-- one `Accuracy.update` call in threshold mode (flat `logits`) -/
def accKwBin (b : List Rat × List Int) : Kwargs := [("logits", .num (.array b.1)), ("labels", .ints b.2)]

-- "values": `Accuracy.update` calls `Average.update(values=…)`, so any other argname raises
theorem accuracy_update_rows (s : AvgState) (b : List (List Rat) × List Int) (hlen : b.1.length = b.2.length)
    (hne : ∀ r ∈ b.1, r ≠ []) :
    metricUpdate (.accuracy none "values" s) (accKw b) =
      .ok (.accuracy none "values" (avgUpdate s (.array (correct b.1 b.2)))) := by
  simp [metricUpdate, accKw, Kwargs.get, accuracyValues_rows b.1 b.2 hlen hne]

theorem accuracy_update_flat (t : Rat) (s : AvgState) (b : List Rat × List Int) (hlen : b.1.length = b.2.length) :
    metricUpdate (.accuracy (some t) "values" s) (accKwBin b) =
      .ok (.accuracy (some t) "values" (avgUpdate s (.array (correctBin t b.1 b.2)))) := by
  simp [metricUpdate, accKwBin, Kwargs.get, accuracyValues_flat t b.1 b.2 hlen]

theorem length_flatMap_eq {β γ : Type} (bs : List (List β × List γ)) (h : ∀ b ∈ bs, b.1.length = b.2.length) :
    (bs.flatMap (·.1)).length = (bs.flatMap (·.2)).length := by
  induction bs with
  | nil => rfl
  | cons b bs ih =>
    simp only [List.flatMap_cons, List.length_append]
    rw [h b (by simp), ih (fun b' hb' => h b' (by simp [hb']))]

theorem zipWith_flatMap {α β γ : Type} (f : α → β → γ) (bs : List (List α × List β))
    (h : ∀ b ∈ bs, b.1.length = b.2.length) :
    List.zipWith f (bs.flatMap (·.1)) (bs.flatMap (·.2)) = bs.flatMap (fun b => List.zipWith f b.1 b.2) := by
  induction bs with
  | nil => rfl
  | cons b bs ih =>
    simp only [List.flatMap_cons]
    rw [List.zipWith_append (h b List.mem_cons_self), ih (fun b' hb' => h b' (List.mem_cons_of_mem b hb'))]

theorem accuracy_run_avg {β : Type} (th : Option Rat) (kw : β → Kwargs) (vals : β → List Rat) (bs : List β) :
    ∀ (s : AvgState),
    (∀ b ∈ bs, ∀ s, metricUpdate (.accuracy th "values" s) (kw b) =
      .ok (.accuracy th "values" (avgUpdate s (.array (vals b))))) →
    metricRun (.accuracy th "values" s) (bs.map kw) =
      .ok (.accuracy th "values" (avgRun s (bs.map (fun b => .array (vals b))))) := by
  induction bs with
  | nil => intro s _; rfl
  | cons b bs ih =>
    intro s h
    simp only [List.map_cons, metricRun, h b List.mem_cons_self]
    exact ih _ (fun b' hb' => h b' (List.mem_cons_of_mem b hb'))

theorem accuracy_run_zipWith {α : Type} (th : Option Rat) (kw : List α × List Int → Kwargs) (f : α → Int → Rat)
    (bs : List (List α × List Int)) (hlen : ∀ b ∈ bs, b.1.length = b.2.length)
    (hupd : ∀ b ∈ bs, ∀ s, metricUpdate (.accuracy th "values" s) (kw b) =
      .ok (.accuracy th "values" (avgUpdate s (.array (List.zipWith f b.1 b.2))))) :
    metricRun (.accuracy th "values" AvgState.init) (bs.map kw) =
      .ok (.accuracy th "values"
        { total := sum (List.zipWith f (bs.flatMap (·.1)) (bs.flatMap (·.2))),
          count := (bs.flatMap (·.2)).length }) := by
  have hcount : (List.zipWith f (bs.flatMap (·.1)) (bs.flatMap (·.2))).length = (bs.flatMap (·.2)).length := by
    rw [List.length_zipWith, length_flatMap_eq bs hlen, Nat.min_self]
  rw [accuracy_run_avg th kw _ bs _ hupd, avgRun_values, List.flatMap_map, ← hcount, zipWith_flatMap f bs hlen]
  simp only [AvgState.init, Nat.zero_add, Rat.zero_add]
  rfl

theorem multiRun_nil (kws : List Kwargs) : multiRun [] kws = .ok [] := by
  induction kws with
  | nil => rfl
  | cons kw kws ih => simp [multiRun, multiUpdate, ih]

theorem multiRun_cons (kws : List Kwargs) : ∀ (n : String) (m : Metric) (rest r : Multi),
    multiRun ((n, m) :: rest) kws = .ok r ↔
      ∃ m' rest', r = (n, m') :: rest' ∧ metricRun m kws = .ok m' ∧ multiRun rest kws = .ok rest' := by
  induction kws with
  | nil =>
    intro n m rest r
    simp only [multiRun, metricRun, Except.ok.injEq]
    constructor
    · intro h; exact ⟨m, rest, h.symm, rfl, rfl⟩
    · rintro ⟨m', rest', rfl, rfl, rfl⟩; rfl
  | cons kw kws ih =>
    intro n m rest r
    simp only [multiRun, multiUpdate, metricRun]
    cases metricUpdate m kw with
    | error e => simp
    | ok m1 =>
      simp only
      cases multiUpdate rest kw with
      | error e => simp
      | ok rest1 => simp only; exact ih n m1 rest1 r

/-- member-by-member relation between a MultiMetric before and after a history of updates -/
def Pointwise (kws : List Kwargs) : Multi → Multi → Prop
  | [], [] => True
  | (n, m) :: ms, (n', m') :: ms' => n = n' ∧ metricRun m kws = .ok m' ∧ Pointwise kws ms ms'
  | _, _ => False

theorem pointwise_nil_iff {kws : List Kwargs} {ms' : Multi} : Pointwise kws [] ms' ↔ ms' = [] := by
  cases ms' with
  | nil => exact ⟨fun _ => rfl, fun _ => trivial⟩
  | cons a b => exact ⟨False.elim, nofun⟩

theorem pointwise_cons_iff {kws : List Kwargs} {n : String} {m : Metric} {ms ms' : Multi} :
    Pointwise kws ((n, m) :: ms) ms' ↔
      ∃ m' rest', ms' = (n, m') :: rest' ∧ metricRun m kws = .ok m' ∧ Pointwise kws ms rest' := by
  cases ms' with
  | nil => exact ⟨False.elim, fun ⟨_, _, h, _⟩ => nomatch h⟩
  | cons a' rest' =>
    obtain ⟨n', m'⟩ := a'
    exact ⟨fun ⟨hn, h2, h3⟩ => ⟨m', rest', by rw [hn], h2, h3⟩,
      fun ⟨_, _, h, h2, h3⟩ => by cases h; exact ⟨rfl, h2, h3⟩⟩

theorem multiRun_pointwise (kws : List Kwargs) : ∀ (ms ms' : Multi),
    multiRun ms kws = .ok ms' ↔ Pointwise kws ms ms' := by
  intro ms
  induction ms with
  | nil => intro ms'; rw [multiRun_nil, pointwise_nil_iff, Except.ok.injEq, eq_comm]
  | cons a ms ih =>
    intro ms'
    obtain ⟨n, m⟩ := a
    rw [multiRun_cons, pointwise_cons_iff]
    simp only [ih]

/-- kind, argname and threshold of a metric: what `update` never changes and `reset` keeps -/
theorem metricUpdate_reset (m m' : Metric) (kw : Kwargs) (h : metricUpdate m kw = .ok m') :
    metricReset m' = metricReset m := by
  cases m with
  | average an s =>
    simp only [metricUpdate] at h
    split at h
    · cases h
    · cases h; rfl
  | welford an s =>
    simp only [metricUpdate] at h
    split at h
    · cases h
    · cases h; rfl
  | accuracy th an s =>
    simp only [metricUpdate] at h
    split at h
    · split at h
      · cases h
      · split at h
        · cases h
        · split at h
          · cases h; rfl
          · cases h
    · cases h
    · cases h

theorem metricRun_reset (kws : List Kwargs) : ∀ (m m' : Metric), metricRun m kws = .ok m' →
    metricReset m' = metricReset m := by
  induction kws with
  | nil => intro m m' h; simp only [metricRun, Except.ok.injEq] at h; subst h; rfl
  | cons kw kws ih =>
    intro m m' h
    simp only [metricRun] at h
    cases hu : metricUpdate m kw with
    | error e => simp [hu] at h
    | ok m1 =>
      simp only [hu] at h
      rw [ih m1 m' h, metricUpdate_reset m m1 kw hu]

theorem multiReset_of_pointwise (kws : List Kwargs) : ∀ (ms ms' : Multi), Pointwise kws ms ms' →
    multiReset ms' = multiReset ms := by
  intro ms
  induction ms with
  | nil => intro ms' h; rw [pointwise_nil_iff.mp h]
  | cons a ms ih =>
    intro ms' h
    obtain ⟨n, m⟩ := a
    obtain ⟨m', rest', rfl, h2, h3⟩ := pointwise_cons_iff.mp h
    simp only [multiReset, List.map_cons, metricRun_reset kws m m' h2] at ih ⊢
    rw [ih rest' h3]

theorem avgRun_snoc (s : AvgState) (bs : List Batch) (b : Batch) :
    avgRun s (bs ++ [b]) = avgUpdate (avgRun s bs) b := by
  simp [avgRun, List.foldl_append]

theorem welfordRun_snoc (bs : List Batch) : ∀ (s : WState) (b : Batch),
    welfordRun s (bs ++ [b]) = (welfordRun s bs).bind (fun w => welfordUpdate w b) := by
  induction bs with
  | nil =>
    intro s b
    simp only [List.nil_append, welfordRun, Option.bind_some]
    cases h : welfordUpdate s b <;> simp
  | cons a bs ih =>
    intro s b
    simp only [List.cons_append, welfordRun]
    cases welfordUpdate s a with
    | none => rfl
    | some s' => exact ih s' b

theorem avgCalls_sinceReset (calls : List Call) :
    avgCalls AvgState.init calls = avgRun AvgState.init (sinceReset calls) :=
  List.foldl_hom (avgRun AvgState.init) (l := calls) (init := []) fun acc c =>
    match c with | .update b => (avgRun_snoc _ acc b).symm | .reset => rfl

theorem welfordCalls_sinceReset (calls : List Call) :
    welfordCalls (some WState.init) calls = welfordRun WState.init (sinceReset calls) :=
  List.foldl_hom (welfordRun WState.init) (l := calls) (init := []) fun acc c =>
    match c with | .update b => (welfordRun_snoc acc _ b).symm | .reset => rfl

end Flax.Metrics
