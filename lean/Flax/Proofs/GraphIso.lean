/- The round trip: the address map read off `ref_index` / `index_ref`; `unflatten` simulates `flatten`. -/
import Flax.Proofs.GraphFlatten
import Flax.Proofs.HeapRel

namespace Flax.Graph
open Flax.Heap

/-- object registered under index `i` by `flatten` ↦ object created for index `i` by `unflatten` -/
def phi (idx : RefIndex) (ir : IndexRef) (a : Addr) : Option Addr :=
  match indexOf? a idx with
  | some i => irLookup i ir
  | Option.none => Option.none

/-- the correspondence between the two index maps during a run: `ir` binds exactly the indices
`0 … idx.length-1`, injectively, to addresses that are new (`≥ n0`) and allocated in `H` -/
structure Good (n0 : Nat) (idx : RefIndex) (ir : IndexRef) (H : Heap) : Prop where
  nodup : idx.Nodup
  dom : ∀ i, (irLookup i ir).isSome = true ↔ i < idx.length
  rng : ∀ (i b : Nat), irLookup i ir = some b → n0 ≤ b ∧ b < H.length
  inj : ∀ (i j b : Nat), irLookup i ir = some b → irLookup j ir = some b → i = j

theorem Good.nil (n0 : Nat) (H : Heap) : Good n0 [] [] H :=
  ⟨List.nodup_nil, by simp [irLookup], by simp [irLookup], by simp [irLookup]⟩

theorem irLookup_cons (i j : Nat) (a : Addr) (ir : IndexRef) :
    irLookup i ((j, a) :: ir) = if j = i then some a else irLookup i ir := rfl

theorem Good.heap_mono {n0 idx ir H H'} (g : Good n0 idx ir H) (hl : H.length ≤ H'.length) : Good n0 idx ir H' :=
  ⟨g.nodup, g.dom, fun i b hb => ⟨(g.rng i b hb).1, Nat.lt_of_lt_of_le (g.rng i b hb).2 hl⟩, g.inj⟩

theorem Good.lookup_lt {n0 idx ir H} (g : Good n0 idx ir H) {i b : Nat} (hb : irLookup i ir = some b) :
    i < idx.length :=
  (g.dom i).mp (by rw [hb]; rfl)

theorem Good.lookup_of_lt {n0 idx ir H} (g : Good n0 idx ir H) {i : Nat} (hi : i < idx.length) :
    ∃ b, irLookup i ir = some b :=
  Option.isSome_iff_exists.mp ((g.dom i).mpr hi)

theorem irLookup_push_old {n i : Nat} (b : Addr) (ir : IndexRef) (hi : i < n) :
    irLookup i ((n, b) :: ir) = irLookup i ir := by
  rw [irLookup_cons, if_neg (Nat.ne_of_gt hi)]

theorem Good.push {n0 idx ir H} (g : Good n0 idx ir H) {a : Addr} (ha : a ∉ idx) (hn : n0 ≤ H.length) (o : Obj) :
    Good n0 (idx ++ [a]) ((idx.length, H.length) :: ir) (H ++ [o]) := by
  refine ⟨Lists.nodup_concat g.nodup ha, ?_, ?_, ?_⟩
  · intro i
    rw [irLookup_cons, List.length_append, List.length_singleton]
    split
    · next e => exact ⟨fun _ => by omega, fun _ => rfl⟩
    · next e => rw [g.dom i]; omega
  · intro i b hb
    rw [List.length_append, List.length_singleton]
    rw [irLookup_cons] at hb
    split at hb
    · have : H.length = b := Option.some.inj hb
      omega
    · have := g.rng i b hb
      omega
  · intro i j b hi hj
    rw [irLookup_cons] at hi hj
    split at hi
    · split at hj
      · omega
      · have : H.length = b := Option.some.inj hi
        have := g.rng j b hj
        omega
    · split at hj
      · have : H.length = b := Option.some.inj hj
        have := g.rng i b hi
        omega
      · exact g.inj i j b hi hj

theorem phi_eq {idx : RefIndex} {a : Addr} {i : Nat} (hi : indexOf? a idx = some i) (ir : IndexRef) :
    phi idx ir a = irLookup i ir := by
  simp only [phi, hi]

theorem phi_eq_some {idx : RefIndex} {ir : IndexRef} {a b : Addr} :
    phi idx ir a = some b ↔ ∃ i, indexOf? a idx = some i ∧ irLookup i ir = some b := by
  cases hi : indexOf? a idx with
  | none => simp [phi, hi]
  | some i => simp [phi_eq hi]

theorem phi_lt {n0 idx ir H} (g : Good n0 idx ir H) {a b : Nat} (h : phi idx ir a = some b) : n0 ≤ b ∧ b < H.length := by
  obtain ⟨i, _, hb⟩ := phi_eq_some.mp h
  exact g.rng i b hb

theorem phi_inj {idx : RefIndex} {ir : IndexRef}
    (inj : ∀ (i j b : Nat), irLookup i ir = some b → irLookup j ir = some b → i = j) {a a' b : Addr}
    (h : phi idx ir a = some b) (h' : phi idx ir a' = some b) : a = a' := by
  obtain ⟨i, hi, hb⟩ := phi_eq_some.mp h
  obtain ⟨j, hj, hb'⟩ := phi_eq_some.mp h'
  cases inj i j b hb hb'
  exact indexOf?_inj hi hj

theorem phi_mem {idx : RefIndex} {ir : IndexRef} {a b : Addr} (h : phi idx ir a = some b) : a ∈ idx := by
  obtain ⟨i, hi, _⟩ := phi_eq_some.mp h
  exact indexOf?_mem hi

theorem phi_of_mem {n0 idx ir H} (g : Good n0 idx ir H) {a : Addr} (h : a ∈ idx) : ∃ b, phi idx ir a = some b := by
  obtain ⟨i, hi⟩ := indexOf?_of_mem h
  obtain ⟨b, hb⟩ := g.lookup_of_lt (indexOf?_lt hi)
  exact ⟨b, phi_eq_some.mpr ⟨i, hi, hb⟩⟩

theorem phi_new {idx : RefIndex} {ir : IndexRef} {a : Addr} (ha : a ∉ idx) (b : Addr) :
    phi (idx ++ [a]) ((idx.length, b) :: ir) a = some b := by
  rw [phi_eq (indexOf?_append_new ha), irLookup_cons, if_pos rfl]

theorem unflatten_of_def {gd : GDef} {ls : List Leaf} {H H' : Heap} {v : PVal} {ir : IndexRef}
    (hs : ∀ s, gd ≠ .static s) (ha : gd ≠ .array) (hu : unflattenDef gd ls H [] = .ok (v, [], H', ir)) :
    unflatten gd ls H = .ok (v, H', ir) := by
  unfold unflatten
  cases gd with
  | static s => exact absurd rfl (hs s)
  | array => exact absurd rfl ha
  | ref ty i => simp only [hu]
  | var ty i md => simp only [hu]
  | node k i as => simp only [hu]

/-- what one sub-run of flatten/unflatten adds: earlier indices keep their binding (`old`), every object it registered
has a related image (`obj`) -/
structure Post (h : Heap) (idx : RefIndex) (ir : IndexRef) (H : Heap)
    (idx' : RefIndex) (ir' : IndexRef) (H' : Heap) : Prop where
  ext : Extends H H'
  idxExt : ∃ new, idx' = idx ++ new
  old : ∀ i, i < idx.length → irLookup i ir' = irLookup i ir
  obj : ∀ a, a ∈ idx' → a ∉ idx → ∃ o o' b, h[a]? = some o ∧ phi idx' ir' a = some b ∧ H'[b]? = some o' ∧
          ObjRel (phi idx' ir') o o'

theorem Post.refl (h : Heap) {idx ir H} : Post h idx ir H idx ir H :=
  ⟨Extends.refl H, ⟨[], (List.append_nil idx).symm⟩, fun _ _ => rfl, fun _ h1 h2 => absurd h1 h2⟩

theorem Post.phiLe {h idx ir H idx' ir' H'} (p : Post h idx ir H idx' ir' H') : PhiLe (phi idx ir) (phi idx' ir') := by
  intro a b hab
  obtain ⟨new, rfl⟩ := p.idxExt
  obtain ⟨i, hi, hb⟩ := phi_eq_some.mp hab
  exact phi_eq_some.mpr ⟨i, indexOf?_append_left new hi, (p.old i (indexOf?_lt hi)).trans hb⟩

theorem Post.trans {n0 h idx ir H idx1 ir1 H1 idx2 ir2 H2} (g1 : Good n0 idx1 ir1 H1)
    (p1 : Post h idx ir H idx1 ir1 H1) (p2 : Post h idx1 ir1 H1 idx2 ir2 H2) : Post h idx ir H idx2 ir2 H2 := by
  obtain ⟨new1, e1⟩ := p1.idxExt
  obtain ⟨new2, e2⟩ := p2.idxExt
  have hl1 : idx.length ≤ idx1.length := by rw [e1]; simp
  refine ⟨p1.ext.trans p2.ext, ⟨new1 ++ new2, by rw [e2, e1]; simp⟩, ?_, ?_⟩
  · intro i hi
    rw [p2.old i (by omega), p1.old i hi]
  · intro a ha2 hna
    by_cases ha1 : a ∈ idx1
    · obtain ⟨o, o', b, ho, hphi, hH, hrel⟩ := p1.obj a ha1 hna
      have hb := phi_lt g1 hphi
      refine ⟨o, o', b, ho, p2.phiLe a b hphi, ?_, ObjRel.mono p2.phiLe hrel⟩
      rw [p2.ext.get b hb.2]; exact hH
    · exact p2.obj a ha2 ha1

theorem Post.var {h idx ir H} {a : Addr} (ha : a ∉ idx) {ty val md}
    (hget : h[a]? = some (.var ty val md)) :
    Post h idx ir H (idx ++ [a]) ((idx.length, H.length) :: ir) (H ++ [Obj.var ty val md]) := by
  refine ⟨⟨[_], rfl⟩, ⟨[a], rfl⟩, fun i hi => irLookup_push_old _ ir hi, ?_⟩
  intro a' ha' hna'
  cases List.mem_singleton.mp ((List.mem_append.mp ha').resolve_left hna')
  exact ⟨_, _, H.length, hget, phi_new ha _, List.getElem?_concat_length, .var ty val md⟩

theorem Post.node {n0 h idx ir H idx1 ir' H'} {a : Addr} (ha : a ∉ idx)
    {cls : String} {attrs vs : List (Key × PVal)} (hget : h[a]? = some (.node cls attrs))
    (g' : Good n0 idx1 ir' H')
    (p' : Post h (idx ++ [a]) ((idx.length, H.length) :: ir) (H ++ [Obj.node cls []]) idx1 ir' H')
    (hr : KVsRel (phi idx1 ir') (sortKV attrs) vs) :
    Post h idx ir H idx1 ir' (write H' H.length (Obj.node cls vs)) := by
  have hlen : H.length < H'.length := by
    have := p'.ext.length_le
    rw [List.length_append, List.length_singleton] at this
    exact this
  -- the address map sends `a` to the node created first
  have hphia : phi idx1 ir' a = some H.length := p'.phiLe a _ (phi_new ha _)
  obtain ⟨new, enew⟩ := p'.idxExt
  have hpush : (idx ++ [a]).length = idx.length + 1 := by
    rw [List.length_append, List.length_singleton]
  refine ⟨?_, ⟨a :: new, by rw [enew, List.append_assoc]; rfl⟩, ?_, ?_⟩
  · exact ((Extends.alloc H _).trans p'.ext).write _ _ (Nat.le_refl _)
  · intro i hi
    rw [p'.old i (by omega), irLookup_push_old _ ir hi]
  · intro a' ha' hna'
    by_cases e : a' = a
    · subst e
      refine ⟨_, _, H.length, hget, hphia, write_get _ _ _ hlen, .node ?_⟩
      rw [KVsRel.sortKV_right hr]
      exact hr
    · have hnin : a' ∉ idx ++ [a] := fun hm => hna' ((List.mem_append.mp hm).resolve_right
        (fun h1 => e (List.mem_singleton.mp h1)))
      obtain ⟨o, o', b, ho, hphi, hH, hrel⟩ := p'.obj a' ha' hnin
      refine ⟨o, o', b, ho, hphi, ?_, hrel⟩
      have hne : b ≠ H.length := fun eb => e (phi_inj g'.inj (eb ▸ hphi) hphia)
      rw [write_frame _ _ _ _ hne]
      exact hH

/-- **simulation**: running `unflatten` on what `flatten` produced rebuilds, value by value, an image of
the flattened graph under the address map `phi`, consuming exactly the emitted leaves. -/
theorem sim (h : Heap) (n0 : Nat) : ∀ fuel : Nat,
    (∀ path v idx gd ls idx', flattenVal fuel h path v idx = .ok (gd, ls, idx') →
      ∀ H ir rest, Good n0 idx ir H → n0 ≤ H.length →
        ∃ v' H' ir', unflattenDef gd (ls.map (·.2) ++ rest) H ir = .ok (v', rest, H', ir') ∧
          Good n0 idx' ir' H' ∧ Post h idx ir H idx' ir' H' ∧ ValRel (phi idx' ir') v v') ∧
    (∀ path items idx gs ls idx', flattenItems fuel h path items idx = .ok (gs, ls, idx') →
      ∀ H ir rest, Good n0 idx ir H → n0 ≤ H.length →
        ∃ vs H' ir', unflattenAttrs gs (ls.map (·.2) ++ rest) H ir = .ok (vs, rest, H', ir') ∧
          Good n0 idx' ir' H' ∧ Post h idx ir H idx' ir' H' ∧ KVsRel (phi idx' ir') items vs) := by
  refine flatten_induct h ?static ?array ?none ?seq ?dict ?seen ?var ?node ?nil ?cons
  case static =>
    intro _ _ s idx H ir rest g _
    exact ⟨.static s, H, ir, rfl, g, Post.refl h, .static s⟩
  case array =>
    intro _ _ d idx H ir rest g _
    exact ⟨.array d, H, ir, rfl, g, Post.refl h, .array d⟩
  case none =>
    intro _ _ idx H ir rest g _
    exact ⟨.none, H, ir, rfl, g, Post.refl h, .none⟩
  case seq =>
    intro _ _ t xs idx as ls idx' _ ih H ir rest g hn
    obtain ⟨vs, H', ir', hu, g', p', hr⟩ := ih H ir rest g hn
    exact ⟨.seq t (vs.map (·.2)), H', ir', by simp only [unflattenDef, hu], g', p', .seq (KVsRel.enum_vals hr)⟩
  case dict =>
    intro _ _ kvs idx as ls idx' _ ih H ir rest g hn
    obtain ⟨vs, H', ir', hu, g', p', hr⟩ := ih H ir rest g hn
    refine ⟨.dict vs, H', ir', by simp only [unflattenDef, hu], g', p', .dict ?_⟩
    rw [KVsRel.sortKV_right hr]
    exact hr
  case seen =>
    intro _ _ a idx i hi H ir rest g _
    obtain ⟨b, hb⟩ := g.lookup_of_lt (indexOf?_lt hi)
    exact ⟨.ref b, H, ir, by simp only [unflattenDef, hb, List.map_nil, List.nil_append], g, Post.refl h,
      .ref (by rw [phi_eq hi, hb])⟩
  case var =>
    intro _ _ a idx ty val md ha hget H ir rest g hn
    exact ⟨.ref H.length, H ++ [Obj.var ty val md], (idx.length, H.length) :: ir,
      by simp only [unflattenDef, makeVar, List.map_cons, List.map_nil, List.cons_append, List.nil_append],
      g.push ha hn _, Post.var ha hget, .ref (phi_new ha _)⟩
  case node =>
    intro _ _ a idx cls attrs as ls idx1 ha hget _ ih H ir rest g hn
    obtain ⟨vs, H', ir', hu, g', p', hr⟩ := ih (H ++ [Obj.node cls []]) ((idx.length, H.length) :: ir) rest
      (g.push ha hn _) (by rw [List.length_append]; omega)
    have hfree : irLookup idx.length ir = Option.none := by
      cases e : irLookup idx.length ir with
      | none => rfl
      | some b => exact absurd (g.lookup_lt e) (Nat.lt_irrefl _)
    refine ⟨.ref H.length, write H' H.length (Obj.node cls vs), ir', ?_,
      g'.heap_mono (Nat.le_of_eq (write_length _ _ _).symm), Post.node ha hget g' p' hr,
      .ref (p'.phiLe a _ (phi_new ha _))⟩
    simp only [unflattenDef, hfree, hu, Option.isSome_none, Bool.false_eq_true, if_false]
  case nil =>
    intro _ _ idx H ir rest g _
    exact ⟨[], H, ir, rfl, g, Post.refl h, .nil⟩
  case cons =>
    intro _ _ k v rest' idx g1 ls1 idx1 gs2 ls2 idx2 _ _ ih1 ih2 H ir rest g hn
    obtain ⟨v', H1, ir1, hu1, gd1, p1, hr1⟩ := ih1 H ir (ls2.map (·.2) ++ rest) g hn
    obtain ⟨vs, H2, ir2, hu2, gd2, p2, hr2⟩ := ih2 H1 ir1 rest gd1 (Nat.le_trans hn p1.ext.length_le)
    refine ⟨(k, v') :: vs, H2, ir2, ?_, gd2, Post.trans gd1 p1 p2, .cons (ValRel.mono p2.phiLe hr1) hr2⟩
    simp only [unflattenAttrs, List.map_append, List.append_assoc, hu1, hu2]

end Flax.Graph
