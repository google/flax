/-
Isomorphic rooted heaps resolve every path alike.  Proved for `Nnx.IsoM` (attribute dictionaries compared
as maps: what the NNX transforms of C04 preserve), of which C03's `Iso` (attribute lists compared after sorting) is an
instance (`iso_toM`).
-/
import Flax.Proofs.HeapRel

namespace Flax.Nnx
open Flax.Heap Flax.Graph

/-- `(h, r) ≅ (h', r')` via `φ`: like `Flax.Heap.Iso`, attribute dictionaries compared as maps -/
structure IsoM (h : Heap) (r : PVal) (h' : Heap) (r' : PVal) (φ : Addr → Option Addr) : Prop where
  root : ValRel φ r r'
  inj : ∀ a b c, φ a = some c → φ b = some c → a = b
  obj : ∀ a b, φ a = some b → ∃ o o', h[a]? = some o ∧ h'[b]? = some o' ∧ ObjSim φ o o'

theorem iso_toM {h h' : Heap} {r r' : PVal} {φ : Addr → Option Addr} (i : Iso h r h' r' φ) : IsoM h r h' r' φ :=
  ⟨i.root, i.inj, fun a b hab => by
    obtain ⟨o, o', h1, h2, h3⟩ := i.obj a b hab
    exact ⟨o, o', h1, h2, objRel_toSim h3⟩⟩

theorem IsoM.trans {φ χ : Addr → Option Addr} {h G H : Heap} {r r' r'' : PVal} (i : IsoM h r G r' φ) (j : IsoM G r' H r'' χ) :
    IsoM h r H r'' (Nnx.comp φ χ) := by
  refine ⟨valRel_comp i.root j.root, fun a b c h1 h2 => ?_, fun a c hac => ?_⟩
  · obtain ⟨a', ha, h1⟩ := comp_eq_some.mp h1
    obtain ⟨b', hb, h2⟩ := comp_eq_some.mp h2
    obtain rfl := j.inj _ _ _ h1 h2
    exact i.inj a b a' ha hb
  · obtain ⟨b, ha, hbc⟩ := comp_eq_some.mp hac
    obtain ⟨o, o', g1, g2, g3⟩ := i.obj a b ha
    obtain ⟨o2, o2', k1, k3, k4⟩ := j.obj b c hbc
    rw [g2] at k1; cases k1
    exact ⟨o, o2', g1, k3, objSim_comp g3 k4⟩

theorem stepM_corr {h h' : Heap} {r r' : PVal} {φ : Addr → Option Addr} (iso : IsoM h r h' r' φ) {v v' : PVal}
    (hv : ValRel φ v v') (k : Key) : OptRel φ (step h v k) (step h' v' k) := by
  cases hv with
  | static s => exact Or.inl ⟨rfl, rfl⟩
  | array d => exact Or.inl ⟨rfl, rfl⟩
  | none => exact Or.inl ⟨rfl, rfl⟩
  | seq hs => simp only [step]; exact ValsRel.lookup_enum k 0 hs
  | dict hd => simp only [step]; exact attrsSim_of_sorted hd k
  | ref hab =>
    obtain ⟨o, o', h1, h2, h3⟩ := iso.obj _ _ hab
    simp only [step, h1, h2]
    cases h3 with
    | node ha => exact ha k
    | var ty v md => exact Or.inl ⟨rfl, rfl⟩

theorem resolveM_corr {h h' : Heap} {r r' : PVal} {φ : Addr → Option Addr} (iso : IsoM h r h' r' φ) :
    ∀ (p : Path) {v v' : PVal}, ValRel φ v v' →
      OptRel φ (resolve h v p) (resolve h' v' p)
  | [], v, v', hv => Or.inr ⟨v, v', rfl, rfl, hv⟩
  | k :: p, v, v', hv => by
    simp only [resolve]
    rcases stepM_corr iso hv k with ⟨h1, h2⟩ | ⟨w, w', h1, h2, hw⟩
    · simp only [h1, h2]; exact Or.inl ⟨rfl, rfl⟩
    · simp only [h1, h2]
      exact resolveM_corr iso p hw

theorem IsoM.resolve_ref {h h' : Heap} {r r' : PVal} {φ : Addr → Option Addr} (iso : IsoM h r h' r' φ) {p : Path} {a : Nat}
    (hp : resolve h r p = some (.ref a)) : ∃ a', resolve h' r' p = some (.ref a') ∧ φ a = some a' := by
  rcases resolveM_corr iso p iso.root with ⟨e, _⟩ | ⟨v, v', e1, e2, hv⟩
  · rw [hp] at e; cases e
  rw [hp] at e1; cases e1
  cases hv with
  | ref ha => exact ⟨_, e2, ha⟩

theorem IsoM.resolve_pair {h h' : Heap} {r r' : PVal} {φ : Addr → Option Addr} (iso : IsoM h r h' r' φ) {p q : Path} {a b : Nat}
    (hp : resolve h r p = some (.ref a)) (hq : resolve h r q = some (.ref b)) :
    ∃ (a' b' : Nat), resolve h' r' p = some (.ref a') ∧ resolve h' r' q = some (.ref b') ∧ φ a = some a' ∧ (a = b ↔ a' = b') := by
  obtain ⟨a', e2, ha⟩ := iso.resolve_ref hp
  obtain ⟨b', f2, hb⟩ := iso.resolve_ref hq
  refine ⟨a', b', e2, f2, ha, ?_, ?_⟩
  · intro e; subst e; rw [ha] at hb; exact Option.some.inj hb
  · intro e; subst e; exact iso.inj _ _ _ ha hb

end Flax.Nnx
