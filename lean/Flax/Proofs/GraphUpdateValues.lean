/- The value-level effect of `update` for arbitrary states: every Variable ends up with the fold of the leaves that
reach it (last write wins). -/
import Flax.Proofs.GraphUpdateFrame
namespace Flax.Graph
open Flax.Heap

mutual
  /-- the leaves of a state tree with their paths, in the order `_graph_update_dynamic` visits them -/
  def leavesOf : STree → List (Path × Leaf)
    | .leaf l => [([], l)]
    | .node items => leavesOfItems items
  def leavesOfItems : List (Key × STree) → List (Path × Leaf)
    | [] => []
    | (k, s) :: r => (leavesOf s).map (fun pl => (k :: pl.1, pl.2)) ++ leavesOfItems r
end

def isVarObj : Obj → Bool
  | .var _ _ _ => true
  | _ => false

theorem applyLeaf_var (o : Obj) (l : Leaf) (h : isVarObj o = true) : isVarObj (applyLeaf o l) = true := by
  cases o with
  | var _ _ _ => cases l <;> rfl
  | node _ _ => cases h

/-- the leaves whose path leads from `v` to the object `a` -/
def hits (h : Heap) (v : PVal) (a : Addr) (ls : List (Path × Leaf)) : List (Path × Leaf) :=
  ls.filter (fun pl => decide (resolve h v pl.1 = some (.ref a)))

def applyAll (o : Obj) (ls : List (Path × Leaf)) : Obj := ls.foldl (fun o pl => applyLeaf o pl.2) o

theorem applyAll_var (o : Obj) (ls : List (Path × Leaf)) (h : isVarObj o = true) : isVarObj (applyAll o ls) = true := by
  induction ls generalizing o with
  | nil => exact h
  | cons x r ih => exact ih _ (applyLeaf_var o x.2 h)

theorem hits_congr {h h1 : Heap} (ss : SameShape h h1) (v : PVal) (a : Addr) (ls : List (Path × Leaf)) :
    hits h1 v a ls = hits h v a ls :=
  List.filter_congr fun pl _ => decide_eq_decide.mpr
    ⟨resolve_ref_of_sim (step_sim ss) pl.1, resolve_ref_of_sim (fun v k => (step_sim ss v k).symm) pl.1⟩

theorem hits_child {h : Heap} {v cur : PVal} {k : Key} (hstep : step h v k = some cur) (a : Addr) (ls : List (Path × Leaf)) :
    hits h v a (ls.map (fun pl => (k :: pl.1, pl.2))) = (hits h cur a ls).map (fun pl => (k :: pl.1, pl.2)) := by
  unfold hits
  rw [List.filter_map]
  congr 1
  apply List.filter_congr
  intro pl _
  simp only [Function.comp, resolve, hstep]

theorem hits_items_cons {h : Heap} {v cur : PVal} {k : Key} (hstep : step h v k = some cur) (a : Addr) (s : STree)
    (rest : List (Key × STree)) :
    hits h v a (leavesOfItems ((k, s) :: rest)) =
      (hits h cur a (leavesOf s)).map (fun pl => (k :: pl.1, pl.2)) ++ hits h v a (leavesOfItems rest) := by
  rw [← hits_child hstep]
  exact List.filter_append ..

theorem hits_leaf (h : Heap) (v : PVal) (a : Addr) (l : Leaf) :
    hits h v a (leavesOf (.leaf l)) = if v = .ref a then [([], l)] else [] := by
  by_cases e : v = .ref a
  · rw [if_pos e]; exact List.filter_cons_of_pos (decide_eq_true (congrArg some e))
  · rw [if_neg e]; exact List.filter_cons_of_neg (by simpa [resolve] using e)

theorem values_cases (a : Nat) :
    UpdateCases
      (fun s h v h' => ∀ o, h[a]? = some o → isVarObj o = true → h'[a]? = some (applyAll o (hits h v a (leavesOf s))))
      (fun items h v h' => ∀ o, h[a]? = some o → isVarObj o = true →
        h'[a]? = some (applyAll o (hits h v a (leavesOfItems items)))) where
  leaf := by
    intro l h a0 ty val md hg o ho _
    rw [hits_leaf]
    by_cases e : a0 = a
    · subst e
      rw [hg] at ho; cases ho
      rw [if_pos rfl, write_get _ _ _ (List.getElem?_eq_some_iff.mp hg).1]
      cases l <;> rfl
    · rw [if_neg (fun x => e (PVal.ref.inj x)), write_frame _ _ _ _ (fun x => e x.symm)]
      exact ho
  node := fun _ _ _ _ q => q
  nil := fun _ _ _ ho _ => ho
  setArr := by
    intro k d rest h a0 cls live d0 h' hl hst ss1 q o ho hv
    -- an array slot is no reference, so nothing hits; and the owner is a node, so it is not `a`
    have hne : a ≠ a0 := by
      intro e
      rw [e, hl] at ho; cases ho
      cases hv
    rw [q o (by rw [setAttr_frame k _ hne]; exact ho) hv, hits_congr ss1, hits_items_cons hst, hits_leaf,
      if_neg (fun x => by cases x)]
    rfl
  down := by
    intro k s rest h v cur h1 h' hst ss1 p q o ho hv
    rw [q _ (p o ho hv) (applyAll_var o _ hv), hits_congr ss1, hits_items_cons hst]
    unfold applyAll
    rw [List.foldl_append, List.foldl_map]

theorem updateVal_values (s : STree) (h : Heap) (v : PVal) (h' : Heap) (hu : updateVal s h v = .ok h')
    (a : Nat) (o : Obj) (ho : h[a]? = some o) (hv : isVarObj o = true) :
    h'[a]? = some (applyAll o (hits h v a (leavesOf s))) :=
  (update_induct (values_cases a) s h v h' hu).2 o ho hv

  theorem updateItems_values : ∀ (items : List (Key × STree)) (h : Heap) (owner : Option Addr)
      (attrs : List (Key × PVal)) (h' : Heap) (v : PVal),
      (∀ k, OptSim (step h v k) (lookupKV k attrs)) → (∀ a0, owner = some a0 → v = .ref a0) →
      OwnerOk h owner attrs → updateItems items h owner attrs = .ok h' →
      ∀ (a : Nat) (o : Obj), h[a]? = some o → isVarObj o = true →
        h'[a]? = some (applyAll o (hits h v a (leavesOfItems items))) :=
    fun items h owner attrs h' v hstep hov ok hu a o ho hv =>
      (update_induct_items (values_cases a) items h owner attrs h' v hstep hov ok hu).2 o ho hv

end Flax.Graph
