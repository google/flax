/-
The statements of the mutation DSL, each opened by its equation in terms of `deref` (`runOp_getAttr` …).  What a statement does
to a heap (`Step`), and what therefore no body can change: the kind of an object (class / Variable type and metadata), distinct
attribute keys, closedness (no dangling reference: always true of real Python objects).  `runFn_invariant` is the one
induction over a body they share.
-/
import Flax.Model.NnxProtocol
import Flax.Proofs.Assoc
import Flax.Proofs.HeapKV

namespace Flax.Nnx
open Flax.Heap Flax.Graph

/-- the object register `r` refers to: what `getattr`, `.value`, `setattr` and `delattr` look at first -/
def deref (h : Heap) (env : List PVal) (r : Nat) : Except Err (Addr × Obj) :=
  match env[r]? with
  | Option.none => .error .badReg
  | some (.ref a) =>
    match h[a]? with
    | some o => .ok (a, o)
    | Option.none => .error .typeError
  | some _ => .error .typeError

theorem runOp_getAttr (h : Heap) (env : List PVal) (r : Nat) (k : Key) :
    runOp h env (.getAttr r k) =
      match deref h env r with
      | .error e => .error e
      | .ok (_, .node _ attrs) =>
        (match lookupKV k attrs with
        | some v => .ok (h, env ++ [v])
        | Option.none => .error .attrError)
      | .ok (_, .var _ _ _) => .error .typeError := by
  rw [runOp, deref]
  cases env[r]? with
  | none => rfl
  | some v =>
    cases v with
    | ref a =>
      simp only
      cases h[a]? with
      | none => rfl
      | some o => cases o <;> rfl
    | _ => rfl

theorem runOp_readVar (h : Heap) (env : List PVal) (r : Nat) :
    runOp h env (.readVar r) =
      match deref h env r with
      | .error e => .error e
      | .ok (_, .var _ v _) => .ok (h, env ++ [.array v])
      | .ok (_, .node _ _) => .error .typeError := by
  rw [runOp, deref]
  cases env[r]? with
  | none => rfl
  | some v =>
    cases v with
    | ref a =>
      simp only
      cases h[a]? with
      | none => rfl
      | some o => cases o <;> rfl
    | _ => rfl

theorem runOp_setVar (h : Heap) (env : List PVal) (r : Nat) (e : DExpr) :
    runOp h env (.setVar r e) =
      match deref h env r with
      | .error er => .error er
      | .ok (a, .var ty _ md) =>
        (match e.eval env with
        | .ok d => .ok (write h a (.var ty d md), env)
        | .error er => .error er)
      | .ok (_, .node _ _) => .error .typeError := by
  rw [runOp, deref]
  cases env[r]? with
  | none => rfl
  | some v =>
    cases v with
    | ref a =>
      simp only
      cases h[a]? with
      | none => rfl
      | some o => cases o <;> rfl
    | _ => rfl

theorem runOp_setAttr (h : Heap) (env : List PVal) (r : Nat) (k : Key) (src : Nat) :
    runOp h env (.setAttr r k src) =
      match env[src]? with
      | Option.none => .error .badReg
      | some v =>
        match deref h env r with
        | .error e => .error e
        | .ok (a, .node cls attrs) => .ok (write h a (.node cls (putKV k v attrs)), env)
        | .ok (_, .var _ _ _) => .error .typeError := by
  rw [runOp, deref]
  cases env[src]? with
  | none => cases env[r]? with
    | none => rfl
    | some v => cases v <;> rfl
  | some w => cases env[r]? with
    | none => rfl
    | some v =>
      cases v with
      | ref a =>
        simp only
        cases h[a]? with
        | none => rfl
        | some o => cases o <;> rfl
      | _ => rfl

theorem runOp_delAttr (h : Heap) (env : List PVal) (r : Nat) (k : Key) :
    runOp h env (.delAttr r k) =
      match deref h env r with
      | .error e => .error e
      | .ok (a, .node cls attrs) =>
        if (lookupKV k attrs).isSome then .ok (write h a (.node cls (eraseKV k attrs)), env) else .error .attrError
      | .ok (_, .var _ _ _) => .error .typeError := by
  rw [runOp, deref]
  cases env[r]? with
  | none => rfl
  | some v =>
    cases v with
    | ref a =>
      simp only
      cases h[a]? with
      | none => rfl
      | some o => cases o <;> rfl
    | _ => rfl

theorem deref_ok {h : Heap} {env : List PVal} {r : Nat} {a : Addr} {o : Obj} (hd : deref h env r = .ok (a, o)) :
    h[a]? = some o := by
  unfold deref at hd
  split at hd <;> try cases hd
  split at hd <;> try cases hd
  assumption

/-- the effect of one successful statement on the heap and the register file: a value that the heap or the statement
provides is pushed, one object is overwritten by an object of its kind, or one object is allocated -/
inductive Step (h : Heap) (env : List PVal) : Heap → List PVal → Prop where
  | getAttr {a : Nat} {cls : String} {attrs : List (Key × PVal)} {k : Key} {v : PVal} :
      h[a]? = some (.node cls attrs) → lookupKV k attrs = some v → Step h env h (env ++ [v])
  | push {v : PVal} : deepRefs v = [] → Step h env h (env ++ [v])
  | setVar {a : Nat} {ty : VType} {v : Data} {md : Meta} (d : Data) :
      h[a]? = some (.var ty v md) → Step h env (write h a (.var ty d md)) env
  | setAttr {a : Nat} {cls : String} {attrs : List (Key × PVal)} (k : Key) {v : PVal} :
      h[a]? = some (.node cls attrs) → v ∈ env → Step h env (write h a (.node cls (putKV k v attrs))) env
  | delAttr {a : Nat} {cls : String} {attrs : List (Key × PVal)} (k : Key) :
      h[a]? = some (.node cls attrs) → Step h env (write h a (.node cls (eraseKV k attrs))) env
  | newNode (cls : String) : Step h env (h ++ [.node cls []]) (env ++ [.ref h.length])
  | newVar (ty : VType) (d : Data) (md : Meta) : Step h env (h ++ [.var ty d md]) (env ++ [.ref h.length])

/-- statements that cannot write the heap -/
def Op.readOnly : Op → Bool
  | .getAttr _ _ => true
  | .readVar _ => true
  | .litStatic _ => true
  | .litNone => true
  | .data _ => true
  | _ => false

/-- a predicate function of `while_loop` only reads -/
def Fn.readOnly (c : Fn) : Bool := c.body.all Op.readOnly

theorem runOp_step {h : Heap} {env : List PVal} {op : Op} {h1 : Heap} {env1 : List PVal}
    (hr : runOp h env op = .ok (h1, env1)) : Step h env h1 env1 ∧ (op.readOnly = true → h1 = h) := by
  cases op with
  | getAttr r k =>
    rw [runOp_getAttr] at hr
    split at hr <;> try cases hr
    next a cls attrs hd =>
    split at hr <;> try cases hr
    next v hv => exact ⟨.getAttr (deref_ok hd) hv, fun _ => rfl⟩
  | readVar r =>
    rw [runOp_readVar] at hr
    split at hr <;> try cases hr
    exact ⟨.push rfl, fun _ => rfl⟩
  | setVar r e =>
    rw [runOp_setVar] at hr
    split at hr <;> try cases hr
    next a ty v md hd =>
    split at hr <;> try cases hr
    exact ⟨.setVar _ (deref_ok hd), nofun⟩
  | setAttr r k src =>
    rw [runOp_setAttr] at hr
    split at hr <;> try cases hr
    next v hsrc =>
    split at hr <;> try cases hr
    next a cls attrs hd => exact ⟨.setAttr k (deref_ok hd) (List.mem_of_getElem? hsrc), nofun⟩
  | delAttr r k =>
    rw [runOp_delAttr] at hr
    split at hr <;> try cases hr
    next a cls attrs hd =>
    split at hr <;> try cases hr
    exact ⟨.delAttr k (deref_ok hd), nofun⟩
  | newNode cls => rw [runOp] at hr; cases hr; exact ⟨.newNode cls, nofun⟩
  | newVar ty e md =>
    rw [runOp] at hr
    split at hr <;> try cases hr
    exact ⟨.newVar ty _ md, nofun⟩
  | litStatic s => rw [runOp] at hr; cases hr; exact ⟨.push rfl, fun _ => rfl⟩
  | litNone => rw [runOp] at hr; cases hr; exact ⟨.push rfl, fun _ => rfl⟩
  | data e =>
    rw [runOp] at hr
    split at hr <;> try cases hr
    exact ⟨.push rfl, fun _ => rfl⟩

theorem runOps_invariant {P : Heap → List PVal → Prop} : ∀ {ops : List Op},
    (∀ {op h env h1 env1}, op ∈ ops → P h env → runOp h env op = .ok (h1, env1) → P h1 env1) →
    ∀ {h env h1 env1}, P h env → runOps ops h env = .ok (h1, env1) → P h1 env1
  | [], _, _, _, _, _, h0, hr => by cases hr; exact h0
  | op :: rest, step, _, _, _, _, h0, hr => by
    simp only [runOps] at hr
    split at hr
    · cases hr
    · next he =>
      exact runOps_invariant (fun ho => step (List.mem_cons_of_mem _ ho)) (step List.mem_cons_self h0 he) hr

theorem runFn_invariant {P : Heap → List PVal → Prop} {f : Fn}
    (step : ∀ {op h env h1 env1}, op ∈ f.body → P h env → runOp h env op = .ok (h1, env1) → P h1 env1)
    {h : Heap} {args rets : List PVal} {h1 : Heap} (h0 : P h args) (hr : runFn f h args = .ok (rets, h1)) :
    ∃ env1, P h1 env1 ∧ getRegs env1 f.ret = .ok rets := by
  unfold runFn at hr
  split at hr
  · cases hr
  · next env2 he =>
    split at hr
    · cases hr
    · next hg => cases hr; exact ⟨env2, runOps_invariant step h0 he, hg⟩

theorem runFn_readOnly {c : Fn} {h : Heap} {args rets : List PVal} {h1 : Heap} (hro : c.readOnly = true)
    (hr : runFn c h args = .ok (rets, h1)) : h1 = h := by
  obtain ⟨_, e, _⟩ := runFn_invariant (P := fun h' _ => h' = h)
    (fun ho e he => ((runOp_step he).2 (List.all_eq_true.mp hro _ ho)).trans e) rfl hr
  exact e

/-- what no statement can change about an object -/
inductive Kind where
  | node (cls : String)
  | var (ty : VType) (md : Meta)
  deriving DecidableEq

def kindOf : Obj → Kind
  | .node cls _ => .node cls
  | .var ty _ md => .var ty md

theorem node_of_kind {x : Option Obj} {cls : String} (h : x.map kindOf = some (.node cls)) :
    ∃ attrs, x = some (.node cls attrs) := by
  obtain ⟨o, rfl, hk⟩ := Option.map_eq_some_iff.mp h
  cases o with
  | node _ attrs => cases hk; exact ⟨attrs, rfl⟩
  | var _ _ _ => cases hk

theorem var_of_kind {x : Option Obj} {ty : VType} {md : Meta} (h : x.map kindOf = some (.var ty md)) :
    ∃ v, x = some (.var ty v md) := by
  obtain ⟨o, rfl, hk⟩ := Option.map_eq_some_iff.mp h
  cases o with
  | node _ _ => cases hk
  | var _ v _ => cases hk; exact ⟨v, rfl⟩

def KindPres (h h' : Heap) : Prop :=
  h.length ≤ h'.length ∧ ∀ (a : Nat), a < h.length → (h'[a]?).map kindOf = (h[a]?).map kindOf

theorem KindPres.refl (h : Heap) : KindPres h h := ⟨Nat.le_refl _, fun _ _ => rfl⟩

theorem KindPres.trans {a b c : Heap} (h1 : KindPres a b) (h2 : KindPres b c) : KindPres a c :=
  ⟨Nat.le_trans h1.1 h2.1, fun x hx => by rw [h2.2 x (by have := h1.1; omega), h1.2 x hx]⟩

theorem kindPres_write {h : Heap} {a : Nat} {o0 o : Obj} (h0 : h[a]? = some o0) (hk : kindOf o = kindOf o0) :
    KindPres h (write h a o) := by
  refine ⟨by simp [write_length], fun x hx => ?_⟩
  by_cases e : x = a
  · subst e
    rw [write_get _ _ _ hx, h0]; simp [hk]
  · rw [write_frame _ _ _ _ e]

theorem kindPres_append (h : Heap) (o : Obj) : KindPres h (h ++ [o]) :=
  ⟨by simp, fun x hx => by rw [List.getElem?_append_left hx]⟩

theorem runOp_kind {h : Heap} {env : List PVal} {op : Op} {h1 : Heap} {env1 : List PVal}
    (hr : runOp h env op = .ok (h1, env1)) : KindPres h h1 := by
  cases (runOp_step hr).1 with
  | getAttr _ _ => exact KindPres.refl _
  | push _ => exact KindPres.refl _
  | setVar _ hg => exact kindPres_write hg rfl
  | setAttr _ hg _ => exact kindPres_write hg rfl
  | delAttr _ hg => exact kindPres_write hg rfl
  | newNode _ => exact kindPres_append _ _
  | newVar _ _ _ => exact kindPres_append _ _

theorem runFn_kind {f : Fn} {h : Heap} {args rets : List PVal} {h1 : Heap} (hr : runFn f h args = .ok (rets, h1)) :
    KindPres h h1 := by
  obtain ⟨_, k, _⟩ := runFn_invariant (P := fun h' _ => KindPres h h') (fun _ k he => k.trans (runOp_kind he))
    (KindPres.refl h) hr
  exact k

theorem write_some {h : Heap} {a b : Nat} {o x : Obj} (hx : (write h a o)[b]? = some x) : x = o ∨ h[b]? = some x := by
  simp only [write, List.getElem?_set] at hx
  split at hx
  · split at hx
    · exact Or.inl (Option.some.inj hx).symm
    · cases hx
  · exact Or.inr hx

/-- every attribute dictionary in the heap has pairwise distinct keys (a fact about Python dicts) -/
def AttrsNodup (h : Heap) : Prop :=
  ∀ (a : Nat) (cls : String) (attrs : List (Key × PVal)), h[a]? = some (.node cls attrs) → keysNodup attrs

/-- `setattr` on `vars(obj)` is the update of an insertion-ordered dict -/
theorem putKV_isUpsert : Assoc.IsUpsert putKV := by
  refine ⟨fun _ _ => rfl, fun k v v' r => ?_, fun {k k'} v v' r hk => ?_⟩
  · simp [putKV, lookupKV, setKV]
  · simp only [putKV, lookupKV, setKV, if_neg hk]
    split <;> rfl

theorem keysNodup_putKV {k : Key} {v : PVal} {l : List (Key × PVal)} (h : keysNodup l) : keysNodup (putKV k v l) :=
  putKV_isUpsert.nodup_keys k v h

theorem lookupKV_putKV (k k' : Key) (v : PVal) (A : List (Key × PVal)) :
    lookupKV k (putKV k' v A) = if k' = k then some v else lookupKV k A := by
  rw [lookupKV_eq_lookup, lookupKV_eq_lookup, putKV_isUpsert.lookup]
  simp only [eq_comm]

theorem attrsNodup_write {h : Heap} (n : AttrsNodup h) {a : Nat} {o : Obj}
    (ho : ∀ cls attrs, o = .node cls attrs → keysNodup attrs) : AttrsNodup (write h a o) := by
  intro b cls attrs hb
  rcases write_some hb with e | hb'
  · exact ho cls attrs e.symm
  · exact n b cls attrs hb'

theorem attrsNodup_append {h : Heap} (n : AttrsNodup h) {o : Obj}
    (ho : ∀ cls attrs, o = .node cls attrs → keysNodup attrs) : AttrsNodup (h ++ [o]) := by
  intro b cls attrs hb
  rcases Lists.get_append_one hb with hb' | ⟨_, e⟩
  · exact n b cls attrs hb'
  · exact ho cls attrs e.symm

theorem runOp_nodup {h : Heap} {env : List PVal} {op : Op} {h1 : Heap} {env1 : List PVal} (n : AttrsNodup h)
    (hr : runOp h env op = .ok (h1, env1)) : AttrsNodup h1 := by
  cases (runOp_step hr).1 with
  | getAttr _ _ => exact n
  | push _ => exact n
  | setVar _ _ => exact attrsNodup_write n (fun cls attrs he => by cases he)
  | setAttr _ hg _ => exact attrsNodup_write n (fun cls' attrs' he => by cases he; exact keysNodup_putKV (n _ _ _ hg))
  | delAttr _ hg => exact attrsNodup_write n (fun cls' attrs' he => by cases he; exact keysNodup_eraseKV (n _ _ _ hg))
  | newNode _ => exact attrsNodup_append n (fun cls' attrs' he => by cases he; simp [keysNodup])
  | newVar _ _ _ => exact attrsNodup_append n (fun cls' attrs' he => by cases he)

theorem runFn_nodup {f : Fn} {h : Heap} {args rets : List PVal} {h1 : Heap} (n : AttrsNodup h)
    (hr : runFn f h args = .ok (rets, h1)) : AttrsNodup h1 := by
  obtain ⟨_, n1, _⟩ := runFn_invariant (P := fun h' _ => AttrsNodup h') (fun _ n he => runOp_nodup n he) n hr
  exact n1

def attrsNodupB (h : Heap) : Bool :=
  h.all (fun o => match o with | .node _ attrs => decide (keysNodup attrs) | .var _ _ _ => true)

theorem attrsNodup_of_check {h : Heap} (hb : attrsNodupB h = true) : AttrsNodup h := by
  intro a cls attrs ha
  have := List.all_eq_true.mp hb _ (List.mem_of_getElem? ha)
  simpa using this

/-- C03's well-formedness (`Heap.wf`) gives the distinct-keys invariant the loop theorems use -/
theorem attrsNodup_of_wf {h : Heap} (hw : Heap.wf h = true) : AttrsNodup h := by
  intro a cls attrs ha
  have := List.all_eq_true.mp hw _ (List.mem_of_getElem? ha)
  simp only [Obj.wf, Bool.and_eq_true, decide_eq_true_eq] at this
  exact this.1

def ClosedSt (h : Heap) (env : List PVal) : Prop := HeapClosed h ∧ ∀ v ∈ env, ValClosed h v

theorem valClosed_mono {h h' : Heap} (hl : h.length ≤ h'.length) {v : PVal} (hv : ValClosed h v) : ValClosed h' v :=
  fun b hb => Nat.lt_of_lt_of_le (hv b hb) hl

theorem heapClosed_write {h : Heap} (hc : HeapClosed h) {a : Nat} {o : Obj}
    (ho : ∀ cls attrs, o = .node cls attrs → ∀ b ∈ deepRefsKV attrs, b < h.length) : HeapClosed (write h a o) := by
  intro x cls attrs hx b hb
  rw [write_length]
  rcases write_some hx with e | hx'
  · exact ho cls attrs e.symm b hb
  · exact hc x cls attrs hx' b hb

theorem heapClosed_append {h : Heap} (hc : HeapClosed h) {o : Obj}
    (ho : ∀ cls attrs, o = .node cls attrs → ∀ b ∈ deepRefsKV attrs, b < h.length + 1) : HeapClosed (h ++ [o]) := by
  intro x cls attrs hx b hb
  rw [List.length_append, List.length_singleton]
  rcases Lists.get_append_one hx with hx' | ⟨_, e⟩
  · exact Nat.lt_succ_of_lt (hc x cls attrs hx' b hb)
  · exact ho cls attrs e.symm b hb

theorem deepRefsKV_putKV {k : Key} {v : PVal} {l : List (Key × PVal)} {b : Addr} (hb : b ∈ deepRefsKV (putKV k v l)) :
    b ∈ deepRefs v ∨ b ∈ deepRefsKV l := by
  obtain ⟨kv, hkv, hb'⟩ := mem_deepRefsKV'.mp hb
  rcases putKV_isUpsert.mem hkv with rfl | h1
  · exact Or.inl hb'
  · exact Or.inr (mem_deepRefsKV'.mpr ⟨kv, h1, hb'⟩)

theorem deepRefsKV_eraseKV {k : Key} {l : List (Key × PVal)} {b : Addr} (hb : b ∈ deepRefsKV (eraseKV k l)) :
    b ∈ deepRefsKV l := by
  obtain ⟨kv, hkv, hb'⟩ := mem_deepRefsKV'.mp hb
  exact mem_deepRefsKV'.mpr ⟨kv, (List.mem_filter.mp hkv).1, hb'⟩

theorem closed_push {h : Heap} {env : List PVal} (c : ClosedSt h env) {v : PVal} (hv : ValClosed h v) : ClosedSt h (env ++ [v]) :=
  ⟨c.1, fun w hw => by
    rcases List.mem_append.mp hw with h1 | h1
    · exact c.2 w h1
    · simp at h1; subst h1; exact hv⟩

theorem runOp_closed {h : Heap} {env : List PVal} {op : Op} {h1 : Heap} {env1 : List PVal} (c : ClosedSt h env)
    (hr : runOp h env op = .ok (h1, env1)) : ClosedSt h1 env1 := by
  have hold : ∀ {a : Nat} {o : Obj}, ∀ w ∈ env, ValClosed (write h a o) w := fun w hw =>
    valClosed_mono (by simp [write_length]) (c.2 w hw)
  have hnew : ∀ {o : Obj}, ∀ w ∈ env ++ [PVal.ref h.length], ValClosed (h ++ [o]) w := fun w hw => by
    rcases List.mem_append.mp hw with h1 | h1
    · exact valClosed_mono (by simp) (c.2 w h1)
    · simp at h1; subst h1; intro b hb; simp [deepRefs] at hb; subst hb; simp
  cases (runOp_step hr).1 with
  | getAttr hg hv => exact closed_push c (fun b hb => c.1 _ _ _ hg b (deepRefs_lookupKV hv b hb))
  | push hv => exact closed_push c (fun b hb => by rw [hv] at hb; cases hb)
  | setVar _ _ => exact ⟨heapClosed_write c.1 (fun cls attrs he => by cases he), hold⟩
  | setAttr _ hg hv =>
    refine ⟨heapClosed_write c.1 (fun cls' attrs' he b hb => ?_), hold⟩
    cases he
    rcases deepRefsKV_putKV hb with h1 | h1
    · exact c.2 _ hv b h1
    · exact c.1 _ _ _ hg b h1
  | delAttr _ hg =>
    refine ⟨heapClosed_write c.1 (fun cls' attrs' he b hb => ?_), hold⟩
    cases he
    exact c.1 _ _ _ hg b (deepRefsKV_eraseKV hb)
  | newNode _ => exact ⟨heapClosed_append c.1 (fun cls' attrs' he b hb => by cases he; simp [deepRefsKV] at hb), hnew⟩
  | newVar _ _ _ => exact ⟨heapClosed_append c.1 (fun cls' attrs' he => by cases he), hnew⟩

theorem getRegs_mem {env : List PVal} : ∀ {rs : List Nat} {vs : List PVal}, getRegs env rs = .ok vs → ∀ v ∈ vs, v ∈ env
  | [], vs, h, v, hv => by simp [getRegs] at h; subst h; simp at hv
  | r :: rs, vs, h, v, hv => by
    simp only [getRegs] at h
    split at h <;> try cases h
    next w ws hw hws =>
    rcases List.mem_cons.mp hv with e | h1
    · subst e; exact List.mem_of_getElem? hw
    · exact getRegs_mem hws v h1

theorem runFn_closed {f : Fn} {h : Heap} {args rets : List PVal} {h1 : Heap} (c : ClosedSt h args)
    (hr : runFn f h args = .ok (rets, h1)) : ClosedSt h1 rets := by
  obtain ⟨env1, c1, hg⟩ := runFn_invariant (P := ClosedSt) (fun _ c he => runOp_closed c he) c hr
  exact ⟨c1.1, fun v hv => c1.2 v (getRegs_mem hg v hv)⟩

end Flax.Nnx
