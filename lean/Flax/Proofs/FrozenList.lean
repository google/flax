/-
`Model/FrozenList.lean` (dicts, lists, tuples and FrozenDicts on a heap; `unfreeze(fd)` =
`tree_map(lambda y: y, fd._dict)` rebuilds every pytree node): a walk that rebuilds every container returns a
structure whose every container it allocated itself (`rebuild_fresh`).
-/
import Flax.Model.FrozenList
import Flax.Proofs.ListLemmas

namespace Flax.C15

/-- `c` is reachable from `a` through any container (dict values, list / tuple items, a FrozenDict's `_dict`) -/
inductive ReachL (h : FrozenL.Heap) : Nat → Nat → Prop where
  | refl (a : Nat) : ReachL h a a
  | step {a b c : Nat} {o : FrozenL.Obj} :
      h[a]? = some o → FrozenL.Val.ref b ∈ o.children → ReachL h b c → ReachL h a c

/-- containers at or above `base` hold only references at or above `base` -/
def NewClosed (base : Nat) (h : FrozenL.Heap) : Prop :=
  ∀ (a : Nat) (o : FrozenL.Obj), base ≤ a → h[a]? = some o → ∀ b : Nat, FrozenL.Val.ref b ∈ o.children → base ≤ b

theorem NewClosed.alloc {base : Nat} {h : FrozenL.Heap} (hc : NewClosed base h) (o : FrozenL.Obj)
    (ho : ∀ b : Nat, FrozenL.Val.ref b ∈ o.children → base ≤ b) : NewClosed base (h ++ [o]) := by
  intro a x ha hg b hb
  rcases Lists.get_append_one hg with h1 | ⟨_, h2⟩
  · exact hc a x ha h1 b hb
  · subst h2; exact ho b hb

/-- what a rebuilding walk started in `h` returns -/
def WalkOk (base : Nat) (h : FrozenL.Heap) (r : FrozenL.Heap × FrozenL.Val) : Prop :=
  (∃ ext, r.1 = h ++ ext) ∧ NewClosed base r.1 ∧ ∀ b : Nat, r.2 = FrozenL.Val.ref b → h.length ≤ b

theorem mapVals_fresh (f : FrozenL.Heap → FrozenL.Val → Option (FrozenL.Heap × FrozenL.Val)) (base : Nat)
    (hf : ∀ h v r, base ≤ h.length → NewClosed base h → f h v = some r → WalkOk base h r) :
    ∀ (vs : List FrozenL.Val) (h h' : FrozenL.Heap) (vs' : List FrozenL.Val), base ≤ h.length → NewClosed base h →
      FrozenL.mapVals f h vs = some (h', vs') →
      (∃ ext, h' = h ++ ext) ∧ NewClosed base h' ∧ ∀ b : Nat, FrozenL.Val.ref b ∈ vs' → base ≤ b := by
  intro vs
  induction vs with
  | nil =>
    intro h h' vs' _ hc hm
    simp [FrozenL.mapVals] at hm; obtain ⟨rfl, rfl⟩ := hm
    exact ⟨⟨[], (List.append_nil _).symm⟩, hc, fun _ hb => nomatch hb⟩
  | cons v rest ih =>
    intro h h' vs' hb hc hm
    simp only [FrozenL.mapVals] at hm
    split at hm
    · cases hm
    · rename_i h1 v1 hfv
      split at hm
      · cases hm
      · rename_i h2 rest' hrest
        simp at hm; obtain ⟨rfl, rfl⟩ := hm
        obtain ⟨⟨e1, he1⟩, c1, f1⟩ := hf h v (h1, v1) hb hc hfv
        simp only at he1 c1 f1
        have hb1 : base ≤ h1.length := by rw [he1, List.length_append]; exact Nat.le_add_right_of_le hb
        obtain ⟨⟨e2, he2⟩, c2, f2⟩ := ih h1 _ _ hb1 c1 hrest
        refine ⟨⟨e1 ++ e2, by rw [he2, he1]; simp⟩, c2, ?_⟩
        intro b hbm
        simp at hbm
        rcases hbm with hbm | hbm
        · exact Nat.le_trans hb (f1 b hbm.symm)
        · exact f2 b hbm

theorem walkOk_alloc {base : Nat} {h h1 e1 : FrozenL.Heap} (he1 : h1 = h ++ e1) (c1 : NewClosed base h1)
    (o : FrozenL.Obj) (ho : ∀ b : Nat, FrozenL.Val.ref b ∈ o.children → base ≤ b) :
    WalkOk base h (h1 ++ [o], .ref h1.length) := by
  refine ⟨⟨e1 ++ [o], by rw [he1]; simp⟩, c1.alloc o ho, ?_⟩
  intro b hb
  injection hb with hb
  rw [← hb, he1]; simp

theorem walkOk_container {base n : Nat} {h h1 : FrozenL.Heap} {xs vs : List FrozenL.Val}
    (ih : ∀ h v r, base ≤ h.length → NewClosed base h → FrozenL.rebuild .all n h v = some r → WalkOk base h r)
    (hb : base ≤ h.length) (hc : NewClosed base h)
    (hm : FrozenL.mapVals (FrozenL.rebuild .all n) h xs = some (h1, vs)) (o : FrozenL.Obj)
    (ho : ∀ b : Nat, FrozenL.Val.ref b ∈ o.children → FrozenL.Val.ref b ∈ vs) :
    WalkOk base h (h1 ++ [o], .ref h1.length) := by
  obtain ⟨⟨e1, he1⟩, c1, f1⟩ := mapVals_fresh _ base ih _ _ _ _ hb hc hm
  exact walkOk_alloc he1 c1 o (fun b hbm => f1 b (ho b hbm))

theorem rebuild_fresh (base : Nat) : ∀ (n : Nat) (h : FrozenL.Heap) (v : FrozenL.Val) (r : FrozenL.Heap × FrozenL.Val),
    base ≤ h.length → NewClosed base h → FrozenL.rebuild .all n h v = some r → WalkOk base h r := by
  intro n
  induction n with
  | zero =>
    intro h v r _ hc hr
    cases v with
    | leaf k => cases hr; exact ⟨⟨[], (List.append_nil _).symm⟩, hc, fun _ hb => nomatch hb⟩
    | ref a => cases hr
  | succ n ih =>
    intro h v r hb hc hr
    cases v with
    | leaf k => cases hr; exact ⟨⟨[], (List.append_nil _).symm⟩, hc, fun _ hb => nomatch hb⟩
    | ref a =>
      simp only [FrozenL.rebuild] at hr
      -- dict, list, tuple: one argument (`walkOk_container`) up to `children`; a FrozenDict wraps the rebuilt `_dict`
      split at hr
      · cases hr
      · split at hr
        · cases hr
        · rename_i hm
          simp at hr; subst hr
          refine walkOk_container ih hb hc hm _ (fun b hbm => ?_)
          simp only [FrozenL.Obj.children, List.mem_map] at hbm
          obtain ⟨p, hp, hp2⟩ := hbm
          exact hp2 ▸ (List.of_mem_zip hp).2
      · split at hr
        · cases hr
        · rename_i hm
          simp at hr; subst hr
          exact walkOk_container ih hb hc hm _ (fun b hbm => by simpa [FrozenL.Obj.children] using hbm)
      · split at hr
        · cases hr
        · rename_i hm
          simp at hr; subst hr
          exact walkOk_container ih hb hc hm _ (fun b hbm => by simpa [FrozenL.Obj.children] using hbm)
      · rename_i i hg
        split at hr
        · cases hr
        · rename_i h1 j hrec
          simp at hr; subst hr
          obtain ⟨⟨e1, he1⟩, c1, f1⟩ := ih h (.ref i) (h1, .ref j) hb hc hrec
          simp only at he1 c1 f1
          refine walkOk_alloc he1 c1 _ ?_
          intro b hbm
          simp [FrozenL.Obj.children] at hbm
          exact Nat.le_trans hb (f1 b (by rw [hbm]))
        · cases hr

theorem reachL_stays_new {base : Nat} {h : FrozenL.Heap} (hc : NewClosed base h) {a c : Nat}
    (hr : ReachL h a c) : base ≤ a → base ≤ c := by
  induction hr with
  | refl a => exact id
  | step hg hm _ ih => intro ha; exact ih (hc _ _ ha hg _ hm)

end Flax.C15
