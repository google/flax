/-
A decidable, tree-level sufficient condition (`sizesOk`, `WFSizes`) for "the chunked state dict fits msgpack's limits"
(`STree.packable`): fewer than `2^32` entries per container, keys / strings / bytes / array payloads shorter than
`2^32` bytes (arrays with a margin for their ext header), ints in `[-2^63, 2^64)`.
-/
import Flax.Proofs.SerialBytes

namespace Flax.Serial
open Flax.Msgpack

/-- `32` = room for the ext payload's own headers (array, shape array, str, bin) plus one dimension
of a chunk piece -/
def NdArray.sizesOk (a : NdArray) : Bool :=
  decide (a.shape.length < 2 ^ 32) && a.shape.all (fun d => decide (d < 2 ^ 64)) &&
  decide (9 * a.shape.length + (utf8 a.dtype).length + a.data.length + 32 < 2 ^ 32)

def Leaf.sizesOk : Leaf → Bool
  | .none => true
  | .bool _ => true
  | .int i => decide (-(2 ^ 63 : Int) ≤ i) && decide (i < (2 ^ 64 : Int))
  | .float bits => decide (bits < 2 ^ 64)
  | .complex re im => decide (re < 2 ^ 64) && decide (im < 2 ^ 64)
  | .str s => decide ((utf8 s).length < 2 ^ 32)
  | .bytes b => decide (b.length < 2 ^ 32)
  | .ndarray a => a.sizesOk
  | .npscalar dtype data => NdArray.sizesOk { dtype := dtype, shape := [], data := data }

mutual
  def Tree.sizesOk : Tree → Bool
    | .leaf v => v.sizesOk
    | .dict kvs => decide (kvs.length < 2 ^ 32) && szFields kvs
    | .fdict kvs => decide (kvs.length < 2 ^ 32) && szFields kvs
    | .list xs => decide (xs.length < 2 ^ 32) && szList xs
    | .tuple xs => decide (xs.length < 2 ^ 32) && szList xs
    | .named _ fs => decide (fs.length < 2 ^ 32) && szFields fs
    | .struct _ fs _ => decide (fs.length < 2 ^ 32) && szFields fs
  def szFields : List (String × Tree) → Bool
    | [] => true
    | (k, v) :: r => decide ((utf8 k).length < 2 ^ 32) && v.sizesOk && szFields r
  def szList : List Tree → Bool
    | [] => true
    | x :: r => x.sizesOk && szList r
end

mutual
  def STree.sizesOk : STree → Bool
    | .leaf v => v.sizesOk
    | .dict kvs => decide (kvs.length < 2 ^ 32) && sszKvs kvs
  def sszKvs : List (String × STree) → Bool
    | [] => true
    | (k, v) :: r => decide ((utf8 k).length < 2 ^ 32) && v.sizesOk && sszKvs r
end

/-- the decidable hypothesis of `C10.bytes_roundtrip_sizes` (which also takes `arraysOk`): distinct keys, no
reserved key, sizes within msgpack's limits -/
def WFSizes (t : Tree) : Bool := t.wf && t.noMarker && t.sizesOk

theorem wfSizes_iff (t : Tree) : WFSizes t = true ↔ t.wf = true ∧ t.noMarker = true ∧ t.sizesOk = true := by
  simp only [WFSizes, Bool.and_eq_true, and_assoc]

theorem utf8_length (s : String) : (utf8 s).length = s.utf8ByteSize := by
  simp [utf8]

theorem utf8Size_digitChar : ∀ n, n < 10 → (Nat.digitChar n).utf8Size = 1 := by decide

theorem utf8ByteSize_repr_le : ∀ (n : Nat), (Nat.repr n).utf8ByteSize ≤ n + 1 := by
  intro n
  induction n using Nat.strongRecOn with
  | _ n ih =>
    by_cases h : n < 10
    · rw [Nat.repr_of_lt h, String.utf8ByteSize_singleton, utf8Size_digitChar n h]
      exact Nat.succ_le_succ (Nat.zero_le n)
    · rw [Nat.repr_eq_repr_append_repr (Nat.le_of_not_lt h), String.utf8ByteSize_append]
      have h1 := ih (n / 10) (by omega)
      have h2 := ih (n % 10) (by omega)
      omega

theorem utf8_idx_le (i : Nat) : (utf8 (idx i)).length ≤ i + 1 := by
  rw [utf8_length]; exact utf8ByteSize_repr_le i

theorem length_packDims : ∀ (shape : List Nat),
    (packList (shape.map (fun (d : Nat) => MVal.int (d : Int)))).length ≤ 9 * shape.length
  | [] => by simp [packList]
  | d :: r => by
    have h1 := (packInt_head (d : Int)).tagged.length_le
    have h2 := length_packDims r
    simp only [List.map_cons, packList, pack, List.length_append, List.length_cons]
    omega

theorem length_pack_arr3 (x y z : MVal) :
    (pack (.arr [x, y, z])).length ≤ 5 + (pack x).length + (pack y).length + (pack z).length := by
  have := (arrHdr_head ([x, y, z] : List MVal).length).tagged.length_le
  simp only [pack, packList, List.length_append, List.append_nil]
  omega

theorem length_ndToBytes_le (a : NdArray) :
    (ndToBytes a).length ≤ 20 + 9 * a.shape.length + (utf8 a.dtype).length + a.data.length := by
  have h0 := length_pack_arr3 (.arr (a.shape.map (fun (d : Nat) => MVal.int (d : Int)))) (.str (utf8 a.dtype)) (.bin a.data)
  have h1 := length_packDims a.shape
  have h2 := (arrHdr_head (a.shape.map (fun (d : Nat) => MVal.int (d : Int))).length).tagged.length_le
  have h3 := (strHdr_head (utf8 a.dtype).length).tagged.length_le
  have h4 := (binHdr_head a.data.length).tagged.length_le
  simp only [ndToBytes]
  simp only [pack, List.length_append] at h0 ⊢
  omega

theorem ndarray_packable_of_sizesOk (a : NdArray) (h : a.sizesOk = true) : a.packable := by
  simp only [NdArray.sizesOk, Bool.and_eq_true, decide_eq_true_eq, List.all_eq_true] at h
  have hl := length_ndToBytes_le a
  refine ⟨h.1.1, fun d hd => h.1.2 d hd, by omega, by omega, by omega⟩

theorem leaf_packable_of_sizesOk (v : Leaf) (h : v.sizesOk = true) : v.packable := by
  cases v with
  | none => trivial
  | bool b => trivial
  | int i => simpa [Leaf.sizesOk, Leaf.packable] using h
  | float b => simpa [Leaf.sizesOk, Leaf.packable] using h
  | complex re im => simpa [Leaf.sizesOk, Leaf.packable] using h
  | str s => simpa [Leaf.sizesOk, Leaf.packable] using h
  | bytes b => simpa [Leaf.sizesOk, Leaf.packable] using h
  | ndarray a => exact ndarray_packable_of_sizesOk a h
  | npscalar d b => exact ndarray_packable_of_sizesOk _ h

theorem packableKvs_enumL : ∀ (xs : List STree) (i : Nat), (∀ x ∈ xs, x.packable) → i + xs.length < 2 ^ 32 →
    packableKvs (enumL i xs)
  | [], _, _, _ => by simp [enumL, packableKvs]
  | x :: r, i, hx, hl => by
    simp only [List.length_cons] at hl
    simp only [enumL, packableKvs]
    have := utf8_idx_le i
    exact ⟨by omega, hx x (by simp), packableKvs_enumL r (i + 1) (fun y hy => hx y (by simp [hy])) (by omega)⟩

theorem packable_enumDict (xs : List STree) (hx : ∀ x ∈ xs, x.packable) (hl : xs.length < 2 ^ 32) :
    (STree.dict (enumDict 0 xs)).packable := by
  rw [enumDict_eq]
  simp only [STree.packable, length_enumL]
  exact ⟨hl, nodup_keys_enumL xs 0, packableKvs_enumL xs 0 hx (by omega)⟩

theorem length_splitEvery_le (n : Nat) : ∀ (fuel : Nat) (l : Bytes), (splitEvery n fuel l).length ≤ fuel
  | 0, _ => by simp [splitEvery]
  | fuel + 1, l => by
    simp only [splitEvery]
    split
    · simp
    · have := length_splitEvery_le n fuel (l.drop n); simp; omega

theorem length_piece (n : Nat) : ∀ (fuel : Nat) (l : Bytes), ∀ p ∈ splitEvery n fuel l, p.length ≤ n ∧ p.length ≤ l.length
  | 0, _, p, hp => nomatch hp
  | fuel + 1, l, p, hp => by
    rw [splitEvery] at hp
    split at hp
    · cases hp
    · rcases List.mem_cons.mp hp with rfl | hp
      · rw [List.length_take]; exact ⟨Nat.min_le_left _ _, Nat.min_le_right _ _⟩
      · have := length_piece n fuel _ p hp
        exact ⟨this.1, Nat.le_trans this.2 (by rw [List.length_drop]; exact Nat.sub_le _ _)⟩

theorem packable_chunk (T : Nat) (isz : String → Nat) (a : NdArray) (h : a.sizesOk = true) :
    (chunk T isz a).packable := by
  have h' := h
  simp only [NdArray.sizesOk, Bool.and_eq_true, decide_eq_true_eq, List.all_eq_true] at h'
  obtain ⟨⟨hr, hd⟩, hb⟩ := h'
  have hk1 : (utf8 marker).length < 2 ^ 32 := by decide
  have hk2 : (utf8 "shape").length < 2 ^ 32 := by decide
  have hk3 : (utf8 "chunks").length < 2 ^ 32 := by decide
  have hnd : [marker, "shape", "chunks"].Nodup := by decide
  simp only [chunk, STree.packable, packableKvs, List.length_cons, List.length_nil]
  refine ⟨by omega, hnd, hk1, trivial, hk2, ?_, hk3, ?_, trivial⟩
  · apply packable_enumDict
    · intro x hx
      simp only [List.mem_map] at hx
      obtain ⟨d, hdm, rfl⟩ := hx
      have := hd d hdm
      simp only [STree.packable, Leaf.packable]
      omega
    · simpa using hr
  · apply packable_enumDict
    · intro x hx
      simp only [List.mem_map] at hx
      obtain ⟨p, hp, rfl⟩ := hx
      have hpl := (length_piece _ _ _ p hp).2
      simp only [STree.packable, Leaf.packable]
      have hl := length_ndToBytes_le { dtype := a.dtype, shape := [p.length / isz a.dtype], data := p }
      simp only [List.length_cons, List.length_nil] at hl
      have hdiv : p.length / isz a.dtype ≤ p.length := Nat.div_le_self _ _
      refine ⟨by simp, ?_, by simp only; omega, by simp only; omega, by omega⟩
      intro d hd'
      simp only [List.mem_cons, List.not_mem_nil, or_false] at hd'
      subst hd'
      omega
    · have := length_splitEvery_le (max 1 (T / isz a.dtype) * isz a.dtype) a.data.length a.data
      simp only [List.length_map]
      omega

mutual
  theorem packable_chunkLeaves (T : Nat) (isz : String → Nat) : ∀ (s : STree),
      s.wf = true → s.sizesOk = true → (chunkLeaves T isz s).packable
    | .leaf v, _, hs => by
      simp only [STree.sizesOk] at hs
      cases v with
      | ndarray a =>
        simp only [chunkLeaves]
        split
        · exact packable_chunk T isz a hs
        · exact leaf_packable_of_sizesOk _ hs
      | _ => simpa [chunkLeaves, STree.packable] using leaf_packable_of_sizesOk _ hs
    | .dict kvs, hw, hs => by
      simp only [STree.wf, Bool.and_eq_true, decide_eq_true_eq] at hw
      simp only [STree.sizesOk, Bool.and_eq_true, decide_eq_true_eq] at hs
      simp only [chunkLeaves, STree.packable, keys_chunkKvs]
      exact ⟨length_chunkKvs T isz kvs ▸ hs.1, hw.1, packable_chunkKvs T isz kvs hw.2 hs.2⟩
  theorem packable_chunkKvs (T : Nat) (isz : String → Nat) : ∀ (kvs : List (String × STree)),
      swfKvs kvs = true → sszKvs kvs = true → packableKvs (chunkKvs T isz kvs)
    | [], _, _ => by simp [chunkKvs, packableKvs]
    | (k, v) :: r, hw, hs => by
      simp only [swfKvs, Bool.and_eq_true] at hw
      simp only [sszKvs, Bool.and_eq_true, decide_eq_true_eq] at hs
      simp only [chunkKvs, packableKvs]
      exact ⟨hs.1.1, packable_chunkLeaves T isz v hw.1 hs.1.2, packable_chunkKvs T isz r hw.2 hs.2⟩
end

theorem sszKvs_enumL : ∀ (xs : List STree) (i : Nat), (∀ x ∈ xs, x.sizesOk = true) → i + xs.length < 2 ^ 32 →
    sszKvs (enumL i xs) = true
  | [], _, _, _ => by simp [enumL, sszKvs]
  | x :: r, i, hx, hl => by
    simp only [List.length_cons] at hl
    have := utf8_idx_le i
    simp only [enumL, sszKvs, Bool.and_eq_true, decide_eq_true_eq]
    exact ⟨⟨by omega, hx x (by simp)⟩, sszKvs_enumL r (i + 1) (fun y hy => hx y (by simp [hy])) (by omega)⟩

mutual
  theorem stateDict_ok : ∀ (t : Tree), t.wf = true → t.sizesOk = true →
      (toStateDict t).wf = true ∧ (toStateDict t).sizesOk = true
    | .leaf v, _, hs => by simpa [toStateDict, STree.wf, STree.sizesOk, Tree.sizesOk] using hs
    | .dict kvs, hw, hs | .fdict kvs, hw, hs | .named _ kvs, hw, hs | .struct _ kvs _, hw, hs => by
      simp only [Tree.wf, Bool.and_eq_true, decide_eq_true_eq] at hw
      simp only [Tree.sizesOk, Bool.and_eq_true, decide_eq_true_eq] at hs
      have := stateDict_fields kvs hw.2 hs.2
      simp only [toStateDict, STree.wf, STree.sizesOk, keys_toSDFields, Bool.and_eq_true, decide_eq_true_eq]
      exact ⟨⟨hw.1, this.1⟩, by rw [this.2.2]; exact hs.1, this.2.1⟩
    | .list xs, hw, hs | .tuple xs, hw, hs => by
      simp only [Tree.wf] at hw
      simp only [Tree.sizesOk, Bool.and_eq_true, decide_eq_true_eq] at hs
      have := stateDict_list xs hw hs.2
      simp only [toStateDict, toSDList_eq, STree.wf, STree.sizesOk, Bool.and_eq_true, decide_eq_true_eq,
        length_enumL, List.length_map]
      exact ⟨⟨nodup_keys_enumL _ 0, SerialHeap.swfKvs_of_forall _ 0 this.1⟩, hs.1,
        sszKvs_enumL _ 0 this.2 (by simpa using hs.1)⟩
  theorem stateDict_fields : ∀ (kvs : List (String × Tree)), wfFields kvs = true → szFields kvs = true →
      swfKvs (toSDFields kvs) = true ∧ sszKvs (toSDFields kvs) = true ∧ (toSDFields kvs).length = kvs.length
    | [], _, _ => by simp [toSDFields, swfKvs, sszKvs]
    | (k, v) :: r, hw, hs => by
      simp only [wfFields, Bool.and_eq_true] at hw
      simp only [szFields, Bool.and_eq_true, decide_eq_true_eq] at hs
      have h1 := stateDict_ok v hw.1 hs.1.2
      have h2 := stateDict_fields r hw.2 hs.2
      simp only [toSDFields, swfKvs, sszKvs, Bool.and_eq_true, decide_eq_true_eq, List.length_cons]
      exact ⟨⟨h1.1, h2.1⟩, ⟨⟨hs.1.1, h1.2⟩, h2.2.1⟩, by rw [h2.2.2]⟩
  theorem stateDict_list : ∀ (xs : List Tree), wfList xs = true → szList xs = true →
      (∀ x ∈ xs.map toStateDict, x.wf = true) ∧ (∀ x ∈ xs.map toStateDict, x.sizesOk = true)
    | [], _, _ => by simp
    | x :: r, hw, hs => by
      simp only [wfList, Bool.and_eq_true] at hw
      simp only [szList, Bool.and_eq_true] at hs
      have h1 := stateDict_ok x hw.1 hs.1
      have h2 := stateDict_list r hw.2 hs.2
      simp only [List.map_cons, List.mem_cons]
      exact ⟨fun y hy => hy.elim (fun e => e ▸ h1.1) (h2.1 y), fun y hy => hy.elim (fun e => e ▸ h1.2) (h2.2 y)⟩
end

end Flax.Serial
