/-
The character-level model of `natural_sort` (C11).  The pieces of the number regex cut their input in two and are
unaffected by what follows an inert character (`Cuts`), so `prefix ++ number` scans as "tokens of the prefix, then
the number" (`tokens_after_inert`, `scan_fullMatch`); names whose keys compare as the values of what they name are
sorted by value (`natSort_of_key`).
-/
import Flax.Model.NatSort
import Flax.Proofs.InsertSort
import Flax.Proofs.ListLemmas

namespace Flax.NatSort

/-- a character that can be part of no number token and ends every look-ahead of the number regex -/
def Inert (c : Char) : Prop := isDigit c = false ∧ isSign c = false ∧ c ≠ '.' ∧ isExp c = false

/-- a piece of the regex cuts its input in two, nothing lost, and is unaffected by what follows an inert character -/
def Cuts (f : List Char → List Char × List Char) : Prop :=
  ∀ X, (f X).1 ++ (f X).2 = X ∧ ∀ c, Inert c → ∀ S, f (X ++ c :: S) = ((f X).1, (f X).2 ++ c :: S)

theorem spanDigits_cuts : Cuts spanDigits := by
  intro X
  induction X with
  | nil => exact ⟨rfl, fun c hc S => by simp [spanDigits, hc.1]⟩
  | cons x r ih =>
    simp only [List.cons_append, spanDigits]
    by_cases hx : isDigit x = true
    · simp +contextual [hx, ih.1, ih.2]
    · simp [hx]

theorem optSign_cuts : Cuts optSign := by
  intro X
  cases X with
  | nil => exact ⟨rfl, fun c hc S => by simp [optSign, hc.2.1]⟩
  | cons x r =>
    simp only [List.cons_append, optSign]
    by_cases hx : isSign x = true <;> simp [hx]

theorem optFrac_cuts : Cuts optFrac := by
  intro X
  cases X with
  | nil => exact ⟨rfl, fun c hc S => by simp [optFrac, hc.2.2.1]⟩
  | cons x r =>
    simp only [List.cons_append, optFrac]
    by_cases hx : x = '.'
    · simp +contextual [hx, (spanDigits_cuts r).1, (spanDigits_cuts r).2]
    · simp [hx]

theorem withExp_cuts (m X : List Char) : (withExp m X).1 ++ (withExp m X).2 = m ++ X ∧
    ∀ c, Inert c → ∀ S, withExp m (X ++ c :: S) = ((withExp m X).1, (withExp m X).2 ++ c :: S) := by
  cases X with
  | nil => exact ⟨by simp [withExp], fun c hc S => by simp [withExp, hc.2.2.2]⟩
  | cons x r =>
    simp only [List.cons_append, withExp]
    by_cases hx : isExp x = true
    · simp only [hx, if_true]
      by_cases he : (spanDigits (optSign r).2).1.isEmpty = true
      · simp +contextual [he, (optSign_cuts r).2, (spanDigits_cuts (optSign r).2).2]
      · simp +contextual [he, (optSign_cuts r).2, (spanDigits_cuts (optSign r).2).2,
          (spanDigits_cuts (optSign r).2).1, (optSign_cuts r).1]
    · simp [hx]

theorem matchMantissa_cuts (sg X : List Char) :
    (∀ mr, matchMantissa sg X = some mr → mr.1 ++ mr.2 = sg ++ X) ∧
    ∀ c, Inert c → ∀ S,
      matchMantissa sg (X ++ c :: S) = (matchMantissa sg X).map (fun mr => (mr.1, mr.2 ++ c :: S)) := by
  cases X with
  | nil => exact ⟨nofun, fun c hc S => by simp [matchMantissa, hc.1, hc.2.2.1]⟩
  | cons x t =>
    rw [matchMantissa]
    by_cases hx : isDigit x = true
    · refine ⟨fun mr h => ?_, fun c hc S => ?_⟩
      · rw [if_pos hx] at h
        cases h
        rw [(withExp_cuts _ _).1, List.append_assoc, List.append_assoc, (optFrac_cuts _).1, (spanDigits_cuts _).1]
      · rw [List.cons_append, matchMantissa, if_pos hx, if_pos hx, ← List.cons_append, (spanDigits_cuts _).2 c hc]
        simp only [Option.map_some]
        rw [(optFrac_cuts _).2 c hc, (withExp_cuts _ _).2 c hc]
    · by_cases hd : x = '.'
      · subst hd
        by_cases he : (spanDigits t).1.isEmpty = true
        · exact ⟨by simp [hx, he], fun c hc S => by simp [matchMantissa, hx, he, (spanDigits_cuts t).2 c hc]⟩
        · refine ⟨fun mr h => ?_, fun c hc S => ?_⟩
          · simp only [hx, he, Bool.false_eq_true, if_false, if_true, Option.some.injEq] at h
            subst h
            rw [(withExp_cuts _ _).1, List.append_assoc, List.cons_append, (spanDigits_cuts t).1]
          · simp [matchMantissa, hx, he, (spanDigits_cuts t).2 c hc, (withExp_cuts _ _).2 c hc]
      · exact ⟨by simp [hx, hd], fun c hc S => by simp [matchMantissa, hx, hd]⟩

theorem matchNum_stable (c : Char) (hc : Inert c) (X S : List Char) :
    matchNum (X ++ c :: S) = (matchNum X).map (fun mr => (mr.1, mr.2 ++ c :: S)) := by
  unfold matchNum
  rw [(optSign_cuts X).2 c hc]
  exact (matchMantissa_cuts _ _).2 c hc S

theorem matchNum_splits {X m r : List Char} (h : matchNum X = some (m, r)) : m ++ r = X := by
  rw [(matchMantissa_cuts _ _).1 _ h]
  exact (optSign_cuts X).1

theorem matchNum_inert_head {c : Char} (hc : Inert c) (S : List Char) : matchNum (c :: S) = none := by
  have := matchNum_stable c hc [] S
  simpa [show matchNum [] = none from rfl] using this

theorem scan_skip_all (r : List Char) : ∀ (k : Nat) (acc : List Char), r.length ≤ k → scan r k acc = [.text acc] := by
  induction r with
  | nil => intro k acc _; cases k <;> rfl
  | cons x t ih =>
    intro k acc hk
    cases k with
    | zero => simp at hk
    | succ k' => simp only [scan]; exact ih k' acc (by simpa using hk)

/-- Scanning `X ++ c :: S` with `c` inert: the tokens produced inside `X` and the text pending at `c` do not depend
on `S`, and `S` is then scanned from scratch with that text pending. -/
theorem scan_stable (c : Char) (hc : Inert c) (X : List Char) :
    ∀ (skip : Nat) (acc : List Char), skip ≤ X.length →
      ∃ toks acc', ∀ S, scan (X ++ c :: S) skip acc = toks ++ scan S 0 (acc' ++ [c]) := by
  induction X with
  | nil =>
    intro skip acc hs
    have : skip = 0 := Nat.le_zero.mp hs
    subst this
    exact ⟨[], acc, fun S => by simp [scan, matchNum_inert_head hc S]⟩
  | cons x r ih =>
    intro skip acc hs
    cases skip with
    | succ k =>
      obtain ⟨toks, acc', h⟩ := ih k acc (Nat.le_of_succ_le_succ hs)
      exact ⟨toks, acc', fun S => by simp only [List.cons_append, scan]; exact h S⟩
    | zero =>
      cases hm : matchNum (x :: r) with
      | none =>
        obtain ⟨toks, acc', h⟩ := ih 0 (acc ++ [x]) (Nat.zero_le _)
        refine ⟨toks, acc', fun S => ?_⟩
        have := matchNum_stable c hc (x :: r) S
        rw [hm] at this
        simp only [List.cons_append, Option.map_none] at this
        simp only [List.cons_append, scan, this]
        exact h S
      | some mr =>
        obtain ⟨m, rest⟩ := mr
        have hlen : m.length - 1 ≤ r.length := by
          have := congrArg List.length (matchNum_splits hm)
          rw [List.length_append, List.length_cons] at this
          exact Nat.sub_le_of_le_add (this ▸ Nat.le_add_right _ _)
        obtain ⟨toks, acc', h⟩ := ih (m.length - 1) [] hlen
        refine ⟨.text acc :: .num m :: toks, acc', fun S => ?_⟩
        have := matchNum_stable c hc (x :: r) S
        rw [hm] at this
        simp only [List.cons_append, Option.map_some] at this
        simp only [List.cons_append, scan, this]
        rw [h S]

theorem tokens_after_inert (Q : List Char) {c : Char} (hc : Inert c) :
    ∃ toks A, ∀ S, tokens (Q ++ [c] ++ S) = toks ++ scan S 0 (A ++ [c]) := by
  obtain ⟨toks, A, h⟩ := scan_stable c hc Q 0 [] (Nat.zero_le _)
  exact ⟨toks, A, fun S => by rw [List.append_assoc]; exact h S⟩

theorem scan_inert (T : List Char) (hT : ∀ c ∈ T, Inert c) : ∀ acc, scan T 0 acc = [.text (acc ++ T)] := by
  induction T with
  | nil => intro acc; simp [scan]
  | cons x r ih =>
    intro acc
    simp only [scan, matchNum_inert_head (hT x List.mem_cons_self)]
    rw [ih (fun c hc => hT c (List.mem_cons_of_mem _ hc))]
    simp

/-- the regex consumes the whole string as one number -/
def FullMatch (l : List Char) : Prop := matchNum l = some (l, [])

theorem scan_fullMatch {l : List Char} (hm : FullMatch l) (A : List Char) :
    scan l 0 A = [.text A, .num l, .text []] := by
  unfold FullMatch at hm
  cases l with
  | nil => cases hm
  | cons x r =>
    simp only [scan, hm]
    rw [scan_skip_all r _ [] (by simp)]

theorem lastNum_append_num (K : List Tok) (A l : List Char) :
    lastNum (K ++ [.text A, .num l, .text []]) = some l := by
  induction K with
  | nil => simp [lastNum]
  | cons t r ih =>
    cases t with
    | text s => simpa [lastNum] using ih
    | num s => simp [lastNum, ih]

def AllDigits (l : List Char) : Prop := ∀ c ∈ l, isDigit c = true

def IsSign (s : List Char) : Prop := s = [] ∨ s = ['+'] ∨ s = ['-']

/-- `[-+]?\d+(\.\d*)?([eE][-+]?\d+)?`: what `str(int)` and `repr(float)` print for finite values
(`5`, `-3`, `0.5`, `100000.0`, `1e-05`, `-2.5e+16`) and a little more -/
def IsNumLit (l : List Char) : Prop :=
  ∃ sg ip fr ex, l = sg ++ (ip ++ (fr ++ ex)) ∧ IsSign sg ∧ ip ≠ [] ∧ AllDigits ip ∧
    (fr = [] ∨ ∃ fd, fr = '.' :: fd ∧ AllDigits fd) ∧
    (ex = [] ∨ ∃ e s ed, ex = e :: (s ++ ed) ∧ isExp e = true ∧ IsSign s ∧ ed ≠ [] ∧ AllDigits ed)

/-- `(\.\d*)?` as `IsNumLit` spells it -/
def IsFrac (fr : List Char) : Prop := fr = [] ∨ ∃ fd, fr = '.' :: fd ∧ AllDigits fd

/-- `([eE][-+]?\d+)?` as `IsNumLit` spells it -/
def IsExpo (ex : List Char) : Prop :=
  ex = [] ∨ ∃ e s ed, ex = e :: (s ++ ed) ∧ isExp e = true ∧ IsSign s ∧ ed ≠ [] ∧ AllDigits ed

theorem spanDigits_append {ip tail : List Char} (hip : AllDigits ip)
    (ht : ∀ c t, tail = c :: t → isDigit c = false) : spanDigits (ip ++ tail) = (ip, tail) := by
  induction ip with
  | nil =>
    cases tail with
    | nil => rfl
    | cons c t => simp [spanDigits, ht c t rfl]
  | cons x r ih =>
    have hx := hip x List.mem_cons_self
    have := ih (fun c hc => hip c (List.mem_cons_of_mem _ hc))
    simp [spanDigits, hx, this]

theorem spanDigits_all {l : List Char} (h : AllDigits l) : spanDigits l = (l, []) := by
  simpa using spanDigits_append (tail := []) h (fun _ _ h => by cases h)

theorem isSign_of_isDigit {c : Char} (h : isDigit c = true) : isSign c = false := by
  simp only [isDigit, isSign, Bool.and_eq_true, decide_eq_true_eq] at h ⊢
  by_cases h1 : c = '+'
  · subst h1; exact absurd h (by decide)
  · by_cases h2 : c = '-'
    · subst h2; exact absurd h (by decide)
    · simp [h1, h2]

theorem ne_dot_of_isDigit {c : Char} (h : isDigit c = true) : c ≠ '.' := by
  intro hc; subst hc; exact absurd h (by decide)

theorem not_digit_dot_of_isExp {c : Char} (h : isExp c = true) : isDigit c = false ∧ c ≠ '.' := by
  simp only [isExp, Bool.or_eq_true, decide_eq_true_eq] at h
  rcases h with rfl | rfl <;> decide

theorem optSign_append {s t : List Char} (hs : IsSign s) (ht : ∀ c r, t = c :: r → isSign c = false) :
    optSign (s ++ t) = (s, t) := by
  rcases hs with rfl | rfl | rfl
  · cases t with
    | nil => rfl
    | cons c r => simp [optSign, ht c r rfl]
  · simp [optSign, show isSign '+' = true from by decide]
  · simp [optSign, show isSign '-' = true from by decide]

theorem optSign_of_digit {l : List Char} (h : AllDigits l) : optSign l = ([], l) :=
  optSign_append (s := []) (Or.inl rfl) fun c _ e => isSign_of_isDigit (h c (e ▸ List.mem_cons_self))

theorem head_digit {l : List Char} (hne : l ≠ []) (hd : AllDigits l) : ∃ c r, l = c :: r ∧ isDigit c = true := by
  cases l with
  | nil => exact absurd rfl hne
  | cons c r => exact ⟨c, r, rfl, hd c List.mem_cons_self⟩

theorem expo_head {ex : List Char} (h : IsExpo ex) : ∀ c t, ex = c :: t → isDigit c = false ∧ c ≠ '.' := by
  intro c t hct
  rcases h with rfl | ⟨e, s, ed, rfl, he, _⟩
  · cases hct
  · cases hct; exact not_digit_dot_of_isExp he

theorem withExp_expo {ex : List Char} (h : IsExpo ex) (m : List Char) : withExp m ex = (m ++ ex, []) := by
  rcases h with rfl | ⟨e, s, ed, rfl, he, hs, hedne, hed⟩
  · simp [withExp]
  · obtain ⟨d1, ed', rfl, hd1⟩ := head_digit hedne hed
    have hso : optSign (s ++ d1 :: ed') = (s, d1 :: ed') :=
      optSign_append hs (fun c r h => by cases h; exact isSign_of_isDigit hd1)
    simp [withExp, he, hso, spanDigits_all hed]

theorem optFrac_frac {fr tail : List Char} (h : IsFrac fr)
    (ht : ∀ c t, tail = c :: t → isDigit c = false ∧ c ≠ '.') : optFrac (fr ++ tail) = (fr, tail) := by
  rcases h with rfl | ⟨fd, rfl, hfd⟩
  · cases tail with
    | nil => rfl
    | cons c t => simp [optFrac, (ht c t rfl).2]
  · simp [optFrac, spanDigits_append hfd (fun c t h => (ht c t h).1)]

/-- each piece of the regex takes its part, because the part after it starts with a character the piece does not
accept -/
theorem fullMatch_of_isNumLit {l : List Char} (h : IsNumLit l) : FullMatch l := by
  obtain ⟨sg, ip, fr, ex, rfl, hsg, hipne, hip, hfr, hex⟩ := h
  obtain ⟨d0, ip', rfl, hd0⟩ := head_digit hipne hip
  have hexh := expo_head hex
  have hfrh : ∀ c t, fr ++ ex = c :: t → isDigit c = false := by
    intro c t hct
    rcases hfr with rfl | ⟨fd, rfl, _⟩
    · exact (hexh c t hct).1
    · cases hct; decide
  unfold FullMatch matchNum
  rw [optSign_append hsg (fun c r h => by cases h; exact isSign_of_isDigit hd0)]
  rw [List.cons_append, matchMantissa, if_pos hd0, ← List.cons_append, spanDigits_append hip hfrh]
  simp only
  rw [optFrac_frac hfr hexh, withExp_expo hex]
  simp

theorem isDigit_digitChar (k : Nat) : isDigit (digitChar k) = true := by
  unfold digitChar
  split <;> decide

theorem digitVal_digitChar {k : Nat} (h : k < 10) : digitVal (digitChar k) = k :=
  (by decide : ∀ k, k < 10 → digitVal (digitChar k) = k) k h

theorem div_ten_lt {n : Nat} (h : ¬ n < 10) : n / 10 < n :=
  Nat.div_lt_self (Nat.lt_of_lt_of_le (by decide) (Nat.le_of_not_lt h)) (by decide)

theorem showNat_digits (n : Nat) : (∀ c ∈ showNat n, isDigit c = true) ∧ showNat n ≠ [] := by
  induction n using Nat.strongRecOn with
  | _ n ih =>
    rw [showNat]
    by_cases h : n < 10
    · simp [h, isDigit_digitChar]
    · simp only [h, dite_false]
      have := ih (n / 10) (div_ten_lt h)
      refine ⟨?_, by simp⟩
      intro c hc
      rcases List.mem_append.mp hc with h1 | h1
      · exact this.1 c h1
      · simp only [List.mem_singleton] at h1; subst h1; exact isDigit_digitChar _

theorem parseNat_append (xs : List Char) (d : Char) : parseNat (xs ++ [d]) = parseNat xs * 10 + digitVal d := by
  simp [parseNat, List.foldl_append]

theorem parseNat_showNat (n : Nat) : parseNat (showNat n) = n := by
  induction n using Nat.strongRecOn with
  | _ n ih =>
    rw [showNat]
    by_cases h : n < 10
    · simp [h, parseNat, digitVal_digitChar h]
    · simp only [h, dite_false]
      rw [parseNat_append, ih (n / 10) (div_ten_lt h), digitVal_digitChar (Nat.mod_lt _ (by decide))]
      exact Nat.div_add_mod' n 10

theorem isNumLit_showInt (n : Int) : IsNumLit (showInt n) := by
  cases n with
  | ofNat k =>
    exact ⟨[], showNat k, [], [], by simp [showInt], Or.inl rfl, (showNat_digits k).2, (showNat_digits k).1,
      Or.inl rfl, Or.inl rfl⟩
  | negSucc k =>
    exact ⟨['-'], showNat (k + 1), [], [], by simp [showInt], Or.inr (Or.inr rfl), (showNat_digits _).2,
      (showNat_digits _).1, Or.inl rfl, Or.inl rfl⟩

theorem fullMatch_showInt (n : Int) : FullMatch (showInt n) := fullMatch_of_isNumLit (isNumLit_showInt n)

theorem decOf_showInt (n : Int) : (decOf (showInt n)).e = 0 ∧ (decOf (showInt n)).signed = n := by
  cases n with
  | ofNat k =>
    obtain ⟨hd, _⟩ := showNat_digits k
    simp only [showInt, decOf, optSign_of_digit hd, spanDigits_all hd, optFrac, List.drop_nil, List.append_nil,
      parseNat_showNat, List.length_nil, Dec.signed]
    simp
  | negSucc k =>
    obtain ⟨hd, _⟩ := showNat_digits (k + 1)
    have : isSign '-' = true := by decide
    simp only [showInt, decOf, optSign, this, if_true, spanDigits_all hd, optFrac, List.drop_nil, List.append_nil,
      parseNat_showNat, List.length_nil, Dec.signed]
    simp [Int.negSucc_eq]

theorem strCmp_self (s : List Char) : strCmp s s = .eq := by
  induction s with
  | nil => rfl
  | cons a r ih => simp [strCmp, ih]

theorem strCmp_proper_prefix (A : List Char) (x : Char) (r : List Char) : strCmp A (A ++ x :: r) = .lt := by
  induction A with
  | nil => rfl
  | cons a t ih => simp [strCmp, ih]

theorem int_compare_self (a : Int) : compare a a = .eq := by
  exact Int.compare_eq_eq.mpr rfl

theorem elemCmp_self (k : KElem) : elemCmp k k = .eq := by
  cases k with
  | str s => exact strCmp_self s
  | num d => simp [elemCmp, decCmp]

theorem keyCmp_append_left (K x y : List KElem) : keyCmp (K ++ x) (K ++ y) = keyCmp x y := by
  induction K with
  | nil => rfl
  | cons k r ih => simp [keyCmp, elemCmp_self, ih]

theorem int_compare_ne_gt (a b : Int) : (compare a b != .gt) = decide (a ≤ b) := by
  rw [Bool.eq_iff_iff, bne_iff_ne, decide_eq_true_iff, Ne, Int.compare_eq_gt, Int.not_lt]

theorem int_compare_mul_right {x y c : Int} (hc : 0 < c) : compare (x * c) (y * c) = compare x y := by
  cases h : compare x y
  · exact Int.compare_eq_lt.mpr ((Int.mul_lt_mul_right hc).mpr (Int.compare_eq_lt.mp h))
  · exact Int.compare_eq_eq.mpr (by rw [Int.compare_eq_eq.mp h])
  · exact Int.compare_eq_gt.mpr ((Int.mul_lt_mul_right hc).mpr (Int.compare_eq_gt.mp h))

theorem scaled_eq (d : Dec) (E : Int) : d.scaled E = d.signed * ((10 ^ (d.e - E).toNat : Nat) : Int) := by
  unfold Dec.scaled Dec.signed
  cases d.neg
  · exact Int.natCast_mul _ _
  · simp only [if_true, Int.natCast_mul, Int.neg_mul]

theorem scaled_rescale (d : Dec) {E0 E1 : Int} (h01 : E0 ≤ E1) (h1 : E1 ≤ d.e) :
    d.scaled E0 = d.scaled E1 * ((10 ^ (E1 - E0).toNat : Nat) : Int) := by
  have hk : (d.e - E0).toNat = (d.e - E1).toNat + (E1 - E0).toNat := by
    rw [← Int.toNat_add (Int.sub_nonneg.mpr h1) (Int.sub_nonneg.mpr h01)]
    congr 1
    omega
  rw [scaled_eq, scaled_eq, hk, Nat.pow_add, Int.natCast_mul, Int.mul_assoc]

/-- `decCmp` compares the values: at ANY common exponent `E0` below both, it is the comparison of the two integers
`value · 10^(-E0)` (exponents at most 4096 apart: every pair of printed doubles) -/
theorem decCmp_eq_compare_scaled (a b : Dec) (hclose : (a.e - b.e).natAbs ≤ 4096) {E0 : Int}
    (ha : E0 ≤ a.e) (hb : E0 ≤ b.e) : decCmp a b = compare (a.scaled E0) (b.scaled E0) := by
  have key : ∀ emin, E0 ≤ emin → emin ≤ a.e → emin ≤ b.e →
      compare (a.scaled emin) (b.scaled emin) = compare (a.scaled E0) (b.scaled E0) := by
    intro emin h0 h1 h2
    rw [scaled_rescale a h0 h1, scaled_rescale b h0 h2,
      int_compare_mul_right (Int.natCast_pos.mpr (Nat.pow_pos (by decide)))]
  unfold decCmp
  by_cases he : a.e = b.e
  · rw [if_pos he, ← key b.e hb (Int.le_of_eq he.symm) (Int.le_refl _)]
    have hs : ∀ d : Dec, d.scaled d.e = d.signed := fun d => by
      rw [scaled_eq, Int.sub_self]; exact Int.mul_one _
    have : a.scaled b.e = a.signed := by rw [← he]; exact hs a
    rw [this, hs b]
  · rw [if_neg he, if_pos hclose]
    by_cases hle : a.e ≤ b.e
    · simp only [hle, if_true]; exact key a.e ha (Int.le_refl _) hle
    · simp only [hle, if_false]; exact key b.e hb (Int.le_of_lt (Int.not_le.mp hle)) (Int.le_refl _)

theorem insertBy_isInsert {α} (le : α → α → Bool) : IsInsert (fun a b => le b a = false) (insertBy le) :=
  ⟨fun _ => rfl, fun _ h => if_neg (ne_true_of_eq_false h), fun _ h => if_pos ((Bool.not_eq_false _).mp h)⟩

theorem sortBy_eq_foldr {α} (le : α → α → Bool) (l : List α) : sortBy le l = l.reverse.foldr (insertBy le) [] :=
  List.foldl_eq_foldr_reverse

theorem sortBy_map {α β} (f : α → β) (le : α → α → Bool) (le' : β → β → Bool)
    (h : ∀ a b, le' (f a) (f b) = le a b) (l : List α) :
    sortBy le' (l.map f) = (sortBy le l).map f := by
  rw [sortBy_eq_foldr, sortBy_eq_foldr, ← List.map_reverse]
  exact ((insertBy_isInsert le).sort_map (insertBy_isInsert le') f _ fun a _ b _ => by rw [h]).symm

theorem sortBy_perm {α} (le : α → α → Bool) (l : List α) : (sortBy le l).Perm l :=
  sortBy_eq_foldr le l ▸ ((insertBy_isInsert le).sort_perm _).trans l.reverse_perm

theorem mem_sortBy {α} (le : α → α → Bool) (x : α) (l : List α) : x ∈ sortBy le l ↔ x ∈ l :=
  (sortBy_perm le l).mem_iff

theorem sortBy_congr {α} (le le' : α → α → Bool) (l : List α) (h : ∀ a ∈ l, ∀ b ∈ l, le a b = le' a b) :
    sortBy le l = sortBy le' l := by
  rw [sortBy_eq_foldr, sortBy_eq_foldr]
  simpa using (insertBy_isInsert le).sort_map (insertBy_isInsert le') id l.reverse
    fun a ha b hb => by rw [id, id, h b (List.mem_reverse.mp hb) a (List.mem_reverse.mp ha)]

def intLe (a b : Int) : Bool := decide (a ≤ b)

/-- the order `sortBy` runs with: by the value `f` gives (`intLe` is the case `f = id`) -/
def keyLe {α} (f : α → Int) (a b : α) : Bool := decide (f a ≤ f b)

theorem sorted_sortBy_key {α} (f : α → Int) (l : List α) :
    (sortBy (keyLe f) l).Pairwise (fun x y => f x ≤ f y) :=
  sortBy_eq_foldr (keyLe f) l ▸ (insertBy_isInsert (keyLe f)).sort_pairwise
    (fun h => Int.le_of_lt (Int.not_le.mp (of_decide_eq_false h)))
    (fun h => of_decide_eq_true ((Bool.not_eq_false _).mp h)) Int.le_trans _

/-- If the keys of the names compare as the values `v` of what they name, for the members of the list, `natural_sort`
of the names is the stable sort by value: one theorem for every family of names (printed integers, printed floats). -/
theorem natSort_of_key {ι} (name : ι → List Char) (v : ι → Int) (xs : List ι)
    (h : ∀ a ∈ xs, ∀ b ∈ xs, keyCmp (natKey (name a)) (natKey (name b)) = compare (v a) (v b)) :
    natSort (xs.map name) = (sortBy (keyLe v) xs).map name ∧
    (sortBy (keyLe v) xs).Pairwise (fun x y => v x ≤ v y) ∧ (sortBy (keyLe v) xs).Perm xs := by
  refine ⟨?_, sorted_sortBy_key v xs, sortBy_perm _ xs⟩
  rw [natSort, sortBy_map name (fun a b => natLe (name a) (name b)) natLe (fun _ _ => rfl)]
  refine congrArg (List.map name) (sortBy_congr _ _ _ (fun a ha b hb => ?_))
  rw [natLe, h a ha b hb, int_compare_ne_gt]
  rfl

/-- under the hypothesis of `natSort_of_key`, the last name (what `latest_checkpoint` returns) names a member of
largest value -/
theorem natSort_last_of_key {ι} (name : ι → List Char) (v : ι → Int) (xs : List ι) (hne : xs ≠ [])
    (h : ∀ a ∈ xs, ∀ b ∈ xs, keyCmp (natKey (name a)) (natKey (name b)) = compare (v a) (v b)) :
    ∃ m ∈ xs, (∀ x ∈ xs, v x ≤ v m) ∧ (natSort (xs.map name)).getLast? = some (name m) := by
  obtain ⟨h1, h2, h3⟩ := natSort_of_key name v xs h
  cases hl : (sortBy (keyLe v) xs).getLast? with
  | none => rw [List.getLast?_eq_none_iff.mp hl] at h3; exact absurd h3.symm.eq_nil hne
  | some m =>
    exact ⟨m, h3.mem_iff.mp (List.mem_of_getLast? hl),
      fun x hx => (Lists.pairwise_getLast h2 hl x (h3.mem_iff.mpr hx)).elim (fun e => e ▸ Int.le_refl _) id,
      by rw [h1, List.getLast?_map, hl]; rfl⟩

end Flax.NatSort
