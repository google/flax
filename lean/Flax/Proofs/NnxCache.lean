/-
The trace cache of `nnx.jit`.  The output graphdefs of the traced function (and whether tracing fails) depend on the input
graphdefs only (`pureRun_shape`, from the erasure lemmas), and the graphdefs fix the shape of the leaves, so a cache entry
made for one heap is valid for every heap with the same key.
-/
import Flax.Proofs.NnxErase
import Flax.Proofs.NnxCanon

namespace Flax.Nnx
open Flax.Heap Flax.Graph

def eP : Except Err (List ODef × List (List Leaf)) → Except Err (List ODef × List (List Leaf)) :=
  Except.map fun o => (o.1, o.2.map (fun ls => ls.map eLeaf))

theorem clearArg_ePV (v : PVal) : ePV (clearArg v) = clearArg (ePV v) := by cases v <;> rfl

theorem convLeaves_eFS (raw : Bool) (fs : FlatState) : (convLeaves raw fs).map eLeaf = convLeaves raw (eFS fs) := by
  simp only [convLeaves, eFS, List.map_map]
  apply List.map_congr_left
  intro it _
  obtain ⟨p, l⟩ := it
  cases raw <;> cases l <;> rfl

theorem pureRun_shape (raw keep : Bool) (f : Fn) (pre : List PVal) (gds : List GDef) (lss lss' : List (List Leaf))
    (hs : lss.map (fun ls => ls.map eLeaf) = lss'.map (fun ls => ls.map eLeaf)) :
    eP (pureRun raw keep f pre gds lss) = eP (pureRun raw keep f pre gds lss') := by
  have hU : eUR (unflattenRootsO noReuse (gds.map (stampWith (fun _ => Option.none))) lss [] []) =
      eUR (unflattenRootsO noReuse (gds.map (stampWith (fun _ => Option.none))) lss' [] []) := by
    rw [← unflattenRoots_erase, ← unflattenRoots_erase, hs]
  unfold pureRun
  -- each stage (inner merge, body, inner split) commutes with erasure: the runs fail alike or again agree after erasure
  refine (map_eq_map hU).elim (fun ⟨a, G, ir⟩ ⟨a', G', ir'⟩ _ _ hp => ?_) (fun _ _ _ => rfl)
  simp only [Prod.mk.injEq] at hp
  obtain ⟨ha, hG, rfl⟩ := hp
  dsimp only
  refine (map_eq_map (runFn_erase f G G' (pre ++ a) (pre ++ a') hG (by simp [ha]))).elim
    (fun ⟨r, G3⟩ ⟨r', G3'⟩ _ _ hq => ?_) (fun _ _ _ => rfl)
  simp only [Prod.mk.injEq] at hq
  obtain ⟨hr, hG3⟩ := hq
  dsimp only
  have hroots : ((if keep then a.map clearArg else []) ++ r).map ePV = ((if keep then a'.map clearArg else []) ++ r').map ePV := by
    cases keep
    · simpa using hr
    · simp only [if_true, List.map_append, List.map_map, hr]
      congr 1
      have : (ePV ∘ clearArg) = (clearArg ∘ ePV) := funext clearArg_ePV
      rw [this, ← List.map_map, ← List.map_map, ha]
  have hR : eRoots (flattenRoots G3 ((if keep then a.map clearArg else []) ++ r) []) =
      eRoots (flattenRoots G3' ((if keep then a'.map clearArg else []) ++ r') []) := by
    rw [← flattenRoots_erase, ← flattenRoots_erase, hG3, hroots]
  refine (map_eq_map hR).elim (fun ⟨g, fss, idx⟩ ⟨g', fss', idx'⟩ _ _ hk => ?_) (fun _ _ _ => rfl)
  simp only [Prod.mk.injEq] at hk
  obtain ⟨rfl, hf, rfl⟩ := hk
  simp only [eP, Except.map, List.map_map]
  congr 2
  have : ∀ (l : List FlatState), l.map ((fun ls => ls.map eLeaf) ∘ convLeaves raw) = (l.map eFS).map (convLeaves raw) := by
    intro l
    rw [List.map_map]
    apply List.map_congr_left
    intro fs _
    simp [convLeaves_eFS]
  rw [this, this, hf]

mutual
  /-- the (erased, raw) leaves a graphdef announces -/
  def leafShape : GDef → List Leaf
    | .var _ _ _ => [.arr 0]
    | .array => [.arr 0]
    | .node _ _ attrs => leafShapeAttrs attrs
    | _ => []
  def leafShapeAttrs : List (Key × GDef) → List Leaf
    | [] => []
    | (_, g) :: rest => leafShape g ++ leafShapeAttrs rest
end

theorem flatten_leafShape (g : Heap) : ∀ fuel : Nat,
    (∀ path v idx gd ls idx', flattenVal fuel g path v idx = .ok (gd, ls, idx') →
      (convLeaves true ls).map eLeaf = leafShape gd) ∧
    (∀ path items idx gs ls idx', flattenItems fuel g path items idx = .ok (gs, ls, idx') →
      (convLeaves true ls).map eLeaf = leafShapeAttrs gs) := by
  refine flatten_induct g (P := fun _ _ _ _ gd ls _ => (convLeaves true ls).map eLeaf = leafShape gd)
    (Q := fun _ _ _ _ gs ls _ => (convLeaves true ls).map eLeaf = leafShapeAttrs gs) ?_ ?_ ?_ ?_ ?_ ?_ ?_ ?_ ?_ ?_
  · exact fun _ _ _ _ => rfl
  · exact fun _ _ _ _ => rfl
  · exact fun _ _ _ => rfl
  · exact fun _ _ _ _ _ _ _ _ _ h => h
  · exact fun _ _ _ _ _ _ _ _ h => h
  · exact fun _ _ _ _ _ _ => rfl
  · exact fun _ _ _ _ _ _ _ _ _ => rfl
  · exact fun _ _ _ _ _ _ _ _ _ _ _ _ h => h
  · exact fun _ _ _ => rfl
  · intro _ _ _ _ _ _ _ _ _ _ _ _ _ _ h1 h2
    rw [leafShapeAttrs, convLeaves_append, List.map_append, h1, h2]

theorem flatRoots_leafShape {g : Heap} {vs : List PVal} {idx : RefIndex} {gds fss idx'} (h : FlatRoots g vs idx gds fss idx') :
    (fss.map (convLeaves true)).map (fun ls => ls.map eLeaf) = gds.map leafShape := by
  induction h with
  | nil _ => rfl
  | cons heq _ ih => simp only [List.map_cons, (flatten_leafShape g _).1 _ _ _ _ _ _ heq, ih]

/-- an entry was produced by a successful trace of `f` on some leaves of the shape its key announces -/
def EntryOK (f : Fn) (t : Traced) : Prop :=
  ∃ (gds : List GDef) (lssA lssO : List (List Leaf)), t.key = gds.map (stampWith (fun _ => Option.none)) ∧
    lssA.map (fun ls => ls.map eLeaf) = gds.map leafShape ∧ pureRun true true f [] gds lssA = .ok (t.outDefs, lssO)

def CacheOK (f : Fn) (c : JitCache) : Prop := ∀ t ∈ c.entries, EntryOK f t

theorem cacheOK_empty (f : Fn) (n : Nat) : CacheOK f { entries := [], traces := n } := fun t ht => by simp at ht

/-- `step4` on the cached (hit) or the traced (miss) output structure; the cache changes on a miss only -/
theorem jitCached_eq {f : Fn} {c : JitCache} {h : Heap} {args : List PVal} {gds : List GDef} {lss : List (List Leaf)}
    {idx1 : RefIndex} (hs1 : step1 true h args = .ok (gds, lss, idx1)) :
    jitCached f c h args =
      let fin (g : List ODef) (l : List (List Leaf)) : Except Err (List PVal × Heap) :=
        (step4 h idx1 g l).map fun r => (r.1.drop args.length, r.2)
      match c.entries.find? (fun t => decide (t.key = gds.map (stampWith (fun _ => Option.none)))),
          pureRun true true f [] gds lss with
      | some _, .error e => (.error e, c)
      | some t, .ok o => (fin t.outDefs o.2, c)
      | Option.none, .error e => (.error e, { c with traces := c.traces + 1 })
      | Option.none, .ok o =>
        (fin o.1 o.2, ⟨c.entries ++ [⟨gds.map (stampWith (fun _ => Option.none)), o.1⟩], c.traces + 1⟩) := by
  unfold jitCached
  rw [hs1]
  dsimp only
  cases c.entries.find? (fun t => decide (t.key = gds.map (stampWith (fun _ => Option.none)))) <;>
    cases pureRun true true f [] gds lss with
    | error e => rfl
    | ok o => dsimp only; cases step4 h idx1 _ o.2 <;> rfl

theorem jitCached_sound (f : Fn) (c : JitCache) (h : Heap) (args : List PVal) (hc : CacheOK f c) :
    (jitCached f c h args).1 = jitCall f h args ∧ CacheOK f (jitCached f c h args).2 := by
  cases hs1 : step1 true h args with
  | error e => simp only [jitCached, jitCall, protoCall, hs1]; exact ⟨trivial, hc⟩
  | ok r =>
    obtain ⟨gds, lss, idx1⟩ := r
    have hshape : lss.map (fun ls => ls.map eLeaf) = gds.map leafShape := by
      obtain ⟨fss, hF, rfl⟩ := step1_flat hs1
      exact flatRoots_leafShape hF
    have hj : jitCall f h args = match pureRun true true f [] gds lss with
        | .error e => .error e
        | .ok o => (step4 h idx1 o.1 o.2).map fun r => (r.1.drop args.length, r.2) := by
      simp only [jitCall_eq, protoCall, hs1]
      cases pureRun true true f [] gds lss <;> rfl
    rw [jitCached_eq hs1, hj]
    cases hfind : c.entries.find? (fun t => decide (t.key = gds.map (stampWith (fun _ => Option.none)))) with
    | some t =>
      have htm : t ∈ c.entries := List.mem_of_find?_eq_some hfind
      have htk : t.key = gds.map (stampWith (fun _ => Option.none)) := by simpa using List.find?_some hfind
      obtain ⟨gdsA, lssA, lssOA, hk, hsh, hpr⟩ := hc t htm
      have hg : gdsA = gds := stamp_inj_defs (hk.symm.trans htk)
      subst hg
      -- a hit: the entry was traced on leaves of the shape the key announces, and so are this call's leaves
      have hP := pureRun_shape true true f [] gdsA lss lssA (hshape.trans hsh.symm)
      rw [hpr] at hP
      cases hnow : pureRun true true f [] gdsA lss with
      | error e => rw [hnow] at hP; simp [eP, Except.map] at hP
      | ok p =>
        rw [hnow] at hP
        simp only [eP, Except.map, Except.ok.injEq, Prod.mk.injEq] at hP
        exact ⟨by dsimp only; rw [hP.1], hc⟩
    | none =>
      cases hnow : pureRun true true f [] gds lss with
      | error e => exact ⟨rfl, hc⟩
      | ok p =>
        refine ⟨rfl, fun t ht => ?_⟩
        simp only [List.mem_append, List.mem_singleton] at ht
        rcases ht with ht | rfl
        · exact hc t ht
        · exact ⟨gds, lss, p.2, rfl, hshape, hnow⟩

theorem jitCached_traces (f : Fn) (c : JitCache) (h : Heap) (args : List PVal) (gds : List GDef) (lss : List (List Leaf))
    (idx1 : RefIndex) (hs1 : step1 true h args = .ok (gds, lss, idx1)) :
    (jitCached f c h args).2.traces =
      if (c.entries.find? (fun t => decide (t.key = gds.map (stampWith (fun _ => Option.none))))).isSome then c.traces
      else c.traces + 1 := by
  rw [jitCached_eq hs1]
  cases c.entries.find? (fun t => decide (t.key = gds.map (stampWith (fun _ => Option.none)))) <;>
    cases pureRun true true f [] gds lss <;> rfl

/-- a history of calls of the SAME jitted function on arbitrary heaps (the caller may edit anything between calls) -/
def callsFrom (f : Fn) : JitCache → List (Heap × List PVal) → List (Except Err (List PVal × Heap))
  | _, [] => []
  | c, (h, args) :: rest => (jitCached f c h args).1 :: callsFrom f (jitCached f c h args).2 rest

theorem callsFrom_sound (f : Fn) : ∀ (calls : List (Heap × List PVal)) (c : JitCache), CacheOK f c →
    callsFrom f c calls = calls.map (fun p => jitCall f p.1 p.2)
  | [], _, _ => rfl
  | (h, args) :: rest, c, hc => by
    obtain ⟨h1, h2⟩ := jitCached_sound f c h args hc
    simp only [callsFrom, List.map_cons, h1, callsFrom_sound f rest _ h2]

theorem cachedPartialCall_eq {f : Fn} {ncached : Nat} {h : Heap} {args : List PVal} {gds : List GDef} {lss : List (List Leaf)}
    {idx1 : RefIndex} {gdsO : List ODef} {lssO : List (List Leaf)} (hs1 : step1 true h args = .ok (gds, lss, idx1))
    (hpr : pureRun true true f [] gds lss = .ok (gdsO, lssO)) :
    cachedPartialCall f ncached h args =
      if gdsO.take ncached = (gds.take ncached).map (stampWith (fun i => some i)) then jitCall f h args
      else .error .cacheMutated := by
  unfold cachedPartialCall jitCall protoCall
  rw [hs1]
  simp only [hpr]

end Flax.Nnx
