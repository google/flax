/- C06: a comparison made on one leaf is carried through collections and groups by the composition of
   traversals (`opt_mapE_bind`); collecting the per-iteration outputs only depends on the stacking primitive's
   success and result -/
import Flax.Model.LiftLoop
import Flax.Proofs.LiftLoopLeaf

namespace Flax.LiftLoop
variable {α : Type}

theorem mapE_error_opt {β γ δ : Type} {f : β → Except Err γ} {h : β → Except Err δ}
    (hf : ∀ x e, f x = .error e → opt (h x) = none) (l : List β) (e : Err) (hl : mapE f l = .error e) :
    opt (mapE h l) = none := by
  cases hh : mapE h l with
  | error _ => rfl
  | ok r =>
    -- every `h x` returned, so no `f x` failed, and the traversal with `f` returns
    obtain ⟨r', hr'⟩ := mapM_ok_of_forall (f := f) l fun x hx => by
      obtain ⟨y, hy, _⟩ := mapM_ok_mem (mapE_eq_mapM h l ▸ hh) x hx
      cases hfx : f x with
      | ok z => exact ⟨z, rfl⟩
      | error e' => have := hf x e' hfx; rw [hy] at this; cases this
    rw [← mapE_eq_mapM, hl] at hr'
    cases hr'

theorem onSnd_of_ok {κ β γ : Type} {f : β → Except Err γ} {p : κ × β} {b : γ} (h : f p.2 = .ok b) :
    onSnd f p = .ok (p.1, b) := by simp [onSnd, h]

theorem onSnd_of_error {κ β γ : Type} {f : β → Except Err γ} {p : κ × β} {e : Err} (h : f p.2 = .error e) :
    (onSnd f p : Except Err (κ × γ)) = .error e := by simp [onSnd, h]

theorem opt_onSnd {κ β γ : Type} (f : β → Except Err γ) (p : κ × β) :
    opt (onSnd f p) = (opt (f p.2)).map (fun b => (p.1, b)) := by
  unfold onSnd
  cases f p.2 <;> rfl

theorem onSnd_bind {κ β γ δ : Type} (f : β → Except Err γ) (g : γ → Except Err δ) (p : κ × β) :
    (onSnd f p >>= onSnd g) = onSnd (fun b => f b >>= g) p := by
  unfold onSnd
  dsimp only
  cases f p.2 <;> rfl

theorem opt_onSnd_bind {κ β γ δ : Type} {f : β → Except Err γ} {g : γ → Except Err δ} {h : β → Except Err δ}
    (p : κ × β) (hfg : opt (f p.2 >>= g) = opt (h p.2)) :
    opt (onSnd f p >>= onSnd g) = opt (onSnd h p) := by
  rw [onSnd_bind, opt_onSnd, opt_onSnd, hfg]

theorem Vars.opt_mapE_bind {f g h : Arr α → Except Err (Arr α)} (hfg : ∀ a, opt (f a >>= g) = opt (h a))
    (v : Vars α) : opt (Vars.mapE f v >>= Vars.mapE g) = opt (Vars.mapE h v) :=
  LiftLoop.opt_mapE_bind v fun cc _ => opt_onSnd_bind cc <|
    LiftLoop.opt_mapE_bind cc.2 fun nv _ => opt_onSnd_bind nv (hfg nv.2)

theorem mapE_onSnd_values {κ β γ : Type} {f : β → Except Err γ} : ∀ (c : List (κ × β)),
    (LiftLoop.mapE (onSnd f) c).map (fun r => r.map (·.2)) = LiftLoop.mapE f (c.map (·.2)) := by
  intro c
  induction c with
  | nil => rfl
  | cons x xs ih =>
    simp only [LiftLoop.mapE, List.map_cons, onSnd]
    cases hx : f x.2 with
    | error e => rfl
    | ok b =>
      simp only []
      rw [← ih]
      cases LiftLoop.mapE (onSnd f) xs <;> rfl

theorem Vars.leaves_mapE {f : Arr α → Except Err (Arr α)} : ∀ (v : Vars α),
    (Vars.mapE f v).map Vars.leaves = LiftLoop.mapE f (Vars.leaves v)
  | [] => rfl
  | x :: xs => by
    -- the leaves of `x :: xs` are the values of `x`'s collection, then the leaves of `xs`; both sides traverse them in turn
    rw [Vars.leaves, List.flatMap_cons, mapE_append, ← mapE_onSnd_values, ← Vars.leaves, ← Vars.leaves_mapE xs]
    simp only [Vars.mapE, LiftLoop.mapE, onSnd, Col.mapE]
    cases LiftLoop.mapE (onSnd f) x.2 with
    | error e => rfl
    | ok c => cases LiftLoop.mapE (onSnd (Col.mapE f)) xs <;> rfl

theorem Vars.mapE_bind_leaves {γ : Type} (f : Arr α → Except Err (Arr α)) (k : List (Arr α) → Except Err γ)
    (v : Vars α) : (Vars.mapE f v >>= fun v' => k (Vars.leaves v')) = (LiftLoop.mapE f (Vars.leaves v) >>= k) := by
  rw [← Vars.leaves_mapE]
  cases Vars.mapE f v <;> rfl

/-- a stacking primitive: shape, per-iteration values ↦ stacked array -/
abbrev Stk (α : Type) := List Nat → List (Arr α) → Except Err (Arr α)

theorem stackList_opt (s1 s2 : Stk α) (h : ∀ sh ls, opt (s1 sh ls) = opt (s2 sh ls)) (k : Nat)
    (outs : List (List (Arr α))) : opt (stackList s1 k outs) = opt (stackList s2 k outs) := by
  unfold stackList
  cases outs with
  | nil => rfl
  | cons o0 rest =>
    simp only [opt_bind]
    congr 1
    funext a0
    congr 1
    funext ls
    exact h _ _

theorem stackCols_opt (s1 s2 : Stk α) (h : ∀ sh ls, opt (s1 sh ls) = opt (s2 sh ls))
    (cs : List (Col α)) : opt (stackCols s1 cs) = opt (stackCols s2 cs) := by
  unfold stackCols
  cases cs with
  | nil => rfl
  | cons c0 rest =>
    simp only []
    split
    · apply opt_mapE_congr
      intro nv _
      simp only [opt_bind]
      congr 1
      funext ls
      rw [h]
    · rfl

theorem stackVars_opt (s1 s2 : Stk α) (h : ∀ sh ls, opt (s1 sh ls) = opt (s2 sh ls))
    (vs : List (Vars α)) : opt (stackVars s1 vs) = opt (stackVars s2 vs) := by
  unfold stackVars
  cases vs with
  | nil => rfl
  | cons v0 rest =>
    simp only []
    split
    · apply opt_mapE_congr
      intro cc _
      simp only [opt_bind]
      congr 1
      funext cs
      rw [stackCols_opt s1 s2 h]
    · rfl

theorem collectOuts_opt (k1 k2 : Int → Stk α) (h : ∀ ax sh ls, opt (k1 ax sh ls) = opt (k2 ax sh ls))
    (oy : List (Option Int)) (ov : List Int) (consts : List (Arr α))
    (outs : List (List (Arr α) × List (Vars α))) :
    opt (collectOuts k1 oy ov consts outs) = opt (collectOuts k2 oy ov consts outs) := by
  unfold collectOuts
  simp only [opt_bind]
  have e1 : opt (mapE (collectY k1 consts outs) ((List.range oy.length).zip oy)) =
      opt (mapE (collectY k2 consts outs) ((List.range oy.length).zip oy)) := by
    apply opt_mapE_congr
    intro p _
    unfold collectY
    cases p.2 with
    | none => rfl
    | some ax => exact stackList_opt _ _ (h ax) _ _
  have e2 : opt (mapE (collectV k1 outs) ((List.range ov.length).zip ov)) =
      opt (mapE (collectV k2 outs) ((List.range ov.length).zip ov)) := by
    apply opt_mapE_congr
    intro p _
    exact stackVars_opt _ _ (h p.2) _
  rw [e1, e2]

section
variable [Inhabited α]
set_option linter.unusedSectionVars false

theorem Vars.mapE_error_opt {f h : Arr α → Except Err (Arr α)}
    (hf : ∀ a e, f a = .error e → opt (h a) = none) (v : Vars α) (e : Err) (hv : Vars.mapE f v = .error e) :
    opt (Vars.mapE h v) = none := by
  have hl := LiftLoop.mapE_error_opt hf (Vars.leaves v) e (by rw [← Vars.leaves_mapE, hv]; rfl)
  rw [← Vars.leaves_mapE] at hl
  cases hh : Vars.mapE h v with
  | error _ => rfl
  | ok v' => rw [hh] at hl; cases hl

end

end Flax.LiftLoop
