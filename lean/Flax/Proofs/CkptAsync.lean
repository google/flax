/-
The AsyncManager machine of the checkpoint model (C11): what every enabled move preserves holds along every schedule
(`aexec_invariant`).  With the wait (`amove true`, all the rest): an enabled move is one of three (`amove_cases`); what
is still to happen never changes (`finish`); the directory is a crash state of the running save, hence reachable (`AInv`).
-/
import Flax.Proofs.Ckpt

namespace Flax.Ckpt

theorem amove_cases {m : Move} {st st' : AState} (h : amove true m st = some st') :
    (∃ x r, st.pending = x :: r ∧ st' = { st with dir := apply x st.dir, pending := r }) ∨
    (st.pending = [] ∧ ∃ c q, st.queue = c :: q ∧
      ((∃ e, saveSteps c st.dir = .error e ∧ st' = { st with queue := q, errs := st.errs ++ [some e] }) ∨
       (∃ steps, saveSteps c st.dir = .ok steps ∧
          st' = { st with queue := q, pending := steps, errs := st.errs ++ [none] }))) := by
  cases m with
  | worker =>
    simp only [amove] at h
    split at h
    · cases h
    · exact Or.inl ⟨_, _, ‹_›, (Option.some.inj h).symm⟩
  | caller =>
    simp only [amove] at h
    split at h
    · cases h
    · rename_i c q hq
      cases hp : st.pending with
      | cons x r => simp [hp] at h
      | nil =>
        refine Or.inr ⟨rfl, c, q, hq, ?_⟩
        simp only [hp, List.isEmpty_nil, Bool.not_true, Bool.and_false, Bool.false_eq_true, if_false,
          List.nil_append] at h
        split at h
        · exact Or.inl ⟨_, ‹_›, (Option.some.inj h).symm⟩
        · exact Or.inr ⟨_, ‹_›, (Option.some.inj h).symm⟩

theorem aexec_invariant {waits : Bool} {P : AState → Prop}
    (h : ∀ m st st', P st → amove waits m st = some st' → P st') (sched : List Move) :
    ∀ st, P st → P (aexec waits sched st) := by
  induction sched with
  | nil => exact fun _ h0 => h0
  | cons m ms ih =>
    intro st h0
    rw [aexec]
    cases hm : amove waits m st with
    | none => exact ih st h0
    | some st' => exact ih st' (h m st st' h0 hm)

/-- what is still to happen in a state: the pending steps, then the queued saves one after the other; the directory
and the errors this ends with -/
def finish (st : AState) : Dir × List (Option Err) :=
  (runHistory st.queue (run st.pending st.dir), st.errs ++ historyErrs st.queue (run st.pending st.dir))

theorem finish_ainit (d : Dir) (q : List Cfg) : finish (ainit d q) = (runHistory q d, historyErrs q d) := rfl

theorem finish_of_done {st : AState} (h : st.done = true) : finish st = (st.dir, st.errs) := by
  simp only [AState.done, Bool.and_eq_true, List.isEmpty_iff] at h
  simp [finish, h.1, h.2, run_nil, runHistory, historyErrs]

theorem finish_move {m : Move} {st st' : AState} (h : amove true m st = some st') : finish st' = finish st := by
  rcases amove_cases h with ⟨x, r, hp, rfl⟩ | ⟨hp, c, q, hq, ⟨e, hs, rfl⟩ | ⟨steps, hs, rfl⟩⟩
  · simp [finish, hp, run_cons]
  · simp [finish, hq, hp, run_nil, runHistory, historyErrs, save, hs]
  · simp [finish, hq, hp, run_nil, runHistory, historyErrs, save, hs]

theorem finish_aexec (sched : List Move) (st : AState) : finish (aexec true sched st) = finish st :=
  aexec_invariant (P := fun st' => finish st' = finish st) (fun _ _ _ h0 hm => (finish_move hm).trans h0) sched st rfl

/-- The worker is idle on a reachable directory, or it is part-way through the steps of a legacy save that started on
one.  The running save is split into the steps done and the steps pending, so the directory is a crash state of that
save whatever the worker has got to. -/
def AInv (st : AState) : Prop :=
  (∀ c ∈ st.queue, c.backend = .legacy) ∧
  ((st.pending = [] ∧ C11.Reachable st.dir) ∨
   ∃ d0 cfg done, C11.Reachable d0 ∧ cfg.backend = .legacy ∧ saveSteps cfg d0 = .ok (done ++ st.pending) ∧
      st.dir = run done d0)

theorem AInv.dir {st : AState} (h : AInv st) : C11.Reachable st.dir := by
  rcases h.2 with ⟨_, h⟩ | ⟨d0, cfg, done, hr, hb, hs, hd⟩
  · exact h
  · have : st.dir = crashed cfg d0 done.length := by rw [crashed, hs, hd]; simp only [List.take_left]
    exact this ▸ C11.Reachable.crashedLegacy _ hr hb

theorem AInv.move {m : Move} {st st' : AState} (hI : AInv st) (h : amove true m st = some st') : AInv st' := by
  rcases amove_cases h with ⟨x, r, hp, rfl⟩ | ⟨hp, c, q, hq, hs⟩
  · refine ⟨hI.1, ?_⟩
    rcases hI.2 with ⟨h0, _⟩ | ⟨d0, cfg, done, hr, hb, hs, hd⟩
    · rw [h0] at hp; cases hp
    · exact Or.inr ⟨d0, cfg, done ++ [x], hr, hb, by rw [hs, hp, List.append_cons],
        by rw [run_append, ← hd]; rfl⟩
  · have hq' : ∀ c' ∈ q, c'.backend = .legacy := fun c' hc' => hI.1 c' (hq ▸ List.mem_cons_of_mem _ hc')
    have hr := hI.dir
    rcases hs with ⟨e, _, rfl⟩ | ⟨steps, hs, rfl⟩
    · exact ⟨hq', Or.inl ⟨hp, hr⟩⟩
    · exact ⟨hq', Or.inr ⟨st.dir, c, [], hr, hI.1 c (hq ▸ List.mem_cons_self), hs, rfl⟩⟩

/-- every directory a reader can see while asynchronous legacy saves run is one a crash could have left -/
theorem aexec_dir (sched : List Move) {d : Dir} {q : List Cfg} (hd : C11.Reachable d)
    (hq : ∀ c ∈ q, c.backend = .legacy) : C11.Reachable (aexec true sched (ainit d q)).dir :=
  (aexec_invariant (P := AInv) (fun _ _ _ hI hm => hI.move hm) sched _ ⟨hq, Or.inl ⟨rfl, hd⟩⟩).dir

end Flax.Ckpt
