/- C08 proofs: the results of the traced function, for `nnx.vmap` and `nnx.scan` alike: the inner `to_tree` on one
result, a column of results over the indices / iterations put together (`vmap_collect_out`), the results position by
position over a collector. -/
import Flax.Proofs.NnxLoopCollect

namespace Flax.NnxLoop
open Flax.Filter Flax.LiftLoop

theorem splitOut_ok_iff {α : Type} {q : Prefix} {o : Out α} {po : PureOut α} :
    splitOut (q, o) = .ok po ↔
      (∃ a, o = .arr a ∧ po = .arr q a) ∨
      ∃ n sts, o = .node n ∧ (∀ x ∈ n, ∃ a, q.at ⟨x.1, 0, x.2.1⟩ = .ok a) ∧ splitFlat q n = .ok sts ∧
        po = .node q (n.map (fun x => (x.1, x.2.1))) sts := by
  cases o with
  | arr a =>
    constructor
    · intro h; exact .inl ⟨a, rfl, (Except.ok.inj h).symm⟩
    · rintro (⟨a', h, rfl⟩ | ⟨n, sts, h, _⟩) <;> cases h
      rfl
  | argRef k =>
    constructor
    · intro h; cases h
    · rintro (⟨a', h, _⟩ | ⟨n, sts, h, _⟩) <;> cases h
  | node vs =>
    simp only [splitOut]
    constructor
    · intro h
      cases h1 : mapX (fun x => q.at ⟨x.1, 0, x.2.1⟩) vs with
      | error e => simp [h1] at h
      | ok l =>
        simp only [h1] at h
        cases h2 : splitFlat q vs with
        | error e => simp [h2] at h
        | ok sts =>
          simp only [h2] at h
          exact .inr ⟨vs, sts, rfl, fun x hx => let ⟨a, ha, _⟩ := mapX_ok_mem h1 x hx; ⟨a, ha⟩, h2,
            (Except.ok.inj h).symm⟩
    · rintro (⟨a, h, _⟩ | ⟨n, sts, h, hat, hs, rfl⟩) <;> cases h
      obtain ⟨l, hl⟩ := mapX_ok_of_forall (f := fun (x : Path × VarInfo × Arr α) => q.at ⟨x.1, 0, x.2.1⟩) vs hat
      simp only [hl, hs]

theorem splitOut_arr {α : Type} {q : Prefix} {o : Out α} {po : PureOut α} (h : splitOut (q, o) = .ok po) :
    outArr po = Out.arr? o := by
  rcases splitOut_ok_iff.1 h with ⟨a, rfl, rfl⟩ | ⟨n, sts, rfl, _, _, rfl⟩ <;> rfl

theorem vmapCollectOut_arr {α : Type} [Inhabited α] {q : Prefix} {a0 : Arr α} {orest : List (Out α)}
    {col : List (PureOut α)} {out : Out α} (harr : mapX outArr col = mapX Out.arr? (.arr a0 :: orest)) :
    vmapCollectOut (.arr q a0) col = .ok out ↔ collectOut q (.arr a0 :: orest) = .ok out := by
  cases q with
  | sa s => simp [vmapCollectOut, collectOut]
  | ax a =>
    cases hm : mapX Out.arr? (Out.arr a0 :: orest) with
    | error e => cases a <;> simp [vmapCollectOut, collectOut, harr, hm]
    | ok vs =>
      obtain ⟨v0, vt, h0, _, rfl⟩ := mapX_cons_ok hm
      cases h0
      cases a with
      | carry => simp [vmapCollectOut, collectOut, hm, collectVal]
      | bcast => simp [vmapCollectOut, collectOut, harr, hm, collectVal]
      | axis k =>
        simp only [vmapCollectOut, collectOut, harr, hm, collectVal]
        cases liftL (stackAt k a0.shape (a0 :: vt)) <;> simp

theorem nodes_of_col {α : Type} {q : Prefix} {ocol : List (Out α)} {col : List (PureOut α)}
    {rows : List (List (State α))}
    (h1 : mapX (fun o => splitOut (q, o)) ocol = .ok col) (h2 : mapX outStates col = .ok rows) :
    ∃ nodes, mapX Out.node? ocol = .ok nodes ∧ mapX (splitFlat q) nodes = .ok rows := by
  refine mapX_comp_ok ((mapX_through h1 fun o _ po hpo => ?_).symm.trans h2)
  rcases splitOut_ok_iff.1 hpo with ⟨a, rfl, rfl⟩ | ⟨n, sts, rfl, _, hs, rfl⟩
  · rfl
  · exact hs.symm

theorem node_col {α : Type} {q : Prefix} {n0 : Flat α} {orest : List (Out α)} {p0 : PureOut α}
    {prest : List (PureOut α)} (hsp : mapX (fun o => splitOut (q, o)) (.node n0 :: orest) = .ok (p0 :: prest))
    (hwf : OutColWF (.node n0 :: orest)) {rows : List (List (State α))}
    (hrows : mapX outStates (p0 :: prest) = .ok rows) :
    ∃ ndr, mapX Out.node? (.node n0 :: orest) = .ok (n0 :: ndr) ∧ mapX (splitFlat q) (n0 :: ndr) = .ok rows ∧
      (n0.map (·.1)).Nodup ∧ ∀ fl ∈ n0 :: ndr, fl.map (fun x => (x.1, x.2.1)) = n0.map (fun x => (x.1, x.2.1)) := by
  obtain ⟨nodes, hnodes, hrows'⟩ := nodes_of_col hsp hrows
  obtain ⟨nd0, ndr, hnd0, _, rfl⟩ := mapX_cons_ok hnodes
  simp only [Out.node?] at hnd0
  injection hnd0 with hnd0
  subst hnd0
  obtain ⟨hnd, hk⟩ := hwf
  refine ⟨ndr, hnodes, hrows', hnd, ?_⟩
  intro fl' hfl'
  obtain ⟨o, ho, hof⟩ := mapX_ok_mem_rev hnodes fl' hfl'
  cases o with
  | node n' => simp only [Out.node?] at hof; injection hof with hof; subst hof; exact hk _ ho _ rfl
  | arr a => simp [Out.node?] at hof
  | argRef k => simp [Out.node?] at hof

theorem collectNode_of_lookup {α : Type} [Inhabited α] {q : Prefix} {n0 : Flat α} {ndr : List (Flat α)}
    {sts : List (State α)} {fl : Flat α} (hrb : rebuildNode (n0.map (fun x => (x.1, x.2.1))) sts = .ok fl)
    (hlk : ∀ x ∈ n0, ∃ a vs v, axAt q x.1 x.2.1 = some a ∧ mapX (fun fl => valAt fl x.1) (n0 :: ndr) = .ok vs ∧
      collectVal a vs = .ok v ∧ sts.flatten.lookup x.1 = some v) :
    collectNode q (n0 :: ndr) = .ok fl := by
  simp only [collectNode]
  rw [← hrb, rebuildNode, mapX_map]
  apply mapX_congr
  intro x hx
  obtain ⟨a, vs, v, ha, hvs, hv, hl⟩ := hlk x hx
  have hat : q.at ⟨x.1, 0, x.2.1⟩ = .ok a := (prefix_at_eq_axAt q ⟨x.1, 0, x.2.1⟩ a).2 ha
  simp only [hat, hvs, hv, hl]

theorem collectOut_node_ok {α : Type} [Inhabited α] {q : Prefix} {n0 : Flat α} {orest : List (Out α)} {out : Out α} :
    collectOut q (.node n0 :: orest) = .ok out ↔ ∃ nodes fl, mapX Out.node? (.node n0 :: orest) = .ok nodes ∧
      collectNode q nodes = .ok fl ∧ out = .node fl := by
  rw [collectOut]
  cases mapX Out.node? (.node n0 :: orest) with
  | error e => exact ⟨nofun, fun ⟨_, _, h, _⟩ => nomatch h⟩
  | ok nodes =>
    constructor
    · intro h
      cases hc : collectNode q nodes with
      | error e => simp only [hc] at h; cases h
      | ok fl => simp only [hc] at h; exact ⟨nodes, fl, rfl, hc, (Except.ok.inj h).symm⟩
    · rintro ⟨_, _, h, hc, rfl⟩
      cases h
      simp only [hc]

theorem vmap_collect_out {α : Type} [Inhabited α] {q : Prefix} {o0 : Out α} {orest : List (Out α)}
    {p0 : PureOut α} {prest : List (PureOut α)} {out : Out α}
    (hsp : mapX (fun o => splitOut (q, o)) (o0 :: orest) = .ok (p0 :: prest))
    (hwf : OutColWF (o0 :: orest))
    (hc : vmapCollectOut p0 (p0 :: prest) = .ok out) : collectOut q (o0 :: orest) = .ok out := by
  have harr : mapX outArr (p0 :: prest) = mapX Out.arr? (o0 :: orest) :=
    mapX_through hsp (fun x _ y hy => splitOut_arr hy)
  obtain ⟨y, ys, hp0, _, heq⟩ := mapX_cons_ok hsp
  injection heq with heq1 heq2
  subst heq1
  rcases splitOut_ok_iff.1 hp0 with ⟨a0, rfl, rfl⟩ | ⟨n0, sts0, rfl, _, _, rfl⟩
  · exact (vmapCollectOut_arr harr).1 hc
  · simp only [vmapCollectOut] at hc
    cases hrows : mapX outStates (PureOut.node q (n0.map (fun x => (x.1, x.2.1))) sts0 :: prest) with
    | error e => simp [hrows] at hc
    | ok rows =>
      simp only [hrows] at hc
      cases hcs : vmapCollectStates q.axes rows with
      | error e => simp [hcs] at hc
      | ok sts =>
        simp only [hcs] at hc
        cases hrb : rebuildNode (n0.map (fun x => (x.1, x.2.1))) sts with
        | error e => simp [hrb] at hc
        | ok fl =>
          simp only [hrb] at hc
          injection hc with hc
          subst hc
          obtain ⟨ndr, hnodes, hrows', hnd, hkeys⟩ := node_col hsp hwf hrows
          exact collectOut_node_ok.2
            ⟨_, _, hnodes, collectNode_of_lookup hrb (vmap_collect_lookup hnd hkeys hrows' hcs), rfl⟩

theorem column_outs_of {α : Type} {R : Store α × List (Out α) → List (List (State α)) × List (PureOut α) → Prop}
    {k : Nat} {q : Prefix}
    (hR : ∀ c r, R c r → ∃ ops : List Prefix, ops.length = c.2.length ∧ (k < ops.length → ops[k]? = some q) ∧
      mapX splitOut (ops.zip c.2) = .ok r.2) :
    ∀ {cs : List (Store α × List (Out α))} {rs : List (List (List (State α)) × List (PureOut α))},
      All2 R cs rs → ∀ col, column k (rs.map (·.2)) = .ok col →
      ∃ ocol, column k (cs.map (·.2)) = .ok ocol ∧ mapX (fun o => splitOut (q, o)) ocol = .ok col := by
  intro cs rs h
  induction h with
  | nil => intro col hc; simp [column, mapX] at hc; subst hc; exact ⟨[], rfl, rfl⟩
  | @cons c r cs rs hcr _ ih =>
    intro col hc
    simp only [column, List.map_cons] at hc
    obtain ⟨h0, ht, hh, hr, rfl⟩ := mapX_cons_ok hc
    obtain ⟨ocol, e1, e2⟩ := ih ht hr
    obtain ⟨ops, hol, hopk, hsp⟩ := hR c r hcr
    have hk := pickX_ok_iff.1 hh
    have hkl : k < r.2.length := (List.getElem?_eq_some_iff.1 hk).1
    have hzl : (ops.zip c.2).length = c.2.length := by simp [List.length_zip, hol]
    have hrl := mapX_length hsp
    have hkc : k < c.2.length := by omega
    have hz : k < (ops.zip c.2).length := by omega
    have := mapX_ok_getElem hsp k hz hkl
    have hzk : (ops.zip c.2)[k] = (q, c.2[k]) := by
      have h1 : (ops.zip c.2)[k]? = some (q, c.2[k]) :=
        List.getElem?_zip_eq_some.2 ⟨hopk (by omega), List.getElem?_eq_getElem hkc⟩
      rw [List.getElem?_eq_getElem hz] at h1
      exact Option.some.inj h1
    rw [hzk] at this
    have hh0 : r.2[k] = h0 := by
      rw [List.getElem?_eq_getElem hkl] at hk; exact Option.some.inj hk
    refine ⟨c.2[k] :: ocol, ?_, ?_⟩
    · simp only [column, List.map_cons]
      exact mapX_cons_of_ok (pickX_ok_iff.2 (List.getElem?_eq_getElem hkc)) e1
    · exact mapX_cons_of_ok (by rw [this, hh0]) e2

theorem collectOutAt_ok_iff {α : Type} [Inhabited α] {rows : List (List (Out α))} {kq : Nat × Prefix} {out : Out α} :
    collectOutAt rows kq = .ok out ↔ ∃ col, column kq.1 rows = .ok col ∧ collectOut kq.2 col = .ok out :=
  bindX_ok

/-- `rows` are the results of all indices after the inner `to_tree`, `orows` those the traced function returned; the
collector `C` of one position (`vmapCollectOut`, `scanCollectOut`) agrees with the reference's `collectOut` (`hC`). -/
theorem outs_sound {α : Type} [Inhabited α] {C : PureOut α → List (PureOut α) → Except Err (Out α)}
    (hC : ∀ {q : Prefix} {o0 : Out α} {orest : List (Out α)} {p0 : PureOut α} {prest : List (PureOut α)} {out : Out α},
      mapX (fun o => splitOut (q, o)) (o0 :: orest) = .ok (p0 :: prest) → OutColWF (o0 :: orest) →
      C p0 (p0 :: prest) = .ok out → collectOut q (o0 :: orest) = .ok out)
    {rows : List (List (PureOut α))} {y0 : List (PureOut α)}
    {yt : List (List (PureOut α))} (hrows : rows = y0 :: yt)
    {orows : List (List (Out α))} {qs : List Prefix} {o0 : List (Out α)}
    (hsp : mapX splitOut (qs.zip o0) = .ok y0) (hql : qs.length = o0.length)
    (hcols : ∀ k (hk : k < qs.length) col, column k rows = .ok col →
      ∃ ocol, column k orows = .ok ocol ∧ mapX (fun o => splitOut (qs[k]'hk, o)) ocol = .ok col)
    (hwf : ∀ k col, column k orows = .ok col → OutColWF col) {outs : List (Out α)}
    (hco : mapX (fun (kp : Nat × PureOut α) => match column kp.1 rows with
      | .error e => .error e
      | .ok col => C kp.2 col) ((List.range y0.length).zip y0) = .ok outs) :
    mapX (collectOutAt orows) ((List.range qs.length).zip qs) = .ok outs := by
  have hlen : y0.length = qs.length := by
    have := mapX_length hsp
    simp [List.length_zip, hql] at this
    omega
  apply mapX_imp_pos _ _ _ (by simp [List.length_zip, hlen]) _ hco
  intro k h1 h2 y hy
  have hk1 : k < y0.length := by simpa [List.length_zip] using h1
  have hk2 : k < qs.length := by simpa [List.length_zip] using h2
  rw [zip_range_getElem y0 k h1 hk1] at hy
  rw [zip_range_getElem qs k h2 hk2]
  dsimp only at hy
  cases hcol : column k rows with
  | error e => simp [hcol] at hy
  | ok col =>
  simp only [hcol] at hy
  obtain ⟨ocol, ho1, ho2⟩ := hcols k hk2 col hcol
  obtain ⟨hcl, hce⟩ := column_ok hcol
  subst hrows
  cases col with
  | nil => simp at hcl
  | cons p0 prest =>
    have hp0 : y0[k] = p0 := by
      have := hce 0 (by simp) (by simp)
      simp only [List.getElem_cons_zero, List.getElem?_eq_getElem hk1, Option.some.injEq] at this
      exact this
    cases ocol with
    | nil => simp [mapX] at ho2
    | cons o0 orest =>
      rw [hp0] at hy
      have := hC ho2 (hwf k _ ho1) hy
      exact collectOutAt_ok_iff.2 ⟨_, ho1, this⟩

end Flax.NnxLoop
