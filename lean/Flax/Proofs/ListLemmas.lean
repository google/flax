/-
Facts about core's list functions that core does not state, each about variables only and so of use to any area: `map` and `zip` against
`eraseIdx`/`insertIdx` (moving an axis), `filterMap`/`flatMap` congruences and a `filterMap` that drops nothing, a `Pairwise` list against its last
element, a list as `map getD` over `range`, the classes of a list by a number, the first position where a predicate holds (`findIdx`) as a
first-match split uses it, a read in a list with one element appended, `Nodup` of a list with one element appended, the two parts of a split of a
duplicate-free list as complements, a list with a member has a last element.
Used as `Lists.map_eraseIdx` and so on from inside any `Flax` namespace.
-/
namespace Flax.Lists
universe u v
variable {α : Type u} {β : Type v}

theorem nodup_concat {l : List α} {a : α} (hn : l.Nodup) (ha : a ∉ l) : (l ++ [a]).Nodup :=
  List.nodup_append.mpr ⟨hn, List.pairwise_singleton _ a, fun _ hx _ hy e => ha (List.mem_singleton.mp hy ▸ e ▸ hx)⟩

theorem map_eraseIdx (f : α → β) : ∀ (l : List α) (n : Nat), (l.eraseIdx n).map f = (l.map f).eraseIdx n
  | [], _ => rfl
  | _ :: _, 0 => rfl
  | x :: l, n + 1 => congrArg (f x :: ·) (map_eraseIdx f l n)

theorem map_insertIdx (f : α → β) (a : α) : ∀ (l : List α) (n : Nat),
    (l.insertIdx n a).map f = (l.map f).insertIdx n (f a)
  | _, 0 => rfl
  | [], _ + 1 => rfl
  | x :: l, n + 1 => congrArg (f x :: ·) (map_insertIdx f a l n)

theorem zip_eraseIdx : ∀ (a : List α) (b : List β) (j : Nat), (a.eraseIdx j).zip (b.eraseIdx j) = (a.zip b).eraseIdx j
  | [], _, _ => by simp only [List.eraseIdx_nil, List.zip_nil_left]
  | _ :: _, [], _ => by simp only [List.eraseIdx_nil, List.zip_nil_right]
  | _ :: _, _ :: _, 0 => rfl
  | x :: a, y :: b, j + 1 => congrArg ((x, y) :: ·) (zip_eraseIdx a b j)

/-- taking an element out and putting it back where it was; core has `List.eraseIdx_insertIdx_self` for the other
order -/
theorem insertIdx_eraseIdx_self : ∀ (xs : List α) (n : Nat) (h : n < xs.length), (xs.eraseIdx n).insertIdx n xs[n] = xs
  | _ :: _, 0, _ => rfl
  | x :: xs, n + 1, h => congrArg (x :: ·) (insertIdx_eraseIdx_self xs n (Nat.lt_of_succ_lt_succ h))

theorem filterMap_congr {l : List α} {f g : α → Option β} (h : ∀ a ∈ l, f a = g a) : l.filterMap f = l.filterMap g := by
  induction l with
  | nil => rfl
  | cons a l ih =>
    rw [List.filterMap_cons, List.filterMap_cons, h a List.mem_cons_self,
      ih fun b hb => h b (List.mem_cons_of_mem _ hb)]

theorem getElem?_filterMap_of_isSome {f : α → Option β} :
    ∀ (l : List α), (∀ a ∈ l, (f a).isSome) → ∀ i : Nat, (l.filterMap f)[i]? = l[i]?.bind f
  | [], _, _ => rfl
  | a :: l, h, i => by
    obtain ⟨b, hb⟩ := Option.isSome_iff_exists.mp (h a List.mem_cons_self)
    rw [List.filterMap_cons_some hb]
    cases i with
    | zero => exact hb.symm
    | succ i => exact getElem?_filterMap_of_isSome l (fun a' ha' => h a' (List.mem_cons_of_mem _ ha')) i

theorem length_filterMap_of_isSome {f : α → Option β} :
    ∀ (l : List α), (∀ a ∈ l, (f a).isSome) → (l.filterMap f).length = l.length
  | [], _ => rfl
  | a :: l, h => by
    obtain ⟨b, hb⟩ := Option.isSome_iff_exists.mp (h a List.mem_cons_self)
    rw [List.filterMap_cons_some hb, List.length_cons, List.length_cons,
      length_filterMap_of_isSome l fun a' ha' => h a' (List.mem_cons_of_mem _ ha')]

theorem pairwise_getLast {R : α → α → Prop} {l : List α} (h : l.Pairwise R) {m : α} (hm : l.getLast? = some m) :
    ∀ x ∈ l, x = m ∨ R x m := by
  obtain ⟨ys, rfl⟩ := List.getLast?_eq_some_iff.mp hm
  intro x hx
  rcases List.mem_append.mp hx with h1 | h1
  · exact Or.inr ((List.pairwise_append.mp h).2.2 x h1 m (List.mem_singleton.mpr rfl))
  · exact Or.inl (List.mem_singleton.mp h1)

theorem pairwise_dropLast {R : α → α → Prop} {l : List α} (h : l.Pairwise R) {m : α} (hm : l.getLast? = some m) :
    ∀ x ∈ l.dropLast, R x m := by
  obtain ⟨ys, rfl⟩ := List.getLast?_eq_some_iff.mp hm
  rw [List.dropLast_concat]
  exact fun x hx => (List.pairwise_append.mp h).2.2 x hx m (List.mem_singleton.mpr rfl)

theorem map_getD_range (d : α) (xs : List α) : (List.range xs.length).map (xs.getD · d) = xs := by
  refine List.ext_getElem (by rw [List.length_map, List.length_range]) fun i h1 h2 => ?_
  rw [List.getElem_map, List.getElem_range, List.getD_eq_getElem?_getD, List.getElem?_eq_getElem h2, Option.getD_some]

theorem filter_or_perm (l : List α) (p q : α → Bool) (h : ∀ x ∈ l, ¬ (p x = true ∧ q x = true)) :
    (l.filter p ++ l.filter q).Perm (l.filter fun x => p x || q x) := by
  induction l with
  | nil => simp
  | cons x rest ih =>
    have ih' := ih (fun y hy => h y (by simp [hy]))
    have hx := h x (by simp)
    cases hp : p x <;> cases hq : q x
    · simpa [List.filter_cons, hp, hq] using ih'
    · simp only [List.filter_cons, hp, hq, Bool.false_eq_true, ↓reduceIte, Bool.or_true]
      exact (List.perm_middle).trans (List.Perm.cons x ih')
    · simpa [List.filter_cons, hp, hq] using ih'
    · exact absurd ⟨hp, hq⟩ hx

theorem flatMap_congr {γ : Type _} {l : List α} {f g : α → List γ} (h : ∀ a ∈ l, f a = g a) :
    l.flatMap f = l.flatMap g := by
  rw [List.flatMap_def, List.flatMap_def, List.map_congr_left h]

theorem flatMap_filterMap {γ : Type _} (f : α → Option β) (g : β → List γ) : ∀ l : List α,
    (l.filterMap f).flatMap g = l.flatMap fun a => (f a).elim [] g
  | [] => rfl
  | a :: l => by
    rw [List.filterMap_cons, List.flatMap_cons, ← flatMap_filterMap f g l]
    cases f a <;> rfl

/-- the classes `idx = 0, …, n - 1` of a list, one after the other, hold the elements with `idx < n`: what makes the
buckets of a first-match split a partition -/
theorem buckets_perm (idx : α → Nat) (l : List α) (n : Nat) :
    ((List.range n).flatMap fun i => l.filter fun e => idx e == i).Perm (l.filter fun e => decide (idx e < n)) := by
  induction n with
  | zero => simp
  | succ n ih =>
    rw [List.range_succ, List.flatMap_append]
    simp only [List.flatMap_cons, List.flatMap_nil, List.append_nil]
    refine (List.Perm.append_right _ ih).trans ((filter_or_perm l _ _ ?_).trans ?_)
    · intro x _ ⟨h1, h2⟩
      simp only [decide_eq_true_eq, beq_iff_eq] at h1 h2
      omega
    · refine List.Perm.of_eq (List.filter_congr (fun x _ => ?_))
      rw [Bool.eq_iff_iff]
      simp only [Bool.or_eq_true, decide_eq_true_eq, beq_iff_eq]
      omega

theorem get_append_one {h : List α} {o x : α} {a : Nat} (hg : (h ++ [o])[a]? = some x) :
    h[a]? = some x ∨ (a = h.length ∧ x = o) := by
  rcases Nat.lt_trichotomy a h.length with h1 | h1 | h1
  · rw [List.getElem?_append_left h1] at hg; exact Or.inl hg
  · subst h1; simp at hg; exact Or.inr ⟨rfl, hg.symm⟩
  · rw [List.getElem?_eq_none (by simp; omega)] at hg; cases hg

/-- the classes `idx = 0, …, n` of a list whose numbers stay within `n` have its length between them -/
theorem buckets_length_sum (idx : α → Nat) (l : List α) (n : Nat) (h : ∀ e ∈ l, idx e ≤ n) :
    (((List.range (n + 1)).map fun i => l.filter fun e => idx e == i).map List.length).sum = l.length := by
  rw [← List.length_flatten, ← List.flatMap_def, (buckets_perm idx l (n + 1)).length_eq,
    List.filter_eq_self.mpr fun e he => decide_eq_true (Nat.lt_succ_of_le (h e he))]

/-- `l.findIdx p` is the first position where `p` holds: it holds there and at no earlier position -/
theorem findIdx_spec (p : α → Bool) (l : List α) :
    (∀ j, j < l.findIdx p → ∀ a, l[j]? = some a → p a = false) ∧ (∀ a, l[l.findIdx p]? = some a → p a = true) := by
  refine ⟨fun j hj a ha => ?_, fun a ha => List.findIdx_of_getElem?_eq_some ha⟩
  obtain ⟨_, rfl⟩ := List.getElem?_eq_some_iff.mp ha
  exact List.not_of_lt_findIdx hj

theorem findIdx_le_of_getElem? {p : α → Bool} {l : List α} {i : Nat} {a : α} (ha : l[i]? = some a)
    (hp : p a = true) : l.findIdx p ≤ i :=
  Nat.le_of_not_lt fun h => Bool.false_ne_true (((findIdx_spec p l).1 i h a ha).symm.trans hp)

/-- in a first-match split, a predicate that holds only where an earlier one does gets an empty bucket -/
theorem shadowed_bucket_nil (holds : β → α → Bool) (preds : List β) {i j : Nat} (hij : i < j) {fi fj : β}
    (hi : preds[i]? = some fi) (hj : preds[j]? = some fj) (hsub : ∀ e, holds fj e = true → holds fi e = true)
    (l : List α) : (l.filter fun e => preds.findIdx (fun f => holds f e) == j) = [] := by
  refine List.filter_eq_nil_iff.mpr fun e _ he => ?_
  have he : preds.findIdx (fun f => holds f e) = j := beq_iff_eq.mp he
  have h1 := (findIdx_spec (fun f => holds f e) preds).2 fj (he ▸ hj)
  have h2 := findIdx_le_of_getElem? (p := fun f => holds f e) hi (hsub e h1)
  omega

theorem mem_left_iff_of_perm_append {A B U : List α} (hp : (A ++ B).Perm U) (hn : U.Nodup) {x : α} :
    x ∈ A ↔ x ∈ U ∧ x ∉ B :=
  ⟨fun hA => ⟨hp.subset (List.mem_append_left _ hA),
      fun hB => (List.nodup_append.mp (hp.nodup_iff.mpr hn)).2.2 x hA x hB rfl⟩,
   fun h => (List.mem_append.mp (hp.mem_iff.mpr h.1)).resolve_right h.2⟩

theorem exists_getLast_of_mem {l : List α} {a : α} (h : a ∈ l) : ∃ m, l.getLast? = some m :=
  ⟨_, List.getLast?_eq_some_getLast (List.ne_nil_of_mem h)⟩

end Flax.Lists
