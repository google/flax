/-
NNX State conversions and set operations (C16). `from_flat_state` is characterised once (`fromFlat_holds`); every
operation is first an equation into `fromFlat`, then a statement about the leaves of its result; `filter_state` and
`split_state` bucket by bucket (`filterState_holds`, `splitState_holds`, `splitState_parts`).
-/
import Flax.Model.State
import Flax.Proofs.Except
import Flax.Proofs.InsertSort
import Flax.Proofs.ListLemmas
import Flax.Proofs.TraverseUnflatten

set_option linter.unusedSectionVars false

namespace Flax.State
open Flax.Traverse

variable {α β : Type}

theorem leafItems_map_leafEntry (m : Flat α) : leafItems (m.map leafEntry) = m := by
  induction m with
  | nil => rfl
  | cons x rest ih =>
    simp only [leafItems, List.map_cons, List.filterMap_cons, leafEntry] at ih ⊢
    rw [ih]

theorem leafItems_perm {l1 l2 : List (SPath × FVal Key α)} (h : l1.Perm l2) : (leafItems l1).Perm (leafItems l2) :=
  h.filterMap _

/-- `leafItems` reads a flat form through its `path_aware_map` calls (`g` is the function of `relT_true_calls`) -/
theorem leafItems_of_calls {g : SPath × FVal Key α → Option (SPath × Tree Key α)}
    (hg : ∀ p, g (p, .emptyNode) = none ∧ ∀ t, g (p, .val t) = some (p, t))
    {l : List (SPath × FVal Key α)} {m : Flat α}
    (h : l.filterMap g = m.map (fun pa => (pa.1, Tree.leaf pa.2))) : leafItems l = m := by
  have h2 := congrArg (List.filterMap fun px : SPath × Tree Key α =>
    match px.2 with | .leaf a => some (px.1, a) | .dict _ => none) h
  rw [List.filterMap_filterMap, List.filterMap_map] at h2
  refine Eq.trans (Lists.filterMap_congr fun pv _ => ?_) (h2.trans ?_)
  · obtain ⟨p, v⟩ := pv
    cases v with
    | emptyNode => rw [(hg p).1]; rfl
    | val t => rw [(hg p).2 t]; cases t <;> rfl
  · exact (List.filterMap_eq_map (f := id) ▸ List.map_id m : _)

theorem leafItems_relT_true : ∀ (c : Tree Key α), leafItems (relT true noLeaf c) = leavesT c :=
  fun c => leafItems_of_calls (fun _ => ⟨rfl, fun _ => rfl⟩) (relT_true_calls c)

theorem leafItems_relKvs_true (kvs : List (Key × Tree Key α)) : leafItems (relKvs true noLeaf kvs) = leavesKvs kvs :=
  leafItems_of_calls (fun _ => ⟨rfl, fun _ => rfl⟩) (relKvs_true_calls kvs)

/-- `flatten_to_sequence(state)` lists the leaves -/
theorem flatSeq_eq_leaves (s : SMap α) : leafItems (flatT false noLeaf (.dict s) []) = leaves s := by
  rw [flatT_root false noLeaf s rfl, relKvs_false_leaves, leafItems_map_leafEntry]

theorem insertFlat_isInsert : IsInsert (fun x y : SPath × α => pathLe x.1 y.1 = true) insertFlat :=
  ⟨fun _ => rfl, fun _ h => if_pos h, fun _ h => if_neg h⟩

theorem sortFlat_perm (m : Flat α) : (sortFlat m).Perm m := insertFlat_isInsert.sort_perm m

theorem toFlat_perm (s : SMap α) : (toFlat s).Perm (leaves s) := by
  simp only [toFlat, flatSeq_eq_leaves]
  exact sortFlat_perm _

theorem fromFlat_eq (m : Flat α) : fromFlat m = liftE (build [] ((Dict.ofList m).map leafEntry)) := rfl

theorem liftE_eq_ok {γ : Type} (x : Except Err γ) (v : γ) : liftE x = .ok v ↔ x = .ok v :=
  lift_eq_ok liftE (fun _ => rfl) (fun _ => ⟨_, rfl⟩)

theorem fromFlat_ofList (l : Flat α) : fromFlat (Dict.ofList l) = fromFlat l := by
  rw [fromFlat_eq, fromFlat_eq, Dict.ofList_of_nodup _ (Dict.ofList_nodup l)]

theorem fromFlat_wf (m : Flat α) (s' : SMap α) (h : fromFlat m = .ok s') : WFKvs s' := by
  rw [fromFlat_eq, liftE_eq_ok] at h
  refine build_wf _ [] s' trivial ?_ h
  intro e he
  obtain ⟨x, _, rfl⟩ := List.mem_map.mp he
  simp [FVal.toTree, WF]

theorem leaves_perm_of_content {s' : SMap α} {m : Flat α} (h : (Content s').Perm (m.map leafEntry)) :
    (leaves s').Perm m := by
  have := leafItems_perm h
  rwa [leafItems_relKvs_true, leafItems_map_leafEntry] at this

theorem eq_nil_iff_of_content {st : SMap α} {b : Flat α} (h : (Content st).Perm (b.map leafEntry)) :
    st = [] ↔ b = [] := by
  constructor
  · rintro rfl
    exact List.map_eq_nil_iff.mp h.symm.eq_nil
  · rintro rfl
    cases st with
    | nil => rfl
    | cons x r => exact absurd h.eq_nil (relKvs_true_ne_nil _ (List.cons_ne_nil x r))

/-- the state holds exactly the flat mapping `m`: well-formed, the leaves `m` at their paths and no empty sub-dict -/
structure HoldsExactly (st : SMap α) (m : Flat α) : Prop where
  wf : WFKvs st
  content : (Content st).Perm (m.map leafEntry)

theorem HoldsExactly.leaves_perm {st : SMap α} {m : Flat α} (h : HoldsExactly st m) : (leaves st).Perm m :=
  leaves_perm_of_content h.content

theorem HoldsExactly.perm {st : SMap α} {m m' : Flat α} (h : HoldsExactly st m) (hp : m.Perm m') :
    HoldsExactly st m' :=
  ⟨h.wf, h.content.trans (hp.map _)⟩

/-- `l` is the sorted flat state (or a filter or image of it), `m` the leaves in dict order -/
theorem fromFlat_holds (l m : Flat α) (hlm : l.Perm m) (hpf : PrefixFree m) (hne : ∀ e ∈ m, e.1 ≠ []) :
    ∃ s', fromFlat l = .ok s' ∧ HoldsExactly s' m := by
  have hok : ∀ e ∈ l.map leafEntry, e.1 ≠ [] ∧ OkVal true e.2 := by
    intro e he
    obtain ⟨x, hx, rfl⟩ := List.mem_map.mp he
    exact ⟨hne x (hlm.mem_iff.mp hx), Or.inl ⟨x.2, rfl⟩⟩
  have hpl := PrefixFree.perm hlm.symm hpf
  obtain ⟨s', h1, hw, h2⟩ := build_flat_nil true (l.map leafEntry)
    ((prefixFree_map (fun a => FVal.val (.leaf a)) l).mpr hpl) hok
  refine ⟨s', ?_, hw, h2.trans (hlm.map _)⟩
  rw [fromFlat_eq, Dict.ofList_of_nodup l hpl.nodup_paths, h1]; rfl

theorem fromFlat_toFlat (s : SMap α) (hwf : WFKvs s) :
    ∃ s', fromFlat (toFlat s) = .ok s' ∧ HoldsExactly s' (leaves s) :=
  fromFlat_holds _ _ (toFlat_perm s) (leavesKvs_prefixFree s hwf) (leavesKvs_paths_ne_nil s)

section
variable {γ δ ε : Type}

theorem Forall2.length_eq {R : γ → δ → Prop} {l : List γ} {ys : List δ} (h : Forall2 R l ys) :
    l.length = ys.length := by
  induction h with
  | nil => rfl
  | cons _ _ ih => simp [ih]

theorem Forall2.get {R : γ → δ → Prop} {l : List γ} {ys : List δ} (h : Forall2 R l ys) :
    ∀ (i : Nat) (h1 : i < l.length) (h2 : i < ys.length), R l[i] ys[i] := by
  induction h with
  | nil => intro i h1; simp at h1
  | cons hr _ ih =>
    intro i h1 h2
    cases i with
    | zero => simpa using hr
    | succ i => simpa using ih i (by simpa using h1) (by simpa using h2)

theorem Forall2.imp {R S : γ → δ → Prop} {l : List γ} {ys : List δ} (h : Forall2 R l ys)
    (hi : ∀ x y, R x y → S x y) : Forall2 S l ys := by
  induction h with
  | nil => exact .nil
  | cons hr _ ih => exact .cons (hi _ _ hr) ih

theorem mapM_map_forall2 {ι : Type} (f : γ → Except ε δ) (g : ι → γ) (R : ι → δ → Prop) : ∀ l : List ι,
    (∀ i ∈ l, ∃ y, f (g i) = .ok y ∧ R i y) → ∃ ys, (l.map g).mapM f = .ok ys ∧ Forall2 R l ys := by
  intro l
  induction l with
  | nil => intro _; exact ⟨[], rfl, .nil⟩
  | cons x rest ih =>
    intro h
    obtain ⟨y, hy, hr⟩ := h x (by simp)
    obtain ⟨ys, hys, hrs⟩ := ih (fun z hz => h z (by simp [hz]))
    exact ⟨y :: ys, mapM_cons_ok.mpr ⟨y, ys, hy, hys, rfl⟩, .cons hr hrs⟩

theorem Forall2.flatMap_perm {R : γ → δ → Prop} {f : γ → List ε} {g : δ → List ε}
    (hR : ∀ x y, R x y → (g y).Perm (f x)) {l : List γ} {ys : List δ} (h : Forall2 R l ys) :
    (ys.flatMap g).Perm (l.flatMap f) := by
  induction h with
  | nil => simp
  | cons hr _ ih => simpa using List.Perm.append (hR _ _ hr) ih

end

/-- `state.update(new)`: key by key, `new` has what `state` has, and a key that `new` lacks keeps its value -/
theorem leaves_update_perm (new acc : SMap α) (hacc : WFKvs acc) (hnew : WFKvs new)
    (h : (leaves new).Perm (leaves acc)) : (leaves (Dict.update acc new)).Perm (leaves acc) := by
  have hn := wf_nodup new hnew
  have ha := wf_nodup acc hacc
  simp only [leaves, leavesKvs_eq_below] at h ⊢
  have hk := (below_perm_iff _ new acc hn ha).mp h
  refine (below_perm_iff _ _ acc (wf_nodup _ (wf_update new acc hacc hnew)) ha).mpr fun k => ?_
  rw [Dict.update, Dict.get_foldl_set]
  cases hl : lastVal new k with
  | none => exact List.Perm.refl _
  | some c =>
    have := hk k
    rwa [(Dict.mem_iff_get new hn k c).mp (lastVal_some_mem new k c hl)] at this

theorem firstIdx_eq_findIdx (preds : List (SPath → α → Bool)) (p : SPath) (a : α) :
    firstIdx preds p a = preds.findIdx (fun f => f p a) := by
  induction preds with
  | nil => rfl
  | cons f fs ih => simp only [firstIdx, List.findIdx_cons, ih, Bool.cond_eq_ite]

theorem mergeState_eq (s : SMap α) (rest : List (SMap α)) (h : rest ≠ []) :
    mergeState s rest = fromFlat ((s :: rest).flatMap leaves) := by
  cases rest with
  | nil => exact absurd rfl h
  | cons r rs => simp only [mergeState, flatSeq_eq_leaves, fromFlat_ofList]

/-- `merge_state` returns a single state as it is, hence `h0` -/
theorem mergeState_of_parts (s : SMap α) (hwf : WFKvs s) (s0 : SMap α) (srest : List (SMap α))
    (hall : ((s0 :: srest).flatMap leaves).Perm (leaves s)) (h0 : HoldsExactly s0 (leaves s0)) :
    ∃ s', mergeState s0 srest = .ok s' ∧ HoldsExactly s' (leaves s) := by
  cases srest with
  | nil => exact ⟨s0, rfl, h0.perm (by simpa using hall)⟩
  | cons r rs =>
    rw [mergeState_eq s0 _ (List.cons_ne_nil r rs)]
    exact fromFlat_holds _ _ hall (leavesKvs_prefixFree s hwf) (leavesKvs_paths_ne_nil s)

theorem toPure_eq (ex : α → β) (s : SMap α) :
    toPure ex s = fromFlat ((toFlat s).map (fun e => (e.1, ex e.2))) :=
  fromFlat_ofList _

theorem diff_eq (a b : SMap α) (hb : b ≠ []) :
    diff a b = fromFlat ((toFlat a).filter (fun e => !decide (e.1 ∈ (toFlat b).map Prod.fst))) := by
  have hbe : b.isEmpty = false := by
    cases b with
    | nil => exact absurd rfl hb
    | cons _ _ => rfl
  simp only [diff, hbe, Bool.false_eq_true, ↓reduceIte, fromFlat_ofList]

theorem replaceLoop_id (conv : Key → Key) (repl : α → β → α) : ∀ (items : Flat β) (cur : Flat α),
    (∀ e ∈ items, ∃ a, Dict.get cur e.1 = some a ∧ repl a e.2 = a) →
    replaceLoop conv repl cur items = .ok cur := by
  intro items
  induction items with
  | nil => intro cur _; rfl
  | cons x rest ih =>
    intro cur h
    obtain ⟨kp, v⟩ := x
    obtain ⟨a, h1, h2⟩ := h (kp, v) (by simp)
    simp only [replaceLoop, h1, Option.isSome_some, ↓reduceIte, h2, Dict.set_of_get_some _ _ _ h1]
    exact ih cur (fun e he => h e (by simp [he]))

theorem replaceByPure_eq (conv : Key → Key) (repl : α → β → α) (s : SMap α) (pd : SMap β) (hs : WFKvs s)
    (hpd : WFKvs pd) : replaceByPure conv repl s pd
      = (replaceLoop conv repl (toFlat s) (leaves pd) >>= fun cur => fromFlat cur >>= fun new =>
          .ok (Dict.update s new)) := by
  rw [replaceByPure, pureItems, flatSeq_eq_leaves, Dict.ofList_of_nodup _ (leavesKvs_prefixFree pd hpd).nodup_paths,
    Dict.ofList_of_nodup _ (PrefixFree.perm (toFlat_perm s).symm (leavesKvs_prefixFree s hs)).nodup_paths]

theorem toPure_leaves (ex : α → β) (s : SMap α) (hwf : WFKvs s) :
    ∃ pd, toPure ex s = .ok pd ∧ HoldsExactly pd ((leaves s).map (fun e => (e.1, ex e.2))) := by
  rw [toPure_eq]
  refine fromFlat_holds _ _ ((toFlat_perm s).map _) ((prefixFree_map _ _).mpr (leavesKvs_prefixFree s hwf)) fun e he => ?_
  obtain ⟨x, hx, rfl⟩ := List.mem_map.mp he
  exact leavesKvs_paths_ne_nil s x hx

/-- every item of the pure dict finds its own leaf in the flat state and puts it back; the state rebuilt from that has
the leaves of `s`, and updating `s` with it changes no leaf -/
theorem replaceByPure_toPure (conv : Key → Key) (ex : α → β) (repl : α → β → α)
    (hrepl : ∀ a, repl a (ex a) = a) (s : SMap α) (hwf : WFKvs s) :
    ∃ pd s', toPure ex s = .ok pd ∧ replaceByPure conv repl s pd = .ok s' ∧ WFKvs s' ∧
      (leaves s').Perm (leaves s) := by
  obtain ⟨pd, hpd, hhpd⟩ := toPure_leaves ex s hwf
  have hl := hhpd.leaves_perm
  have hp := toFlat_perm s
  have hpfs := leavesKvs_prefixFree s hwf
  obtain ⟨s2, h1, hs2⟩ := fromFlat_toFlat s hwf
  have hloop : replaceLoop conv repl (toFlat s) (leaves pd) = .ok (toFlat s) := by
    refine replaceLoop_id conv repl _ _ (fun e he => ?_)
    obtain ⟨x, hx, rfl⟩ := List.mem_map.mp (hl.mem_iff.mp he)
    exact ⟨x.2, (Dict.mem_iff_get _ (PrefixFree.perm hp.symm hpfs).nodup_paths x.1 x.2).mp (hp.mem_iff.mpr hx),
      hrepl x.2⟩
  refine ⟨pd, Dict.update s s2, hpd, ?_, wf_update s2 s hwf hs2.wf, leaves_update_perm s2 s hwf hs2.wf hs2.leaves_perm⟩
  rw [replaceByPure_eq conv repl s pd hwf hhpd.wf]
  exact bind_ok.mpr ⟨_, hloop, bind_ok.mpr ⟨_, h1, rfl⟩⟩

theorem fromFlat_lastVal (l : Flat α) (hcompat : ∀ e1 ∈ l, ∀ e2 ∈ l, e1.1 = e2.1 ∨ Incomp e1.1 e2.1)
    (hne : ∀ e ∈ l, e.1 ≠ []) :
    ∃ s', fromFlat l = .ok s' ∧ WFKvs s' ∧ ∀ p a, (p, a) ∈ leaves s' ↔ lastVal l p = some a := by
  have hmem : ∀ e ∈ Dict.ofList l, e ∈ l := fun e he =>
    lastVal_some_mem l e.1 e.2 ((Dict.mem_ofList l e.1 e.2).mp he)
  have hpf : PrefixFree (Dict.ofList l) := by
    have hnd := Dict.ofList_nodup l
    rw [List.Nodup, List.pairwise_map] at hnd
    refine hnd.imp_of_mem (fun hx hy hxy => ?_)
    exact (hcompat _ (hmem _ hx) _ (hmem _ hy)).resolve_left hxy
  obtain ⟨s', h1, h2⟩ := fromFlat_holds _ _ (List.Perm.refl _) hpf (fun e he => hne e (hmem e he))
  rw [fromFlat_ofList] at h1
  exact ⟨s', h1, h2.wf, fun p a => by rw [h2.leaves_perm.mem_iff, Dict.mem_ofList]⟩

theorem mergeState_lastVal (s : SMap α) (rest : List (SMap α)) (hrest : rest ≠ [])
    (hcompat : ∀ e1 ∈ (s :: rest).flatMap leaves, ∀ e2 ∈ (s :: rest).flatMap leaves,
      e1.1 = e2.1 ∨ Incomp e1.1 e2.1) :
    ∃ s', mergeState s rest = .ok s' ∧ WFKvs s' ∧
      ∀ p a, (p, a) ∈ leaves s' ↔ lastVal ((s :: rest).flatMap leaves) p = some a := by
  rw [mergeState_eq s rest hrest]
  refine fromFlat_lastVal _ hcompat fun e he => ?_
  obtain ⟨st, _, hst⟩ := List.mem_flatMap.mp he
  exact leavesKvs_paths_ne_nil st e hst

theorem fromFlat_filter (s : SMap α) (hwf : WFKvs s) (p : SPath × α → Bool) :
    ∃ st, fromFlat ((toFlat s).filter p) = .ok st ∧ HoldsExactly st ((leaves s).filter p) :=
  fromFlat_holds _ _ ((toFlat_perm s).filter p)
    (List.Pairwise.sublist List.filter_sublist (leavesKvs_prefixFree s hwf))
    (fun e he => leavesKvs_paths_ne_nil s e (List.mem_filter.mp he).1)

section
open Flax.C16 (bucket)

theorem filterState_holds (preds : List (SPath → α → Bool)) (s : SMap α) (hwf : WFKvs s) :
    ∃ states, filterState preds s = .ok states ∧
      Forall2 (fun i st => HoldsExactly st (bucket preds i (leaves s))) (List.range preds.length) states := by
  have : (List.range (preds.length + 1)).take preds.length = List.range preds.length := by
    rw [List.range_succ, List.take_left' (by simp)]
  rw [filterState, splitFlat, ← List.map_take, this]
  exact mapM_map_forall2 fromFlat _ _ _ fun _ _ => fromFlat_filter s hwf _

/-- `split_state` is `filter_state` followed by the remainder bucket, which has to come out empty -/
theorem splitState_holds (preds : List (SPath → α → Bool)) (s : SMap α) (hwf : WFKvs s) :
    ∃ states, Forall2 (fun i st => HoldsExactly st (bucket preds i (leaves s))) (List.range preds.length) states ∧
      splitState preds s = if bucket preds preds.length (leaves s) = [] then .ok states
        else .error .nonExhaustive := by
  obtain ⟨ys1, h1, h3⟩ := filterState_holds preds s hwf
  obtain ⟨y, hy1, hy2⟩ := fromFlat_filter s hwf (fun e => firstIdx preds e.1 e.2 == preds.length)
  refine ⟨ys1, h3, ?_⟩
  have hall : (splitFlat preds (toFlat s)).mapM fromFlat = .ok (ys1 ++ [y]) := by
    have : splitFlat preds (toFlat s) = (splitFlat preds (toFlat s)).take preds.length
        ++ [(toFlat s).filter (fun e => firstIdx preds e.1 e.2 == preds.length)] := by
      simp only [splitFlat, List.range_succ, List.map_append, List.map_cons, List.map_nil]
      rw [List.take_left' (by simp)]
    rw [this]
    exact mapM_append_ok.mpr ⟨ys1, [y], h1, mapM_cons_ok.mpr ⟨y, [], hy1, rfl, rfl⟩, rfl⟩
  have hlen : ys1.length = preds.length := by simpa using h3.length_eq.symm
  have hy : y = [] ↔ bucket preds preds.length (leaves s) = [] := eq_nil_iff_of_content hy2.content
  simp only [splitState, hall, bind, Except.bind, List.getLast?_append, List.getLast?_singleton,
    Option.some_or, List.take_left' hlen]
  cases y with
  | nil => rw [if_pos (hy.mp rfl)]
  | cons a b => rw [if_neg (fun h => List.cons_ne_nil a b (hy.mpr h))]

theorem bucket_length_eq_nil_iff (preds : List (SPath → α → Bool)) (m : Flat α) :
    bucket preds preds.length m = [] ↔ ∀ e ∈ m, firstIdx preds e.1 e.2 < preds.length := by
  simp only [bucket, List.filter_eq_nil_iff, beq_iff_eq]
  refine forall₂_congr fun e _ => ?_
  have : firstIdx preds e.1 e.2 ≤ preds.length := firstIdx_eq_findIdx preds e.1 e.2 ▸ List.findIdx_le_length
  omega

/-- the states of a successful split hold the leaves of `s` between them, each nothing but its own leaves -/
theorem splitState_parts (preds : List (SPath → α → Bool)) (s : SMap α) (hwf : WFKvs s)
    (states : List (SMap α)) (h : splitState preds s = .ok states) :
    (states.flatMap leaves).Perm (leaves s) ∧
    ∀ st ∈ states, HoldsExactly st (leaves st) := by
  obtain ⟨states', h1, h2⟩ := splitState_holds preds s hwf
  rw [h2] at h
  by_cases hb : bucket preds preds.length (leaves s) = []
  · rw [if_pos hb] at h
    cases h
    refine ⟨?_, fun st hst => ?_⟩
    · have h3 := Forall2.flatMap_perm (f := fun i => bucket preds i (leaves s)) (g := leaves)
        (fun i st hr => hr.leaves_perm) h1
      have hb' := Lists.buckets_perm (fun (e : SPath × α) => firstIdx preds e.1 e.2) (leaves s) preds.length
      refine h3.trans (hb'.trans ?_)
      rw [List.filter_eq_self.mpr]
      intro e he
      simpa using (bucket_length_eq_nil_iff preds _).mp hb e he
    · obtain ⟨i, hi1, hi2⟩ := List.getElem_of_mem hst
      have hr := h1.get i (by rw [h1.length_eq]; exact hi1) hi1
      rw [hi2] at hr
      exact hr.perm hr.leaves_perm.symm
  · rw [if_neg hb] at h
    cases h

end

/-- for an empty `b`, `a - b` is `a` itself, which may hold empty sub-dicts: hence `b ≠ []` in the last clause -/
theorem diff_leaves (a b : SMap α) (hwf : WFKvs a) :
    ∃ s', diff a b = .ok s' ∧ WFKvs s' ∧
      (leaves s').Perm ((leaves a).filter (fun e => !decide (e.1 ∈ (leaves b).map Prod.fst))) ∧
      (b ≠ [] → (Content s').Perm
        (((leaves a).filter (fun e => !decide (e.1 ∈ (leaves b).map Prod.fst))).map leafEntry)) := by
  cases b with
  | nil =>
    refine ⟨a, rfl, hwf, ?_, fun h => absurd rfl h⟩
    rw [List.filter_eq_self.mpr (fun _ _ => by simp [leavesKvs])]
  | cons x r =>
    have hfun : (fun e : SPath × α => !decide (e.1 ∈ (toFlat (x :: r)).map Prod.fst))
        = (fun e => !decide (e.1 ∈ (leaves (x :: r)).map Prod.fst)) := by
      funext e; simp only [((toFlat_perm (x :: r)).map _).mem_iff]
    rw [diff_eq a _ (List.cons_ne_nil x r), hfun]
    obtain ⟨s', h1, h2⟩ := fromFlat_filter a hwf _
    exact ⟨s', h1, h2.wf, h2.leaves_perm, fun _ => h2.content⟩

theorem stateOr_leaves (b c : SMap α) (hwb : WFKvs b)
    (hcompat : ∀ e1 ∈ [b, c].flatMap leaves, ∀ e2 ∈ [b, c].flatMap leaves, e1.1 = e2.1 ∨ Incomp e1.1 e2.1) :
    ∃ u, stateOr b c = .ok u ∧ WFKvs u ∧
      (∀ p x, (p, x) ∈ leaves u ↔ lastVal (leaves b ++ leaves c) p = some x) ∧
      ∀ p, p ∈ (leaves u).map Prod.fst ↔ (p ∈ (leaves b).map Prod.fst ∨ p ∈ (leaves c).map Prod.fst) := by
  have hl : [b, c].flatMap leaves = leaves b ++ leaves c := by simp
  have key : ∃ u, stateOr b c = .ok u ∧ WFKvs u ∧
      ∀ p x, (p, x) ∈ leaves u ↔ lastVal (leaves b ++ leaves c) p = some x := by
    cases c with
    | nil =>
      refine ⟨b, rfl, hwb, fun p x => ?_⟩
      rw [show leaves b ++ leaves ([] : SMap α) = leaves b from List.append_nil _,
        lastVal_of_nodup _ (leavesKvs_prefixFree b hwb).nodup_paths]
    | cons y r =>
      rw [← hl]
      exact mergeState_lastVal b [y :: r] (List.cons_ne_nil _ _) hcompat
  obtain ⟨u, h1, h2, h3⟩ := key
  refine ⟨u, h1, h2, h3, fun p => ?_⟩
  rw [← List.mem_append, ← List.map_append, ← lastVal_isSome_iff (leaves b ++ leaves c), List.mem_map]
  constructor
  · rintro ⟨⟨q, x⟩, hx, rfl⟩; exact ⟨x, (h3 q x).mp hx⟩
  · rintro ⟨x, hx⟩; exact ⟨(p, x), (h3 p x).mpr hx, rfl⟩

end Flax.State
