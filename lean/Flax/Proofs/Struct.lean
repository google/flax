/-
`Model/Struct.lean` (flax/struct.py): induction over struct values (`PV.induct`), flatten against unflatten, `tree_map`
against flatten, what `setField` does, and the metadata mappings as association lists.  At the end, in `Flax.C15`, the
specification of the pytree leaves (`dataLeaves`) and that flatten yields exactly them.
-/
import Flax.Model.Struct
import Flax.Proofs.Assoc

namespace Flax.Struct

theorem PV.induct {P : PV → Prop} {Q : List (String × Bool × PV) → Prop}
    (leaf : ∀ n, P (.leaf n)) (inst : ∀ cls fr fs, Q fs → P (.inst cls fr fs))
    (nil : Q []) (cons : ∀ name node v r, P v → Q r → Q ((name, node, v) :: r)) : (∀ x, P x) ∧ ∀ fs, Q fs :=
  ⟨PV.rec (motive_1 := P) (motive_2 := Q) (motive_3 := fun p => P p.2.2) (motive_4 := fun p => P p.2)
      leaf inst nil (fun p r hp hr => cons p.1 p.2.1 p.2.2 r hp hr) (fun _ _ h => h) (fun _ _ h => h),
    PV.rec_1 (motive_1 := P) (motive_2 := Q) (motive_3 := fun p => P p.2.2) (motive_4 := fun p => P p.2)
      leaf inst nil (fun p r hp hr => cons p.1 p.2.1 p.2.2 r hp hr) (fun _ _ h => h) (fun _ _ h => h)⟩

theorem flatten_not_static (v : PV) : (match (flatten v).2 with | .static _ => false | _ => true) = true := by
  cases v <;> simp [flatten]

theorem unflatten_flatten :
    (∀ (x : PV) (rest : List Int), unflatten (flatten x).2 ((flatten x).1 ++ rest) = some (x, rest)) ∧
    ∀ (fs : List (String × Bool × PV)) (rest : List Int),
      unflattenFs (flattenFs fs).2 ((flattenFs fs).1 ++ rest) = some (fs, rest) := by
  refine PV.induct ?_ ?_ ?_ ?_
  · intro n rest; rfl
  · intro cls fr fs ih rest
    simp only [flatten, unflatten, ih rest]
  · intro rest; rfl
  · intro name node v r ihv ihr rest
    cases node with
    | true =>
      simp only [flattenFs, unflattenFs, List.append_assoc, ihv, ihr]
      have hns := flatten_not_static v
      cases hv : (flatten v).2 <;> simp_all
    | false =>
      simp only [flattenFs, unflattenFs, unflatten, ihr]

theorem flatten_mapLeaves (f : Int → Int) :
    (∀ x : PV, flatten (mapLeaves f x) = (((flatten x).1).map f, (flatten x).2)) ∧
    ∀ fs : List (String × Bool × PV), flattenFs (mapLeavesFs f fs) = (((flattenFs fs).1).map f, (flattenFs fs).2) := by
  refine PV.induct ?_ ?_ ?_ ?_
  · intro n; rfl
  · intro cls fr fs ih
    simp only [flatten, mapLeaves, ih]
  · rfl
  · intro name node v r ihv ihr
    cases node with
    | true => simp only [flattenFs, mapLeavesFs, ihv, ihr, List.map_append]
    | false => simp only [flattenFs, mapLeavesFs, ihr]

theorem setField_spec {fs fs' : List (String × Bool × PV)} {name : String} {x : PV}
    (h : setField fs name x = some fs') :
    fs'.map (fun p => (p.1, p.2.1)) = fs.map (fun p => (p.1, p.2.1)) ∧
    getField fs' name = some x ∧
    ∀ other, other ≠ name → getField fs' other = getField fs other := by
  induction fs generalizing fs' with
  | nil => simp [setField] at h
  | cons q r ih =>
    obtain ⟨n, b, v⟩ := q
    simp only [setField] at h
    split at h
    · rename_i hn
      simp at h; subst h; subst hn
      refine ⟨by simp, by simp [getField], ?_⟩
      intro other ho
      simp [getField, Ne.symm ho]
    · rename_i hn
      cases hr : setField r name x with
      | none => simp [hr] at h
      | some r' =>
        simp [hr] at h; subst h
        obtain ⟨h1, h2, h3⟩ := ih hr
        refine ⟨by simp [h1], by simp [getField, hn, h2], ?_⟩
        intro other ho
        simp only [getField]
        split
        · rfl
        · exact h3 other ho

theorem setField_none {fs : List (String × Bool × PV)} {name : String} (v : PV)
    (h : getField fs name = none) : setField fs name v = none := by
  induction fs with
  | nil => rfl
  | cons q r ih =>
    obtain ⟨n, b, x⟩ := q
    simp only [getField] at h
    split at h
    · cases h
    · rename_i hn; simp [setField, hn, ih h]

theorem metaGet_eq_lookup (m : Meta) (key : String) : metaGet m key = m.lookup key :=
  Assoc.lookup_unique (get := fun k m => metaGet m k) (fun _ => rfl) (fun _ _ _ _ => rfl) key m

theorem metaSet_isUpsert : Assoc.IsUpsert fun k v (m : Meta) => metaSet m k v :=
  ⟨fun _ _ => rfl, fun _ _ _ _ => if_pos rfl, fun _ _ _ h => if_neg h⟩

end Flax.Struct

namespace Flax.C15
open Flax.Struct (PV SDef)

mutual
  /-- the specification of the leaves: the values of the fields *not* marked `pytree_node=False`, in
  field order, recursively; a static field contributes nothing, whatever it holds -/
  def dataLeaves : PV → List Int
    | .leaf n => [n]
    | .inst _ _ fs => dataLeavesFs fs
  def dataLeavesFs : List (String × Bool × PV) → List Int
    | [] => []
    | (_, node, v) :: r => (if node then dataLeaves v else []) ++ dataLeavesFs r
end

theorem flatten_dataLeaves :
    (∀ x : PV, (Struct.flatten x).1 = dataLeaves x) ∧
    ∀ fs : List (String × Bool × PV), (Struct.flattenFs fs).1 = dataLeavesFs fs := by
  refine Struct.PV.induct ?_ ?_ ?_ ?_
  · intro n; simp only [Struct.flatten, dataLeaves]
  · intro cls fr fs ih; simp only [Struct.flatten, dataLeaves, ih]
  · simp only [Struct.flattenFs, dataLeavesFs]
  · intro name node v r ihv ihr
    cases node with
    | true => simp only [Struct.flattenFs, dataLeavesFs, if_true, ihv, ihr]
    | false => simp only [Struct.flattenFs, dataLeavesFs, ihr]; simp

end Flax.C15
