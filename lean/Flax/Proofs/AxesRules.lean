/-
The logical-to-mesh rule loop of `Flax/Model/Axes.lean` (`runRules`): what one rule does to one position of `result`
(`getElem?_stepRule`), and what the loop keeps from any start state: the length, a position once assigned, no mesh axis
shared between two positions (`Disjoint`), and the fate of a position that starts unassigned.
-/
import Flax.Model.Axes

namespace Flax.C19
open Flax.Axes

/-- the state `result` is in when rule number `i` is about to be processed -/
def stateBefore (names : Names) (res : List Slot) (rules : List Rule) (i : Nat) : List Slot :=
  runRules names res (rules.take i)

end Flax.C19

namespace Flax.Axes
open Flax.C19 (stateBefore)

theorem firstIdx_eq_some {names : Names} {x : Name} {p : Nat} (h : firstIdx names x = some p) :
    names[p]? = some x := by
  induction names generalizing p with
  | nil => cases h
  | cons n ns ih =>
    rw [firstIdx] at h
    split at h
    · cases h; simp [*]
    · cases hf : firstIdx ns x with
      | none => rw [hf] at h; cases h
      | some p' => rw [hf] at h; cases h; exact ih hf

theorem getElem?_stepRule (names : Names) (res : List Slot) (r : Rule) (q : Nat) :
    (stepRule names res r)[q]? =
      if firstIdx names r.name = some q ∧ meshFree r.mesh res = true ∧ res[q]? = some Slot.unassigned
      then some (.val r.mesh) else res[q]? := by
  unfold stepRule
  cases firstIdx names r.name with
  | none => simp
  | some pos =>
    simp only [Option.some.injEq, Bool.and_eq_true, decide_eq_true_eq]
    by_cases hq : pos = q
    · subst hq
      split
      · next hc => rw [if_pos ⟨rfl, hc⟩, List.getElem?_set_self (List.getElem?_eq_some_iff.mp hc.2).1]
      · next hc => rw [if_neg fun h => hc h.2]
    · rw [if_neg (fun h => hq h.1 : ¬ (pos = q ∧ meshFree r.mesh res = true ∧ res[q]? = some Slot.unassigned))]
      split
      · rw [List.getElem?_set_ne hq]
      · rfl

theorem stepRule_length (names : Names) (res : List Slot) (r : Rule) :
    (stepRule names res r).length = res.length := by
  unfold stepRule
  split
  · rfl
  · split <;> simp

theorem runRules_length (names : Names) (rules : List Rule) (res : List Slot) :
    (runRules names res rules).length = res.length :=
  List.foldlRecOn (motive := fun r => r.length = res.length) rules _ rfl
    fun r h a _ => (stepRule_length names r a).trans h

/-- mesh axes of the slot at `p` (none out of range) -/
def slotLeaves (res : List Slot) (p : Nat) : List String :=
  match res[p]? with
  | some s => s.leaves
  | none => []

/-- no mesh axis is used by two different positions -/
def Disjoint (res : List Slot) : Prop :=
  ∀ p q a, p ≠ q → a ∈ slotLeaves res p → a ∉ slotLeaves res q

theorem mem_slotLeaves_iff {res : List Slot} {p : Nat} {a : String} :
    a ∈ slotLeaves res p ↔ ∃ s, res[p]? = some s ∧ a ∈ s.leaves := by
  unfold slotLeaves
  cases res[p]? <;> simp

theorem mem_used_of_slot (res : List Slot) (q : Nat) (a : String) (h : a ∈ slotLeaves res q) :
    a ∈ usedAxes res :=
  let ⟨s, hs, ha⟩ := mem_slotLeaves_iff.mp h
  List.mem_flatMap.mpr ⟨s, List.mem_of_getElem? hs, ha⟩

theorem slotLeaves_stepRule {names : Names} {res : List Slot} {r : Rule} {p : Nat} {a : String}
    (h : a ∈ slotLeaves (stepRule names res r) p) :
    a ∈ slotLeaves res p ∨ (a ∉ usedAxes res ∧ firstIdx names r.name = some p) := by
  obtain ⟨s, hs, ha⟩ := mem_slotLeaves_iff.mp h
  rw [getElem?_stepRule] at hs
  split at hs
  · next hc =>
    cases hs
    have hfree : ∀ a ∈ r.mesh.leaves, a ∉ usedAxes res := by
      simpa [meshFree, List.all_eq_true] using hc.2.1
    exact .inr ⟨hfree a ha, hc.1⟩
  · exact .inl (mem_slotLeaves_iff.mpr ⟨s, hs, ha⟩)

theorem stepRule_disjoint (names : Names) (res : List Slot) (r : Rule) (h : Disjoint res) :
    Disjoint (stepRule names res r) := by
  intro p q a hpq hp hq
  rcases slotLeaves_stepRule hp with hp | ⟨hfree, hip⟩
  · rcases slotLeaves_stepRule hq with hq | ⟨hfree, _⟩
    · exact h p q a hpq hp hq
    · exact hfree (mem_used_of_slot res p a hp)
  · rcases slotLeaves_stepRule hq with hq | ⟨_, hiq⟩
    · exact hfree (mem_used_of_slot res q a hq)
    · exact hpq (Option.some.inj (hip.symm.trans hiq))

theorem runRules_disjoint (names : Names) (rules : List Rule) (res : List Slot)
    (h : Disjoint res) : Disjoint (runRules names res rules) :=
  List.foldlRecOn rules _ h fun res h r _ => stepRule_disjoint names res r h

theorem runRules_get_of_val (names : Names) (rules : List Rule) (res : List Slot) (q : Nat)
    (m : MeshVal) (h : res[q]? = some (.val m)) : (runRules names res rules)[q]? = some (.val m) :=
  List.foldlRecOn (motive := fun r : List Slot => r[q]? = some (Slot.val m)) rules _ h fun r h a _ => by
    rw [getElem?_stepRule, if_neg (fun hc => by rw [h] at hc; cases hc.2.2), h]

/-- rule number `i` is the first rule for `s` whose mesh axes were all still free when its turn came -/
def FirstFree (names : Names) (res : List Slot) (rules : List Rule) (s : Name) (i : Nat)
    (r : Rule) : Prop :=
  rules[i]? = some r ∧ r.name = s ∧ meshFree r.mesh (stateBefore names res rules i) = true ∧
    ∀ j r', j < i → rules[j]? = some r' → r'.name = s →
      meshFree r'.mesh (stateBefore names res rules j) = false

theorem FirstFree.unique {names : Names} {res : List Slot} {rules : List Rule} {s : Name}
    {i i' : Nat} {r r' : Rule} (h : FirstFree names res rules s i r)
    (h' : FirstFree names res rules s i' r') : r = r' := by
  obtain ⟨hi, hn, hfree, hprev⟩ := h
  obtain ⟨hi', hn', hfree', hprev'⟩ := h'
  rcases Nat.lt_trichotomy i i' with hlt | rfl | hlt
  · rw [hprev' i r hlt hi hn] at hfree; cases hfree
  · exact Option.some.inj (hi.symm.trans hi')
  · rw [hprev i' r' hlt hi' hn'] at hfree'; cases hfree'

theorem runRules_get_of_unassigned (names : Names) (rules : List Rule) (res : List Slot)
    (p : Nat) (s : Name) (hp : firstIdx names s = some p) (hun : res[p]? = some Slot.unassigned) :
    (∃ i r, FirstFree names res rules s i r ∧ (runRules names res rules)[p]? = some (.val r.mesh)) ∨
    ((∀ i r, rules[i]? = some r → r.name = s →
        meshFree r.mesh (stateBefore names res rules i) = false) ∧
      (runRules names res rules)[p]? = some Slot.unassigned) := by
  induction rules generalizing res with
  | nil => exact .inr ⟨fun i r hi => (by cases hi), hun⟩
  | cons r rs ih =>
    -- `stateBefore … (r :: rs) (i + 1)` is `stateBefore … (stepRule names res r) rs i` by definition
    have hname : firstIdx names r.name = some p ↔ r.name = s :=
      ⟨fun h => Option.some.inj ((firstIdx_eq_some h).symm.trans (firstIdx_eq_some hp)),
       fun h => h ▸ hp⟩
    have hstep := getElem?_stepRule names res r p
    by_cases hc : r.name = s ∧ meshFree r.mesh res = true
    · rw [if_pos ⟨hname.mpr hc.1, hc.2, hun⟩] at hstep
      exact .inl ⟨0, r, ⟨rfl, hc.1, hc.2, fun j _ hj => absurd hj (Nat.not_lt_zero j)⟩,
        runRules_get_of_val names rs _ p r.mesh hstep⟩
    · rw [if_neg (fun h => hc ⟨hname.mp h.1, h.2.1⟩), hun] at hstep
      have h0 : ∀ r', (r :: rs)[0]? = some r' → r'.name = s → meshFree r'.mesh res = false := by
        intro r' hr' hn'
        cases hr'
        exact Bool.eq_false_iff.mpr fun hf => hc ⟨hn', hf⟩
      rcases ih (stepRule names res r) hstep with ⟨i, r0, ⟨hi, hn, hfree, hprev⟩, hfin⟩ | ⟨hall, hfin⟩
      · refine .inl ⟨i + 1, r0, ⟨hi, hn, hfree, fun j r' hj hr' hn' => ?_⟩, hfin⟩
        cases j with
        | zero => exact h0 r' hr' hn'
        | succ j => exact hprev j r' (Nat.lt_of_succ_lt_succ hj) hr' hn'
      · refine .inr ⟨fun i r' hi hn => ?_, hfin⟩
        cases i with
        | zero => exact h0 r' hi hn
        | succ i => exact hall i r' hi hn

theorem initSlots_disjoint (names : Names) : Disjoint (initSlots names) := by
  intro p q a _ hp _
  obtain ⟨s, hs, ha⟩ := mem_slotLeaves_iff.mp hp
  obtain ⟨n, -, rfl⟩ := Option.map_eq_some_iff.mp (List.getElem?_map .. ▸ hs)
  -- a start slot is the sentinel or `None`: no mesh axis either way
  cases n <;> cases ha

theorem initSlots_get (names : Names) (p : Nat) (s : String) (h : names[p]? = some (some s)) :
    (initSlots names)[p]? = some Slot.unassigned := by
  simp [initSlots, List.getElem?_map, h]

theorem logicalToMeshRaw_eq_ok {names : Names} {rules : List Rule} {res : List Slot}
    (h : logicalToMeshRaw names rules = .ok res) : res = runRules names (initSlots names) rules := by
  unfold logicalToMeshRaw at h
  split at h
  · cases h
  · cases h; rfl

theorem logicalToMesh_eq_ok {names : Names} {rules : List Rule} {res : List MeshVal}
    (h : logicalToMesh names rules = .ok res) :
    res = (runRules names (initSlots names) rules).map
      (fun s => match s with | .unassigned => MeshVal.none | .val m => m) := by
  unfold logicalToMesh at h
  cases hr : logicalToMeshRaw names rules with
  | error e => rw [hr] at h; cases h
  | ok slots => rw [hr] at h; cases h; rw [logicalToMeshRaw_eq_ok hr]; rfl

theorem mem_slotLeaves_of_logicalToMesh {names : Names} {rules : List Rule} {res : List MeshVal}
    (h : logicalToMesh names rules = .ok res) {p : Nat} {m : MeshVal} {a : String}
    (hm : res[p]? = some m) (ha : a ∈ m.leaves) :
    a ∈ slotLeaves (runRules names (initSlots names) rules) p := by
  rw [logicalToMesh_eq_ok h, List.getElem?_map] at hm
  obtain ⟨s, hs, rfl⟩ := Option.map_eq_some_iff.mp hm
  refine mem_slotLeaves_iff.mpr ⟨s, hs, ?_⟩
  cases s with
  | unassigned => cases ha
  | val m => exact ha

end Flax.Axes
