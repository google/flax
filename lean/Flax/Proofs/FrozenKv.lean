/-
Association lists of `Model/Frozen.lean` as finite maps (`kvSet` / `kvErase` / `kvUpdate`), the key sort (any two
permutations of entries with distinct keys sort to the same list), and `KvRel`, which every dict operation keeps.
-/
import Flax.Model.Frozen
import Flax.Proofs.InsertSort
import Flax.Proofs.Assoc

namespace Flax.Frozen

theorem sortKvs_cons {α : Type} (q : Key × α) (r : List (Key × α)) :
    sortKvs (q :: r) = insertKv q (sortKvs r) := rfl

theorem kvUpdate_cons {α : Type} (a : List (Key × α)) (q : Key × α) (r : List (Key × α)) :
    kvUpdate a (q :: r) = kvUpdate (kvSet a q.1 q.2) r := rfl

theorem insertKv_isInsert {α : Type} : IsInsert (fun p q : Key × α => p.1 ≤ q.1) insertKv :=
  ⟨fun _ => rfl, fun _ h => if_pos h, fun _ h => if_neg h⟩

theorem mem_sortKvs_iff {α : Type} {kvs : List (Key × α)} {p : Key × α} : p ∈ sortKvs kvs ↔ p ∈ kvs :=
  insertKv_isInsert.mem_sort

theorem kvSet_isUpsert {α : Type} : Assoc.IsUpsert fun k (v : α) l => kvSet l k v :=
  ⟨fun _ _ => rfl, fun _ _ _ _ => if_pos rfl, fun _ _ _ h => if_neg h⟩

theorem kvGet_eq_lookup {α : Type} (l : List (Key × α)) (k : Key) : kvGet l k = l.lookup k :=
  Assoc.lookup_unique (get := fun k l => kvGet l k) (fun _ => rfl) (fun _ _ _ _ => rfl) k l

theorem lookupT_eq_lookup (k : Key) (l : List (Key × Tree)) : lookupT k l = l.lookup k :=
  Assoc.lookup_unique (fun _ => rfl) (fun _ _ _ _ => rfl) k l

theorem mem_kvSet {α : Type} {kvs : List (Key × α)} {k : Key} {v : α} {p : Key × α}
    (hp : p ∈ kvSet kvs k v) : p ∈ kvs ∨ p = (k, v) :=
  (kvSet_isUpsert.mem hp).symm

theorem mem_kvErase {α : Type} {kvs : List (Key × α)} {k : Key} {p : Key × α}
    (hp : p ∈ kvErase kvs k) : p ∈ kvs := by
  simp [kvErase] at hp; exact hp.1

theorem mem_kvUpdate {α : Type} {ys xs : List (Key × α)} {p : Key × α}
    (hp : p ∈ kvUpdate xs ys) : p ∈ xs ∨ p ∈ ys :=
  kvSet_isUpsert.foldl_mem hp

theorem kvGet_mem {α : Type} {kvs : List (Key × α)} {k : Key} {v : α}
    (hg : kvGet kvs k = some v) : (k, v) ∈ kvs :=
  Assoc.mem_of_lookup (kvGet_eq_lookup kvs k ▸ hg)

theorem sortKvs_perm {α : Type} (l : List (Key × α)) : (sortKvs l).Perm l := insertKv_isInsert.sort_perm l

theorem nodup_sortKvs {α : Type} {l : List (Key × α)} (hn : (l.map (·.1)).Nodup) :
    ((sortKvs l).map (·.1)).Nodup :=
  (((sortKvs_perm l).map (·.1)).nodup_iff).mpr hn

/-- `deep` walks `if m = .tree then sortKvs kvs else kvs` -/
theorem mem_ord {α : Type} {c : Prop} [Decidable c] {kvs : List (Key × α)} {p : Key × α}
    (hp : p ∈ (if c then sortKvs kvs else kvs)) : p ∈ kvs := by
  split at hp
  · exact mem_sortKvs_iff.mp hp
  · exact hp

theorem nodup_ord {α : Type} {c : Prop} [Decidable c] {l : List (Key × α)} (hn : (l.map (·.1)).Nodup) :
    ((if c then sortKvs l else l).map (·.1)).Nodup := by
  split
  · exact nodup_sortKvs hn
  · exact hn

theorem nodup_kvSet {α : Type} {l : List (Key × α)} (k : Key) (v : α) (hn : (l.map (·.1)).Nodup) :
    ((kvSet l k v).map (·.1)).Nodup :=
  kvSet_isUpsert.nodup_keys k v hn

theorem nodup_kvErase {α : Type} {l : List (Key × α)} (k : Key) (hn : (l.map (·.1)).Nodup) :
    ((kvErase l k).map (·.1)).Nodup := by
  have : ((kvErase l k).map (·.1)).Sublist (l.map (·.1)) := by
    simp only [kvErase]; exact (List.filter_sublist).map _
  exact this.nodup hn

theorem nodup_kvUpdate {α : Type} {ys xs : List (Key × α)} (hn : (xs.map (·.1)).Nodup) :
    ((kvUpdate xs ys).map (·.1)).Nodup :=
  kvSet_isUpsert.foldl_nodup_keys ys hn

theorem sortKvs_idem {α : Type} (l : List (Key × α)) : sortKvs (sortKvs l) = sortKvs l :=
  insertKv_isInsert.sort_idem (fun a b => String.le_total a.1 b.1) String.le_trans l

theorem sortKvs_mapVal {α β : Type} (g : α → β) (l : List (Key × α)) :
    (sortKvs l).map (fun q => (q.1, g q.2)) = sortKvs (l.map (fun q => (q.1, g q.2))) :=
  insertKv_isInsert.sort_map insertKv_isInsert _ l fun _ _ _ _ => Iff.rfl

theorem sortKvs_perm_eq {α : Type} {l1 l2 : List (Key × α)} (hp : l1.Perm l2)
    (hn : (l1.map (·.1)).Nodup) : sortKvs l1 = sortKvs l2 :=
  insertKv_isInsert.sort_eq_of_perm id (fun h => (String.le_total _ _).resolve_left h) String.le_trans hp
    fun _ ha _ hb h1 h2 => Assoc.eq_of_nodup_map hn ha hb (String.le_antisymm h1 h2)

theorem lookupT_of_mem {kvs : List (Key × Tree)} {k : Key} {t : Tree}
    (hn : (kvs.map (·.1)).Nodup) (hm : (k, t) ∈ kvs) : lookupT k kvs = some t :=
  lookupT_eq_lookup k kvs ▸ Assoc.lookup_of_mem hn hm

theorem lookupT_kvSet (l : List (Key × Tree)) (k key : Key) (t : Tree) :
    lookupT key (kvSet l k t) = if k = key then some t else lookupT key l := by
  rw [lookupT_eq_lookup, lookupT_eq_lookup, kvSet_isUpsert.lookup]; simp only [eq_comm]

theorem lookupT_none_iff {l : List (Key × Tree)} {key : Key} :
    lookupT key l = none ↔ key ∉ l.map (·.1) :=
  lookupT_eq_lookup key l ▸ Assoc.lookup_eq_none_iff

theorem lookupT_kvUpdate {b : List (Key × Tree)} (hn : (b.map (·.1)).Nodup) (key : Key) :
    ∀ (a : List (Key × Tree)), lookupT key (kvUpdate a b) =
      match lookupT key b with
      | some t => some t
      | none => lookupT key a := by
  intro a
  rw [lookupT_eq_lookup, lookupT_eq_lookup, lookupT_eq_lookup, kvUpdate, kvSet_isUpsert.foldl_lookup,
    ← Assoc.lookup_perm b.reverse_perm.symm hn]
  cases b.lookup key <;> rfl

theorem lookupT_sortKvs {l : List (Key × Tree)} (hn : (l.map (·.1)).Nodup) (key : Key) :
    lookupT key (sortKvs l) = lookupT key l := by
  rw [lookupT_eq_lookup, lookupT_eq_lookup]
  exact (Assoc.lookup_perm (sortKvs_perm l).symm hn key).symm

/-- Same keys in the same order, `r`-related values.  Reading a heap dict as an abstract value (`absKvs f kvs = some ts`,
`r v t := f v = some t`) and mapping a function over the values (`r a b := g a = b`) are instances. -/
inductive KvRel {α β : Type} (r : α → β → Prop) : List (Key × α) → List (Key × β) → Prop where
  | nil : KvRel r [] []
  | cons {k : Key} {a : α} {b : β} {l1 : List (Key × α)} {l2 : List (Key × β)} :
      r a b → KvRel r l1 l2 → KvRel r ((k, a) :: l1) ((k, b) :: l2)

namespace KvRel
variable {α β : Type} {r : α → β → Prop} {l1 : List (Key × α)} {l2 : List (Key × β)}

theorem keys (h : KvRel r l1 l2) : l2.map (·.1) = l1.map (·.1) := by
  induction h with
  | nil => rfl
  | cons _ _ ih => rw [List.map_cons, List.map_cons, ih]

theorem refl : ∀ l : List (Key × α), KvRel (fun a b => b = a) l l
  | [] => .nil
  | _ :: l => .cons rfl (refl l)

theorem imp {s : α → β → Prop} (h : KvRel r l1 l2) (hrs : ∀ p ∈ l1, ∀ b, r p.2 b → s p.2 b) :
    KvRel s l1 l2 := by
  induction h with
  | nil => exact .nil
  | cons hr _ ih =>
    exact .cons (hrs _ List.mem_cons_self _ hr) (ih fun p hp => hrs p (List.mem_cons_of_mem _ hp))

theorem mem_right (h : KvRel r l1 l2) : ∀ q ∈ l2, ∃ p ∈ l1, r p.2 q.2 := by
  induction h with
  | nil => intro q hq; cases hq
  | cons hr _ ih =>
    intro q hq
    rcases List.mem_cons.mp hq with rfl | hq
    · exact ⟨_, List.mem_cons_self, hr⟩
    · obtain ⟨p, hp, hpq⟩ := ih q hq
      exact ⟨p, List.mem_cons_of_mem _ hp, hpq⟩

theorem exists_of_forall : ∀ {l1 : List (Key × α)}, (∀ p ∈ l1, ∃ b, r p.2 b) → ∃ l2, KvRel r l1 l2
  | [], _ => ⟨[], .nil⟩
  | (k, a) :: l1, h =>
    let ⟨b, hb⟩ := h (k, a) List.mem_cons_self
    let ⟨l2, hl⟩ := exists_of_forall fun p hp => h p (List.mem_cons_of_mem _ hp)
    ⟨(k, b) :: l2, .cons hb hl⟩

theorem lookup_some (h : KvRel r l1 l2) {key : Key} {a : α} (hg : l1.lookup key = some a) :
    ∃ b, l2.lookup key = some b ∧ r a b := by
  induction h with
  | nil => cases hg
  | @cons k a' b' _ _ hr _ ih =>
    by_cases hk : k = key
    · rw [Assoc.lookup_cons_eq (p := (k, a')) hk] at hg
      cases hg
      exact ⟨b', Assoc.lookup_cons_eq (p := (k, b')) hk _, hr⟩
    · rw [Assoc.lookup_cons_ne (p := (k, a')) hk] at hg
      rw [Assoc.lookup_cons_ne (p := (k, b')) hk]
      exact ih hg

theorem kvSet (h : KvRel r l1 l2) (key : Key) {a : α} {b : β} (hab : r a b) :
    KvRel r (kvSet l1 key a) (kvSet l2 key b) := by
  induction h with
  | nil => exact .cons hab .nil
  | @cons k a' b' _ _ hr hl ih =>
    dsimp only [Frozen.kvSet]
    by_cases hk : k = key
    · rw [if_pos hk, if_pos hk]; exact .cons hab hl
    · rw [if_neg hk, if_neg hk]; exact .cons hr ih

theorem kvErase (h : KvRel r l1 l2) (key : Key) : KvRel r (kvErase l1 key) (kvErase l2 key) := by
  induction h with
  | nil => exact .nil
  | @cons k a' b' _ _ hr _ ih =>
    dsimp only [Frozen.kvErase] at ih ⊢
    by_cases hk : k = key
    · rw [List.filter_cons_of_neg (by simp [hk]), List.filter_cons_of_neg (by simp [hk])]; exact ih
    · rw [List.filter_cons_of_pos (by simp [hk]), List.filter_cons_of_pos (by simp [hk])]; exact .cons hr ih

theorem kvUpdate {y1 : List (Key × α)} {y2 : List (Key × β)} (hy : KvRel r y1 y2) :
    ∀ {x1 : List (Key × α)} {x2 : List (Key × β)}, KvRel r x1 x2 → KvRel r (kvUpdate x1 y1) (kvUpdate x2 y2) := by
  induction hy with
  | nil => intro _ _ hx; exact hx
  | cons hr _ ih =>
    intro _ _ hx
    rw [kvUpdate_cons, kvUpdate_cons]
    exact ih (hx.kvSet _ hr)

theorem insertKv (h : KvRel r l1 l2) (key : Key) {a : α} {b : β} (hab : r a b) :
    KvRel r (insertKv (key, a) l1) (insertKv (key, b) l2) := by
  induction h with
  | nil => exact .cons hab .nil
  | @cons k a' b' _ _ hr hl ih =>
    dsimp only [Frozen.insertKv]
    by_cases hk : key ≤ k
    · rw [if_pos hk, if_pos hk]; exact .cons hab (.cons hr hl)
    · rw [if_neg hk, if_neg hk]; exact .cons hr ih

theorem sortKvs (h : KvRel r l1 l2) : KvRel r (sortKvs l1) (sortKvs l2) := by
  induction h with
  | nil => exact .nil
  | cons hr _ ih =>
    rw [sortKvs_cons, sortKvs_cons]
    exact ih.insertKv _ hr

theorem eq_map {g : α → β} (h : KvRel (fun a b => g a = b) l1 l2) : l2 = l1.map fun q => (q.1, g q.2) := by
  induction h with
  | nil => rfl
  | cons hr _ ih => rw [List.map_cons, ← ih, ← hr]

end KvRel

end Flax.Frozen
