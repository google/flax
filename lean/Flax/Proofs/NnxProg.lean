/-
Programs of the mutation DSL cannot tell isomorphic heaps apart.  Running a body on the caller's heap and on the heap of the
traced function (related by an injective address map `φ`) fails alike or succeeds alike, with related registers and heaps;
the map is extended by the objects the program creates.
-/
import Flax.Proofs.HeapRel
import Flax.Proofs.NnxStep
import Flax.Proofs.Except

namespace Flax.Nnx
open Flax.Heap Flax.Graph

theorem attrsSim_put {φ : Addr → Option Addr} {A A' : List (Key × PVal)} (h : AttrsSim φ A A') (k : Key)
    {v v' : PVal} (hv : ValRel φ v v') : AttrsSim φ (putKV k v A) (putKV k v' A') := by
  intro k0
  rw [lookupKV_putKV, lookupKV_putKV]
  by_cases e : k = k0
  · simp only [e, if_true]; exact Or.inr ⟨v, v', rfl, rfl, hv⟩
  · simp only [e, if_false]; exact h k0

theorem attrsSim_erase {φ : Addr → Option Addr} {A A' : List (Key × PVal)} (h : AttrsSim φ A A') (k : Key) :
    AttrsSim φ (eraseKV k A) (eraseKV k A') := by
  intro k0
  rw [lookupKV_eraseKV, lookupKV_eraseKV]
  by_cases e : k = k0
  · simp only [e, if_true]; exact Or.inl ⟨rfl, rfl⟩
  · simp only [e, if_false]; exact h k0

theorem eval_sim {φ : Addr → Option Addr} {env env' : List PVal} (he : ValsRel φ env env') :
    ∀ (e : DExpr), e.eval env = e.eval env'
  | .const c => rfl
  | .reg r => by
    simp only [DExpr.eval]
    rcases ValsRel.get he r with ⟨h1, h2⟩ | ⟨v, w, h1, h2, hv⟩
    · rw [h1, h2]
    · rw [h1, h2]; cases hv <;> rfl
  | .add a b | .mul a b | .lt a b => by simp only [DExpr.eval, eval_sim he a, eval_sim he b]

/-- `φ` relates every object of the inner heap `G` to exactly one object of the caller's heap `h` -/
structure Rel (φ : Addr → Option Addr) (h G : Heap) : Prop where
  inj : ∀ (a b c : Nat), φ a = some c → φ b = some c → a = b
  obj : ∀ (a b : Nat), φ a = some b → ∃ o o', h[a]? = some o ∧ G[b]? = some o' ∧ ObjSim φ o o'
  onto : ∀ (b : Nat), b < G.length → ∃ (a : Nat), φ a = some b

theorem Rel.dom {φ : Addr → Option Addr} {h G : Heap} (R : Rel φ h G) {a b : Nat} (hab : φ a = some b) :
    a < h.length ∧ b < G.length := by
  obtain ⟨o, o', h1, h2, _⟩ := R.obj a b hab
  exact ⟨(List.getElem?_eq_some_iff.mp h1).1, (List.getElem?_eq_some_iff.mp h2).1⟩

theorem Rel.write {φ : Addr → Option Addr} {h G : Heap} (R : Rel φ h G) {a b : Nat} (hab : φ a = some b)
    {o o' : Obj} (hs : ObjSim φ o o') : Rel φ (write h a o) (write G b o') := by
  have hd := R.dom hab
  refine ⟨R.inj, ?_, fun b' hb' => R.onto b' (by simpa [write_length] using hb')⟩
  intro a2 b2 h2
  by_cases e : a2 = a
  · subst e
    have : b2 = b := by rw [hab] at h2; exact (Option.some.inj h2).symm
    subst this
    exact ⟨o, o', write_get _ _ _ hd.1, write_get _ _ _ hd.2, hs⟩
  · have hne : b2 ≠ b := fun eb => e (R.inj a2 a b (eb ▸ h2) hab)
    obtain ⟨o2, o2', g1, g2, g3⟩ := R.obj a2 b2 h2
    exact ⟨o2, o2', by rw [write_frame _ _ _ _ e]; exact g1, by rw [write_frame _ _ _ _ hne]; exact g2, g3⟩

def extend (φ : Addr → Option Addr) (a b : Nat) : Addr → Option Addr := fun x => if x = a then some b else φ x

theorem extend_le {φ : Addr → Option Addr} {h G : Heap} (R : Rel φ h G) : PhiLe φ (extend φ h.length G.length) := by
  intro a b hab
  have := (R.dom hab).1
  simp only [extend]
  rw [if_neg (Nat.ne_of_lt this)]; exact hab

theorem Rel.alloc {φ : Addr → Option Addr} {h G : Heap} (R : Rel φ h G) {o o' : Obj}
    (hs : ObjSim (extend φ h.length G.length) o o') :
    Rel (extend φ h.length G.length) (h ++ [o]) (G ++ [o']) := by
  refine ⟨?_, ?_, ?_⟩
  · intro a b c h1 h2
    simp only [extend] at h1 h2
    split at h1 <;> split at h2
    · next e1 e2 => exact e1.trans e2.symm
    · have e : G.length = c := Option.some.inj h1
      have := (R.dom h2).2; omega
    · have e : G.length = c := Option.some.inj h2
      have := (R.dom h1).2; omega
    · exact R.inj a b c h1 h2
  · intro a b hab
    simp only [extend] at hab
    split at hab
    · next e =>
      have : G.length = b := Option.some.inj hab
      subst this; subst e
      exact ⟨o, o', by simp, by simp, hs⟩
    · obtain ⟨o2, o2', g1, g2, g3⟩ := R.obj a b hab
      have hd := R.dom hab
      exact ⟨o2, o2', by rw [List.getElem?_append_left hd.1]; exact g1, by rw [List.getElem?_append_left hd.2]; exact g2,
        objSim_mono (extend_le R) g3⟩
  · intro b hb
    simp only [List.length_append, List.length_singleton] at hb
    by_cases e : b = G.length
    · exact ⟨h.length, by simp [extend, e]⟩
    · obtain ⟨a, ha⟩ := R.onto b (by omega)
      exact ⟨a, extend_le R a b ha⟩

/-- How the correspondence grows while a body runs, from `(φ, h, G)` to `(φ', h1, _)`: the caller's objects that were
there keep their partners, and objects created since are paired with objects created since.  That is what lets the outer
merge tell "re-use the caller's object" from "create" by the address alone. -/
structure Ext (φ : Addr → Option Addr) (h G : Heap) (φ' : Addr → Option Addr) (h1 : Heap) : Prop where
  le : PhiLe φ φ'
  old : ∀ (a : Nat), a < h.length → φ' a = φ a
  new : ∀ (a b : Nat), h.length ≤ a → φ' a = some b → G.length ≤ b
  len : h.length ≤ h1.length

theorem Ext.same {φ : Addr → Option Addr} {h G h1 : Heap} (R : Rel φ h G) (hl : h.length ≤ h1.length) : Ext φ h G φ h1 :=
  ⟨PhiLe.refl φ, fun _ _ => rfl, fun a b ha hab => by have := (R.dom hab).1; omega, hl⟩

theorem Ext.alloc {φ : Addr → Option Addr} {h G : Heap} (R : Rel φ h G) (o : Obj) :
    Ext φ h G (extend φ h.length G.length) (h ++ [o]) := by
  refine ⟨extend_le R, fun a ha => if_neg (Nat.ne_of_lt ha), fun a b ha hab => ?_, by simp⟩
  simp only [extend] at hab
  split at hab
  · exact Nat.le_of_eq (Option.some.inj hab)
  · exact (Ext.same R (Nat.le_refl _)).new a b ha hab

theorem Rel.length_le {φ φ1 : Addr → Option Addr} {h G h1 G1 : Heap} (R : Rel φ h G) (R1 : Rel φ1 h1 G1) (le : PhiLe φ φ1) :
    G.length ≤ G1.length :=
  Nat.le_of_not_lt fun hlt => by
    obtain ⟨a, ha⟩ := R.onto G1.length hlt
    exact Nat.lt_irrefl _ (R1.dom (le a _ ha)).2

theorem Ext.trans {φ φ1 φ2 : Addr → Option Addr} {h G h1 G1 h2 : Heap} (R : Rel φ h G) (R1 : Rel φ1 h1 G1)
    (e1 : Ext φ h G φ1 h1) (e2 : Ext φ1 h1 G1 φ2 h2) : Ext φ h G φ2 h2 := by
  refine ⟨e1.le.trans e2.le, fun a ha => ?_, fun a b ha hab => ?_, Nat.le_trans e1.len e2.len⟩
  · rw [e2.old a (Nat.lt_of_lt_of_le ha e1.len), e1.old a ha]
  · by_cases hlt : a < h1.length
    · rw [e2.old a hlt] at hab
      exact e1.new a b ha hab
    · exact Nat.le_trans (R.length_le R1 e1.le) (e2.new a b (Nat.le_of_not_lt hlt) hab)

theorem deref_sim {φ : Addr → Option Addr} {h G : Heap} {env env' : List PVal} (R : Rel φ h G)
    (he : ValsRel φ env env') (r : Nat) :
    ExceptRel (fun p q => φ p.1 = some q.1 ∧ ObjSim φ p.2 q.2) (deref h env r) (deref G env' r) := by
  unfold deref
  rcases ValsRel.get he r with ⟨h1, h2⟩ | ⟨v, w, h1, h2, hv⟩
  · rw [h1, h2]; exact .error _
  · rw [h1, h2]
    cases hv with
    | ref hab =>
      obtain ⟨o, o', g1, g2, g3⟩ := R.obj _ _ hab
      simp only [g1, g2]
      exact .ok ⟨hab, g3⟩
    | static s => exact .error _
    | array d => exact .error _
    | none => exact .error _
    | seq _ => exact .error _
    | dict _ => exact .error _

/-- both runs fail alike, or succeed in states related by a `φ'` that `Ext`ends `φ`; `CallSim`: the same for `(results, heap)` -/
def StepSim (φ : Addr → Option Addr) (h G : Heap) : Except Err (Heap × List PVal) → Except Err (Heap × List PVal) → Prop :=
  ExceptRel fun s t => ∃ φ', Rel φ' s.1 t.1 ∧ ValsRel φ' s.2 t.2 ∧ Ext φ h G φ' s.1

theorem runOp_sim {φ : Addr → Option Addr} {h G : Heap} {env env' : List PVal} (R : Rel φ h G)
    (he : ValsRel φ env env') (op : Op) : StepSim φ h G (runOp h env op) (runOp G env' op) := by
  have push : ∀ {v w : PVal}, ValRel φ v w → StepSim φ h G (.ok (h, env ++ [v])) (.ok (G, env' ++ [w])) := fun hv =>
    .ok ⟨φ, R, ValsRel.append he (.cons hv .nil), Ext.same R (Nat.le_refl _)⟩
  have store : ∀ {a b : Nat} {o o' : Obj}, φ a = some b → ObjSim φ o o' →
      StepSim φ h G (.ok (write h a o, env)) (.ok (write G b o', env')) := fun hab hs =>
    .ok ⟨φ, R.write hab hs, he, Ext.same R (Nat.le_of_eq (write_length _ _ _).symm)⟩
  have alloc : ∀ {o o' : Obj}, ObjSim (extend φ h.length G.length) o o' →
      StepSim φ h G (.ok (h ++ [o], env ++ [.ref h.length])) (.ok (G ++ [o'], env' ++ [.ref G.length])) := fun hs =>
    .ok ⟨extend φ h.length G.length, R.alloc hs,
      ValsRel.append (ValsRel.mono (extend_le R) he) (.cons (.ref (by simp [extend])) .nil), Ext.alloc R _⟩
  have err : ∀ (e : Err), StepSim φ h G (.error e) (.error e) := .error
  cases op with
  | getAttr r k =>
    rw [runOp_getAttr, runOp_getAttr]
    refine (deref_sim R he r).elim (fun ⟨a, o⟩ ⟨b, o'⟩ _ _ ⟨hab, hs⟩ => ?_) (fun e _ _ => err e)
    cases hs with
    | var => exact err _
    | node hA =>
      rcases hA k with ⟨e1, e2⟩ | ⟨v, w, e1, e2, hv⟩
      · simp only [e1, e2]; exact err _
      · simp only [e1, e2]; exact push hv
  | readVar r =>
    rw [runOp_readVar, runOp_readVar]
    refine (deref_sim R he r).elim (fun ⟨a, o⟩ ⟨b, o'⟩ _ _ ⟨hab, hs⟩ => ?_) (fun e _ _ => err e)
    cases hs with
    | var ty v md => exact push (.array v)
    | node _ => exact err _
  | setVar r e =>
    rw [runOp_setVar, runOp_setVar]
    refine (deref_sim R he r).elim (fun ⟨a, o⟩ ⟨b, o'⟩ _ _ ⟨hab, hs⟩ => ?_) (fun e _ _ => err e)
    cases hs with
    | node _ => exact err _
    | var ty v md =>
      simp only [← eval_sim he e]
      cases e.eval env with
      | error er => exact err _
      | ok d => exact store hab (.var ty d md)
  | setAttr r k src =>
    rw [runOp_setAttr, runOp_setAttr]
    rcases ValsRel.get he src with ⟨s1, s2⟩ | ⟨sv, sw, s1, s2, hsv⟩
    · rw [s1, s2]; exact err _
    · rw [s1, s2]
      refine (deref_sim R he r).elim (fun ⟨a, o⟩ ⟨b, o'⟩ _ _ ⟨hab, hs⟩ => ?_) (fun e _ _ => err e)
      cases hs with
      | var => exact err _
      | node hA => exact store hab (.node (attrsSim_put hA k hsv))
  | delAttr r k =>
    rw [runOp_delAttr, runOp_delAttr]
    refine (deref_sim R he r).elim (fun ⟨a, o⟩ ⟨b, o'⟩ _ _ ⟨hab, hs⟩ => ?_) (fun e _ _ => err e)
    cases hs with
    | var => exact err _
    | node hA =>
      rcases hA k with ⟨e1, e2⟩ | ⟨v, w, e1, e2, hv⟩
      · simp only [e1, e2]; exact err _
      · simp only [e1, e2, Option.isSome_some, if_true]
        exact store hab (.node (attrsSim_erase hA k))
  | newNode cls => exact alloc (.node (fun k => Or.inl ⟨rfl, rfl⟩))
  | newVar ty e md =>
    simp only [runOp, ← eval_sim he e]
    cases e.eval env with
    | error er => exact err _
    | ok d => exact alloc (.var ty d md)
  | litStatic s => exact push (.static s)
  | litNone => exact push .none
  | data e =>
    simp only [runOp, ← eval_sim he e]
    cases e.eval env with
    | error er => exact err _
    | ok d => exact push (.array d)

theorem runOps_sim : ∀ (ops : List Op) {φ : Addr → Option Addr} {h G : Heap} {env env' : List PVal},
    Rel φ h G → ValsRel φ env env' → StepSim φ h G (runOps ops h env) (runOps ops G env')
  | [], φ, h, G, env, env', R, he => .ok ⟨φ, R, he, Ext.same R (Nat.le_refl _)⟩
  | op :: rest, φ, h, G, env, env', R, he => by
    simp only [runOps]
    refine (runOp_sim R he op).elim (fun s t _ _ ⟨φ1, R1, he1, x1⟩ => ?_) (fun e _ _ => .error e)
    exact (runOps_sim rest R1 he1).mono (fun _ _ _ _ ⟨φ2, R2, he2, x2⟩ => ⟨φ2, R2, he2, x1.trans R R1 x2⟩)

theorem getRegs_sim {φ : Addr → Option Addr} {env env' : List PVal} (he : ValsRel φ env env') : ∀ (rs : List Nat),
    ExceptRel (ValsRel φ) (getRegs env rs) (getRegs env' rs)
  | [] => .ok .nil
  | r :: rs => by
    simp only [getRegs]
    rcases ValsRel.get he r with ⟨h1, h2⟩ | ⟨v, w, h1, h2, hv⟩
    · rw [h1, h2]; exact .error _
    · rw [h1, h2]
      exact (getRegs_sim he rs).elim (fun _ _ _ _ hvs => .ok (.cons hv hvs)) (fun e _ _ => .error e)

def CallSim (φ : Addr → Option Addr) (h G : Heap) : Except Err (List PVal × Heap) → Except Err (List PVal × Heap) → Prop :=
  ExceptRel fun s t => ∃ φ', Rel φ' s.2 t.2 ∧ ValsRel φ' s.1 t.1 ∧ Ext φ h G φ' s.2

theorem runFn_sim (f : Fn) {φ : Addr → Option Addr} {h G : Heap} {args args' : List PVal}
    (R : Rel φ h G) (ha : ValsRel φ args args') : CallSim φ h G (runFn f h args) (runFn f G args') := by
  unfold runFn
  refine (runOps_sim f.body R ha).elim (fun ⟨h1, env1⟩ ⟨G1, env1'⟩ _ _ ⟨φ1, R1, he1, x1⟩ => ?_) (fun e _ _ => .error e)
  dsimp only
  exact (getRegs_sim he1 f.ret).elim (fun _ _ _ _ hvs => .ok ⟨φ1, R1, hvs, x1⟩) (fun e _ _ => .error e)

end Flax.Nnx
