/-
Concrete instances for the non-vacuity examples of C18: small wrapped modules that satisfy `ModOk` /
`NModOk`, `VarsOk` of their literal dicts, and checkable conditions for `AttrsOk`, `NoNnx`, `Fits`.
-/
import Flax.Proofs.BridgeToNNX
import Flax.Proofs.BridgeToLinen

namespace Flax.Bridge
variable {α : Type}

theorem disjoint_of_paths {β γ : Type} (f : Forest β) (f' : Forest γ) (hf : WFF f) (hf' : WFF f')
    (h : ∀ q ∈ paths (flattenF f), ∀ q' ∈ paths (flattenF f'), ¬ (q <+: q' ∨ q' <+: q)) : Disjoint f f' :=
  fun q q' h1 h2 => h q ((mem_paths_flattenF f hf q).mpr h1) q' ((mem_paths_flattenF f' hf' q').mpr h2)

theorem leafAtF_top_none (r : Reg) (V : Forest (LBox α)) (hV : VarsOk r V) (c : String) : leafAtF V [c] = none := by
  cases h : leafAtF V [c] with
  | none => rfl
  | some x =>
    obtain ⟨t, hm, hl⟩ := (leafAtF_col V hV.wf c [] x).mp h
    obtain ⟨f, hf, _⟩ := hV.cols (c, t) hm
    simp only at hf
    rw [hf] at hl; simp at hl

theorem exists_ok_of_fst {ε σ τ : Type} (e : Except ε (σ × τ)) (a : σ)
    (h : e.toOption.map Prod.fst = some a) : ∃ b, e = .ok (a, b) := by
  cases e with
  | error _ => cases h
  | ok p =>
    simp only [Except.toOption, Option.map_some, Option.some.injEq] at h
    exact ⟨p.2, by rw [← h]⟩

theorem attrsOk_of_blank (r : Reg) (A : Forest (NVar α)) (hw : WFF A)
    (h : ∀ pv ∈ flattenF A, pv.2.md = [] ∧ (r.nameOf pv.2.vtype).isSome = true) : AttrsOk r A := by
  refine ⟨hw, fun q v hl => Or.inl (h _ (flattenF_complete A q v hl)).1, fun q v hl => ?_⟩
  exact Option.isSome_iff_exists.mp (h _ (flattenF_complete A q v hl)).2

theorem noNnx_of_flat (r : Reg) (S : Forest (NVar α))
    (h : ∀ pv ∈ flattenF S, r.nameOf pv.2.vtype ≠ some "nnx") : NoNnx r S :=
  fun q v hl => h _ (flattenF_complete S q v hl)

theorem fits_of_sub (r : Reg) (V U : Forest (LBox α)) (hV : VarsOk r V) (hU : VarsOk r U)
    (hsub : ∀ c q, leafAtF U (c :: q) ≠ none → leafAtF V (c :: q) ≠ none) : Fits r V U := by
  refine ⟨hU, ?_⟩
  intro c q c' q' h1 h2 hp
  have h2' := hsub c' q' h2
  by_cases hcc : c = c'
  · subst hcc
    refine ⟨?_, rfl⟩
    rcases hp with hp | hp
    · exact (List.cons.inj (leafAtF_prefix_eq V (c :: q) (c :: q') h1 h2'
        (by rw [List.cons_prefix_cons]; exact ⟨rfl, hp⟩))).2
    · exact (List.cons.inj (leafAtF_prefix_eq V (c :: q') (c :: q) h2' h1
        (by rw [List.cons_prefix_cons]; exact ⟨rfl, hp⟩))).2.symm
  · exfalso
    cases h0 : leafAtF V (c :: q) with
    | none => exact h1 h0
    | some x0 =>
      cases h0' : leafAtF V (c' :: q') with
      | none => exact h2' h0'
      | some x0' =>
        obtain ⟨t0, hm0, hl0⟩ := (leafAtF_col V hV.wf c q x0).mp h0
        obtain ⟨t0', hm0', hl0'⟩ := (leafAtF_col V hV.wf c' q' x0').mp h0'
        obtain ⟨f0, hf0, _⟩ := hV.cols _ hm0
        obtain ⟨f0', hf0', _⟩ := hV.cols _ hm0'
        simp only at hf0 hf0'
        rw [hf0] at hl0; rw [hf0'] at hl0'
        exact hV.apart _ hm0 _ hm0' hcc f0 f0' hf0 hf0' q q' (by simp at hl0; simp [hl0])
          (by simp at hl0'; simp [hl0']) hp

/-! ## a toy wrapped module: `y = w * x + c`, and with `mutable` the counter `c` goes up by one -/

def toyVars (w c : Nat) : Forest (LBox Nat) :=
  [("params", .node [("w", .leaf (.plain w))]), ("batch_stats", .node [("c", .leaf (.plain c))])]

def toyUpd (c : Nat) : Forest (LBox Nat) := [("batch_stats", .node [("c", .leaf (.plain c))])]

def toyMod : LinenMod Nat Nat Nat Unit where
  init := fun _ x => .ok (2 * x, toyVars 2 0)
  apply := fun V _ mu x =>
    match leafAtF V ["params", "w"], leafAtF V ["batch_stats", "c"] with
    | some (.plain w), some (.plain c) =>
      .ok (w * x + c, match mu with | none => [] | some _ => toyUpd (c + 1))
    | _, _ => .error .module

theorem toyVars_ok (r : Reg) (w c : Nat) : VarsOk r (toyVars w c) := by
  refine ⟨by simp [toyVars, WFF, Tree.WF, dkeys], ?_, ?_, ?_⟩
  · intro ct hct
    simp only [toyVars, List.mem_cons, List.not_mem_nil, or_false] at hct
    rcases hct with rfl | rfl
    · exact ⟨_, rfl, by simp [NoEmptyF, Tree.NoEmpty]⟩
    · exact ⟨_, rfl, by simp [NoEmptyF, Tree.NoEmpty]⟩
  · intro ct hct pb hpb
    simp only [toyVars, List.mem_cons, List.not_mem_nil, or_false] at hct
    rcases hct with rfl | rfl <;>
      (simp [Tree.flatten, flattenF] at hpb; subst hpb; trivial)
  · have hd : Disjoint [("w", Tree.leaf (LBox.plain w))] [("c", Tree.leaf (LBox.plain c))] :=
      disjoint_of_paths _ _ (by simp [WFF, Tree.WF, dkeys]) (by simp [WFF, Tree.WF, dkeys]) (by
        intro q hq q' hq'
        simp [flattenF, Tree.flatten, paths] at hq hq'
        subst hq; subst hq'; decide)
    intro ct hct ct' hct' hne f f' hf hf'
    simp only [toyVars, List.mem_cons, List.not_mem_nil, or_false] at hct hct'
    rcases hct with rfl | rfl <;> rcases hct' with rfl | rfl
    · exact absurd rfl hne
    · cases hf; cases hf'; exact hd
    · cases hf; cases hf'; exact hd.symm
    · exact absurd rfl hne

theorem toyUpd_ok (r : Reg) (c : Nat) : VarsOk r (toyUpd c) :=
  VarsOk.sublist (List.sublist_cons_self _ _) (toyVars_ok r 0 c)

theorem nil_ok (r : Reg) : VarsOk r ([] : Forest (LBox Nat)) :=
  VarsOk.sublist (List.nil_sublist _) (toyVars_ok r 0 0)

theorem toyUpd_leaf (c : Nat) (c' : String) (q' : Path) (h : leafAtF (toyUpd c) (c' :: q') ≠ none) :
    c' = "batch_stats" ∧ q' = ["c"] := by
  have hm := (mem_paths_flattenF (toyUpd c) (by simp [toyUpd, WFF, Tree.WF, dkeys]) (c' :: q')).mpr h
  simpa [toyUpd, flattenF, Tree.flatten, paths] using hm

theorem toyMod_ok : ModOk toyMod := by
  refine ⟨?_, ?_, ?_⟩
  · intro V V' ks mu x _ _ he
    simp only [toyMod, he ["params", "w"], he ["batch_stats", "c"]]
  · intro r V ks mu x o U hi hb hV happ
    dsimp only [toyMod] at happ
    split at happ
    · rename_i w c hw hc
      simp only [Except.ok.injEq, Prod.mk.injEq] at happ
      obtain ⟨_, rfl⟩ := happ
      cases mu with
      | none => exact ⟨nil_ok r, fun c q c' q' _ h2 => by simp at h2⟩
      | some u =>
        refine fits_of_sub r V _ hV (toyUpd_ok r _) ?_
        intro c' q' h2
        obtain ⟨rfl, rfl⟩ := toyUpd_leaf _ c' q' h2
        rw [hc]; simp
    · cases happ
  · intro r ks x o V _ _ h
    simp only [toyMod, Except.ok.injEq, Prod.mk.injEq] at h
    rw [← h.2]
    exact toyVars_ok r 2 0

/-! ## a toy NNX module: `y = w * x + c`, every call bumps the statistic `c` and the graph definition -/

def toyNState : Forest (NVar Nat) :=
  [("w", .leaf ⟨.user 0 "Param", 2, []⟩), ("c", .leaf ⟨.user 1 "BatchStat", 0, []⟩)]

def toyN : NnxMod Nat Nat Nat Nat where
  construct := fun _ => .ok (0, toyNState)
  reseed := fun S _ => S
  call := fun g S x =>
    match leafAtF S ["w"], leafAtF S ["c"] with
    | some w, some c => .ok (w.value * x + c.value, g + 1, dset S "c" (.leaf { c with value := c.value + 1 }))
    | _, _ => .error .module

theorem toyN_leaf (S : Forest (NVar Nat)) (c : NVar Nat) (hc : leafAtF S ["c"] = some c) (c' : NVar Nat) (q : Path) :
    leafAtF (dset S "c" (.leaf c')) q = if q = ["c"] then some c' else leafAtF S q := by
  cases q with
  | nil => simp
  | cons k p =>
    rw [leafAtF_dset]
    by_cases hk : k = "c"
    · subst hk
      cases p with
      | nil => simp [Tree.leafAt]
      | cons k2 p2 =>
        have := leafAtF_prefix S ["c"] ("c" :: k2 :: p2) c hc
          (by rw [List.cons_prefix_cons]; exact ⟨rfl, List.nil_prefix⟩) (by simp)
        simp [Tree.leafAt, this]
    · simp [hk]

theorem toyN_ok : NModOk toyN := by
  refine ⟨?_, ?_⟩
  · intro g S S' ks x _ _ he o g' T' h
    dsimp only [toyN] at h ⊢
    rw [he ["w"], he ["c"]]
    split at h
    · rename_i w c hw hc
      simp only [hw, hc, Except.ok.injEq, Prod.mk.injEq] at h ⊢
      obtain ⟨rfl, rfl, rfl⟩ := h
      refine ⟨_, ⟨rfl, rfl, rfl⟩, ?_⟩
      intro q
      rw [toyN_leaf S c (by rw [he]; exact hc), toyN_leaf S' c hc, he q]
    · cases h
  · intro r g S ks x o g' S' hS h
    dsimp only [toyN] at h
    split at h
    · rename_i w c hw hc
      simp only [Except.ok.injEq, Prod.mk.injEq] at h
      obtain ⟨_, _, rfl⟩ := h
      have hl := toyN_leaf S c hc { c with value := c.value + 1 }
      refine ⟨⟨WFF_dset _ _ _ hS.wf trivial, ?_, ?_⟩, ?_⟩
      · intro q v hv
        rw [hl q] at hv
        split at hv
        · cases hv; exact hS.canon _ c hc
        · exact hS.canon q v hv
      · intro q v hv
        rw [hl q] at hv
        split at hv
        · cases hv; exact hS.named _ c hc
        · exact hS.named q v hv
      · intro q
        rw [hl q]
        split
        · rename_i hq; subst hq; rw [hc]; rfl
        · rfl
    · cases h

end Flax.Bridge
