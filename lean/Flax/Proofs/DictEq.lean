/-
Python dict equality (`DictEq`) is equality of the complete content up to order (`dictEq_iff_content`, from
`below_perm_iff`); then the normal form of `prune` and `keepPathsT` through content and leaves (`dictEq_prune_of_content`).
-/
import Flax.Proofs.Traverse

set_option linter.unusedSectionVars false

namespace Flax.Traverse

variable {κ α : Type} [DecidableEq κ]

/- Keep this the first `match` with arms `some`, `none` on `Option (Tree κ α)` in the file: `relT_true_norm` and
`leaves_keepPathsT` name its matcher in their statements (as `build_child`, `relT_true_calls` in Traverse.lean theirs). -/
theorem relKvs_filter_head (b : Bool) (k : κ) : ∀ (d : List (κ × Tree κ α)), (d.map Prod.fst).Nodup →
    (relKvs b noLeaf d).filter (headIsF k) = match Dict.get d k with
      | some c => under b k c
      | none => [] := by
  intro d hnd
  rw [relKvs_eq_below, show (headIsF k : Path κ × FVal κ α → Bool) = headIs k from rfl,
    below_filter_head _ k d hnd]
  cases Dict.get d k <;> rfl

omit [DecidableEq κ] in
theorem relT_leaf (b : Bool) (a : α) : relT b (noLeaf : Path κ → Tree κ α → Bool) (.leaf a) = [([], .val (.leaf a))] := by
  simp [relT]

/-- the content of a non-empty dict is neither a lone root entry nor empty -/
theorem relKvs_cons_not_perm (y : κ × Tree κ α) (r : List (κ × Tree κ α)) (v : FVal κ α) :
    ¬ (relKvs true noLeaf (y :: r)).Perm [([], v)] ∧ ¬ (relKvs true noLeaf (y :: r)).Perm [] :=
  ⟨fun h => relKvs_paths_ne_nil true noLeaf (y :: r) ([], v) (h.symm.subset (List.mem_singleton.mpr rfl)) rfl,
    fun h => relKvs_true_ne_nil (y :: r) (List.cons_ne_nil _ _) h.eq_nil⟩

theorem relT_dict_perm_iff (xs ys : List (κ × Tree κ α)) :
    (relT true noLeaf (.dict xs)).Perm (relT true noLeaf (.dict ys))
      ↔ (relKvs true noLeaf xs).Perm (relKvs true noLeaf ys) := by
  rw [relT_dict_noLeaf, relT_dict_noLeaf]
  cases xs with
  | nil =>
    cases ys with
    | nil => simp [relKvs]
    | cons y r =>
      have h := relKvs_cons_not_perm y r .emptyNode
      exact iff_of_false (mt List.Perm.symm h.1) (mt List.Perm.symm h.2)
  | cons x r =>
    cases ys with
    | nil => exact iff_of_false (relKvs_cons_not_perm x r .emptyNode).1 (relKvs_cons_not_perm x r .emptyNode).2
    | cons y r' => simp

/-- `below_perm_iff` in the shape of `DictEq`'s two clauses -/
theorem below_perm_iff_entries {β : Type} (g : κ → Tree κ α → List (Path κ × β)) (hne : ∀ k c, g k c ≠ [])
    (xs ys : List (κ × Tree κ α)) (hx : (xs.map Prod.fst).Nodup) (hy : (ys.map Prod.fst).Nodup) :
    (below g xs).Perm (below g ys) ↔
      (∀ k, (Dict.get ys k).isSome = true → (Dict.get xs k).isSome = true) ∧
      ∀ kc ∈ xs, ∃ c', Dict.get ys kc.1 = some c' ∧ (g kc.1 kc.2).Perm (g kc.1 c') := by
  rw [below_perm_iff g xs ys hx hy]
  constructor
  · intro h
    refine ⟨fun k hs => ?_, fun kc hkc => ?_⟩
    · obtain ⟨c', hc'⟩ := Option.isSome_iff_exists.mp hs
      cases hgx : Dict.get xs k with
      | some c => rfl
      | none =>
        have := h k
        rw [hgx, hc'] at this
        exact absurd this.symm.eq_nil (hne k c')
    · have := h kc.1
      rw [(Dict.mem_iff_get xs hx kc.1 kc.2).mp hkc] at this
      cases hgy : Dict.get ys kc.1 with
      | none => rw [hgy] at this; exact absurd this.eq_nil (hne kc.1 kc.2)
      | some c' => rw [hgy] at this; exact ⟨c', rfl, this⟩
  · rintro ⟨hkeys, hent⟩ k
    cases hgx : Dict.get xs k with
    | some c =>
      obtain ⟨c', h1, h2⟩ := hent (k, c) (Dict.mem_of_get xs k c hgx)
      rw [h1]
      exact h2
    | none =>
      cases hgy : Dict.get ys k with
      | none => exact List.Perm.refl _
      | some c' =>
        have := hkeys k (by rw [hgy]; rfl)
        rw [hgx] at this
        cases this

theorem entriesIn_iff : ∀ (xs ys : List (κ × Tree κ α)),
    EntriesIn xs ys ↔ ∀ kc ∈ xs, ∃ c', Dict.get ys kc.1 = some c' ∧ DictEq kc.2 c'
  | [], _ => by simp [EntriesIn]
  | (k, c) :: rest, ys => by simp only [EntriesIn, entriesIn_iff rest ys, List.forall_mem_cons]

private theorem not_perm_leaf_dict (a : α) (ys : List (κ × Tree κ α))
    (h : (relT true noLeaf (.leaf a)).Perm (relT true noLeaf (.dict ys))) : False := by
  rw [relT_dict_noLeaf, relT_leaf] at h
  cases ys with
  | nil => simp at h
  | cons y r => exact (relKvs_cons_not_perm y r _).1 h.symm

theorem dictEq_iff_content (t : Tree κ α) : ∀ u, WF t → WF u →
    (DictEq t u ↔ (relT true noLeaf t).Perm (relT true noLeaf u)) := by
  induction t using Tree.induct with
  | leaf a =>
    intro u _ _
    simp only [DictEq]
    cases u with
    | leaf b => simp [relT, eq_comm]
    | dict ys => exact ⟨fun h => (nomatch h), fun h => (not_perm_leaf_dict a ys h).elim⟩
  | dict xs ih =>
    intro u hwt hwu
    cases u with
    | leaf b =>
      simp only [DictEq]
      exact ⟨fun ⟨_, h, _⟩ => (nomatch h), fun h => (not_perm_leaf_dict b xs h.symm).elim⟩
    | dict ys =>
      rw [relT_dict_perm_iff, relKvs_noLeaf_eq_below, relKvs_noLeaf_eq_below,
        below_perm_iff_entries _ (fun _ c => relT_true_ne_nil c) xs ys (wf_nodup xs hwt) (wf_nodup ys hwu)]
      simp only [DictEq, entriesIn_iff, Tree.dict.injEq, exists_eq_left']
      refine and_congr_right fun _ => forall₂_congr fun kc hkc => exists_congr fun c' => and_congr_right fun hg => ?_
      exact ih kc hkc c' (wf_of_mem xs hwt kc hkc) (wf_get ys hwu kc.1 c' hg)

theorem dictEq_dict_iff (xs ys : List (κ × Tree κ α)) (hx : WFKvs xs) (hy : WFKvs ys) :
    DictEq (.dict xs) (.dict ys) ↔ (relKvs true noLeaf xs).Perm (relKvs true noLeaf ys) := by
  rw [dictEq_iff_content (.dict xs) (.dict ys) hx hy, relT_dict_perm_iff]

theorem entriesIn_of_filter : ∀ (xs ys : List (κ × Tree κ α)), WFKvs xs → WFKvs ys →
      (∀ kc ∈ xs, (under true kc.1 kc.2).Perm ((relKvs true noLeaf ys).filter (headIsF kc.1))) →
      EntriesIn xs ys := by
  intro xs ys hwx hwy h
  rw [entriesIn_iff]
  intro kc hkc
  have hf := h kc hkc
  rw [relKvs_filter_head true kc.1 ys (wf_nodup ys hwy)] at hf
  cases hy : Dict.get ys kc.1 with
  | none =>
    rw [hy] at hf
    exact absurd (List.map_eq_nil_iff.mp hf.eq_nil) (relT_true_ne_nil kc.2)
  | some c' =>
    rw [hy] at hf
    exact ⟨c', rfl, (dictEq_iff_content kc.2 c' (wf_of_mem xs hwx kc hkc) (wf_get ys hwy kc.1 c' hy)).mpr
      ((shift_perm_iff kc.1 _ _).mp hf)⟩

theorem content_of_entriesIn : ∀ (xs ys : List (κ × Tree κ α)), WFKvs xs → WFKvs ys → EntriesIn xs ys →
      (∀ k, (Dict.get ys k).isSome = true → (Dict.get xs k).isSome = true) →
      (relKvs true noLeaf xs).Perm (relKvs true noLeaf ys) :=
  fun xs ys hwx hwy he hk => (dictEq_dict_iff xs ys hwx hwy).mp (by simp only [DictEq]; exact ⟨ys, rfl, hk, he⟩)

omit [DecidableEq κ] in
theorem normKvs_noLeaf_filterMap (kvs : List (κ × Tree κ α)) :
    normKvs false noLeaf kvs = kvs.filterMap (reval fun _ => normT false noLeaf) :=
  normKvs_filterMap false noLeaf kvs

private theorem relKvs_true_norm_of (kvs : List (κ × Tree κ α))
    (h : ∀ kc ∈ kvs, (match normT false noLeaf kc.2 with
      | some c' => relT true noLeaf c'
      | none => []) = relT false noLeaf kc.2) :
    relKvs true noLeaf (normKvs false noLeaf kvs) = relKvs false noLeaf kvs := by
  rw [normKvs_noLeaf_filterMap, relKvs_noLeaf_eq_below, relKvs_noLeaf_eq_below, below, below, Lists.flatMap_filterMap]
  refine Lists.flatMap_congr fun kc hkc => ?_
  rw [← h kc hkc, reval]
  cases normT false noLeaf kc.2 <;> rfl

theorem relT_true_norm : ∀ (c : Tree κ α),
      (match normT false noLeaf c with
        | some c' => relT true noLeaf c'
        | none => []) = relT false noLeaf c := by
  intro c
  induction c using Tree.induct with
  | leaf v => simp [normT, relT]
  | dict kvs ih =>
    have ih := relKvs_true_norm_of kvs ih
    simp only [normT, noLeaf, Bool.false_eq_true, ↓reduceIte, Bool.false_and]
    rw [relT_dict_noLeaf]
    simp only [Bool.false_and, Bool.false_eq_true, ↓reduceIte]
    cases hn : normKvs false noLeaf kvs with
    | nil => rw [hn] at ih; simpa [relKvs] using ih
    | cons x r =>
      rw [hn] at ih
      simp only
      rw [relT_dict_noLeaf]
      simpa using ih

theorem relKvs_true_norm (kvs : List (κ × Tree κ α)) :
    relKvs true noLeaf (normKvs false noLeaf kvs) = relKvs false noLeaf kvs :=
  relKvs_true_norm_of kvs fun kc _ => relT_true_norm kc.2

theorem relKvs_true_normKvs (kvs : List (κ × Tree κ α)) :
    relKvs true noLeaf (normKvs false noLeaf kvs) = (leavesKvs kvs).map leafEntry := by
  rw [relKvs_true_norm, relKvs_false_leaves]

theorem leavesKvs_normKvs (kvs : List (κ × Tree κ α)) :
    leavesKvs (normKvs false noLeaf kvs) = leavesKvs kvs := by
  have h := relKvs_true_calls (normKvs false noLeaf kvs)
  rw [relKvs_true_normKvs, List.filterMap_map] at h
  have hinj : ∀ a b : Path κ × α, (a.1, Tree.leaf (κ := κ) a.2) = (b.1, Tree.leaf b.2) → a = b := by
    intro a b e
    cases a; cases b; cases e; rfl
  exact ((List.map_inj_right hinj).mp (((congrFun List.filterMap_eq_map _).symm.trans h))).symm

theorem wf_normT : ∀ (c : Tree κ α), WF c → ∀ c', normT false noLeaf c = some c' → WF c' := by
  intro c
  induction c using Tree.induct with
  | leaf v => intro _ c' h; cases h; trivial
  | dict kvs ih =>
    intro hwf c' h
    have hw : WFKvs (normKvs false noLeaf kvs) := by
      rw [normKvs_noLeaf_filterMap]
      exact wfKvs_reval _ kvs hwf fun kc hkc => ih kc hkc (wf_of_mem kvs hwf kc hkc)
    simp only [normT, noLeaf, Bool.false_eq_true, ↓reduceIte, Bool.false_and] at h
    split at h
    · cases h
    · cases h; exact hw

theorem wf_normKvs (kvs : List (κ × Tree κ α)) (hwf : WFKvs kvs) : WFKvs (normKvs false noLeaf kvs) := by
  rw [normKvs_noLeaf_filterMap]
  exact wfKvs_reval _ kvs hwf fun kc hkc => wf_normT kc.2 (wf_of_mem kvs hwf kc hkc)

theorem dictEq_prune_of_content (s' s : List (κ × Tree κ α)) (hs' : WFKvs s') (hs : WFKvs s)
    (h : (relKvs true noLeaf s').Perm ((leavesKvs s).map leafEntry)) : DictEq (.dict s') (prune (.dict s)) :=
  (dictEq_dict_iff s' _ hs' (wf_normKvs s hs)).mpr (relKvs_true_normKvs s ▸ h)

theorem leaves_keepPathsT : ∀ (c : Tree κ α) (P : Path κ → Bool),
      (match keepPathsT P c with
        | some c' => leavesT c'
        | none => []) = (leavesT c).filter (fun e => P e.1) := by
  intro c
  induction c using Tree.induct with
  | leaf v => intro P; by_cases h : P [] = true <;> simp [keepPathsT, leavesT, h]
  | dict kvs ih =>
    intro P
    show leavesKvs (keepPathsKvs P kvs) = (leavesKvs kvs).filter (fun e => P e.1)
    rw [keepPathsKvs_filterMap, leavesKvs_eq_below, leavesKvs_eq_below, below, below, List.filter_flatMap,
      Lists.flatMap_filterMap]
    refine Lists.flatMap_congr fun kc hkc => ?_
    rw [shift, List.filter_map, reval]
    refine Eq.trans ?_ (congrArg _ (ih kc hkc fun p => P (kc.1 :: p)))
    cases keepPathsT (fun p => P (kc.1 :: p)) kc.2 <;> rfl

theorem leaves_keepPathsKvs (kvs : List (κ × Tree κ α)) (P : Path κ → Bool) :
    leavesKvs (keepPathsKvs P kvs) = (leavesKvs kvs).filter (fun e => P e.1) :=
  leaves_keepPathsT (.dict kvs) P

theorem wf_keepPathsT : ∀ (c : Tree κ α) (P : Path κ → Bool), WF c → ∀ c', keepPathsT P c = some c' → WF c' := by
  intro c
  induction c using Tree.induct with
  | leaf v =>
    intro P _ c' h
    rw [keepPathsT] at h
    split at h
    · cases h; trivial
    · cases h
  | dict kvs ih =>
    intro P hwf c' h
    cases h
    show WFKvs (keepPathsKvs P kvs)
    rw [keepPathsKvs_filterMap]
    exact wfKvs_reval _ kvs hwf fun kc hkc => ih kc hkc _ (wf_of_mem kvs hwf kc hkc)

theorem wf_keepPathsKvs (kvs : List (κ × Tree κ α)) (P : Path κ → Bool) (hwf : WFKvs kvs) :
    WFKvs (keepPathsKvs P kvs) :=
  wf_keepPathsT (.dict kvs) P hwf _ rfl

theorem relT_true_okval : ∀ (c : Tree κ α), ∀ e ∈ relT true noLeaf c, OkVal true e.2 := by
  intro c
  induction c using Tree.induct with
  | leaf v => intro e he; cases List.mem_singleton.mp he; exact Or.inl ⟨v, rfl⟩
  | dict kvs ih =>
    intro e he
    cases kvs with
    | nil => cases List.mem_singleton.mp he; exact Or.inr ⟨rfl, rfl⟩
    | cons x r =>
      rw [relT_dict_noLeaf, if_neg (by simp), relKvs_noLeaf_eq_below] at he
      obtain ⟨kc, hkc, hs⟩ := List.mem_flatMap.mp he
      obtain ⟨q, hq, rfl⟩ := List.mem_map.mp hs
      exact ih kc hkc q hq

theorem relKvs_true_okval (kvs : List (κ × Tree κ α)) : ∀ e ∈ relKvs true noLeaf kvs, OkVal true e.2 := by
  cases kvs with
  | nil => exact fun _ he => nomatch he
  | cons x r =>
    have := relT_true_okval (.dict (x :: r))
    rwa [relT_dict_noLeaf, if_neg (by simp)] at this

end Flax.Traverse
