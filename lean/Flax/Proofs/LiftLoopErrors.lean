/- C06: where the errors of the scan / vmap model come from.  flax's own errors (inconsistent lengths, length
   unspecified, broadcast data dependency, unmapped output variables) are raised at fixed places; everything
   else is JAX's (A-SCAN / A-VMAP / A-CONV), a structure check of the model, or the body's.  The scan lemmas assume
   `check_constancy_invariants=True` (`hcc`): the other path raises a fifth of flax's, `broadcastOutUnsupported`. -/
import Flax.Proofs.LiftLoopGroup
import Flax.Proofs.LiftLoopTree
import Flax.Proofs.LiftLoopLength

set_option linter.unusedSectionVars false

namespace Flax.LiftLoop
open Flax.Filter
variable {α : Type} [Inhabited α]

/-- not one of the errors that flax's lift.scan / lift.vmap / pack raise themselves -/
def Err.foreign : Err → Bool
  | .inconsistentLengths => false
  | .lengthUnspecified => false
  | .broadcastDependency => false
  | .unmappedOutput => false
  | .broadcastOutUnsupported => false
  | _ => true

/-- the body raises only its own errors (flax's `ModifyScopeVariableError`, `ScopeCollectionNotFound`, … are
`.body tag` here), never one of the transform's -/
def BodyForeign (body : Body α) : Prop :=
  ∀ m v r c xs e, body m v r c xs = .error e → e.foreign = true

/-- fails only with a foreign error; closed under the combinators below -/
def FailsForeign {β : Type} (x : Except Err β) : Prop := ∀ e, x = .error e → e.foreign = true

namespace FailsForeign
variable {β γ σ : Type}

theorem ok (v : β) : FailsForeign (.ok v : Except Err β) := fun _ h => nomatch h

theorem error {e : Err} (h : e.foreign = true) : FailsForeign (.error e : Except Err β) :=
  fun _ h' => Except.error.inj h' ▸ h

theorem bind {x : Except Err β} {f : β → Except Err γ} (hx : FailsForeign x) (hf : ∀ v, FailsForeign (f v)) :
    FailsForeign (x >>= f) := by
  cases x with
  | error e => exact error (hx e rfl)
  | ok v => exact hf v

theorem map {x : Except Err β} (f : β → γ) (hx : FailsForeign x) : FailsForeign (x.map f) := by
  cases x with
  | error e => exact error (hx e rfl)
  | ok v => exact ok _

theorem mapE {f : β → Except Err γ} (hf : ∀ x, FailsForeign (f x)) : ∀ l, FailsForeign (mapE f l)
  | [] => ok _
  | x :: xs => by
    unfold LiftLoop.mapE
    cases hx : f x with
    | error e => exact error (hf x e hx)
    | ok y =>
      cases hr : LiftLoop.mapE f xs with
      | error e => exact error (mapE hf xs e hr)
      | ok ys => exact ok _

theorem foldE {f : σ → β → Except Err σ} (hf : ∀ s x, FailsForeign (f s x)) : ∀ l s, FailsForeign (foldE f s l)
  | [], _ => ok _
  | x :: xs, s => by
    unfold LiftLoop.foldE
    cases hx : f s x with
    | error e => exact error (hf s x e hx)
    | ok s' => exact foldE hf xs s'

theorem ofOption {o : Option β} {e : Err} (h : e.foreign = true) :
    FailsForeign (match o with | some a => .ok a | none => .error e : Except Err β) := by
  cases o with
  | none => exact error h
  | some a => exact ok a

end FailsForeign

theorem canonPerm_ff (r : Nat) (p : List Int) : FailsForeign (canonPerm r p) := by
  unfold canonPerm
  split
  · exact .error rfl
  · split
    · exact .ok _
    · exact .error rfl

theorem toFront_ff (ax : Int) (a : Arr α) : FailsForeign (a.toFront ax) := by
  unfold Arr.toFront toFrontPerm
  split
  · exact .ok _
  · refine .bind ?_ fun p => .bind (canonPerm_ff _ p) fun q => .ok _
    split
    · exact .error rfl
    · exact .ok _

theorem fromFront_ff (ax : Int) (a : Arr α) : FailsForeign (a.fromFront ax) := by
  unfold Arr.fromFront fromFrontPerm
  split
  · exact .ok _
  · refine .bind ?_ fun p => .bind (canonPerm_ff _ p) fun q => .ok _
    dsimp only
    generalize (if ax < 0 then (a.rank : Int) + ax else ax) = pax
    split
    · exact .ok _
    · exact .error rfl

theorem take_ff (a : Arr α) (n i : Nat) : FailsForeign (a.take n i) := by
  unfold Arr.take
  split
  · exact .error rfl
  · split
    · exact .ok _
    · exact .error rfl

theorem stack_ff (sh : List Nat) (n : Nat) (ls : List (Arr α)) : FailsForeign (Arr.stack sh n ls) :=
  fun _ h => (Arr.stack_eq_error.1 h).1 ▸ rfl

theorem stackFront_ff (ax : Int) (sh : List Nat) (ls : List (Arr α)) : FailsForeign (stackFront ax sh ls) :=
  (stack_ff sh 0 ls).bind fun S => fromFront_ff ax S

theorem stackAt_ff (ax : Int) (sh : List Nat) (ls : List (Arr α)) : FailsForeign (stackAt ax sh ls) := by
  unfold stackAt
  split
  · exact stack_ff _ _ _
  · exact .error rfl

theorem takeAt_ff (ax : Int) (i : Nat) (a : Arr α) : FailsForeign (takeAt ax i a) := by
  unfold takeAt
  split
  · exact take_ff _ _ _
  · exact .error rfl

theorem leadDim_ff (a : Arr α) : FailsForeign (leadDim a) := by
  unfold leadDim
  split
  · exact .error rfl
  · exact .ok _

theorem shapeAt_ff (a : Arr α) (ax : Int) : FailsForeign (shapeAt a ax) := by
  unfold shapeAt
  split
  · exact .error rfl
  · exact .ok _

theorem onSnd_ff {κ β γ : Type} {f : β → Except Err γ} (hf : ∀ x, FailsForeign (f x)) (p : κ × β) :
    FailsForeign (onSnd f p) := by
  unfold onSnd
  cases hx : f p.2 with
  | error e => exact .error (hf _ e hx)
  | ok b => exact .ok _

theorem Vars.mapE_ff {f : Arr α → Except Err (Arr α)} (hf : ∀ x, FailsForeign (f x)) (v : Vars α) :
    FailsForeign (Vars.mapE f v) :=
  FailsForeign.mapE (onSnd_ff (FailsForeign.mapE (onSnd_ff hf))) v

theorem rngAt_ff (i : Nat) : ∀ g : RngG, FailsForeign (RngG.at i g)
  | .whole _ => .ok _
  | .rows g => .mapE (fun sk => by
      split
      · exact .ok _
      · exact .error rfl) g

theorem jaxLength_ff (L : Option Nat) (dims : List Nat) : FailsForeign (jaxLength L dims) := by
  unfold jaxLength
  split
  · split
    · exact .ok _
    · exact .error rfl
  · split
    · exact .error rfl
    · split
      · exact .ok _
      · exact .error rfl

theorem expand_ff (t : AxesTree) (k : Nat) : FailsForeign (t.expand k) := by
  unfold AxesTree.expand
  split
  · exact .ok _
  · split
    · exact .ok _
    · exact .error rfl

theorem pick_ff {β : Type} (k : Nat) (o : List β) : FailsForeign (pick k o) := .ofOption rfl

theorem pickKey_ff {β : Type} (k : String) (d : List (String × β)) : FailsForeign (pickKey k d) := .ofOption rfl

theorem stackList_ff {stk : Stk α} (hs : ∀ sh ls, FailsForeign (stk sh ls)) (k : Nat)
    (outs : List (List (Arr α))) : FailsForeign (stackList stk k outs) := by
  unfold stackList
  split
  · exact .error rfl
  · exact .bind (pick_ff _ _) fun a0 => .bind (.mapE (pick_ff k) _) fun ls => hs _ _

theorem stackCols_ff {stk : Stk α} (hs : ∀ sh ls, FailsForeign (stk sh ls)) (cs : List (Col α)) :
    FailsForeign (stackCols stk cs) := by
  unfold stackCols
  split
  · exact .error rfl
  · split
    · exact .mapE (fun nv => .bind (.mapE (pickKey_ff _) _) fun ls => .bind (hs _ _) fun a => .ok _) _
    · exact .error rfl

theorem stackVars_ff {stk : Stk α} (hs : ∀ sh ls, FailsForeign (stk sh ls)) (vs : List (Vars α)) :
    FailsForeign (stackVars stk vs) := by
  unfold stackVars
  split
  · exact .error rfl
  · split
    · exact .mapE (fun cc => .bind (.mapE (pickKey_ff _) _) fun cs => .bind (stackCols_ff hs cs) fun c => .ok _) _
    · exact .error rfl

theorem collectOuts_ff {stk : Int → Stk α} (hs : ∀ ax sh ls, FailsForeign (stk ax sh ls))
    (oy : List (Option Int)) (ov : List Int) (consts : List (Arr α))
    (outs : List (List (Arr α) × List (Vars α))) : FailsForeign (collectOuts stk oy ov consts outs) := by
  unfold collectOuts
  refine .bind (.mapE (fun p => ?_) _) fun ys => .bind (.mapE (fun p => stackVars_ff (hs _) _) _) fun sv => .ok _
  unfold collectY
  split
  · exact stackList_ff (hs _) _ _
  · split
    · exact .ok _
    · exact .error rfl

theorem scanned_ff (m : LFilter) (outFs : List LFilter) (body : Body α) (hb : BodyForeign body)
    (b : Vars α) (c : Vars α × List (Arr α)) (sv : List (Vars α)) (rg : List Rngs) (xs : List (Arr α)) :
    FailsForeign (scanned (innerMutable m outFs) outFs body b c sv rg xs) := by
  unfold scanned
  refine .bind (hb _ _ _ _ _) fun r => ?_
  rw [repack_eq]
  exact .ok _

theorem xsAt_ff (xs : ScanXs α) (i : Nat) : FailsForeign (xs.at i) := by
  unfold ScanXs.at
  refine .bind (.mapE (Vars.mapE_ff fun a => take_ff a 0 i) _) fun sv =>
    .bind (.mapE (rngAt_ff i) _) fun rg => .bind (.mapE (fun p => ?_) _) fun as => .ok _
  unfold argTake0
  split
  · exact take_ff _ _ _
  · exact .ok _

theorem argToFront_ff (p : Option Int × Arr α) : FailsForeign (argToFront p) := by
  unfold argToFront
  split
  · exact .map _ (toFront_ff _ _)
  · exact .ok _

theorem groupToFront_ff (p : Int × Vars α) : FailsForeign (groupToFront p) := Vars.mapE_ff (toFront_ff p.1) p.2

theorem prepXs_ff (iv : List Int) (ia : List (Option Int)) (svs : List (Vars α)) (rngs : List RngG)
    (args : List (Arr α)) : FailsForeign (prepXs iv ia svs rngs args) :=
  .bind (.mapE groupToFront_ff _) fun _ => .bind (.mapE argToFront_ff _) fun _ => .ok _

theorem dims_ff (xs : ScanXs α) : FailsForeign xs.dims := by
  unfold ScanXs.dims
  refine .bind (.mapE (fun g => .mapE leadDim_ff _) _) fun d1 => .bind (.mapE (fun p => ?_) _) fun d3 => .ok _
  unfold argLeadDim
  split
  · exact .map _ (leadDim_ff _)
  · exact .ok _

theorem laxScan_ff {σ χ ω : Type} {xsAt : Nat → Except Err χ} {f : σ → χ → Except Err (σ × ω)}
    (hx : ∀ i, FailsForeign (xsAt i)) (hf : ∀ s x, FailsForeign (f s x)) (n : Nat) (rev : Bool)
    (same : σ → σ → Bool) (init : σ) : FailsForeign (laxScan n rev xsAt f same init) := by
  unfold laxScan
  refine .bind (.foldE (fun st i => ?_) _ _) fun r => .ok _
  unfold laxStep
  refine .bind (hx i) fun x => .bind (hf _ x) fun r => ?_
  split
  · exact .ok _
  · exact .error rfl

theorem axesLoop_ff {fn : ScanFn α} (hfn : ∀ b c sv rg as, FailsForeign (fn b c sv rg as)) (rev : Bool)
    (oy : List (Option Int)) (ov : List Int) (xs : ScanXs α) (init : Vars α × List (Arr α)) (r0 : StepOut α)
    (n : Nat) : FailsForeign (axesLoop rev oy ov xs fn init r0 n) := by
  unfold axesLoop
  exact .bind (laxScan_ff (xsAt_ff xs) (fun s x => .bind (hfn _ _ _ _ _) fun r => .ok _) _ _ _ _) fun res =>
    .bind (collectOuts_ff stackFront_ff _ _ _ _) fun out => .ok _

theorem axesScanTail_ff {fn : ScanFn α} (hfn : ∀ b c sv rg as, FailsForeign (fn b c sv rg as)) (rev : Bool)
    {verdict initOnly : Bool} (hv : verdict = true ∨ initOnly = true) (oA : AxesTree) (ov : List Int)
    (bIn : Vars α) (init : Vars α × List (Arr α)) (xs : ScanXs α) {nE : Except Err Nat} (hnE : FailsForeign nE)
    (i0 : Nat) : FailsForeign (axesScanTail rev verdict initOnly oA ov fn bIn init xs nE i0) := by
  unfold axesScanTail
  refine .bind (xsAt_ff _ _) fun x0 => .bind (hfn _ _ _ _ _) fun r0 => .bind (expand_ff _ _) fun oy => ?_
  cases initOnly with
  | true => exact .ok _
  | false =>
    cases hv.resolve_right nofun
    refine .bind hnE fun n => ?_
    split
    · exact .error rfl
    · exact axesLoop_ff hfn _ _ _ _ _ _ _

theorem axesScan_ff {fn : ScanFn α} (hfn : ∀ b c sv rg as, FailsForeign (fn b c sv rg as)) (L : Option Nat)
    (rev : Bool) {verdict initOnly : Bool} (hv : verdict = true ∨ initOnly = true) (iv : List Int)
    (ia : List (Option Int)) (oA : AxesTree) (ov : List Int) (bIn : Vars α) (init : Vars α × List (Arr α))
    (svs : List (Vars α)) (rngs : List RngG) (args : List (Arr α)) :
    FailsForeign (axesScan true L rev verdict initOnly iv ia oA ov fn bIn init svs rngs args) := by
  unfold axesScan
  exact .bind (prepXs_ff _ _ _ _ _) fun xs =>
    axesScanTail_ff hfn rev hv oA ov bIn init xs ((dims_ff xs).bind fun d => jaxLength_ff L d) _

theorem argSizeOpt_ff (p : Option Int × Arr α) : FailsForeign (argSizeOpt p) := by
  unfold argSizeOpt
  split
  · exact .ok _
  · exact .map _ (shapeAt_ff _ _)

theorem argSizes_ff (t : AxesTree) (args : List (Arr α)) : FailsForeign (argSizes t args) := by
  unfold argSizes
  split
  · exact .ok _
  · split
    · exact .ok _
    · exact .map _ (shapeAt_ff _ _)
  · split
    · exact .map _ (.mapE argSizeOpt_ff _)
    · exact .error rfl

theorem liftScanCore_err (cfg : ScanCfg) (hcc : cfg.checkConst = true) {verdict initOnly : Bool}
    (hv : verdict = true ∨ initOnly = true) (body : Body α) (hb : BodyForeign body) (m : LFilter)
    (outer : Vars α) (rngs : Rngs) (init args : List (Arr α)) (e : Err)
    (h : liftScanCore cfg verdict initOnly body m outer rngs init args = .error e) :
    (∃ sizes, argSizes cfg.inAxes args = .ok sizes ∧ decideLength cfg.length sizes = .error e ∧
        (e = .inconsistentLengths ∨ e = .lengthUnspecified)) ∨ e.foreign = true := by
  unfold liftScanCore at h
  rw [hcc] at h
  rcases bind_err h with h1 | ⟨sizes, hs, h2⟩
  · exact Or.inr (argSizes_ff _ _ _ h1)
  · rcases bind_err h2 with h3 | ⟨d, _, h4⟩
    · exact Or.inl ⟨sizes, hs, h3, decideLength_err h3⟩
    · exact Or.inr (FailsForeign.bind (expand_ff _ _) (fun ia =>
        .bind (axesScan_ff (scanned_ff m cfg.outFs body hb) _ _ hv _ _ _ _ _ _ _ _ _) fun r => .ok _) e h4)

/-! With the constancy check failing, a run is the init-only run (everything up to and including the broadcast pass)
followed by the raise. -/

theorem axesScanTail_rejected (rev : Bool) (oA : AxesTree) (ov : List Int) (fn : ScanFn α) (bIn : Vars α)
    (init : Vars α × List (Arr α)) (xs : ScanXs α) (nE : Except Err Nat) (i0 : Nat) :
    axesScanTail rev false false oA ov fn bIn init xs nE i0 =
      (axesScanTail rev false true oA ov fn bIn init xs nE i0 >>= fun _ => throw .broadcastDependency) := by
  unfold axesScanTail
  simp only [bind_assoc, Bool.false_eq_true, if_false, if_true, Bool.not_false, pure_bind]

theorem axesScan_rejected (L : Option Nat) (rev : Bool) (iv : List Int) (ia : List (Option Int)) (oA : AxesTree)
    (ov : List Int) (fn : ScanFn α) (bIn : Vars α) (init : Vars α × List (Arr α)) (svs : List (Vars α))
    (rngs : List RngG) (args : List (Arr α)) :
    axesScan true L rev false false iv ia oA ov fn bIn init svs rngs args =
      (axesScan true L rev false true iv ia oA ov fn bIn init svs rngs args >>= fun _ =>
        throw .broadcastDependency) := by
  unfold axesScan
  simp only [bind_assoc, Bool.not_true, Bool.false_eq_true, if_false, axesScanTail_rejected]

theorem liftScanCore_rejected (cfg : ScanCfg) (hcc : cfg.checkConst = true) (body : Body α) (m : LFilter)
    (outer : Vars α) (rngs : Rngs) (init args : List (Arr α)) :
    liftScanCore cfg false false body m outer rngs init args =
      (liftScanCore cfg false true body m outer rngs init args >>= fun _ => throw .broadcastDependency) := by
  unfold liftScanCore
  simp only [hcc, bind_assoc, pure_bind, axesScan_rejected]
  rfl

theorem liftScan_err (cfg : ScanCfg) (hcc : cfg.checkConst = true) (verdict : Bool) (body : Body α)
    (hb : BodyForeign body) (m : LFilter)
    (outer : Vars α) (rngs : Rngs) (init args : List (Arr α)) (e : Err)
    (h : liftScan cfg verdict body m outer rngs init args = .error e) :
    (∃ sizes, argSizes cfg.inAxes args = .ok sizes ∧ decideLength cfg.length sizes = .error e ∧
        (e = .inconsistentLengths ∨ e = .lengthUnspecified)) ∨
    (e = .broadcastDependency ∧ verdict = false ∧
        ∃ r, liftScanCore cfg verdict true body m outer rngs init args = .ok r) ∨
    e.foreign = true := by
  unfold liftScan at h
  cases verdict with
  | true => exact (liftScanCore_err cfg hcc (Or.inl rfl) body hb m outer rngs init args e h).imp_right Or.inr
  | false =>
    rw [liftScanCore_rejected cfg hcc] at h
    rcases bind_err h with h1 | ⟨r, hr, h2⟩
    · exact (liftScanCore_err cfg hcc (Or.inr rfl) body hb m outer rngs init args e h1).imp_right Or.inr
    · exact Or.inr (Or.inl ⟨(Except.error.inj h2).symm, rfl, r, hr⟩)

theorem liftScan_reject (cfg : ScanCfg) (hcc : cfg.checkConst = true) (body : Body α) (m : LFilter) (outer : Vars α)
    (rngs : Rngs) (init args : List (Arr α)) (r : Result α)
    (h : liftScanCore cfg false true body m outer rngs init args = .ok r) :
    liftScan cfg false body m outer rngs init args = .error .broadcastDependency := by
  rw [liftScan, liftScanCore_rejected cfg hcc, h]
  rfl

theorem groupTakeAt_ff (i : Nat) (p : Option Int × Vars α) : FailsForeign (groupTakeAt i p) := by
  unfold groupTakeAt
  split
  · exact Vars.mapE_ff (takeAt_ff _ i) _
  · exact .ok _

theorem argTakeAt_ff (i : Nat) (p : Option Int × Arr α) : FailsForeign (argTakeAt i p) := by
  unfold argTakeAt
  split
  · exact takeAt_ff _ _ _
  · exact .ok _

theorem vmapCall_ff (m : LFilter) (outFs : List LFilter) (body : Body α) (hb : BodyForeign body)
    (iv : List (Option Int)) (groups : List (Vars α)) (ra : List RngG) (ia : List (Option Int))
    (args : List (Arr α)) (i : Nat) :
    FailsForeign (vmapCall (innerMutable m outFs) outFs body iv groups ra ia args i) := by
  unfold vmapCall
  refine .bind (.mapE (groupTakeAt_ff i) _) fun sv => .bind (.mapE (rngAt_ff i) _) fun rg =>
    .bind (.mapE (argTakeAt_ff i) _) fun as => .bind (hb _ _ _ _ _) fun r => ?_
  rw [repack_eq]
  exact .ok _

theorem groupSizeOpt_ff (p : Option Int × Vars α) : FailsForeign (groupSizeOpt p) := by
  unfold groupSizeOpt
  split
  · exact .map _ (shapeAt_ff _ _)
  · exact .ok _

theorem vmapSizes_ff (iv : List (Option Int)) (groups : List (Vars α)) (t : AxesTree) (args : List (Arr α)) :
    FailsForeign (vmapSizes iv groups t args) :=
  .bind (.mapE groupSizeOpt_ff _) fun _ => .bind (argSizes_ff t args) fun _ => .ok _

theorem groupDimAt_ff (p : Option Int × Vars α) : FailsForeign (groupDimAt p) := by
  unfold groupDimAt
  split
  · exact .mapE (fun a => shapeAt_ff a _) _
  · exact .ok _

theorem argDimAt_ff (p : Option Int × Arr α) : FailsForeign (argDimAt p) := by
  unfold argDimAt
  split
  · exact .map _ (shapeAt_ff _ _)
  · exact .ok _

theorem vmapDims_ff (iv : List (Option Int)) (groups : List (Vars α)) (ra : List RngG)
    (ia : List (Option Int)) (args : List (Arr α)) : FailsForeign (vmapDims iv groups ra ia args) :=
  .bind (.mapE groupDimAt_ff _) fun _ => .bind (.mapE argDimAt_ff _) fun _ => .ok _

theorem vmapY_ff (o0 : List (Arr α)) (outs : List (List (Arr α) × List (Vars α))) (p : Nat × Option Int) :
    FailsForeign (vmapY o0 outs p) := by
  unfold vmapY
  split
  · exact stackList_ff (stackAt_ff _) _ _
  · split
    · exact .ok _
    · exact .error rfl

theorem vmapV_ff (o0 : List (Vars α)) (outs : List (List (Arr α) × List (Vars α))) (p : Nat × Option Int) :
    FailsForeign (vmapV o0 outs p) := by
  unfold vmapV
  split
  · exact stackVars_ff (stackAt_ff _) _
  · exact .ok _

theorem liftVmap_err (cfg : VmapCfg) (verdict : Bool) (body : Body α) (hb : BodyForeign body) (m : LFilter)
    (outer : Vars α) (rngs : Rngs) (args : List (Arr α)) (e : Err)
    (h : liftVmap cfg verdict body m outer rngs args = .error e) :
    (∃ sizes, vmapSizes (cfg.inAx.map (·.axis)) (groupDict outer (cfg.inAx.map (·.filter))) cfg.inAxes args
        = .ok sizes ∧ decideLength cfg.axisSize sizes = .error e ∧
        (e = .inconsistentLengths ∨ e = .lengthUnspecified)) ∨
    e.foreign = true := by
  unfold liftVmap at h
  rcases bind_err h with h1 | ⟨sizes, hs, h2⟩
  · exact Or.inr (vmapSizes_ff _ _ _ _ _ h1)
  · rcases bind_err h2 with h3 | ⟨d, _, h4⟩
    · exact Or.inl ⟨sizes, hs, h3, decideLength_err h3⟩
    · refine Or.inr (FailsForeign.bind (expand_ff _ _) (fun ia => .bind (vmapDims_ff _ _ _ _ _) fun dims =>
        .bind (jaxLength_ff _ _) fun n => .bind (.mapE (vmapCall_ff m _ body hb _ _ _ _ _) _) fun outs => ?_)
        e h4)
      split
      · exact .error rfl
      · refine .bind (expand_ff _ _) fun oy => ?_
        split
        · exact .error rfl
        · exact .bind (.mapE (vmapY_ff _ _) _) fun ys => .bind (.mapE (vmapV_ff _ _) _) fun sv => .ok _

end Flax.LiftLoop
