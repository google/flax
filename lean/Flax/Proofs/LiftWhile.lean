/-
The lifted while loop simulates the Python while loop (for `Flax.C05.while_eq_iterate`): the loop invariant `WInv` with
its init, step and exit.
-/
import Flax.Proofs.LiftPack

namespace Flax.Lift
open Flax.Filter

section while_sim

variable (s : ScopeSt) (carryF bcF : LFilter)

/-- the carried group `_partial_pack` builds for `while_loop` -/
def wCarry0 : Vars := s.vars.filter (fun kv => inFilter carryF kv.1)
/-- the broadcast group: what `bcF` matches of the rest -/
def wBroadcast : Vars := (s.vars.filter (fun kv => !(inFilter carryF kv.1))).filter (fun kv => inFilter bcF kv.1)

/-- the inner scope of one `cond_wrapper` / `body_wrapper` call -/
def wInner (cv : Vars) (mf : LFilter) : ScopeSt :=
  scopeFn s [carryF] (frozenNames [wCarry0 s carryF, wBroadcast s carryF bcF] [carryF]) [cv, wBroadcast s carryF bcF] [] mf
    s.counters

/-- Loop invariant: the scope `sk` the Python loop has reached is the original scope `s` overlaid (`view`) with the carried
group `cv` of the lifted loop on the collections that are carried and mutable.  `cvmono`: `cv` has every such variable of
`s`, so on these collections `sk` reads `cv` alone. -/
structure WInv (cv : Vars) (sk : ScopeSt) : Prop where
  mutable : sk.mutable = s.mutable
  frozen : sk.frozen = s.frozen
  rngs : sk.rngs = s.rngs
  ctr : sk.counters = s.counters
  wfcv : VarsWF cv
  wfsk : VarsWF sk.vars
  cvkeys : ∀ c, c ∈ keys cv → inFilter carryF c = true ∧ inFilter s.mutable c = true
  cvmono : ∀ c n, (inFilter s.mutable c && inFilter carryF c) = true → (getVar s.vars c n).isSome = true →
    (getVar cv c n).isSome = true
  view : ∀ c n, getVar sk.vars c n =
    if (inFilter s.mutable c && inFilter carryF c) = true then
      (match getVar cv c n with | some v => some v | none => getVar s.vars c n)
    else getVar s.vars c n

variable {s carryF bcF}

theorem winv_init (hwf : VarsWF s.vars)
    (hcarry : ∀ c, c ∈ keys s.vars → inFilter carryF c = true → inFilter s.mutable c = true) :
    WInv s carryF (wCarry0 s carryF) s where
  mutable := rfl
  frozen := rfl
  rngs := rfl
  ctr := rfl
  wfcv := varsWF_filter _ _ hwf
  wfsk := hwf
  cvkeys := by
    intro c hc
    simp only [wCarry0, keys, List.mem_map, List.mem_filter] at hc
    obtain ⟨x, ⟨hx, hcf⟩, rfl⟩ := hc
    exact ⟨hcf, hcarry x.1 (List.mem_map.mpr ⟨x, hx, rfl⟩) hcf⟩
  cvmono := by
    intro c n hP hs
    simp only [Bool.and_eq_true] at hP
    rw [wCarry0, getVar_filter (fun c => inFilter carryF c), if_pos hP.2]
    exact hs
  view := by
    intro c n
    rw [wCarry0, getVar_filter (fun c => inFilter carryF c)]
    cases inFilter s.mutable c with
    | false => rfl
    | true =>
      cases inFilter carryF c with
      | false => rfl
      | true => exact (overlay_eq_left id).symm

theorem wbroadcast_lookup (c : String) :
    alookup c (wBroadcast s carryF bcF) = if (!(inFilter carryF c) && inFilter bcF c) = true then alookup c s.vars else none :=
  alookup_groupBy_rest s.vars carryF bcF c

theorem wInner_vars (cv : Vars) (mf : LFilter) : (wInner s carryF bcF cv mf).vars = cv ++ wBroadcast s carryF bcF := by
  simp only [wInner, scopeFn, List.flatten_cons, List.flatten_nil, List.append_nil]

theorem WInv.cv_none {cv : Vars} {sk : ScopeSt} (h : WInv s carryF cv sk) {c : String}
    (hc : inFilter carryF c = false ∨ inFilter s.mutable c = false) : alookup c cv = none := by
  refine (alookup_none_iff _ _).mpr fun hk => ?_
  have hk := h.cvkeys c hk
  rcases hc with hc | hc
  · rw [hk.1] at hc; cases hc
  · rw [hk.2] at hc; cases hc

theorem WInv.published {cv : Vars} {sk : ScopeSt} (h : WInv s carryF cv sk) :
    SameVars sk.vars (writeVars (cv.filter (fun kv => inFilter s.mutable kv.1)) s.vars) := by
  intro c n
  rw [getVar_published _ _ _ h.wfcv, h.view]
  cases hm : inFilter s.mutable c with
  | false => rfl
  | true =>
    cases hcf : inFilter carryF c with
    | true => rfl
    | false => simp [getVar, h.cv_none (Or.inl hcf)]

theorem winv_sim (mf : LFilter) (hfz : s.FrozenOk) {cv : Vars} {sk : ScopeSt} (h : WInv s carryF cv sk)
    (hcarry : ∀ c, c ∈ keys s.vars → inFilter carryF c = true → inFilter s.mutable c = true) :
    Sim (fun c => (inFilter carryF c || inFilter bcF c) = true)
      (fun c => inFilter s.mutable c = true → inFilter carryF c = true ∧ inFilter mf c = true)
      (fun _ => False) sk (wInner s carryF bcF cv mf) where
  vars := by
    intro c hD n
    rw [h.view, wInner_vars]
    cases hc : inFilter carryF c with
    | true =>
      rw [getVar_append_left (by rw [wbroadcast_lookup, hc]; rfl)]
      cases hm : inFilter s.mutable c with
      | true => exact (overlay_eq_left (h.cvmono c n (by rw [hm, hc]; rfl))).symm
      | false =>
        -- carried but immutable: by `hcarry` the scope has no such collection, and `cv` never holds one
        have hs : alookup c s.vars = none :=
          (alookup_none_iff _ _).mpr fun hk => by rw [hcarry c hk hc] at hm; cases hm
        simp only [Bool.false_and, Bool.false_eq_true, ↓reduceIte, getVar, hs, h.cv_none (Or.inr hm)]
    | false =>
      have hb : inFilter bcF c = true := by simpa [hc] using hD
      rw [getVar_append_right (h.cv_none (Or.inl hc))]
      simp only [getVar, wbroadcast_lookup, hc, hb, Bool.and_false, Bool.false_eq_true, Bool.not_false, Bool.and_self,
        ↓reduceIte]
  mutb := by
    intro c hW
    rw [wInner, inFilter_scopeFn, h.mutable]
    cases hm : inFilter s.mutable c with
    | false => simp
    | true => simp [anyMatch, (hW hm).1, (hW hm).2]
  ifro := frozenOk_scopeFn _ _ _ _ _ _ _
  sfro := by
    intro c hc
    rw [h.mutable]
    exact hfz c (by rw [← h.frozen]; exact hc)
  rngs := by intro r hr; exact absurd hr id
  ctr := by simp [wInner, scopeFn, h.ctr]

theorem winner_dom {cv : Vars} {sk : ScopeSt} (h : WInv s carryF cv sk) (mf : LFilter) (c : String)
    (hc : ¬ (inFilter carryF c || inFilter bcF c) = true) : alookup c (wInner s carryF bcF cv mf).vars = none := by
  simp only [Bool.or_eq_true, not_or, Bool.not_eq_true] at hc
  rw [wInner_vars, alookup_append, h.cv_none (Or.inl hc.1), wbroadcast_lookup, hc.2, Bool.and_false]
  rfl

theorem inFilter_wInner (cv : Vars) (c : String) :
    inFilter (wInner s carryF bcF cv .tt).mutable c = (inFilter s.mutable c && inFilter carryF c) := by
  rw [wInner, inFilter_scopeFn]; simp [anyMatch, inFilter]

theorem wcond_step (attrs : List (String × Int)) (condFn : Fn) (hfz : s.FrozenOk)
    (hcarry : ∀ c, c ∈ keys s.vars → inFilter carryF c = true → inFilter s.mutable c = true)
    (hD : ∀ c, c ∈ cols condFn.body → (inFilter carryF c || inFilter bcF c) = true)
    (hW : wcols condFn.body = []) (hR : rngNames condFn.body = [])
    {cv : Vars} {sk : ScopeSt} (h : WInv s carryF cv sk) (carry : List Int) :
    ExceptRel (fun a b => a.1 = b.1 ∧ WInv s carryF cv a.2)
      (runFn attrs condFn carry sk) (runFn attrs condFn carry (wInner s carryF bcF cv .ff)) := by
  refine (sim_runFn attrs condFn carry sk _ (winv_sim (bcF := bcF) .ff hfz h hcarry) hD
    (by intro c hc; simp [hW] at hc) (by intro r hr; simp [hR] at hr) (fun hne => absurd hR hne)).mono ?_
  rintro ⟨y, s1⟩ b h1 _ ⟨hy, _⟩
  obtain ⟨m, hev, rfl⟩ := runFn_ok h1
  have hst := eval_static _ _ _ _ hev
  have hfr : ∀ c, alookup c m.sc.vars = alookup c sk.vars :=
    fun c => eval_frame _ _ c _ _ hev (Or.inl (by simp [hW]))
  exact ⟨hy, {
    mutable := hst.1.trans h.mutable, frozen := hst.2.1.trans h.frozen, rngs := hst.2.2.trans h.rngs
    ctr := (eval_ctr_norng _ _ hR _ _ hev).trans h.ctr, wfcv := h.wfcv, wfsk := eval_wf _ _ _ _ hev h.wfsk
    cvkeys := h.cvkeys, cvmono := h.cvmono
    view := by intro c n; rw [← h.view c n]; simp [getVar, hfr c] }⟩

theorem wbody_step (attrs : List (String × Int)) (bodyFn : Fn) (hwf : VarsWF s.vars) (hfz : s.FrozenOk)
    (hcarry : ∀ c, c ∈ keys s.vars → inFilter carryF c = true → inFilter s.mutable c = true)
    (hD : ∀ c, c ∈ cols bodyFn.body → (inFilter carryF c || inFilter bcF c) = true)
    (hW : ∀ c, c ∈ wcols bodyFn.body → inFilter s.mutable c = true → inFilter carryF c = true)
    (hR : rngNames bodyFn.body = [])
    {cv : Vars} {sk : ScopeSt} (h : WInv s carryF cv sk) (carry : List Int) :
    ExceptRel (fun a b => a.1 = b.1 ∧
        WInv s carryF ((b.2.vars.filter (fun kv => inFilter b.2.mutable kv.1)).filter (fun kv => inFilter carryF kv.1)) a.2)
      (runFn attrs bodyFn carry sk) (runFn attrs bodyFn carry (wInner s carryF bcF cv .tt)) := by
  have hsim0 := winv_sim (bcF := bcF) .tt hfz h hcarry
  have hW' : ∀ c, c ∈ wcols bodyFn.body → inFilter s.mutable c = true → inFilter carryF c = true ∧ inFilter .tt c = true :=
    fun c hc hm => ⟨hW c hc hm, rfl⟩
  refine (sim_runFn attrs bodyFn carry sk _ hsim0 hD hW' (by intro r hr; simp [hR] at hr)
    (fun hne => absurd hR hne)).mono ?_
  rintro ⟨y, s2⟩ ⟨y', i'⟩ h1 h2 ⟨hy, hfin⟩
  -- the new carried group is what `repack [carryF]` returns from the inner run (`hcv'`); elsewhere `view` is `runFn_overlay` (`hov`)
  have hov := runFn_overlay hsim0 hD hW' (winner_dom h .tt) h1 h2 hfin.vars
  obtain ⟨m, hev, rfl⟩ := runFn_ok h1
  obtain ⟨m', hev', rfl⟩ := runFn_ok h2
  have hst := eval_static _ _ _ _ hev
  have hmu : ∀ c, inFilter m'.sc.mutable c = (inFilter s.mutable c && inFilter carryF c) := by
    intro c; rw [(eval_static _ _ _ _ hev').1, inFilter_wInner]
  have hcv' : ∀ c n, getVar ((m'.sc.vars.filter (fun kv => inFilter m'.sc.mutable kv.1)).filter
      (fun kv => inFilter carryF kv.1)) c n =
      if (inFilter s.mutable c && inFilter carryF c) = true then getVar m'.sc.vars c n else none := by
    intro c n
    rw [getVar_filter (fun c => inFilter carryF c), getVar_filter (fun c => inFilter m'.sc.mutable c), hmu]
    cases inFilter s.mutable c <;> cases inFilter carryF c <;> rfl
  have hin0 : ∀ c n, (inFilter s.mutable c && inFilter carryF c) = true →
      getVar (wInner s carryF bcF cv .tt).vars c n = getVar sk.vars c n := by
    intro c n hP
    simp only [Bool.and_eq_true] at hP
    exact hsim0.vars c (by simp [hP.2]) n
  have hwfi : VarsWF (wInner s carryF bcF cv .tt).vars := by
    rw [wInner_vars]
    apply varsWF_append _ _ h.wfcv
    · exact varsWF_filter _ _ (varsWF_filter _ _ hwf)
    · intro c hc hb
      have h2 : alookup c (wBroadcast s carryF bcF) ≠ none := by
        rw [Ne, alookup_none_iff]; exact fun hn => hn hb
      rw [wbroadcast_lookup] at h2
      simp [(h.cvkeys c hc).1] at h2
  have hmono : ∀ c n, (inFilter s.mutable c && inFilter carryF c) = true → (getVar s.vars c n).isSome = true →
      (getVar ((m'.sc.vars.filter (fun kv => inFilter m'.sc.mutable kv.1)).filter
        (fun kv => inFilter carryF kv.1)) c n).isSome = true := by
    intro c n hP hs
    rw [hcv', if_pos hP]
    apply eval_mono _ _ c n _ _ hev'
    rw [hin0 c n hP, h.view, if_pos hP]
    have := h.cvmono c n hP hs
    cases hg : getVar cv c n with
    | none => simp [hg] at this
    | some v => rfl
  refine ⟨hy, {
    mutable := hst.1.trans h.mutable, frozen := hst.2.1.trans h.frozen, rngs := hst.2.2.trans h.rngs
    ctr := (eval_ctr_norng _ _ hR _ _ hev).trans h.ctr
    wfcv := varsWF_filter _ _ (varsWF_filter _ _ (eval_wf _ _ _ _ hev' hwfi))
    wfsk := eval_wf _ _ _ _ hev h.wfsk
    cvkeys := ?_, cvmono := hmono, view := ?_ }⟩
  · intro c hc
    simp only [keys, List.mem_map, List.mem_filter] at hc
    obtain ⟨x, ⟨⟨_, hm⟩, hcf⟩, rfl⟩ := hc
    rw [hmu] at hm
    simp only [Bool.and_eq_true] at hm
    exact ⟨hcf, hm.1⟩
  · intro c n
    by_cases hP : (inFilter s.mutable c && inFilter carryF c) = true
    · -- carried and mutable: both runs end alike there, and the new carried group has all of `s` (`hmono`)
      have e := hcv' c n
      rw [if_pos hP, hfin.vars c (by simp only [Bool.and_eq_true] at hP; simp [hP.2]) n] at e
      rw [if_pos hP, ← e]
      exact (overlay_eq_left (hmono c n hP)).symm
    · rw [if_neg hP, hov c n, inFilter_wInner, if_neg hP, h.view, if_neg hP]

theorem iterate_sim (attrs : List (String × Int)) (condFn bodyFn : Fn) (hwf : VarsWF s.vars) (hfz : s.FrozenOk)
    (hcarry : ∀ c, c ∈ keys s.vars → inFilter carryF c = true → inFilter s.mutable c = true)
    (hcD : ∀ c, c ∈ cols condFn.body → (inFilter carryF c || inFilter bcF c) = true)
    (hcW : wcols condFn.body = []) (hcR : rngNames condFn.body = [])
    (hbD : ∀ c, c ∈ cols bodyFn.body → (inFilter carryF c || inFilter bcF c) = true)
    (hbW : ∀ c, c ∈ wcols bodyFn.body → inFilter s.mutable c = true → inFilter carryF c = true)
    (hbR : rngNames bodyFn.body = []) :
    ∀ (fuel : Nat) (cv : Vars) (sk : ScopeSt) (carry : List Int), WInv s carryF cv sk →
    ExceptRel (fun a b => a.1 = b.2 ∧ WInv s carryF b.1 a.2) (pyWhile attrs condFn bodyFn fuel carry sk)
      (iterate (whileCondInner attrs condFn (partialPack [carryF, bcF] [carryF] [] s) (wBroadcast s carryF bcF) s.counters)
        (whileBodyInner attrs bodyFn (partialPack [carryF, bcF] [carryF] [] s) (wBroadcast s carryF bcF) s.counters)
        fuel (cv, carry)) := by
  intro fuel
  induction fuel with
  | zero => intro cv sk carry _; rfl
  | succ fuel ih =>
    intro cv sk carry hinv
    simp only [pyWhile, iterate, whileCondInner]
    refine (wcond_step (bcF := bcF) attrs condFn hfz hcarry hcD hcW hcR hinv carry).elim ?_ (fun _ _ _ => rfl)
    rintro ⟨y, s1⟩ ⟨y', i1⟩ _ _ ⟨hy, hinv1⟩
    cases (hy : y = y')
    dsimp only
    cases y.vals with
    | nil => rfl
    | cons v rest =>
      dsimp only
      by_cases hpos : v > 0
      · simp only [hpos, ↓reduceIte, decide_true, whileBodyInner, runInner_partialPack]
        refine (wbody_step (bcF := bcF) attrs bodyFn hwf hfz hcarry hbD hbW hbR hinv1 carry).elim ?_ (fun _ _ _ => rfl)
        rintro ⟨y2, s2⟩ ⟨y2', i2⟩ _ _ ⟨hy2, hinv2⟩
        cases (hy2 : y2 = y2')
        exact ih _ s2 y2.vals hinv2
      · simp only [hpos, ↓reduceIte, decide_false]
        exact ⟨rfl, hinv1⟩

end while_sim

end Flax.Lift
