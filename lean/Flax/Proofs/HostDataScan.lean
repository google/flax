/-
`scan_in_dim`: `_invert_perm` computes the inverse relation of a permutation and
`axis + delete(arange(ndim), axis)` is one, so `transpose_out ∘ transpose_in = id`; `_scan_nd` over `j`
axes (`scanAx`) is the Python loop nest (`runLoop`) over the `j` leading indices; the code with negative
axis entries is the model on the normalised axes.
-/
import Flax.Model.HostData

namespace Flax.HostData

/-- `p` lists `0 .. p.length-1`, each once -/
structure IsPerm (p : List Nat) : Prop where
  nodup : p.Nodup
  lt : ∀ j ∈ p, j < p.length
  surj : ∀ m, m < p.length → m ∈ p

theorem IsPerm.of_perm_range {p : List Nat} {n : Nat} (hp : p.Perm (List.range n)) : IsPerm p := by
  have hlen : p.length = n := by simpa using hp.length_eq
  refine ⟨hp.nodup_iff.mpr List.nodup_range, ?_, ?_⟩
  · intro j hj; rw [hlen]; simpa using hp.mem_iff.mp hj
  · intro m hm; rw [hlen] at hm; exact hp.mem_iff.mpr (by simpa using hm)

theorem invertLoop_spec : ∀ (rest : List Nat) (i : Nat) (inv : List Nat), rest.Nodup →
    (∀ j ∈ rest, j < inv.length) →
    (invertLoop rest i inv).length = inv.length ∧
    (∀ k (hk : k < rest.length), (invertLoop rest i inv)[rest[k]]? = some (i + k)) ∧
    (∀ j, j ∉ rest → (invertLoop rest i inv)[j]? = inv[j]?) := by
  intro rest
  induction rest with
  | nil => intro i inv _ _; exact ⟨rfl, fun k hk => absurd hk (Nat.not_lt_zero k), fun _ _ => rfl⟩
  | cons j rest ih =>
    intro i inv hnd hlt
    have hnd' : rest.Nodup := (List.nodup_cons.mp hnd).2
    have hj : j ∉ rest := (List.nodup_cons.mp hnd).1
    have hjl : j < inv.length := hlt j (by simp)
    obtain ⟨h1, h2, h3⟩ := ih (i + 1) (inv.set j i) hnd' (by
      intro a ha; simp; exact hlt a (List.mem_cons_of_mem _ ha))
    simp only [invertLoop]
    refine ⟨by simpa using h1, ?_, ?_⟩
    · intro k hk
      cases k with
      | zero =>
        simp only [List.getElem_cons_zero, Nat.add_zero]
        rw [h3 j hj, List.getElem?_set]; simp [hjl]
      | succ k =>
        simp only [List.getElem_cons_succ]
        rw [h2 k (by simpa using hk), Nat.add_assoc, Nat.add_comm 1 k]
    · intro a ha
      simp only [List.mem_cons, not_or] at ha
      rw [h3 a ha.2, List.getElem?_set]
      have : ¬ j = a := fun h => ha.1 h.symm
      simp [this]

theorem invertPerm_length (p : List Nat) (hp : IsPerm p) : (invertPerm p).length = p.length := by
  have := (invertLoop_spec p 0 (List.replicate p.length 0) hp.nodup (by simpa using hp.lt)).1
  simpa [invertPerm] using this

theorem invertPerm_left (p : List Nat) (hp : IsPerm p) (k : Nat) (hk : k < p.length) :
    (invertPerm p)[p[k]]? = some k := by
  have := (invertLoop_spec p 0 (List.replicate p.length 0) hp.nodup (by simpa using hp.lt)).2.1 k hk
  simpa [invertPerm] using this

theorem invertPerm_right (p : List Nat) (hp : IsPerm p) (m : Nat) (hm : m < p.length) :
    ∃ k, k < p.length ∧ (invertPerm p)[m]? = some k ∧ p[k]? = some m := by
  obtain ⟨k, hk, hpk⟩ := List.mem_iff_getElem.mp (hp.surj m hm)
  refine ⟨k, hk, ?_, ?_⟩
  · have := invertPerm_left p hp k hk; rw [hpk] at this; exact this
  · rw [List.getElem?_eq_getElem hk, hpk]

theorem invertPerm_eq_some_iff (p : List Nat) (hp : IsPerm p) {m k : Nat} :
    (invertPerm p)[m]? = some k ↔ p[k]? = some m := by
  constructor
  · intro h
    have hm : m < p.length := invertPerm_length p hp ▸ (List.getElem?_eq_some_iff.mp h).1
    obtain ⟨k', _, h1, h2⟩ := invertPerm_right p hp m hm
    rw [h] at h1; cases h1; exact h2
  · intro h
    obtain ⟨hk, rfl⟩ := List.getElem?_eq_some_iff.mp h
    exact invertPerm_left p hp k hk

theorem invertPerm_isPerm (p : List Nat) (hp : IsPerm p) : IsPerm (invertPerm p) := by
  have hlen := invertPerm_length p hp
  refine ⟨?_, ?_, ?_⟩
  · -- two positions `i < j` holding the same entry `a` would both be `p[a]`
    rw [List.nodup_iff_pairwise_ne, List.pairwise_iff_getElem]
    intro i j hi hj hij heq
    have h1 := (invertPerm_eq_some_iff p hp).mp (List.getElem?_eq_getElem hi)
    have h2 := (invertPerm_eq_some_iff p hp).mp (List.getElem?_eq_getElem hj)
    rw [heq, h2] at h1
    exact Nat.ne_of_lt hij (Option.some.inj h1).symm
  · intro k hk
    obtain ⟨m, hm⟩ := List.mem_iff_getElem?.mp hk
    exact hlen ▸ (List.getElem?_eq_some_iff.mp ((invertPerm_eq_some_iff p hp).mp hm)).1
  · intro m hm
    exact List.mem_of_getElem? (invertPerm_left p hp m (hlen ▸ hm))

theorem invertPerm_invertPerm (p : List Nat) (hp : IsPerm p) : invertPerm (invertPerm p) = p :=
  List.ext_getElem? fun _ => Option.ext fun _ =>
    (invertPerm_eq_some_iff _ (invertPerm_isPerm p hp)).trans (invertPerm_eq_some_iff p hp)

/-- distinct axes of a rank-`n` array, none negative -/
structure ValidAxes (axis : List Nat) (n : Nat) : Prop where
  nodup : axis.Nodup
  lt : ∀ a ∈ axis, a < n

/-- the non-scanned axes, in increasing order -/
def restAxes (axis : List Nat) (n : Nat) : List Nat := (List.range n).filter (fun a => !decide (a ∈ axis))

theorem scanPerm_eq (axis : List Nat) (n : Nat) : scanPerm axis n = axis ++ restAxes axis n := rfl

theorem scanPerm_perm (axis : List Nat) (n : Nat) (h : ValidAxes axis n) :
    (scanPerm axis n).Perm (List.range n) := by
  have h1 := List.filter_append_perm (fun a => decide (a ∈ axis)) (List.range n)
  have h2 : ((List.range n).filter (fun a => decide (a ∈ axis))).Perm axis := by
    rw [List.perm_ext_iff_of_nodup (List.Nodup.sublist List.filter_sublist List.nodup_range) h.nodup]
    intro a
    simp only [List.mem_filter, List.mem_range, decide_eq_true_eq]
    constructor
    · exact fun h => h.2
    · exact fun ha => ⟨h.lt a ha, ha⟩
  exact (List.Perm.append_right _ h2.symm).trans h1

theorem scanPerm_isPerm (axis : List Nat) (n : Nat) (h : ValidAxes axis n) : IsPerm (scanPerm axis n) :=
  .of_perm_range (scanPerm_perm axis n h)

theorem scanPerm_length (axis : List Nat) (n : Nat) (h : ValidAxes axis n) : (scanPerm axis n).length = n := by
  simpa using (scanPerm_perm axis n h).length_eq

theorem length_add_restAxes_length (axis : List Nat) (n : Nat) (h : ValidAxes axis n) :
    axis.length + (restAxes axis n).length = n := by
  rw [← List.length_append, ← scanPerm_eq]; exact scanPerm_length axis n h

theorem axis_length_le (axis : List Nat) (n : Nat) (h : ValidAxes axis n) : axis.length ≤ n :=
  Nat.le.intro (length_add_restAxes_length axis n h)

theorem gather_length (p v : List Nat) : (gather p v).length = p.length := by simp [gather]

theorem gather_getElem? (p v : List Nat) (k : Nat) (hk : k < p.length) :
    (gather p v)[k]? = some (v.getD p[k] 0) := by
  simp [gather, List.getElem?_map, List.getElem?_eq_getElem hk]

theorem gather_getD (p v : List Nat) (k : Nat) (hk : k < p.length) :
    (gather p v).getD k 0 = v.getD p[k] 0 := by
  rw [List.getD_eq_getElem?_getD, gather_getElem? p v k hk, Option.getD_some]

theorem gather_invert_gather (p v : List Nat) (hp : IsPerm p) (hv : v.length = p.length) :
    gather (invertPerm p) (gather p v) = v := by
  have hlen := invertPerm_length p hp
  apply List.ext_getElem?
  intro m
  by_cases hm : m < p.length
  · -- `inv[m] = k` with `p[k] = m`: position `m` reads `v[p[k]]`
    obtain ⟨k, hk, hik, hpk⟩ := invertPerm_right p hp m hm
    obtain ⟨_, e1⟩ := List.getElem?_eq_some_iff.mp hik
    obtain ⟨_, e2⟩ := List.getElem?_eq_some_iff.mp hpk
    rw [gather_getElem? _ _ m (by omega), e1, gather_getD p v k hk, e2, List.getD_eq_getElem?_getD,
      List.getElem?_eq_getElem (by omega : m < v.length), Option.getD_some]
  · rw [List.getElem?_eq_none (by rw [gather_length]; omega), List.getElem?_eq_none (by omega)]

/-- the index read by `x.transpose(perm)` at `idx` -/
def srcIdx (n : Nat) (perm idx : List Nat) : List Nat :=
  (List.range n).map (fun m => idx.getD (perm.idxOf m) 0)

theorem transpose_get {α : Type} (perm : List Nat) (x : Arr α) (idx : List Nat) :
    (x.transpose perm).get idx = x.get (srcIdx x.shape.length perm idx) := rfl

theorem transpose_shape {α : Type} (perm : List Nat) (x : Arr α) : (x.transpose perm).shape = gather perm x.shape := rfl

/-- NumPy's `j[perm[k]] = i[k]` -/
theorem srcIdx_getElem? {n : Nat} {perm idx : List Nat} (hp : perm.Nodup) {k a : Nat} (hk : perm[k]? = some a)
    (ha : a < n) : (srcIdx n perm idx)[a]? = some (idx.getD k 0) := by
  obtain ⟨hk', rfl⟩ := List.getElem?_eq_some_iff.mp hk
  simp only [srcIdx, List.getElem?_map, List.getElem?_range ha, Option.map_some, hp.idxOf_getElem k hk']

theorem srcIdx_perm (p idx : List Nat) (hp : IsPerm p) :
    srcIdx p.length p idx = gather (invertPerm p) idx := by
  have hlen := invertPerm_length p hp
  apply List.ext_getElem?
  intro m
  by_cases hm : m < p.length
  · -- `inv[m] = k` with `p[k] = m`: position `m` reads `idx[k]`
    obtain ⟨k, _, hik, hpk⟩ := invertPerm_right p hp m hm
    obtain ⟨_, e⟩ := List.getElem?_eq_some_iff.mp hik
    rw [srcIdx_getElem? hp.nodup hpk hm, gather_getElem? _ _ m (by omega), e]
  · rw [List.getElem?_eq_none (by simp [srcIdx]; omega), List.getElem?_eq_none (by rw [gather_length]; omega)]

theorem srcIdx_invert (p idx : List Nat) (hp : IsPerm p) :
    srcIdx p.length (invertPerm p) idx = gather p idx := by
  have h := srcIdx_perm (invertPerm p) idx (invertPerm_isPerm p hp)
  rwa [invertPerm_invertPerm p hp, invertPerm_length p hp] at h

theorem gather_gather_invert (p w : List Nat) (hp : IsPerm p) (hw : w.length = p.length) :
    gather p (gather (invertPerm p) w) = w := by
  have h := gather_invert_gather (invertPerm p) w (invertPerm_isPerm p hp) (by rw [hw, invertPerm_length p hp])
  rwa [invertPerm_invertPerm p hp] at h

theorem gather_append (a b v : List Nat) : gather (a ++ b) v = gather a v ++ gather b v := by
  simp [gather]

theorem transposeIn_shape {α : Type} (axis : List Nat) (x : Arr α) :
    (transposeIn axis x).shape = gather (scanPerm axis x.shape.length) x.shape := rfl

theorem transposeIn_rank {α : Type} (axis : List Nat) (x : Arr α) (h : ValidAxes axis x.shape.length) :
    (transposeIn axis x).shape.length = x.shape.length := by
  rw [transposeIn_shape, gather_length, scanPerm_length axis _ h]

theorem transposeOut_rank {α : Type} (axis : List Nat) (y : Arr α) (h : ValidAxes axis y.shape.length) :
    (transposeOut axis y).shape.length = y.shape.length := by
  rw [transposeOut, transpose_shape, gather_length, invertPerm_length _ (scanPerm_isPerm axis _ h), scanPerm_length axis _ h]

/-! The rank `n` of the argument of `transpose_out` is a parameter: in `scan_in_dim` it is the rank of
the scan's result, known only through an equation. -/

theorem transposeOut_get {α : Type} (axis : List Nat) (y : Arr α) (n : Nat) (hn : y.shape.length = n)
    (h : ValidAxes axis n) (idx : List Nat) :
    (transposeOut axis y).get idx = y.get (gather axis idx ++ gather (restAxes axis n) idx) := by
  subst hn
  have e := srcIdx_invert (scanPerm axis y.shape.length) idx (scanPerm_isPerm axis _ h)
  rw [scanPerm_length axis _ h] at e
  rw [transposeOut, transpose_get, e, scanPerm_eq, gather_append]

theorem transposeOut_shape {α : Type} (axis : List Nat) (y : Arr α) (n : Nat) (hn : y.shape.length = n)
    (h : ValidAxes axis n) :
    gather (scanPerm axis n) (transposeOut axis y).shape = y.shape := by
  subst hn
  exact gather_gather_invert _ _ (scanPerm_isPerm axis _ h) (by rw [scanPerm_length axis _ h])

theorem transposeOut_transposeIn_shape {α : Type} (axis : List Nat) (x : Arr α)
    (h : ValidAxes axis x.shape.length) : (transposeOut axis (transposeIn axis x)).shape = x.shape := by
  have hr := transposeIn_rank axis x h
  rw [transposeOut, transpose_shape, hr, transposeIn_shape]
  exact gather_invert_gather _ _ (scanPerm_isPerm axis _ h) (by rw [scanPerm_length axis _ h])

theorem transposeOut_transposeIn_get {α : Type} (axis : List Nat) (x : Arr α)
    (h : ValidAxes axis x.shape.length) (idx : List Nat) (hidx : idx.length = x.shape.length) :
    (transposeOut axis (transposeIn axis x)).get idx = x.get idx := by
  have hp := scanPerm_isPerm axis _ h
  have hpl := scanPerm_length axis _ h
  rw [transposeOut_get axis _ _ (transposeIn_rank axis x h) h, ← gather_append, ← scanPerm_eq]
  have e := srcIdx_perm (scanPerm axis x.shape.length) (gather (scanPerm axis x.shape.length) idx) hp
  rw [hpl] at e
  rw [transposeIn, transpose_get, e, gather_invert_gather _ _ hp (by rw [hpl]; exact hidx)]

/-- `x[m0, m1, …]`: index the leading axes -/
def Arr.sliceAt {α : Type} (x : Arr α) (m : List Nat) : Arr α :=
  { shape := x.shape.drop m.length, get := fun r => x.get (m ++ r) }

/-- the Python loop `for m in ms: c, y = f(c, m); out.append((m, y))` -/
def runLoop {β γ : Type} (f : γ → List Nat → γ × Arr β) : List (List Nat) → γ → γ × List (List Nat × Arr β)
  | [], c => (c, [])
  | m :: ms, c => ((runLoop f ms (f c m).1).1, (m, (f c m).2) :: (runLoop f ms (f c m).1).2)

theorem runLoop_append {β γ : Type} (f : γ → List Nat → γ × Arr β) :
    ∀ (a b : List (List Nat)) (c : γ),
      runLoop f (a ++ b) c =
        ((runLoop f b (runLoop f a c).1).1, (runLoop f a c).2 ++ (runLoop f b (runLoop f a c).1).2) := by
  intro a
  induction a with
  | nil => intro b c; simp [runLoop]
  | cons m ms ih => intro b c; simp [runLoop, ih]

theorem runLoop_map_cons {β γ : Type} (f : γ → List Nat → γ × Arr β) (i : Nat) :
    ∀ (ms : List (List Nat)) (c : γ),
      runLoop f (ms.map (fun m => i :: m)) c =
        ((runLoop (fun c m => f c (i :: m)) ms c).1,
         (runLoop (fun c m => f c (i :: m)) ms c).2.map (fun e => (i :: e.1, e.2))) := by
  intro ms
  induction ms with
  | nil => intro c; simp [runLoop]
  | cons m ms ih => intro c; simp [runLoop, ih]

theorem runLoop_congr {β γ : Type} (f g : γ → List Nat → γ × Arr β) :
    ∀ (ms : List (List Nat)), (∀ m ∈ ms, ∀ c, f c m = g c m) → ∀ c, runLoop f ms c = runLoop g ms c := by
  intro ms
  induction ms with
  | nil => intro _ c; rfl
  | cons m ms ih =>
    intro h c
    have hm := h m (by simp)
    simp only [runLoop, hm, ih (fun m' hm' => h m' (List.mem_cons_of_mem _ hm'))]

theorem allIdx_length : ∀ (dims : List Nat) (m : List Nat), m ∈ allIdx dims → m.length = dims.length := by
  intro dims
  induction dims with
  | nil => intro m hm; simp [allIdx] at hm; simp [hm]
  | cons d ds ih =>
    intro m hm
    simp only [allIdx, List.mem_flatMap, List.mem_map] at hm
    obtain ⟨i, _, r, hr, rfl⟩ := hm
    simp [ih r hr]

theorem sliceAt_slice0 {α : Type} (x : Arr α) (i : Nat) (m : List Nat) :
    (x.slice0 i).sliceAt m = x.sliceAt (i :: m) := by
  simp only [Arr.sliceAt, Arr.slice0, List.length_cons, List.cons_append]
  congr 1
  cases x.shape <;> simp

/-- the carry after `i` complete rows of the loop nest -/
def rowCarry {β γ : Type} (f : γ → List Nat → γ × Arr β) (inner : List (List Nat)) (init : γ) : Nat → γ
  | 0 => init
  | i + 1 => (runLoop (fun c m => f c (i :: m)) inner (rowCarry f inner init i)).1

theorem runLoop_rows {β γ : Type} (f : γ → List Nat → γ × Arr β) (inner : List (List Nat)) (init : γ) :
    ∀ (n : Nat),
      (runLoop f ((List.range n).flatMap (fun i => inner.map (fun r => i :: r))) init).1 = rowCarry f inner init n ∧
      ∀ e, e ∈ (runLoop f ((List.range n).flatMap (fun i => inner.map (fun r => i :: r))) init).2 →
        ∃ i m, i < n ∧ e.1 = i :: m ∧
          (m, e.2) ∈ (runLoop (fun c m => f c (i :: m)) inner (rowCarry f inner init i)).2 := by
  intro n
  induction n with
  | zero => simp [runLoop, rowCarry]
  | succ n ih =>
    obtain ⟨ih1, ih2⟩ := ih
    rw [List.range_succ, List.flatMap_append, runLoop_append]
    simp only [List.flatMap_cons, List.flatMap_nil, List.append_nil, runLoop_map_cons, ih1]
    refine ⟨rfl, ?_⟩
    intro e he
    simp only [List.mem_append, List.mem_map] at he
    rcases he with he | ⟨e', he', rfl⟩
    · obtain ⟨i, m, hi, h1, h2⟩ := ih2 e he
      exact ⟨i, m, by omega, h1, h2⟩
    · exact ⟨n, e'.1, by omega, rfl, he'⟩

/-- `_scan_nd` over `j` leading axes, counted from none: `scanNd body k` is `scanAx body (k + 1)`.
With the empty case available, each fact about nested scans needs only the step from `j` to `j + 1`. -/
def scanAx {α β γ : Type} (body : γ → Arr α → γ × Arr β) : Nat → γ → Arr α → γ × Arr β
  | 0 => body
  | j + 1 => scan1 (scanAx body j)

theorem scanNd_eq_scanAx {α β γ : Type} (body : γ → Arr α → γ × Arr β) (k : Nat) :
    scanNd body k = scanAx body (k + 1) := by
  induction k with
  | zero => rfl
  | succ k ih => funext init xs; simp only [scanNd, ih]; rfl

theorem scanAx_runLoop {α β γ : Type} (body : γ → Arr α → γ × Arr β) :
    ∀ (j : Nat) (init : γ) (x : Arr α), j ≤ x.shape.length →
      (scanAx body j init x).1
          = (runLoop (fun c m => body c (x.sliceAt m)) (allIdx (x.shape.take j)) init).1 ∧
      ∀ m y, (m, y) ∈ (runLoop (fun c m => body c (x.sliceAt m)) (allIdx (x.shape.take j)) init).2 →
        ∀ r, (scanAx body j init x).2.get (m ++ r) = y.get r := by
  intro j
  induction j with
  | zero =>
    intro init x _
    refine ⟨rfl, ?_⟩
    intro m y hmy r
    simp only [List.take_zero, allIdx, runLoop, List.mem_singleton, Prod.mk.injEq] at hmy
    obtain ⟨rfl, rfl⟩ := hmy
    rfl
  | succ j ih =>
    intro init x hr
    obtain ⟨n, tl, hx⟩ := List.exists_cons_of_length_pos (Nat.lt_of_lt_of_le (Nat.succ_pos j) hr)
    have htl : j ≤ tl.length := by rw [hx] at hr; simpa using hr
    have hidx : allIdx (x.shape.take (j + 1))
        = (List.range n).flatMap (fun i => (allIdx (tl.take j)).map (fun r => i :: r)) := by
      simp [hx, allIdx]
    obtain ⟨r1, r2⟩ := runLoop_rows (fun c m => body c (x.sliceAt m)) (allIdx (tl.take j)) init n
    have hsl : ∀ i, (x.slice0 i).shape = tl := by intro i; simp [Arr.slice0, hx]
    -- row `i` of the loop nest is the nest over `x[i]` (`ih`) from the outer scan's carry before `i`
    have hcar : ∀ i, rowCarry (fun c m => body c (x.sliceAt m)) (allIdx (tl.take j)) init i
        = carryAt (scanAx body j) init (fun i => x.slice0 i) i := by
      intro i
      induction i with
      | zero => rfl
      | succ i ihi =>
        simp only [rowCarry, carryAt, ihi]
        rw [(ih _ (x.slice0 i) (by rw [hsl]; exact htl)).1, hsl]
        simp only [sliceAt_slice0]
    rw [hidx]
    refine ⟨?_, ?_⟩
    · rw [r1, hcar]; simp [scanAx, scan1, hx]
    · intro m y hmy r
      obtain ⟨i, m', hi, h1, h2⟩ := r2 (m, y) hmy
      simp only at h1 h2
      subst h1
      rw [hcar] at h2
      exact (ih _ (x.slice0 i) (by rw [hsl]; exact htl)).2 m' y (by
        rw [hsl]; simp only [sliceAt_slice0]; exact h2) r

/-- the shape of the body's output is taken at the first slice (JAX obtains it by tracing) -/
theorem scanAx_shape {α β γ : Type} (body : γ → Arr α → γ × Arr β) :
    ∀ (j : Nat) (init : γ) (x : Arr α), j ≤ x.shape.length →
      (scanAx body j init x).2.shape
        = x.shape.take j ++ (body init (x.sliceAt (List.replicate j 0))).2.shape := by
  intro j
  induction j with
  | zero => intro init x _; rfl
  | succ j ih =>
    intro init x hr
    obtain ⟨n, tl, hx⟩ := List.exists_cons_of_length_pos (Nat.lt_of_lt_of_le (Nat.succ_pos j) hr)
    have hsl : (x.slice0 0).shape = tl := by simp [Arr.slice0, hx]
    have htl : j ≤ tl.length := by rw [hx] at hr; simpa using hr
    have := ih init (x.slice0 0) (by rw [hsl]; exact htl)
    simp only [scanAx, scan1, hx, List.headD_cons]
    rw [this, hsl, sliceAt_slice0]
    simp [List.replicate_succ]

theorem scan1_congr {α β γ : Type} (B1 B2 : γ → Arr α → γ × Arr β) (init : γ) (x : Arr α)
    (h : ∀ c i, B1 c (x.slice0 i) = B2 c (x.slice0 i)) : scan1 B1 init x = scan1 B2 init x := by
  have hc : ∀ i, carryAt B1 init (fun i => x.slice0 i) i = carryAt B2 init (fun i => x.slice0 i) i := by
    intro i
    induction i with
    | zero => rfl
    | succ i ih => simp only [carryAt, ih, h]
  simp only [scan1, hc, h]

theorem scanAx_congr {α β γ : Type} (B1 B2 : γ → Arr α → γ × Arr β) :
    ∀ (j : Nat) (init : γ) (x : Arr α), j ≤ x.shape.length →
      (∀ c s, s.shape.length + j = x.shape.length → B1 c s = B2 c s) →
      scanAx B1 j init x = scanAx B2 j init x := by
  intro j
  induction j with
  | zero => intro init x _ h; exact h init x rfl
  | succ j ih =>
    intro init x hr h
    apply scan1_congr
    intro c i
    have hl : (x.slice0 i).shape.length + 1 = x.shape.length := by
      simp only [Arr.slice0, List.length_tail]; omega
    exact ih c (x.slice0 i) (by omega) (fun c' s hs => h c' s (by omega))

/-- `_scan_nd` is called with `n = len(axis)`: the scan runs over exactly the axes moved to the front -/
theorem scanInDim_false {α β γ : Type} (body : γ → Arr α → γ × Arr β) (init : γ) (xs : Arr α)
    (axis : List Nat) (hne : axis ≠ []) :
    scanInDim body init xs axis false
      = ((scanAx body axis.length init (transposeIn axis xs)).1,
         transposeOut axis (scanAx body axis.length init (transposeIn axis xs)).2) := by
  cases axis with
  | nil => exact absurd rfl hne
  | cons a t => simp only [scanInDim, List.length_cons, Nat.add_sub_cancel, scanNd_eq_scanAx]; rfl

/-- `keepdims=True` is `keepdims=False` for the body that re-inserts the scanned axes with extent 1
in front of the call and removes them from its output -/
theorem scanInDim_true {α β γ : Type} (body : γ → Arr α → γ × Arr β) (init : γ) (xs : Arr α) (axis : List Nat) :
    scanInDim body init xs axis true
      = scanInDim (fun c s => ((body c (transposeOut axis (s.addLeadingOnes axis.length))).1,
          (transposeIn axis (body c (transposeOut axis (s.addLeadingOnes axis.length))).2).dropLeading axis.length))
          init xs axis false := rfl

theorem normAxis_ofNat (n a : Nat) : normAxis n (Int.ofNat a) = a := by
  have h : ¬ (Int.ofNat a < 0) := by simp
  simp only [normAxis, h, if_false]
  rfl

theorem invertLoopI_eq : ∀ (perm : List Int) (i : Nat) (inv : List Nat),
    invertLoopI perm i inv = invertLoop (perm.map (normAxis inv.length)) i inv := by
  intro perm
  induction perm with
  | nil => intro i inv; rfl
  | cons j rest ih =>
    intro i inv
    simp only [invertLoopI, List.map_cons, invertLoop]
    rw [ih]; simp

theorem invertPermI_eq (perm : List Int) :
    invertPermI perm = invertPerm (perm.map (normAxis perm.length)) := by
  simp [invertPermI, invertPerm, invertLoopI_eq]

theorem scanPermI_norm (axis : List Int) (n : Nat) :
    (scanPermI axis n).map (normAxis n) = scanPerm (axis.map (normAxis n)) n := by
  simp only [scanPermI, scanPerm, List.map_append, List.map_map]
  congr 1
  have : (normAxis n ∘ Int.ofNat) = id := by funext a; exact normAxis_ofNat n a
  rw [this]; simp

theorem scanPermI_length (axis : List Int) (n : Nat) :
    (scanPermI axis n).length = (scanPerm (axis.map (normAxis n)) n).length := by
  rw [← scanPermI_norm, List.length_map]

theorem transposeInI_eq {α : Type} (axis : List Int) (x : Arr α) :
    transposeInI axis x = transposeIn (axis.map (normAxis x.shape.length)) x := by
  simp only [transposeInI, Arr.transposeI, transposeIn, scanPermI_norm]

theorem transposeOutI_eq {α : Type} (axis : List Int) (x : Arr α) (n : Nat) (hn : x.shape.length = n)
    (h : ValidAxes (axis.map (normAxis n)) n) :
    transposeOutI axis x = transposeOut (axis.map (normAxis n)) x := by
  subst hn
  simp only [transposeOutI, transposeOut, invertPermI_eq]
  rw [scanPermI_length, scanPerm_length _ _ h, scanPermI_norm]

theorem scanInDimI_false {α β γ : Type} (body : γ → Arr α → γ × Arr β) (init : γ) (xs : Arr α)
    (axis : List Int) (hne : axis ≠ []) :
    scanInDimI body init xs axis false
      = ((scanAx body axis.length init (transposeInI axis xs)).1,
         transposeOutI axis (scanAx body axis.length init (transposeInI axis xs)).2) := by
  cases axis with
  | nil => exact absurd rfl hne
  | cons a t => simp only [scanInDimI, List.length_cons, Nat.add_sub_cancel, scanNd_eq_scanAx]; rfl

theorem scanInDimI_true {α β γ : Type} (body : γ → Arr α → γ × Arr β) (init : γ) (xs : Arr α) (axis : List Int) :
    scanInDimI body init xs axis true
      = scanInDimI (fun c s => ((body c (transposeOutI axis (s.addLeadingOnes axis.length))).1,
          (transposeInI axis (body c (transposeOutI axis (s.addLeadingOnes axis.length))).2).dropLeading axis.length))
          init xs axis false := rfl

/-- `hrank`: `transpose_out` normalises against the rank of the stacked result -/
theorem scanAx_negative_axes {α β γ : Type} (B1 B2 : γ → Arr α → γ × Arr β) (init : γ) (xs : Arr α)
    (axis : List Int) (A : List Nat) (hA : axis.map (normAxis xs.shape.length) = A) (j : Nat)
    (hv : ValidAxes A xs.shape.length) (hj : j ≤ xs.shape.length)
    (hB : ∀ c s, s.shape.length + j = xs.shape.length → B1 c s = B2 c s)
    (hrank : j + (B2 init ((transposeIn A xs).sliceAt (List.replicate j 0))).2.shape.length = xs.shape.length) :
    ((scanAx B1 j init (transposeInI axis xs)).1, transposeOutI axis (scanAx B1 j init (transposeInI axis xs)).2)
      = ((scanAx B2 j init (transposeIn A xs)).1, transposeOut A (scanAx B2 j init (transposeIn A xs)).2) := by
  subst hA
  have hrI := transposeIn_rank _ xs hv
  have hrk : (scanAx B2 j init (transposeIn (axis.map (normAxis xs.shape.length)) xs)).2.shape.length
      = xs.shape.length := by
    rw [scanAx_shape B2 j init _ (by rw [hrI]; exact hj), List.length_append, List.length_take,
      Nat.min_eq_left (by rw [hrI]; exact hj)]
    exact hrank
  rw [transposeInI_eq, scanAx_congr B1 B2 j init _ (by rw [hrI]; exact hj) (by rw [hrI]; exact hB),
    transposeOutI_eq axis _ xs.shape.length hrk hv]

end Flax.HostData
