/- C08 proofs: `nnx.scan` — after the loop: `_scan_merge_out` writes back, per Variable, the stack by index / the final
carry / the original broadcast value -/
import Flax.Proofs.NnxLoopScanCollect
import Flax.Proofs.NnxLoopScanIter

namespace Flax.NnxLoop
open Flax.Filter Flax.LiftLoop

section fin
variable {α : Type} [Inhabited α]

theorem parts_rows_skip {x : SPure α} {r : List (SPure α)} (hx : ∀ st : Store α, scanSplitArgOut st x = .ok none) :
    ∀ {sts : List (Store α)} {partsRows : List (List (Option (List (State α) × List (State α))))},
    mapX (fun st => mapX (scanSplitArgOut st) (x :: r)) sts = .ok partsRows →
    ∃ rows', mapX (fun st => mapX (scanSplitArgOut st) r) sts = .ok rows' ∧
      partsRows.map (fun parts => (parts.filterMap id).map (·.1)) =
        rows'.map (fun parts => (parts.filterMap id).map (·.1)) := by
  intro sts pr h
  obtain ⟨_, rows', _, e2, _, rfl⟩ := rows_cons h
  refine ⟨_, e2, ?_⟩
  rw [List.map_map]
  refine List.map_congr_left fun row hr => ?_
  obtain ⟨st, _, hst⟩ := mapX_ok_mem_rev h row hr
  obtain ⟨y, ys, hy, _, rfl⟩ := mapX_cons_ok hst
  cases (hx st).symm.trans hy
  rfl

theorem parts_rows_node {g : GraphDef} {p : Prefix} {vec0 : List (State α)} {r : List (SPure α)} :
    ∀ {sts : List (Store α)} {partsRows : List (List (Option (List (State α) × List (State α))))},
    mapX (fun st => mapX (scanSplitArgOut st) (.node g p vec0 :: r)) sts = .ok partsRows →
    ∃ flats rowsSts rows', mapX (flatOf g.owned) sts = .ok flats ∧
      mapX (splitFlat p) flats = .ok rowsSts ∧
      mapX (fun st => mapX (scanSplitArgOut st) r) sts = .ok rows' ∧
      column 0 (partsRows.map (fun parts => (parts.filterMap id).map (·.1))) = .ok (rowsSts.map (vecStates p.axes)) ∧
      (partsRows.map (fun parts => (parts.filterMap id).map (·.1))).map (·.drop 1) =
        rows'.map (fun parts => (parts.filterMap id).map (·.1)) := by
  intro sts
  induction sts with
  | nil =>
    intro pr h; simp [mapX] at h; subst h
    exact ⟨[], [], [], rfl, rfl, rfl, rfl, rfl⟩
  | cons st sts ih =>
    intro pr h
    obtain ⟨y, ys, hy, hys, rfl⟩ := mapX_cons_ok h
    obtain ⟨h0, ht, hh, hr, rfl⟩ := mapX_cons_ok hy
    obtain ⟨flat, stsI, hfl, hsp, rfl⟩ := scanSplitArgOut_node_ok hh
    obtain ⟨flats, rowsSts, rows', e1, e2, e4, e5, e6⟩ := ih hys
    refine ⟨flat :: flats, stsI :: rowsSts, ht :: rows', mapX_cons_of_ok hfl e1,
      mapX_cons_of_ok hsp e2, mapX_cons_of_ok hr e4, ?_, ?_⟩
    · simp only [column, List.map_cons, List.filterMap_cons, id] at e5 ⊢
      exact mapX_cons_of_ok (by simp [pickX]) e5
    · simp only [List.map_cons, List.filterMap_cons, id, List.drop_succ_cons, List.drop_zero]
      rw [← e6]

theorem scanFinalEntry_lookup {p : Prefix} {owned : List Entry} (hndO : (owned.map (·.path)).Nodup)
    {store0 fin : Store α} {recs : List (Store α)} {n0 : Flat α} {frest : List (Flat α)}
    (hflats : mapX (flatOf owned) recs = .ok (n0 :: frest)) {flatF flatS : Flat α}
    (hflF : flatOf owned fin = .ok flatF) (hflS : flatOf owned store0 = .ok flatS) {sts : List (State α)}
    (hlk : ∀ x ∈ n0, ∃ a v, axAt p x.1 x.2.1 = some a ∧ ScanEnds (n0 :: frest) flatF flatS a x v ∧
      sts.flatten.lookup x.1 = some v) :
    ∀ e ∈ owned, ∃ v, scanFinalEntry store0 fin recs (e, p) = .ok (e.id, v) ∧
      sts.flatten.lookup e.path = some v := by
  obtain ⟨_, _, hn0⟩ := mapX_ok_mem_rev hflats n0 List.mem_cons_self
  have hndF : (flatF.map (·.1)).Nodup := by rw [flatOf_paths hflF]; exact hndO
  have hndS : (flatS.map (·.1)).Nodup := by rw [flatOf_paths hflS]; exact hndO
  intro e he
  obtain ⟨v0, _, hm⟩ := (flatOf_ok_mem hn0).1 e he
  obtain ⟨a, v, ha, hcase, hl⟩ := hlk _ hm
  have hat : p.at e = .ok a := (prefix_at_eq_axAt p e a).2 ha
  refine ⟨v, ?_, hl⟩
  cases a with
  | axis k =>
    obtain ⟨vs, hvs, hv⟩ := hcase
    have hvals : mapX (fun (st : Store α) => st.getX e.id) recs = .ok vs := by
      rw [valAt_flats_eq_getX hndO he hflats]; exact hvs
    simp only [scanFinalEntry, hat, bindX, hvals, hv]
  | carry =>
    obtain ⟨vF, hvF, hmF⟩ := (flatOf_ok_mem hflF).1 e he
    cases (valAt_of_mem hndF hmF).symm.trans hcase
    simp only [scanFinalEntry, hat, bindX, Store.getX, hvF]
  | bcast =>
    obtain ⟨vS, hvS, hmS⟩ := (flatOf_ok_mem hflS).1 e he
    cases (valAt_of_mem hndS hmS).symm.trans hcase
    simp only [scanFinalEntry, hat, bindX, Store.getX, hvS]

/-- `r0 :: rrest` are the values the iterations left (index order), `fin` those of the last processed one, `store0` the
original values: `scanWriteBack` writes `scanFinalEntry` of every Variable.  Induction on `Splits` with `Routes`
inverted; a node: `parts_rows_node`, then `scan_final_lookup`, `scanFinalEntry_lookup`, `updateStore_collected`. -/
theorem scan_write_back {store0 : Store α} {pas : List (Prefix × Arg α)} {np : NodePrefixes} {seen : List VarId}
    {pure : List (PureArg α)} {si : ScanIn α} (hS : Splits store0 pas np seen pure) (hR : Routes pure si)
    (hwf : WFArgs pas) (r0 : Store α) (rrest : List (Store α)) (fin : Store α) :
    ∀ (partsRows : List (List (Option (List (State α) × List (State α)))))
      (partsF : List (Option (List (State α) × List (State α)))),
      mapX (fun st => mapX (scanSplitArgOut st) si.pure) (r0 :: rrest) = .ok partsRows →
      mapX (scanSplitArgOut fin) si.pure = .ok partsF →
      ∀ store store', scanWriteBack (partsRows.map (fun parts => (parts.filterMap id).map (·.1))) si.pure
          ((partsF.filterMap id).map (·.2)) si.bcastDeque store = .ok store' →
      ∃ vals, mapX (scanFinalEntry store0 fin (r0 :: rrest)) (ownedAll pas seen) = .ok vals ∧
        store' = writeAll vals store := by
  induction hS generalizing si with
  | nil =>
    intro partsRows partsF _ _ store store' hwb
    cases hR
    cases hwb
    exact ⟨[], rfl, rfl⟩
  | arr _ ih =>
    intro partsRows partsF hrows hF store store' hwb
    cases hR with
    | @arr _ _ x _ _ s ha hR' =>
    -- whatever the kind of array argument: it contributes nothing to the states
    obtain ⟨rows', e1, e2⟩ := parts_rows_skip ha.splitArgOut hrows
    obtain ⟨yF, ysF, hyF, hysF, rfl⟩ := mapX_cons_ok hF
    rw [ha.splitArgOut fin] at hyF
    cases hyF
    have hsk : ∀ rows cd bd st', scanWriteBack rows (x :: s.pure) cd bd st' = scanWriteBack rows s.pure cd bd st' :=
      fun rows cd bd st' => by cases ha <;> cases cd <;> cases bd <;> rfl
    rw [hsk, e2] at hwb
    exact ih hR' (WFArgs_tail hwf) rows' ysF e1 hysF store store' (by simpa using hwb)
  | @node p es rest np np' seen flatS stsS r _ hflS hspS _ ih =>
    intro partsRows partsF hrows hF store store' hwb
    cases hR with
    | @node _ _ _ vecS carS bcS _ s hrtS hR' =>
    simp only [] at hrows hF hwb
    obtain ⟨flats, rowsSts, rows', e1, e2, e4, e5, e6⟩ := parts_rows_node hrows
    obtain ⟨yF, ysF, hyF, hysF, rfl⟩ := mapX_cons_ok hF
    obtain ⟨flatF, stsF, hflF, hspF, rfl⟩ := scanSplitArgOut_node_ok hyF
    -- `si.bcastDeque` is the broadcast route `_scan_split_in` took of the original values (`moveIn = true`); carry and
    -- broadcast routes do not depend on `moveIn`
    obtain ⟨_, _, he⟩ := routeStates_ok_iff.1 hrtS
    cases he
    simp only [List.filterMap_cons, id, List.map_cons, scanWriteBack, e5, e6] at hwb
    cases hcv : scanCollectVec p.axes (rowsSts.map (vecStates p.axes)) with
    | error e => simp [hcv] at hwb
    | ok V =>
      simp only [hcv] at hwb
      cases hun : unrouteStates p.axes V (kindStates .carry (p.axes.zip stsF)) (kindStates .bcast (p.axes.zip stsS)) with
      | error e => simp [hun] at hwb
      | ok sts =>
        simp only [hun] at hwb
        simp only [GraphDef.owned] at e1 hflF
        obtain ⟨n0, frest, hn0, hfrest, rfl⟩ := mapX_cons_ok e1
        have hndO := hwf.head_owned_nodup (markOwn es seen).1
        obtain ⟨hnd, hkeys⟩ := flats_keys hndO e1
        have hkF : flatF.map (fun x => (x.1, x.2.1)) = n0.map (fun x => (x.1, x.2.1)) := by
          rw [flatOf_infos hflF, flatOf_infos hn0]
        have hkS : flatS.map (fun x => (x.1, x.2.1)) = n0.map (fun x => (x.1, x.2.1)) := by
          rw [flatOf_infos hflS, flatOf_infos hn0]
        have hlk := scan_final_lookup hnd hkeys hkF hkS e2 hspF hspS hcv hun
        have hown := scanFinalEntry_lookup (p := p) hndO e1 hflF hflS hlk
        obtain ⟨vals1, hv1', hus⟩ := updateStore_collected (F := scanFinalEntry store0 fin (r0 :: rrest))
          (ownedOf es (markOwn es seen).1) store hown
        simp only [GraphDef.owned, hus] at hwb
        obtain ⟨vals, hv1, hv2⟩ := ih hR' (WFArgs_tail hwf) rows' ysF e4 hysF _ store' hwb
        exact ⟨vals1 ++ vals, mapX_append_of_ok hv1' hv1, by rw [writeAll_append, hv2]⟩

end fin

end Flax.NnxLoop
