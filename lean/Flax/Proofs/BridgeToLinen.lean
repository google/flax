/-
ToLinen for C18: a Linen caller of the wrapper simulates plain NNX use of the wrapped module over call
histories.
-/
import Flax.Proofs.BridgeRef

namespace Flax.Bridge
variable {α ι ο γ : Type}

theorem sameTypes_some (S S' : Forest (NVar α))
    (h : ∀ q, (leafAtF S' q).map (·.vtype) = (leafAtF S q).map (·.vtype)) (q : Path) (v' : NVar α)
    (hv' : leafAtF S' q = some v') : ∃ v, leafAtF S q = some v ∧ v.vtype = v'.vtype := by
  have := h q
  rw [hv'] at this
  cases hs : leafAtF S q with
  | none => rw [hs] at this; simp at this
  | some v => rw [hs] at this; simp at this; exact ⟨v, rfl, this.symm⟩

theorem expose_filter (r : Reg) (m : String → Bool) (L : Path → Option (NVar α)) (p : Path) :
    expose r (fun q => (L q).filter (mutableVar r m)) p = (expose r L p).filter fun _ => m (p.headD "") := by
  cases p with
  | nil => rfl
  | cons c q =>
    simp only [expose, List.headD_cons]
    cases hl : L q with
    | none => rfl
    | some v =>
      by_cases hc : r.nameOf v.vtype = some c
      · cases hm : m c <;> simp [Option.filter, mutableVar, hc, hm] <;> cases (toLinenVar v).toOption <;> rfl
      · cases hm : mutableVar r m v <;> simp [Option.filter, hc, hm]

theorem keepMutable_spec (r : Reg) (isMutable : String → Bool) (S S' : Forest (NVar α)) (hw : WFF S) (hw' : WFF S')
    (hsame : ∀ q, (leafAtF S' q).map (·.vtype) = (leafAtF S q).map (·.vtype)) :
    ∃ F S2, keepMutable r isMutable S S' = .ok S2 ∧ WFF S2 ∧
      (∀ q, leafAtF F q = (leafAtF S' q).filter (mutableVar r isMutable)) ∧
      ∀ q, leafAtF S2 q = (leafAtF F q).or (leafAtF S q) := by
  obtain ⟨F, hF, hFleaf, hFw, _⟩ := unflatten_rep
    ((flattenF_rep S' hw').filter fun pv => mutableVar r isMutable pv.2)
    ((treeLike_leafAtF S').sub fun q h hn => h (by rw [hn]; rfl))
  obtain ⟨S2, hS2, hleaf2, hw2, _⟩ := recursiveMerge_spec S F hw hFw (compat_of_sub S F fun q h hn => by
    have := hsame q
    rw [hn] at this
    rw [hFleaf] at h
    cases hs : leafAtF S' q with
    | none => rw [hs] at h; exact h rfl
    | some v => rw [hs] at this; cases this)
  exact ⟨F, S2, by simp only [keepMutable, hF, bind, Except.bind]; exact hS2, hw2, hFleaf, hleaf2⟩

theorem toLinenApply_ok (m : NnxMod α ι ο γ) (r : Reg) (path : Path) (lv : LinenVars α γ) (rngs : Keys)
    (isMutable : String → Bool) (x : ι) (o : ο) (r2 : Reg) (g? : Option γ) (upd : Forest (LBox α)) :
    toLinenApply m r path lv rngs isMutable x = .ok (o, r2, g?, upd) ↔
      ∃ g r1 S g' S', lv.gdef = some g ∧ decodeVars r lv.vars = .ok (r1, S) ∧
        m.call g (m.reseed S (linenRngsDict path rngs)) x = .ok (o, g', S') ∧
        encodeState r1 isMutable S' = .ok (r2, upd) ∧ g? = (if isMutable "nnx" then some g' else none) := by
  constructor
  · intro h
    dsimp only [toLinenApply] at h
    cases hg : lv.gdef with
    | none => rw [hg] at h; cases h
    | some g =>
      simp only [hg, bind_ok] at h
      obtain ⟨g1, hg1, ⟨r1, S⟩, hdec, ⟨o1, g', S'⟩, hcall, ⟨r2', upd'⟩, henc, h⟩ := h
      cases hg1
      simp only [pure, Except.pure, Except.ok.injEq, Prod.mk.injEq] at h
      obtain ⟨rfl, rfl, rfl, rfl⟩ := h
      exact ⟨g, r1, S, g', S', rfl, hdec, hcall, henc, rfl⟩
  · rintro ⟨g, r1, S, g', S', hg, hdec, hcall, henc, rfl⟩
    simp only [toLinenApply, hg, hdec, hcall, henc, bind, Except.bind, pure, Except.pure]

/-- **one `apply` + fold of the Linen caller against one call of the NNX user** -/
theorem lstep_sim (m : NnxMod α ι ο γ) (hm : NModOk m) (r : Reg) (scopePath : Path) (lv : LinenVars α γ)
    (u : NnxUser α γ) (hsim : LSim r lv u) (rngs : Keys) (isMutable : String → Bool) (x : ι) (o : ο)
    (u' : NnxUser α γ) (h : u.step m r scopePath rngs isMutable x = .ok (o, u')) :
    ∃ lv', lv.step m r scopePath rngs isMutable x = .ok (o, r, lv') ∧ LSim r lv' u' := by
  have hS := hsim.attrs
  obtain ⟨S0, hdec, hw0, hequiv⟩ :=
    decode_of_exposes r hsim.inj hsim.bounded lv.vars u.state hS hsim.nonnx hsim.exposes
  simp only [NnxUser.step, bind_ok] at h
  obtain ⟨⟨o1, g', S'⟩, hcall, S2, hkeep, h⟩ := h
  simp only [pure, Except.pure, Except.ok.injEq, Prod.mk.injEq] at h
  obtain ⟨rfl, rfl⟩ := h
  -- the wrapper calls the module on the rebuilt state `S0`, the user on his own: same Variables
  obtain ⟨T0, hcall0, hT⟩ := hm.ext u.gdef S0 u.state _ x hw0 hS.wf hequiv o1 g' S' hcall
  -- `shape` for the run on `S0` (encoded) and the user's own (kept)
  obtain ⟨hT0, _⟩ := hm.shape r u.gdef S0 _ x o1 g' T0 (hS.of_equiv hw0 hequiv) hcall0
  obtain ⟨hS', hsame⟩ := hm.shape r u.gdef u.state _ x o1 g' S' hS hcall
  obtain ⟨upd, hupd, hwupd, _, hleafupd⟩ := encodeState_spec r isMutable T0 hT0.wf hT0.leaves
  -- the user keeps `S2`, his state overlaid with the mutable part `F` of the new state
  obtain ⟨F, S2', hkeep', hw2, hF, hleaf2⟩ := keepMutable_spec r isMutable u.state S' hS.wf hS'.wf hsame
  rw [hkeep] at hkeep'; cases hkeep'
  have hFS : ∀ q f, leafAtF F q = some f → leafAtF S' q = some f ∧
      ∃ v, leafAtF u.state q = some v ∧ v.vtype = f.vtype := by
    intro q f hf
    rw [hF, Option.filter_eq_some_iff] at hf
    exact ⟨hf.1, sameTypes_some u.state S' hsame q f hf.1⟩
  -- `_update_variables` wrote what exposes `F`, so the caller's fold is the exposure of the overlay `S2`,
  -- which is also why the fold succeeds
  have hover : ∀ p, (leafAtF upd p).or (leafAtF lv.vars p) = expose r (leafAtF S2) p := by
    intro p
    rw [hleafupd, expose_congr r hT, ← expose_filter, ← expose_congr r hF,
      ((exposes_iff r lv.vars u.state).mp hsim.exposes).2.2, expose_congr r hleaf2]
    refine (expose_or r (leafAtF F) (leafAtF u.state) (fun q f hf => ?_) (fun q f v hf hv => ?_) p).symm
    · obtain ⟨_, y, _, hy⟩ := hS'.leaves q f (hFS q f hf).1
      exact ⟨y, hy⟩
    · obtain ⟨_, w, hw, ht⟩ := hFS q f hf
      rw [hv] at hw; cases hw; rw [ht]
  obtain ⟨V2, hV2, hleafV2, hwV2, hnV2⟩ := recursiveMerge_rep lv.vars upd hsim.exposes.wf hwupd
    (treeLike_expose r (treeLike_leafAtF S2)) hover
  refine ⟨⟨if isMutable "nnx" then some g' else lv.gdef, V2⟩, ?_, ?_⟩
  · simp only [LinenVars.step, (toLinenApply_ok ..).mpr ⟨_, _, _, _, _, hsim.gdef, hdec, hcall0, hupd, rfl⟩, hV2,
      bind, Except.bind, pure, Except.pure]
    by_cases hnn : isMutable "nnx" = true <;> simp [hnn]
  · have hfrom : ∀ q v, leafAtF S2 q = some v →
        (leafAtF S' q = some v ∧ ∃ w, leafAtF u.state q = some w ∧ w.vtype = v.vtype) ∨
          leafAtF u.state q = some v := by
      intro q v hl
      rw [hleaf2 q, Option.or_eq_some_iff] at hl
      exact hl.imp (hFS q v) (·.2)
    refine ⟨hsim.inj, hsim.bounded, ?_, hS'.of_or hS hw2 fun q v hl => (hfrom q v hl).imp (·.1) id, ?_,
      (exposes_iff r V2 S2).mpr ⟨hwV2, hnV2, hleafV2⟩⟩
    · by_cases hnn : isMutable "nnx" = true <;> simp [hnn, hsim.gdef]
    · intro q v hl
      rcases hfrom q v hl with ⟨_, w, hw, ht⟩ | hl'
      · rw [← ht]; exact hsim.nonnx q w hw
      · exact hsim.nonnx q v hl'

theorem lrun_sim (m : NnxMod α ι ο γ) (hm : NModOk m) (r : Reg) (scopePath : Path) :
    ∀ (hist : List (LCall ι)) (lv : LinenVars α γ) (u : NnxUser α γ), LSim r lv u →
    ∀ outs u', runNnxUser m r scopePath u hist = .ok (outs, u') →
    ∃ lv', runLinenCaller m r scopePath lv hist = .ok (outs, lv') ∧ LSim r lv' u' := by
  intro hist
  induction hist with
  | nil =>
    intro lv u hsim outs u' h
    simp only [runNnxUser, Except.ok.injEq, Prod.mk.injEq] at h
    obtain ⟨rfl, rfl⟩ := h
    exact ⟨lv, rfl, hsim⟩
  | cons hd rest ih =>
    intro lv u hsim outs u' h
    obtain ⟨rngs, mu, x⟩ := hd
    simp only [runNnxUser, bind_ok, pure, Except.pure, Except.ok.injEq, Prod.mk.injEq] at h
    obtain ⟨⟨o, u1⟩, hstep, ⟨os, u2⟩, hrest, rfl, rfl⟩ := h
    obtain ⟨lv1, hlv1, hsim1⟩ := lstep_sim m hm r scopePath lv u hsim rngs mu x o u1 hstep
    obtain ⟨lv2, hlv2, hsim2⟩ := ih lv1 u1 hsim1 os u2 hrest
    exact ⟨lv2, by simp only [runLinenCaller, hlv1, hlv2, bind, Except.bind, pure, Except.pure], hsim2⟩

theorem linit_sim (m : NnxMod α ι ο γ) (r : Reg) (hi : r.Inj) (hb : r.Bounded) (scopePath : Path) (rngs : Keys)
    (x : ι) (g : γ) (S : Forest (NVar α)) (hc : m.construct (linenRngsDict scopePath rngs) = .ok (g, S))
    (hS : AttrsOk r S) (hnn : NoNnx r S) (o : ο) (g' : γ) (S' : Forest (NVar α))
    (hcall : m.call g S x = .ok (o, g', S')) :
    ∃ lv, toLinenInit m r scopePath rngs x = .ok (o, r, lv) ∧ LSim r lv ⟨g, S⟩ := by
  obtain ⟨V, hV, hE⟩ := encodeState_exposes r S hS
  exact ⟨⟨some g, V⟩, by simp only [toLinenInit, hc, hV, hcall, bind, Except.bind, pure, Except.pure],
    hi, hb, rfl, hS, hnn, hE⟩

end Flax.Bridge
