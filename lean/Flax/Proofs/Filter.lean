/- What each function of `Flax.Model.Filter` does, in terms of membership and `List` operations; first the notions the C14
statements are written in. -/
import Flax.Model.Filter
import Flax.Proofs.ListLemmas

namespace Flax.C14
open Flax.Filter Flax.Filter.LFilter

/-- does the filter mention the name `c` anywhere -/
def mentions : LFilter → String → Bool
  | tt, _ => false
  | ff, _ => false
  | name s, c => decide (c = s)
  | names xs, c => decide (c ∈ xs)
  | deny f, c => mentions f c

/-- a collection name outside any finite list of names: there are infinitely many strings -/
def fresh (xs : List String) : String :=
  String.ofList (List.replicate ((xs.map String.length).sum + 1) 'a')

/-- index of the first filter matching `c`, if any -/
def firstIdx : List LFilter → String → Option Nat
  | [], _ => none
  | f :: fs, c => if inFilter f c then some 0 else (firstIdx fs c).map (· + 1)

mutual
  /-- the predicate combination a literal filter stands for, written down directly (independent of
  `toPredicate`): a `str` is a tag test, a class an instance test, `True`/`...` everything, `False`/`None`
  nothing, a list/tuple/`Any` a disjunction, `All` a conjunction, `Not` a negation -/
  def sdenote : SFilter → Path → VarInfo → Bool
    | .str s, _, x => decide (x.tag = some s)
    | .type t, _, x => decide (t ∈ x.types)
    | .bool b, _, _ => b
    | .ellipsis, _, _ => true
    | .none_, _, _ => false
    | .seq fs, p, x => sdenoteAny fs p x
    | .any fs, p, x => sdenoteAny fs p x
    | .allOf fs, p, x => sdenoteAll fs p x
    | .not f, p, x => !(sdenote f p x)
    | .pred f, p, x => denote f p x
  def sdenoteAny : List SFilter → Path → VarInfo → Bool
    | [], _, _ => false
    | f :: fs, p, x => sdenote f p x || sdenoteAny fs p x
  def sdenoteAll : List SFilter → Path → VarInfo → Bool
    | [], _, _ => true
    | f :: fs, p, x => sdenote f p x && sdenoteAll fs p x
end

end Flax.C14

namespace Flax.Filter
open LFilter
open Flax.C14 (mentions fresh firstIdx sdenote sdenoteAny sdenoteAll)

theorem inFilter_eq_mem_toSetD {f : LFilter} (ht : f = tt → False) (hd : ∀ d, f = deny d → False)
    (c : String) : inFilter f c = decide (c ∈ toSetD f) := by
  cases f with
  | tt => exact absurd rfl ht
  | deny d => exact absurd rfl (hd d)
  | ff => simp [inFilter, toSetD, toSet]
  | name s => simp [inFilter, toSetD, toSet]
  | names xs => rfl

/-- The three functions call each other through `DenyList`, so the statements are proved together
along the functions' own recursion: cases 1–6 are the arms of `union` in the order written, 7–12
those of `subtract`, 13–18 those of `intersect`. -/
theorem inFilter_setOps :
    (∀ a b : LFilter, ∀ c : String, inFilter (union a b) c = (inFilter a c || inFilter b c)) ∧
    (∀ a b : LFilter, ∀ c : String, inFilter (subtract a b) c = (inFilter a c && !(inFilter b c))) ∧
    (∀ a b : LFilter, ∀ c : String, inFilter (intersect a b) c = (inFilter a c && inFilter b c)) := by
  apply union.mutual_induct
  case case1 => intro b c; rw [union.eq_1]; simp only [inFilter, Bool.true_or]
  case case2 => intro a ha c; rw [union.eq_2 a ha]; simp only [inFilter, Bool.or_true]
  case case3 => intro da db ih c; rw [union.eq_3]; simp only [inFilter, ih, Bool.not_and]
  case case4 =>
    intro da b hb hb' ih c
    rw [union.eq_4 b da hb hb']; simp only [inFilter, ih, Bool.not_and, Bool.not_not]
  case case5 =>
    intro a db ha ha' ih c
    rw [union.eq_5 a db ha ha']; simp only [inFilter, ih, Bool.not_and, Bool.not_not, Bool.or_comm]
  case case6 =>
    intro a b ha hb hab ha' hb' c
    rw [union.eq_6 a b ha ha' hb hb' hab]
    simp only [inFilter, inFilter_eq_mem_toSetD ha ha', inFilter_eq_mem_toSetD hb hb',
      List.mem_append, List.mem_filter, Bool.decide_or, Bool.decide_and, Bool.not_eq_eq_eq_not,
      Bool.not_true, decide_eq_false_iff_not, decide_not]
    -- the names of `b` already in `a` are dropped, which changes nothing
    cases decide (c ∈ toSetD a) <;> simp
  case case7 => intro a c; rw [subtract.eq_1]; simp only [inFilter, Bool.not_true, Bool.and_false]
  case case8 => intro b hb c; rw [subtract.eq_2 b hb]; simp only [inFilter, Bool.true_and]
  case case9 =>
    intro da db ih c
    rw [subtract.eq_3]; simp only [inFilter, ih, Bool.not_not, Bool.and_comm]
  case case10 =>
    intro da b hb hb' ih c
    rw [subtract.eq_4 b da hb hb']; simp only [inFilter, ih, Bool.not_or]
  case case11 =>
    intro a db ha ha' ih c
    rw [subtract.eq_5 a db ha ha']; simp only [inFilter, ih, Bool.not_not]
  case case12 =>
    intro a b hb ha hab ha' hb' c
    rw [subtract.eq_6 a b ha ha' hb hb' hab]
    simp only [inFilter, inFilter_eq_mem_toSetD ha ha', inFilter_eq_mem_toSetD hb hb',
      List.mem_filter, Bool.decide_and, Bool.not_eq_eq_eq_not, Bool.not_true,
      decide_eq_false_iff_not, decide_not]
  case case13 => intro b c; rw [intersect.eq_1]; simp only [inFilter, Bool.true_and]
  case case14 => intro a ha c; rw [intersect.eq_2 a ha]; simp only [inFilter, Bool.and_true]
  case case15 =>
    intro da db ih c
    rw [intersect.eq_3]; simp only [inFilter, ih, Bool.not_or, Bool.and_comm]
  case case16 =>
    intro da b hb hb' ih c
    rw [intersect.eq_4 b da hb hb']; simp only [inFilter, ih, Bool.and_comm]
  case case17 => intro a db ha ha' ih c; rw [intersect.eq_5 a db ha ha']; simp only [inFilter, ih]
  case case18 =>
    intro a b ha hb hab ha' hb' c
    rw [intersect.eq_6 a b ha ha' hb hb' hab]
    simp only [inFilter, inFilter_eq_mem_toSetD ha ha', inFilter_eq_mem_toSetD hb hb',
      List.mem_filter, Bool.decide_and, decide_eq_true_eq]

theorem inFilter_foldl_union (c : String) (fs : List LFilter) : ∀ a : LFilter,
    inFilter (fs.foldl union a) c = (inFilter a c || fs.any (inFilter · c)) := by
  induction fs with
  | nil => intro a; simp
  | cons f fs ih => intro a; simp only [List.foldl_cons, ih, inFilter_setOps.1, List.any_cons, Bool.or_assoc]

theorem isFilterEmptyOrig_eq_of_depth_le_one {f : LFilter} (hd : depth f ≤ 1) :
    isFilterEmptyOrig f = isFilterEmpty f := by
  cases f with
  | deny e =>
    cases e with
    | deny _ => simp only [depth] at hd; omega
    | _ => rfl
  | _ => rfl

theorem le_sum_of_mem (l : List Nat) : ∀ n ∈ l, n ≤ l.sum := by
  induction l with
  | nil => intro n hn; cases hn
  | cons m l ih =>
    intro n hn
    rw [List.sum_cons]
    rcases List.mem_cons.mp hn with rfl | hn
    · omega
    · have := ih n hn; omega

theorem not_mem_fresh (xs : List String) : fresh xs ∉ xs := by
  intro h
  have h1 := le_sum_of_mem _ _ (List.mem_map_of_mem (f := String.length) h)
  simp [fresh] at h1
  omega

/-- inside a `DenyList`, `is_filter_empty` asks the opposite question (does the inner filter match
everything?), so the two are answered together; on a plain form the second is put to the probe name. -/
theorem isFilterEmpty_iff (f : LFilter) (h : mentions f stub = false) :
    (isFilterEmpty f = true ↔ ∀ c, inFilter f c = false) ∧
    (isFilterEmpty (deny f) = true ↔ ∀ c, inFilter f c = true) := by
  induction f with
  | tt => simp [isFilterEmpty, inFilter]
  | ff => simp [isFilterEmpty, inFilter]
  | name s =>
    have h : ¬ stub = s := by simpa [mentions] using h
    simp only [isFilterEmpty, inFilter, decide_eq_false_iff_not, decide_eq_true_eq, Bool.false_eq_true,
      false_iff]
    exact ⟨fun hc => hc s rfl, fun hs => absurd hs h, fun hc => hc stub⟩
  | names xs =>
    have h : ¬ stub ∈ xs := by simpa [mentions] using h
    simp only [isFilterEmpty, inFilter, decide_eq_false_iff_not, decide_eq_true_eq, List.isEmpty_iff]
    exact ⟨List.eq_nil_iff_forall_not_mem, fun hs => absurd hs h,
      fun hc => absurd (hc (fresh xs)) (not_mem_fresh xs)⟩
  | deny e ih =>
    have ih := ih (by simpa [mentions] using h)
    simp only [inFilter, Bool.not_eq_eq_eq_not, Bool.not_true, Bool.not_false]
    exact ⟨ih.2, ih.1⟩

theorem groupCollections_getD (fs : List LFilter) : ∀ (cols : List String) (i : Nat),
    (groupCollections cols fs).getD i [] = cols.filter (fun c => firstIdx fs c == some i) := by
  induction fs with
  | nil => intro cols i; simp [groupCollections, firstIdx]
  | cons f fs ih =>
    intro cols i
    cases i with
    | zero =>
      simp only [groupCollections, groupStep, List.getD_cons_zero, firstIdx]
      apply List.filter_congr; intro c _
      cases inFilter f c <;> simp
    | succ i =>
      simp only [groupCollections, groupStep, List.getD_cons_succ, ih, List.filter_filter, firstIdx]
      apply List.filter_congr; intro c _
      cases inFilter f c
      · cases firstIdx fs c <;> simp
      · simp

theorem denoteAny_eq_any (fs : List NFilter) (p : Path) (x : VarInfo) :
    denoteAny fs p x = fs.any (fun f => denote f p x) := by
  induction fs with
  | nil => rfl
  | cons f fs ih => simp only [denoteAny, List.any_cons, ih]

theorem denoteAll_eq_all (fs : List NFilter) (p : Path) (x : VarInfo) :
    denoteAll fs p x = fs.all (fun f => denote f p x) := by
  induction fs with
  | nil => rfl
  | cons f fs ih => simp only [denoteAll, List.all_cons, ih]

theorem sdenoteAny_eq_any (fs : List SFilter) (p : Path) (x : VarInfo) :
    sdenoteAny fs p x = fs.any (fun f => sdenote f p x) := by
  induction fs with
  | nil => rfl
  | cons f fs ih => simp only [sdenoteAny, List.any_cons, ih]

theorem sdenoteAll_eq_all (fs : List SFilter) (p : Path) (x : VarInfo) :
    sdenoteAll fs p x = fs.all (fun f => sdenote f p x) := by
  induction fs with
  | nil => rfl
  | cons f fs ih => simp only [sdenoteAll, List.all_cons, ih]

theorem toPredicates_eq_map (fs : List SFilter) : toPredicates fs = fs.map toPredicate := by
  induction fs with
  | nil => rfl
  | cons f fs ih => simp only [toPredicates, List.map_cons, ih]

theorem firstMatch_eq_findIdx (preds : List NFilter) (p : Path) (x : VarInfo) :
    firstMatch preds p x = preds.findIdx (fun f => denote f p x) := by
  induction preds with
  | nil => rfl
  | cons f fs ih => simp only [firstMatch, List.findIdx_cons, ih, Bool.cond_eq_ite]

theorem firstMatch_le_length (preds : List NFilter) (p : Path) (x : VarInfo) :
    firstMatch preds p x ≤ preds.length :=
  firstMatch_eq_findIdx preds p x ▸ List.findIdx_le_length

theorem firstMatch_spec (preds : List NFilter) (p : Path) (x : VarInfo) :
    (∀ j, j < firstMatch preds p x → ∀ f, preds[j]? = some f → denote f p x = false) ∧
    (∀ f, preds[firstMatch preds p x]? = some f → denote f p x = true) :=
  firstMatch_eq_findIdx preds p x ▸ Lists.findIdx_spec (fun f => denote f p x) preds

theorem firstMatch_le_of_holds {preds : List NFilter} {i : Nat} {f : NFilter} (hf : preds[i]? = some f)
    {p : Path} {x : VarInfo} (h : denote f p x = true) : firstMatch preds p x ≤ i :=
  firstMatch_eq_findIdx preds p x ▸ Lists.findIdx_le_of_getElem? (p := fun f => denote f p x) hf h

theorem splitStates_getD (preds : List NFilter) (items : List (Path × VarInfo)) (i : Nat) :
    (splitStates preds items).getD i [] = items.filter (fun it => firstMatch preds it.1 it.2 == i) := by
  rw [splitStates, List.getD_eq_getElem?_getD, List.getElem?_map]
  by_cases hi : i < preds.length + 1
  · rw [List.getElem?_range hi]; rfl
  · -- no item's first match lies past the last bucket
    rw [List.getElem?_eq_none (by simpa using hi)]
    symm
    apply List.filter_eq_nil_iff.mpr
    intro it _
    have := firstMatch_le_length preds it.1 it.2
    simp; omega

theorem splitStates_length_sum (preds : List NFilter) (items : List (Path × VarInfo)) :
    ((splitStates preds items).map List.length).sum = items.length :=
  Lists.buckets_length_sum (fun it : Path × VarInfo => firstMatch preds it.1 it.2) items preds.length
    fun it _ => firstMatch_le_length preds it.1 it.2

theorem ellipsisOk_cons (e : Bool) (rest : List Bool) :
    ellipsisOk (e :: rest) = if e then rest.all id else ellipsisOk rest := by
  cases rest with
  | nil => cases e <;> rfl
  | cons _ _ => rfl

theorem ellipsisOk_iff_pairwise (es : List Bool) :
    ellipsisOk es = true ↔ es.Pairwise (fun a b => a = true → b = true) := by
  induction es with
  | nil => simp [ellipsisOk]
  | cons e rest ih =>
    rw [ellipsisOk_cons, List.pairwise_cons]
    cases e with
    | true =>
      simp only [if_true, List.all_eq_true, id, true_implies]
      exact ⟨fun h => ⟨h, List.pairwise_of_forall_mem_list fun _ _ b hb _ => h b hb⟩, fun h => h.1⟩
    | false => simpa using ih

theorem filtersToPredicates_eq_none (fs : List SFilter) :
    filtersToPredicates fs = Option.none ↔ ¬ ellipsisOk (fs.map isCatchAll) = true := by
  unfold filtersToPredicates; split <;> simp [*]

end Flax.Filter
