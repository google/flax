/- Recurrent layers (`Flax/Model/Seq.lean` §3): batches as lists of rows, the closed form of `flip_sequences` on one row,
the scan and the carries it stacks. -/
import Flax.Model.Seq
import Flax.Proofs.ListLemmas

namespace Flax.Seq

section Lists
variable {α β γ : Type}

theorem zip3_eq_zip (as : List α) (bs : List β) (cs : List γ) : zip3 as bs cs = as.zip (bs.zip cs) := by
  induction as generalizing bs cs with
  | nil => rfl
  | cons a as ih =>
    cases bs with
    | nil => rfl
    | cons b bs =>
      cases cs with
      | nil => rfl
      | cons c cs => simp [zip3, ih]

theorem getElem?_zip3 (as : List α) (bs : List β) (cs : List γ) (i : Nat) :
    (zip3 as bs cs)[i]? = (as[i]?).bind fun a => (bs[i]?).bind fun b => (cs[i]?).map fun c => (a, b, c) := by
  rw [zip3_eq_zip, List.zip_eq_zipWith, List.zip_eq_zipWith, List.getElem?_zipWith, List.getElem?_zipWith]
  cases as[i]? <;> cases bs[i]? <;> cases cs[i]? <;> rfl

theorem length_zip3 (as : List α) (bs : List β) (cs : List γ) :
    (zip3 as bs cs).length = min as.length (min bs.length cs.length) := by
  rw [zip3_eq_zip, List.length_zip, List.length_zip]

theorem getElem?_column (rows : List (List α)) (t : Nat) (h : ∀ r ∈ rows, t < r.length) (b : Nat) :
    (column rows t)[b]? = (rows[b]?).bind (·[t]?) :=
  Lists.getElem?_filterMap_of_isSome rows (fun r hr => by simp [h r hr]) b

theorem length_column (rows : List (List α)) (t : Nat) (h : ∀ r ∈ rows, t < r.length) :
    (column rows t).length = rows.length :=
  Lists.length_filterMap_of_isSome rows fun r hr => by simp [h r hr]

theorem isRect_iff {r c : Nat} {m : List (List α)} :
    isRect r c m = true ↔ m.length = r ∧ ∀ row ∈ m, row.length = c := by
  simp [isRect]

theorem isRect_transposeN {B T : Nat} {rows : List (List α)} (h : isRect B T rows = true) :
    isRect T B (transposeN T rows) = true := by
  obtain ⟨hB, hT⟩ := isRect_iff.mp h
  refine isRect_iff.mpr ⟨by simp [transposeN], fun row hrow => ?_⟩
  obtain ⟨t, ht, rfl⟩ := List.mem_map.mp hrow
  rw [length_column rows t (fun r hr => by rw [hT r hr]; exact List.mem_range.mp ht), hB]

theorem getElem?_transposeN {B T : Nat} {rows : List (List α)} (h : isRect B T rows = true) (t b : Nat) (ht : t < T) :
    ((transposeN T rows)[t]?).bind (·[b]?) = (rows[b]?).bind (·[t]?) := by
  simp only [transposeN, List.getElem?_map, List.getElem?_range ht, Option.map_some, Option.bind_some]
  exact getElem?_column rows t (fun r hr => by rw [(isRect_iff.mp h).2 r hr]; exact ht) b

theorem transposeN_transposeN {B T : Nat} {rows : List (List α)} (h : isRect B T rows = true) :
    transposeN B (transposeN T rows) = rows := by
  obtain ⟨hB, hT⟩ := isRect_iff.mp h
  obtain ⟨_, hB'⟩ := isRect_iff.mp (isRect_transposeN h)
  apply List.ext_getElem?
  intro b
  by_cases hb : b < B
  · have hb' : b < rows.length := hB ▸ hb
    simp only [transposeN, List.getElem?_map, List.getElem?_range hb, Option.map_some, List.getElem?_eq_getElem hb']
    congr 1
    apply List.ext_getElem?
    intro t
    rw [getElem?_column _ b fun r hr => by rw [hB' r hr]; exact hb]
    by_cases ht : t < T
    · rw [← transposeN, getElem?_transposeN h t b ht, List.getElem?_eq_getElem hb', Option.bind_some]
    · rw [List.getElem?_eq_none (by simp; omega), Option.bind_none,
        List.getElem?_eq_none (by rw [hT _ (List.getElem_mem hb')]; omega)]
  · rw [List.getElem?_eq_none (by simp [transposeN]; omega), List.getElem?_eq_none (by omega)]

end Lists

section Flip

theorem flipIdx_lt (T l t : Nat) (ht : t < l) (hl : l ≤ T) : flipIdx T l t = l - 1 - t := by
  unfold flipIdx
  rw [show T - 1 - t + l = T + (l - 1 - t) by omega, Nat.add_mod_left, Nat.mod_eq_of_lt (by omega)]

theorem flipIdx_ge (T l t : Nat) (hl : l ≤ t) (ht : t < T) : flipIdx T l t = T - 1 - t + l :=
  Nat.mod_eq_of_lt (by omega)

theorem getElem?_flipSeq {α : Type} (xs : List α) (l t : Nat) (ht : t < xs.length) :
    (flipSeq (some l) xs)[t]? = xs[flipIdx xs.length l t]? := by
  simp only [flipSeq, List.getElem?_ofFn, ht, ↓reduceDIte]
  exact (List.getElem?_eq_getElem _).symm

theorem flipSeq_some_eq {α : Type} (xs : List α) (l : Nat) (hl : l ≤ xs.length) :
    flipSeq (some l) xs = (xs.take l).reverse ++ (xs.drop l).reverse := by
  apply List.ext_getElem
  · simp [flipSeq]; omega
  · intro t h1 h2
    have ht : t < xs.length := by simpa [flipSeq] using h1
    simp only [flipSeq, List.getElem_ofFn, List.getElem_append, List.length_reverse, List.length_take,
      Nat.min_eq_left hl, List.getElem_reverse, List.getElem_take, List.getElem_drop, List.length_drop]
    split
    · next h => exact getElem_congr_idx (flipIdx_lt _ _ _ h hl)
    · next h => exact getElem_congr_idx (by rw [flipIdx_ge _ _ _ (Nat.le_of_not_lt h) ht]; omega)

theorem take_flipSeq {α : Type} (xs : List α) (l : Nat) (hl : l ≤ xs.length) :
    (flipSeq (some l) xs).take l = (xs.take l).reverse := by
  rw [flipSeq_some_eq xs l hl]
  exact List.take_left' (by simp; omega)

theorem drop_flipSeq {α : Type} (xs : List α) (l : Nat) (hl : l ≤ xs.length) :
    (flipSeq (some l) xs).drop l = (xs.drop l).reverse := by
  rw [flipSeq_some_eq xs l hl]
  exact List.drop_left' (by simp; omega)

theorem flipSeq_map {β γ : Type} (f : β → γ) (len : Option Nat) (xs : List β) :
    flipSeq len (xs.map f) = (flipSeq len xs).map f := by
  cases len with
  | none => simp [flipSeq]
  | some l =>
    apply List.ext_getElem?
    intro t
    simp only [flipSeq, List.getElem?_ofFn, List.length_map, List.getElem?_map]
    by_cases h : t < xs.length
    · simp only [h, ↓reduceDIte, Option.map_some, List.getElem_map]
      rfl
    · simp [h]

end Flip

section Scan
variable {C X Y : Type}

private theorem scanCell_acc (cell : C → X → C × Y) (xs : List X) (c : C) (acc : List (C × Y)) :
    xs.foldl (fun (st : C × List (C × Y)) x => let r := cell st.1 x; (r.1, st.2 ++ [(r.1, r.2)])) (c, acc) =
      ((scanCell cell c xs).1, acc ++ (scanCell cell c xs).2) := by
  induction xs generalizing c acc with
  | nil => simp [scanCell]
  | cons x xs ih =>
    simp only [List.foldl_cons, scanCell]
    rw [ih, ih (cell c x).1 ([] ++ [((cell c x).1, (cell c x).2)])]
    simp

theorem scanCell_cons (cell : C → X → C × Y) (c : C) (x : X) (xs : List X) :
    scanCell cell c (x :: xs) =
      ((scanCell cell (cell c x).1 xs).1, ((cell c x).1, (cell c x).2) :: (scanCell cell (cell c x).1 xs).2) := by
  simp only [scanCell, List.foldl_cons]
  rw [scanCell_acc]
  simp [scanCell]

theorem scanCell_length (cell : C → X → C × Y) (xs : List X) (c : C) : (scanCell cell c xs).2.length = xs.length := by
  induction xs generalizing c with
  | nil => rfl
  | cons x xs ih => simp [scanCell_cons, ih]

theorem scanCell_take (cell : C → X → C × Y) (xs : List X) (c : C) (n : Nat) :
    (scanCell cell c xs).2.take n = (scanCell cell c (xs.take n)).2 := by
  induction xs generalizing c n with
  | nil => simp [scanCell]
  | cons x xs ih =>
    cases n with
    | zero => simp [scanCell]
    | succ n => simp [scanCell_cons, ih]

theorem scanCell_carry (cell : C → X → C × Y) (xs : List X) (c : C) (t : Nat) (ht : t < xs.length) :
    ((scanCell cell c xs).2[t]?).map Prod.fst = some (scanCell cell c (xs.take (t + 1))).1 := by
  induction xs generalizing c t with
  | nil => cases ht
  | cons x xs ih =>
    cases t with
    | zero => rw [scanCell_cons]; rfl
    | succ t => rw [scanCell_cons, List.take_succ_cons, scanCell_cons]; exact ih (cell c x).1 t (Nat.lt_of_succ_lt_succ ht)

theorem selectLast_scanCell (cell : C → X → C × Y) (c : C) (xs : List X) (l : Nat) (h1 : 1 ≤ l) (h2 : l ≤ xs.length) :
    selectLast ((scanCell cell c xs).2.map Prod.fst) l = some (scanCell cell c (xs.take l)).1 := by
  have := scanCell_carry cell xs c (l - 1) (by omega)
  rw [Nat.sub_add_cancel h1] at this
  simp [selectLast, scanCell_length, h1, h2, this]

/-- carry and outputs of `rnnRow` in one equation -/
theorem rnnRow_eq (cell : C → X → C × Y) (c0 : C) (xs : List X) (len : Option Nat) (rev keep : Bool) :
    rnnRow cell c0 xs len rev keep =
      (match len with
       | none => some (scanCell cell c0 (if rev then flipSeq len xs else xs)).1
       | some l => selectLast ((scanCell cell c0 (if rev then flipSeq len xs else xs)).2.map Prod.fst) l,
       if rev && keep then flipSeq len ((scanCell cell c0 (if rev then flipSeq len xs else xs)).2.map Prod.snd)
       else (scanCell cell c0 (if rev then flipSeq len xs else xs)).2.map Prod.snd) := by
  cases len <;> rfl

end Scan

end Flax.Seq
