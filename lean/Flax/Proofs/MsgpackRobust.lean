/-
Robustness of the msgpack decoder model: it reads only a prefix of its input and more fuel never changes a result
(`sim_unpackF`, one induction for both); hence trailing bytes and truncated encodings are rejected.
-/
import Flax.Proofs.Msgpack

namespace Flax.Msgpack

/-- `B` reads whatever `A` reads, and hands back untouched what is appended to the input. With
`B = A` the reader looks only at a prefix of its input; with `x = []`, `B` extends `A`. -/
def Sim {α : Type} (x : Bytes) (A B : Bytes → Option (α × Bytes)) : Prop :=
  ∀ bs w r, A bs = some (w, r) → B (bs ++ x) = some (w, r ++ x)

variable {x : Bytes}

theorem sim_takeN (k : Nat) : Sim x (takeN k) (takeN k) := by
  intro bs w r h
  rw [takeN_eq] at h ⊢
  by_cases hk : k ≤ bs.length
  · rw [if_pos hk] at h
    cases h
    rw [if_pos (by rw [List.length_append]; exact Nat.le_trans hk (Nat.le_add_right _ _)),
      List.take_append_of_le_length hk, List.drop_append_of_le_length hk]
  · rw [if_neg hk] at h; cases h

/-- `B` reads what `A` reads and hands it on under `f`: how the readers are made from `takeN`, `readBe` and the two loops -/
def Maps {α β : Type} (f : α → β) (A : Bytes → Option (α × Bytes)) (B : Bytes → Option (β × Bytes)) : Prop :=
  ∀ bs, B bs = match A bs with
    | none => none
    | some (a, r) => some (f a, r)

theorem Sim.map {α β : Type} {f : α → β} {A A' : Bytes → Option (α × Bytes)} {B B' : Bytes → Option (β × Bytes)}
    (hB : Maps f A B) (hB' : Maps f A' B') (h : Sim x A A') : Sim x B B' := by
  intro bs w r hb
  rw [hB] at hb
  rw [hB']
  cases ha : A bs with
  | none => rw [ha] at hb; cases hb
  | some p =>
    obtain ⟨a, r'⟩ := p
    rw [ha] at hb; cases hb
    rw [h bs a _ ha]

theorem maps_readBe (k : Nat) : Maps fromBe (takeN k) (readBe k) := fun bs => by
  rw [readBe]; cases takeN k bs <;> rfl

theorem maps_readStr (n : Nat) : Maps MVal.str (takeN n) (readStr n) := fun bs => by
  rw [readStr]; cases takeN n bs <;> rfl

theorem maps_readBin (n : Nat) : Maps MVal.bin (takeN n) (readBin n) := fun bs => by
  rw [readBin]; cases takeN n bs <;> rfl

theorem maps_readUInt (k : Nat) : Maps (fun n : Nat => MVal.int n) (readBe k) (readUInt k) := fun bs => by
  rw [readUInt]; cases readBe k bs <;> rfl

theorem maps_readSInt (k : Nat) : Maps (fun n => MVal.int (toSigned k n)) (readBe k) (readSInt k) := fun bs => by
  rw [readSInt]; cases readBe k bs <;> rfl

theorem maps_readF64 (rd : Reader) : Maps MVal.f64 (readBe 8) (Fmt.f64.read rd) := fun bs => by
  rw [Fmt.read]; cases readBe 8 bs <;> rfl

theorem maps_readArr (rd : Reader) (n : Nat) : Maps MVal.arr (unpackMany rd n) (readArr rd n) := fun bs => by
  rw [readArr]; cases unpackMany rd n bs <;> rfl

theorem maps_readMap (rd : Reader) (n : Nat) : Maps MVal.map (unpackPairs rd n) (readMap rd n) := fun bs => by
  rw [readMap]; cases unpackPairs rd n bs <;> rfl

theorem sim_readBe (k : Nat) : Sim x (readBe k) (readBe k) := (sim_takeN k).map (maps_readBe k) (maps_readBe k)

theorem sim_readExt (n : Nat) : Sim x (readExt n) (readExt n) := by
  intro bs w r h
  cases bs with
  | nil => cases h
  | cons c t =>
    rw [List.cons_append]
    simp only [readExt] at h ⊢
    by_cases hc : c < 128
    · rw [if_pos hc] at h ⊢
      cases ht : takeN n t with
      | none => rw [ht] at h; cases h
      | some p =>
        obtain ⟨s, r'⟩ := p
        rw [ht] at h; cases h
        rw [sim_takeN n t _ _ ht]
    · rw [if_neg hc] at h; cases h

theorem sim_withLen (k : Nat) {body body' : Nat → Reader} (hb : ∀ n, Sim x (body n) (body' n)) :
    Sim x (fun bs => withLen k bs body) (fun bs => withLen k bs body') := by
  intro bs w r h
  simp only [withLen] at h ⊢
  cases hr : readBe k bs with
  | none => rw [hr] at h; cases h
  | some p =>
    obtain ⟨n, r'⟩ := p
    rw [hr] at h
    rw [sim_readBe k bs n r' hr]
    exact hb n r' w r h

theorem sim_unpackMany {rd rd' : Reader} (hrd : Sim x rd rd') :
    ∀ (n : Nat), Sim x (unpackMany rd n) (unpackMany rd' n)
  | 0, bs, vs, r, h => by
    simp only [unpackMany] at h ⊢
    cases h; rfl
  | n + 1, bs, vs, r, h => by
    simp only [unpackMany] at h ⊢
    cases h1 : rd bs with
    | none => rw [h1] at h; cases h
    | some p =>
      obtain ⟨v, r1⟩ := p
      simp only [h1] at h
      cases h2 : unpackMany rd n r1 with
      | none => rw [h2] at h; cases h
      | some q =>
        obtain ⟨vs', r2⟩ := q
        rw [h2] at h; cases h
        simp only [hrd bs v r1 h1, sim_unpackMany hrd n r1 _ _ h2]

theorem sim_unpackPairs {rd rd' : Reader} (hrd : Sim x rd rd') :
    ∀ (n : Nat), Sim x (unpackPairs rd n) (unpackPairs rd' n)
  | 0, bs, vs, r, h => by
    simp only [unpackPairs] at h ⊢
    cases h; rfl
  | n + 1, bs, vs, r, h => by
    simp only [unpackPairs] at h ⊢
    cases h1 : rd bs with
    | none => rw [h1] at h; cases h
    | some p =>
      obtain ⟨k, r1⟩ := p
      simp only [h1] at h
      cases h2 : rd r1 with
      | none => rw [h2] at h; cases h
      | some p2 =>
        obtain ⟨v, r2⟩ := p2
        simp only [h2] at h
        cases h3 : unpackPairs rd n r2 with
        | none => rw [h3] at h; cases h
        | some q =>
          obtain ⟨kvs', r3⟩ := q
          rw [h3] at h; cases h
          simp only [hrd bs k r1 h1, hrd r1 v r2 h2, sim_unpackPairs hrd n r2 _ _ h3]

theorem Kind.sim_read {rd rd' : Reader} (hrd : Sim x rd rd') : ∀ (c : Kind) (n : Nat), Sim x (c.read rd n) (c.read rd' n)
  | .str, n => (sim_takeN n).map (maps_readStr n) (maps_readStr n)
  | .bin, n => (sim_takeN n).map (maps_readBin n) (maps_readBin n)
  | .ext, n => sim_readExt n
  | .arr, n => (sim_unpackMany hrd n).map (maps_readArr rd n) (maps_readArr rd' n)
  | .map, n => (sim_unpackPairs hrd n).map (maps_readMap rd n) (maps_readMap rd' n)

theorem Fmt.sim_read {rd rd' : Reader} (hrd : Sim x rd rd') : ∀ (f : Fmt), Sim x (f.read rd) (f.read rd')
  | .imm v => fun bs w r h => by cases h; rfl
  | .uint k => (sim_readBe k).map (maps_readUInt k) (maps_readUInt k)
  | .sint k => (sim_readBe k).map (maps_readSInt k) (maps_readSInt k)
  | .f64 => (sim_readBe 8).map (maps_readF64 rd) (maps_readF64 rd')
  | .fix c n => c.sim_read hrd n
  | .len c k => sim_withLen k (c.sim_read hrd)
  | .bad => fun bs w r h => by cases h

theorem sim_unpackF (d : Nat) : ∀ (fuel : Nat), Sim x (unpackF fuel) (unpackF (fuel + d))
  | 0, bs, w, r, h => by simp [unpackF] at h
  | f + 1, [], w, r, h => by simp [unpackF] at h
  | f + 1, b :: rest, w, r, h => by
    rw [unpackF_cons] at h
    rw [List.cons_append, Nat.add_right_comm, unpackF_cons]
    exact (fmt b).sim_read (sim_unpackF d f) rest w r h

/-- `msgpack.unpackb` accepts exactly one value: bytes that decode, whatever they are, do not decode with anything
behind them (`ExtraData`) -/
theorem unpack_append {p x : Bytes} {w : MVal} (h : unpack p = some w) (hx : x ≠ []) : unpack (p ++ x) = none := by
  have := sim_unpackF (x := x) x.length (p.length + 1) p w [] (unpack_eq_some_iff.mp h)
  rw [unpack, List.length_append, Nat.add_right_comm, this]
  cases x with
  | nil => exact absurd rfl hx
  | cons a r => rfl

theorem unpack_truncated (v : MVal) (hv : v.WF) (p q : Bytes) (hpq : pack v = p ++ q) (hq : q ≠ []) :
    unpack p = none := by
  cases hu : unpack p with
  | none => rfl
  | some w =>
    have := unpack_append hu hq
    rw [← hpq, unpack_pack v hv] at this
    cases this

end Flax.Msgpack
