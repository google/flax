/-
The association lists of the heap model (`vars(obj)`, `dict` values): `lookupKV` is core's `List.lookup`
(`lookupKV_eq_lookup`), so what is needed of it comes from `Flax.Assoc`; sorting by key keeps what `lookupKV` finds even
when a key occurs twice, because the sort is stable.  Then values and paths: well-formed attribute lists, the
references a value mentions, one `step` and a path split at either end, and the container view `Kids` (a value, its
owner address, its children) through which the DFS trace of `flatten`, `pop` and `update` descend.
-/
import Flax.Model.Graph
import Flax.Proofs.Assoc
import Flax.Proofs.GraphOrder

namespace Flax.Heap
open Flax.Assoc
variable {α : Type}

theorem lookupKV_eq_lookup (k : Key) (l : List (Key × α)) : lookupKV k l = l.lookup k :=
  lookup_unique (fun _ => rfl) (fun _ _ _ _ => rfl) k l

theorem lookupKV_mem {k : Key} {l : List (Key × α)} {v : α} (h : lookupKV k l = some v) : (k, v) ∈ l :=
  mem_of_lookup (lookupKV_eq_lookup k l ▸ h)

theorem lookupKV_of_mem {l : List (Key × α)} {k : Key} {v : α} (hn : keysNodup l) (h : (k, v) ∈ l) : lookupKV k l = some v :=
  (lookupKV_eq_lookup k l).trans (lookup_of_mem hn h)

theorem lookupKV_isSome_iff {k : Key} {l : List (Key × α)} : (lookupKV k l).isSome = true ↔ k ∈ l.map (·.1) :=
  lookupKV_eq_lookup k l ▸ lookup_isSome_iff

theorem lookupKV_none_iff {k : Key} {l : List (Key × α)} : lookupKV k l = Option.none ↔ k ∉ l.map (·.1) :=
  lookupKV_eq_lookup k l ▸ lookup_eq_none_iff

theorem lookupKV_none_of_notin {k : Key} {l : List (Key × α)} (h : ∀ kv ∈ l, kv.1 ≠ k) : lookupKV k l = Option.none :=
  lookupKV_none_iff.mpr fun hm => by
    obtain ⟨kv, hkv, e⟩ := List.mem_map.mp hm
    exact h kv hkv e

theorem lookupKV_ne_none_of_mem {k : Key} {v : α} {l : List (Key × α)} (h : (k, v) ∈ l) : lookupKV k l ≠ Option.none :=
  fun e => lookupKV_none_iff.mp e (List.mem_map_of_mem (f := (·.1)) h)

theorem lookupKV_append (k : Key) (A B : List (Key × α)) :
    lookupKV k (A ++ B) = match lookupKV k A with | some v => some v | Option.none => lookupKV k B := by
  simp only [lookupKV_eq_lookup, List.lookup_append]
  cases A.lookup k <;> rfl

theorem mem_eraseKV {k : Key} {l : List (Key × α)} {kv : Key × α} : kv ∈ eraseKV k l ↔ kv ∈ l ∧ kv.1 ≠ k := by
  simp [eraseKV, List.mem_filter]

theorem lookupKV_eraseKV (k k' : Key) (A : List (Key × α)) :
    lookupKV k (eraseKV k' A) = if k' = k then Option.none else lookupKV k A := by
  rw [lookupKV_eq_lookup, lookupKV_eq_lookup, eraseKV, lookup_filter_key (fun x => !decide (x = k'))]
  by_cases e : k' = k
  · simp [e]
  · simp [e, Ne.symm e]

theorem keysNodup_eraseKV {k : Key} {l : List (Key × α)} (h : keysNodup l) : keysNodup (eraseKV k l) :=
  List.Nodup.sublist (List.Sublist.map _ List.filter_sublist) h

theorem lookupKV_insertBy {α : Type} {lt : Key → Key → Bool} (hirr : ∀ a, lt a a = false) (k k0 : Key) (v0 : α) :
    ∀ l : List (Key × α), lookupKV k (insertBy lt k0 v0 l) = if k0 = k then some v0 else lookupKV k l
  | [] => by simp [insertBy, lookupKV]
  | (k', v') :: rest => by
    simp only [insertBy]
    split
    · next hlt =>
      have hne : k' ≠ k0 := fun e => by rw [e, hirr] at hlt; cases hlt
      simp only [lookupKV, lookupKV_insertBy hirr k k0 v0 rest]
      by_cases e0 : k0 = k
      · have : k' ≠ k := fun e => hne (e.trans e0.symm)
        simp [e0, this]
      · simp [e0]
    · simp [lookupKV]

theorem lookupKV_sortKV {α : Type} (k : Key) : ∀ l : List (Key × α), lookupKV k (sortKV l) = lookupKV k l
  | [] => rfl
  | (k0, v0) :: rest => by
    show lookupKV k (insertBy Key.lt k0 v0 (sortBy Key.lt rest)) = _
    rw [lookupKV_insertBy Key.lt_irrefl]
    simp only [lookupKV]
    rw [show sortBy Key.lt rest = sortKV rest from rfl, lookupKV_sortKV k rest]

end Flax.Heap

namespace Flax.Graph
open Flax.Heap

theorem setKV_keys {α : Type} (k : Key) (v : α) : ∀ l : List (Key × α), (setKV k v l).map (·.1) = l.map (·.1)
  | [] => rfl
  | (k', v') :: r => by
    simp only [setKV]
    by_cases e : k' = k
    · simp [e]
    · simp [e, setKV_keys k v r]

theorem lookupKV_setKV {α : Type} (k k' : Key) (v : α) : ∀ l : List (Key × α),
    lookupKV k' (setKV k v l) = if k' = k then (lookupKV k l).map (fun _ => v) else lookupKV k' l
  | [] => by simp [setKV, lookupKV]
  | (k0, v0) :: r => by
    simp only [setKV]
    by_cases e : k0 = k
    · subst e
      by_cases e' : k' = k0
      · subst e'; simp [lookupKV]
      · have : k0 ≠ k' := fun x => e' x.symm
        simp [lookupKV, e', this]
    · simp only [e, if_false, lookupKV]
      by_cases e2 : k0 = k'
      · subst e2; simp [e]
      · simp only [e2, if_false]; exact lookupKV_setKV k k' v r

theorem wfKVs_mem : ∀ (l : List (Key × PVal)), PVal.wfKVs l = true → ∀ kv ∈ l, kv.2.wf = true
  | [], _, kv, h => by cases h
  | (k, v) :: rest, hw, kv, h => by
    simp only [PVal.wfKVs, Bool.and_eq_true] at hw
    rcases List.mem_cons.mp h with e | h'
    · subst e; exact hw.1
    · exact wfKVs_mem rest hw.2 kv h'

theorem wfList_mem : ∀ (l : List PVal), PVal.wfList l = true → ∀ v ∈ l, v.wf = true
  | [], _, v, h => by cases h
  | x :: rest, hw, v, h => by
    simp only [PVal.wfList, Bool.and_eq_true] at hw
    rcases List.mem_cons.mp h with e | h'
    · subst e; exact hw.1
    · exact wfList_mem rest hw.2 v h'

theorem heap_wf_node {h : Heap} (hw : Heap.wf h = true) {a : Addr} {cls : String} {attrs : List (Key × PVal)}
    (ha : h[a]? = some (.node cls attrs)) : keysNodup attrs ∧ ∀ kv ∈ attrs, kv.2.wf = true := by
  have hm : Obj.node cls attrs ∈ h := List.mem_of_getElem? ha
  have := List.all_eq_true.mp hw _ hm
  simp only [Obj.wf, Bool.and_eq_true, decide_eq_true_eq] at this
  exact ⟨this.1, wfKVs_mem attrs this.2⟩

theorem mem_deepRefsKV' {b : Addr} : ∀ {l : List (Key × PVal)}, b ∈ deepRefsKV l ↔ ∃ kv ∈ l, b ∈ deepRefs kv.2
  | [] => by simp [deepRefsKV]
  | (k, v) :: r => by simp [deepRefsKV, mem_deepRefsKV' (l := r)]

theorem mem_deepRefsL' {b : Addr} : ∀ {l : List PVal}, b ∈ deepRefsL l ↔ ∃ v ∈ l, b ∈ deepRefs v
  | [] => by simp [deepRefsL]
  | x :: r => by simp [deepRefsL, mem_deepRefsL' (l := r)]

theorem deepRefs_lookupKV {k : Key} {v : PVal} {l : List (Key × PVal)} (h : lookupKV k l = some v) :
    ∀ b ∈ deepRefs v, b ∈ deepRefsKV l :=
  fun _ hb => mem_deepRefsKV'.mpr ⟨(k, v), lookupKV_mem h, hb⟩

theorem mem_deepRefsKV_sortKV {b : Addr} {l : List (Key × PVal)} : b ∈ deepRefsKV (sortKV l) ↔ b ∈ deepRefsKV l := by
  simp only [mem_deepRefsKV', mem_sortKV]

theorem deepRefsKV_enumFrom : ∀ (n : Nat) (xs : List PVal), deepRefsKV (enumFrom n xs) = deepRefsL xs
  | _, [] => rfl
  | n, x :: xs => by rw [enumFrom, deepRefsKV, deepRefsL, deepRefsKV_enumFrom (n + 1) xs]

theorem step_ref {h : Heap} {a : Addr} {cls : String} {attrs : List (Key × PVal)} (hg : h[a]? = some (.node cls attrs))
    (k : Key) : step h (.ref a) k = lookupKV k attrs := by
  simp only [step, hg]

theorem step_ref_some {h : Heap} {a : Addr} {k : Key} {u : PVal} (hs : step h (.ref a) k = some u) :
    ∃ cls attrs, h[a]? = some (.node cls attrs) ∧ lookupKV k attrs = some u := by
  simp only [step] at hs
  split at hs
  · next cls attrs hg => exact ⟨cls, attrs, hg, hs⟩
  · cases hs

theorem resolve_cons_some {h : Heap} {v x : PVal} {k : Key} {p : Path} (hr : resolve h v (k :: p) = some x) :
    ∃ cur, step h v k = some cur ∧ resolve h cur p = some x := by
  rw [resolve] at hr
  cases hs : step h v k with
  | none => rw [hs] at hr; cases hr
  | some cur => rw [hs] at hr; exact ⟨cur, rfl, hr⟩

theorem resolve_snoc (h : Heap) : ∀ (p : Path) (r : PVal) (k : Key),
    resolve h r (p ++ [k]) = (resolve h r p).bind (fun v => step h v k)
  | [], r, k => by simp [resolve]; cases step h r k <;> rfl
  | k0 :: p, r, k => by
    simp only [List.cons_append, resolve]
    cases step h r k0 with
    | none => rfl
    | some v' => exact resolve_snoc h p v' k

/-- a relation kept by one `step` is kept along a path -/
theorem resolve_rel {h h' : Heap} {R : PVal → PVal → Prop}
    (hstep : ∀ {v v' u} k, R v v' → step h v k = some u → ∃ u', step h' v' k = some u' ∧ R u u') :
    ∀ (p : Path) {v v' w : PVal}, R v v' → resolve h v p = some w → ∃ w', resolve h' v' p = some w' ∧ R w w'
  | [], v, v', w, hv, hr => by cases hr; exact ⟨v', rfl, hv⟩
  | k :: p, v, v', w, hv, hr => by
    obtain ⟨u, hs, hr1⟩ := resolve_cons_some hr
    obtain ⟨u', hs', hu⟩ := hstep k hv hs
    rw [resolve, hs']
    exact resolve_rel hstep p hu hr1

/-- `v` is a container with children `attrs` (a dict's in stored order, as `updateVal` hands them to its loop);
`owner` is its address when it is a graph node -/
inductive Kids (h : Heap) : PVal → Option Addr → List (Key × PVal) → Prop where
  | none : Kids h .none Option.none []
  | seq (t : Bool) (xs : List PVal) : Kids h (.seq t xs) Option.none (enumFrom 0 xs)
  | dict (kvs : List (Key × PVal)) : Kids h (.dict kvs) Option.none kvs
  | node {a : Addr} {cls : String} {attrs : List (Key × PVal)} : h[a]? = some (.node cls attrs) →
      Kids h (.ref a) (some a) attrs

theorem Kids.child {h : Heap} {v : PVal} {owner : Option Addr} {attrs : List (Key × PVal)}
    (kids : Kids h v owner attrs) (k : Key) : step h v k = lookupKV k attrs := by
  cases kids with
  | node hg => exact step_ref hg k
  | _ => rfl

theorem Kids.of_step {h : Heap} {v cur : PVal} {k : Key} (hs : step h v k = some cur) :
    ∃ owner attrs, Kids h v owner attrs := by
  cases v with
  | ref a =>
    obtain ⟨_, _, hg, _⟩ := step_ref_some hs
    exact ⟨_, _, .node hg⟩
  | seq t xs => exact ⟨_, _, .seq t xs⟩
  | dict kvs => exact ⟨_, _, .dict kvs⟩
  | _ => cases hs

theorem Kids.wf {h : Heap} (hw : Heap.wf h = true) {v : PVal} {owner : Option Addr} {attrs : List (Key × PVal)}
    (kids : Kids h v owner attrs) (hv : v.wf = true) : keysNodup attrs ∧ ∀ kv ∈ attrs, kv.2.wf = true := by
  cases kids with
  | none => exact ⟨List.nodup_nil, fun _ hkv => nomatch hkv⟩
  | seq t xs => exact ⟨enumFrom_keysNodup 0 xs, fun kv hkv => wfList_mem xs hv _ (enumFrom_mem_snd 0 xs kv hkv)⟩
  | dict kvs =>
    simp only [PVal.wf, Bool.and_eq_true, decide_eq_true_eq] at hv
    exact ⟨hv.1, wfKVs_mem _ hv.2⟩
  | node hg => exact heap_wf_node hw hg

theorem Kids.children {h : Heap} (hw : Heap.wf h = true) {root0 v : PVal} {path : Path} {owner : Option Addr}
    {attrs : List (Key × PVal)} (kids : Kids h v owner attrs) (hv : v.wf = true)
    (hr : resolve h root0 path = some v) :
    ∀ kv ∈ attrs, kv.2.wf = true ∧ resolve h root0 (path ++ [kv.1]) = some kv.2 := by
  have hwf := kids.wf hw hv
  intro kv hkv
  refine ⟨hwf.2 kv hkv, ?_⟩
  rw [resolve_snoc, hr]
  exact (kids.child kv.1).trans (lookupKV_of_mem hwf.1 hkv)

end Flax.Graph
