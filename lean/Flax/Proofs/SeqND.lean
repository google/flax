/- N-d arrays (`Flax/Model/Seq.lean` §3b): in-bounds multi-indices, NumPy broadcasting reads (`ND.bget`) of the
index arrays `flip_sequences` builds, and `flip_sequences` read at one multi-index. -/
import Flax.Model.Seq

namespace Flax.C13

/-- in-bounds multi-index: same rank, every coordinate below the extent -/
inductive InB : List Nat → List Nat → Prop
  | nil : InB [] []
  | cons {i d : Nat} {is ds : List Nat} : i < d → InB is ds → InB (i :: is) (d :: ds)

theorem InB.length_eq {idx shape : List Nat} (h : InB idx shape) : idx.length = shape.length := by
  induction h with
  | nil => rfl
  | cons _ _ ih => rw [List.length_cons, List.length_cons, ih]

theorem InB.append {a b sa sb : List Nat} (ha : InB a sa) (hb : InB b sb) : InB (a ++ b) (sa ++ sb) := by
  induction ha with
  | nil => exact hb
  | cons hlt _ ih => exact InB.cons hlt ih

end Flax.C13

namespace Flax.Seq
open Flax.C13 (InB)

section Lists
variable {β : Type}

theorem set_append_cons (a b : List β) (x y : β) : (a ++ x :: b).set a.length y = a ++ y :: b := by
  rw [List.set_append_right _ _ (Nat.le_refl _), Nat.sub_self, List.set_cons_zero]

theorem insertIdx_append_cons (a b : List β) (x : β) : (a ++ b).insertIdx a.length x = a ++ x :: b := by
  induction a with
  | nil => rfl
  | cons c a ih => rw [List.cons_append, List.length_cons, List.insertIdx_succ_cons, ih, List.cons_append]

theorem eraseIdx_append_cons (a b : List β) (x : β) : (a ++ x :: b).eraseIdx a.length = a ++ b := by
  rw [List.eraseIdx_append_of_length_le (Nat.le_refl _), Nat.sub_self, List.eraseIdx_cons_zero]

theorem getElem?_append_cons (a b : List β) (x : β) : (a ++ x :: b)[a.length]? = some x := by
  simp

end Lists

theorem bcastIdx_cons (d i : Nat) (s is : List Nat) :
    bcastIdx (d :: s) (i :: is) = (if d = 1 then 0 else i) :: bcastIdx s is := rfl

theorem bcastIdx_append (s s' i i' : List Nat) (h : s.length = i.length) :
    bcastIdx (s ++ s') (i ++ i') = bcastIdx s i ++ bcastIdx s' i' :=
  List.zipWith_append h

/-- an in-bounds index is read where it points: a coordinate below an extent of 1 is 0 already -/
theorem bcastIdx_of_inB {idx shape : List Nat} (h : InB idx shape) : bcastIdx shape idx = idx := by
  induction h with
  | nil => rfl
  | @cons i d _ _ hlt _ ih =>
    have hi : (if d = 1 then 0 else i) = i := by split <;> omega
    rw [bcastIdx_cons, ih, hi]

/-- trailing axes of extent 1 appended to the shape (`_expand_dims_like`) do not change what the leading part reads -/
theorem take_bcastIdx_append (s r idx : List Nat) :
    (bcastIdx (s ++ r) idx).take s.length = bcastIdx s (idx.take s.length) := by
  rw [bcastIdx, List.take_zipWith, List.take_left' rfl, ← bcastIdx]

/-- `expand_dims(a, axis)` read at an index that is in bounds around the new axis: the coordinate there is dropped -/
theorem bget_expandDims_split {α : Type} (a : ND α) (sp sq pre post : List Nat) (t : Nat) (hs : a.shape = sp ++ sq)
    (hpre : InB pre sp) (hpost : InB post sq) :
    (a.expandDims sp.length).bget (pre ++ t :: post) = a.get (pre ++ post) := by
  have e := eraseIdx_append_cons pre post 0
  rw [hpre.length_eq] at e
  rw [ND.bget, ND.expandDims, hs, insertIdx_append_cons, bcastIdx_append _ _ _ _ hpre.length_eq.symm, bcastIdx_cons,
    if_pos rfl, bcastIdx_of_inB hpre, bcastIdx_of_inB hpost]
  exact congrArg a.get e

theorem bget_arangeRevAt (T rank k t : Nat) (idx : List Nat) (hk : k < rank) (hidx : idx[k]? = some t) (ht : t < T) :
    (arangeRevAt T rank k).bget idx = T - 1 - t := by
  have hb : (if T = 1 then 0 else t) = t := by split <;> omega
  simp only [ND.bget, arangeRevAt, bcastIdx, List.getElem?_zipWith, hidx,
    List.getElem?_set_self (show k < (List.replicate rank 1).length by rw [List.length_replicate]; exact hk),
    Option.getD_some, hb]

theorem bshape2_cons (x y : Nat) (a b : List Nat) :
    bshape2 (x :: a) (y :: b) = (if x = 1 then y else x) :: bshape2 a b := rfl

theorem bshape2_append (a a' b b' : List Nat) (h : a.length = b.length) :
    bshape2 (a ++ a') (b ++ b') = bshape2 a b ++ bshape2 a' b' :=
  List.zipWith_append h

theorem bshape2_replicate_one (s : List Nat) : bshape2 (List.replicate s.length 1) s = s := by
  induction s with
  | nil => rfl
  | cons d s ih => rw [List.length_cons, List.replicate_succ, bshape2_cons, ih, if_pos rfl]

/-- the shape of `arange + expand_dims(seq_lengths)`: the batch shape with `T` at the time axis -/
theorem bshape2_arange_expand_split (sp sq : List Nat) (T : Nat) :
    bshape2 ((List.replicate ((sp ++ sq).length + 1) 1).set sp.length T) ((sp ++ sq).insertIdx sp.length 1) =
      sp ++ T :: sq := by
  have hT : (if T = 1 then 1 else T) = T := by split <;> omega
  have hr : (List.replicate ((sp ++ sq).length + 1) 1).set sp.length T =
      List.replicate sp.length 1 ++ T :: List.replicate sq.length 1 := by
    rw [List.length_append, Nat.add_assoc, ← List.replicate_append_replicate, List.replicate_succ]
    simp
  rw [hr, insertIdx_append_cons, bshape2_append _ _ _ _ (List.length_replicate ..), bshape2_replicate_one, bshape2_cons,
    bshape2_replicate_one, hT]

/-- The time axis splits the batch axes into `sp` before it and `sq` after it: all before it in the batch-major
layout, all after it when `time_major` (`ha`). -/
theorem flipND_get {α : Type} (inputs : ND α) (lens : ND Nat) (tm : Bool) (T : Nat) (sp sq pre post fs : List Nat)
    (t : Nat) (hls : lens.shape = sp ++ sq) (ha : (if tm = true then 0 else lens.shape.length) = sp.length)
    (hT : (inputs.shape[sp.length]?).getD 0 = T) (hpre : InB pre sp) (hpost : InB post sq) (ht : t < T) :
    (flipND inputs (some lens) lens.shape.length tm).get (pre ++ t :: (post ++ fs)) =
      inputs.get (pre ++ flipIdx T (lens.get (pre ++ post)) t :: (post ++ fs)) := by
  have hpl := hpre.length_eq
  have hk : sp.length ≤ lens.shape.length := by rw [hls, List.length_append]; exact Nat.le_add_right _ _
  have hj : InB (pre ++ t :: post) (sp ++ T :: sq) := hpre.append (.cons ht hpost)
  have hS : bshape2 (arangeRevAt T (lens.shape.length + 1) sp.length).shape (lens.expandDims sp.length).shape =
      sp ++ T :: sq := by
    rw [arangeRevAt, ND.expandDims, hls, bshape2_arange_expand_split]
  -- the index array is read at the batch-and-time part of the multi-index, which is in bounds for it
  have hread : ∀ r : List Nat, (bcastIdx (sp ++ T :: sq ++ r) (pre ++ t :: (post ++ fs))).take (sp ++ T :: sq).length =
      pre ++ t :: post := by
    intro r
    rw [take_bcastIdx_append, ← hj.length_eq, show pre ++ t :: (post ++ fs) = (pre ++ t :: post) ++ fs by simp,
      List.take_left' rfl, bcastIdx_of_inB hj]
  have h1 := bget_arangeRevAt T (lens.shape.length + 1) sp.length t (pre ++ t :: post)
    (Nat.lt_succ_of_le hk) (hpl ▸ getElem?_append_cons _ _ _) ht
  have h2 := bget_expandDims_split lens sp sq pre post t hls hpre hpost
  simp only [ND.bget] at h1 h2
  simp only [flipND, ha, hT, ND.bget, hS, hread, h1, h2]
  rw [← hpl, set_append_cons]
  rfl

theorem flipND_none_get {α : Type} (inputs : ND α) (nb : Nat) (tm : Bool) (T : Nat) (pre post : List Nat) (t : Nat)
    (ha : (if tm = true then 0 else nb) = pre.length) (hT : (inputs.shape[pre.length]?).getD 0 = T) :
    (flipND inputs none nb tm).get (pre ++ t :: post) = inputs.get (pre ++ (T - 1 - t) :: post) := by
  simp only [flipND, ha, hT, set_append_cons, getElem?_append_cons, Option.getD_some]

theorem length_rowND {α : Type} (a : ND α) (tm : Bool) (is : List Nat) (T : Nat) : (rowND a tm is T).length = T := by
  rw [rowND, List.length_map, List.length_range]

theorem getElem?_rowND {α : Type} (a : ND α) (tm : Bool) (is : List Nat) (T t : Nat) (ht : t < T) :
    (rowND a tm is T)[t]? = some (a.get (layout tm is t [])) := by
  rw [rowND, List.getElem?_map, List.getElem?_range ht, Option.map_some]

theorem unlayout_layout (tm : Bool) (is : List Nat) (t : Nat) : unlayout tm is.length (layout tm is t []) = (is, t) := by
  cases tm <;> simp [unlayout, layout]

theorem rowND_of_series {β γ : Type} (shape : List Nat) (f : List Nat → List β) (g : β → γ) (tm : Bool) (nb : Nat)
    (is : List Nat) (T : Nat) (his : is.length = nb) (hf : (f is).length = T) :
    rowND ⟨shape, fun idx => ((f (unlayout tm nb idx).1)[(unlayout tm nb idx).2]?).map g⟩ tm is T =
      ((f is).map g).map some := by
  subst his hf
  apply List.ext_getElem (by rw [length_rowND, List.length_map, List.length_map])
  intro t h1 h2
  have ht : t < (f is).length := by rwa [length_rowND] at h1
  rw [← Option.some_inj, ← List.getElem?_eq_getElem h1, getElem?_rowND _ _ _ _ _ ht]
  simp only [unlayout_layout, List.getElem?_eq_getElem ht, Option.map_some, List.getElem_map]

end Flax.Seq
