/-
Uniting several nested dicts for C18. One `(name, value)` step of `linen_vars_to_nnx_attrs` (`addAttr`) or of
the merge of `mutable` updates (`absorbAttr`) lays a value over what is there (`StepOk`); folded over dicts
that are apart: their leaf-wise union. ToLinen unites flat, then `unflatten_mapping` (`mergeCols_spec`).
-/
import Flax.Proofs.Bridge

namespace Flax.Bridge
variable {β γ : Type}

/-- the contract of one `(name, value)` step of the two accumulation loops: a value without empty
sub-dicts whose leaf paths do not nest with those present is laid over them -/
def StepOk (step : Forest β → String → Tree β → Except Err (Forest β)) : Prop :=
  ∀ (attrs : Forest β) (name : String) (value : Tree β), WFF attrs → value.WF → value.NoEmpty →
    Compat attrs [(name, value)] →
    ∃ g, step attrs name value = .ok g ∧ WFF g ∧ (NoEmptyF attrs → NoEmptyF g) ∧
      ∀ k' p, leafAtF g (k' :: p) =
        if k' = name then (value.leafAt p).or (leafAtF attrs (name :: p)) else leafAtF attrs (k' :: p)

theorem not_leaf_of_compat (attrs : Forest β) (name : String) (sub : Forest β) (hn : (Tree.node sub).NoEmpty)
    (hc : Compat attrs [(name, .node sub)]) (b : β) : dget attrs name ≠ some (.leaf b) := by
  intro hd
  obtain ⟨q, v, hq⟩ := exists_leaf sub hn.1 hn.2
  have := hc [name] (name :: q) (by simp [leafAtF_cons, hd, Tree.leafAt]) (by simp [leafAtF_cons_cons, hq])
    (Or.inl (by rw [List.cons_prefix_cons]; exact ⟨rfl, List.nil_prefix⟩))
  simp only [List.cons.injEq, true_and] at this
  rw [← this] at hq; simp at hq

theorem merged_ne_nil (m sub : Forest β) (old : Forest β) (hsub : sub ≠ []) (hn : NoEmptyF sub)
    (hm : ∀ q, leafAtF m q = (leafAtF sub q).or (leafAtF old q)) : m ≠ [] := by
  obtain ⟨q, b, hq⟩ := exists_leaf sub hsub hn
  intro e
  have := hm q
  rw [e, hq] at this
  simp at this

/-- every step ends in an assignment `attrs[name] = t`, with `t` the value laid over what was under `name` -/
theorem stepOk_of_dset {step : Forest β → String → Tree β → Except Err (Forest β)} {attrs : Forest β}
    {name : String} {value t : Tree β} (h : step attrs name value = .ok (dset attrs name t)) (ha : WFF attrs)
    (hw : t.WF) (hn : t.NoEmpty) (hleaf : ∀ p, t.leafAt p = (value.leafAt p).or (leafAtF attrs (name :: p))) :
    ∃ g, step attrs name value = .ok g ∧ WFF g ∧ (NoEmptyF attrs → NoEmptyF g) ∧
      ∀ k' p, leafAtF g (k' :: p) =
        if k' = name then (value.leafAt p).or (leafAtF attrs (name :: p)) else leafAtF attrs (k' :: p) := by
  refine ⟨_, h, WFF_dset _ _ _ ha hw, fun hna => NoEmptyF_dset _ _ _ hna hn, fun k' p => ?_⟩
  rw [leafAtF_dset, hleaf]

theorem addAttr_spec : StepOk (addAttr (β := β)) := by
  intro attrs name value ha hv hvn hc
  cases value with
  | leaf b =>
    refine stepOk_of_dset (t := .leaf b) rfl ha hv hvn fun p => ?_
    cases p with
    | nil => rfl
    | cons k2 p2 =>
      -- nothing sits below `name`: it would nest with the arriving leaf
      cases h : leafAtF attrs (name :: k2 :: p2) with
      | none => rfl
      | some v =>
        have := hc (name :: k2 :: p2) [name] (by simp [h])
          (by simp [leafAtF_cons_cons, Tree.leafAt])
          (Or.inr (by rw [List.cons_prefix_cons]; exact ⟨rfl, List.nil_prefix⟩))
        simp at this
  | node sub =>
    have hsw : WFF sub := hv
    obtain ⟨old, hold, holdleaf, holdwf, _⟩ := dget_sub attrs name (not_leaf_of_compat attrs name sub hvn hc)
    have hcomp : Compat old sub := by
      intro q q' h1 h2 hp
      rw [holdleaf] at h1
      have := hc (name :: q) (name :: q') h1 (by simpa [leafAtF_cons_cons] using h2)
        (by rcases hp with hp | hp
            · exact Or.inl (by rw [List.cons_prefix_cons]; exact ⟨rfl, hp⟩)
            · exact Or.inr (by rw [List.cons_prefix_cons]; exact ⟨rfl, hp⟩))
      simpa using this
    obtain ⟨m, hm, hmleaf, hmwf, hmne⟩ := recursiveMerge_spec old sub (holdwf ha) hsw hcomp
    have hadd : addAttr attrs name (.node sub) = .ok (dset attrs name (.node m)) := by
      rcases hold with ⟨h1, rfl⟩ | h1
      · simp only [addAttr, h1, hm, bind, Except.bind, pure, Except.pure]
      · simp only [addAttr, h1, hm, bind, Except.bind, pure, Except.pure]
    exact stepOk_of_dset hadd ha hmwf ⟨merged_ne_nil m sub old hvn.1 hvn.2 hmleaf, hmne⟩
      fun p => by simp [hmleaf, holdleaf]

theorem absorbAttr_spec : StepOk (absorbAttr (β := β)) := by
  intro attrs name value ha hv hvn hc
  have hadd := addAttr_spec attrs name value ha hv hvn hc
  cases value with
  | leaf b =>
    have he : absorbAttr attrs name (.leaf b) = addAttr attrs name (.leaf b) := by
      unfold absorbAttr addAttr
      cases dget attrs name <;> rfl
    rw [he]; exact hadd
  | node sub =>
    cases hd : dget attrs name with
    | none =>
      exact stepOk_of_dset (t := .node sub) (by simp [absorbAttr, hd]) ha hv hvn fun p => by
        simp [leafAtF_cons, hd]
    | some t =>
      cases t with
      | leaf b => exact absurd hd (not_leaf_of_compat attrs name sub hvn hc b)
      | node orig =>
        have he : absorbAttr attrs name (.node sub) = addAttr attrs name (.node sub) := by
          simp [absorbAttr, addAttr, hd]
        rw [he]; exact hadd

theorem foldStep_spec (step : Forest β → String → Tree β → Except Err (Forest β)) (hstep : StepOk step) :
    ∀ (f : Forest β) (attrs : Forest β), WFF attrs → WFF f → NoEmptyF f → Compat attrs f →
    ∃ g, f.foldlM (fun a kt => step a kt.1 kt.2) attrs = .ok g ∧ WFF g ∧ (NoEmptyF attrs → NoEmptyF g) ∧
      ∀ q, leafAtF g q = (leafAtF f q).or (leafAtF attrs q) := by
  intro f
  induction f with
  | nil => intro attrs ha _ _ _; exact ⟨attrs, rfl, ha, id, by simp⟩
  | cons kt r ih =>
    intro attrs ha hf hnf hc
    obtain ⟨k, t⟩ := kt
    simp only [WFF] at hf
    simp only [NoEmptyF] at hnf
    obtain ⟨g1, hg1, hwf1, hne1, hleaf1⟩ := hstep attrs k t ha hf.2.1 hnf.1
      (by
        -- a leaf of the head entry is a leaf of the whole dict
        intro q q' h1 h2 hp
        refine hc q q' h1 ?_ hp
        cases q' with
        | nil => simp at h2
        | cons k' p' =>
          rw [leafAtF_cons_cons] at h2 ⊢
          by_cases hk : k' = k
          · simpa [hk] using h2
          · simp [hk] at h2)
    obtain ⟨g, hg, hwf, hne, hleaf⟩ := ih g1 hwf1 hf.2.2 hnf.2
      (by
        -- the rest has other keys than the head; there the step changed nothing
        intro q q' h1 h2 hp
        cases q' with
        | nil => simp at h2
        | cons k2 p2 =>
          have hne : k2 ≠ k := fun e => h2 (leafAtF_of_not_mem r k2 p2 (e ▸ hf.1))
          cases q with
          | nil => simp at h1
          | cons k1 p1 =>
            have hk1 : k1 = k2 := by
              rcases hp with hp | hp <;> rw [List.cons_prefix_cons] at hp
              · exact hp.1
              · exact hp.1.symm
            subst hk1
            rw [hleaf1] at h1
            simp only [hne, ↓reduceIte] at h1
            exact hc _ _ h1 (by rw [leafAtF_cons_cons]; simpa [hne] using h2) hp)
    refine ⟨g, ?_, hwf, fun hna => hne (hne1 hna), ?_⟩
    · simp only [List.foldlM_cons, hg1]; exact hg
    · intro q
      rw [hleaf q]
      cases q with
      | nil => simp
      | cons k' p =>
        rw [hleaf1, leafAtF_cons_cons]
        by_cases hk : k' = k
        · subst hk
          simp [leafAtF_of_not_mem r k' p hf.1]
        · simp only [hk, ↓reduceIte]

theorem disjoint_or (a b : Forest β) (c : Forest γ) (g : Forest β)
    (hg : ∀ q, leafAtF g q = (leafAtF b q).or (leafAtF a q)) (ha : Disjoint a c) (hb : Disjoint b c) :
    Disjoint g c := by
  intro q q' h1 h2
  rw [hg] at h1
  cases hbq : leafAtF b q with
  | some v => exact hb q q' (by simp [hbq]) h2
  | none => rw [hbq] at h1; simp only [Option.none_or] at h1; exact ha q q' h1 h2

theorem foldAddCol_spec : ∀ (cols : List (String × Tree β)) (acc : Forest β), WFF acc →
    (∀ ct ∈ cols, ∃ f, ct.2 = .node f ∧ WFF f ∧ NoEmptyF f ∧ Disjoint acc f) →
    cols.Pairwise (fun ct ct' => ∀ f f', ct.2 = .node f → ct'.2 = .node f' → Disjoint f f') →
    ∃ g, cols.foldlM (fun a ct => addCol a ct.2) acc = .ok g ∧ WFF g ∧ (NoEmptyF acc → NoEmptyF g) ∧
      ∀ q v, leafAtF g q = some v ↔ (leafAtF acc q = some v ∨ ∃ ct ∈ cols, ct.2.leafAt q = some v) := by
  intro cols
  induction cols with
  | nil => intro acc ha _ _; exact ⟨acc, rfl, ha, id, by simp⟩
  | cons ct rest ih =>
    intro acc ha hcols hpw
    obtain ⟨c, t⟩ := ct
    obtain ⟨f, hf, hfw, hfn, hfd⟩ := hcols (c, t) (by simp)
    simp only at hf; subst hf
    rw [List.pairwise_cons] at hpw
    obtain ⟨g1, hg1, hwf1, hne1, hleaf1⟩ := foldStep_spec addAttr addAttr_spec f acc ha hfw hfn (disjoint_compat _ _ hfd)
    obtain ⟨g, hg, hwf, hne, hleaf⟩ := ih g1 hwf1
      (by
        intro ct' hct'
        obtain ⟨f', hf', hfw', hfn', hfd'⟩ := hcols ct' (by simp [hct'])
        exact ⟨f', hf', hfw', hfn', disjoint_or acc f f' g1 hleaf1 hfd' (hpw.1 ct' hct' f f' rfl hf')⟩)
      hpw.2
    refine ⟨g, ?_, hwf, fun h => hne (hne1 h), ?_⟩
    · simp only [List.foldlM_cons, addCol, hg1]; exact hg
    · intro q v
      rw [hleaf q v, hleaf1 q]
      simp only [List.mem_cons, exists_eq_or_imp, Tree.leafAt_node]
      constructor
      · rintro (h | h)
        · cases hfq : leafAtF f q with
          | some w => rw [hfq] at h; simp only [Option.some_or] at h; exact Or.inr (Or.inl (by rw [← h]))
          | none => rw [hfq] at h; simp only [Option.none_or] at h; exact Or.inl h
        · exact Or.inr (Or.inr h)
      · rintro (h | h | h)
        · have : leafAtF f q = none := by
            cases hfq : leafAtF f q with
            | none => rfl
            | some w => exact absurd (Or.inl (List.prefix_refl q)) (hfd q q (by simp [h]) (by simp [hfq]))
          exact Or.inl (by simp [this, h])
        · exact Or.inl (by simp [h])
        · exact Or.inr h

theorem pairwise_mem {σ : Type} {R : σ → σ → Prop} {l : List σ} (h : l.Pairwise R) :
    ∀ a ∈ l, ∀ b ∈ l, a = b ∨ R a b ∨ R b a := fun _ ha _ hb =>
  List.Pairwise.forall_of_forall_of_flip (R := fun a b => a = b ∨ R a b ∨ R b a) (fun _ _ => Or.inl rfl)
    (h.imp fun h => Or.inr (Or.inl h)) (h.imp fun h => Or.inr (Or.inr h)) ha hb

/-- with distinct paths throughout, the repeated `flat |= flatten(col)` is the concatenation -/
theorem foldMergeFlat_eq (cols : List (String × Tree β))
    (hn : (paths (cols.flatMap fun ct => ct.2.flatten)).Nodup) :
    cols.foldl (fun a ct => mergeFlat a ct.2.flatten) [] = cols.flatMap fun ct => ct.2.flatten := by
  have := setFlat_isUpsert.foldl_append (a := []) hn (fun _ _ h => nomatch h)
  rwa [List.foldl_flatMap, List.nil_append] at this

theorem mergeCols_spec (cols : List (String × Tree β)) (hnode : ∀ ct ∈ cols, ∃ f, ct.2 = .node f ∧ WFF f)
    (hpw : cols.Pairwise fun ct ct' => ∀ f f', ct.2 = .node f → ct'.2 = .node f' → Disjoint f f') :
    ∃ S, unflatten (cols.foldl (fun a ct => mergeFlat a ct.2.flatten) []) = .ok S ∧ WFF S ∧
      ∀ q v, leafAtF S q = some v ↔ ∃ ct ∈ cols, ct.2.leafAt q = some v := by
  have hwf : ∀ ct ∈ cols, ct.2.WF := by
    intro ct hct
    obtain ⟨f, hf, hw⟩ := hnode ct hct
    exact hf ▸ hw
  have hn : (paths (cols.flatMap fun ct => ct.2.flatten)).Nodup := by
    rw [paths, List.map_flatMap, List.Nodup, List.pairwise_flatMap]
    refine ⟨fun ct hct => Tree.flatten_nodup ct.2 (hwf ct hct), hpw.imp_of_mem ?_⟩
    intro a b ha hb hab q h1 _ h2 e
    subst e
    obtain ⟨f1, hf1, hw1⟩ := hnode a ha
    obtain ⟨f2, hf2, hw2⟩ := hnode b hb
    rw [hf1] at h1; rw [hf2] at h2
    exact hab f1 f2 hf1 hf2 q q ((mem_paths_flattenF f1 hw1 q).mp h1) ((mem_paths_flattenF f2 hw2 q).mp h2)
      (Or.inl (List.prefix_refl q))
  have hsrc : ∀ q v, (q, v) ∈ cols.foldl (fun a ct => mergeFlat a ct.2.flatten) [] ↔
      ∃ ct ∈ cols, ct.2.leafAt q = some v := by
    intro q v
    rw [foldMergeFlat_eq cols hn, List.mem_flatMap]
    constructor
    · rintro ⟨ct, hct, h⟩; exact ⟨ct, hct, Tree.flatten_sound _ q v h (hwf ct hct)⟩
    · rintro ⟨ct, hct, h⟩; exact ⟨ct, hct, Tree.flatten_complete _ q v h⟩
  obtain ⟨S, hS, hSleaf, hSw, _⟩ := unflatten_spec (cols.foldl (fun a ct => mergeFlat a ct.2.flatten) [])
    (foldMergeFlat_eq cols hn ▸ hn)
    (by
      intro pb hpb
      obtain ⟨ct, hct, hl⟩ := (hsrc pb.1 pb.2).mp hpb
      obtain ⟨f, hf, _⟩ := hnode ct hct
      rw [hf] at hl
      intro e; rw [e] at hl; simp at hl)
    (by
      -- two entries come from the same dict, whose leaf paths never nest, or from two that are apart
      intro pb hpb pb' hpb' hp
      obtain ⟨a, ha, hl1⟩ := (hsrc pb.1 pb.2).mp hpb
      obtain ⟨b, hb, hl2⟩ := (hsrc pb'.1 pb'.2).mp hpb'
      obtain ⟨f1, hf1, _⟩ := hnode a ha
      obtain ⟨f2, hf2, _⟩ := hnode b hb
      have n1 : leafAtF f1 pb.1 ≠ none := by rw [hf1] at hl1; simp at hl1; simp [hl1]
      have n2 : leafAtF f2 pb'.1 ≠ none := by rw [hf2] at hl2; simp at hl2; simp [hl2]
      rcases pairwise_mem hpw a ha b hb with rfl | h | h
      · rw [hf1] at hf2; cases hf2
        exact leafAtF_prefix_eq f1 _ _ n1 n2 hp
      · exact absurd (Or.inl hp) (h f1 f2 hf1 hf2 _ _ n1 n2)
      · exact absurd (Or.inr hp) (h f2 f1 hf2 hf1 _ _ n2 n1))
  exact ⟨S, hS, hSw, fun q v => by rw [hSleaf q v, hsrc q v]⟩

end Flax.Bridge
