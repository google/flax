/-
`PrefetchIterator` refines a FIFO queue over the source's items: what the consumer's `next` calls have
produced is a trace of the specification `Emit` that ends in the items the implementation still
holds (`pending`); only `next` changes `pending`.  Order, exception and safety under `close()` are read
off the trace, absence of deadlock off the control clauses of `Refines`, progress off a potential.
-/
import Flax.Proofs.Prefetch

namespace Flax.Prefetch
variable {α ε : Type}

/-- the item the producer has fetched and not yet appended -/
def held : PPc α ε → List α
  | .haveItem a => [a]
  | _ => []

theorem held_afterWait (s : St α ε) : held (afterWait s) = [] := by
  rcases afterWait_eq s with h | h <;> rw [h] <;> rfl

/-- the items on their way to the consumer, in delivery order -/
def pending (s : St α ε) : List α := s.buffer ++ held s.ppc ++ s.src

/-- One `next()` of the specification, on the items `rem` not yet delivered.  The source's ending
comes only after all items.  `StopIteration` at any other time is what `close()` causes: it is
allowed only when `strict` fails. -/
inductive Emit (ending : Ending ε) (strict : Prop) : List α → Obs α ε → List α → Prop
  | item {a r} : Emit ending strict (a :: r) (.item a) r
  | ending : Emit ending strict [] ending.obs []
  | closed {r} : ¬ strict → Emit ending strict r .stop r

/-- `next` calls answering `tr` take the undelivered items from `r` to `r'` -/
inductive Trace (ending : Ending ε) (strict : Prop) : List α → List (Obs α ε) → List α → Prop
  | nil {r} : Trace ending strict r [] r
  | cons {r r' r'' o tr} : Emit ending strict r o r' → Trace ending strict r' tr r'' →
      Trace ending strict r (o :: tr) r''

theorem Trace.snoc {ending : Ending ε} {strict : Prop} {r r' r'' : List α} {tr : List (Obs α ε)} {o : Obs α ε}
    (h : Trace ending strict r tr r') (ho : Emit ending strict r' o r'') :
    Trace ending strict r (tr ++ [o]) r'' := by
  induction h with
  | nil => exact .cons ho .nil
  | cons h1 _ ih => exact .cons h1 (ih ho)

theorem Trace.items {ending : Ending ε} {strict : Prop} {r r' : List α} {tr : List (Obs α ε)}
    (h : Trace ending strict r tr r') : itemsOf tr ++ r' = r := by
  induction h with
  | nil => rfl
  | cons h1 _ ih =>
    cases h1 with
    | item => exact congrArg (_ :: ·) ih
    | ending => cases ending <;> exact ih
    | closed => exact ih

theorem Trace.strict {ending : Ending ε} {r r' : List α} {tr : List (Obs α ε)}
    (h : Trace ending True r tr r') :
    ∃ k m, k ≤ r.length ∧ tr = (r.take k).map Obs.item ++ List.replicate m ending.obs ∧
      (0 < m → k = r.length) := by
  induction h with
  | nil => exact ⟨0, 0, Nat.zero_le _, rfl, nofun⟩
  | cons h1 _ ih =>
    obtain ⟨k, m, hk, htr, hm⟩ := ih
    cases h1 with
    | item => exact ⟨k + 1, m, Nat.succ_le_succ hk, by rw [htr]; rfl, fun h => congrArg (· + 1) (hm h)⟩
    | ending =>
      refine ⟨0, m + 1, Nat.le_refl _, ?_, fun _ => rfl⟩
      rw [htr, List.take_nil, List.replicate_succ]; rfl
    | closed hn => exact absurd trivial hn

/-- What holds after every step.  The last two clauses are what the repaired constructor ordering
adds on schedules without `close()` (`strict`): `_active` is cleared only by the producer's handler,
which stores the ending, and nothing clears `_error` after the thread has started. -/
structure Refines (items : List α) (ending : Ending ε) (strict : Prop) (s : St α ε) : Prop where
  trace : Trace ending strict items s.out (pending s)
  haveErr : ∀ e, s.ppc = .haveErr e → e = ending ∧ s.src = []
  err : ∀ e, s.error = some e → e = ending ∧ s.src = [] ∧ s.ppc = .done
  done : s.ppc = .done → s.active = false
  ctor_le : s.ctor ≤ 3
  early : strict → s.ctor < 2 → s.ppc = .fetch ∧ s.active = true
  stored : strict → s.active = false → s.error = some ending

theorem Refines.init (items : List α) (ending : Ending ε) (strict : Prop) :
    Refines items ending strict (init items) :=
  ⟨.nil, nofun, nofun, nofun, Nat.zero_le _, fun _ _ => ⟨rfl, rfl⟩, nofun⟩

theorem Refines.step {items : List α} {ending : Ending ε} {strict : Prop} {v : Variant} {bs : Nat}
    {l : Label} {s s' : St α ε} (hs : strict → v = .fixed ∧ l ≠ .close)
    (hi : Refines items ending strict s) (h : Step v bs ending l s s') : Refines items ending strict s' := by
  obtain ⟨htr, herr, hE, hdone, hc3, hearly, hstored⟩ := hi
  have noErr : ∀ {p : PPc α ε}, s.ppc = p → p ≠ .done → ∀ e, s.error = some e → False :=
    fun hp hne e he => hne (hp.symm.trans (hE e he).2.2)
  have started : ∀ {p : PPc α ε}, s.ppc = p → p ≠ .fetch → strict → s.ctor < 2 → False :=
    fun hp hne hst hlt => hne (hp.symm.trans (hearly hst hlt).1)
  cases h with
  | ctor0 h0 =>
    have ha : strict → s.active = true := fun hst => (hearly hst (by omega)).2
    exact ⟨htr, herr, fun e he => hE e (Option.ite_none_left_eq_some.mp he).2, hdone, by simp,
      fun hst _ => hearly hst (by omega), fun hst hf => by rw [ha hst] at hf; cases hf⟩
  | ctor1 h1 => exact ⟨htr, herr, hE, hdone, by simp, fun _ hlt => absurd hlt (by simp), hstored⟩
  | ctor2 h2 =>
    refine ⟨htr, herr, fun e he => hE e (Option.ite_none_left_eq_some.mp he).2, hdone, by simp,
      fun _ hlt => absurd hlt (by simp), fun hst hf => ?_⟩
    -- the repaired constructor does not touch `_error` here
    show (if v = .orig then none else s.error) = _
    rw [(hs hst).1]; exact hstored hst hf
  | @fetchItem _ x r hc hp hsrc =>
    have e : pending { s with ppc := .haveItem x, src := r } = pending s := by simp [pending, held, hp, hsrc]
    exact ⟨e ▸ htr, nofun, fun e he => (noErr hp nofun e he).elim, nofun, hc3, fun _ (hlt : s.ctor < 2) => by omega, hstored⟩
  | fetchEnd hc hp hsrc =>
    have e : pending { s with ppc := .haveErr ending } = pending s := by simp [pending, held, hp]
    exact ⟨e ▸ htr, fun e he => ⟨(PPc.haveErr.inj he).symm, hsrc⟩, fun e he => (noErr hp nofun e he).elim, nofun, hc3,
      fun _ (hlt : s.ctor < 2) => by omega, hstored⟩
  | @putGo _ x hp hpp =>
    have e : pending { s with buffer := s.buffer ++ [x], ppc := afterWait s } = pending s := by
      rw [pending, pending, held_afterWait, hp]; simp [held]
    exact ⟨e ▸ htr, fun e he => absurd he (afterWait_ne_haveErr s e), fun e he => (noErr hp nofun e he).elim,
      afterWait_done, hc3, fun hst hlt => (started hp nofun hst hlt).elim, hstored⟩
  | @putWait _ x hp hpp =>
    have e : pending { s with buffer := s.buffer ++ [x], ppc := .waiting } = pending s := by
      simp [pending, held, hp]
    exact ⟨e ▸ htr, nofun, fun e he => (noErr hp nofun e he).elim, nofun, hc3,
      fun hst hlt => (started hp nofun hst hlt).elim, hstored⟩
  | wake hp hpp =>
    have e : pending { s with ppc := afterWait s } = pending s := by rw [pending, pending, held_afterWait, hp]; rfl
    exact ⟨e ▸ htr, fun e he => absurd he (afterWait_ne_haveErr s e), fun e he => (noErr hp nofun e he).elim,
      afterWait_done, hc3, fun hst hlt => (started hp nofun hst hlt).elim, hstored⟩
  | @fail _ e hp =>
    have e' : pending { s with error := some e, active := false, ppc := .done } = pending s := by
      simp [pending, held, hp]
    refine ⟨e' ▸ htr, nofun, fun e1 he1 => ?_, fun _ => rfl, hc3, fun hst hlt => (started hp nofun hst hlt).elim, fun _ _ => ?_⟩
    · cases he1; exact ⟨(herr e hp).1, (herr e hp).2, rfl⟩
    · show some e = _; rw [(herr e hp).1]
  | @nextItem _ x r hc hb =>
    have e : pending s = x :: pending { s with buffer := r, out := s.out ++ [.item x] } := by
      simp [pending, hb]
    exact ⟨htr.snoc (e ▸ .item), herr, hE, hdone, hc3, hearly, hstored⟩
  | nextEnd hc hb ha =>
    refine ⟨htr.snoc ?_, herr, hE, hdone, hc3, hearly, hstored⟩
    show Emit ending strict (pending s) (nextTail s.error) (pending s)
    cases he : s.error with
    | none => exact .closed fun hst => by have := hstored hst ha; rw [he] at this; cases this
    | some e =>
      -- a stored ending is re-raised only with everything delivered: buffer, producer and source are empty
      obtain ⟨hee, hsrc, hd⟩ := hE e he
      have : pending s = [] := by simp [pending, held, hb, hd, hsrc]
      rw [this, hee]; exact .ending
  | close hc =>
    exact ⟨htr, herr, hE, fun _ => rfl, hc3, fun hst => absurd rfl (hs hst).2, fun hst => absurd rfl (hs hst).2⟩

theorem run_refines {items : List α} {ending : Ending ε} {strict : Prop} {v : Variant} {bs : Nat}
    {sched : List Label} (hs : strict → v = .fixed ∧ Label.close ∉ sched) {s : St α ε}
    (h : run v bs ending sched (init items) = some s) : Refines items ending strict s :=
  run_preserves (A := fun l => strict → v = .fixed ∧ l ≠ .close) (fun _ _ _ hl hi hst => hi.step hl hst) sched
    (fun _ hl hst => ⟨(hs hst).1, fun hc => (hs hst).2 (hc ▸ hl)⟩) _ _ (.init items ending strict) h

theorem Refines.enabled {items : List α} {ending : Ending ε} {strict : Prop} {s : St α ε}
    (hi : Refines items ending strict s) (v : Variant) {bs : Nat} (hbs : 1 ≤ bs) :
    ∃ l, l ≠ Label.close ∧ (Prefetch.step v bs ending l s).isSome = true := by
  obtain ⟨c, src, ppc, buf, act, err, out⟩ := s
  have hc3 : c ≤ 3 := hi.ctor_le
  rcases c with _ | _ | _ | _ | c
  · exact ⟨.ctor, nofun, rfl⟩
  · exact ⟨.ctor, nofun, rfl⟩
  · exact ⟨.ctor, nofun, rfl⟩
  · -- the constructor has returned: whichever segment the producer is at can run, except a
    -- `wait_for` on a full buffer, and then (`bs ≥ 1`) the consumer finds an item
    cases ppc with
    | fetch => exact ⟨.fetch, nofun, by cases src <;> rfl⟩
    | haveItem x =>
      refine ⟨.put, nofun, ?_⟩
      dsimp only [Prefetch.step]
      split <;> rfl
    | haveErr e => exact ⟨.fail, nofun, rfl⟩
    | waiting =>
      by_cases hpp : prodPred bs (⟨3, src, .waiting, buf, act, err, out⟩ : St α ε) = true
      · exact ⟨.wake, nofun, by simp [Prefetch.step, hpp]⟩
      · cases buf with
        | nil => simp [prodPred] at hpp; omega
        | cons x r => exact ⟨.next, nofun, rfl⟩
    | done =>
      cases hi.done rfl
      refine ⟨.next, nofun, ?_⟩
      cases buf with
      | cons x r => rfl
      | nil => cases err <;> rfl
  · omega

/-- The producer's position in the potential: each of its steps lowers it, except fetching an item,
which raises it by 2 and is paid for by the item that leaves the source. -/
def PPc.weight : PPc α ε → Nat
  | .done => 0
  | .haveErr _ => 1
  | .fetch => 2
  | .waiting => 3
  | .haveItem _ => 4

/-- Constructor segments left, three producer steps (fetch, put, wake) per unfetched item, and the
producer's position.  Buffered items weigh nothing: the `next` that takes one lengthens `out`. -/
def potential (s : St α ε) : Nat := (3 - s.ctor) + 3 * s.src.length + s.ppc.weight

theorem Step.potential_lt {v : Variant} {bs : Nat} {ending : Ending ε} {l : Label} (hl : l ≠ .close)
    {s s' : St α ε} (h : Step v bs ending l s s') :
    potential s' + 1 + s.out.length ≤ potential s + s'.out.length := by
  cases h with
  | ctor0 h0 => simp +arith only [potential, h0, Nat.reduceSub]
  | ctor1 h1 => simp +arith only [potential, h1, Nat.reduceSub]
  | ctor2 h2 => simp +arith only [potential, h2, Nat.reduceSub]
  | fetchItem hc hp hsrc => simp +arith only [potential, PPc.weight, hp, hsrc, List.length_cons]
  | fetchEnd hc hp hsrc => simp +arith only [potential, PPc.weight, hp]
  | putGo hp hpp =>
    cases ha : s.active <;> simp +arith only [potential, PPc.weight, hp, afterWait, ha, Bool.false_eq_true, ↓reduceIte]
  | putWait hp hpp => simp +arith only [potential, PPc.weight, hp]
  | wake hp hpp =>
    cases ha : s.active <;> simp +arith only [potential, PPc.weight, hp, afterWait, ha, Bool.false_eq_true, ↓reduceIte]
  | fail hp => simp +arith only [potential, PPc.weight, hp]
  | nextItem hc hb => simp +arith only [potential, List.length_append, List.length_singleton]
  | nextEnd hc hb ha => simp +arith only [potential, List.length_append, List.length_singleton]
  | close => exact absurd rfl hl

theorem run_potential (v : Variant) (bs : Nat) (ending : Ending ε) :
    ∀ (sched : List Label), Label.close ∉ sched → ∀ (s s' : St α ε),
      run v bs ending sched s = some s' →
        sched.length + potential s' + s.out.length ≤ potential s + s'.out.length := by
  intro sched
  induction sched with
  | nil => intro _ s s' h; cases h; simp
  | cons l ls ih =>
    intro hnc s s' h
    obtain ⟨s1, h1, h2⟩ := run_cons_eq_some h
    have h1 := h1.potential_lt (fun hc => hnc (hc ▸ List.mem_cons_self))
    have h2 := ih (fun hc => hnc (List.mem_cons_of_mem _ hc)) s1 s' h2
    simp only [List.length_cons]; omega

end Flax.Prefetch
