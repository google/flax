/- C06: what the transforms do to a scope's dicts between levels (for the publish / broadcast theorems and `remat_scan`).
   `dset` is an upsert (`Proofs/Assoc`); on disjoint keys `dupdate` and `mergeGroups` are concatenation, so regrouping a
   merged scope by the same filters returns the groups; `publish` is a sequence of writes. -/
import Flax.Proofs.LiftLoopGroup
import Flax.Proofs.Assoc


namespace Flax.LiftLoop
open Flax.Filter

theorem dset_isUpsert {β : Type} : Assoc.IsUpsert fun k (v : β) d => dset d k v :=
  ⟨fun _ _ => rfl, fun _ _ _ _ => if_pos rfl, fun _ _ _ h => if_neg h⟩

theorem dget_dset_self {β : Type} (d : List (String × β)) (k : String) (v : β) : dget (dset d k v) k = some v :=
  dset_isUpsert.lookup_self k v d

theorem dget_dset_ne {β : Type} (d : List (String × β)) (k k2 : String) (v : β) (h : k2 ≠ k) :
    dget (dset d k v) k2 = dget d k2 :=
  dset_isUpsert.lookup_ne h v d

theorem keys_dset_of_mem {β : Type} : ∀ (d : List (String × β)) (k : String) (v : β), k ∈ d.map (·.1) →
    (dset d k v).map (·.1) = d.map (·.1) :=
  fun _ _ v h => dset_isUpsert.keys_of_mem v h

theorem dset_of_not_mem {β : Type} (d : List (String × β)) (k : String) (v : β) (h : k ∉ d.map (·.1)) :
    dset d k v = d ++ [(k, v)] :=
  dset_isUpsert.of_not_mem v h

theorem dset_cons_ne {β : Type} (p : String × β) (rest : List (String × β)) (k : String) (v : β) (h : p.1 ≠ k) :
    dset (p :: rest) k v = p :: dset rest k v :=
  dset_isUpsert.miss v p.2 rest h

theorem dset_dset {β : Type} (d : List (String × β)) (k : String) (x y : β) : dset (dset d k x) k y = dset d k y :=
  dset_isUpsert.set_set k x y d

theorem dget_append_single {β : Type} (acc : List (String × β)) (x : String × β) (k : String) (h : k ≠ x.1) :
    (dget (acc ++ [x]) k).isNone = (dget acc k).isNone := by
  rw [dget, List.lookup_append, Assoc.lookup_cons, if_neg (Ne.symm h)]
  exact congrArg _ Option.or_none

theorem foldl_cons_head {β γ : Type} (f : List β → γ → List β) (p : β) : ∀ (l : List γ) (o : List β),
    (∀ x ∈ l, ∀ o, f (p :: o) x = p :: f o x) → l.foldl f (p :: o) = p :: l.foldl f o := by
  intro l
  induction l with
  | nil => intro o _; rfl
  | cons x xs ih =>
    intro o h
    rw [List.foldl_cons, h x (by simp), ih _ (fun y hy => h y (by simp [hy])), List.foldl_cons]

theorem dupdate_disjoint {β : Type} (e d : List (String × β)) (hn : (e.map (·.1)).Nodup)
    (hd : ∀ k ∈ e.map (·.1), k ∉ d.map (·.1)) : dupdate d e = d ++ e :=
  dset_isUpsert.foldl_append hn hd

theorem foldl_dupdate_flatten {β : Type} : ∀ (gs : List (List (String × β))) (d : List (String × β)),
    ((d ++ gs.flatten).map (·.1)).Nodup → gs.foldl dupdate d = d ++ gs.flatten
  | [], d, _ => by simp
  | g :: gs, d, h => by
    rw [List.flatten_cons, ← List.append_assoc] at h
    have hg : dupdate d g = d ++ g :=
      dset_isUpsert.foldl_append_of_nodup (((List.sublist_append_left _ _).map _).nodup h)
    rw [List.foldl_cons, hg, foldl_dupdate_flatten gs (d ++ g) h, List.flatten_cons, List.append_assoc]

theorem mergeGroups_flatten {β : Type} (gs : List (List (String × β))) (h : (gs.flatten.map (·.1)).Nodup) :
    mergeGroups gs = gs.flatten := by
  unfold mergeGroups
  have := foldl_dupdate_flatten gs [] (by simpa using h)
  simpa using this

/-- role `g` of the concatenation of groups whose keys match first at `off`, `off + 1`, … is group `g - off` -/
theorem filter_flatten_role {β : Type} (fs : List LFilter) : ∀ (gs : List (List (String × β))) (off : Nat),
    (∀ j (hj : j < gs.length), ∀ kv ∈ gs[j], firstIdx fs kv.1 = some (off + j)) → ∀ g,
    roleGroup gs.flatten fs g = if off ≤ g then gs.getD (g - off) [] else [] := by
  intro gs
  induction gs with
  | nil => intro off _ g; simp [roleGroup]
  | cons x xs ih =>
    intro off h g
    have hx : ∀ kv ∈ x, firstIdx fs kv.1 = some off := fun kv hkv => h 0 (Nat.zero_lt_succ _) kv hkv
    have hxs := ih (off + 1) (fun j hj kv hkv =>
      (h (j + 1) (Nat.succ_lt_succ hj) kv hkv).trans (congrArg some (Nat.add_right_comm off j 1))) g
    unfold roleGroup at hxs ⊢
    rw [List.flatten_cons, List.filter_append, hxs]
    by_cases hg : g = off
    · subst hg
      rw [List.filter_eq_self.2 (fun kv hkv => by rw [hx kv hkv]; exact decide_eq_true rfl),
        if_neg (Nat.not_succ_le_self g), if_pos (Nat.le_refl g), Nat.sub_self, List.append_nil]
      rfl
    · rw [List.filter_eq_nil_iff.2 (fun kv hkv => by
        rw [hx kv hkv]; exact fun e => hg (Option.some.inj (of_decide_eq_true e)).symm), List.nil_append]
      by_cases hle : off ≤ g
      · have hlt : off + 1 ≤ g := Nat.lt_of_le_of_ne hle (Ne.symm hg)
        rw [if_pos hle, if_pos hlt, ← Nat.succ_pred_eq_of_pos (Nat.sub_pos_of_lt hlt)]
        rfl
      · rw [if_neg hle, if_neg (fun h => hle (Nat.le_of_succ_le h))]

theorem regroup_after_merge {β : Type} (fs : List LFilter) (gs : List (List (String × β)))
    (hrole : ∀ j (hj : j < gs.length), ∀ kv ∈ gs[j], firstIdx fs kv.1 = some j)
    (hnd : (gs.flatten.map (·.1)).Nodup) (g : Nat) :
    roleGroup (mergeGroups gs) fs g = gs.getD g [] := by
  rw [mergeGroups_flatten gs hnd,
    filter_flatten_role fs gs 0 (fun j hj kv hkv => (hrole j hj kv hkv).trans (by rw [Nat.zero_add])) g,
    if_pos (Nat.zero_le g), Nat.sub_zero]

theorem dupdate_same_keys {β : Type} : ∀ (d e : List (String × β)), d.map (·.1) = e.map (·.1) →
    (e.map (·.1)).Nodup → dupdate d e = e := by
  unfold dupdate
  intro d
  induction d with
  | nil => intro e h _; cases e with
    | nil => rfl
    | cons x xs => simp at h
  | cons p ps ih =>
    intro e h hnd
    cases e with
    | nil => simp at h
    | cons q qs =>
      obtain ⟨k, v⟩ := p
      obtain ⟨k', v'⟩ := q
      simp only [List.map_cons, List.cons.injEq] at h
      obtain ⟨hk, hrest⟩ := h
      subst hk
      simp only [List.map_cons, List.nodup_cons] at hnd
      simp only [List.foldl_cons, dset, if_true]
      rw [foldl_cons_head _ (k, v') qs ps fun kv hkv o => dset_cons_ne _ _ _ _ fun e =>
        hnd.1 (by rw [show k = kv.1 from e]; exact List.mem_map_of_mem hkv)]
      rw [ih qs hrest hnd.2]

theorem reinject_eq {α : Type} : ∀ (bIn bOut : Vars α), (bIn.map (·.1)).Nodup →
    reinject bIn bOut = bOut ++ bIn.filter (fun cc => (dget bOut cc.1).isNone) := by
  unfold reinject
  intro bIn
  induction bIn with
  | nil => intro acc _; simp
  | cons x xs ih =>
    intro acc hnd
    simp only [List.map_cons, List.nodup_cons] at hnd
    simp only [List.foldl_cons, List.filter_cons]
    cases hx : dget acc x.1 with
    | some v =>
      simp only [Option.isSome_some, if_true, Option.isNone_some, Bool.false_eq_true, if_false]
      exact ih acc hnd.2
    | none =>
      simp only [Option.isSome_none, Bool.false_eq_true, if_false, Option.isNone_none, if_true]
      rw [ih (acc ++ [x]) hnd.2]
      have : xs.filter (fun cc => (dget (acc ++ [x]) cc.1).isNone) = xs.filter (fun cc => (dget acc cc.1).isNone) := by
        apply List.filter_congr
        intro cc hcc
        apply dget_append_single
        intro e
        exact hnd.1 (by rw [← e]; exact List.mem_map_of_mem hcc)
      rw [this]; simp

/-- `vars[col][name]`, `none` if either key is absent -/
def getVar {α : Type} (vars : Vars α) (col name : String) : Option (Arr α) := (dget vars col).bind (fun c => dget c name)

theorem getVar_putVar_self {α : Type} (vars : Vars α) (col name : String) (v : Arr α) :
    getVar (putVar vars col name v) col name = some v := by
  simp [getVar, putVar, dget_dset_self]

theorem getVar_putVar_ne {α : Type} (vars : Vars α) (col name c n : String) (v : Arr α)
    (h : ¬ (col = c ∧ name = n)) : getVar (putVar vars col name v) c n = getVar vars c n := by
  unfold getVar putVar
  by_cases hc : c = col
  · subst hc
    have hn : n ≠ name := fun e => h ⟨rfl, e.symm⟩
    rw [dget_dset_self]
    simp only [Option.bind_some]
    rw [dget_dset_ne _ _ _ _ hn]
    cases dget vars c <;> simp [dget]
  · rw [dget_dset_ne _ _ _ _ hc]

theorem putVar_cons_ne {α : Type} (p : String × Col α) (o : Vars α) (col name : String) (v : Arr α)
    (h : p.1 ≠ col) : putVar (p :: o) col name v = p :: putVar o col name v := by
  obtain ⟨c, new⟩ := p
  have hb : (col == c) = false := by simpa using fun e => h e.symm
  simp only [putVar, dget, List.lookup_cons, hb]
  exact dset_cons_ne _ _ _ _ h

/-- the writes `publish_results_fn` performs, in order: one per variable of every MUTABLE collection of every
out group — a read-only collection contributes nothing and does not affect its siblings -/
def publishWrites {α : Type} (scopeMut : LFilter) (groups : List (Vars α)) : List (String × String × Arr α) :=
  groups.flatMap (fun g => g.flatMap (fun cc =>
    if inFilter scopeMut cc.1 then cc.2.map (fun nv => (cc.1, nv.1, nv.2)) else []))

theorem publish_eq_writes {α : Type} (m : LFilter) (outer : Vars α) (groups : List (Vars α)) :
    publish m outer groups = (publishWrites m groups).foldl (fun o w => putVar o w.1 w.2.1 w.2.2) outer := by
  unfold publish publishWrites
  rw [List.foldl_flatMap]
  congr 1
  funext o g
  rw [List.foldl_flatMap]
  congr 1
  funext o' cc
  by_cases h : inFilter m cc.1 = true
  · simp only [h, if_true, List.foldl_map]
  · simp [h]

theorem foldl_put_preserve {α : Type} (c n : String) : ∀ (ws : List (String × String × Arr α)) (o : Vars α),
    (∀ w ∈ ws, ¬ (w.1 = c ∧ w.2.1 = n)) →
    getVar (ws.foldl (fun o w => putVar o w.1 w.2.1 w.2.2) o) c n = getVar o c n := by
  intro ws
  induction ws with
  | nil => intro o _; rfl
  | cons w ws ih =>
    intro o h
    simp only [List.foldl_cons]
    rw [ih _ (fun w' hw' => h w' (by simp [hw']))]
    exact getVar_putVar_ne o w.1 w.2.1 c n w.2.2 (h w (by simp))

theorem foldl_putVar_col {α : Type} (col : String) : ∀ (vs : List (String × Arr α)) (o : Vars α), vs ≠ [] →
    vs.foldl (fun o nv => putVar o col nv.1 nv.2) o = dset o col (dupdate ((dget o col).getD []) vs) := by
  unfold dupdate
  intro vs
  induction vs with
  | nil => intro o h; exact absurd rfl h
  | cons nv vs ih =>
    intro o _
    simp only [List.foldl_cons]
    cases vs with
    | nil => simp [putVar]
    | cons nv2 vs2 =>
      rw [ih (putVar o col nv.1 nv.2) (by simp)]
      simp only [putVar, dget_dset_self, Option.getD_some, dset_dset]

/-- publishing a group with the scope's own structure returns it: a collection's writes rebuild its entry at the head,
later collections pass it by -/
theorem publish_same_structure {α : Type} (m : LFilter) : ∀ (V G : Vars α),
    V.map (fun cc => (cc.1, cc.2.map (·.1))) = G.map (fun cc => (cc.1, cc.2.map (·.1))) →
    (G.map (·.1)).Nodup → (∀ cc ∈ G, (cc.2.map (·.1)).Nodup) → (∀ cc ∈ G, inFilter m cc.1 = true) →
    publish m V [G] = G := by
  simp only [publish, List.foldl_cons, List.foldl_nil]
  intro V
  induction V with
  | nil =>
    intro G h _ _ _
    cases G with
    | nil => rfl
    | cons x xs => simp at h
  | cons p ps ih =>
    intro G h hnd hvn hm
    cases G with
    | nil => simp at h
    | cons q qs =>
      obtain ⟨c, old⟩ := p
      obtain ⟨c', new⟩ := q
      simp only [List.map_cons, List.cons.injEq, Prod.mk.injEq] at h
      obtain ⟨⟨hc, hnames⟩, hrest⟩ := h
      subst hc
      simp only [List.map_cons, List.nodup_cons] at hnd
      have hmq : inFilter m c = true := hm (c, new) (by simp)
      simp only [List.foldl_cons, hmq, if_true]
      have hhead : new.foldl (fun o nv => putVar o c nv.1 nv.2) ((c, old) :: ps) = (c, new) :: ps := by
        cases hn : new with
        | nil =>
          subst hn
          have : old = [] := by simpa using hnames
          simp [this]
        | cons nv nvs =>
          rw [← hn, foldl_putVar_col c new _ (by rw [hn]; simp)]
          simp only [dget, List.lookup_cons, beq_self_eq_true, Option.getD_some, dset, if_true]
          rw [dupdate_same_keys old new hnames (hvn (c, new) (by simp))]
      rw [hhead]
      have hne : ∀ cc ∈ qs, (c, new).1 ≠ cc.1 := fun cc hcc e =>
        hnd.1 (by rw [show c = cc.1 from e]; exact List.mem_map_of_mem hcc)
      have hcomm : ∀ cc ∈ qs, ∀ o : Vars α,
          (if inFilter m cc.1 then cc.2.foldl (fun o nv => putVar o cc.1 nv.1 nv.2) ((c, new) :: o) else (c, new) :: o) =
          (c, new) :: (if inFilter m cc.1 then cc.2.foldl (fun o nv => putVar o cc.1 nv.1 nv.2) o else o) := by
        intro cc hcc o
        by_cases hmm : inFilter m cc.1 = true
        · rw [if_pos hmm, if_pos hmm]
          exact foldl_cons_head _ _ cc.2 o fun nv _ o' => putVar_cons_ne _ _ _ _ _ (hne cc hcc)
        · rw [if_neg hmm, if_neg hmm]
      rw [foldl_cons_head _ (c, new) qs ps hcomm,
        ih qs hrest hnd.2 (fun cc hcc => hvn cc (by simp [hcc])) (fun cc hcc => hm cc (by simp [hcc]))]

end Flax.LiftLoop
