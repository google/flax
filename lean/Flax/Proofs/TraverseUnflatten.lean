/-
Unflattening a flat map (C16): a prefix-free map of leaves (and `empty_node`s) builds a well-formed dict whose flat form
is the map (`insertPath_flat`, `build_flat`), and the flat form with `f` applied entry by entry builds `mapWithPath f`
(`build_child_map`).
-/
import Flax.Proofs.Traverse

set_option linter.unusedSectionVars false

namespace Flax.Traverse

variable {κ α : Type}

theorem relT_okval (b : Bool) (v : FVal κ α) (h : OkVal b v) : relT b noLeaf v.toTree = [([], v)] := by
  rcases h with ⟨a, rfl⟩ | ⟨hb, rfl⟩
  · simp [FVal.toTree, relT]
  · simp [FVal.toTree, relT, noLeaf, hb]

variable [DecidableEq κ]

theorem okval_wf (b : Bool) (v : FVal κ α) (h : OkVal b v) : WF v.toTree := by
  rcases h with ⟨a, rfl⟩ | ⟨_, rfl⟩ <;> simp [FVal.toTree, WF, WFKvs]

theorem insertPath_flat (b : Bool) : ∀ (p : Path κ) (acc : List (κ × Tree κ α)) (v : FVal κ α),
    WFKvs acc → p ≠ [] → OkVal b v → (∀ e ∈ relKvs b noLeaf acc, Incomp e.1 p) →
    ∃ acc', insertPath acc p v.toTree = .ok acc' ∧
      (relKvs b noLeaf acc').Perm (relKvs b noLeaf acc ++ [(p, v)]) := by
  intro p
  induction p with
  | nil => exact fun _ _ _ hp => absurd rfl hp
  | cons k tl ih =>
    intro acc v hwf _ hv hinc
    obtain ⟨r, hacc, hset⟩ := below_set_perm (fun _ => relT b noLeaf) k acc (wf_nodup acc hwf)
    simp only [← relKvs_noLeaf_eq_below] at hacc hset
    -- what is below `k` already, seen from there, is incomparable with the rest of the path
    have hold : ∀ e ∈ (Dict.get acc k).elim [] (relT b noLeaf), Incomp e.1 tl := fun e he =>
      (incomp_cons k _ _).mp (hinc _ (hacc.mem_iff.mpr (List.mem_append_left _ (List.mem_map_of_mem he))))
    cases tl with
    | nil =>
      -- so for the last key nothing is: every entry there would extend `[k]`
      have hnil : (Dict.get acc k).elim [] (relT b noLeaf) = [] :=
        List.eq_nil_iff_forall_not_mem.mpr fun e he => (hold e he).2 List.nil_prefix
      rw [hnil] at hacc
      refine ⟨Dict.set acc k v.toTree, insertPath_single _ _ _, (hset v.toTree).trans ?_⟩
      rw [relT_okval b v hv]
      exact List.perm_append_comm.trans (hacc.symm.append_right _)
    | cons k2 rest =>
      -- and before the last key it is the content of the dict `sub` that the walk goes into (`[]` for a new key)
      obtain ⟨sub, hws, hinto, hsub⟩ : ∃ sub, WFKvs sub ∧ Into acc k sub ∧
          (Dict.get acc k).elim [] (relT b noLeaf) = relKvs b noLeaf sub := by
        cases hg : Dict.get acc k with
        | none => exact ⟨[], trivial, .inr ⟨hg, rfl⟩, rfl⟩
        | some old =>
          rw [hg] at hold
          cases old with
          | leaf x => exact absurd List.nil_prefix (hold ([], _) List.mem_cons_self).1
          | dict sub =>
            refine ⟨sub, wf_get acc hwf k _ hg, .inl hg, ?_⟩
            refine (relT_dict_noLeaf b sub).trans (if_neg fun hb => ?_)
            rw [Option.elim_some, relT_dict_noLeaf, if_pos hb] at hold
            exact (hold ([], _) List.mem_cons_self).1 List.nil_prefix
      rw [hsub] at hold hacc
      obtain ⟨sub', hs1, hs2⟩ := ih sub v hws (List.cons_ne_nil _ _) hv hold
      refine ⟨Dict.set acc k (.dict sub'), by rw [insertPath_into hinto _ (List.cons_ne_nil _ _), hs1]; rfl,
        (hset (.dict sub')).trans ?_⟩
      have hemp : relT b noLeaf (.dict sub') = relKvs b noLeaf sub' := by
        refine (relT_dict_noLeaf b sub').trans (if_neg ?_)
        cases sub' with
        | nil => exact absurd hs2.length_eq (by simp [relKvs])
        | cons _ _ => simp
      rw [hemp]
      refine ((hs2.map _).append_right r).trans ?_
      rw [List.map_append, List.append_assoc]
      refine (List.Perm.append_left _ List.perm_append_comm).trans ?_
      rw [← List.append_assoc]
      exact hacc.symm.append_right _

theorem build_flat (b : Bool) : ∀ (m : List (Path κ × FVal κ α)) (acc : List (κ × Tree κ α)), WFKvs acc →
    PrefixFree (relKvs b noLeaf acc ++ m) → (∀ e ∈ m, e.1 ≠ [] ∧ OkVal b e.2) →
    ∃ acc', build acc m = .ok acc' ∧ WFKvs acc' ∧ (relKvs b noLeaf acc').Perm (relKvs b noLeaf acc ++ m) := by
  intro m
  induction m with
  | nil => intro acc hwf _ _; exact ⟨acc, rfl, hwf, by simp⟩
  | cons e m ih =>
    intro acc hwf hpf hok
    obtain ⟨p, v⟩ := e
    have hinc : ∀ x ∈ relKvs b noLeaf acc, Incomp x.1 p := fun x hx =>
      (List.pairwise_append.mp hpf).2.2 x hx (p, v) List.mem_cons_self
    obtain ⟨hp, hv⟩ := hok (p, v) List.mem_cons_self
    obtain ⟨acc1, h1, h2⟩ := insertPath_flat b p acc v hwf hp hv hinc
    have hperm : (relKvs b noLeaf acc1 ++ m).Perm (relKvs b noLeaf acc ++ (p, v) :: m) := by
      have := List.Perm.append_right m h2
      simpa using this
    have hpf1 : PrefixFree (relKvs b noLeaf acc1 ++ m) := hpf.perm hperm.symm
    obtain ⟨acc2, h3, hw, h4⟩ := ih acc1 (insertPath_wf p acc _ acc1 hwf (okval_wf b v hv) h1) hpf1
      (fun x hx => hok x (List.mem_cons_of_mem _ hx))
    refine ⟨acc2, ?_, hw, h4.trans hperm⟩
    rw [build_cons, h1]
    exact h3

theorem build_flat_nil (b : Bool) (m : List (Path κ × FVal κ α)) (hpf : PrefixFree m)
    (hok : ∀ e ∈ m, e.1 ≠ [] ∧ OkVal b e.2) :
    ∃ kvs, build [] m = .ok kvs ∧ WFKvs kvs ∧ (relKvs b noLeaf kvs).Perm m :=
  build_flat b m [] trivial hpf hok

omit [DecidableEq κ] in
theorem appF_shift (f : Path κ → Tree κ α → Tree κ α) (k : κ) (l : List (Path κ × FVal κ α)) :
    (l.map (fun pv => (k :: pv.1, pv.2))).map (appF f)
      = (l.map (appF (fun p => f (k :: p)))).map (fun pv => (k :: pv.1, pv.2)) := by
  simp only [List.map_map]
  apply List.map_congr_left
  intro pv _
  simp only [Function.comp, appF]

theorem relKvs_map_appF (f : Path κ → Tree κ α → Tree κ α) (kvs : List (κ × Tree κ α)) :
    (relKvs true noLeaf kvs).map (appF f)
      = below (fun k c => (relT true noLeaf c).map (appF (fun p => f (k :: p)))) kvs := by
  rw [relKvs_noLeaf_eq_below, below, below, List.map_flatMap]
  exact Lists.flatMap_congr (fun kc _ => appF_shift f kc.1 _)

theorem build_child_map : ∀ (c : Tree κ α) (f : Path κ → Tree κ α → Tree κ α)
      (acc : List (κ × Tree κ α)) (k : κ), WF c → Dict.get acc k = none →
      build acc (((relT true noLeaf c).map (appF f)).map (fun pv => (k :: pv.1, pv.2)))
        = .ok (acc ++ [(k, mapWithPath f c)]) := by
  intro c
  induction c using Tree.induct with
  | leaf v => intro f acc k _ hk; exact build_single acc k (.val (f [] (.leaf v))) hk
  | dict kvs ih =>
    intro f acc k hwf hk
    have hw := (wfKvs_iff kvs).mp hwf
    have hkids : build [] ((relKvs true noLeaf kvs).map (appF f)) = .ok (mapWithPathKvs f kvs) := by
      rw [relKvs_map_appF, mapWithPathKvs_filterMap]
      refine (build_below _ _ kvs [] hw.1 (fun _ _ => rfl) (fun kc hkc acc h => ?_)).trans
        (congrArg _ (List.nil_append _))
      exact ih kc hkc (fun p => f (kc.1 :: p)) acc kc.1 (hw.2 kc hkc) h
    cases kvs with
    | nil => exact build_single acc k .emptyNode hk
    | cons x r =>
      have hne : (relKvs true noLeaf (x :: r)).map (appF f) ≠ [] := fun e =>
        relKvs_true_ne_nil (x :: r) (List.cons_ne_nil x r) (List.map_eq_nil_iff.mp e)
      have hp : ∀ pv ∈ (relKvs true noLeaf (x :: r)).map (appF f), pv.1 ≠ [] := by
        intro pv hpv
        obtain ⟨q, hq, rfl⟩ := List.mem_map.mp hpv
        exact relKvs_paths_ne_nil true noLeaf (x :: r) q hq
      simp only [relT_dict_noLeaf, List.isEmpty_cons, Bool.and_false, Bool.false_eq_true, ↓reduceIte]
      rw [build_under k _ acc [] hp (.inr ⟨hk, rfl⟩) (fun e => absurd e hne), hkids]
      simp [Except.map, Dict.set_of_get_none _ _ _ hk, mapWithPath]

theorem build_kvs_map (kvs : List (κ × Tree κ α)) (f : Path κ → Tree κ α → Tree κ α)
    (acc : List (κ × Tree κ α)) (hwf : WFKvs kvs) (hacc : ∀ kv ∈ kvs, Dict.get acc kv.1 = none) :
    build acc ((relKvs true noLeaf kvs).map (appF f)) = .ok (acc ++ mapWithPathKvs f kvs) := by
  have hw := (wfKvs_iff kvs).mp hwf
  rw [relKvs_map_appF, mapWithPathKvs_filterMap]
  refine build_below _ _ kvs acc hw.1 hacc (fun kc hkc acc h => ?_)
  exact build_child_map kc.2 (fun p => f (kc.1 :: p)) acc kc.1 (hw.2 kc hkc) h

end Flax.Traverse
