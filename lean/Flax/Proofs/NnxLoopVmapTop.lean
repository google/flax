/- C08 proofs: `nnx.vmap` — whenever it returns, the per-index reference is defined and returns the same -/
import Flax.Proofs.NnxLoopVmap
import Flax.Proofs.NnxLoopOuts
import Flax.Proofs.NnxLoopSizes

namespace Flax.NnxLoop
open Flax.Filter Flax.LiftLoop

def AxesSpec.entry (t : AxesSpec) (k : Nat) : Option Prefix :=
  match t with
  | .uniform p => some p
  | .perArg ps => ps[k]?

theorem expand_entry {t : AxesSpec} {n : Nat} {ops : List Prefix} (h : t.expand n = .ok ops) :
    ops.length = n ∧ ∀ k, k < n → ops[k]? = t.entry k := by
  cases t with
  | uniform p =>
    simp only [AxesSpec.expand] at h
    injection h with h
    subst h
    exact ⟨by simp, fun k hk => by simp [AxesSpec.entry, hk]⟩
  | perArg ps =>
    simp only [AxesSpec.expand] at h
    split at h
    · injection h with h
      subst h
      rename_i hl
      exact ⟨hl, fun k _ => rfl⟩
    · cases h

theorem sliceArg_skeleton {α : Type} [Inhabited α] {i : Nat} (st : Store α) {pure sl : List (PureArg α)}
    (h : mapX (sliceArg i) pure = .ok sl) : mapX (splitArgOut st) sl = mapX (splitArgOut st) pure := by
  refine mapX_through h (fun x _ y hx => ?_)
  cases x with
  | node g p sts => obtain ⟨_, _, rfl⟩ := sliceArg_node_ok.1 hx; rfl
  | arr p a => obtain ⟨_, _, rfl, _, rfl⟩ := sliceArg_arr_ok.1 hx; rfl

theorem vmapFn_ok {α : Type} {body : Body α} {outAxes : AxesSpec} {sl : List (PureArg α)}
    {r : List (List (State α)) × List (PureOut α)} (h : vmapFn body outAxes sl = .ok r) :
    ∃ inner inner' outs ops, mergeAll sl [] = .ok inner ∧ body inner (arraysOf sl) = .ok (inner', outs) ∧
      mapX (splitArgOut inner') sl = .ok r.1 ∧
      ¬ (outAxes.isBareStateAxes = true ∧ outs.length ≠ 1) ∧
      outAxes.expand outs.length = .ok ops ∧ mapX splitOut (ops.zip outs) = .ok r.2 := by
  simp only [vmapFn] at h
  cases h1 : mergeAll sl [] with
  | error e => simp [h1] at h
  | ok inner =>
    simp only [h1] at h
    cases h2 : body inner (arraysOf sl) with
    | error e => simp [h2] at h
    | ok io =>
      obtain ⟨inner', outs⟩ := io
      simp only [h2] at h
      cases h3 : mapX (splitArgOut inner') sl with
      | error e => simp [h3] at h
      | ok argsOut =>
        simp only [h3] at h
        by_cases hb : (outAxes.isBareStateAxes = true ∧ outs.length ≠ 1)
        · simp [hb] at h
        · have hb' : (outAxes.isBareStateAxes && decide (outs.length ≠ 1)) = false := and_decide_eq_false.2 hb
          simp only [hb'] at h
          cases h4 : outAxes.expand outs.length with
          | error e => simp [h4] at h
          | ok ops =>
            simp only [h4] at h
            cases h5 : mapX splitOut (ops.zip outs) with
            | error e => simp [h5] at h
            | ok pouts =>
              simp only [h5] at h
              injection h with h
              subst h
              exact ⟨inner, inner', outs, ops, rfl, h2, h3, hb, h4, h5⟩

/-- `VmapFn`'s return `r` from the reference call `c`: the split of the store `c` left, `c`'s results after `to_tree` -/
def CallRel {α : Type} (outAxes : AxesSpec) (pure : List (PureArg α)) (c : Store α × List (Out α))
    (r : List (List (State α)) × List (PureOut α)) : Prop :=
  mapX (splitArgOut c.1) pure = .ok r.1 ∧ ¬ (outAxes.isBareStateAxes = true ∧ c.2.length ≠ 1) ∧
  ∃ ops, outAxes.expand c.2.length = .ok ops ∧ mapX splitOut (ops.zip c.2) = .ok r.2

theorem vmap_index_rel {α : Type} [Inhabited α] {body : Body α} {outAxes : AxesSpec} {store : Store α}
    {pas : List (Prefix × Arg α)} {pure : List (PureArg α)} (hwf : WFArgs pas)
    (hpure : toTree store pas [] [] = .ok pure) {i : Nat} {r : List (List (State α)) × List (PureOut α)}
    (hr : (match mapX (sliceArg i) pure with
      | .error e => Except.error e
      | .ok sl => vmapFn body outAxes sl) = .ok r) :
    ∃ c, vmapCall body store pas i = .ok c ∧ CallRel outAxes pure c r := by
  cases hsl : mapX (sliceArg i) pure with
  | error e => rw [hsl] at hr; cases hr
  | ok sl =>
    simp only [hsl] at hr
    obtain ⟨ins, h1, h2, h3⟩ := vmap_call_sees_slices i (toTree_ok_iff.1 hpure) hwf sl [] hsl rfl
    obtain ⟨inner, inner', outsI, ops, e1, e2, e3, e4, e5, e6⟩ := vmapFn_ok hr
    rw [h2] at e1
    injection e1 with e1
    simp only [List.nil_append] at e1
    subst e1
    refine ⟨(inner', outsI), ?_, ?_, e4, ops, e5, e6⟩
    · simp only [vmapCall, h1, h3, bindX, e2]
    · rw [← sliceArg_skeleton inner' hsl]; exact e3

theorem column_outs {α : Type} {outAxes : AxesSpec} {pure : List (PureArg α)} {k : Nat} {q : Prefix}
    (hq : outAxes.entry k = some q) {cs : List (Store α × List (Out α))}
    {rs : List (List (List (State α)) × List (PureOut α))} (h : All2 (CallRel outAxes pure) cs rs) :
    ∀ col, column k (rs.map (·.2)) = .ok col →
      ∃ ocol, column k (cs.map (·.2)) = .ok ocol ∧ mapX (fun o => splitOut (q, o)) ocol = .ok col :=
  column_outs_of (fun c r hcr => by
    obtain ⟨_, _, ops, hops, hsp⟩ := hcr
    obtain ⟨hol, hoe⟩ := expand_entry hops
    exact ⟨ops, hol, fun hk => by rw [hoe k (hol ▸ hk)]; exact hq, hsp⟩) h

theorem nnxVmap_ok_pre {α : Type} [Inhabited α] {inAxes outAxes : AxesSpec} {axisSize : Option Nat} {verdict : Bool} {body : Body α}
    {args : List (Arg α)} {store : Store α} {res : Store α × List (Out α)}
    (h : nnxVmap inAxes outAxes axisSize verdict body args store = .ok res) :
    (inAxes.isBareStateAxes || inAxes.hasCarry || outAxes.hasCarry) = false ∧
    ∃ ps pure dims n0, inAxes.expand args.length = .ok ps ∧ toTree store (ps.zip args) [] [] = .ok pure ∧
      vmapDims pure = .ok dims ∧ jaxLength axisSize dims = .ok n0 := by
  simp only [nnxVmap] at h
  cases hbad : (inAxes.isBareStateAxes || inAxes.hasCarry || outAxes.hasCarry) with
  | true => simp [hbad] at h
  | false =>
  simp only [hbad] at h
  cases hps : inAxes.expand args.length with
  | error e => simp [hps] at h
  | ok ps =>
  simp only [hps] at h
  cases hpure : toTree store (ps.zip args) [] [] with
  | error e => simp [hpure] at h
  | ok pure =>
  simp only [hpure] at h
  cases hdims : vmapDims pure with
  | error e => simp [hdims] at h
  | ok dims =>
  simp only [hdims] at h
  cases hn : liftL (jaxLength axisSize dims) with
  | error e => simp [hn] at h
  | ok n => exact ⟨rfl, ps, pure, dims, n, rfl, hpure, hdims, liftL_ok.1 hn⟩

/-- whenever `nnx.vmap` returns, `vmapSpecN` returns the same: `hwf`, `houts` read at `Flax.C08.vmap_eq_per_index` -/
theorem nnxVmap_sound {α : Type} [Inhabited α] {inAxes outAxes : AxesSpec} {axisSize : Option Nat} {verdict : Bool}
    {body : Body α} {args : List (Arg α)} {store : Store α} {res : Store α × List (Out α)}
    (h : nnxVmap inAxes outAxes axisSize verdict body args store = .ok res)
    (hwf : ∀ ps, inAxes.expand args.length = .ok ps → WFArgs (ps.zip args))
    (houts : ∀ ps n calls, inAxes.expand args.length = .ok ps →
      mapX (vmapCall body store (ps.zip args)) (List.range n) = .ok calls →
      ∀ k col, column k (calls.map (·.2)) = .ok col → OutColWF col) :
    ∃ ps n, inAxes.expand args.length = .ok ps ∧ 0 < n ∧ verdict = true ∧
      inAxes.hasCarry = false ∧ outAxes.hasCarry = false ∧
      ((∀ ep ∈ ownedAll (ps.zip args) [], ∀ k, ep.2.at ep.1 = .ok (.axis k) →
          ∃ v, store.lookup ep.1.id = some v ∧ dimAt k v = .ok n) ∧
        (∀ pa ∈ arrArgs (ps.zip args), ∀ k, pa.1 = .ax (.axis k) → dimAt k pa.2 = .ok n) ∧
        (∀ m, axisSize = some m → m = n)) ∧
      vmapSpecN n outAxes body (ps.zip args) store = .ok res := by
  obtain ⟨hbad, ps, pure, dims, n, hps, hpure, hdims, hjl⟩ := nnxVmap_ok_pre h
  simp only [nnxVmap, hbad, hps, hpure, hdims, hjl, liftL] at h
  generalize hrs : mapX _ (List.range n) = mrs at h
  cases mrs with
  | error e => simp at h
  | ok rs =>
  simp only [] at h
  cases rs with
  | nil => simp at h
  | cons r0 rt =>
  simp only [] at h
  cases hv : verdict with
  | false => simp [hv] at h
  | true =>
  simp only [hv] at h
  generalize hwb : vmapWriteBack _ pure store = mwb at h
  cases mwb with
  | error e => simp at h
  | ok store' =>
  simp only [] at h
  generalize houtsX : mapX _ ((List.range r0.2.length).zip r0.2) = mouts at h
  cases mouts with
  | error e => simp at h
  | ok outs =>
  simp only [] at h
  injection h with h
  subst h
  have hW := hwf ps hps
  -- every index's `VmapFn` run is the reference call on the per-Variable slices followed by the inner `to_tree`
  -- (`vmap_index_rel`): the runs `r0 :: rt` factor through the reference calls `cs`, related position by position
  obtain ⟨cs, hcs, hrel⟩ := mapX_factor (C := vmapCall body store (ps.zip args))
    (R := CallRel outAxes pure) hrs (fun i _ r hr => vmap_index_rel hW hpure hr)
  have hlen := all2_length hrel
  cases cs with
  | nil => simp at hlen
  | cons c0 ct =>
  have hnpos : 0 < n := by
    have := mapX_length hrs
    simp at this
    omega
  -- the rows `vmapWriteBack` consumes are the splits of the stores the reference calls left
  have hrows : mapX (fun st => mapX (splitArgOut st) pure) ((c0 :: ct).map (·.1)) = .ok ((r0 :: rt).map (·.1)) := by
    rw [mapX_map]
    exact forall2_mapX (G := fun (c : Store α × List (Out α)) => mapX (splitArgOut c.1) pure)
      (proj := fun (r : List (List (State α)) × List (PureOut α)) => r.1) (fun _ _ hR => hR.1) hrel
  obtain ⟨vals, hvals, hstore⟩ := vmap_write_back (toTree_ok_iff.1 hpure) hW c0.1 (ct.map (·.1))
    ((r0 :: rt).map (·.1)) (by simpa using hrows) store store' hwb
  have hR0 : CallRel outAxes pure c0 r0 := by cases hrel with | cons h _ => exact h
  obtain ⟨_, hbare, ops0, hops0, hsp0⟩ := hR0
  obtain ⟨hol0, hoe0⟩ := expand_entry hops0
  have houtsS : mapX (collectOutAt ((c0 :: ct).map (·.2))) ((List.range ops0.length).zip ops0) = .ok outs :=
    outs_sound (C := vmapCollectOut) vmap_collect_out (rows := (r0 :: rt).map (·.2)) rfl
      hsp0 hol0
      (fun k hk col hcol => column_outs (by rw [← hoe0 k (hol0 ▸ hk), List.getElem?_eq_getElem hk]) hrel col hcol)
      (fun k col h => houts ps n (c0 :: ct) hps hcs k col h) houtsX
  obtain ⟨_, hic, hoc⟩ := or3_eq_false.1 hbad
  refine ⟨ps, n, hps, hnpos, rfl, hic, hoc, (vmapDims_mem (toTree_ok_iff.1 hpure) hdims).eq_n hjl,
    ?_⟩
  · have hb' : (outAxes.isBareStateAxes && decide (c0.2.length ≠ 1)) = false := and_decide_eq_false.2 hbare
    simp only [List.map_cons] at houtsS
    simp only [vmapSpecN, hcs, bindX, List.map_cons, hvals, hb', hops0, houtsS, hstore]
    rfl

end Flax.NnxLoop
