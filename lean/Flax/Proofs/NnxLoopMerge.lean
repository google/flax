/- C08 proofs: `ref_index` / `index_ref` bookkeeping (`markOwn`, `mergeEntries`), what `ctx.split` puts in each state
(`groupIdx`, `axAt`), and look-ups by path in a split. -/
import Flax.Proofs.NnxLoopAlias

namespace Flax.NnxLoop
open Flax.Filter Flax.LiftLoop

@[simp] theorem ownedOf_cons_true (e : Entry) (es : List Entry) (os : List Bool) :
    ownedOf (e :: es) (true :: os) = e :: ownedOf es os := rfl

@[simp] theorem ownedOf_cons_false (e : Entry) (es : List Entry) (os : List Bool) :
    ownedOf (e :: es) (false :: os) = ownedOf es os := rfl

@[simp] theorem ownedOf_nil (os : List Bool) : ownedOf [] os = [] := by cases os with
  | nil => rfl
  | cons o os => cases o <;> rfl

theorem markOwn_length : ∀ (es : List Entry) (seen : List VarId), (markOwn es seen).1.length = es.length := by
  intro es
  induction es with
  | nil => intro seen; rfl
  | cons e es ih =>
    intro seen
    simp only [markOwn]
    split <;> simp [ih]

theorem markOwn_seen : ∀ (es : List Entry) (seen : List VarId),
    (markOwn es seen).2 = seen ++ (ownedOf es (markOwn es seen).1).map (·.id) := by
  intro es
  induction es with
  | nil => intro seen; simp [markOwn, ownedOf]
  | cons e es ih =>
    intro seen
    simp only [markOwn]
    split
    · simp only [ownedOf]
      exact ih seen
    · simp only [ownedOf, List.map_cons]
      rw [ih (seen ++ [e.id])]
      simp

theorem ownedOf_sublist : ∀ (es : List Entry) (own : List Bool), (ownedOf es own).Sublist es := by
  intro es
  induction es with
  | nil => intro own; cases own <;> simp [ownedOf]
  | cons x xs ih =>
    intro own
    cases own with
    | nil => simp [ownedOf]
    | cons o os =>
      cases o with
      | true => simp only [ownedOf]; exact (ih os).cons_cons x
      | false => simp only [ownedOf]; exact (ih os).cons x

theorem ownedOf_subset (es : List Entry) (own : List Bool) : ∀ e ∈ ownedOf es own, e ∈ es :=
  fun _ h => (ownedOf_sublist es own).subset h

theorem markOwn_owned_fresh : ∀ (es : List Entry) (seen : List VarId),
    (∀ e ∈ ownedOf es (markOwn es seen).1, e.id ∉ seen) ∧
    ((ownedOf es (markOwn es seen).1).map (·.id)).Nodup := by
  intro es
  induction es with
  | nil => intro seen; simp [ownedOf]
  | cons e es ih =>
    intro seen
    simp only [markOwn]
    split
    · simp only [ownedOf]
      exact ih seen
    · rename_i hnot
      simp only [ownedOf, List.map_cons, List.nodup_cons]
      obtain ⟨h1, h2⟩ := ih (seen ++ [e.id])
      refine ⟨?_, ?_, h2⟩
      · intro x hx
        rcases List.mem_cons.1 hx with h | h
        · subst h; exact hnot
        · have := h1 x h
          intro hc; exact this (List.mem_append_left _ hc)
      · intro hm
        obtain ⟨x, hx, hxe⟩ := List.mem_map.1 hm
        have := h1 x hx
        apply this
        rw [hxe]; simp

theorem markOwn_covers : ∀ (es : List Entry) (seen : List VarId), ∀ e ∈ es, e.id ∈ (markOwn es seen).2 := by
  intro es
  induction es with
  | nil => intro seen e h; cases h
  | cons x xs ih =>
    intro seen e h
    have hmono : ∀ (ys : List Entry) (s : List VarId), ∀ v ∈ s, v ∈ (markOwn ys s).2 := by
      intro ys s v hv; rw [markOwn_seen]; exact List.mem_append_left _ hv
    simp only [markOwn]
    rcases List.mem_cons.1 h with h | h
    · subst h
      split
      · rename_i hin; exact hmono xs seen _ hin
      · exact hmono xs _ _ (by simp)
    · split
      · exact ih seen e h
      · exact ih _ e h

/-- merge after split: when the `index_ref` so far is the `ref_index` the split started from, merging registers exactly
the owned Variables, in order -/
theorem mergeEntries_markOwn {α : Type} (w : Entry → Arr α) (st : State α) : ∀ (es : List Entry) (seen : List VarId)
    (inner : Store α), inner.map (·.1) = seen →
    (∀ e ∈ ownedOf es (markOwn es seen).1, st.lookup e.path = some (w e)) →
    mergeEntries es (markOwn es seen).1 st inner =
      .ok (inner ++ (ownedOf es (markOwn es seen).1).map (fun e => (e.id, w e))) := by
  intro es
  induction es with
  | nil => intro seen inner _ _; simp [mergeEntries, ownedOf]
  | cons e es ih =>
    intro seen inner hinv hst
    by_cases hin : e.id ∈ seen
    · have hm : markOwn (e :: es) seen = ((markOwn es seen).1.cons false, (markOwn es seen).2) := by
        simp [markOwn, hin]
      rw [hm] at hst ⊢
      have hs : (inner.lookup e.id).isSome := Assoc.lookup_isSome_iff.mpr (by rw [hinv]; exact hin)
      simp only [mergeEntries, hs, if_true, ownedOf_cons_false]
      exact ih seen inner hinv hst
    · have hm : markOwn (e :: es) seen =
          ((markOwn es (seen ++ [e.id])).1.cons true, (markOwn es (seen ++ [e.id])).2) := by
        simp [markOwn, hin]
      rw [hm] at hst ⊢
      have he : st.lookup e.path = some (w e) := hst e List.mem_cons_self
      simp only [mergeEntries, he, ownedOf_cons_true, List.map_cons]
      rw [ih (seen ++ [e.id]) (inner ++ [(e.id, w e)]) (by simp [hinv])
        (fun x hx => hst x (List.mem_cons_of_mem _ hx))]
      simp

theorem mergeEntries_collected {α : Type} {F : Entry → Except Err (VarId × Arr α)} (st : State α) (es : List Entry)
    (seen : List VarId) (inner : Store α) (hinv : inner.map (·.1) = seen)
    (h : ∀ e ∈ ownedOf es (markOwn es seen).1, ∃ v, F e = .ok (e.id, v) ∧ st.lookup e.path = some v) :
    ∃ ins, mapX F (ownedOf es (markOwn es seen).1) = .ok ins ∧
      mergeEntries es (markOwn es seen).1 st inner = .ok (inner ++ ins) ∧
      (inner ++ ins).map (·.1) = (markOwn es seen).2 := by
  let w : Entry → Arr α := fun e =>
    match F e with
    | .ok iv => iv.2
    | .error _ => ⟨[], []⟩
  have hown : ∀ e ∈ ownedOf es (markOwn es seen).1, F e = .ok (e.id, w e) ∧ st.lookup e.path = some (w e) := by
    intro e he
    obtain ⟨v, hF, hl⟩ := h e he
    have hw : w e = v := by simp only [w, hF]
    exact ⟨by rw [hw]; exact hF, by rw [hw]; exact hl⟩
  refine ⟨(ownedOf es (markOwn es seen).1).map (fun e => (e.id, w e)), mapX_eq_map _ (fun e he => (hown e he).1),
    mergeEntries_markOwn w st es seen inner hinv (fun e he => (hown e he).2), ?_⟩
  rw [markOwn_seen, List.map_append, hinv, List.map_map]
  rfl

theorem Store.set_eq_map {α : Type} (s : Store α) (id : VarId) (v : Arr α) :
    s.set id v = s.map fun p => (p.1, if p.1 = id then v else p.2) :=
  List.map_congr_left fun p _ => by split <;> simp_all

theorem Store.set_keys {α : Type} (s : Store α) (id : VarId) (v : Arr α) : (s.set id v).map (·.1) = s.map (·.1) := by
  rw [Store.set_eq_map, List.map_map]; rfl

theorem Store.lookup_set {α : Type} (s : Store α) (id : VarId) (v : Arr α) (k : VarId) :
    (s.set id v).lookup k = if k = id then (s.lookup k).map (fun _ => v) else s.lookup k := by
  rw [Store.set_eq_map, Assoc.lookup_map fun k' v' => if k' = id then v else v']
  split
  · rfl
  · exact Option.map_id'

/-- the state a flat item goes to under a prefix -/
def groupIdx (p : Prefix) (path : Path) (info : VarInfo) : Nat :=
  match p with
  | .ax _ => 0
  | .sa s => firstMatch (s.map (·.1)) path info

/-- the axis a prefix gives a flat item (the axis of its state) -/
def axAt (p : Prefix) (path : Path) (info : VarInfo) : Option Ax := p.axes[groupIdx p path info]?

theorem prefix_at_eq_axAt (p : Prefix) (e : Entry) (a : Ax) : p.at e = .ok a ↔ axAt p e.path e.info = some a := by
  cases p with
  | ax a' => simp [Prefix.at, axAt, groupIdx, Prefix.axes]
  | sa s =>
    simp only [Prefix.at, axAt, groupIdx, Prefix.axes, mapPrefix_ok_iff, List.getElem?_map]
    cases s[firstMatch (s.map (·.1)) e.path e.info]? with
    | none => simp
    | some fa => exact ⟨fun ⟨f, h⟩ => by rw [Option.some.inj h]; rfl, fun h => ⟨fa.1, by rw [← Option.some.inj h]⟩⟩

/-- what `ctx.split(x, *filters)` returns: state `g` holds exactly the items whose first matching filter is `g` -/
theorem splitFlat_spec {α : Type} {p : Prefix} {flat : Flat α} {sts : List (State α)} (h : splitFlat p flat = .ok sts) :
    sts.length = p.axes.length ∧
    (∀ g s, sts[g]? = some s → ∀ pv, pv ∈ s ↔ ∃ x ∈ flat, pv = (x.1, x.2.2) ∧ groupIdx p x.1 x.2.1 = g) ∧
    (∀ x ∈ flat, groupIdx p x.1 x.2.1 < sts.length) := by
  cases p with
  | ax a =>
    simp only [splitFlat] at h
    injection h with h
    subst h
    refine ⟨rfl, ?_, ?_⟩
    · intro g s hs pv
      cases g with
      | zero =>
        simp at hs
        subst hs
        simp only [List.mem_map, groupIdx, and_true]
        constructor
        · rintro ⟨x, hx, rfl⟩; exact ⟨x, hx, rfl⟩
        · rintro ⟨x, hx, rfl⟩; exact ⟨x, hx, rfl⟩
      | succ g => simp at hs
    · intro x _; simp [groupIdx]
  | sa s =>
    simp only [splitFlat, splitStatesX] at h
    split at h
    · cases h
    · rename_i hne
      injection h with h
      subst h
      simp only [List.any_eq_true, beq_iff_eq, not_exists, not_and, List.length_map] at hne
      refine ⟨by simp [Prefix.axes], ?_, ?_⟩
      · intro g st hs pv
        have hlt : g < s.length := by
          have := (List.getElem?_eq_some_iff.1 hs).1
          simpa using this
        rw [List.getElem?_map, List.getElem?_range (by simpa using hlt)] at hs
        simp only [Option.map_some, Option.some.injEq] at hs
        subst hs
        simp only [List.mem_map, List.mem_filter, beq_iff_eq, groupIdx]
        constructor
        · rintro ⟨x, ⟨hx, hgx⟩, rfl⟩; exact ⟨x, hx, rfl, hgx⟩
        · rintro ⟨x, hx, rfl, hgx⟩; exact ⟨x, ⟨hx, hgx⟩, rfl⟩
      · intro x hx
        have h1 := hne x hx
        have h2 := Flax.Filter.firstMatch_le_length (s.map (·.1)) x.1 x.2.1
        simp only [groupIdx, List.length_map, List.length_range] at h1 h2 ⊢
        omega

theorem splitFlat_ok_of_at {α : Type} (p : Prefix) (flat : Flat α)
    (h : ∀ x ∈ flat, ∃ a, p.at ⟨x.1, 0, x.2.1⟩ = .ok a) : ∃ sts, splitFlat p flat = .ok sts := by
  cases p with
  | ax a => exact ⟨_, rfl⟩
  | sa s =>
    simp only [splitFlat, splitStatesX]
    split
    · rename_i hany
      simp only [List.any_eq_true, beq_iff_eq] at hany
      obtain ⟨x, hx, hm⟩ := hany
      obtain ⟨a, ha⟩ := h x hx
      have := (mapPrefix_ok_lt (by simpa [Prefix.at] using ha)).1
      simp at hm
      omega
    · exact ⟨_, rfl⟩

theorem lookup_of_relation {α β : Type} {n0 : Flat α} (hnd : (n0.map (·.1)).Nodup) {T : List (Path × β)}
    {R : Path × VarInfo × Arr α → β → Prop} (hfun : ∀ y v v', R y v → R y v' → v = v')
    (hA : ∀ y ∈ n0, ∃ v, R y v ∧ (y.1, v) ∈ T) (hB : ∀ kb ∈ T, ∃ y ∈ n0, kb.1 = y.1 ∧ R y kb.2) :
    ∀ x ∈ n0, ∃ v, R x v ∧ T.lookup x.1 = some v := by
  intro x hx
  obtain ⟨v, hR, hm⟩ := hA x hx
  refine ⟨v, hR, lookup_of_mem_unique hm ?_⟩
  intro v' hv'
  obtain ⟨y, hy, hk, hRy⟩ := hB _ hv'
  cases Assoc.eq_of_nodup_map hnd hy hx hk.symm
  exact hfun _ _ _ hRy hR

theorem lookup_by_membership {α β : Type} {flat : Flat α} (hnd : (flat.map (·.1)).Nodup)
    (w : Path × VarInfo × Arr α → β) (T : List (Path × β))
    (h1 : ∀ x ∈ flat, (x.1, w x) ∈ T)
    (h2 : ∀ kb ∈ T, ∃ x ∈ flat, kb = (x.1, w x)) :
    ∀ x ∈ flat, T.lookup x.1 = some (w x) := by
  intro x hx
  obtain ⟨v, hv, hl⟩ := lookup_of_relation hnd (R := fun y v => v = w y) (fun _ _ _ h h' => h.trans h'.symm)
    (fun y hy => ⟨_, rfl, h1 y hy⟩)
    (fun kb hkb => let ⟨y, hy, he⟩ := h2 kb hkb; ⟨y, hy, by rw [he], by rw [he]⟩) x hx
  rw [hl, hv]

theorem splitFlat_lookup {α : Type} {p : Prefix} {flat : Flat α} {sts : List (State α)}
    (h : splitFlat p flat = .ok sts) (hnd : (flat.map (·.1)).Nodup) :
    ∀ x ∈ flat, sts.flatten.lookup x.1 = some x.2.2 := by
  obtain ⟨_, hmem, hlt⟩ := splitFlat_spec h
  apply lookup_by_membership hnd (fun x => x.2.2)
  · intro x hx
    have hg := hlt x hx
    exact List.mem_flatten.2
      ⟨_, List.getElem_mem hg, (hmem _ _ (List.getElem?_eq_getElem hg) _).2 ⟨x, hx, rfl, rfl⟩⟩
  · intro kb hkb
    obtain ⟨s, hs, hb⟩ := List.mem_flatten.1 hkb
    obtain ⟨g, hg, rfl⟩ := List.getElem_of_mem hs
    obtain ⟨x, hx, he, _⟩ := (hmem g _ (List.getElem?_eq_getElem hg) kb).1 hb
    exact ⟨x, hx, he⟩

end Flax.NnxLoop
