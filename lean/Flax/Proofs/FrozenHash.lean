/-
The `_hash` cache of `Model/Frozen.lean`: the invariant `CacheOk`, and that no operation changes what `hash` would
compute for an existing FrozenDict; what a `hash` call returns; the FrozenDict pickling rebuilds is new.
-/
import Flax.Proofs.FrozenDepth

namespace Flax.C15
open Flax.Frozen

/-- every cached hash is the hash one would compute now -/
def CacheOk (H : HashFns) (hw : HWorld) : Prop :=
  Sep hw.w ∧ ∀ f c, (f, c) ∈ hw.cache →
    (∃ i, hw.w.heap[f]? = some (Obj.frozen i)) ∧ freshHash H hw.w.heap f = some c

theorem cacheGet_eq_lookup (cache : List (Addr × Nat)) (f : Addr) : cacheGet cache f = cache.lookup f :=
  Assoc.lookup_unique (get := fun f c => cacheGet c f) (fun _ => rfl) (fun _ _ _ _ => rfl) f cache

/-- The value is the same in the new heap with any fuel; it is defined with the old heap's fuel, hence with
the new heap's, which is no smaller. -/
theorem freshHash_step {H : HashFns} {w w' : World} {op : Op} (hs : Sep w) (h : step w op = .ok w')
    {f i : Addr} (hf : w.heap[f]? = some (Obj.frozen i)) : freshHash H w'.heap f = freshHash H w.heap f := by
  obtain ⟨ts, hts⟩ := frozen_defined hs.heap hf false
  have hnc := (step_keeps_frozen hs h hf).2 false (fuelOf w'.heap)
  simp only [freshHash]
  rw [hnc, hts, absVal_fuel_le w.heap (k := fuelOf w.heap) (k' := fuelOf w'.heap) (Nat.succ_le_succ (step_length_le h)) false _ _ hts]

theorem hstep_base_ok {H : HashFns} {hw hw' : HWorld} {op : Op} {r : Option Nat}
    (h : hstep H hw (.base op) = .ok (hw', r)) : ∃ w', step hw.w op = .ok w' ∧ hw' = ⟨w', hw.cache⟩ := by
  dsimp only [hstep] at h
  split at h
  · next w' hs => cases h; exact ⟨w', hs, rfl⟩
  · cases h

theorem hstep_hash_ok {H : HashFns} {hw hw' : HWorld} {x : Nat} {r : Option Nat}
    (h : hstep H hw (.hash x) = .ok (hw', r)) :
    (∃ l, hw.w.roots[x]? = some (.leaf l) ∧ hw' = hw) ∨
    ∃ f i c, hw.w.roots[x]? = some (.ref f) ∧ hw.w.heap[f]? = some (.frozen i) ∧ r = some c ∧
      ((cacheGet hw.cache f = some c ∧ hw' = hw) ∨
       (cacheGet hw.cache f = none ∧ freshHash H hw.w.heap f = some c ∧ hw' = ⟨hw.w, (f, c) :: hw.cache⟩)) := by
  dsimp only [hstep] at h
  split at h
  · next f hx =>
    split at h
    · next i hf =>
      split at h
      · next c hg => cases h; exact .inr ⟨f, i, c, hx, hf, rfl, .inl ⟨hg, rfl⟩⟩
      · next hg =>
        split at h
        · next c hfr => cases h; exact .inr ⟨f, i, c, hx, hf, rfl, .inr ⟨hg, hfr, rfl⟩⟩
        · cases h
    · cases h
    · cases h
  · next l hx =>
    split at h
    · cases h; exact .inl ⟨l, hx, rfl⟩
    · cases h
  · cases h

theorem hstep_hash_ref {H : HashFns} {hw hw' : HWorld} {x : Nat} {f : Addr} {c : Nat}
    (hx : hw.w.roots[x]? = some (.ref f)) (h : hstep H hw (.hash x) = .ok (hw', some c)) :
    cacheGet hw.cache f = some c ∨ (cacheGet hw.cache f = none ∧ freshHash H hw.w.heap f = some c) := by
  rcases hstep_hash_ok h with ⟨_, hl, _⟩ | ⟨_, _, _, hx', _, hr, hcase⟩
  · cases hx.symm.trans hl
  cases hx.symm.trans hx'
  cases hr
  exact hcase.imp (·.1) fun h => ⟨h.1, h.2.1⟩

/-- the FrozenDict pickling rebuilds is a new object -/
theorem step_pickle_fresh {w w' : World} {x : Nat} (hs : step w (.pickle x) = .ok w') :
    ∃ g, w'.roots = w.roots ++ [.ref g] ∧ w.heap.length ≤ g := by
  dsimp only [step] at hs
  obtain ⟨a, _, hs⟩ := ok_of_root hs
  rcases ok_of_obj' hs with ⟨_, _, _, hs⟩ | ⟨i, hg, hs⟩
  · cases hs
  obtain ⟨h1, u, hd, hs⟩ := ok_of_callV hs
  obtain ⟨h2, xs, hdo, hs⟩ := ok_of_callK hs
  obtain ⟨h3, r, hm, hs⟩ := ok_of_callV hs
  cases hs
  obtain ⟨g, _, rfl, hle, _⟩ := mkFrozen_fresh hm
  have h5 := (deep_prefix hd).length_le
  have h6 := (dictOf_prefix hdo).length_le
  exact ⟨g, rfl, by omega⟩

end Flax.C15
