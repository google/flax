/- The frame of `update`: objects no state path leads to are untouched.  Then the one-leaf states `chain p l`. -/
import Flax.Proofs.GraphUpdate

namespace Flax.Graph
open Flax.Heap

mutual
  /-- paths (relative to the updated value) at which the state tree has a leaf -/
  def leafPaths : STree → List Path
    | .leaf _ => [[]]
    | .node items => leafPathsItems items
  def leafPathsItems : List (Key × STree) → List Path
    | [] => []
    | (k, s) :: r => (leafPaths s).map (k :: ·) ++ leafPathsItems r
end

theorem resolve_ref_of_sim {h h' : Heap} (hss : ∀ v k, OptSim (step h' v k) (step h v k)) {a : Addr} (p : Path) {v : PVal}
    (hr : resolve h v p = some (.ref a)) : resolve h' v p = some (.ref a) := by
  obtain ⟨w', hr', hw⟩ := resolve_rel (R := ValSim) (h' := h') (fun {v w u} k hvw hs => by
    rcases hvw with rfl | ⟨d, d', rfl, rfl⟩
    · obtain ⟨w1, hs', h1⟩ := OptSim.of_some_right (hs ▸ hss v k)
      exact ⟨w1, hs', h1.symm⟩
    · cases hs) p (Or.inl rfl) hr
  rw [hr', hw.ref_left]

/-- no path of `paths` (nor the parent of one) leads from `v` to the object `a` -/
def Untouched (a : Addr) (h : Heap) (v : PVal) (paths : List Path) : Prop :=
  ∀ p ∈ paths, resolve h v p ≠ some (.ref a) ∧ ∀ q k, p = q ++ [k] → resolve h v q ≠ some (.ref a)

theorem Untouched.sim {a : Addr} {h h1 : Heap} {v : PVal} {paths : List Path} (u : Untouched a h v paths)
    (ss : SameShape h h1) : Untouched a h1 v paths := by
  intro p hp
  obtain ⟨u1, u2⟩ := u p hp
  exact ⟨fun hr => u1 (resolve_ref_of_sim (step_sim ss) p hr),
    fun q k e hr => u2 q k e (resolve_ref_of_sim (step_sim ss) q hr)⟩

theorem Untouched.head {a : Addr} {h : Heap} {v cur : PVal} {k : Key} {s : STree} {rest : List (Key × STree)}
    (u : Untouched a h v (leafPathsItems ((k, s) :: rest))) (hstep : step h v k = some cur) :
    Untouched a h cur (leafPaths s) := by
  intro p' hp'
  obtain ⟨u1, u2⟩ := u (k :: p') (List.mem_append_left _ (List.mem_map.mpr ⟨p', hp', rfl⟩))
  refine ⟨fun hr => u1 ?_, fun q k' e hr => u2 (k :: q) k' (by rw [e]; rfl) ?_⟩
  · rw [resolve, hstep]; exact hr
  · rw [resolve, hstep]; exact hr

theorem Untouched.tail {a : Addr} {h : Heap} {v : PVal} {k : Key} {s : STree} {rest : List (Key × STree)}
    (u : Untouched a h v (leafPathsItems ((k, s) :: rest))) : Untouched a h v (leafPathsItems rest) :=
  fun p hp => u p (List.mem_append_right _ hp)

theorem setAttr_frame {h : Heap} {a b : Addr} (k : Key) (v : PVal) (hne : b ≠ a) : (setAttr h a k v)[b]? = h[b]? := by
  unfold setAttr
  split
  · exact write_frame _ _ _ _ hne
  · rfl

theorem frame_cases (a : Nat) :
    UpdateCases (fun s h v h' => Untouched a h v (leafPaths s) → h'[a]? = h[a]?)
      (fun items h v h' => Untouched a h v (leafPathsItems items) → h'[a]? = h[a]?) where
  leaf := fun l h a0 ty val md _ ut =>
    write_frame _ _ _ _ (fun e => (ut [] (List.mem_singleton.mpr rfl)).1 (by rw [e]; rfl))
  node := fun _ _ _ _ q ut => q ut
  nil := fun _ _ _ => rfl
  setArr := by
    intro k d rest h a0 cls live d0 h' _ _ ss1 q ut
    -- the owner is the parent of the path `[k]`
    have hne : a ≠ a0 := fun e =>
      (ut [k] (List.mem_append_left _ (List.mem_singleton.mpr rfl))).2 [] k rfl (by rw [e]; rfl)
    rw [q (ut.tail.sim ss1), setAttr_frame k _ hne]
  down := by
    intro k s rest h v cur h1 h' hst ss1 p q ut
    rw [q (ut.tail.sim ss1), p (ut.head hst)]

theorem updateVal_frame (s : STree) (h : Heap) (v : PVal) (h' : Heap) (hu : updateVal s h v = .ok h') (a : Nat)
    (ut : Untouched a h v (leafPaths s)) : h'[a]? = h[a]? :=
  (update_induct (frame_cases a) s h v h' hu).2 ut

  theorem updateItems_frame : ∀ (items : List (Key × STree)) (h : Heap) (owner : Option Addr)
      (attrs : List (Key × PVal)) (h' : Heap) (v : PVal) (a : Nat),
      (∀ k, OptSim (step h v k) (lookupKV k attrs)) → (∀ a0, owner = some a0 → v = .ref a0) →
      OwnerOk h owner attrs → Untouched a h v (leafPathsItems items) →
      updateItems items h owner attrs = .ok h' → h'[a]? = h[a]? :=
    fun items h owner attrs h' v a hstep hov ok ut hu =>
      (update_induct_items (frame_cases a) items h owner attrs h' v hstep hov ok hu).2 ut

/-- the state tree with a single leaf at path `p` -/
def chain : Path → Leaf → STree
  | [], l => .leaf l
  | k :: p, l => .node [(k, chain p l)]

theorem updateVal_chain_append (h : Heap) (q : Path) (l : Leaf) {a : Addr} {h' : Heap}
    (hu : updateVal (chain q l) h (.ref a) = .ok h') : ∀ (p : Path) (root : PVal),
    resolve h root p = some (.ref a) → updateVal (chain (p ++ q) l) h root = .ok h'
  | [], root, hr => by
    cases hr
    exact hu
  | k :: p, root, hr => by
    obtain ⟨cur, hs, hr'⟩ := resolve_cons_some hr
    obtain ⟨owner, attrs, kids⟩ := Kids.of_step hs
    have ih := updateVal_chain_append h q l hu p cur hr'
    rw [List.cons_append, chain, kids.updateVal, updateItems_cons_of_ok ((kids.child k).symm.trans hs) ih, updateItems]

theorem update_chain (h : Heap) (ty' : VType) (val' : Data) (md' : Meta) : ∀ (p : Path) (root : PVal) (a : Addr) ty val md,
    resolve h root p = some (.ref a) → h[a]? = some (.var ty val md) →
    updateVal (chain p (.vstate ty' val' md')) h root = .ok (write h a (.var ty val' md')) := by
  intro p root a ty val md hr hg
  have hu : updateVal (chain [] (.vstate ty' val' md')) h (.ref a) = .ok (write h a (.var ty val' md')) := by
    simp only [chain, updateVal, hg]
  have := updateVal_chain_append h [] _ hu p root hr
  rwa [List.append_nil] at this

theorem setAttr_spec {h : Heap} {a : Addr} {cls : String} {attrs : List (Key × PVal)} (k : Key) (v : PVal)
    (hg : h[a]? = some (.node cls attrs)) :
    (setAttr h a k v).length = h.length ∧ (setAttr h a k v)[a]? = some (.node cls (setKV k v attrs)) ∧
    ∀ (b : Nat), b ≠ a → (setAttr h a k v)[b]? = h[b]? := by
  have hlt : a < h.length := (List.getElem?_eq_some_iff.mp hg).1
  refine ⟨?_, ?_, fun b hb => setAttr_frame k v hb⟩
  · simp only [setAttr, hg]; exact write_length _ _ _
  · simp only [setAttr, hg]; exact write_get _ _ _ hlt

theorem update_array_chain (h : Heap) (k : Key) (d : Data) : ∀ (p : Path) (root : PVal) (a0 : Addr) cls attrs d0,
    resolve h root p = some (.ref a0) → h[a0]? = some (.node cls attrs) → lookupKV k attrs = some (.array d0) →
    updateVal (chain (p ++ [k]) (.arr d)) h root = .ok (setAttr h a0 k (.array d)) := by
  intro p root a0 cls attrs d0 hr hg hl
  have hu : updateVal (chain [k] (.arr d)) h (.ref a0) = .ok (setAttr h a0 k (.array d)) := by
    simp only [chain, updateVal, hg, updateItems, hl]
  exact updateVal_chain_append h [k] _ hu p root hr

end Flax.Graph
