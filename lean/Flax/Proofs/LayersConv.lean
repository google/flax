/- C12: the convolution layer stage by stage, assembled in `convCore_get` -/
import Flax.Proofs.Layers
import Flax.Proofs.LayersPad
import Flax.Proofs.Except

namespace Flax.Layers

theorem paddedSpatial_length (insp : List Nat) (sp : List (PadMode × Nat × Nat)) (h : sp.length = insp.length) :
    (paddedSpatial insp sp).length = insp.length := by
  rw [paddedSpatial, List.length_zipWith, h, Nat.min_self]

section
variable {R : Type} [Zero R]

theorem padTensor_elem (x : Tensor R) (pads : List (PadMode × Nat × Nat)) (idx : List Nat)
    (h : inBounds (padTensor x pads).shape idx = true) :
    (padTensor x pads).get idx =
      match (List.zipWith (fun (np : Nat × (PadMode × Nat × Nat)) i => padSrc np.2.1 np.1 np.2.2.1 i) (x.shape.zip pads) idx).mapM id with
      | some s => x.get s
      | none => 0 :=
  get_ofFn _ _ h

theorem padTensor_conv_shape (xf : Tensor R) (B C : Nat) (insp : List Nat) (sp : List (PadMode × Nat × Nat))
    (hx : xf.shape = B :: (insp ++ [C])) (hsp : sp.length = insp.length) :
    (padTensor xf ([(PadMode.zeros, 0, 0)] ++ sp ++ [(PadMode.zeros, 0, 0)])).shape = B :: (paddedSpatial insp sp ++ [C]) := by
  simp only [padTensor, Tensor.ofFn, hx, List.cons_append, List.zipWith_cons_cons]
  rw [List.zipWith_append (by simp [hsp])]
  simp [paddedSpatial]

theorem padTensor_conv_get (xf : Tensor R) (B C : Nat) (insp : List Nat) (sp : List (PadMode × Nat × Nat))
    (hx : xf.shape = B :: (insp ++ [C])) (hsp : sp.length = insp.length)
    (q ch : Nat) (p : List Nat) (hq : q < B) (hch : ch < C) (hp : inBounds (paddedSpatial insp sp) p = true) :
    (padTensor xf ([(PadMode.zeros, 0, 0)] ++ sp ++ [(PadMode.zeros, 0, 0)])).get (q :: (p ++ [ch])) =
      match padIdx insp sp p with
      | some s => xf.get (q :: (s ++ [ch]))
      | none => 0 := by
  have hpl : p.length = insp.length := (inBounds_length hp).trans (paddedSpatial_length insp sp hsp)
  have hib : inBounds (B :: (paddedSpatial insp sp ++ [C])) (q :: (p ++ [ch])) = true := by
    simp only [inBounds, hq, decide_true, Bool.true_and]
    exact inBounds_snoc hp hch
  rw [padTensor_elem _ _ _ (by rw [padTensor_conv_shape xf B C insp sp hx hsp]; exact hib)]
  have hzip : List.zipWith (fun (np : Nat × (PadMode × Nat × Nat)) i => padSrc np.2.1 np.1 np.2.2.1 i)
      (xf.shape.zip ([(PadMode.zeros, 0, 0)] ++ sp ++ [(PadMode.zeros, 0, 0)])) (q :: (p ++ [ch]))
      = some q :: (List.zipWith (fun (np : Nat × (PadMode × Nat × Nat)) i => padSrc np.2.1 np.1 np.2.2.1 i) (insp.zip sp) p ++ [some ch]) := by
    rw [hx, List.singleton_append, List.cons_append, List.zip_cons_cons, List.zipWith_cons_cons,
      List.zip_append hsp.symm, List.zipWith_append (by rw [List.length_zip, hsp, Nat.min_self, hpl])]
    simp only [List.zip_cons_cons, List.zip_nil_right, List.zipWith_cons_cons, List.zipWith_nil_right,
      padSrc_nopad hq, padSrc_nopad hch]
  rw [hzip]
  simp only [padIdx, List.mapM_cons, List.mapM_append, List.mapM_nil, id]
  cases (List.zipWith (fun (np : Nat × (PadMode × Nat × Nat)) i => padSrc np.2.1 np.1 np.2.2.1 i) (insp.zip sp) p).mapM id <;> rfl
end

theorem axisSrc_lt (n ld : Nat) (lo p : Int) (v : Nat) (h : axisSrc n ld lo p = some v) : v < n := by
  simp only [axisSrc] at h
  split at h
  · rename_i hc
    injection h with h
    have hnn : 0 ≤ (p - lo) / (ld : Int) := Int.ediv_nonneg hc.1 (Int.natCast_nonneg ld)
    omega
  · exact absurd h (by simp)

theorem convSrc_inBounds (g : ConvGeom) (inSp o k p : List Nat) (h : convSrc g inSp o k = some p) :
    inBounds inSp p = true := by
  simp only [convSrc] at h
  have e := (mapM_id_some_iff _ _).mp h
  have hl : p.length = inSp.length := by
    have := congrArg List.length e
    simpa using this.symm
  apply inBounds_of_pointwise _ _ hl
  intro j hj
  have hj' : j < p.length := by omega
  have := congrArg (fun l => l[j]?) e
  simp only [List.getElem?_map, List.getElem?_range hj, Option.map_some, List.getElem?_eq_getElem hj'] at this
  have hv := axisSrc_lt _ _ _ _ _ (Option.some.inj this)
  simpa [nth, List.getD, hj'] using hv

theorem group_channel_lt (G F cin fi ch : Nat) (hF : F % G = 0) (hc : cin % G = 0) (hfi : fi < F) (hch : ch < cin / G) :
    (if F / G = 0 then 0 else fi / (F / G)) * (cin / G) + ch < cin := by
  have hFg : F / G * G = F := Nat.div_mul_cancel (Nat.dvd_of_mod_eq_zero hF)
  have hfg0 : F / G ≠ 0 := by
    intro h0
    rw [h0, Nat.zero_mul] at hFg
    omega
  have hgrp : fi / (F / G) < G := Nat.div_lt_of_lt_mul (by rw [hFg]; exact hfi)
  rw [if_neg hfg0]
  calc fi / (F / G) * (cin / G) + ch < (fi / (F / G) + 1) * (cin / G) := by rw [Nat.succ_mul]; omega
    _ ≤ G * (cin / G) := Nat.mul_le_mul_right _ hgrp
    _ = cin := Nat.mul_div_cancel' (Nat.dvd_of_mod_eq_zero hc)

theorem convPlan_length (c : ConvCfg) (insp : List Nat) :
    (convPlan c insp).1.length = c.kernelSize.length := by
  simp only [convPlan]
  cases c.padding <;> simp

theorem convOutSpatial_length (g : ConvGeom) (inSp kSp : List Nat) : (convOutSpatial g inSp kSp).length = inSp.length := by
  simp [convOutSpatial]

theorem mulMaskCore_shape {R : Type} [Mul R] (k : Tensor R) (mask : Option (Tensor R)) : (mulMaskCore k mask).shape = k.shape := by
  cases mask <;> rfl

theorem convSpec_rank_of {α : Type} (x : Tensor α) (B C : Nat) (sp : List Nat) (hx : x.shape = B :: (sp ++ [C])) :
    x.rank - 2 = sp.length ∧ (x.shape.drop 1).take sp.length = sp ∧ x.shape.headD 0 = B := by
  refine ⟨?_, ?_, ?_⟩
  · rw [Tensor.rank, hx, List.length_cons, List.length_append]; rfl
  · rw [hx, List.drop_succ_cons, List.drop_zero, List.take_left' rfl]
  · rw [hx, List.headD_cons]

section
variable {R : Type} [Zero R] [Add R] [Mul R]

theorem convSpec_elem (g : ConvGeom) (x k : Tensor R) (bi fi : Nat) (o : List Nat) (ho : o.length = x.rank - 2)
    (hb : inBounds (convSpec g x k).shape (bi :: o ++ [fi]) = true) :
    (convSpec g x k).get (bi :: o ++ [fi]) =
      sumOver (indices (k.shape.take (x.rank - 2))) (fun kk =>
        match convSrc g ((x.shape.drop 1).take (x.rank - 2)) o kk with
        | none => 0
        | some src =>
          sumOver (List.range (nth k.shape (x.rank - 2))) (fun c =>
            x.get (bi :: src ++ [(if nth k.shape (x.rank - 2 + 1) / g.groups = 0 then 0
                                   else fi / (nth k.shape (x.rank - 2 + 1) / g.groups)) * nth k.shape (x.rank - 2) + c])
              * k.get (kk ++ [c, fi]))) := by
  have e1 : (List.drop 1 (bi :: o ++ [fi])).take (x.rank - 2) = o := by
    rw [List.cons_append, List.drop_succ_cons, List.drop_zero, ← ho, List.take_left']; rfl
  have e2 : (bi :: o ++ [fi]).getD (x.rank - 2 + 1) 0 = fi := by
    simp [← ho, List.getD]
  simp only [convSpec]
  rw [get_ofFn _ _ (by exact hb)]
  simp only [e1, e2]
  rfl

theorem convSpec_shape_of (g : ConvGeom) (x k : Tensor R) (B C : Nat) (sp : List Nat) (hx : x.shape = B :: (sp ++ [C])) :
    (convSpec g x k).shape = B :: (convOutSpatial g sp (k.shape.take sp.length) ++ [nth k.shape (sp.length + 1)]) := by
  obtain ⟨hr, hsp, hB⟩ := convSpec_rank_of x B C sp hx
  simp only [convSpec, Tensor.ofFn, hr, hsp, hB, List.cons_append]

omit [Add R] [Mul R] in
theorem convPrePadded_eq (c : ConvCfg) (xf : Tensor R) (B cin : Nat) (insp : List Nat)
    (hx : xf.shape = B :: (insp ++ [cin])) (hinsp : insp.length = c.kernelSize.length) :
    convPrePadded c xf = (padTensor xf ([(PadMode.zeros, 0, 0)] ++ (convPlan c insp).1 ++ [(PadMode.zeros, 0, 0)]),
      (convPlan c insp).2) := by
  simp only [convPrePadded, hx, List.drop_succ_cons, List.drop_zero, ← hinsp, List.take_left']

theorem convPadded_get (c : ConvCfg) (xf k' : Tensor R) (B cin : Nat) (insp : List Nat)
    (hx : xf.shape = B :: (insp ++ [cin])) (hinsp : insp.length = c.kernelSize.length)
    (q : Nat) (o : List Nat) (fi : Nat) (hq : q < B) (ho : o.length = c.kernelSize.length)
    (hb : inBounds (convSpec ⟨c.strides, (convPrePadded c xf).2, c.inputDil, c.kernelDil, c.groups⟩
            (convPrePadded c xf).1 k').shape (q :: o ++ [fi]) = true)
    (hch : ∀ ch, ch < nth k'.shape c.kernelSize.length →
      (if nth k'.shape (c.kernelSize.length + 1) / c.groups = 0 then 0 else fi / (nth k'.shape (c.kernelSize.length + 1) / c.groups))
        * nth k'.shape c.kernelSize.length + ch < cin) :
    (convSpec ⟨c.strides, (convPrePadded c xf).2, c.inputDil, c.kernelDil, c.groups⟩ (convPrePadded c xf).1 k').get
        (q :: o ++ [fi]) = convElem c xf k' insp [q] o fi := by
  have hpl : (convPlan c insp).1.length = insp.length := by rw [convPlan_length, hinsp]
  have hxp := padTensor_conv_shape xf B cin insp _ hx hpl
  have hpsl := (paddedSpatial_length insp _ hpl).trans hinsp
  rw [convPrePadded_eq c xf B cin insp hx hinsp] at hb ⊢
  obtain ⟨hr, hsp, -⟩ := convSpec_rank_of _ B cin _ hxp
  rw [convSpec_elem _ _ k' q fi o (ho.trans (hr.trans hpsl).symm) hb, hr, hsp, hpsl]
  simp only [convElem]
  apply sumOver_congr
  intro kk _
  cases hsrc : convSrc _ (paddedSpatial insp (convPlan c insp).1) o kk with
  | none => rfl
  | some p =>
    apply sumOver_congr
    intro ch hchm
    have := padTensor_conv_get xf B cin insp (convPlan c insp).1 hx hpl q _ p hq (hch ch (List.mem_range.mp hchm))
      (convSrc_inBounds _ _ o kk p hsrc)
    rw [List.cons_append (a := q), this]
    rfl

theorem convCore_get (c : ConvCfg) (x k : Tensor R) (bias mask : Option (Tensor R)) (bs insp : List Nat) (cin : Nat)
    (hx : x.shape = bs ++ (insp ++ [cin])) (hinsp : insp.length = c.kernelSize.length)
    (hbias : ∀ bb, bias = some bb → bb.rank = 1)
    (b o : List Nat) (fi : Nat) (hb : inBounds bs b = true) (ho : o.length = c.kernelSize.length)
    (hbound : inBounds (convCore c x k bias mask).shape (b ++ (o ++ [fi])) = true)
    (hch : ∀ ch, ch < nth k.shape c.kernelSize.length →
      (if nth k.shape (c.kernelSize.length + 1) / c.groups = 0 then 0 else fi / (nth k.shape (c.kernelSize.length + 1) / c.groups))
        * nth k.shape c.kernelSize.length + ch < cin) :
    (convCore c x k bias mask).get (b ++ (o ++ [fi])) =
      bias.elim (convElem c x (mulMaskCore k mask) insp b o fi)
        (fun bb => convElem c x (mulMaskCore k mask) insp b o fi + bb.get [fi]) := by
  have hbl := inBounds_length hb
  have hxf : (x.reshape (prod bs :: (insp ++ [cin]))).shape = prod bs :: (insp ++ [cin]) := rfl
  rw [← mulMaskCore_shape k mask] at hch
  -- unflatten ∘ bias ∘ `convSpec` of the flattened, pre-padded input: name that output `y`, read from outside in
  have hcore : convCore c x k bias mask = unflattenBatch bs (addBiasSuffix
      (convSpec ⟨c.strides, (convPrePadded c (x.reshape (prod bs :: (insp ++ [cin])))).2, c.inputDil, c.kernelDil, c.groups⟩
        (convPrePadded c (x.reshape (prod bs :: (insp ++ [cin])))).1 (mulMaskCore k mask)) bias) := by
    simp only [convCore, flattenBatch_eq c.kernelSize.length x bs (insp ++ [cin]) hx (by simp [hinsp])]
  rw [hcore] at hbound ⊢
  generalize hy : convSpec _ (convPrePadded c (x.reshape (prod bs :: (insp ++ [cin])))).1 (mulMaskCore k mask) = y
    at hbound ⊢
  have hys : y.shape = prod bs :: (y.shape.drop 1) ∧ y.rank = c.kernelSize.length + 2 := by
    have hpl : (convPlan c insp).1.length = insp.length := by rw [convPlan_length, hinsp]
    rw [← hy, convPrePadded_eq c _ (prod bs) cin insp hxf hinsp, Tensor.rank,
      convSpec_shape_of _ _ _ (prod bs) cin _ (padTensor_conv_shape _ (prod bs) cin insp _ hxf hpl)]
    simp [convOutSpatial_length, paddedSpatial_length insp _ hpl, hinsp]
  have hYs : (addBiasSuffix y bias).shape = prod bs :: (y.shape.drop 1) := by rw [addBiasSuffix_shape]; exact hys.1
  rw [unflattenBatch, Tensor.reshape, hYs] at hbound
  have hyb : inBounds y.shape (ravel bs b :: o ++ [fi]) = true := by
    rw [hys.1]
    simp only [List.cons_append, inBounds, ravel_lt hb, decide_true, Bool.true_and]
    rw [inBounds_append_eq bs b _ _ hbl, Bool.and_eq_true] at hbound
    exact hbound.2
  have hconv : y.get (ravel bs b :: o ++ [fi]) = convElem c x (mulMaskCore k mask) insp b o fi := by
    subst hy
    rw [convPadded_get c _ _ (prod bs) cin insp hxf hinsp _ o fi (ravel_lt hb) ho hyb hch]
    simp only [convElem, List.singleton_append, reshape_flat_get x bs _ b hx hbl]
  rw [unflattenBatch_get _ bs _ b hYs hbl, ← List.cons_append,
    addBiasSuffix_get_last y bias _ fi hbias (by rw [hys.2, List.length_cons, ho]) hyb, hconv]

end
end Flax.Layers
