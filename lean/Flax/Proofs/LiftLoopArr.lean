/- C06: the array model.  An array is `ofFn` of its `getD` on the `Valid` indices; a transposed index is read back
   through the permutation (`unpermute`), which reduces slicing and stacking along a declared axis to axis 0. -/
import Flax.Model.LiftLoop
import Flax.Proofs.LiftLoopAxes
import Flax.Proofs.Assoc

set_option linter.unusedSectionVars false

namespace Flax.LiftLoop

/-- `idx` is a multi-index into an array of shape `sh` -/
def Valid : Ix → List Nat → Prop
  | [], [] => True
  | i :: is, d :: ds => i < d ∧ Valid is ds
  | _, _ => False

theorem mem_allIdx : ∀ (sh : List Nat) (idx : Ix), idx ∈ allIdx sh ↔ Valid idx sh := by
  intro sh
  induction sh with
  | nil => intro idx; cases idx <;> simp [allIdx, Valid]
  | cons d ds ih =>
    intro idx
    cases idx with
    | nil => simp [allIdx, Valid]
    | cons i is => simp [allIdx, Valid, ih]

theorem valid_length : ∀ {idx sh}, Valid idx sh → idx.length = sh.length := by
  intro idx
  induction idx with
  | nil => intro sh h; cases sh <;> simp_all [Valid]
  | cons i is ih =>
    intro sh h
    cases sh with
    | nil => simp [Valid] at h
    | cons d ds => simp [Valid] at h; simp [ih h.2]

theorem lookup_map_self {α : Type} (f : Ix → α) {k : Ix} {l : List Ix} (hk : k ∈ l) :
    (l.map (fun i => (i, f i))).lookup k = some (f k) := by
  have hs := Assoc.lookup_isSome_iff.2 (show k ∈ (l.map fun i => (i, f i)).map (·.1) by simpa using hk)
  obtain ⟨v, hv⟩ := Option.isSome_iff_exists.1 hs
  obtain ⟨i, _, e⟩ := List.mem_map.1 (Assoc.mem_of_lookup hv)
  cases e
  exact hv

theorem valid_eraseIdx : ∀ (n : Nat) (idx sh : List Nat), Valid idx sh →
    Valid (idx.eraseIdx n) (sh.eraseIdx n)
  | _, [], [], h => h
  | 0, _ :: _, _ :: _, h => h.2
  | n + 1, _ :: is, _ :: ds, h => ⟨h.1, valid_eraseIdx n is ds h.2⟩
  | _, [], _ :: _, h => h.elim
  | _, _ :: _, [], h => h.elim

theorem valid_insertIdx' : ∀ (n : Nat) (j sh : List Nat) (i m : Nat), n ≤ sh.length →
    Valid j sh → i < m → Valid (j.insertIdx n i) (sh.insertIdx n m) := by
  intro n
  induction n with
  | zero => intro j sh i m _ hv hi; simp [Valid]; exact ⟨hi, hv⟩
  | succ n ih =>
    intro j sh i m h hv hi
    cases sh with
    | nil => simp at h
    | cons d ds =>
      cases j with
      | nil => simp [Valid] at hv
      | cons j0 js =>
        simp [Valid] at hv ⊢
        exact ⟨hv.1, ih js ds i m (by simpa using h) hv.2 hi⟩

theorem valid_insertIdx : ∀ (n : Nat) (j sh : List Nat) (i : Nat) (h : n < sh.length),
    Valid j (sh.eraseIdx n) → i < sh[n] → Valid (j.insertIdx n i) sh := by
  intro n j sh i h hv hi
  have := valid_insertIdx' n j (sh.eraseIdx n) i sh[n] (by rw [List.length_eraseIdx_of_lt h]; omega) hv hi
  rwa [Lists.insertIdx_eraseIdx_self sh n h] at this

theorem valid_getElem : ∀ {idx sh : List Nat}, Valid idx sh → ∀ (k : Nat) (h2 : k < sh.length),
    idx.getD k 0 < sh[k]
  | _ :: _, _ :: _, h, 0, _ => h.1
  | _ :: _, _ :: _, h, k + 1, h2 => valid_getElem h.2 k (Nat.lt_of_succ_lt_succ h2)
  | [], [], _, _, h2 => absurd h2 (Nat.not_lt_zero _)
  | [], _ :: _, h, _, _ => h.elim
  | _ :: _, [], h, _, _ => h.elim

/-- when `q` permutes the positions of `I`, entry `a` of `I` sits in the permuted index where `q` mentions `a` -/
theorem unpermute (q I : List Nat) (hq : q.Perm (List.range I.length)) :
    (List.range q.length).map (fun a => (q.map (I.getD · 0)).getD (q.idxOf a) 0) = I := by
  apply List.ext_getElem
  · simp [hq.length_eq]
  · intro a h1 h2
    have hi := List.idxOf_lt_length_of_mem (hq.mem_iff.2 (List.mem_range.2 h2))
    rw [List.getElem_map, List.getElem_range, List.getD_eq_getElem?_getD,
      List.getElem?_eq_getElem (by rw [List.length_map]; exact hi), Option.getD_some, List.getElem_map,
      List.getElem_idxOf hi, List.getD_eq_getElem?_getD, List.getElem?_eq_getElem h2, Option.getD_some]

theorem scatter_toFront (r n : Nat) (hn : n < r) (i0 : Nat) (rest : List Nat) (hr : rest.length + 1 = r) :
    (List.range (toFrontQ r n).length).map (fun a => (i0 :: rest).getD ((toFrontQ r n).idxOf a) 0) =
      rest.insertIdx n i0 := by
  have hle : n ≤ rest.length := Nat.le_of_lt_add_one (hr ▸ hn)
  have hl : (rest.insertIdx n i0).length = r := by rw [List.length_insertIdx_of_le_length hle, hr]
  have h := unpermute (toFrontQ (rest.insertIdx n i0).length n) _ (toFrontQ_perm (hl ▸ hn))
  rwa [toFrontQ_map 0 _ n (hl ▸ hn), List.getElem_insertIdx_self, List.eraseIdx_insertIdx_self, hl] at h

theorem scatter_fromFront (r n : Nat) (hn : n < r) (j : List Nat) (hr : j.length = r) :
    (List.range (fromFrontQ r n).length).map (fun a => j.getD ((fromFrontQ r n).idxOf a) 0) =
      j.getD n 0 :: j.eraseIdx n := by
  have hnj : n < j.length := hr ▸ hn
  have hl : (j.eraseIdx n).length + 1 = r := by
    rw [List.length_eraseIdx_of_lt hnj, hr]; exact Nat.sub_add_cancel (Nat.zero_lt_of_lt hn)
  have h := unpermute (fromFrontQ ((j.eraseIdx n).length + 1) n) (j.getD n 0 :: j.eraseIdx n)
    (fromFrontQ_perm (hl ▸ hn))
  have hj : (j.eraseIdx n).insertIdx n (j.getD n 0) = j := by
    rw [List.getD_eq_getElem?_getD, List.getElem?_eq_getElem hnj, Option.getD_some,
      Lists.insertIdx_eraseIdx_self j n hnj]
  rwa [fromFrontQ_map, hj, hl] at h

namespace Arr
variable {α : Type} [Inhabited α]

theorem getD_ofFn {sh : List Nat} {idx : Ix} (f : Ix → α) (h : Valid idx sh) :
    (ofFn sh f).getD idx = f idx := by
  simp [getD, ofFn, lookup_map_self f ((mem_allIdx sh idx).2 h)]

theorem ofFn_congr {sh : List Nat} {f g : Ix → α} (h : ∀ idx, Valid idx sh → f idx = g idx) :
    ofFn sh f = ofFn sh g := by
  simp only [ofFn, Arr.mk.injEq, true_and]
  apply List.map_congr_left
  intro i hi
  rw [h i ((mem_allIdx sh i).1 hi)]

@[simp] theorem shape_ofFn (sh : List Nat) (f : Ix → α) : (ofFn sh f).shape = sh := rfl

theorem wf_ofFn [DecidableEq α] (sh : List Nat) (f : Ix → α) : WF (ofFn sh f) = true := by
  simp only [WF, shape_ofFn]
  exact decide_eq_true (ofFn_congr (fun idx h => (getD_ofFn f h).symm))

theorem eq_ofFn_of_wf [DecidableEq α] {A : Arr α} (h : WF A = true) : A = ofFn A.shape A.getD := by
  simpa [WF] using h

theorem toFront_eq (A : Arr α) (ax : Int) (n : Nat) (hn : normAxis A.rank ax = some n) (h0 : ax ≠ 0) :
    toFront ax A = .ok (transpose (toFrontQ A.rank n) A) := by
  rw [toFront, if_neg h0, ← bind_assoc, toFront_canon hn]
  rfl

theorem fromFront_eq (A : Arr α) (ax : Int) (n : Nat) (hn : normAxis A.rank ax = some n) (h0 : ax ≠ 0) :
    fromFront ax A = .ok (transpose (fromFrontQ A.rank n) A) := by
  rw [fromFront, if_neg h0, ← bind_assoc, fromFront_canon hn]
  rfl

theorem toFront_of_some (A : Arr α) (ax : Int) (n : Nat) (hn : normAxis A.rank ax = some n) :
    ∃ (F : Arr α) (h : n < A.shape.length), toFront ax A = .ok F ∧ F.shape = A.shape[n] :: A.shape.eraseIdx n ∧
      ∀ i, take F 0 i = take A n i := by
  have hlt : n < A.shape.length := normAxis_lt hn
  by_cases h0 : ax = 0
  · subst h0
    cases normAxis_zero_some hn
    exact ⟨A, hlt, rfl, (Lists.insertIdx_eraseIdx_self A.shape 0 hlt).symm, fun _ => rfl⟩
  · have hshape : (toFrontQ A.rank n).map (fun k => A.shape.getD k 0)
        = A.shape[n] :: A.shape.eraseIdx n := toFrontQ_map 0 A.shape n hlt
    refine ⟨_, hlt, toFront_eq A ax n hn h0, hshape, ?_⟩
    intro i
    simp only [take, transpose, shape_ofFn, hshape, List.getElem?_cons_zero,
      List.getElem?_eq_getElem hlt, List.eraseIdx_cons_zero]
    by_cases hi : i < A.shape[n]
    · rw [if_pos hi, if_pos hi]
      congr 1
      apply ofFn_congr
      intro j hj
      have hv : Valid (j.insertIdx 0 i) (A.shape[n] :: A.shape.eraseIdx n) := ⟨hi, hj⟩
      rw [getD_ofFn _ hv]
      have hjl : j.length + 1 = A.rank := by
        rw [valid_length hj, List.length_eraseIdx_of_lt hlt, rank]
        exact Nat.sub_add_cancel (Nat.zero_lt_of_lt hlt)
      have := scatter_toFront A.rank n hlt i j hjl
      simp only [List.insertIdx_zero]
      rw [this]
    · rw [if_neg hi, if_neg hi]

theorem toFront_of_none (A : Arr α) (ax : Int) (hn : normAxis A.rank ax = none) :
    (ax = 0 ∧ A.shape = []) ∨ toFront ax A = .error .axisOutOfBounds := by
  by_cases h0 : ax = 0
  · subst h0
    exact Or.inl ⟨rfl, List.eq_nil_of_length_eq_zero (normAxis_zero_none hn)⟩
  · refine Or.inr ?_
    rw [toFront, if_neg h0, toFrontPerm_of_none hn]
    rfl

theorem stack_eq_ok {sh : List Nat} {n : Nat} {ys : List (Arr α)} {S : Arr α} :
    stack sh n ys = .ok S ↔ n ≤ sh.length ∧ (∀ y ∈ ys, y.shape = sh) ∧
      S = ofFn (sh.insertIdx n ys.length) (fun j => (ys.getD (j.getD n 0) default).getD (j.eraseIdx n)) := by
  simp only [stack, List.all_eq_true, decide_eq_true_eq]
  split
  · rename_i h
    exact ⟨fun hS => ⟨h.1, h.2, (Except.ok.inj hS).symm⟩, fun hS => congrArg _ hS.2.2.symm⟩
  · rename_i h
    exact ⟨nofun, fun hS => absurd ⟨hS.1, hS.2.1⟩ h⟩

theorem stack_eq_error {sh : List Nat} {n : Nat} {ys : List (Arr α)} {e : Err} :
    stack sh n ys = .error e ↔ e = .stackMismatch ∧ ¬ (n ≤ sh.length ∧ ∀ y ∈ ys, y.shape = sh) := by
  simp only [stack, List.all_eq_true, decide_eq_true_eq]
  split
  · rename_i h
    exact ⟨nofun, fun he => absurd h he.2⟩
  · rename_i h
    exact ⟨fun he => ⟨(Except.error.inj he).symm, h⟩, fun he => congrArg _ he.1.symm⟩

theorem rank_of_stack {sh : List Nat} {n : Nat} {ys : List (Arr α)} {S : Arr α} (h : stack sh n ys = .ok S) :
    S.rank = sh.length + 1 := by
  obtain ⟨hle, _, rfl⟩ := stack_eq_ok.1 h
  exact List.length_insertIdx_of_le_length hle _

theorem fromFront_stack (sh : List Nat) (ys : List (Arr α)) (ax : Int) (n : Nat)
    (hn : normAxis (sh.length + 1) ax = some n) (S : Arr α) (hS : stack sh 0 ys = .ok S) :
    fromFront ax S = stack sh n ys := by
  have hlt : n < sh.length + 1 := normAxis_lt hn
  have hle : n ≤ sh.length := Nat.le_of_lt_succ hlt
  have hrank := rank_of_stack hS
  obtain ⟨_, hall, hS⟩ := stack_eq_ok.1 hS
  rw [List.insertIdx_zero] at hS
  have hs : S.shape = ys.length :: sh := by rw [hS]; rfl
  by_cases h0 : ax = 0
  · subst h0
    cases normAxis_zero_some hn
    exact (stack_eq_ok.2 ⟨hle, hall, hS⟩).symm
  · rw [fromFront_eq S ax n (by rw [hrank]; exact hn) h0]
    refine (stack_eq_ok.2 ⟨hle, hall, ?_⟩).symm
    have hshape : (fromFrontQ S.rank n).map (fun k => S.shape.getD k 0)
        = sh.insertIdx n ys.length := by
      rw [hs, hrank]
      exact fromFrontQ_map 0 ys.length sh n
    simp only [transpose, hshape]
    apply ofFn_congr
    intro j hj
    have hjl : j.length = S.rank := by
      rw [valid_length hj, List.length_insertIdx_of_le_length hle, hrank]
    rw [scatter_fromFront S.rank n (hrank ▸ hlt) j hjl]
    have hv : Valid (j.getD n 0 :: j.eraseIdx n) (ys.length :: sh) := by
      refine ⟨?_, ?_⟩
      · have := valid_getElem hj n (by rw [List.length_insertIdx_of_le_length hle]; exact hlt)
        rwa [List.getElem_insertIdx_self] at this
      · have := valid_eraseIdx n _ _ hj
        simpa [List.eraseIdx_insertIdx_self] using this
    rw [hS, getD_ofFn _ hv]
    rfl

theorem take_stack [DecidableEq α] (sh : List Nat) (n : Nat) (ys : List (Arr α)) (S : Arr α)
    (hS : stack sh n ys = .ok S) (hwf : ∀ y ∈ ys, WF y = true) (i : Nat) (hi : i < ys.length) :
    take S n i = .ok ys[i] := by
  obtain ⟨hle, hall, rfl⟩ := stack_eq_ok.1 hS
  have hn : n < (sh.insertIdx n ys.length).length := by
    rw [List.length_insertIdx_of_le_length hle]; exact Nat.lt_succ_of_le hle
  simp only [take, shape_ofFn, List.getElem?_eq_getElem hn, List.getElem_insertIdx_self, hi, if_true,
    List.eraseIdx_insertIdx_self]
  congr 1
  rw [eq_ofFn_of_wf (hwf ys[i] (List.getElem_mem hi)), hall _ (List.getElem_mem hi)]
  apply ofFn_congr
  intro j hj
  have hv : Valid (j.insertIdx n i) (sh.insertIdx n ys.length) := valid_insertIdx' n j sh i _ hle hj hi
  rw [getD_ofFn _ hv]
  have hjl : n ≤ j.length := by rw [valid_length hj]; exact hle
  have h1 : (j.insertIdx n i).getD n 0 = i := by
    rw [List.getD_eq_getElem?_getD, List.getElem?_eq_getElem
      (by rw [List.length_insertIdx_of_le_length hjl]; exact Nat.lt_succ_of_le hjl)]
    simp [List.getElem_insertIdx_self]
  rw [h1, List.eraseIdx_insertIdx_self, List.getD_eq_getElem?_getD, List.getElem?_eq_getElem hi]
  simp

end Arr

theorem stackAt_eq_ok {α : Type} [Inhabited α] {k : Int} {sh : List Nat} {ls : List (Arr α)} {S : Arr α} :
    stackAt k sh ls = .ok S ↔ ∃ n, normAxis (sh.length + 1) k = some n ∧ Arr.stack sh n ls = .ok S := by
  unfold stackAt
  cases normAxis (sh.length + 1) k with
  | none => exact ⟨nofun, fun ⟨_, h, _⟩ => nomatch h⟩
  | some n => exact ⟨fun h => ⟨n, rfl, h⟩, fun ⟨_, h, hS⟩ => Option.some.inj h ▸ hS⟩

theorem takeAt_stackAt {α : Type} [Inhabited α] [DecidableEq α] {k : Int} {sh : List Nat} {ls : List (Arr α)}
    {S : Arr α} (hS : stackAt k sh ls = .ok S) (hwf : ∀ y ∈ ls, Arr.WF y = true) (i : Nat) (hi : i < ls.length) :
    takeAt k i S = .ok ls[i] := by
  obtain ⟨n, hn, hS⟩ := stackAt_eq_ok.1 hS
  simp only [takeAt, Arr.rank_of_stack hS, hn]
  exact Arr.take_stack sh n ls S hS hwf i hi

end Flax.LiftLoop
