/-
Association lists as the models use them for Python dicts: lookup is core's `List.lookup` (a model's own lookup
function is that, by `lookup_unique`, or by `find?_key_eq_lookup` where it is spelt with `find?`); `d[k] = v` replaces in place or appends, which `IsUpsert` says of a model
function by its three equations. What the areas need of their dicts is proved here once, in terms of `lookup`, the
entries and the list of keys `l.map (·.1)`.
-/
import Flax.Proofs.ListLemmas

namespace Flax.Assoc
universe u v w
variable {κ : Type u} {ν : Type v}

/-- two elements of a list are told apart by whatever has no duplicate along the list: entries by their keys in a
dict, by their values where those are distinct -/
theorem eq_of_nodup_map {α : Type u} {β : Type v} {f : α → β} {l : List α} (hn : (l.map f).Nodup) {a b : α}
    (ha : a ∈ l) (hb : b ∈ l) (e : f a = f b) : a = b := by
  induction l with
  | nil => cases ha
  | cons x r ih =>
    have hn := List.nodup_cons.mp hn
    rcases List.mem_cons.mp ha with rfl | ha' <;> rcases List.mem_cons.mp hb with rfl | hb'
    · rfl
    · exact absurd (e ▸ List.mem_map_of_mem hb') hn.1
    · exact absurd (e ▸ List.mem_map_of_mem ha') hn.1
    · exact ih hn.2 ha' hb'

section
variable [BEq κ] [LawfulBEq κ]

theorem lookup_cons_eq {k : κ} {p : κ × ν} (h : p.1 = k) (r : List (κ × ν)) : (p :: r).lookup k = some p.2 := by
  rw [← h, List.lookup_cons_self]

theorem lookup_cons_ne {k : κ} {p : κ × ν} (h : p.1 ≠ k) (r : List (κ × ν)) : (p :: r).lookup k = r.lookup k := by
  rw [List.lookup_cons, beq_false_of_ne (Ne.symm h)]

theorem lookup_cons [DecidableEq κ] (k : κ) (p : κ × ν) (r : List (κ × ν)) :
    (p :: r).lookup k = if p.1 = k then some p.2 else r.lookup k := by
  split
  · next h => exact lookup_cons_eq h r
  · next h => exact lookup_cons_ne h r

/-- a function with the two equations of a lookup is `List.lookup` -/
theorem lookup_unique [DecidableEq κ] {get : κ → List (κ × ν) → Option ν} (nil : ∀ k, get k [] = none)
    (cons : ∀ k k' v r, get k ((k', v) :: r) = if k' = k then some v else get k r) (k : κ) (l : List (κ × ν)) :
    get k l = l.lookup k := by
  induction l with
  | nil => exact nil k
  | cons p r ih => rw [cons k p.1 p.2 r, ih, lookup_cons]

/-- the other way the models spell a lookup: `find?` the entry by its key, then take the value -/
theorem find?_key_eq_lookup [DecidableEq κ] (k : κ) (l : List (κ × ν)) :
    (l.find? fun e => e.1 = k).map (·.2) = l.lookup k :=
  lookup_unique (get := fun k l => (l.find? fun e => decide (e.1 = k)).map (·.2)) (fun _ => rfl)
    (fun k k' v r => by by_cases h : k' = k <;> simp [h]) k l

omit [BEq κ] [LawfulBEq κ] in
theorem find?_val_eq_lookup {ν : Type v} [BEq ν] [LawfulBEq ν] [DecidableEq ν] (v : ν) (l : List (κ × ν)) :
    (l.find? fun e => e.2 = v).map (·.1) = (l.map Prod.swap).lookup v := by
  induction l with
  | nil => rfl
  | cons p r ih => by_cases h : p.2 = v <;> simp [lookup_cons, h, ih]

theorem lookup_eq_none_iff {k : κ} {l : List (κ × ν)} : l.lookup k = none ↔ k ∉ l.map (·.1) := by
  rw [List.lookup_eq_none_iff, List.mem_map]
  exact ⟨fun h ⟨p, hp, e⟩ => bne_iff_ne.mp (h p hp) e.symm, fun h p hp => bne_iff_ne.mpr fun e => h ⟨p, hp, e.symm⟩⟩

theorem lookup_isSome_iff {k : κ} {l : List (κ × ν)} : (l.lookup k).isSome ↔ k ∈ l.map (·.1) := by
  rw [← Decidable.not_iff_not, ← lookup_eq_none_iff, Bool.not_eq_true, Option.isSome_eq_false_iff, Option.isNone_iff_eq_none]

theorem mem_of_lookup {k : κ} {v : ν} {l : List (κ × ν)} (h : l.lookup k = some v) : (k, v) ∈ l := by
  induction l with
  | nil => cases h
  | cons p r ih =>
    by_cases hk : p.1 = k
    · rw [lookup_cons_eq hk] at h; exact (Option.some.inj h) ▸ hk ▸ List.mem_cons_self
    · rw [lookup_cons_ne hk] at h; exact List.mem_cons_of_mem _ (ih h)

theorem lookup_of_mem {k : κ} {v : ν} {l : List (κ × ν)} (hn : (l.map (·.1)).Nodup) (h : (k, v) ∈ l) :
    l.lookup k = some v := by
  induction l with
  | nil => cases h
  | cons p r ih =>
    have hn := List.nodup_cons.mp hn
    rcases List.mem_cons.mp h with rfl | h
    · exact List.lookup_cons_self
    · rw [lookup_cons_ne fun e => hn.1 (List.mem_map.mpr ⟨(k, v), h, e.symm⟩), ih hn.2 h]

theorem lookup_eq_some_iff {k : κ} {v : ν} {l : List (κ × ν)} (hn : (l.map (·.1)).Nodup) :
    l.lookup k = some v ↔ (k, v) ∈ l := ⟨mem_of_lookup, lookup_of_mem hn⟩

/-- lookup sees a list with distinct keys only through its set of entries: in particular not through its order -/
theorem lookup_congr {l₁ l₂ : List (κ × ν)} (hn₁ : (l₁.map (·.1)).Nodup) (hn₂ : (l₂.map (·.1)).Nodup)
    (h : ∀ p, p ∈ l₁ ↔ p ∈ l₂) (k : κ) : l₁.lookup k = l₂.lookup k := by
  cases h₁ : l₁.lookup k with
  | some v => exact (lookup_of_mem hn₂ ((h _).mp (mem_of_lookup h₁))).symm
  | none =>
    cases h₂ : l₂.lookup k with
    | none => rfl
    | some v => rw [lookup_of_mem hn₁ ((h _).mpr (mem_of_lookup h₂))] at h₁; cases h₁

theorem lookup_perm {l₁ l₂ : List (κ × ν)} (hp : l₁.Perm l₂) (hn : (l₁.map (·.1)).Nodup) (k : κ) :
    l₁.lookup k = l₂.lookup k :=
  lookup_congr hn ((hp.map _).nodup_iff.mp hn) (fun _ => hp.mem_iff) k

theorem lookup_filter_key (p : κ → Bool) (k : κ) (l : List (κ × ν)) :
    (l.filter fun kv => p kv.1).lookup k = if p k then l.lookup k else none := by
  induction l with
  | nil => simp
  | cons x r ih =>
    rw [List.filter_cons]
    by_cases hk : x.1 = k
    · cases hp : p k <;> simp [lookup_cons_eq hk, hk, hp, ih]
    · cases p x.1 <;> simp [lookup_cons_ne hk, ih]

theorem lookup_map {ν' : Type w} (f : κ → ν → ν') (k : κ) (l : List (κ × ν)) :
    (l.map fun p => (p.1, f p.1 p.2)).lookup k = (l.lookup k).map (f k) := by
  induction l with
  | nil => rfl
  | cons x r ih =>
    rw [List.map_cons]
    by_cases hk : x.1 = k
    · rw [lookup_cons_eq hk, lookup_cons_eq (p := (x.1, f x.1 x.2)) hk, ← hk]; rfl
    · rw [lookup_cons_ne hk, lookup_cons_ne (p := (x.1, f x.1 x.2)) hk, ih]

theorem lookup_map_val {ν' : Type w} (f : ν → ν') (k : κ) (l : List (κ × ν)) :
    (l.map fun p => (p.1, f p.2)).lookup k = (l.lookup k).map f :=
  lookup_map (fun _ => f) k l

/-- re-keying: the entries whose key `f` maps somewhere are kept under the new key, the others dropped; when `f` is
injective where it is defined, the new key finds what the old key held -/
theorem lookup_filterMap_key {κ' : Type w} [BEq κ'] [LawfulBEq κ'] (f : κ → Option κ')
    (hinj : ∀ a b k', f a = some k' → f b = some k' → a = b) {k : κ} {k' : κ'} (hk : f k = some k')
    (l : List (κ × ν)) : (l.filterMap fun p => (f p.1).map fun q => (q, p.2)).lookup k' = l.lookup k := by
  induction l with
  | nil => rfl
  | cons p r ih =>
    rw [List.filterMap_cons]
    cases hp : f p.1 with
    | none =>
      have hne : p.1 ≠ k := fun e => by rw [e, hk] at hp; cases hp
      rw [lookup_cons_ne hne]; exact ih
    | some q =>
      by_cases hq : q = k'
      · rw [lookup_cons_eq (hinj _ _ k' (hq ▸ hp) hk)]; exact lookup_cons_eq (p := (q, p.2)) hq _
      · have hne : p.1 ≠ k := fun e => hq (by rw [e, hk] at hp; exact (Option.some.inj hp).symm)
        rw [lookup_cons_ne hne]; exact (lookup_cons_ne (p := (q, p.2)) hq _).trans ih

end

variable [DecidableEq κ]

/-- `d[k] = v` for an insertion-ordered dict -/
structure IsUpsert (set : κ → ν → List (κ × ν) → List (κ × ν)) : Prop where
  nil : ∀ k v, set k v [] = [(k, v)]
  hit : ∀ k v v' r, set k v ((k, v') :: r) = (k, v) :: r
  miss : ∀ {k k'} v v' r, k' ≠ k → set k v ((k', v') :: r) = (k', v') :: set k v r

namespace IsUpsert
variable {set : κ → ν → List (κ × ν) → List (κ × ν)} (h : IsUpsert set)
include h

theorem cons (k : κ) (v : ν) (p : κ × ν) (r : List (κ × ν)) :
    set k v (p :: r) = if p.1 = k then (k, v) :: r else p :: set k v r := by
  by_cases hk : p.1 = k
  · rw [if_pos hk, ← hk]; exact h.hit ..
  · rw [if_neg hk]; exact h.miss _ _ _ hk

theorem append_of_not_mem {k : κ} (v : ν) {l : List (κ × ν)} (r : List (κ × ν)) (hk : k ∉ l.map (·.1)) :
    set k v (l ++ r) = l ++ set k v r := by
  induction l with
  | nil => rfl
  | cons p l ih =>
    rw [List.map_cons, List.mem_cons, not_or] at hk
    rw [List.cons_append, h.cons, if_neg (Ne.symm hk.1), ih hk.2]; rfl

theorem of_not_mem {k : κ} (v : ν) {l : List (κ × ν)} (hk : k ∉ l.map (·.1)) : set k v l = l ++ [(k, v)] := by
  have := h.append_of_not_mem v [] hk
  rwa [List.append_nil, h.nil] at this

theorem keys_of_mem {k : κ} (v : ν) {l : List (κ × ν)} (hk : k ∈ l.map (·.1)) : (set k v l).map (·.1) = l.map (·.1) := by
  induction l with
  | nil => cases hk
  | cons p r ih =>
    rw [h.cons]
    by_cases hp : p.1 = k
    · rw [if_pos hp, List.map_cons, List.map_cons, hp]
    · rw [if_neg hp, List.map_cons, List.map_cons, ih ((List.mem_cons.mp hk).resolve_left (Ne.symm hp))]

theorem keys (k : κ) (v : ν) (l : List (κ × ν)) :
    (set k v l).map (·.1) = if k ∈ l.map (·.1) then l.map (·.1) else l.map (·.1) ++ [k] := by
  split
  · next hk => exact h.keys_of_mem v hk
  · next hk => rw [h.of_not_mem v hk, List.map_append]; rfl

theorem nodup_keys (k : κ) (v : ν) {l : List (κ × ν)} (hn : (l.map (·.1)).Nodup) : ((set k v l).map (·.1)).Nodup := by
  rw [h.keys]
  split
  · exact hn
  · next hk => exact Lists.nodup_concat hn hk

theorem mem {k : κ} {v : ν} {l : List (κ × ν)} {x : κ × ν} (hx : x ∈ set k v l) : x = (k, v) ∨ x ∈ l := by
  induction l with
  | nil => rw [h.nil] at hx; exact Or.inl (List.mem_singleton.mp hx)
  | cons p r ih =>
    rw [h.cons] at hx
    split at hx
    · exact (List.mem_cons.mp hx).imp id (List.mem_cons_of_mem _)
    · exact (List.mem_cons.mp hx).elim (fun e => Or.inr (e ▸ List.mem_cons_self))
        fun hx => (ih hx).imp id (List.mem_cons_of_mem _)

theorem filter_ne (k : κ) (v : ν) (l : List (κ × ν)) :
    (set k v l).filter (fun p => decide (p.1 ≠ k)) = l.filter (fun p => decide (p.1 ≠ k)) := by
  induction l with
  | nil => rw [h.nil, List.filter_cons, if_neg (by simp), List.filter_nil]
  | cons p r ih =>
    rw [h.cons]
    by_cases hk : p.1 = k
    · rw [if_pos hk, List.filter_cons, List.filter_cons, if_neg (by simp), if_neg (by simp [hk])]
    · rw [if_neg hk, List.filter_cons, List.filter_cons, ih]

theorem set_set (k : κ) (v v' : ν) (l : List (κ × ν)) : set k v' (set k v l) = set k v' l := by
  induction l with
  | nil => rw [h.nil, h.hit, h.nil]
  | cons p r ih =>
    rw [h.cons, h.cons]
    split
    · exact h.hit ..
    · next hk => rw [h.cons, if_neg hk, ih]

section
variable [BEq κ] [LawfulBEq κ]

theorem lookup (k k' : κ) (v : ν) (l : List (κ × ν)) :
    (set k v l).lookup k' = if k' = k then some v else l.lookup k' := by
  induction l with
  | nil => rw [h.nil, lookup_cons]; simp only [eq_comm, List.lookup_nil]
  | cons p r ih =>
    rw [h.cons]
    by_cases hk : p.1 = k <;> by_cases hk' : k' = k
    · simp [lookup_cons, hk, hk']
    · simp [lookup_cons, hk, hk', Ne.symm hk']
    · subst hk'; simp [lookup_cons, hk, ih]
    · simp [lookup_cons, hk, hk', ih]

theorem lookup_self (k : κ) (v : ν) (l : List (κ × ν)) : (set k v l).lookup k = some v := by
  rw [h.lookup, if_pos rfl]

theorem lookup_ne {k k' : κ} (hk : k' ≠ k) (v : ν) (l : List (κ × ν)) : (set k v l).lookup k' = l.lookup k' := by
  rw [h.lookup, if_neg hk]

theorem of_lookup {k : κ} {v : ν} {l : List (κ × ν)} (hl : l.lookup k = some v) : set k v l = l := by
  induction l with
  | nil => cases hl
  | cons p r ih =>
    rw [h.cons]
    by_cases hk : p.1 = k
    · rw [lookup_cons_eq hk] at hl
      rw [if_pos hk, ← hk, ← Option.some.inj hl]
    · rw [lookup_cons_ne hk] at hl
      rw [if_neg hk, ih hl]

end

theorem map_val {ν' : Type w} {set' : κ → ν' → List (κ × ν') → List (κ × ν')} (h' : IsUpsert set') (f : ν → ν')
    (k : κ) (v : ν) (l : List (κ × ν)) :
    (set k v l).map (fun p => (p.1, f p.2)) = set' k (f v) (l.map fun p => (p.1, f p.2)) := by
  induction l with
  | nil => rw [h.nil, List.map_nil, h'.nil]; rfl
  | cons p r ih =>
    rw [h.cons, List.map_cons, h'.cons]
    split
    · rfl
    · rw [List.map_cons, ih]

theorem any_key (P : κ → Bool) (k : κ) (v : ν) (l : List (κ × ν)) :
    (set k v l).any (fun p => P p.1) = (l.any (fun p => P p.1) || P k) := by
  induction l with
  | nil => rw [h.nil, List.any_cons, List.any_nil, Bool.or_false, Bool.false_or]
  | cons p r ih =>
    rw [h.cons]
    split
    · next hk => rw [List.any_cons, List.any_cons, hk, Bool.or_comm (P k), Bool.or_assoc, Bool.or_self]
    · rw [List.any_cons, List.any_cons, ih, Bool.or_assoc]

/-- values stay distinct where the new value is not yet stored under another key -/
theorem nodup_vals {k : κ} {v : ν} {l : List (κ × ν)} (hk : (l.map (·.1)).Nodup) (hv : (l.map (·.2)).Nodup)
    (hg : ∀ k', (k', v) ∈ l → k' = k) : ((set k v l).map (·.2)).Nodup := by
  induction l with
  | nil => rw [h.nil]; exact List.pairwise_singleton _ _
  | cons p r ih =>
    have hk := List.nodup_cons.mp hk
    have hv := List.nodup_cons.mp hv
    rw [h.cons]
    split
    · next hp =>
      refine List.nodup_cons.mpr ⟨fun hm => ?_, hv.2⟩
      obtain ⟨e, he, he2⟩ := List.mem_map.mp hm
      have : e.1 = k := hg e.1 (List.mem_cons_of_mem _ ((Prod.ext rfl he2 : e = (e.1, v)) ▸ he))
      exact hk.1 (List.mem_map.mpr ⟨e, he, this.trans hp.symm⟩)
    · next hp =>
      refine List.nodup_cons.mpr ⟨fun hm => ?_, ih hk.2 hv.2 fun k' hm => hg k' (List.mem_cons_of_mem _ hm)⟩
      obtain ⟨e, he, he2⟩ := List.mem_map.mp hm
      rcases h.mem he with rfl | h1
      · exact hp (hg p.1 (List.mem_cons.mpr (Or.inl (Prod.ext rfl he2))))
      · exact hv.1 (he2 ▸ List.mem_map_of_mem h1)

/-! `for k, v in b: a[k] = v` (`dict(b)` from `a = []`, `a.update(b)`): the fold of an upsert over the items `b`. -/

theorem foldl_mem {a b : List (κ × ν)} {x : κ × ν} (hx : x ∈ b.foldl (fun acc p => set p.1 p.2 acc) a) :
    x ∈ a ∨ x ∈ b := by
  induction b generalizing a with
  | nil => exact Or.inl hx
  | cons q r ih =>
    rcases ih hx with h1 | h1
    · exact (h.mem h1).elim (fun e => Or.inr (List.mem_cons.mpr (Or.inl e))) Or.inl
    · exact Or.inr (List.mem_cons_of_mem _ h1)

theorem foldl_nodup_keys {a : List (κ × ν)} (b : List (κ × ν)) (hn : (a.map (·.1)).Nodup) :
    ((b.foldl (fun acc p => set p.1 p.2 acc) a).map (·.1)).Nodup := by
  induction b generalizing a with
  | nil => exact hn
  | cons q r ih => exact ih (h.nodup_keys q.1 q.2 hn)

/-- items under distinct keys that `a` does not have are appended in their order -/
theorem foldl_append {a b : List (κ × ν)} (hb : (b.map (·.1)).Nodup) (hd : ∀ k ∈ b.map (·.1), k ∉ a.map (·.1)) :
    b.foldl (fun acc p => set p.1 p.2 acc) a = a ++ b := by
  induction b generalizing a with
  | nil => exact (List.append_nil a).symm
  | cons q r ih =>
    have hb := List.nodup_cons.mp hb
    rw [List.foldl_cons, h.of_not_mem q.2 (hd q.1 List.mem_cons_self), ih hb.2, List.append_assoc]; rfl
    intro k hk hm
    rcases List.mem_append.mp (List.map_append ▸ hm) with hm | hm
    · exact hd k (List.mem_cons_of_mem _ hk) hm
    · exact hb.1 (List.mem_singleton.mp hm ▸ hk)

theorem foldl_append_of_nodup {a b : List (κ × ν)} (hn : ((a ++ b).map (·.1)).Nodup) :
    b.foldl (fun acc p => set p.1 p.2 acc) a = a ++ b :=
  have hn := List.nodup_append.mp (List.map_append ▸ hn)
  h.foldl_append hn.2.1 fun k hk hm => hn.2.2 k hm k hk rfl

theorem foldl_map_val {ν' : Type w} {set' : κ → ν' → List (κ × ν') → List (κ × ν')} (h' : IsUpsert set') (f : ν → ν')
    (a b : List (κ × ν)) :
    (b.foldl (fun acc p => set p.1 p.2 acc) a).map (fun p => (p.1, f p.2)) =
      (b.map fun p => (p.1, f p.2)).foldl (fun acc p => set' p.1 p.2 acc) (a.map fun p => (p.1, f p.2)) := by
  induction b generalizing a with
  | nil => rfl
  | cons q r ih => rw [List.foldl_cons, ih, h.map_val h', List.map_cons, List.foldl_cons]

/-- a key reads the last item of `b` that has it, else what it read in `a` -/
theorem foldl_lookup [BEq κ] [LawfulBEq κ] (a b : List (κ × ν)) (k : κ) :
    (b.foldl (fun acc p => set p.1 p.2 acc) a).lookup k = (b.reverse.lookup k).or (a.lookup k) := by
  induction b generalizing a with
  | nil => rfl
  | cons q r ih =>
    rw [List.foldl_cons, ih, h.lookup, List.reverse_cons, List.lookup_append, Option.or_assoc, lookup_cons,
      List.lookup_nil]
    by_cases hk : q.1 = k
    · rw [if_pos hk, if_pos hk.symm]; rfl
    · rw [if_neg hk, if_neg (Ne.symm hk)]; rfl

/-- with distinct keys on both sides: the items of `b`, and the entries of `a` under keys that `b` lacks -/
theorem foldl_mem_iff {a b : List (κ × ν)} (ha : (a.map (·.1)).Nodup) (hb : (b.map (·.1)).Nodup) {x : κ × ν} :
    x ∈ b.foldl (fun acc p => set p.1 p.2 acc) a ↔ x ∈ b ∨ (x ∈ a ∧ x.1 ∉ b.map (·.1)) := by
  rw [← lookup_eq_some_iff (h.foldl_nodup_keys b ha), h.foldl_lookup, ← lookup_perm b.reverse_perm.symm hb,
    Option.or_eq_some_iff, lookup_eq_some_iff hb, lookup_eq_none_iff, lookup_eq_some_iff ha, and_comm]

end IsUpsert
end Flax.Assoc
