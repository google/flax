/-
Keys as symbolic terms for C18: reseeded streams, ToLinen calls under the scope's `make_rng` counters,
ToNNX draws.
-/
import Flax.Model.Bridge
import Flax.Proofs.Assoc

namespace Flax.Bridge

/-- the first `n` keys a stream hands out -/
def drawN : RngStream → Nat → List KeyT
  | _, 0 => []
  | s, n + 1 => s.draw.1 :: drawN s.draw.2 n

theorem drawN_eq : ∀ (n : Nat) (s : RngStream),
    drawN s n = (List.range n).map fun j => KeyT.fold s.key (s.count + j) := by
  intro n
  induction n with
  | zero => intro s; rfl
  | succ n ih =>
    intro s
    rw [drawN, ih, List.range_succ_eq_map]
    simp only [RngStream.draw, List.map_cons, List.map_map, Nat.add_zero, List.cons.injEq, true_and]
    apply List.map_congr_left
    intro j _
    simp only [Function.comp_apply]
    congr 1; omega

theorem find?_linenRngsDict (path : Path) (rngs : Keys) (n : String) :
    (linenRngsDict path rngs).find? (fun k => k.1 = n) =
      (rngs.find? fun e => e.1 = n).map fun e => (e.1, KeyT.linen (.base e.2) path 0) := by
  simp only [linenRngsDict, List.find?_map]
  rfl

theorem counters_get_after (rngs : Keys) (f : String → Nat) (n : String) (hmem : n ∈ rngs.map Prod.fst) :
    ScopeCounters.get (rngs.map fun e => (e.1, f e.1)) n = f n := by
  rw [ScopeCounters.get, Assoc.find?_key_eq_lookup, Assoc.lookup_map fun k _ => f k]
  obtain ⟨v, hv⟩ := Option.isSome_iff_exists.mp (Assoc.lookup_isSome_iff.mpr hmem)
  rw [hv]; rfl

theorem callKeyDicts_spec (path : Path) (rngs : Keys) :
    ∀ (m : Nat) (c : ScopeCounters) (base : Nat), (∀ n ∈ rngs.map Prod.fst, c.get n = base) →
    callKeyDicts path rngs m c =
      (List.range m).map fun k => rngs.map fun e => (e.1, KeyT.linen (.base e.2) path (base + k)) := by
  intro m
  induction m with
  | zero => intro c base _; rfl
  | succ m ih =>
    intro c base hc
    rw [callKeyDicts, List.range_succ_eq_map, List.map_cons, List.map_map]
    have h1 : (linenRngsDictC path rngs c).1 = rngs.map fun e => (e.1, KeyT.linen (.base e.2) path (base + 0)) := by
      simp only [linenRngsDictC, Nat.add_zero]
      apply List.map_congr_left
      intro e he
      rw [hc e.1 (List.mem_map.mpr ⟨e, he, rfl⟩)]
    rw [h1, ih (linenRngsDictC path rngs c).2 (base + 1) (by
      intro n hmem
      simp only [linenRngsDictC]
      rw [counters_get_after rngs (fun n => c.get n + 1) n hmem, hc n hmem])]
    congr 1
    apply List.map_congr_left
    intro k _
    simp only [Function.comp_apply]
    apply List.map_congr_left
    intro e _
    congr 2; omega

/-- the wrapper's `rngs` after `i` draws -/
def Rngs.after (r : Rngs) : Nat → Rngs
  | 0 => r
  | i + 1 => (r.after i).draw.2

theorem Rngs.after_eq (r : Rngs) : ∀ i, r.after i = ⟨r.streams.map fun nc => (nc.1, nc.2 + i), r.src⟩
  | 0 => by simp [Rngs.after]
  | i + 1 => by
    simp only [Rngs.after, Rngs.draw, Rngs.after_eq r i, List.map_map, Rngs.mk.injEq, and_true]
    exact List.map_congr_left fun nc _ => by simp [Nat.add_assoc]

end Flax.Bridge
