/-
`flatten` is a canonical form.  Heaps related by an injective address map (objects as maps, distinct attribute keys) flatten
to the SAME graphdef and the SAME leaves, with `ref_index`es related by the map; so the pure value the traced function returns
is the flattening of the eager result.  The definitions `flatten` emits carry consecutive indices, so equality of stamped
graphdefs determines the stamp table.
-/
import Flax.Proofs.NnxJit

namespace Flax.Nnx
open Flax.Heap Flax.Graph

/-- the two `ref_index`es register corresponding objects at the same positions -/
inductive IdxRel (φ : Addr → Option Addr) : RefIndex → RefIndex → Prop where
  | nil : IdxRel φ [] []
  | cons {a b : Nat} {idx idx' : RefIndex} : φ a = some b → IdxRel φ idx idx' → IdxRel φ (a :: idx) (b :: idx')

theorem idxRel_indexOf {φ : Addr → Option Addr} (inj : ∀ (a b c : Nat), φ a = some c → φ b = some c → a = b) {a b : Nat}
    (hab : φ a = some b) {idx idx' : RefIndex} (h : IdxRel φ idx idx') : indexOf? a idx = indexOf? b idx' := by
  induction h with
  | nil => rfl
  | cons h0 _ ih =>
    rename_i a0 b0 _ _ _
    simp only [indexOf?]
    by_cases e : a0 = a
    · subst e
      have : b0 = b := by rw [hab] at h0; exact (Option.some.inj h0).symm
      simp [this]
    · have : b0 ≠ b := fun eb => e (inj a0 a b (eb ▸ h0) hab)
      simp only [e, this, if_false]
      rw [ih]

theorem idxRel_length {φ : Addr → Option Addr} {idx idx' : RefIndex} (h : IdxRel φ idx idx') : idx.length = idx'.length := by
  induction h with
  | nil => rfl
  | cons _ _ ih => simp [ih]

theorem idxRel_snoc {φ : Addr → Option Addr} {a b : Nat} (hab : φ a = some b) {idx idx' : RefIndex}
    (h : IdxRel φ idx idx') : IdxRel φ (idx ++ [a]) (idx' ++ [b]) := by
  induction h with
  | nil => exact .cons hab .nil
  | cons h0 _ ih => exact .cons h0 ih

theorem idxRel_get {φ : Addr → Option Addr} {idx idx' : RefIndex} (h : IdxRel φ idx idx') : ∀ (i : Nat) (a : Nat),
    idx[i]? = some a → ∃ (b : Nat), idx'[i]? = some b ∧ φ a = some b := by
  induction h with
  | nil => intro i a h; simp at h
  | cons h0 _ ih =>
    rename_i a0 b0 _ _ _
    intro i a h
    cases i with
    | zero => rw [List.getElem?_cons_zero] at h; cases h; exact ⟨b0, rfl, h0⟩
    | succ i => rw [List.getElem?_cons_succ] at h ⊢; exact ih i a h

theorem flatten_iso {φ : Addr → Option Addr} {h G : Heap} (R : Rel φ h G) (nh : AttrsNodup h) (nG : AttrsNodup G) :
    ∀ fuel : Nat,
    (∀ path v' idx' gd ls idx1', flattenVal fuel G path v' idx' = .ok (gd, ls, idx1') →
      ∀ v idx, ValRel φ v v' → IdxRel φ idx idx' →
        ∃ idx1, flattenVal fuel h path v idx = .ok (gd, ls, idx1) ∧ IdxRel φ idx1 idx1') ∧
    (∀ path items' idx' gs ls idx1', flattenItems fuel G path items' idx' = .ok (gs, ls, idx1') →
      ∀ items idx, KVsRel φ items items' → IdxRel φ idx idx' →
        ∃ idx1, flattenItems fuel h path items idx = .ok (gs, ls, idx1) ∧ IdxRel φ idx1 idx1') := by
  -- `G`'s run is replayed on `h`: related objects stand at the same positions (`IdxRel`), and their attribute maps, sorted,
  -- are related entrywise (`attrsSim_sorted`: here distinct keys are needed)
  have href : ∀ {a b : Nat} {idx idx' : RefIndex}, φ a = some b → IdxRel φ idx idx' →
      indexOf? a idx = indexOf? b idx' ∧ typeName h a = typeName G b ∧
        ∃ o o', h[a]? = some o ∧ G[b]? = some o' ∧ ObjSim φ o o' := by
    intro a b idx idx' hab hi
    obtain ⟨o, o', g1, g2, g3⟩ := R.obj a b hab
    refine ⟨idxRel_indexOf R.inj hab hi, ?_, o, o', g1, g2, g3⟩
    unfold typeName; rw [g1, g2]
    cases g3 <;> rfl
  refine flatten_induct G
    (P := fun fuel path v' idx' gd ls idx1' => ∀ v idx, ValRel φ v v' → IdxRel φ idx idx' →
      ∃ idx1, flattenVal fuel h path v idx = .ok (gd, ls, idx1) ∧ IdxRel φ idx1 idx1')
    (Q := fun fuel path items' idx' gs ls idx1' => ∀ items idx, KVsRel φ items items' → IdxRel φ idx idx' →
      ∃ idx1, flattenItems fuel h path items idx = .ok (gs, ls, idx1) ∧ IdxRel φ idx1 idx1')
    ?_ ?_ ?_ ?_ ?_ ?_ ?_ ?_ ?_ ?_
  · intro _ _ s _ v idx hv hi; cases hv; exact ⟨idx, rfl, hi⟩
  · intro _ _ d _ v idx hv hi; cases hv; exact ⟨idx, rfl, hi⟩
  · intro _ _ _ v idx hv hi; cases hv; exact ⟨idx, rfl, hi⟩
  · intro fuel path t ys idx' as ls idx1' _ ih v idx hv hi
    cases hv with
    | seq hs =>
      obtain ⟨idx1, he, hr⟩ := ih _ idx (ValsRel.enum 0 hs) hi
      exact ⟨idx1, by rw [flattenVal, he], hr⟩
  · intro fuel path kvs' idx' as ls idx1' _ ih v idx hv hi
    cases hv with
    | dict hd =>
      obtain ⟨idx1, he, hr⟩ := ih _ idx hd hi
      exact ⟨idx1, by rw [flattenVal, he], hr⟩
  · intro fuel path b idx' i hi' v idx hv hi
    cases hv with
    | ref hab =>
      obtain ⟨hio, htn, _⟩ := href hab hi
      exact ⟨idx, by rw [flattenVal, hio, hi', htn], hi⟩
  · intro fuel path b idx' ty val md hb hget v idx hv hi
    cases hv with
    | ref hab =>
      obtain ⟨hio, _, o, o', g1, g2, g3⟩ := href hab hi
      rw [hget] at g2; cases g2
      cases g3
      exact ⟨_, by rw [flattenVal, hio, indexOf?_none.mpr hb, g1, idxRel_length hi], idxRel_snoc hab hi⟩
  · intro fuel path b idx' cls attrs' as ls idx1' hb hget _ ih v idx hv hi
    cases hv with
    | ref hab =>
      rename_i a
      obtain ⟨hio, _, o, o', g1, g2, g3⟩ := href hab hi
      rw [hget] at g2; cases g2
      cases g3 with
      | node hA =>
        rename_i A
        obtain ⟨idx1, he, hr⟩ := ih _ (idx ++ [a]) (attrsSim_sorted hA (nh a cls A g1) (nG b cls attrs' hget))
          (idxRel_snoc hab hi)
        exact ⟨idx1, by rw [flattenVal, hio, indexOf?_none.mpr hb, g1]; simp only [he, idxRel_length hi], hr⟩
  · intro _ _ _ items idx hk hi; cases hk; exact ⟨idx, rfl, hi⟩
  · intro fuel path k w r' idx' g ls1 idx1' gs ls2 idx2' _ _ ih1 ih2 items idx hk hi
    cases hk with
    | cons hv ht =>
      obtain ⟨i1, e1, r1⟩ := ih1 _ idx hv hi
      obtain ⟨i2, e2, r2⟩ := ih2 _ i1 ht r1
      exact ⟨i2, by rw [flattenItems, e1]; simp only [e2], r2⟩

theorem flatRoots_iso {φ : Addr → Option Addr} {h G : Heap} (R : Rel φ h G) (nh : AttrsNodup h) (nG : AttrsNodup G)
    {vs' : List PVal} {idx' : RefIndex} {gds fss idx1'} (hF : FlatRoots G vs' idx' gds fss idx1') :
    ∀ {vs : List PVal} {idx : RefIndex}, ValsRel φ vs vs' → IdxRel φ idx idx' →
      ∃ idx1, FlatRoots h vs idx gds fss idx1 ∧ IdxRel φ idx1 idx1' := by
  induction hF with
  | nil _ => intro vs idx hv hi; cases hv; exact ⟨_, .nil _, hi⟩
  | cons heq _ ih =>
    intro vs idx hv hi
    cases hv with
    | cons hv1 hvt =>
      obtain ⟨i1, e1, r1⟩ := (flatten_iso R nh nG _).1 [] _ _ _ _ _ heq _ _ hv1 hi
      obtain ⟨i2, e2, r2⟩ := ih hvt r1
      exact ⟨i2, .cons e1 e2, r2⟩

mutual
  theorem erase_stamp (tbl : Nat → Option Nat) : ∀ (g : GDef), (stampWith tbl g).erase = g
    | .ref ty i => rfl
    | .var ty i md => rfl
    | .node kind idx attrs => by simp only [stampWith, ODef.erase, eraseAttrs_stamp tbl attrs]
    | .static s => rfl
    | .array => rfl
  theorem eraseAttrs_stamp (tbl : Nat → Option Nat) : ∀ (l : List (Key × GDef)), ODef.eraseAttrs (stampAttrs tbl l) = l
    | [] => rfl
    | (k, g) :: rest => by simp only [stampAttrs, ODef.eraseAttrs, erase_stamp tbl g, eraseAttrs_stamp tbl rest]
end

theorem stamp_inj_defs {t t' : Nat → Option Nat} {gds gds' : List GDef}
    (h : gds.map (stampWith t) = gds'.map (stampWith t')) : gds = gds' := by
  have := congrArg (List.map ODef.erase) h
  simpa [List.map_map, Function.comp_def, erase_stamp] using this

mutual
  /-- the indices of the definitions (Variables and graph nodes) of a graphdef, in emission order -/
  def defIdx : GDef → List Nat
    | .var _ i _ => [i]
    | .node _ idx attrs => (match idx with | some i => [i] | Option.none => []) ++ defIdxAttrs attrs
    | _ => []
  def defIdxAttrs : List (Key × GDef) → List Nat
    | [] => []
    | (_, g) :: rest => defIdx g ++ defIdxAttrs rest
end

mutual
  theorem stamp_eq_on {t t' : Nat → Option Nat} : ∀ (g : GDef), stampWith t g = stampWith t' g → ∀ i ∈ defIdx g, t i = t' i
    | .ref ty i, _, j, hj => by simp [defIdx] at hj
    | .static s, _, j, hj => by simp [defIdx] at hj
    | .array, _, j, hj => by simp [defIdx] at hj
    | .var ty i md, h, j, hj => by
      simp [defIdx] at hj; subst hj
      simp only [stampWith] at h
      injection h
    | .node kind idx attrs, h, j, hj => by
      simp only [stampWith] at h
      injection h with _ _ h3 h4
      simp only [defIdx, List.mem_append] at hj
      rcases hj with hj | hj
      · cases idx with
        | none => simp at hj
        | some i => simp at hj; subst hj; simpa using h3
      · exact stampAttrs_eq_on attrs h4 j hj
  theorem stampAttrs_eq_on {t t' : Nat → Option Nat} : ∀ (l : List (Key × GDef)), stampAttrs t l = stampAttrs t' l →
      ∀ i ∈ defIdxAttrs l, t i = t' i
    | [], _, j, hj => by simp [defIdxAttrs] at hj
    | (k, g) :: rest, h, j, hj => by
      simp only [stampAttrs] at h
      injection h with h1 h2
      injection h1 with _ h1'
      simp only [defIdxAttrs, List.mem_append] at hj
      rcases hj with hj | hj
      · exact stamp_eq_on g h1' j hj
      · exact stampAttrs_eq_on rest h2 j hj
end

theorem flatten_defIdx (g : Heap) : ∀ fuel : Nat,
    (∀ path v idx gd ls idx', flattenVal fuel g path v idx = .ok (gd, ls, idx') →
      ∃ new, idx' = idx ++ new ∧ defIdx gd = List.range' idx.length new.length) ∧
    (∀ path items idx gs ls idx', flattenItems fuel g path items idx = .ok (gs, ls, idx') →
      ∃ new, idx' = idx ++ new ∧ defIdxAttrs gs = List.range' idx.length new.length) := by
  refine flatten_induct g
    (P := fun _ _ _ idx gd _ idx' => ∃ new, idx' = idx ++ new ∧ defIdx gd = List.range' idx.length new.length)
    (Q := fun _ _ _ idx gs _ idx' => ∃ new, idx' = idx ++ new ∧ defIdxAttrs gs = List.range' idx.length new.length)
    ?_ ?_ ?_ ?_ ?_ ?_ ?_ ?_ ?_ ?_
  · exact fun _ _ _ _ => ⟨[], by simp, rfl⟩
  · exact fun _ _ _ _ => ⟨[], by simp, rfl⟩
  · exact fun _ _ _ => ⟨[], by simp, rfl⟩
  · exact fun _ _ _ _ _ _ _ _ _ h => by simpa [defIdx] using h
  · exact fun _ _ _ _ _ _ _ _ h => by simpa [defIdx] using h
  · exact fun _ _ _ _ _ _ => ⟨[], by simp, rfl⟩
  · exact fun _ _ a _ _ _ _ _ _ => ⟨[a], rfl, rfl⟩
  · intro _ _ a idx _ _ _ _ idx' _ _ _ ⟨new, e, hd⟩
    refine ⟨a :: new, by rw [e]; simp, ?_⟩
    simp [defIdx, hd, List.range'_succ]
  · exact fun _ _ _ => ⟨[], by simp, rfl⟩
  · intro _ _ _ _ _ idx _ _ idx1 _ _ idx2 _ _ ⟨n1, e1, d1⟩ ⟨n2, e2, d2⟩
    refine ⟨n1 ++ n2, by rw [e2, e1]; simp, ?_⟩
    rw [defIdxAttrs, d1, d2, e1, List.length_append, List.length_append, List.range'_append_1]

def defIdxRoots : List GDef → List Nat
  | [] => []
  | g :: gs => defIdx g ++ defIdxRoots gs

theorem flatRoots_defIdx {g : Heap} {vs : List PVal} {idx : RefIndex} {gds fss idx'} (h : FlatRoots g vs idx gds fss idx') :
    ∃ new, idx' = idx ++ new ∧ defIdxRoots gds = List.range' idx.length new.length := by
  induction h with
  | nil _ => exact ⟨[], by simp, rfl⟩
  | cons heq _ ih =>
    obtain ⟨n1, e1, d1⟩ := (flatten_defIdx g _).1 _ _ _ _ _ _ heq
    obtain ⟨n2, e2, d2⟩ := ih
    refine ⟨n1 ++ n2, by rw [e2, e1]; simp, ?_⟩
    rw [defIdxRoots, d1, d2, e1, List.length_append, List.length_append, List.range'_append_1]

theorem flatRoots_defIdx_nil {g : Heap} {vs : List PVal} {gds fss idx} (h : FlatRoots g vs [] gds fss idx) :
    defIdxRoots gds = List.range' 0 idx.length := by
  obtain ⟨new, rfl, hd⟩ := flatRoots_defIdx h
  simpa using hd

theorem stampRoots_eq_on {t t' : Nat → Option Nat} : ∀ (gds : List GDef), gds.map (stampWith t) = gds.map (stampWith t') →
    ∀ i ∈ defIdxRoots gds, t i = t' i
  | [], _, j, hj => by simp [defIdxRoots] at hj
  | g :: gs, h, j, hj => by
    simp only [List.map_cons] at h
    injection h with h1 h2
    simp only [defIdxRoots, List.mem_append] at hj
    rcases hj with hj | hj
    · exact stamp_eq_on g h1 j hj
    · exact stampRoots_eq_on gs h2 j hj

mutual
  theorem stamp_of_eq_on {t t' : Nat → Option Nat} : ∀ (g : GDef), (∀ i ∈ defIdx g, t i = t' i) → stampWith t g = stampWith t' g
    | .ref ty i, _ => rfl
    | .static s, _ => rfl
    | .array, _ => rfl
    | .var ty i md, h => by simp only [stampWith]; rw [h i (by simp [defIdx])]
    | .node kind idx attrs, h => by
      simp only [stampWith]
      have h1 : idx.bind t = idx.bind t' := by
        cases idx with
        | none => rfl
        | some i => simpa using h i (by simp [defIdx])
      rw [h1, stampAttrs_of_eq_on attrs (fun i hi => h i (by simp [defIdx, hi]))]
  theorem stampAttrs_of_eq_on {t t' : Nat → Option Nat} : ∀ (l : List (Key × GDef)), (∀ i ∈ defIdxAttrs l, t i = t' i) →
      stampAttrs t l = stampAttrs t' l
    | [], _ => rfl
    | (k, g) :: rest, h => by
      simp only [stampAttrs]
      rw [stamp_of_eq_on g (fun i hi => h i (by simp [defIdxAttrs, hi])),
        stampAttrs_of_eq_on rest (fun i hi => h i (by simp [defIdxAttrs, hi]))]
end

theorem stampRoots_of_eq_on {t t' : Nat → Option Nat} : ∀ (gds : List GDef), (∀ i ∈ defIdxRoots gds, t i = t' i) →
    gds.map (stampWith t) = gds.map (stampWith t')
  | [], _ => rfl
  | g :: gs, h => by
    simp only [List.map_cons]
    rw [stamp_of_eq_on g (fun i hi => h i (by simp [defIdxRoots, hi])),
      stampRoots_of_eq_on gs (fun i hi => h i (by simp [defIdxRoots, hi]))]

theorem InnerSim.canon {h G h2 G3 : Heap} {idx1 : RefIndex} {ir : IndexRef} {φ' : Addr → Option Addr}
    (S : InnerSim h idx1 ir G h2 G3 φ') (n2 : AttrsNodup h2) (n3 : AttrsNodup G3) {roots roots' : List PVal}
    (hr : ValsRel φ' roots roots') {gds3 : List GDef} {fss3 : List FlatState} {idx3 : RefIndex}
    (hF3 : FlatRoots G3 roots' [] gds3 fss3 idx3) :
    ∃ idxE, FlatRoots h2 roots [] gds3 fss3 idxE ∧
      gds3.map (stampWith (tblOf idx3 ir)) = gds3.map (stampWith (fun i => (idxE[i]?).bind (fun a => indexOf? a idx1))) := by
  obtain ⟨idxE, hFE, hrel⟩ := flatRoots_iso S.rel n2 n3 hF3 hr .nil
  refine ⟨idxE, hFE, stampRoots_of_eq_on _ (fun i hi => ?_)⟩
  rw [flatRoots_defIdx_nil hF3] at hi
  have hiE : i < idxE.length := by rw [idxRel_length hrel]; simp [List.mem_range'] at hi; omega
  obtain ⟨b, hb3, hab⟩ := idxRel_get hrel i idxE[i] (List.getElem?_eq_getElem hiE)
  simp only [tblOf, hb3, List.getElem?_eq_getElem hiE, Option.bind_some]
  by_cases halt : idxE[i] < h.length
  · obtain ⟨j, hj1, hinv⟩ := S.inv_old hab halt
    rw [indexOf?_of_getElem? S.good.nodup hj1, hinv]
  · rw [S.inv_new hab (Nat.le_of_not_lt halt), indexOf?_none.mpr (fun hm => halt (S.lt _ hm))]

/-- `pureRun` in eager terms: the flatten of the eager result, stamped with positions in the outer `ref_index`; no inner heap in
the statement -/
theorem pureRun_eager (raw keep : Bool) (f : Fn) {pre : List PVal} (hpre : ∀ v ∈ pre, ∃ d, v = PVal.array d)
    {h : Heap} {vals : List PVal} {gds : List GDef} {fss : List FlatState} {idx1 : RefIndex}
    (hf : FlatRoots h vals [] gds fss idx1) (nh : AttrsNodup h) {rets : List PVal} {h2 : Heap}
    (he : runFn f h (pre ++ vals) = .ok (rets, h2)) :
    ∃ gdsE fssE idxE, FlatRoots h2 ((if keep then vals.map clearArg else []) ++ rets) [] gdsE fssE idxE ∧
      pureRun raw keep f pre gds (fss.map (convLeaves raw)) =
        .ok (gdsE.map (stampWith (fun i => (idxE[i]?).bind (fun a => indexOf? a idx1))), fssE.map (convLeaves raw)) := by
  obtain ⟨ir, G, G3, φ', roots', gds3, fss3, idx3, S, hr, hF3, hn, hpr⟩ := (pureRun_sim raw keep f hpre hf).2 rets h2 he
  obtain ⟨idxE, hFE, hst⟩ := S.canon (hn nh).1 (hn nh).2 hr hF3
  exact ⟨gds3, fss3, idxE, hFE, by rw [hpr, hst]⟩

end Flax.Nnx
