/-
Re-running a declaration-only program on (any extension of) the store it produced is a no-op with
the same results.  Used by C02 (`init_apply_agree`).
-/
import Flax.Proofs.ScopeEval

namespace Flax.Stable
open Flax.Filter (LFilter inFilter)
open Flax.Scope Flax.ModuleTree Flax.ScopeLemmas

def Ext (s t : Store) : Prop := ∀ q v, lookupP q s.vars = some v → lookupP q t.vars = some v

theorem Ext.refl (s : Store) : Ext s s := fun _ _ h => h
theorem Ext.trans {s t u : Store} (h1 : Ext s t) (h2 : Ext t u) : Ext s u := fun q v h => h2 q v (h1 q v h)

theorem putVar_grows {π : Path} {col n : String} {v : Val} {s s1 : Store}
    (habs : getVar s π col n = none) (h : putVar π col n v s = (.ok (), s1)) : Ext s s1 := by
  intro q w hq
  rw [putVar_ok_vars h]
  by_cases heq : q = fullPath col π n
  · rw [heq] at hq; rw [show lookupP (fullPath col π n) s.vars = none from habs] at hq; cases hq
  · rw [lookupP_upsert_ne _ _ _ _ heq]; exact hq

theorem scopeParam_grows {π : Path} {n : String} {shape : List Nat} {init : Int} {r r1 : Res} {s s1 : Store}
    {v : Val} (h : scopeParam π n shape init r s = (.ok (v, r1), s1)) : Ext s s1 := by
  obtain ⟨_, ⟨_, _, rfl⟩ | ⟨hg, _, _, _, hp⟩⟩ := scopeParam_ok_iff.mp h
  · exact Ext.refl _
  · exact putVar_grows (s := { s with inits := s.inits + 1 }) hg hp

theorem scopeParam_stable {π : Path} {n : String} {shape : List Nat} {init : Int} {r r1 : Res} {s s1 t : Store}
    {v : Val} (h : scopeParam π n shape init r s = (.ok (v, r1), s1)) (ht : Ext s1 t) :
    scopeParam π n shape init r t = (.ok (v, r1), t) := by
  have hgt : getVar t π "params" n = some v := ht _ _ (scopeParam_stored h)
  obtain ⟨hr, ⟨_, hsh, _⟩ | ⟨_, _, _, rfl, _⟩⟩ := scopeParam_ok_iff.mp h
  · exact scopeParam_ok_iff.mpr ⟨hr, .inl ⟨hgt, hsh, rfl⟩⟩
  · exact scopeParam_ok_iff.mpr ⟨hr, .inl ⟨hgt, (rfl : shapeOk (Val.full shape init) shape), rfl⟩⟩

theorem scopeVariable_grows {π : Path} {col n : String} {iv : Val} {r r1 : Res} {s s1 : Store}
    (h : scopeVariable π col n iv r s = (.ok r1, s1)) : Ext s s1 := by
  obtain ⟨_, ⟨_, rfl⟩ | ⟨hv, _, hp⟩⟩ := scopeVariable_ok_iff.mp h
  · exact Ext.refl _
  · exact putVar_grows (hasVar_eq_false.mp hv) hp

theorem scopeVariable_stable {π : Path} {col n : String} {iv : Val} {r r1 : Res} {s s1 t : Store}
    (h : scopeVariable π col n iv r s = (.ok r1, s1)) (ht : Ext s1 t) :
    scopeVariable π col n iv r t = (.ok r1, t) := by
  obtain ⟨w, hw⟩ := hasVar_iff.mp (scopeVariable_present h)
  exact scopeVariable_ok_iff.mpr ⟨(scopeVariable_ok_iff.mp h).1, .inl ⟨hasVar_of_getVar (ht _ _ hw), rfl⟩⟩

def KidsOk (l : Local) : Prop := ∀ k ∈ l.kids, declOnly k.body = true

theorem eval_stable (cfg : Cfg) (hcap : cfg.capture = false) :
    ∀ (fuel : Nat) (p : SProg) (π : Path) (x : Int) (l l1 : Local) (s s1 : Store),
      declOnly p = true → KidsOk l → eval cfg fuel p π x l s = (.ok l1, s1) →
      Ext s s1 ∧ KidsOk l1 ∧ ∀ t, Ext s1 t → eval cfg fuel p π x l t = (.ok l1, t) := by
  intro fuel
  induction fuel with
  | zero => intro p π x l l1 s s1 _ _ h; rw [eval_zero] at h; cases h
  | succ fuel ih =>
    intro p π x l l1 s s1 hp hk h
    cases p with
    | skip =>
      obtain ⟨rfl, rfl⟩ := eval_skip_ok.mp h
      exact ⟨Ext.refl _, hk, fun t _ => eval_skip_ok.mpr ⟨rfl, rfl⟩⟩
    | seq a b =>
      simp only [declOnly, Bool.and_eq_true] at hp
      obtain ⟨l2, s2, ha, hb⟩ := eval_seq_ok.mp h
      obtain ⟨g1, k1, st1⟩ := ih a π x l l2 s s2 hp.1 hk ha
      obtain ⟨g2, k2, st2⟩ := ih b π x l2 l1 s2 s1 hp.2 k1 hb
      exact ⟨g1.trans g2, k2, fun t ht => eval_seq_ok.mpr ⟨l2, t, st1 t (g2.trans ht), st2 t ht⟩⟩
    | bind e =>
      obtain ⟨v, he, rfl, rfl⟩ := eval_bind_ok.mp h
      exact ⟨Ext.refl _, hk, fun t _ => eval_bind_ok.mpr ⟨v, he, rfl, rfl⟩⟩
    | ret e =>
      obtain ⟨v, he, rfl, rfl⟩ := eval_ret_ok.mp h
      exact ⟨Ext.refl _, hk, fun t _ => eval_ret_ok.mpr ⟨v, he, rfl, rfl⟩⟩
    | param n shape init =>
      obtain ⟨v, r, hp1, rfl⟩ := eval_param_ok.mp h
      exact ⟨scopeParam_grows hp1, hk, fun t ht => eval_param_ok.mpr ⟨v, r, scopeParam_stable hp1 ht, rfl⟩⟩
    | var col n shape init =>
      obtain ⟨iv, r, v, he, hp1, hg, rfl⟩ := eval_var_ok.mp h
      exact ⟨scopeVariable_grows hp1, hk,
        fun t ht => eval_var_ok.mpr ⟨iv, r, v, he, scopeVariable_stable hp1 ht, ht _ _ hg, rfl⟩⟩
    | get col n => cases hp
    | put col rel n e => cases hp
    | sow col n e => cases hp
    | perturb col n e => cases hp
    | nested body m V a => cases hp
    | child cls name body =>
      obtain ⟨nm, cs, r, hn, hr, rfl, rfl⟩ := eval_child_ok.mp h
      exact ⟨Ext.refl _, kids_snoc (P := fun b => declOnly b = true) hk (body := body) hp nm, fun t _ => eval_child_ok.mpr ⟨nm, cs, r, hn, hr, rfl, rfl⟩⟩
    | call slot a w =>
      obtain ⟨k, av, lk, s2, lk2, hkid, he, hb, hf, rfl⟩ := eval_call_ok.mp h
      have hkb : declOnly (bindArg w k.body) = true := by
        rw [declOnly_bindArg]; exact hk k (List.mem_of_getElem? hkid)
      obtain ⟨rfl, rfl⟩ : lk2 = lk ∧ s1 = s2 := by
        rw [finishCall_quiet hcap] at hf; cases hf; exact ⟨rfl, rfl⟩
      obtain ⟨g1, _, st1⟩ := ih (bindArg w k.body) (π ++ [k.name]) av {} lk2 s s1 hkb
        (fun _ hh => absurd hh (by simp)) hb
      exact ⟨g1, hk, fun t ht => eval_call_ok.mpr ⟨k, av, lk2, t, lk2, hkid, he, st1 t ht, finishCall_quiet hcap _ _ _, rfl⟩⟩

theorem init_apply_agree_aux (cfg : Cfg) (hcap : cfg.capture = false) (fuel : Nat) (p : SProg)
    (hp : declOnly p = true) (m : LFilter) (rngs : List String) (x y : Int) (V : Vars)
    (hinit : (ModuleTree.init cfg fuel p m rngs x).result = .ok (y, V))
    (hbs : badStructure V = false) (m2 : LFilter) (rngs2 : List String) :
    (ModuleTree.apply cfg fuel p m2 V rngs2 x).result = .ok (y, mutableVariables (Scope.bind m2 V rngs2)) ∧
    (ModuleTree.apply cfg fuel p m2 V rngs2 x).final = Scope.bind m2 V rngs2 := by
  obtain ⟨s2, hrun, rfl, hret⟩ := init_returns_store hinit
  obtain ⟨l1, s1, l2, hev, hf, rfl⟩ := runTop_ok_iff.mp hrun
  obtain ⟨rfl, rfl⟩ : l2 = l1 ∧ s2 = s1 := by
    rw [finishCall_quiet hcap] at hf; cases hf; exact ⟨rfl, rfl⟩
  obtain ⟨_, _, st⟩ := eval_stable cfg hcap fuel p [] x {} l2 _ s2 hp (fun _ hh => absurd hh (by simp)) hev
  have hext : Ext s2 (Scope.bind m2 (mutableVariables s2) rngs2) := fun q v hq => (hret q).trans hq
  have hrun2 : runTop cfg fuel p x (Scope.bind m2 (mutableVariables s2) rngs2) = (.ok l2.out, _) :=
    runTop_ok_iff.mpr ⟨l2, _, l2, st _ hext, finishCall_quiet hcap _ _ _, rfl⟩
  have hq := effMutable_quiet hcap m2
  exact ⟨apply_ok_iff.mpr ⟨hbs, _, by rw [hq]; exact hrun2, rfl⟩, by rw [apply_final, hbs, hq, hrun2]; rfl⟩

end Flax.Stable
