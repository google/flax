/- C12: the two variance routes of `_compute_stats` over `Rat` -/
import Flax.Model.Layers
import Mathlib.Tactic.Ring
import Mathlib.Tactic.Linarith
import Mathlib.Tactic.FieldSimp

namespace Flax.Layers

theorem computeStats_slow (vs : List Rat) : computeStats vs true false =
    ⟨ratMean vs, ratMean (vs.map (fun v => (v - ratMean vs) * (v - ratMean vs)))⟩ := rfl

theorem computeStats_fast (vs : List Rat) : computeStats vs true true =
    ⟨ratMean vs, max 0 (ratMean (vs.map (fun v => v * v)) - ratMean vs * ratMean vs)⟩ := rfl

theorem computeStats_rms (vs : List Rat) (useFast : Bool) :
    computeStats vs false useFast = ⟨0, ratMean (vs.map (fun v => v * v))⟩ := rfl

theorem sum_sq_dev (vs : List Rat) (c : Rat) :
    (vs.map (fun v => (v - c) * (v - c))).sum
      = (vs.map (fun v => v * v)).sum - 2 * c * vs.sum + (vs.length : Rat) * (c * c) := by
  induction vs with
  | nil => simp
  | cons a as ih =>
    simp only [List.map_cons, List.sum_cons, List.length_cons, ih]
    push_cast
    ring

theorem sum_sq_nonneg (vs : List Rat) (c : Rat) : 0 ≤ (vs.map (fun v => (v - c) * (v - c))).sum := by
  induction vs with
  | nil => simp
  | cons a as ih =>
    simp only [List.map_cons, List.sum_cons]
    have := mul_self_nonneg (a - c)
    linarith

theorem ratMean_sq_dev_nonneg (vs : List Rat) (c : Rat) : 0 ≤ ratMean (vs.map (fun v => (v - c) * (v - c))) := by
  simp only [ratMean, List.length_map]
  exact div_nonneg (sum_sq_nonneg vs c) (by exact_mod_cast Nat.zero_le _)

theorem slow_var_eq (vs : List Rat) (h : vs ≠ []) :
    ratMean (vs.map (fun v => (v - ratMean vs) * (v - ratMean vs)))
      = ratMean (vs.map (fun v => v * v)) - ratMean vs * ratMean vs := by
  have hn : (vs.length : Rat) ≠ 0 := by
    have : vs.length ≠ 0 := by simpa using h
    exact_mod_cast this
  simp only [ratMean, List.length_map, sum_sq_dev]
  field_simp
  ring

end Flax.Layers
