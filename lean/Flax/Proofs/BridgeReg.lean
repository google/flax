/-
The name <-> type registry (`VariableTypeCache`) for C18, and the type buckets of `_update_variables`
(`sort_variable_types` + first-match split).
-/
import Flax.Proofs.Bridge
import Flax.Proofs.InsertSort

namespace Flax.Bridge

/-- the registry is one-to-one: no name twice (a dict), no type twice -/
def Reg.Inj (r : Reg) : Prop := (r.cache.map Prod.fst).Nodup ∧ (r.cache.map Prod.snd).Nodup

/-- every class made by the registry has a serial number below the counter -/
def Reg.Bounded (r : Reg) : Prop := ∀ e ∈ r.cache, ∀ s n, e.2 = VType.made s n → s < r.next

/-- the class exists already (a made class cannot be mentioned before it is made) -/
def VType.Exists (r : Reg) (t : VType) : Prop := ∀ s n, t = VType.made s n → s < r.next

theorem Reg.typeOf_eq_lookup (r : Reg) (n : String) : r.typeOf n = r.cache.lookup n :=
  Assoc.find?_key_eq_lookup n r.cache

theorem Reg.nameOf_eq_lookup (r : Reg) (t : VType) : r.nameOf t = (r.cache.map Prod.swap).lookup t :=
  Assoc.find?_val_eq_lookup t r.cache

theorem Reg.typeOf_iff (r : Reg) (h : r.Inj) (n : String) (t : VType) :
    r.typeOf n = some t ↔ (n, t) ∈ r.cache := by
  rw [Reg.typeOf_eq_lookup]; exact Assoc.lookup_eq_some_iff h.1

theorem Reg.nameOf_iff (r : Reg) (h : r.Inj) (t : VType) (n : String) :
    r.nameOf t = some n ↔ (n, t) ∈ r.cache := by
  rw [Reg.nameOf_eq_lookup, Assoc.lookup_eq_some_iff (by simpa [List.map_map, Function.comp_def] using h.2)]
  exact ⟨fun hm => by obtain ⟨e, he, heq⟩ := List.mem_map.mp hm; cases heq; exact he,
    fun hm => List.mem_map.mpr ⟨(n, t), hm, rfl⟩⟩

theorem Reg.nameOf_of_typeOf (r : Reg) (hi : r.Inj) (c : String) (t : VType) (h : r.typeOf c = some t) :
    r.nameOf t = some c := (r.nameOf_iff hi t c).mpr ((r.typeOf_iff hi c t).mp h)

theorem Reg.typeOf_of_nameOf (r : Reg) (hi : r.Inj) (c : String) (t : VType) (h : r.nameOf t = some c) :
    r.typeOf c = some t := (r.typeOf_iff hi c t).mpr ((r.nameOf_iff hi t c).mp h)

theorem Reg.typeOf_mem (r : Reg) {n : String} {t : VType} (h : r.typeOf n = some t) : (n, t) ∈ r.cache :=
  Assoc.mem_of_lookup (r.typeOf_eq_lookup n ▸ h)

theorem Reg.nameOf_mem (r : Reg) {n : String} {t : VType} (h : r.nameOf t = some n) : (n, t) ∈ r.cache := by
  rw [Reg.nameOf_eq_lookup] at h
  obtain ⟨e, he, heq⟩ := List.mem_map.mp (Assoc.mem_of_lookup h)
  cases heq; exact he

/-- `r'` is a later state of the registry `r`: during a conversion the registry only ever gains entries -/
structure Reg.Grows (r r' : Reg) : Prop where
  inj : r'.Inj
  bounded : r'.Bounded
  sub : ∀ e ∈ r.cache, e ∈ r'.cache

theorem Reg.Grows.refl {r : Reg} (hi : r.Inj) (hb : r.Bounded) : r.Grows r := ⟨hi, hb, fun _ h => h⟩

theorem Reg.Grows.trans {r r' r'' : Reg} (h : r.Grows r') (h' : r'.Grows r'') : r.Grows r'' :=
  ⟨h'.inj, h'.bounded, fun e he => h'.sub e (h.sub e he)⟩

theorem Reg.Grows.typeOf {r r' : Reg} (h : r.Grows r') {n : String} {t : VType} (ht : r.typeOf n = some t) :
    r'.typeOf n = some t := (r'.typeOf_iff h.inj n t).mpr (h.sub _ (r.typeOf_mem ht))

theorem Reg.Grows.nameOf {r r' : Reg} (h : r.Grows r') {n : String} {t : VType} (ht : r.nameOf t = some n) :
    r'.nameOf t = some n := (r'.nameOf_iff h.inj t n).mpr (h.sub _ (r.nameOf_mem ht))

theorem Reg.typeOf_none_iff (r : Reg) (n : String) : r.typeOf n = none ↔ n ∉ r.cache.map Prod.fst := by
  rw [Reg.typeOf_eq_lookup]; exact Assoc.lookup_eq_none_iff

theorem Reg.nameOf_none_iff (r : Reg) (t : VType) : r.nameOf t = none ↔ t ∉ r.cache.map Prod.snd := by
  rw [Reg.nameOf_eq_lookup, Assoc.lookup_eq_none_iff]; simp [List.map_map, Function.comp_def]

theorem Reg.typeFromName_of_typeOf (r : Reg) (n : String) (allow : Bool) (t : VType) (h : r.typeOf n = some t) :
    r.typeFromName n allow = .ok (r, t) := by
  simp only [Reg.typeFromName, h]

theorem Reg.typeFromName_typeOf {r r' : Reg} {n : String} {allow : Bool} {t : VType}
    (h : r.typeFromName n allow = .ok (r', t)) : r'.typeOf n = some t := by
  cases ht : r.typeOf n with
  | some t0 => rw [Reg.typeFromName_of_typeOf r n allow t0 ht] at h; cases h; exact ht
  | none =>
    cases allow with
    | false => simp [Reg.typeFromName, ht] at h
    | true =>
      simp only [Reg.typeFromName, ht, ↓reduceIte, Except.ok.injEq, Prod.mk.injEq] at h
      obtain ⟨rfl, rfl⟩ := h
      rw [Reg.typeOf_eq_lookup] at ht ⊢
      rw [List.lookup_append, ht, Option.none_or, List.lookup_cons_self]

theorem Reg.nameFromType_of_nameOf (r : Reg) (t : VType) (allow : Bool) (n : String) (h : r.nameOf t = some n) :
    r.nameFromType t allow = .ok (r, n) := by
  simp only [Reg.nameFromType, h]

theorem Reg.register_ok {r r' : Reg} {n : String} {t : VType} {ow : Bool} :
    r.register n t ow = .ok r' ↔
      (ow = true ∨ r.typeOf n = none) ∧ r' = { r with cache := setAssoc r.cache n t } := by
  unfold Reg.register
  cases ow <;> cases r.typeOf n <;> simp [eq_comm]

theorem Reg.register_typeOf {r r' : Reg} {n : String} {t : VType} {ow : Bool} (h : r.register n t ow = .ok r') :
    r'.typeOf n = some t := by
  rw [(Reg.register_ok.mp h).2, Reg.typeOf_eq_lookup]; exact setAssoc_isUpsert.lookup_self n t r.cache

theorem Reg.typeFromName_spec (r : Reg) (hi : r.Inj) (hb : r.Bounded) (n : String) (allow : Bool) :
    (allow = true → ∃ r' t, r.typeFromName n allow = .ok (r', t)) ∧
    ∀ r' t, r.typeFromName n allow = .ok (r', t) →
      r.Grows r' ∧ r.next ≤ r'.next ∧ r'.typeOf n = some t ∧ (∀ e ∈ r'.cache, e ∈ r.cache ∨ e = (n, t)) := by
  unfold Reg.typeFromName
  cases hty : r.typeOf n with
  | some t0 =>
    refine ⟨fun _ => ⟨r, t0, rfl⟩, ?_⟩
    intro r' t h
    simp only [Except.ok.injEq, Prod.mk.injEq] at h
    obtain ⟨rfl, rfl⟩ := h
    exact ⟨.refl hi hb, Nat.le_refl _, hty, fun e h => Or.inl h⟩
  | none =>
    have hn := (r.typeOf_none_iff n).mp hty
    cases allow with
    | false => exact ⟨fun h => (nomatch h), fun _ _ h => (nomatch h)⟩
    | true =>
      refine ⟨fun _ => ⟨_, _, rfl⟩, ?_⟩
      intro r' t h
      simp only [↓reduceIte, Except.ok.injEq, Prod.mk.injEq] at h
      obtain ⟨rfl, rfl⟩ := h
      -- the new class is new: every made class in the cache has a smaller serial
      have hi' : Reg.Inj { cache := r.cache ++ [(n, VType.made r.next n)], next := r.next + 1 } := by
        simp only [Reg.Inj, List.map_append, List.map_cons, List.map_nil]
        exact ⟨Lists.nodup_concat hi.1 hn, Lists.nodup_concat hi.2 fun hx => by
          obtain ⟨e, he, he2⟩ := List.mem_map.mp hx
          exact Nat.lt_irrefl _ (hb e he r.next n he2)⟩
      refine ⟨⟨hi', ?_, ?_⟩, Nat.le_succ _, (Reg.typeOf_iff _ hi' n _).mpr (by simp), ?_⟩
      · intro e he s n' hs
        simp only [List.mem_append, List.mem_singleton] at he
        rcases he with he | rfl
        · exact Nat.lt_succ_of_lt (hb e he s n' hs)
        · simp only [VType.made.injEq] at hs; show s < r.next + 1; exact hs.1 ▸ Nat.lt_succ_self _
      · intro e he; simp [he]
      · intro e he
        simp only [List.mem_append, List.mem_singleton] at he
        exact he

theorem Reg.register_spec (r : Reg) (hi : r.Inj) (hb : r.Bounded) (n : String) (t : VType) (ow : Bool)
    (hex : t.Exists r) (hg : ∀ n', (n', t) ∈ r.cache → n' = n) :
    ∀ r', r.register n t ow = .ok r' → r'.Inj ∧ r'.Bounded ∧ r'.next = r.next := by
  intro r' h
  obtain ⟨_, rfl⟩ := Reg.register_ok.mp h
  refine ⟨⟨setAssoc_isUpsert.nodup_keys n t hi.1, setAssoc_isUpsert.nodup_vals hi.1 hi.2 hg⟩, ?_, rfl⟩
  intro e he s n' hs
  rcases setAssoc_isUpsert.mem he with rfl | he
  · exact hex s n' hs
  · exact hb e he s n' hs

theorem Reg.nameFromType_spec (r : Reg) (hi : r.Inj) (hb : r.Bounded) (t : VType) (allow : Bool)
    (hex : t.Exists r) :
    ∀ r' n, r.nameFromType t allow = .ok (r', n) →
      r.Grows r' ∧ r'.next = r.next ∧ r'.nameOf t = some n ∧ (∀ e ∈ r'.cache, e ∈ r.cache ∨ e = (n, t)) := by
  intro r' n h
  cases hn : r.nameOf t with
  | some n0 =>
    rw [Reg.nameFromType_of_nameOf r t allow n0 hn] at h
    cases h
    exact ⟨.refl hi hb, rfl, hn, fun e h => Or.inl h⟩
  | none =>
    have hnot := (r.nameOf_none_iff t).mp hn
    simp only [Reg.nameFromType, hn] at h
    cases allow with
    | false => simp at h
    | true =>
      simp only [Bool.not_true, Bool.false_eq_true, ↓reduceIte] at h
      split at h
      · cases h
      · simp only [bind_ok, pure, Except.pure, Except.ok.injEq, Prod.mk.injEq] at h
        obtain ⟨r1, hreg, rfl, rfl⟩ := h
        have hspec := Reg.register_spec r hi hb t.pyName t false hex
          (fun n' hm => absurd (List.mem_map.mpr ⟨(n', t), hm, rfl⟩) hnot) r1 hreg
        obtain ⟨hfree, rfl⟩ := Reg.register_ok.mp hreg
        have hcache : setAssoc r.cache t.pyName t = r.cache ++ [(t.pyName, t)] :=
          setAssoc_isUpsert.of_not_mem t ((r.typeOf_none_iff _).mp (hfree.resolve_left Bool.false_ne_true))
        refine ⟨⟨hspec.1, hspec.2.1, fun e he => by simp [hcache, he]⟩, hspec.2.2, ?_, ?_⟩
        · exact (Reg.nameOf_iff _ hspec.1 t _).mpr (by simp [hcache])
        · intro e he
          simpa [hcache] using he

/-- what a caller can do: mention only classes that exist, and not register under a second name a
class that already has one (nothing in `register_variable_name` checks the latter) -/
def RegOp.Guard (r : Reg) : RegOp → Prop
  | .typeFromName _ _ => True
  | .nameFromType t _ => t.Exists r
  | .register n t _ => t.Exists r ∧ ∀ n', (n', t) ∈ r.cache → n' = n

def Guarded : Reg → List RegOp → Prop
  | _, [] => True
  | r, op :: ops => op.Guard r ∧ Guarded (r.step op) ops

theorem Reg.step_inj (r : Reg) (hi : r.Inj) (hb : r.Bounded) (op : RegOp) (hg : op.Guard r) :
    (r.step op).Inj ∧ (r.step op).Bounded := by
  cases op with
  | typeFromName n a =>
    simp only [Reg.step]
    cases h : r.typeFromName n a with
    | error e => exact ⟨hi, hb⟩
    | ok p =>
      obtain ⟨r', t⟩ := p
      have := ((Reg.typeFromName_spec r hi hb n a).2 r' t h).1
      exact ⟨this.inj, this.bounded⟩
  | nameFromType t a =>
    simp only [Reg.step]
    cases h : r.nameFromType t a with
    | error e => exact ⟨hi, hb⟩
    | ok p =>
      obtain ⟨r', n⟩ := p
      have := (Reg.nameFromType_spec r hi hb t a hg r' n h).1
      exact ⟨this.inj, this.bounded⟩
  | register n t ow =>
    simp only [Reg.step]
    cases h : r.register n t ow with
    | error e => exact ⟨hi, hb⟩
    | ok r' =>
      have := Reg.register_spec r hi hb n t ow hg.1 hg.2 r' h
      exact ⟨this.1, this.2.1⟩

theorem Reg.run_inj : ∀ (ops : List RegOp) (r : Reg), r.Inj → r.Bounded → Guarded r ops →
    (r.run ops).Inj ∧ (r.run ops).Bounded := by
  intro ops
  induction ops with
  | nil => intro r hi hb _; exact ⟨hi, hb⟩
  | cons op ops ih =>
    intro r hi hb hg
    simp only [Guarded] at hg
    have := Reg.step_inj r hi hb op hg.1
    simp only [Reg.run, List.foldl_cons]
    exact ih (r.step op) this.1 this.2 hg.2

section
variable {α : Type}

/-- what is true of Python MROs restricted to Variable classes: a class is in its own MRO, and a proper
base class has a strictly shorter MRO -/
structure HierOk (h : Hier) : Prop where
  self : ∀ t, t ∈ h.mro t
  shorter : ∀ s t, t ∈ h.mro s → t ≠ s → h.count t < h.count s

theorem hierOk_of_table (h : Hier) (ts : List VType) (hout : ∀ t, t ∉ ts → h.mro t = [t])
    (hin : ∀ s ∈ ts, s ∈ h.mro s ∧ ∀ t ∈ h.mro s, t ≠ s → (h.mro t).length < (h.mro s).length) : HierOk h := by
  refine ⟨fun t => ?_, fun s t ht hne => ?_⟩
  · by_cases hm : t ∈ ts
    · exact (hin t hm).1
    · rw [hout t hm]; exact List.mem_singleton.mpr rfl
  · by_cases hm : s ∈ ts
    · exact (hin s hm).2 t ht hne
    · rw [hout s hm] at ht; exact absurd (List.mem_singleton.mp ht) hne

theorem insertType_isInsert (h : Hier) : IsInsert (fun t a => ¬ h.count t ≤ h.count a) (insertType h) :=
  ⟨fun _ => rfl, fun _ hs => if_neg hs, fun _ hs => if_pos (Decidable.not_not.mp hs)⟩

theorem sortVariableTypes_spec (h : Hier) (types : List VType) :
    (sortVariableTypes h types).Pairwise (fun a b => h.count b ≤ h.count a) ∧
    ∀ x, x ∈ sortVariableTypes h types ↔ x ∈ types :=
  ⟨(insertType_isInsert h).sort_pairwise (fun hs => Nat.le_of_not_le hs) Decidable.not_not.mp
    (fun h1 h2 => Nat.le_trans h2 h1) types, fun _ => (insertType_isInsert h).mem_sort⟩

/-- in a list sorted most-derived-first that contains `t`, the first class `t` is an instance of is `t` -/
theorem find_exact (h : Hier) (hh : HierOk h) (t : VType) : ∀ (l : List VType),
    l.Pairwise (fun a b => h.count b ≤ h.count a) → t ∈ l →
    l.find? (fun f => h.isSub t f) = some t := by
  intro l
  induction l with
  | nil => intro _ hm; cases hm
  | cons a r ih =>
    intro hp hm
    rw [List.pairwise_cons] at hp
    by_cases ha : a = t
    · subst ha
      simp [Hier.isSub, hh.self]
    · have hmr : t ∈ r := by
        rcases List.mem_cons.mp hm with h1 | h1
        · exact absurd h1.symm ha
        · exact h1
      have hnot : h.isSub t a = false := by
        simp only [Hier.isSub, decide_eq_false_iff_not]
        intro hin
        have h1 := hh.shorter t a hin ha
        have h2 := hp.1 t hmr
        omega
      simp only [List.find?_cons, hnot]
      exact ih hp.2 hmr

theorem bucket_exact (h : Hier) (hh : HierOk h) (types : List VType) (t : VType) (ht : t ∈ types) :
    bucketOf h (sortVariableTypes h types) t = some t := by
  have hs := sortVariableTypes_spec h types
  exact find_exact h hh t _ hs.1 ((hs.2 t).mpr ht)

theorem mem_typesOf (S : Forest (NVar α)) (pv : Path × NVar α) (h : pv ∈ flattenF S) :
    pv.2.vtype ∈ typesOf S := by
  simp only [typesOf, List.mem_eraseDups, List.mem_map]
  exact ⟨pv, h, rfl⟩

theorem linenEntriesB_eq (h : Hier) (sorted : List VType) : ∀ (flat : List (Path × NVar α)) (r : Reg),
    (∀ pv ∈ flat, bucketOf h sorted pv.2.vtype = some pv.2.vtype) →
    linenEntriesB h sorted r flat = linenEntries true r flat := by
  intro flat
  induction flat with
  | nil => intro r _; rfl
  | cons pv rest ih =>
    intro r hb
    have h1 : linenEntryB h sorted r pv = linenEntry r true pv := by
      simp only [linenEntryB, hb pv (by simp), linenEntry]
    simp only [linenEntriesB, linenEntries, h1]
    cases linenEntry r true pv with
    | error e => rfl
    | ok p =>
      simp only [bind, Except.bind]
      rw [ih p.1 (fun pv' h' => hb pv' (by simp [h']))]

theorem encodeStateTyped_eq (h : Hier) (hh : HierOk h) (r : Reg) (isMutable : String → Bool)
    (S : Forest (NVar α)) : encodeStateTyped h r isMutable S = encodeState r isMutable S := by
  simp only [encodeStateTyped, encodeState]
  rw [linenEntriesB_eq h _ (flattenF S) r (fun pv hpv => bucket_exact h hh _ _ (mem_typesOf S pv hpv))]

end

end Flax.Bridge
