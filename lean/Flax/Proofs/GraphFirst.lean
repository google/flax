/- The DFS order of `flatten` made explicit (`trace`); the Variable leaves are the registrations of Variables, each at
the path of the first encounter. -/
import Flax.Proofs.GraphFlatten
namespace Flax.Graph
open Flax.Heap

/-! `traceVal` / `traceItems` repeat the recursion of `flattenVal` / `flattenItems` (same fuel, same
`ref_index`, children in the same sorted-key order) and record
* `enc`: every *encounter* `(a, path)` — each time the traversal stands on a reference to `a` at `path`;
* `reg`: every *registration* `(a, path)` — the encounters at which `a` was appended to `ref_index`. -/

abbrev Log := List (Addr × Path)

mutual
  def traceVal : Nat → Heap → Path → PVal → RefIndex → Except Err (Log × Log × RefIndex)
    | 0, _, _, _, _ => .error .fuel
    | fuel + 1, h, path, v, idx =>
      match v with
      | .static _ => .ok ([], [], idx)
      | .array _ => .ok ([], [], idx)
      | .none => .ok ([], [], idx)
      | .seq _ xs => traceItems fuel h path (enumFrom 0 xs) idx
      | .dict kvs => traceItems fuel h path (sortKV kvs) idx
      | .ref a =>
        match indexOf? a idx with
        | some _ => .ok ([(a, path)], [], idx)
        | Option.none =>
          match h[a]? with
          | Option.none => .error .dangling
          | some (.var _ _ _) => .ok ([(a, path)], [(a, path)], idx ++ [a])
          | some (.node _ attrs) =>
            match traceItems fuel h path (sortKV attrs) (idx ++ [a]) with
            | .error e => .error e
            | .ok (enc, reg, idx') => .ok ((a, path) :: enc, (a, path) :: reg, idx')
  def traceItems : Nat → Heap → Path → List (Key × PVal) → RefIndex → Except Err (Log × Log × RefIndex)
    | 0, _, _, _, _ => .error .fuel
    | _ + 1, _, _, [], idx => .ok ([], [], idx)
    | fuel + 1, h, path, (k, v) :: rest, idx =>
      match traceVal fuel h (path ++ [k]) v idx with
      | .error e => .error e
      | .ok (enc1, reg1, idx1) =>
        match traceItems fuel h path rest idx1 with
        | .error e => .error e
        | .ok (enc2, reg2, idx2) => .ok (enc1 ++ enc2, reg1 ++ reg2, idx2)
end

/-- the DFS of `flatten h root`: encounters, registrations, final `ref_index` -/
def trace (h : Heap) (root : PVal) : Except Err (Log × Log × RefIndex) :=
  if isRootable root then traceVal (fuelFor h root) h [] root [] else .error .unsupported

theorem traceVal_var_ok {h : Heap} (fuel : Nat) (p : Path) (idx : RefIndex) {b : Addr} {ty val md}
    (hg : h[b]? = some (.var ty val md)) :
    ∃ reg idx1, traceVal (fuel + 1) h p (.ref b) idx = .ok ([(b, p)], reg, idx1) ∧ (idx1 = idx ∨ idx1 = idx ++ [b]) := by
  cases hi : indexOf? b idx with
  | some i => exact ⟨[], idx, by simp only [traceVal, hi], Or.inl rfl⟩
  | none => exact ⟨[(b, p)], idx ++ [b], by simp only [traceVal, hi, hg], Or.inr rfl⟩

/-- the path at which the traversal first stood on a reference to `a` -/
def firstOcc (a : Addr) : Log → Option Path
  | [] => Option.none
  | (b, p) :: rest => if b = a then some p else firstOcc a rest

theorem firstOcc_eq_lookup (a : Addr) (l : Log) : firstOcc a l = l.lookup a :=
  Assoc.lookup_unique (fun _ => rfl) (fun _ _ _ _ => rfl) a l

theorem firstOcc_append (a : Addr) (l1 l2 : Log) : firstOcc a (l1 ++ l2) = (firstOcc a l1).or (firstOcc a l2) := by
  simp only [firstOcc_eq_lookup, List.lookup_append]

theorem firstOcc_none_of_not_mem {a : Addr} {l : Log} (h : ∀ e ∈ l, e.1 ≠ a) : firstOcc a l = Option.none := by
  rw [firstOcc_eq_lookup, Assoc.lookup_eq_none_iff]
  intro hm
  obtain ⟨e, he, e1⟩ := List.mem_map.mp hm
  exact h e he e1

theorem firstOcc_cons_self (a : Addr) (p : Path) (l : Log) : firstOcc a ((a, p) :: l) = some p := by
  rw [firstOcc, if_pos rfl]

theorem firstOcc_cons_ne {a b : Addr} (hne : b ≠ a) (p : Path) (l : Log) : firstOcc a ((b, p) :: l) = firstOcc a l := by
  rw [firstOcc, if_neg hne]

theorem firstOcc_mem {a : Addr} {l : Log} {p : Path} (h : firstOcc a l = some p) : (a, p) ∈ l :=
  Assoc.mem_of_lookup (firstOcc_eq_lookup a l ▸ h)

/-- what a sub-run of the DFS guarantees, in terms of absolute paths from `root0`; `leaf` is an iff:
`flatten_leaves` needs a leaf for every registered Variable -/
structure TraceInv (h : Heap) (root0 : PVal) (idx : RefIndex) (ls : FlatState) (enc reg : Log) (idx' : RefIndex) :
    Prop where
  regIdx : idx' = idx ++ reg.map (·.1)
  nodup : idx'.Nodup
  encIn : ∀ e ∈ enc, e.1 ∈ idx'
  encAt : ∀ e ∈ enc, resolve h root0 e.2 = some (.ref e.1)
  first : ∀ e ∈ reg, firstOcc e.1 enc = some e.2
  leaf : ∀ p ty val md, (p, Leaf.vstate ty val md) ∈ ls ↔ ∃ a, (a, p) ∈ reg ∧ h[a]? = some (.var ty val md)
  leafArr : ∀ p d, (p, Leaf.arr d) ∈ ls → resolve h root0 p = some (.array d)

theorem TraceInv.fresh {h root0 idx ls enc reg idx'} (t : TraceInv h root0 idx ls enc reg idx') {e : Addr × Path}
    (he : e ∈ reg) : e.1 ∉ idx := by
  intro hin
  have hn := t.nodup
  rw [t.regIdx] at hn
  exact (List.nodup_append.mp hn).2.2 _ hin _ (List.mem_map_of_mem he) rfl

theorem TraceInv.empty (h : Heap) (root0 : PVal) {idx : RefIndex} (hn : idx.Nodup) : TraceInv h root0 idx [] [] [] idx :=
  ⟨(List.append_nil idx).symm, hn, fun _ he => (nomatch he), fun _ he => (nomatch he), fun _ he => (nomatch he),
    fun _ _ _ _ => ⟨fun hm => (nomatch hm), fun ⟨_, hm, _⟩ => (nomatch hm)⟩, fun _ _ hm => (nomatch hm)⟩

theorem TraceInv.array {h : Heap} {root0 : PVal} {idx : RefIndex} (hn : idx.Nodup) {path : Path} {d : Data}
    (hr : resolve h root0 path = some (.array d)) : TraceInv h root0 idx [(path, .arr d)] [] [] idx :=
  ⟨(List.append_nil idx).symm, hn, fun _ he => (nomatch he), fun _ he => (nomatch he), fun _ he => (nomatch he),
    fun _ _ _ _ => ⟨fun hm => (nomatch List.mem_singleton.mp hm), fun ⟨_, hm, _⟩ => (nomatch hm)⟩,
    fun _ _ hm => by cases List.mem_singleton.mp hm; exact hr⟩

theorem TraceInv.seen {h : Heap} {root0 : PVal} {idx : RefIndex} (hn : idx.Nodup) {a : Addr} {path : Path}
    (ha : a ∈ idx) (hr : resolve h root0 path = some (.ref a)) : TraceInv h root0 idx [] [(a, path)] [] idx := by
  exact ⟨(List.append_nil idx).symm, hn, List.forall_mem_singleton.mpr ha, List.forall_mem_singleton.mpr hr,
    fun _ he => (nomatch he), fun _ _ _ _ => ⟨fun hm => (nomatch hm), fun ⟨_, hm, _⟩ => (nomatch hm)⟩,
    fun _ _ hm => (nomatch hm)⟩

theorem TraceInv.var {h : Heap} {root0 : PVal} {idx : RefIndex} (hn : idx.Nodup) {a : Addr} {path : Path} {ty val md}
    (ha : a ∉ idx) (hget : h[a]? = some (.var ty val md)) (hr : resolve h root0 path = some (.ref a)) :
    TraceInv h root0 idx [(path, .vstate ty val md)] [(a, path)] [(a, path)] (idx ++ [a]) := by
  refine ⟨rfl, Lists.nodup_concat hn ha, List.forall_mem_singleton.mpr (List.mem_append_right _ (List.mem_singleton.mpr rfl)),
    List.forall_mem_singleton.mpr hr, List.forall_mem_singleton.mpr (firstOcc_cons_self a path []), ?_,
    fun _ _ hm => (nomatch List.mem_singleton.mp hm)⟩
  · intro p ty' val' md'
    constructor
    · intro hm
      cases List.mem_singleton.mp hm
      exact ⟨a, List.mem_singleton.mpr rfl, hget⟩
    · rintro ⟨a', hm, hv⟩
      cases List.mem_singleton.mp hm
      rw [hget] at hv; cases hv
      exact List.mem_singleton.mpr rfl

theorem TraceInv.node {h : Heap} {root0 : PVal} {idx : RefIndex} {a : Addr} {path : Path} {ls enc reg idx'}
    (t : TraceInv h root0 (idx ++ [a]) ls enc reg idx') (hr : resolve h root0 path = some (.ref a)) {cls attrs}
    (hget : h[a]? = some (.node cls attrs)) :
    TraceInv h root0 idx ls ((a, path) :: enc) ((a, path) :: reg) idx' := by
  have hain : a ∈ idx' := by
    rw [t.regIdx]
    exact List.mem_append_left _ (List.mem_append_right _ (List.mem_singleton.mpr rfl))
  refine ⟨by rw [t.regIdx, List.append_assoc]; rfl, t.nodup, List.forall_mem_cons.mpr ⟨hain, t.encIn⟩,
    List.forall_mem_cons.mpr ⟨hr, t.encAt⟩, ?_, ?_, t.leafArr⟩
  · intro e he
    rcases List.mem_cons.mp he with e1 | e1
    · subst e1
      exact firstOcc_cons_self a path enc
    · -- `e` was registered after `a`, so it is another address
      have hne : a ≠ e.1 := fun heq =>
        t.fresh e1 (heq ▸ List.mem_append_right _ (List.mem_singleton.mpr rfl))
      rw [firstOcc_cons_ne hne]
      exact t.first e e1
  · intro p ty val md
    rw [t.leaf p ty val md]
    constructor
    · rintro ⟨b, hb, hv⟩
      exact ⟨b, List.mem_cons_of_mem _ hb, hv⟩
    · rintro ⟨b, hb, hv⟩
      rcases List.mem_cons.mp hb with e1 | e1
      · cases e1; rw [hget] at hv; cases hv
      · exact ⟨b, e1, hv⟩

theorem TraceInv.trans {h root0 idx ls1 enc1 reg1 idx1 ls2 enc2 reg2 idx2}
    (t1 : TraceInv h root0 idx ls1 enc1 reg1 idx1) (t2 : TraceInv h root0 idx1 ls2 enc2 reg2 idx2) :
    TraceInv h root0 idx (ls1 ++ ls2) (enc1 ++ enc2) (reg1 ++ reg2) idx2 := by
  have sub : ∀ a, a ∈ idx1 → a ∈ idx2 := by
    intro a ha
    rw [t2.regIdx]
    exact List.mem_append_left _ ha
  refine ⟨by rw [t2.regIdx, t1.regIdx, List.map_append, List.append_assoc], t2.nodup,
    List.forall_mem_append.mpr ⟨fun e h1 => sub _ (t1.encIn e h1), t2.encIn⟩,
    List.forall_mem_append.mpr ⟨t1.encAt, t2.encAt⟩, ?_, ?_, ?_⟩
  · intro e he
    rw [firstOcc_append]
    rcases List.mem_append.mp he with h1 | h1
    · rw [t1.first e h1, Option.some_or]
    · -- registered in the second part: not in idx1, hence never encountered in the first part
      rw [firstOcc_none_of_not_mem (a := e.1) (fun e' he' heq => t2.fresh h1 (heq ▸ t1.encIn e' he')), Option.none_or]
      exact t2.first e h1
  · intro p ty val md
    rw [List.mem_append, t1.leaf p ty val md, t2.leaf p ty val md]
    constructor
    · rintro (⟨a, ha, hv⟩ | ⟨a, ha, hv⟩)
      · exact ⟨a, List.mem_append_left _ ha, hv⟩
      · exact ⟨a, List.mem_append_right _ ha, hv⟩
    · rintro ⟨a, ha, hv⟩
      exact (List.mem_append.mp ha).imp (fun h1 => ⟨a, h1, hv⟩) (fun h1 => ⟨a, h1, hv⟩)
  · intro p d hm
    exact (List.mem_append.mp hm).elim (t1.leafArr p d) (t2.leafArr p d)

/-- The DFS succeeds with the budget of `flatten` and with any larger one (`d`), with the same result. -/
theorem trace_flatten (h : Heap) (hw : Heap.wf h = true) (root0 : PVal) : ∀ fuel : Nat,
    (∀ path v idx gd ls idx', flattenVal fuel h path v idx = .ok (gd, ls, idx') →
      v.wf = true → resolve h root0 path = some v → idx.Nodup →
      ∃ enc reg, (∀ d, traceVal (fuel + d) h path v idx = .ok (enc, reg, idx')) ∧ TraceInv h root0 idx ls enc reg idx') ∧
    (∀ path items idx gs ls idx', flattenItems fuel h path items idx = .ok (gs, ls, idx') →
      (∀ kv ∈ items, kv.2.wf = true ∧ resolve h root0 (path ++ [kv.1]) = some kv.2) → idx.Nodup →
      ∃ enc reg, (∀ d, traceItems (fuel + d) h path items idx = .ok (enc, reg, idx')) ∧
        TraceInv h root0 idx ls enc reg idx') := by
  refine flatten_induct h ?static ?array ?none ?seq ?dict ?seen ?var ?node ?nil ?cons
  case static => exact fun _ _ _ _ _ _ hn => ⟨[], [], fun d => by rw [Nat.add_right_comm]; rfl, TraceInv.empty h root0 hn⟩
  case array => exact fun _ path d _ _ hr hn => ⟨[], [], fun d => by rw [Nat.add_right_comm]; rfl, TraceInv.array hn hr⟩
  case none => exact fun _ _ _ _ _ hn => ⟨[], [], fun d => by rw [Nat.add_right_comm]; rfl, TraceInv.empty h root0 hn⟩
  case seq =>
    intro fuel path t xs idx _ ls idx' _ ih hv hr hn
    obtain ⟨enc, reg, ht, ti⟩ := ih ((Kids.seq t xs).children hw hv hr) hn
    exact ⟨enc, reg, fun d => by rw [Nat.add_right_comm]; exact ht d, ti⟩
  case dict =>
    intro fuel path kvs idx _ ls idx' _ ih hv hr hn
    obtain ⟨enc, reg, ht, ti⟩ := ih (fun kv hkv => (Kids.dict kvs).children hw hv hr kv (mem_sortKV.mp hkv)) hn
    exact ⟨enc, reg, fun d => by rw [Nat.add_right_comm]; exact ht d, ti⟩
  case seen =>
    intro fuel path a idx i hi _ hr hn
    exact ⟨[(a, path)], [], fun d => by rw [Nat.add_right_comm]; simp only [traceVal, hi],
      TraceInv.seen hn (indexOf?_mem hi) hr⟩
  case var =>
    intro fuel path a idx ty val md ha hget _ hr hn
    exact ⟨[(a, path)], [(a, path)], fun d => by rw [Nat.add_right_comm]; simp only [traceVal, indexOf?_none.mpr ha, hget],
      TraceInv.var hn ha hget hr⟩
  case node =>
    intro fuel path a idx cls attrs _ ls idx' ha hget _ ih _ hr hn
    obtain ⟨enc, reg, ht, ti⟩ :=
      ih (fun kv hkv => (Kids.node hget).children hw rfl hr kv (mem_sortKV.mp hkv)) (Lists.nodup_concat hn ha)
    exact ⟨(a, path) :: enc, (a, path) :: reg,
      fun d => by rw [Nat.add_right_comm]; simp only [traceVal, indexOf?_none.mpr ha, hget, ht d], ti.node hr hget⟩
  case nil => exact fun _ _ _ _ hn => ⟨[], [], fun d => by rw [Nat.add_right_comm]; rfl, TraceInv.empty h root0 hn⟩
  case cons =>
    intro fuel path k v rest idx _ ls1 idx1 _ ls2 idx2 _ _ ih1 ih2 hit hn
    have hkv := hit (k, v) List.mem_cons_self
    obtain ⟨enc1, reg1, ht1, ti1⟩ := ih1 hkv.1 hkv.2 hn
    obtain ⟨enc2, reg2, ht2, ti2⟩ := ih2 (fun kv hkv => hit kv (List.mem_cons_of_mem _ hkv)) ti1.nodup
    exact ⟨enc1 ++ enc2, reg1 ++ reg2, fun d => by rw [Nat.add_right_comm]; simp only [traceItems, ht1 d, ht2 d],
      ti1.trans ti2⟩

theorem flatten_trace {h : Heap} {root : PVal} (hw : Heap.wf h = true) (hr : root.wf = true)
    {gd : GDef} {ls : FlatState} {idx : RefIndex} (hf : flatten h root = .ok (gd, ls, idx)) :
    ∃ enc reg, trace h root = .ok (enc, reg, idx) ∧ traceVal (fuelFor h root + 1) h [] root [] = .ok (enc, reg, idx) ∧
      TraceInv h root [] ls enc reg idx := by
  obtain ⟨hroot, hv⟩ := flatten_ok hf
  obtain ⟨enc, reg, ht, ti⟩ := (trace_flatten h hw root _).1 [] root [] gd ls idx hv hr rfl List.nodup_nil
  exact ⟨enc, reg, by simp only [trace, hroot, if_true]; exact ht 0, ht 1, ti⟩

/-- `pop_runs` produces the DFS with one unit of budget more. -/
theorem trace_of_one_more {h : Heap} {root : PVal} (hw : Heap.wf h = true) (hr : root.wf = true)
    {gd : GDef} {ls : FlatState} {idx idx' : RefIndex} (hf : flatten h root = .ok (gd, ls, idx)) {enc reg : Log}
    (ht' : traceVal (fuelFor h root + 1) h [] root [] = .ok (enc, reg, idx')) : trace h root = .ok (enc, reg, idx) := by
  obtain ⟨enc0, reg0, ht, h1, _⟩ := flatten_trace hw hr hf
  rw [h1] at ht'
  cases ht'
  exact ht

theorem flatten_first (h : Heap) (root : PVal) (hw : Heap.wf h = true) (hr : root.wf = true)
    (gd : GDef) (ls : FlatState) (idx : RefIndex) (hf : flatten h root = .ok (gd, ls, idx)) :
    ∃ enc reg, trace h root = .ok (enc, reg, idx) ∧ reg.map (·.1) = idx ∧
      (∀ e ∈ enc, resolve h root e.2 = some (.ref e.1)) ∧
      (∀ e ∈ reg, firstOcc e.1 enc = some e.2) ∧
      ∀ p ty val md, (p, Leaf.vstate ty val md) ∈ ls →
        ∃ a, resolve h root p = some (.ref a) ∧ h[a]? = some (.var ty val md) ∧ firstOcc a enc = some p := by
  obtain ⟨enc, reg, ht, _, ti⟩ := flatten_trace hw hr hf
  refine ⟨enc, reg, ht, ti.regIdx.symm, ti.encAt, ti.first, ?_⟩
  intro p ty val md hm
  obtain ⟨a, ha, hv⟩ := (ti.leaf p ty val md).mp hm
  have hfo := ti.first (a, p) ha
  exact ⟨a, ti.encAt (a, p) (firstOcc_mem hfo), hv, hfo⟩

theorem flatten_leaves (h : Heap) (root : PVal) (hw : Heap.wf h = true) (hr : root.wf = true)
    (gd : GDef) (ls : FlatState) (idx : RefIndex) (hf : flatten h root = .ok (gd, ls, idx)) :
    (∀ p ty val md, (p, Leaf.vstate ty val md) ∈ ls → ∃ a, resolve h root p = some (.ref a) ∧ h[a]? = some (.var ty val md)) ∧
    (∀ p q ty val md ty' val' md' a, (p, Leaf.vstate ty val md) ∈ ls → (q, Leaf.vstate ty' val' md') ∈ ls →
        resolve h root p = some (.ref a) → resolve h root q = some (.ref a) → p = q) ∧
    (∀ a, a ∈ idx → ∀ ty val md, h[a]? = some (.var ty val md) →
        ∃ p, (p, Leaf.vstate ty val md) ∈ ls ∧ resolve h root p = some (.ref a)) ∧
    (∀ p d, (p, Leaf.arr d) ∈ ls → resolve h root p = some (.array d)) := by
  obtain ⟨enc, reg, _, _, ti⟩ := flatten_trace hw hr hf
  have at_reg : ∀ a p, (a, p) ∈ reg → firstOcc a enc = some p ∧ resolve h root p = some (.ref a) :=
    fun a p hm => ⟨ti.first (a, p) hm, ti.encAt (a, p) (firstOcc_mem (ti.first (a, p) hm))⟩
  refine ⟨?_, ?_, ?_, ti.leafArr⟩
  · intro p ty val md hm
    obtain ⟨a, ha, hv⟩ := (ti.leaf p ty val md).mp hm
    exact ⟨a, (at_reg a p ha).2, hv⟩
  · intro p q ty val md ty' val' md' a hp hq hrp hrq
    obtain ⟨a1, h1, _⟩ := (ti.leaf p ty val md).mp hp
    obtain ⟨a2, h2, _⟩ := (ti.leaf q ty' val' md').mp hq
    have e1 := (at_reg a1 p h1).2
    have e2 := (at_reg a2 q h2).2
    rw [hrp] at e1; rw [hrq] at e2
    cases e1; cases e2
    exact Option.some.inj ((at_reg a p h1).1.symm.trans (at_reg a q h2).1)
  · intro a ha ty val md hv
    rw [ti.regIdx, List.nil_append] at ha
    obtain ⟨⟨a', p⟩, hm, rfl⟩ := List.mem_map.mp ha
    exact ⟨p, (ti.leaf p ty val md).mpr ⟨a', hm, hv⟩, (at_reg a' p hm).2⟩

end Flax.Graph
