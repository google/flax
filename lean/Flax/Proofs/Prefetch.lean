/-
`PrefetchIterator`: the step function as a relation (one constructor per path through `step`), so
that an invariant is proved by one `cases`; runs.
-/
import Flax.Model.Prefetch

namespace Flax.Prefetch
variable {α ε : Type}

theorem itemsOf_append (a b : List (Obs α ε)) : itemsOf (a ++ b) = itemsOf a ++ itemsOf b := by
  induction a with
  | nil => rfl
  | cons o os ih => cases o <;> simp [itemsOf, ih]

theorem itemsOf_map_item (d : List α) : itemsOf (d.map (Obs.item (ε := ε))) = d := by
  induction d with
  | nil => rfl
  | cons x xs ih => simp [itemsOf, ih]

theorem afterWait_eq (s : St α ε) : afterWait s = .fetch ∨ afterWait s = .done := by
  unfold afterWait; split
  · exact .inl rfl
  · exact .inr rfl

theorem afterWait_ne_haveErr (s : St α ε) (e : Ending ε) : afterWait s ≠ .haveErr e := by
  rcases afterWait_eq s with h | h <;> rw [h] <;> nofun

theorem afterWait_done {s : St α ε} (h : afterWait s = .done) : s.active = false := by
  unfold afterWait at h
  split at h
  · cases h
  · simpa using ‹¬ s.active = true›

theorem nextTail_eq_obs (e : Ending ε) : nextTail (α := α) (some e) = e.obs := rfl

/-- The graph of `step`: one constructor per path, its premises the tests `step` makes on that path
(on `ctor`, `ppc`, `src`, `prodPred`, `buffer`, `active`).  Every target is the source with some fields
replaced, so that a field a step does not write is the old one by `rfl`.  Only `Step.of_step` is proved. -/
inductive Step (v : Variant) (bs : Nat) (ending : Ending ε) : Label → St α ε → St α ε → Prop
  | ctor0 {s} : s.ctor = 0 →
      Step v bs ending .ctor s { s with ctor := 1, error := if v = .fixed then none else s.error }
  | ctor1 {s} : s.ctor = 1 → Step v bs ending .ctor s { s with ctor := 2 }
  | ctor2 {s} : s.ctor = 2 →
      Step v bs ending .ctor s { s with ctor := 3, error := if v = .orig then none else s.error }
  | fetchItem {s x r} : 2 ≤ s.ctor → s.ppc = .fetch → s.src = x :: r →
      Step v bs ending .fetch s { s with ppc := .haveItem x, src := r }
  | fetchEnd {s} : 2 ≤ s.ctor → s.ppc = .fetch → s.src = [] →
      Step v bs ending .fetch s { s with ppc := .haveErr ending }
  | putGo {s x} : s.ppc = .haveItem x → prodPred bs { s with buffer := s.buffer ++ [x] } = true →
      Step v bs ending .put s { s with buffer := s.buffer ++ [x], ppc := afterWait s }
  | putWait {s x} : s.ppc = .haveItem x → prodPred bs { s with buffer := s.buffer ++ [x] } = false →
      Step v bs ending .put s { s with buffer := s.buffer ++ [x], ppc := .waiting }
  | wake {s} : s.ppc = .waiting → prodPred bs s = true →
      Step v bs ending .wake s { s with ppc := afterWait s }
  | fail {s e} : s.ppc = .haveErr e →
      Step v bs ending .fail s { s with error := some e, active := false, ppc := .done }
  | nextItem {s x r} : s.ctor = 3 → s.buffer = x :: r →
      Step v bs ending .next s { s with buffer := r, out := s.out ++ [.item x] }
  | nextEnd {s} : s.ctor = 3 → s.buffer = [] → s.active = false →
      Step v bs ending .next s { s with out := s.out ++ [nextTail s.error] }
  | close {s} : s.ctor = 3 → Step v bs ending .close s { s with active := false }

theorem Step.of_step {v : Variant} {bs : Nat} {ending : Ending ε} {l : Label} {s s' : St α ε}
    (h : step v bs ending l s = some s') : Step v bs ending l s s' := by
  obtain ⟨c, src, ppc, buf, act, err, out⟩ := s
  cases l with
  | ctor =>
    rcases c with _ | _ | _ | c <;> cases h
    · exact .ctor0 rfl
    · exact .ctor1 rfl
    · exact .ctor2 rfl
  | fetch =>
    dsimp only [step] at h
    by_cases hc : 2 ≤ c
    · rw [if_pos hc] at h
      cases ppc <;> cases src <;> cases h
      · exact .fetchEnd hc rfl rfl
      · exact .fetchItem hc rfl rfl
    · rw [if_neg hc] at h; cases h
  | put =>
    cases ppc <;> try cases h
    dsimp only [step] at h
    split at h
    · next hpp => cases h; exact .putGo rfl hpp
    · next hpp => cases h; exact .putWait rfl (by simpa using hpp)
  | wake =>
    cases ppc <;> try cases h
    dsimp only [step] at h
    split at h
    · next hpp => cases h; exact .wake rfl hpp
    · cases h
  | fail =>
    cases ppc <;> cases h
    exact .fail rfl
  | next =>
    dsimp only [step] at h
    by_cases hc : c = 3
    · rw [if_pos hc] at h
      cases buf with
      | cons x r => cases h; exact .nextItem hc rfl
      | nil =>
        cases act with
        | true => cases h
        | false =>
          -- the two branches on `_error` are `nextTail`
          cases err <;> cases h <;> exact .nextEnd hc rfl rfl
    · rw [if_neg hc] at h; cases h
  | close =>
    dsimp only [step] at h
    by_cases hc : c = 3
    · rw [if_pos hc] at h; cases h; exact .close hc
    · rw [if_neg hc] at h; cases h

@[simp] theorem run_nil (v : Variant) (bs : Nat) (ending : Ending ε) (s : St α ε) :
    run v bs ending [] s = some s := rfl

theorem run_cons (v : Variant) (bs : Nat) (ending : Ending ε) (l : Label) (ls : List Label) (s : St α ε) :
    run v bs ending (l :: ls) s = (step v bs ending l s).bind (run v bs ending ls) := rfl

theorem run_cons_eq_some {v : Variant} {bs : Nat} {ending : Ending ε} {l : Label} {ls : List Label}
    {s s' : St α ε} (h : run v bs ending (l :: ls) s = some s') :
    ∃ s1, Step v bs ending l s s1 ∧ run v bs ending ls s1 = some s' := by
  rw [run_cons] at h
  cases hs : step v bs ending l s with
  | none => simp [hs] at h
  | some s1 => exact ⟨s1, .of_step hs, by simpa [hs] using h⟩

theorem run_append (v : Variant) (bs : Nat) (ending : Ending ε) (a b : List Label) (s : St α ε) :
    run v bs ending (a ++ b) s = (run v bs ending a s).bind (run v bs ending b) := by
  induction a generalizing s with
  | nil => rfl
  | cons l ls ih =>
    simp only [List.cons_append, run_cons]
    cases step v bs ending l s with
    | none => rfl
    | some s1 => exact ih s1

theorem run_preserves {v : Variant} {bs : Nat} {ending : Ending ε} {P : St α ε → Prop} {A : Label → Prop}
    (hstep : ∀ l s s', A l → P s → Step v bs ending l s s' → P s') :
    ∀ (sched : List Label), (∀ l ∈ sched, A l) → ∀ s s', P s → run v bs ending sched s = some s' → P s' := by
  intro sched
  induction sched with
  | nil => intro _ s s' hp h; cases h; exact hp
  | cons l ls ih =>
    intro hA s s' hp h
    obtain ⟨s1, h1, h2⟩ := run_cons_eq_some h
    exact ih (fun l' hl' => hA l' (List.mem_cons_of_mem _ hl')) s1 s'
      (hstep l s s1 (hA l List.mem_cons_self) hp h1) h2

end Flax.Prefetch
