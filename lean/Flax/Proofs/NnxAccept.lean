/-
When cond / switch / fori_loop / while_loop accept a call.  On a closed heap the traced function fails exactly when the
eager function fails (`pureRun_total`), so `switch` is decided by the eager outcomes of the branches and their traced output
structures, and a loop body is accepted exactly when the eager body gives the carry back with the same graphdef and objects.
-/
import Flax.Proofs.NnxIter
import Flax.Proofs.NnxCond

namespace Flax.Nnx
open Flax.Heap Flax.Graph

theorem pureRun_total (raw keep : Bool) (f : Fn) {pre : List PVal} (hpre : ∀ v ∈ pre, ∃ d, v = PVal.array d)
    {h : Heap} {vals : List PVal} {gds : List GDef} {fss : List FlatState} {idx1 : RefIndex}
    (hf : FlatRoots h vals [] gds fss idx1) :
    (∀ rets h2, runFn f h (pre ++ vals) = .ok (rets, h2) →
      ∃ o, pureRun raw keep f pre gds (fss.map (convLeaves raw)) = .ok o) ∧
    (∀ e, runFn f h (pre ++ vals) = .error e → pureRun raw keep f pre gds (fss.map (convLeaves raw)) = .error e) := by
  obtain ⟨herr, hok⟩ := pureRun_sim raw keep f hpre hf
  refine ⟨fun rets h2 he => ?_, herr⟩
  obtain ⟨_, _, _, _, _, _, _, _, _, _, _, _, hpr⟩ := hok rets h2 he
  exact ⟨_, hpr⟩

theorem traceBranches_ok {gds : List GDef} {lss : List (List Leaf)} {fs : List Fn}
    (h : ∀ f ∈ fs, ∃ o, pureRun false true f [] gds lss = .ok o) :
    ∃ outs, traceBranches gds lss fs = .ok outs ∧ ∀ o ∈ outs, ∃ f ∈ fs, pureRun false true f [] gds lss = .ok o := by
  obtain ⟨outs, ho⟩ := mapM_ok_of_forall fs h
  exact ⟨outs, by rw [traceBranches_eq_mapM, ho], mapM_ok_mem_rev ho⟩

theorem traceBranches_first_error {gds : List GDef} {lss : List (List Leaf)} {f : Fn} {post : List Fn} {e : Err}
    (hf : pureRun false true f [] gds lss = .error e) {pre : List Fn}
    (h : ∀ g ∈ pre, ∃ o, pureRun false true g [] gds lss = .ok o) : traceBranches gds lss (pre ++ f :: post) = .error e := by
  obtain ⟨r, hr⟩ := mapM_ok_of_forall pre h
  rw [traceBranches_eq_mapM, List.mapM_append, hr, List.mapM_cons, hf]
  rfl

/-- the output structure (graphdefs with `outer_index` stamps) the traced function `f` announces for `f(*args)` on `h` -/
def tracedDefs (f : Fn) (h : Heap) (args : List PVal) : Except Err (List ODef) :=
  match step1 false h args with
  | .error e => .error e
  | .ok (gds, lss, _) =>
    match pureRun false true f [] gds lss with
    | .error e => .error e
    | .ok (gdsO, _) => .ok gdsO

section Switch
variable {fs : List Fn} {index : Int} {h : Heap} {args : List PVal}

theorem switch_error (hc : HeapClosed h) (ha : ∀ v ∈ args, ValClosed h v) {pre post : List Fn} {f : Fn} {e : Err}
    (hfs : fs = pre ++ f :: post) (hpre : ∀ g ∈ pre, ∃ r, runFn g h args = .ok r) (hf : runFn f h args = .error e) :
    switchCall fs index h args = .error e := by
  obtain ⟨gds, fss, idx1, hf1⟩ := flattenRoots_total hc args ha []
  have hF := flatRoots_of_flattenRoots hf1
  have hs1 : step1 false h args = .ok (gds, fss.map (convLeaves false), idx1) := by simp [step1, hf1]
  have h1 : pureRun false true f [] gds (fss.map (convLeaves false)) = .error e :=
    (pureRun_total false true f (pre := []) (fun v hv => by simp at hv) hF).2 e (by simpa using hf)
  have h2 : ∀ g ∈ pre, ∃ o, pureRun false true g [] gds (fss.map (convLeaves false)) = .ok o := fun g hg => by
    obtain ⟨r, hr⟩ := hpre g hg
    exact (pureRun_total false true g (pre := []) (fun v hv => by simp at hv) hF).1 r.1 r.2 (by simpa using hr)
  unfold switchCall
  rw [hs1, hfs]
  simp only [traceBranches_first_error h1 h2]

theorem switch_all_ok (hc : HeapClosed h) (ha : ∀ v ∈ args, ValClosed h v) (hne : fs ≠ [])
    (hall : ∀ f ∈ fs, ∃ r, runFn f h args = .ok r) :
    ((∀ f ∈ fs, ∀ g ∈ fs, tracedDefs f h args = tracedDefs g h args) →
      ∃ outs h4, switchCall fs index h args = .ok (outs, h4)) ∧
    ((∃ f ∈ fs, ∃ g ∈ fs, tracedDefs f h args ≠ tracedDefs g h args) →
      switchCall fs index h args = .error .structureMismatch) := by
  obtain ⟨gds, fss, idx1, hf1⟩ := flattenRoots_total hc args ha []
  have hF := flatRoots_of_flattenRoots hf1
  have hs1 : step1 false h args = .ok (gds, fss.map (convLeaves false), idx1) := by simp [step1, hf1]
  have hp : ∀ g ∈ fs, ∃ o, pureRun false true g [] gds (fss.map (convLeaves false)) = .ok o := fun g hg => by
    obtain ⟨r, hr⟩ := hall g hg
    exact (pureRun_total false true g (pre := []) (fun v hv => by simp at hv) hF).1 r.1 r.2 (by simpa using hr)
  obtain ⟨outs, htr, hmem⟩ := traceBranches_ok hp
  obtain ⟨_, hk⟩ := traceBranches_get htr
  have htd : ∀ o ∈ outs, ∃ f ∈ fs, tracedDefs f h args = .ok o.1 := fun o ho => by
    obtain ⟨f, hfm, hfo⟩ := hmem o ho
    exact ⟨f, hfm, by simp [tracedDefs, hs1, hfo]⟩
  have hin : ∀ f ∈ fs, ∃ o ∈ outs, tracedDefs f h args = .ok o.1 := fun f hfm => by
    obtain ⟨k, hk1⟩ := List.getElem?_of_mem hfm
    obtain ⟨o, ho1, ho2⟩ := hk k f hk1
    exact ⟨o, List.mem_of_getElem? ho1, by simp [tracedDefs, hs1, ho2]⟩
  constructor
  · intro heq
    have hklt := clampIndex_lt index (List.length_pos_iff.mpr hne)
    have hsame : ∀ o ∈ outs, ∀ o' ∈ outs, o.1 = o'.1 := fun o ho o' ho' => by
      obtain ⟨f, hfm, e1⟩ := htd o ho
      obtain ⟨g, hgm, e2⟩ := htd o' ho'
      have := heq f hfm g hgm
      rw [e1, e2] at this
      exact Except.ok.inj this
    rw [switchCall_accept hs1 htr hsame (List.getElem?_eq_getElem hklt)]
    obtain ⟨r, hr⟩ := hall _ (List.getElem_mem hklt)
    obtain ⟨roots4, h4, _, hproto, _⟩ := (proto_total false fs[clampIndex index fs.length] h args hc ha).1 r.1 r.2 hr
    exact ⟨roots4.drop args.length, h4, by simp [rematCall, hproto]⟩
  · rintro ⟨f, hfm, g, hgm, hne'⟩
    obtain ⟨o, ho, e1⟩ := hin f hfm
    obtain ⟨o', ho', e2⟩ := hin g hgm
    rw [e1, e2] at hne'
    exact switchCall_reject hs1 htr ho ho' (fun e => hne' (by rw [e]))

end Switch

theorem body_outcome {f : Fn} {pre : List PVal} (hpre : ∀ v ∈ pre, ∃ d, v = PVal.array d)
    {h : Heap} {vals : List PVal} {gds : List GDef} {fss : List FlatState} {idx1 : RefIndex}
    (hf : FlatRoots h vals [] gds fss idx1) (nh : AttrsNodup h) :
    (∀ e, runFn f h (pre ++ vals) = .error e → bodyPure f pre gds (fss.map (convLeaves false)) = .error e) ∧
    (∀ rets h2, runFn f h (pre ++ vals) = .ok (rets, h2) →
      ((∃ fssK, FlatRoots h2 rets [] gds fssK idx1) → ∃ lss', bodyPure f pre gds (fss.map (convLeaves false)) = .ok lss') ∧
      ((¬ ∃ fssK, FlatRoots h2 rets [] gds fssK idx1) →
        bodyPure f pre gds (fss.map (convLeaves false)) = .error .structureMismatch)) := by
  refine ⟨fun e he => by simp [bodyPure, (pureRun_sim false false f hpre hf).1 e he], fun rets h2 he => ?_⟩
  obtain ⟨gdsE, fssE, idxE, hFE, hpr⟩ := pureRun_eager false false f hpre hf nh he
  have hFE' : FlatRoots h2 rets [] gdsE fssE idxE := by simpa using hFE
  have hkept : (∃ fssK, FlatRoots h2 rets [] gds fssK idx1) ↔ gdsE = gds ∧ idxE = idx1 :=
    ⟨fun ⟨fssK, hK⟩ => by obtain ⟨rfl, _, rfl⟩ := flatRoots_det hFE' hK; exact ⟨rfl, rfl⟩,
      fun ⟨e1, e2⟩ => ⟨fssE, e1 ▸ e2 ▸ hFE'⟩⟩
  rw [hkept, ← carry_kept_iff hf hFE']
  exact ⟨fun hchk => ⟨fssE.map (convLeaves false), by simp [bodyPure, hpr, hchk]⟩, fun hchk => by simp [bodyPure, hpr, hchk]⟩

theorem body_accepts {f : Fn} {pre : List PVal} (hpre : ∀ v ∈ pre, ∃ d, v = PVal.array d)
    {h : Heap} {vals : List PVal} {gds : List GDef} {fss : List FlatState} {idx1 : RefIndex}
    (hf : FlatRoots h vals [] gds fss idx1) (nh : AttrsNodup h) {vals1 : List PVal} {h1 : Heap}
    (he : runFn f h (pre ++ vals) = .ok (vals1, h1)) {fss1 : List FlatState} (hK : FlatRoots h1 vals1 [] gds fss1 idx1) :
    bodyPure f pre gds (fss.map (convLeaves false)) = .ok (fss1.map (convLeaves false)) ∧ AttrsNodup h1 := by
  obtain ⟨lss1, hb⟩ := ((body_outcome (f := f) hpre hf nh).2 vals1 h1 he).1 ⟨fss1, hK⟩
  obtain ⟨fss1', hf1, rfl, nh1, _⟩ := body_step hpre hf nh he hb
  obtain ⟨_, rfl, _⟩ := flatRoots_det hf1 hK
  exact ⟨hb, nh1⟩

/-- the unrolled `fori_loop` runs `n` more iterations from `(h, vals)` at counter `i`, and every iteration gives the carry
back with the graphdef `gds` and the objects `idx1` in the same order -/
def KeepsCarry (f : Fn) (gds : List GDef) (idx1 : RefIndex) : Nat → Int → Heap → List PVal → Prop
  | 0, _, _, _ => True
  | n + 1, i, h, vals => ∃ vals1 h1 fss1, runFn f h (PVal.array (wrap32 i) :: vals) = .ok (vals1, h1) ∧
      FlatRoots h1 vals1 [] gds fss1 idx1 ∧ KeepsCarry f gds idx1 n (i + 1) h1 vals1

theorem foriIter_total (f : Fn) (gds : List GDef) (idx1 : RefIndex) : ∀ (n : Nat) (i : Int) (h : Heap) (vals : List PVal)
    (fss : List FlatState), FlatRoots h vals [] gds fss idx1 → AttrsNodup h → KeepsCarry f gds idx1 n i h vals →
    ∃ lssN valsE hE, foriIter f gds n i (fss.map (convLeaves false)) = .ok lssN ∧ foriEager f n i h vals = .ok (valsE, hE)
  | 0, i, h, vals, fss, _, _, _ => ⟨_, vals, h, rfl, rfl⟩
  | n + 1, i, h, vals, fss, hf, nh, ⟨vals1, h1, fss1, hr, hK, hrest⟩ => by
    obtain ⟨hb, nh1⟩ := body_accepts (f := f) (pre := [.array (wrap32 i)]) (fun v hv => ⟨_, by simpa using hv⟩) hf nh hr hK
    obtain ⟨lssN, valsE, hE, hi, he⟩ := foriIter_total f gds idx1 n (i + 1) h1 vals1 fss1 hK nh1 hrest
    exact ⟨lssN, valsE, hE, by simp [foriIter, hb, hi], by simp [foriEager, hr, he]⟩

/-- `htrace`: the body is traced once whatever `n` is; for `n ≥ 1` it follows from `hk` -/
theorem fori_total (f : Fn) (lower : Int) (n : Nat) (h : Heap) (vals : List PVal) (nh : AttrsNodup h)
    (gds : List GDef) (fss : List FlatState) (idx1 : RefIndex) (hf : flattenRoots h vals [] = .ok (gds, fss, idx1))
    (htrace : KeepsCarry f gds idx1 1 lower h vals) (hk : KeepsCarry f gds idx1 n lower h vals) :
    ∃ roots h4 valsE hE χ, foriCall f lower n h vals = .ok (roots, h4) ∧ foriEager f n lower h vals = .ok (valsE, hE) ∧
      LoopRefines h valsE hE roots h4 χ := by
  have hF := flatRoots_of_flattenRoots hf
  obtain ⟨vals1, h1, fss1, hr, hK, _⟩ := htrace
  obtain ⟨hlT, _⟩ := body_accepts (f := f) (pre := [.array (wrap32 lower)]) (fun v hv => ⟨_, by simpa using hv⟩) hF nh hr hK
  obtain ⟨lssN, valsE, hE, hi, he⟩ := foriIter_total f gds idx1 n lower h vals fss hF nh hk
  obtain ⟨fssE, hfE, rfl, hkind⟩ := fori_invariant f gds idx1 n lower h vals fss lssN valsE hE hF nh hi he
  obtain ⟨roots, h4, χ, hs, hχ⟩ := loop_merge (flatRoots_lt hF).2.1 hkind hfE
  exact ⟨roots, h4, valsE, hE, χ, by simp [foriCall, step1, hf, hlT, hi, hs], he, hχ⟩

theorem fori_trace_outcome (f : Fn) (lower : Int) (n : Nat) (h : Heap) (vals : List PVal) (nh : AttrsNodup h)
    (gds : List GDef) (fss : List FlatState) (idx1 : RefIndex) (hf : flattenRoots h vals [] = .ok (gds, fss, idx1)) :
    (∀ e, runFn f h (PVal.array (wrap32 lower) :: vals) = .error e → foriCall f lower n h vals = .error e) ∧
    (∀ rets h2, runFn f h (PVal.array (wrap32 lower) :: vals) = .ok (rets, h2) →
      (¬ ∃ fssK, FlatRoots h2 rets [] gds fssK idx1) → foriCall f lower n h vals = .error .structureMismatch) := by
  have hF := flatRoots_of_flattenRoots hf
  have hpre : ∀ v ∈ [PVal.array (wrap32 lower)], ∃ d, v = PVal.array d := fun v hv => ⟨_, by simpa using hv⟩
  obtain ⟨herr, hok⟩ := body_outcome (f := f) hpre hF nh
  constructor
  · intro e he
    have := herr e (by simpa using he)
    simp [foriCall, step1, hf, this]
  · intro rets h2 he hno
    have := ((hok rets h2 (by simpa using he)).2 hno)
    simp [foriCall, step1, hf, this]

/-- the unrolled `while` loop terminates within the budget, the predicate returns one array each time, and every
iteration keeps the carry -/
def KeepsCarryW (c f : Fn) (gds : List GDef) (idx1 : RefIndex) : Nat → Heap → List PVal → Prop
  | 0, _, _ => False
  | fuel + 1, h, vals => ∃ d, runFn c h vals = .ok ([PVal.array d], h) ∧
      (d = 0 ∨ (d ≠ 0 ∧ ∃ vals1 h1 fss1, runFn f h vals = .ok (vals1, h1) ∧ FlatRoots h1 vals1 [] gds fss1 idx1 ∧
        KeepsCarryW c f gds idx1 fuel h1 vals1))

theorem whileIter_total (c f : Fn) (gds : List GDef) (idx1 : RefIndex) : ∀ (fuel : Nat) (h : Heap) (vals : List PVal)
    (fss : List FlatState), FlatRoots h vals [] gds fss idx1 → AttrsNodup h → KeepsCarryW c f gds idx1 fuel h vals →
    ∃ lssN valsE hE, whileIter c f gds fuel (fss.map (convLeaves false)) = .ok lssN ∧ whileEager c f fuel h vals = .ok (valsE, hE)
  | 0, _, _, _, _, _, hk => by cases hk
  | fuel + 1, h, vals, fss, hf, nh, hk => by
    obtain ⟨d, hc, hrest⟩ := hk
    have hcp := condPure_eager hf hc
    rcases hrest with hd | ⟨hd, vals1, h1, fss1, hr, hK, hrest⟩
    · subst hd
      exact ⟨fss.map (convLeaves false), vals, h, by simp [whileIter, hcp], by simp [whileEager, hc]⟩
    · obtain ⟨hb, nh1⟩ := body_accepts (f := f) (pre := []) (fun v hv => by simp at hv) hf nh hr hK
      obtain ⟨lssN, valsE, hE, hi, he⟩ := whileIter_total c f gds idx1 fuel h1 vals1 fss1 hK nh1 hrest
      exact ⟨lssN, valsE, hE, by simp [whileIter, hcp, hd, hb, hi], by simp [whileEager, hc, hd, hr, he]⟩

theorem while_total (c f : Fn) (hro : c.readOnly = true) (fuel : Nat) (h : Heap) (vals : List PVal) (nh : AttrsNodup h)
    (gds : List GDef) (fss : List FlatState) (idx1 : RefIndex) (hf : flattenRoots h vals [] = .ok (gds, fss, idx1))
    (d0 : Data) (htc : runFn c h vals = .ok ([.array d0], h))
    (htb : ∃ vals1 h1 fss1, runFn f h vals = .ok (vals1, h1) ∧ FlatRoots h1 vals1 [] gds fss1 idx1)
    (hk : KeepsCarryW c f gds idx1 fuel h vals) :
    ∃ roots h4 valsE hE χ, whileCall c f fuel h vals = .ok (roots, h4) ∧ whileEager c f fuel h vals = .ok (valsE, hE) ∧
      LoopRefines h valsE hE roots h4 χ := by
  have hF := flatRoots_of_flattenRoots hf
  have hcp := condPure_eager hF htc
  obtain ⟨vals1, h1, fss1, hr, hK⟩ := htb
  obtain ⟨hlT, _⟩ := body_accepts (f := f) (pre := []) (fun v hv => by simp at hv) hF nh hr hK
  obtain ⟨lssN, valsE, hE, hi, he⟩ := whileIter_total c f gds idx1 fuel h vals fss hF nh hk
  obtain ⟨fssE, hfE, rfl, hkind⟩ := while_invariant c f hro gds idx1 fuel h vals fss lssN valsE hE hF nh hi he
  obtain ⟨roots, h4, χ, hs, hχ⟩ := loop_merge (flatRoots_lt hF).2.1 hkind hfE
  exact ⟨roots, h4, valsE, hE, χ, by simp [whileCall, step1, hf, hcp, hlT, hi, hs], he, hχ⟩

end Flax.Nnx
