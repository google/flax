/-
The rng bookkeeping of `nn.jit`: what `fork_rngs` leaves in the scope (for `Flax.C05.jit_rng_callsite`), and the
rng-counter replay on a jit cache hit (`_restore_rng_counters`, `set_from_dict`) over the counter heap of
Flax/Model/Lift.lean: `set_from_dict` through what the scope reads (`setFromDict_read`), and, for counts an execution
can leave (`Flax.C05.Extends`), the replay read back (`restoreHeap_read`, which is `Flax.C05.counter_delta_restore`).
-/
import Flax.Proofs.LiftVars

namespace Flax.Lift

/-- the LazyRng `fork_rngs` installs for a stream with rng `r` and counter `k` -/
def forkedRng (r : LazyRng) (k : Nat) : LazyRng := ⟨foldStatic r.key (r.suffix ++ [Datum.n (k + 1)]), []⟩

theorem makeRng_present (s : ScopeSt) (nm : String) (r : LazyRng) (k : Nat)
    (hr : alookup nm s.rngs = some r) (hk : alookup nm s.counters = some k) :
    s.makeRng nm = .ok (foldStatic r.key (r.suffix ++ [Datum.n (k + 1)]),
      { s with counters := ainsert nm (k + 1) s.counters }) := by
  simp [ScopeSt.makeRng, ScopeSt.rngName, hr, hk]

/-- `acc` holds the streams already forked -/
theorem forkGo_spec : ∀ (names : List String) (s : ScopeSt) (acc : Rngs), names.Nodup →
    (∀ nm, nm ∈ names → ∃ r k, alookup nm s.rngs = some r ∧ alookup nm s.counters = some k) →
    ∃ s', forkGo names s acc = .ok s' ∧ s'.vars = s.vars ∧ s'.mutable = s.mutable ∧
      (∀ nm, alookup nm s'.counters =
        if nm ∈ names then (alookup nm s.counters).map (· + 1) else alookup nm s.counters) ∧
      (∀ nm, alookup nm s'.rngs =
        match alookup nm acc with
        | some v => some v
        | none =>
          if nm ∈ names then
            (match alookup nm s.rngs, alookup nm s.counters with
             | some r, some k => some (forkedRng r k)
             | _, _ => none)
          else none) := by
  intro names
  induction names with
  | nil =>
    intro s acc _ _
    exact ⟨{ s with rngs := acc }, rfl, rfl, rfl, by simp, by intro nm; cases alookup nm acc <;> simp⟩
  | cons n0 rest ih =>
    intro s acc hnd hall
    simp only [List.nodup_cons] at hnd
    obtain ⟨r0, k0, hr0, hk0⟩ := hall n0 List.mem_cons_self
    have hall' : ∀ nm, nm ∈ rest → ∃ r k,
        alookup nm s.rngs = some r ∧ alookup nm (ainsert n0 (k0 + 1) s.counters) = some k := by
      intro nm hnm
      obtain ⟨r, k, h1, h2⟩ := hall nm (List.mem_cons_of_mem _ hnm)
      have hne : nm ≠ n0 := fun e => hnd.1 (e ▸ hnm)
      exact ⟨r, k, h1, (alookup_ainsert_ne hne _ _).trans h2⟩
    obtain ⟨s', h1, h2, h3, h5, h6⟩ := ih { s with counters := ainsert n0 (k0 + 1) s.counters }
      (acc ++ [(n0, forkedRng r0 k0)]) hnd.2 hall'
    refine ⟨s', ?_, h2, h3, ?_, ?_⟩
    · rw [forkGo, makeRng_present s n0 r0 k0 hr0 hk0]
      exact h1
    · intro nm
      rw [h5]
      by_cases hn : nm = n0
      · subst hn
        simp [hnd.1, alookup_ainsert_same, hk0]
      · simp [hn, alookup_ainsert_ne hn]
    · intro nm
      rw [h6, alookup_append]
      cases alookup nm acc with
      | some v => rfl
      | none =>
        by_cases hn : nm = n0
        · subst hn
          simp [alookup, hr0, hk0]
        · simp [alookup, hn, Ne.symm hn, alookup_ainsert_ne hn]

theorem alookup_mergeInto (u : List (String × α)) : ∀ (base : List (String × α)), (keys u).Nodup → ∀ k,
    alookup k (mergeInto base u) = match alookup k u with | some v => some v | none => alookup k base := by
  intro base hn k
  rw [alookup_eq_lookup, alookup_eq_lookup, alookup_eq_lookup, mergeInto, ainsert_isUpsert.foldl_lookup,
    ← Assoc.lookup_perm u.reverse_perm.symm hn]
  cases u.lookup k <;> rfl

theorem alookup_mergeInto_over {old new : List (String × α)} (hn : (keys new).Nodup)
    (hext : ∀ s, (alookup s old).isSome = true → (alookup s new).isSome = true) (s : String) :
    alookup s (mergeInto old new) = alookup s new := by
  rw [alookup_mergeInto _ _ hn]
  cases hs : alookup s new with
  | some v => rfl
  | none =>
    cases ho : alookup s old with
    | none => rfl
    | some v => have := hext s (by rw [ho]; rfl); rw [hs] at this; cases this

theorem cntAdd_cntSub (new old : Cnt) : cntAdd (cntSub new old) old = new := by
  simp only [cntAdd, cntSub, List.map_map]
  conv => rhs; rw [← List.map_id new]
  apply List.map_congr_left
  intro x _
  simp only [Function.comp_apply, id]
  ext <;> simp <;> omega

theorem sub_add_cancel (new old : CVal) : (new.sub old).add old = new := by
  cases new with
  | mk r ks =>
    simp only [CVal.add, CVal.sub, cntAdd_cntSub, List.map_map, CVal.mk.injEq, true_and]
    conv => rhs; rw [← List.map_id ks]
    apply List.map_congr_left
    intro x _
    simp [cntAdd_cntSub]

/-- distinct child tokens, distinct valid addresses -/
structure CHeap.WF (h : CHeap) : Prop where
  kn : (keys h.kids).Nodup
  an : (h.kids.map (·.2)).Nodup
  ab : ∀ ka, ka ∈ h.kids → ka.2 < h.objs.length

theorem obj_append_lt (h : CHeap) (u : Cnt) (a : Nat) (ha : a < h.objs.length) (ks : List (String × Nat)) :
    ({ h with kids := ks, objs := h.objs ++ [u] } : CHeap).obj a = h.obj a := by
  simp [CHeap.obj, List.getElem?_append_left ha]

theorem addr_of_kid {h : CHeap} (hw : h.WF) {kid : String} {a : Nat} (hk : alookup kid h.kids = some a) :
    a < h.objs.length := hw.ab (kid, a) (mem_of_alookup hk)

theorem addr_inj {h : CHeap} (hw : h.WF) {k1 k2 : String} {a : Nat} (h1 : alookup k1 h.kids = some a)
    (h2 : alookup k2 h.kids = some a) : k1 = k2 :=
  (Prod.mk.inj (Assoc.eq_of_nodup_map hw.an (mem_of_alookup h1) (mem_of_alookup h2) rfl)).1

theorem alookup_read_kids (h : CHeap) (k : String) : alookup k h.read.kids = (alookup k h.kids).map h.obj := by
  rw [alookup_eq_lookup, alookup_eq_lookup]
  exact Assoc.lookup_map_val h.obj k h.kids

theorem setKid_root (h : CHeap) (kid : String) (u : Cnt) : (setKid h kid u).root = h.root := by
  unfold setKid
  cases alookup kid h.kids <;> rfl

/-- no child token is ever pointed elsewhere: the aliasing half of `set_from_dict` -/
theorem setKid_kids {h : CHeap} (kid : String) (u : Cnt) {k : String} {a : Nat} (hk : alookup k h.kids = some a) :
    alookup k (setKid h kid u).kids = some a := by
  unfold setKid
  cases alookup kid h.kids with
  | none => simp only [alookup_append, hk]
  | some a0 => exact hk

theorem setKid_wf {h : CHeap} (hw : h.WF) (kid : String) (u : Cnt) : (setKid h kid u).WF := by
  unfold setKid
  cases hk : alookup kid h.kids with
  | none =>
    refine ⟨?_, ?_, ?_⟩
    · simp only [keys, List.map_append, List.map_cons, List.map_nil]
      exact Lists.nodup_concat hw.kn ((alookup_none_iff _ _).mp hk)
    · simp only [List.map_append, List.map_cons, List.map_nil]
      refine Lists.nodup_concat hw.an fun hx => ?_
      obtain ⟨ka, hka, hke⟩ := List.mem_map.mp hx
      have := hw.ab ka hka
      omega
    · intro ka hka
      simp only [List.length_append, List.length_cons, List.length_nil]
      rcases List.mem_append.mp hka with h1 | h1
      · have := hw.ab ka h1; omega
      · simp at h1; subst h1; simp
  | some a0 => exact ⟨hw.kn, hw.an, by intro ka hka; simpa using hw.ab ka hka⟩

/-- One nested key of `set_from_dict`, seen through what the scope reads; every other child reads as before because
distinct tokens point to distinct objects (`WF.an`). -/
theorem alookup_setKid_read {h : CHeap} (hw : h.WF) (kid : String) (u : Cnt) (k : String) :
    alookup k (setKid h kid u).read.kids =
      if k = kid then some (match alookup kid h.read.kids with | some o => mergeInto o u | none => u)
      else alookup k h.read.kids := by
  simp only [alookup_read_kids]
  unfold setKid
  cases hk : alookup kid h.kids with
  | none =>
    by_cases hke : k = kid
    · subst hke
      simp [alookup_append, hk, alookup, CHeap.obj]
    · cases hka : alookup k h.kids with
      | none => simp [alookup_append, hka, alookup, hke, Ne.symm hke]
      | some a => simp [alookup_append, hka, hke, obj_append_lt h u a (addr_of_kid hw hka)]
  | some a0 =>
    have ha0 := addr_of_kid hw hk
    by_cases hke : k = kid
    · subst hke
      simp [hk, CHeap.obj, List.getElem?_set_self ha0]
    · cases hka : alookup k h.kids with
      | none => simp [hke]
      | some a =>
        have hne : a0 ≠ a := fun e => hke (addr_inj hw (e ▸ hka) hk)
        simp [hke, CHeap.obj, List.getElem?_set_ne hne]

theorem setKids_stable : ∀ (L : List (String × Cnt)) (h : CHeap),
    (L.foldl (fun h kc => setKid h kc.1 kc.2) h).root = h.root ∧
    ∀ k a, alookup k h.kids = some a → alookup k (L.foldl (fun h kc => setKid h kc.1 kc.2) h).kids = some a := by
  intro L
  induction L with
  | nil => intro h; exact ⟨rfl, fun _ _ hk => hk⟩
  | cons x rest ih =>
    intro h
    obtain ⟨r, e⟩ := ih (setKid h x.1 x.2)
    exact ⟨r.trans (setKid_root h x.1 x.2), fun k a hk => e k a (setKid_kids x.1 x.2 hk)⟩

theorem alookup_setKids_read : ∀ (L : List (String × Cnt)) (h : CHeap), h.WF → (keys L).Nodup → ∀ k,
    alookup k (L.foldl (fun h kc => setKid h kc.1 kc.2) h).read.kids =
      match alookup k L with
      | some u => some (match alookup k h.read.kids with | some o => mergeInto o u | none => u)
      | none => alookup k h.read.kids := by
  intro L
  induction L with
  | nil => intro h _ _ k; rfl
  | cons x rest ih =>
    obtain ⟨k0, u0⟩ := x
    intro h hw hn k
    have hn := List.nodup_cons.mp hn
    rw [List.foldl_cons, ih _ (setKid_wf hw k0 u0) hn.2, alookup_setKid_read hw]
    by_cases hk : k = k0
    · subst hk
      simp [alookup, (alookup_none_iff _ _).mpr hn.1]
    · simp [alookup, hk, Ne.symm hk]

theorem restoreHeap_sub (h : CHeap) (now : CVal) : restoreHeap h (now.sub h.read) = setFromDict h now := by
  rw [restoreHeap, sub_add_cancel]

theorem setFromDict_read {h : CHeap} (hw : h.WF) {u : CVal} (hn : (keys u.kids).Nodup) :
    (setFromDict h u).root = mergeInto h.root u.root ∧
    (∀ k a, alookup k h.kids = some a → alookup k (setFromDict h u).kids = some a) ∧
    ∀ k, alookup k (setFromDict h u).read.kids =
      match alookup k u.kids with
      | some c => some (match alookup k h.read.kids with | some o => mergeInto o c | none => c)
      | none => alookup k h.read.kids := by
  have hw0 : ({ h with root := mergeInto h.root u.root } : CHeap).WF := ⟨hw.kn, hw.an, hw.ab⟩
  obtain ⟨r, e⟩ := setKids_stable u.kids { h with root := mergeInto h.root u.root }
  exact ⟨r, e, alookup_setKids_read u.kids _ hw0 hn⟩

end Flax.Lift

namespace Flax.C05
open Flax.Filter Flax.Lift

/-- `now` can be what an execution leaves behind when it starts from the counter heap `h`: Python dicts (distinct
keys), and no stream or child dict disappears (counters are only created and incremented) -/
structure Extends (h : CHeap) (now : CVal) : Prop where
  rn : (keys now.root).Nodup
  kn : (keys now.kids).Nodup
  cn : ∀ k c, alookup k now.kids = some c → (keys c).Nodup
  root : ∀ s, (alookup s h.root).isSome = true → (alookup s now.root).isSome = true
  kids : ∀ k a, alookup k h.kids = some a → ∃ c, alookup k now.kids = some c ∧
    ∀ s, (alookup s (h.obj a)).isSome = true → (alookup s c).isSome = true

theorem Extends.of_check (h : CHeap) (now : CVal) (rn : (keys now.root).Nodup) (kn : (keys now.kids).Nodup)
    (cn : ∀ kc, kc ∈ now.kids → (keys kc.2).Nodup)
    (root : ∀ k, k ∈ keys h.root → (alookup k now.root).isSome = true)
    (kids : ∀ ka, ka ∈ h.kids →
      (match alookup ka.1 now.kids with
       | some c => (keys (h.obj ka.2)).all (fun k => (alookup k c).isSome)
       | none => false) = true) : Extends h now where
  rn := rn
  kn := kn
  cn := fun k c hc => cn (k, c) (mem_of_alookup hc)
  root := fun s hs => root s (alookup_isSome_iff.mp hs)
  kids := by
    intro k a hk
    have := kids (k, a) (mem_of_alookup hk)
    cases hc : alookup k now.kids with
    | none => simp [hc] at this
    | some c =>
      simp only [hc, List.all_eq_true] at this
      exact ⟨c, rfl, fun s hs => this s (alookup_isSome_iff.mp hs)⟩

end Flax.C05

namespace Flax.Lift

theorem restoreHeap_read (h : CHeap) (hw : h.WF) (now : CVal) (hx : C05.Extends h now) :
    (∀ s, alookup s (restoreHeap h (now.sub h.read)).root = alookup s now.root) ∧
    (∀ k a, alookup k h.kids = some a →
      alookup k (restoreHeap h (now.sub h.read)).kids = some a ∧
      ∀ s, alookup s ((restoreHeap h (now.sub h.read)).obj a) = alookup s (kidGet now k)) ∧
    (∀ k c, alookup k h.kids = none → alookup k now.kids = some c →
      ∃ a, alookup k (restoreHeap h (now.sub h.read)).kids = some a ∧ (restoreHeap h (now.sub h.read)).obj a = c) := by
  obtain ⟨r, e, hread⟩ := setFromDict_read hw hx.kn
  simp only [restoreHeap_sub]
  refine ⟨fun s => by rw [r]; exact alookup_mergeInto_over hx.rn hx.root s, ?_, ?_⟩
  · intro k a hk
    obtain ⟨c, hc, hext⟩ := hx.kids k a hk
    have h1 := e k a hk
    have h2 := hread k
    rw [alookup_read_kids, h1, hc, alookup_read_kids] at h2
    simp only [hk, Option.map_some, Option.some.injEq] at h2
    refine ⟨h1, fun s => ?_⟩
    rw [h2, kidGet, hc]
    exact alookup_mergeInto_over (hx.cn k c hc) hext s
  · intro k c hk hc
    have h2 := hread k
    rw [alookup_read_kids, hc, alookup_read_kids] at h2
    simp only [hk, Option.map_none] at h2
    exact Option.map_eq_some_iff.mp h2

end Flax.Lift
