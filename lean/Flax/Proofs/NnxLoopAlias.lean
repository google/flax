/- C08 proofs: `StateAxes.map_prefix`, `check_consistent_aliasing` (the pairs one leaf contributes: `leafPrefixes`) and
the flat state of the owned occurrences (`flatOf`) -/
import Flax.Proofs.NnxLoopBase
import Flax.Proofs.Filter

namespace Flax.NnxLoop
open Flax.Filter Flax.LiftLoop

theorem mapPrefix_eq (sa : StateAxes) (p : Path) (x : VarInfo) :
    mapPrefix sa p x =
      match sa[firstMatch (sa.map (·.1)) p x]? with
      | some fa => .ok fa.2
      | none => .error .noAxisFound := by
  induction sa with
  | nil => simp [mapPrefix, firstMatch]
  | cons fa rest ih =>
    obtain ⟨f, a⟩ := fa
    by_cases h : denote f p x = true
    · simp [mapPrefix, firstMatch, h]
    · simp [mapPrefix, firstMatch, h, ih]

theorem mapPrefix_ok_iff {sa : StateAxes} {p : Path} {x : VarInfo} {a : Ax} :
    mapPrefix sa p x = .ok a ↔ ∃ f, sa[firstMatch (sa.map (·.1)) p x]? = some (f, a) := by
  rw [mapPrefix_eq]
  cases sa[firstMatch (sa.map (·.1)) p x]? with
  | none => exact ⟨fun h => (nomatch h), fun ⟨_, h⟩ => (nomatch h)⟩
  | some fa => exact ⟨fun h => ⟨fa.1, by rw [← Except.ok.inj h]⟩, fun ⟨f, h⟩ => by rw [Option.some.inj h]⟩

theorem mapPrefix_ok_lt {sa : StateAxes} {p : Path} {x : VarInfo} {a : Ax} (h : mapPrefix sa p x = .ok a) :
    firstMatch (sa.map (·.1)) p x < sa.length ∧ (sa.map (·.2))[firstMatch (sa.map (·.1)) p x]? = some a := by
  obtain ⟨f, hs⟩ := mapPrefix_ok_iff.1 h
  exact ⟨(List.getElem?_eq_some_iff.1 hs).1, by rw [List.getElem?_map, hs]; rfl⟩

theorem mapPrefix_error {sa : StateAxes} {p : Path} {x : VarInfo} {e : Err} (h : mapPrefix sa p x = .error e) :
    e = .noAxisFound ∧ firstMatch (sa.map (·.1)) p x = sa.length := by
  rw [mapPrefix_eq] at h
  cases hs : sa[firstMatch (sa.map (·.1)) p x]? with
  | some fa => rw [hs] at h; cases h
  | none =>
    rw [hs] at h
    injection h with h
    have := List.getElem?_eq_none_iff.1 hs
    have h2 := Flax.Filter.firstMatch_le_length (sa.map (·.1)) p x
    simp at h2
    exact ⟨h.symm, by omega⟩

theorem consistent_iff (np : NodePrefixes) :
    consistent np = true ↔ ∀ x ∈ np, ∀ y ∈ np, x.1 = y.1 → x.2 = y.2 := by
  simp only [consistent, List.all_eq_true, Bool.or_eq_true, Bool.not_eq_true', decide_eq_false_iff_not,
    decide_eq_true_eq]
  constructor
  · intro h x hx y hy hxy
    rcases h x hx y hy with h1 | h1
    · exact absurd hxy h1
    · exact h1
  · intro h x hx y hy
    by_cases hxy : x.1 = y.1
    · exact Or.inr (h x hx y hy hxy)
    · exact Or.inl hxy

theorem consistent_of_append {a b : NodePrefixes} (h : consistent (a ++ b) = true) : consistent a = true := by
  rw [consistent_iff] at h ⊢
  intro x hx y hy
  exact h x (List.mem_append_left _ hx) y (List.mem_append_left _ hy)

def leafPrefixes (p : Prefix) (es : List Entry) : Except Err NodePrefixes :=
  mapX (fun e => match p.at e with
    | .ok a => .ok (e.id, a)
    | .error err => .error err) es

theorem collect_eq (p : Prefix) : ∀ (es : List Entry) (np : NodePrefixes),
    collect p es np = match leafPrefixes p es with
      | .ok l => .ok (np ++ l)
      | .error e => .error e := by
  intro es
  induction es with
  | nil => intro np; simp [collect, leafPrefixes, mapX]
  | cons e es ih =>
    intro np
    simp only [collect, leafPrefixes, mapX]
    cases hp : p.at e with
    | error err => rfl
    | ok a =>
      simp only [ih]
      simp only [leafPrefixes]
      cases mapX (fun e => match p.at e with
        | .ok a => Except.ok (e.id, a)
        | .error err => .error err) es with
      | error err => rfl
      | ok l => simp

theorem collect_ok {p : Prefix} {es : List Entry} {np np' : NodePrefixes} (h : collect p es np = .ok np') :
    ∃ l, leafPrefixes p es = .ok l ∧ np' = np ++ l := by
  rw [collect_eq] at h
  cases hl : leafPrefixes p es with
  | error e => rw [hl] at h; cases h
  | ok l => rw [hl] at h; injection h with h; exact ⟨l, rfl, h.symm⟩

theorem leafPrefixes_eq (p : Prefix) (es : List Entry) :
    leafPrefixes p es = mapX (fun e => (p.at e).map (fun a => (e.id, a))) es :=
  mapX_congr es fun e _ => by cases p.at e <;> rfl

theorem leafPrefixes_ok_at {p : Prefix} {es : List Entry} {l : NodePrefixes} (h : leafPrefixes p es = .ok l) :
    ∀ e ∈ es, ∃ a, p.at e = .ok a ∧ (e.id, a) ∈ l :=
  (mapX_map_ok (leafPrefixes_eq p es ▸ h)).1

theorem leafPrefixes_mem {p : Prefix} {es : List Entry} {l : NodePrefixes} (h : leafPrefixes p es = .ok l) :
    ∀ x ∈ l, ∃ e ∈ es, p.at e = .ok x.2 ∧ e.id = x.1 := by
  intro x hx
  obtain ⟨e, he, _, ha, rfl⟩ := (mapX_map_ok (leafPrefixes_eq p es ▸ h)).2.1 x hx
  exact ⟨e, he, ha, rfl⟩

theorem checkAliasing_ok {p : Prefix} {es : List Entry} {np np' : NodePrefixes}
    (h : checkAliasing p es np = .ok np') :
    ∃ l, leafPrefixes p es = .ok l ∧ np' = np ++ l ∧ consistent np' = true := by
  simp only [checkAliasing, collect_eq] at h
  cases hl : leafPrefixes p es with
  | error e => simp [hl] at h
  | ok l =>
    simp only [hl] at h
    by_cases hc : consistent (np ++ l) = true
    · simp only [hc, if_true] at h
      injection h with h
      exact ⟨l, rfl, h.symm, h ▸ hc⟩
    · simp [hc] at h

theorem flatOf_eq {α : Type} (owned : List Entry) (st : Store α) :
    flatOf owned st = mapX (fun e =>
      ((st.lookup e.id).elim (.error .bodyContract) Except.ok).map (fun v => (e.path, e.info, v))) owned :=
  mapX_congr owned fun e _ => by cases st.lookup e.id <;> rfl

theorem flatOf_ok_iff {α : Type} {owned : List Entry} {st : Store α} {flat : Flat α}
    (h : flatOf owned st = .ok flat) :
    flat.length = owned.length ∧
    ∀ i (h1 : i < owned.length) (h2 : i < flat.length),
      ∃ v, st.lookup owned[i].id = some v ∧ flat[i] = (owned[i].path, owned[i].info, v) :=
  let H := mapX_map_ok (flatOf_eq owned st ▸ h)
  ⟨H.2.2.1, fun i h1 h2 => let ⟨v, hv, e⟩ := H.2.2.2 i h1 h2; ⟨v, ofOption_ok.1 hv, e⟩⟩

theorem flatOf_ok_mem {α : Type} {owned : List Entry} {st : Store α} {flat : Flat α}
    (h : flatOf owned st = .ok flat) :
    (∀ e ∈ owned, ∃ v, st.lookup e.id = some v ∧ (e.path, e.info, v) ∈ flat) ∧
    (∀ x ∈ flat, ∃ e ∈ owned, st.lookup e.id = some x.2.2 ∧ x.1 = e.path ∧ x.2.1 = e.info) := by
  obtain ⟨h1, h2, _⟩ := mapX_map_ok (flatOf_eq owned st ▸ h)
  constructor
  · intro e he
    obtain ⟨v, hv, hm⟩ := h1 e he
    exact ⟨v, ofOption_ok.1 hv, hm⟩
  · intro x hx
    obtain ⟨e, he, v, hv, rfl⟩ := h2 x hx
    exact ⟨e, he, ofOption_ok.1 hv, rfl, rfl⟩

theorem flatOf_of_total {α : Type} [Inhabited α] (owned : List Entry) (st : Store α)
    (h : ∀ e ∈ owned, (st.lookup e.id).isSome) :
    flatOf owned st = .ok (owned.map (fun e => (e.path, e.info, (st.lookup e.id).getD default))) := by
  apply mapX_eq_map
  intro e he
  have := h e he
  cases hv : st.lookup e.id with
  | none => simp [hv] at this
  | some v => simp

theorem flatOf_infos {α : Type} {owned : List Entry} {st : Store α} {flat : Flat α}
    (h : flatOf owned st = .ok flat) : flat.map (fun x => (x.1, x.2.1)) = owned.map (fun e => (e.path, e.info)) := by
  obtain ⟨_, _, hl, hi⟩ := mapX_map_ok (flatOf_eq owned st ▸ h)
  refine List.ext_getElem (by simpa using hl) fun i h1 h2 => ?_
  obtain ⟨v, _, e⟩ := hi i (by simpa using h2) (by simpa using h1)
  simp [e]

theorem flatOf_paths {α : Type} {owned : List Entry} {st : Store α} {flat : Flat α}
    (h : flatOf owned st = .ok flat) : flat.map (·.1) = owned.map (·.path) := by
  have := congrArg (List.map (·.1)) (flatOf_infos h)
  simpa [List.map_map, Function.comp_def] using this

end Flax.NnxLoop
