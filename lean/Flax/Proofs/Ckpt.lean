/-
The checkpoint directory model (C11): what `_remove_invalid_ckpts` leaves is the retention policy; the effect of a
save's steps on the final names; the shape of every crash state of a save (`crashed_spec`, for Orbax under
`InPlaceFree`); at the end, under their `Flax.C11` names, the invariant between saves (`Inv`) and `Reachable`.
-/
import Flax.Proofs.CkptFiles

namespace Flax.Ckpt

theorem greedyKeep_sublist (n : Int) (last : Option Int) (xs : List Int) :
    (greedyKeep n last xs).Sublist xs := by
  fun_induction greedyKeep n last xs with
  | case1 => exact List.Sublist.refl _
  | case2 last a r _ ih => exact List.Sublist.cons_cons _ ih
  | case3 last a r _ ih => exact List.Sublist.cons _ ih

theorem greedy_perm (n : Int) (last : Option Int) (xs : List Int) :
    (greedyKeep n last xs ++ greedyRemove n last xs).Perm xs := by
  fun_induction greedyKeep n last xs with
  | case1 => exact .refl _
  | case2 last a r hc ih => rw [greedyRemove, if_pos hc]; exact ih.cons a
  | case3 last a r hc ih => rw [greedyRemove, if_neg hc]; exact List.perm_middle.trans (ih.cons a)

theorem greedyRemove_subset (n : Int) (last : Option Int) (xs : List Int) :
    ∀ x ∈ greedyRemove n last xs, x ∈ xs :=
  fun _ hx => (greedy_perm n last xs).subset (List.mem_append_right _ hx)

theorem newerOf_of_mem {ovw : Bool} {s : Int} {l : List Int} (hs : s ∈ l) :
    newerOf ovw s l = if ovw then l.filter (fun x => decide (s < x)) else [] := by
  unfold newerOf
  rw [List.contains_iff_mem.mpr hs, Bool.and_true]

theorem uptoOf_of_mem {ovw : Bool} {s : Int} {l : List Int} (hs : s ∈ l) :
    uptoOf ovw s l = if ovw then l.filter (fun x => decide (x ≤ s)) else l := by
  unfold uptoOf
  rw [List.contains_iff_mem.mpr hs, Bool.and_true]

theorem uptoOf_sublist (ovw : Bool) (s : Int) (l : List Int) : (uptoOf ovw s l).Sublist l := by
  unfold uptoOf
  split
  · exact List.filter_sublist
  · exact List.Sublist.refl _

theorem uptoOf_asc {ovw : Bool} {s : Int} {l : List Int} (h : Asc l) : Asc (uptoOf ovw s l) :=
  List.Pairwise.sublist (uptoOf_sublist ovw s l) h

theorem uptoOf_subset {ovw : Bool} {s : Int} {l : List Int} : ∀ x ∈ uptoOf ovw s l, x ∈ l :=
  fun _ hx => (uptoOf_sublist ovw s l).subset hx

theorem upto_newer_perm (ovw : Bool) (s : Int) (l : List Int) : (uptoOf ovw s l ++ newerOf ovw s l).Perm l := by
  unfold uptoOf newerOf
  split
  · have h : (fun x => decide (s < x)) = fun x => !decide (x ≤ s) := funext fun x => by
      rw [← decide_not]; exact decide_eq_decide.mpr Int.not_le.symm
    rw [h]; exact List.filter_append_perm _ l
  · rw [List.append_nil]

theorem oldOf_eq (keep : Nat) (U : List Int) :
    oldOf keep U = if keep = 0 then [] else U.take (U.length - keep) := by
  unfold oldOf
  by_cases h1 : keep < U.length
  · rw [if_pos h1]
  · rw [if_neg h1, Nat.sub_eq_zero_of_le (Nat.le_of_not_lt h1), List.take_zero, ite_self]

theorem mem_oldOf {keep : Nat} {U : List Int} {x : Int} :
    x ∈ oldOf keep U ↔ keep ≠ 0 ∧ keep < U.length ∧ x ∈ U.take (U.length - keep) := by
  rw [oldOf_eq]
  split
  · next h => exact ⟨nofun, fun hx => absurd h hx.1⟩
  · next h =>
    exact ⟨fun hx => ⟨h, Nat.lt_of_sub_pos (Nat.pos_of_ne_zero fun h0 => by rw [h0] at hx; cases hx), hx⟩,
      fun hx => hx.2.2⟩

theorem old_not_top {l : List Int} (hl : Asc l) {s : Int} (hs : s ∈ l) (keep : Nat) (n : Int) (ovw : Bool) :
    ∀ x ∈ greedyRemove n none (oldOf keep (uptoOf ovw s l)),
      (∃ y ∈ l, x < y) ∧ (ovw = true → x < s) := by
  intro x hx
  have hx' := greedyRemove_subset _ _ _ x hx
  -- `x` is among the first `length - keep` candidates, and `keep ≥ 1` candidates follow them
  obtain ⟨hk, hlen, hx'⟩ := mem_oldOf.mp hx'
  obtain ⟨y, hy⟩ := List.exists_mem_of_ne_nil _
    (fun h => Nat.lt_irrefl _ (Nat.lt_of_le_of_lt (List.drop_eq_nil_iff.mp h)
        (Nat.sub_lt (Nat.zero_lt_of_lt hlen) (Nat.pos_of_ne_zero hk))) :
      (uptoOf ovw s l).drop ((uptoOf ovw s l).length - keep) ≠ [])
  have hxy := asc_take_lt_drop (uptoOf_asc hl) _ hx' hy
  have hy := List.mem_of_mem_drop hy
  refine ⟨⟨y, uptoOf_subset y hy, hxy⟩, fun ho => ?_⟩
  rw [uptoOf_of_mem hs, ho, if_pos rfl] at hy
  exact Int.lt_of_lt_of_le hxy (of_decide_eq_true (List.mem_filter.mp hy).2)

theorem top_not_removed {l : List Int} (hl : Asc l) {s : Int} (hs : s ∈ l) (htop : ∀ x ∈ l, x ≤ s)
    (keep : Nat) (n : Int) (ovw : Bool) : s ∉ removals keep n ovw s l := by
  intro h
  rcases List.mem_append.mp h with h | h
  · have := newerOf_of_mem (ovw := ovw) hs ▸ h
    split at this
    · exact absurd (of_decide_eq_true (List.mem_filter.mp this).2) (Int.lt_irrefl s)
    · cases this
  · obtain ⟨⟨y, hy, hlt⟩, _⟩ := old_not_top hl hs keep n ovw s h
    exact Int.lt_irrefl _ (Int.lt_of_lt_of_le hlt (htop y hy))

/-- what stays of the candidates `U` (already cut at `s` when `overwrite`) -/
def keptOf (keep : Nat) (n : Int) (U : List Int) : List Int :=
  if keep = 0 then U
  else greedyKeep n none (U.take (U.length - keep)) ++ U.drop (U.length - keep)

theorem keptOf_sublist (keep : Nat) (n : Int) (U : List Int) : (keptOf keep n U).Sublist U := by
  unfold keptOf
  split
  · exact List.Sublist.refl _
  · have h := List.Sublist.append (greedyKeep_sublist n none (U.take (U.length - keep)))
      (List.Sublist.refl (U.drop (U.length - keep)))
    rwa [List.take_append_drop] at h

theorem keptOf_perm (keep : Nat) (n : Int) (U : List Int) :
    (keptOf keep n U ++ greedyRemove n none (oldOf keep U)).Perm U := by
  rw [keptOf, oldOf_eq]
  split
  · rw [greedyRemove, List.append_nil]
  · rw [List.append_assoc]
    refine (List.Perm.append_left _ List.perm_append_comm).trans ?_
    rw [← List.append_assoc]
    exact ((greedy_perm n none _).append_right _).trans (.of_eq (List.take_append_drop _ U))

theorem mem_keptOf {U : List Int} (hU : Asc U) (keep : Nat) (n : Int) (x : Int) :
    x ∈ keptOf keep n U ↔ (x ∈ U ∧ x ∉ greedyRemove n none (oldOf keep U)) :=
  Lists.mem_left_iff_of_perm_append (keptOf_perm keep n U) (asc_nodup hU)

theorem policy_eq_keptOf (keep : Nat) (n : Int) (ovw : Bool) (s : Int) (before : List Int) :
    policy keep n ovw s before = keptOf keep n (uptoOf ovw s (insertStep s before)) := by
  unfold policy keptOf
  rw [uptoOf_of_mem (self_mem_insertStep s before)]

/-- what the policy promises and what `_remove_invalid_ckpts` removes, together, are the candidates -/
theorem policy_perm (keep : Nat) (n : Int) (ovw : Bool) (s : Int) (before : List Int) :
    (policy keep n ovw s before ++ removals keep n ovw s (insertStep s before)).Perm (insertStep s before) := by
  rw [policy_eq_keptOf, removals]
  exact ((List.perm_append_comm.append_left _).trans
    (List.append_assoc .. ▸ (keptOf_perm keep n _).append_right _)).trans (upto_newer_perm ovw s _)

theorem filter_removals_eq_policy {before : List Int} (hb : Asc before) (keep : Nat) (n : Int) (ovw : Bool)
    (s : Int) :
    (insertStep s before).filter (fun x => decide (x ∉ removals keep n ovw s (insertStep s before))) =
      policy keep n ovw s before := by
  have hl : Asc (insertStep s before) := asc_insertStep s hb
  refine asc_ext (List.Pairwise.filter _ hl) ?_ fun x => ?_
  · rw [policy_eq_keptOf]; exact List.Pairwise.sublist (keptOf_sublist _ _ _) (uptoOf_asc hl)
  · rw [List.mem_filter, decide_eq_true_eq]
    exact (Lists.mem_left_iff_of_perm_append (policy_perm keep n ovw s before) (asc_nodup hl)).symm

theorem greedyKeep_map (f : Int → Int) {n n' : Int}
    (hk : ∀ last x, keepCond n' (Option.map f last) (f x) = keepCond n last x) (last : Option Int) (xs : List Int) :
    greedyKeep n' (last.map f) (xs.map f) = (greedyKeep n last xs).map f := by
  fun_induction greedyKeep n last xs with
  | case1 => rfl
  | case2 last a r hc ih => rw [List.map_cons, greedyKeep, hk, if_pos hc, List.map_cons]; exact congrArg _ ih
  | case3 last a r hc ih => rw [List.map_cons, greedyKeep, hk, if_neg hc]; exact ih

theorem insertStep_map (f : Int → Int) (hf : ∀ a b, a < b → f a < f b) (s : Int) (l : List Int) :
    insertStep (f s) (l.map f) = (insertStep s l).map f := by
  fun_induction insertStep s l with
  | case1 => rfl
  | case2 a r h1 => rw [List.map_cons, insertStep, if_pos (hf _ _ h1)]; rfl
  | case3 r h1 => rw [List.map_cons, insertStep, if_neg (Int.lt_irrefl _), if_pos rfl]
  | case4 a r h1 h2 ih =>
    have h := hf a s (Int.lt_iff_le_and_ne.mpr ⟨Int.not_lt.mp h1, fun e => h2 e.symm⟩)
    rw [List.map_cons, insertStep, if_neg (Int.lt_asymm h), if_neg (Int.ne_of_gt h), ih]; rfl

theorem keptOf_map (f : Int → Int) {n n' : Int}
    (hk : ∀ last x, keepCond n' (Option.map f last) (f x) = keepCond n last x) (keep : Nat) (U : List Int) :
    keptOf keep n' (U.map f) = (keptOf keep n U).map f := by
  unfold keptOf
  split
  · rfl
  · rw [List.length_map, ← List.map_take, ← List.map_drop, List.map_append, ← greedyKeep_map f hk none]; rfl

theorem policy_map (f : Int → Int) (hf : ∀ a b, a < b → f a < f b) {n n' : Int}
    (hk : ∀ last x, keepCond n' (Option.map f last) (f x) = keepCond n last x)
    (keep : Nat) (ovw : Bool) (s : Int) (before : List Int) :
    policy keep n' ovw (f s) (before.map f) = (policy keep n ovw s before).map f := by
  have hs := self_mem_insertStep s before
  have hle : ∀ x, f x ≤ f s ↔ x ≤ s := fun x =>
    ⟨fun h => Int.not_lt.mp (fun hlt => Int.lt_irrefl _ (Int.lt_of_lt_of_le (hf s x hlt) h)),
     fun h => (Int.lt_or_eq_of_le h).elim (fun hlt => Int.le_of_lt (hf x s hlt)) (fun e => e ▸ Int.le_refl _)⟩
  rw [policy_eq_keptOf, policy_eq_keptOf, insertStep_map f hf, uptoOf_of_mem (List.mem_map_of_mem hs),
    uptoOf_of_mem hs, ← keptOf_map f hk]
  cases ovw with
  | false => rfl
  | true =>
    rw [if_pos rfl, if_pos rfl, List.filter_map]
    congr 2
    exact List.filter_congr (fun x _ => decide_eq_decide.mpr (hle x))

theorem run_nil (d : Dir) : run [] d = d := rfl
theorem run_cons (a : FsStep) (r : List FsStep) (d : Dir) : run (a :: r) d = run r (apply a d) := rfl
theorem run_append (a b : List FsStep) (d : Dir) : run (a ++ b) d = run b (run a d) := List.foldl_append

theorem apply_remove_ckpt (d : Dir) (x : Int) :
    apply (.remove (.ckpt x)) d = { d with ckpts := d.ckpts.del x } := rfl

theorem apply_damage_ckpt (d : Dir) (x : Int) :
    apply (.damage (.ckpt x)) d = { d with ckpts := d.ckpts.damage x } := by
  simp only [apply, Dir.get, Dir.put, Files.damage]
  by_cases h : (Files.get x d.ckpts).isSome = true <;> simp [h]

theorem run_rmSteps (b : Backend) (x : Int) (d : Dir) :
    run (rmSteps b x) d = { d with ckpts := d.ckpts.del x } := by
  cases b with
  | legacy => rfl
  | orbax => simp only [rmSteps, run_cons, run_nil, apply_damage_ckpt, apply_remove_ckpt, Files.del_damage]

theorem run_cleanup_all (b : Backend) (L : List Int) (d : Dir) :
    run (L.flatMap (rmSteps b)) d = { d with ckpts := Files.delAll L d.ckpts } := by
  induction L generalizing d with
  | nil => rfl
  | cons x r ih => rw [List.flatMap_cons, run_append, run_rmSteps, ih, delAll_cons]

theorem run_cleanup_prefix (b : Backend) (L : List Int) (d : Dir) (k : Nat) :
    ∃ j, run ((L.flatMap (rmSteps b)).take k) d = { d with ckpts := Files.delAll (L.take j) d.ckpts } ∨
      (b = .orbax ∧ ∃ x, L[j]? = some x ∧
        run ((L.flatMap (rmSteps b)).take k) d =
          { d with ckpts := (Files.delAll (L.take j) d.ckpts).damage x }) := by
  induction L generalizing d k with
  | nil => exact ⟨0, Or.inl (by simp [run_nil, delAll_nil])⟩
  | cons x r ih =>
    -- either the crash falls inside the steps for `x`, or these are done and the rest is a prefix for `r`
    by_cases hk : (rmSteps b x).length ≤ k
    · obtain ⟨j, hj⟩ := ih (run (rmSteps b x) d) (k - (rmSteps b x).length)
      refine ⟨j + 1, ?_⟩
      rw [List.flatMap_cons, List.take_append, List.take_of_length_le hk, run_append]
      simpa only [run_rmSteps, List.take_succ_cons, delAll_cons, List.getElem?_cons_succ] using hj
    · cases b with
      | legacy =>
        have : k = 0 := Nat.lt_one_iff.mp (Nat.lt_of_not_le hk)
        subst this
        exact ⟨0, Or.inl rfl⟩
      | orbax =>
        have : k = 0 ∨ k = 1 := Nat.le_one_iff_eq_zero_or_eq_one.mp (Nat.le_of_lt_succ (Nat.lt_of_not_le hk))
        rcases this with rfl | rfl
        · exact ⟨0, Or.inl rfl⟩
        · exact ⟨0, Or.inr ⟨rfl, x, rfl, by
            simp only [List.flatMap_cons, rmSteps, List.cons_append, List.take_succ_cons, List.take_zero,
              run_cons, run_nil, apply_damage_ckpt, List.take_zero, delAll_nil]⟩⟩

/-- the names a save writes before it commits -/
def Name.isTemp : Name → Bool
  | .ckpt _ => false
  | _ => true

/-- steps that cannot change a final-named checkpoint -/
def FsStep.offCkpt : FsStep → Bool
  | .mkdir => true
  | .rename _ _ => false
  | .create n | .writeAll n _ | .remove n | .damage n => n.isTemp

theorem Dir.ckpts_put {n : Name} (h : n.isTemp = true) (d : Dir) (c : Content) : (d.put n c).ckpts = d.ckpts := by
  cases n <;> first | rfl | cases h

theorem Dir.ckpts_del {n : Name} (h : n.isTemp = true) (d : Dir) : (d.del n).ckpts = d.ckpts := by
  cases n <;> first | rfl | cases h

theorem apply_offCkpt {st : FsStep} (h : st.offCkpt = true) (d : Dir) : (apply st d).ckpts = d.ckpts := by
  cases st with
  | mkdir => rfl
  | rename a b => cases h
  | create n => exact Dir.ckpts_put h d _
  | remove n => exact Dir.ckpts_del h d
  | writeAll n p =>
    show (if (d.get n).isSome then d.put n (.complete p) else d).ckpts = d.ckpts
    split
    · exact Dir.ckpts_put h d _
    · rfl
  | damage n =>
    show (if (d.get n).isSome then d.put n .torn else d).ckpts = d.ckpts
    split
    · exact Dir.ckpts_put h d _
    · rfl

theorem run_offCkpt {sts : List FsStep} (h : ∀ x ∈ sts, x.offCkpt = true) (d : Dir) :
    (run sts d).ckpts = d.ckpts := by
  induction sts generalizing d with
  | nil => rfl
  | cons a r ih =>
    rw [run_cons, ih (fun x hx => h x (List.mem_cons_of_mem _ hx)), apply_offCkpt (h a List.mem_cons_self)]

theorem tmpName_isTemp (cfg : Cfg) : (tmpName cfg).isTemp = true := by
  unfold tmpName; split <;> rfl

theorem Dir.get_put_self (d : Dir) (n : Name) (c : Content) : (d.put n c).get n = some c := by
  cases n with
  | tmp => rfl
  | ckpt x => exact Files.get_put_self _ x c
  | otmp x => exact Files.get_put_self _ x c

theorem write_commit_ckpts {t : Name} (ht : t.isTemp = true) (s : Int) (p : Nat) (d : Dir) :
    (run [.create t, .writeAll t p, .rename t (.ckpt s)] d).ckpts = d.ckpts.put s (.complete p) := by
  simp only [run, List.foldl_cons, List.foldl_nil, apply, Dir.get_put_self, Option.isSome_some, if_true]
  show Files.put s _ (Dir.del _ t).ckpts = _
  rw [Dir.ckpts_del ht, Dir.ckpts_put ht, Dir.ckpts_put ht]

/-- nothing at or above the saved step has to be deleted in place -/
def InPlaceFree (cfg : Cfg) (d : Dir) : Prop :=
  ¬ (cfg.overwrite = true ∧ ∃ x ∈ listing d, cfg.step ≤ x)

/-- `A`: the in-place deletion of the destination (Orbax with `overwrite`, destination present); `B`: the steps
before the write, which leave the final names alone -/
theorem prepare_split (cfg : Cfg) (d : Dir) :
    ∃ A B, prepare cfg d = A ++ (B ++ [.create (tmpName cfg), .writeAll (tmpName cfg) cfg.payload]) ∧
      (∀ x ∈ B, x.offCkpt = true) ∧
      (A = [] ∨ (A = rmSteps .orbax cfg.step ∧ cfg.backend = .orbax ∧ ¬ InPlaceFree cfg d)) := by
  unfold prepare tmpName
  cases cfg.backend with
  | legacy => exact ⟨[], [.mkdir], rfl, fun x hx => List.mem_singleton.mp hx ▸ rfl, Or.inl rfl⟩
  | orbax =>
    refine ⟨_, _, List.append_assoc _ _ _, ?_, ?_⟩
    · intro x hx
      split at hx
      · simp only [List.mem_cons, List.not_mem_nil, or_false] at hx
        rcases hx with rfl | rfl <;> rfl
      · cases hx
    · split
      · rename_i h
        rw [Bool.and_eq_true] at h
        exact Or.inr ⟨rfl, rfl, fun hf => hf ⟨h.1, cfg.step, (Files.get_isSome_iff _ _).mp h.2, Int.le_refl _⟩⟩
      · exact Or.inl rfl

theorem prepare_offCkpt {cfg : Cfg} {d : Dir} (h : cfg.backend = .orbax → InPlaceFree cfg d) :
    ∀ x ∈ prepare cfg d, x.offCkpt = true := by
  obtain ⟨A, B, hp, hB, hA⟩ := prepare_split cfg d
  have hA : A = [] := hA.resolve_right (fun hA => hA.2.2 (h hA.2.1))
  rw [hp, hA]
  intro x hx
  rcases List.mem_append.mp hx with hx | hx
  · cases hx
  · rcases List.mem_append.mp hx with hx | hx
    · exact hB x hx
    · simp only [List.mem_cons, List.not_mem_nil, or_false] at hx
      rcases hx with rfl | rfl <;> exact tmpName_isTemp cfg

theorem run_commit_ckpts {cfg : Cfg} {d : Dir} (hS : d.ckpts.Sorted) :
    (run (prepare cfg d ++ [commit cfg]) d).ckpts = d.ckpts.put cfg.step (.complete cfg.payload) := by
  obtain ⟨A, B, hp, hB, hA⟩ := prepare_split cfg d
  have : prepare cfg d ++ [commit cfg] = A ++ (B ++
      [.create (tmpName cfg), .writeAll (tmpName cfg) cfg.payload, .rename (tmpName cfg) (.ckpt cfg.step)]) := by
    rw [hp]; simp [commit]
  rw [this, run_append, run_append, write_commit_ckpts (tmpName_isTemp cfg), run_offCkpt hB]
  rcases hA with rfl | ⟨rfl, _⟩
  · rfl
  · rw [run_rmSteps]; exact Files.put_del_self hS _ _

theorem listing_after_commit {cfg : Cfg} {d : Dir} (hS : d.ckpts.Sorted) :
    listing (run (prepare cfg d ++ [commit cfg]) d) =
      (d.ckpts.put cfg.step (.complete cfg.payload)).steps := by
  rw [listing, run_commit_ckpts hS]

theorem check_overwrite {cfg : Cfg} (d : Dir) (ho : cfg.overwrite = true) : check cfg d = .ok () := by
  unfold check
  cases cfg.backend <;> simp [ho]

theorem check_legacy {cfg : Cfg} (d : Dir) (hb : cfg.backend = .legacy) (ho : cfg.overwrite = false) :
    check cfg d = if ∃ x ∈ listing d, cfg.step ≤ x then .error .invalidCheckpoint else .ok () := by
  simp only [check, hb, ho, listing, List.any_eq_true, decide_eq_true_eq, Bool.false_eq_true, if_false]
  congr

theorem check_orbax {cfg : Cfg} (d : Dir) (hb : cfg.backend = .orbax) (ho : cfg.overwrite = false) :
    check cfg d = if cfg.step ∈ listing d then .error .destinationExists else .ok () := by
  simp [check, hb, ho, listing, ← Files.get_isSome_iff]

theorem check_of_top {cfg : Cfg} {d : Dir} (htop : ∀ x ∈ listing d, x < cfg.step) : check cfg d = .ok () := by
  cases ho : cfg.overwrite with
  | true => exact check_overwrite d ho
  | false =>
    cases hb : cfg.backend with
    | legacy =>
      rw [check_legacy d hb ho, if_neg (fun ⟨x, hx, hle⟩ => Int.lt_irrefl _ (Int.lt_of_lt_of_le (htop x hx) hle))]
    | orbax => rw [check_orbax d hb ho, if_neg (fun hx => Int.lt_irrefl _ (htop _ hx))]

theorem saveSteps_ok {cfg : Cfg} {d : Dir} (hc : check cfg d = .ok ()) :
    saveSteps cfg d = .ok ((prepare cfg d ++ [commit cfg]) ++
      cleanup cfg (run (prepare cfg d ++ [commit cfg]) d)) := by
  simp [saveSteps, hc]

theorem saveSteps_err {cfg : Cfg} {d : Dir} {e : Err} (hc : check cfg d = .error e) :
    saveSteps cfg d = .error e := by
  simp [saveSteps, hc]

theorem save_eq (cfg : Cfg) (d : Dir) :
    save cfg d = match check cfg d with
      | .error e => .error e
      | .ok () => .ok (run ((prepare cfg d ++ [commit cfg]) ++
          cleanup cfg (run (prepare cfg d ++ [commit cfg]) d)) d) := by
  cases hc : check cfg d with
  | error e => simp [save, saveSteps_err hc]
  | ok u => cases u; simp [save, saveSteps_ok hc]

theorem save_error_iff {cfg : Cfg} {d : Dir} {e : Err} : save cfg d = .error e ↔ check cfg d = .error e := by
  rw [save_eq]
  cases check cfg d <;> simp

theorem save_ok_of_check {cfg : Cfg} {d : Dir} (hc : check cfg d = .ok ()) : ∃ d', save cfg d = .ok d' :=
  ⟨_, by rw [save_eq, hc]⟩

theorem save_ok_ckpts {cfg : Cfg} {d d' : Dir} (hS : d.ckpts.Sorted) (h : save cfg d = .ok d') :
    d'.ckpts = Files.delAll (removals cfg.keep cfg.everyN cfg.overwrite cfg.step
      (d.ckpts.put cfg.step (.complete cfg.payload)).steps) (d.ckpts.put cfg.step (.complete cfg.payload)) := by
  unfold save at h
  cases hc : check cfg d with
  | error e => rw [saveSteps_err hc] at h; cases h
  | ok u =>
    cases u
    rw [saveSteps_ok hc] at h
    cases h
    rw [run_append, cleanup, listing_after_commit hS, run_cleanup_all, run_commit_ckpts hS]

theorem save_ok_mem {cfg : Cfg} {d d' : Dir} (hS : d.ckpts.Sorted) (h : save cfg d = .ok d') :
    ∀ e ∈ d'.ckpts, e = (cfg.step, .complete cfg.payload) ∨ (e ∈ d.ckpts ∧ e.1 ≠ cfg.step) := fun e he =>
  (Files.mem_put_of_sorted hS e).mp (Files.mem_delAll.mp (save_ok_ckpts hS h ▸ he)).1

theorem restoreStep_of_mem {d : Dir} (hS : d.ckpts.Sorted) {s : Int} {c : Content} (h : (s, c) ∈ d.ckpts) :
    restoreStep d s = match (generalizing := false) c with
      | .complete p => .ok p
      | .torn => .error .corrupt := by
  rw [restoreStep, (Files.get_eq_some_iff hS s c).mpr h]
  cases c <;> rfl

theorem crashed_err {cfg : Cfg} {d : Dir} {e : Err} (hc : check cfg d = .error e) (k : Nat) : crashed cfg d k = d := by
  rw [crashed, saveSteps_err hc]

theorem crashed_ok {cfg : Cfg} {d : Dir} (hc : check cfg d = .ok ()) (k : Nat) :
    crashed cfg d k = run (((prepare cfg d ++ [commit cfg]) ++
      cleanup cfg (run (prepare cfg d ++ [commit cfg]) d)).take k) d := by
  rw [crashed, saveSteps_ok hc]

theorem crashed_before_commit {cfg : Cfg} {d : Dir} (hc : check cfg d = .ok ())
    (hf : cfg.backend = .orbax → InPlaceFree cfg d) {k : Nat} (hk : k ≤ (prepare cfg d).length) :
    (crashed cfg d k).ckpts = d.ckpts := by
  rw [crashed_ok hc, List.take_append_of_le_length (by rw [List.length_append]; exact Nat.le_add_right_of_le hk),
    List.take_append_of_le_length hk]
  exact run_offCkpt (fun x hx => prepare_offCkpt hf x (List.mem_of_mem_take hx)) d

theorem crashed_shape {cfg : Cfg} {d : Dir} (hS : d.ckpts.Sorted) (hc : check cfg d = .ok ())
    (hf : cfg.backend = .orbax → InPlaceFree cfg d) (k : Nat) {F : Files} {R : List Int}
    (hF : F = d.ckpts.put cfg.step (.complete cfg.payload))
    (hR : R = removals cfg.keep cfg.everyN cfg.overwrite cfg.step F.steps) :
    (crashed cfg d k).ckpts = d.ckpts ∨
    ((prepare cfg d).length < k ∧ ∃ j, (crashed cfg d k).ckpts = Files.delAll (R.take j) F ∨
      (cfg.backend = .orbax ∧ ∃ x, R[j]? = some x ∧
        (crashed cfg d k).ckpts = (Files.delAll (R.take j) F).damage x)) := by
  by_cases hk : k ≤ (prepare cfg d).length
  · exact Or.inl (crashed_before_commit hc hf hk)
  · refine Or.inr ⟨Nat.lt_of_not_le hk, ?_⟩
    have hlen : (prepare cfg d ++ [commit cfg]).length ≤ k := by
      rw [List.length_append]
      exact Nat.lt_of_not_le hk
    rw [crashed_ok hc, List.take_append, List.take_of_length_le hlen, run_append, cleanup, listing_after_commit hS,
      ← hF, ← hR]
    obtain ⟨j, hj⟩ := run_cleanup_prefix cfg.backend R (run (prepare cfg d ++ [commit cfg]) d)
      (k - (prepare cfg d ++ [commit cfg]).length)
    refine ⟨j, ?_⟩
    rcases hj with h | ⟨hb, x, hx, h⟩
    · exact Or.inl (by rw [h, run_commit_ckpts hS, hF])
    · exact Or.inr ⟨hb, x, hx, by rw [h, run_commit_ckpts hS, hF]⟩

section partial_cleanup

variable {F : Files} (hS : F.Sorted) {s : Int}
include hS

theorem removals_lt_top (hs : s ∈ F.steps) (keep : Nat) (n : Int) (ovw : Bool) (hN : newerOf ovw s F.steps = [])
    {M : Int × Content} (hM : F.getLast? = some M) : ∀ x ∈ removals keep n ovw s F.steps, x < M.1 := by
  intro x hx
  unfold removals at hx
  rw [hN, List.nil_append] at hx
  obtain ⟨⟨y, hy, hlt⟩, _⟩ := old_not_top ((Files.sorted_iff_steps F).mp hS) hs keep n ovw x hx
  obtain ⟨e, he, rfl⟩ := Files.mem_steps.mp hy
  exact Int.lt_of_lt_of_le hlt (Files.getLast_max hS hM e he)

theorem partial_cleanup_top (hs : s ∈ F.steps) (keep : Nat) (n : Int) (ovw : Bool)
    (hN : newerOf ovw s F.steps = []) (j : Nat) :
    (Files.delAll ((removals keep n ovw s F.steps).take j) F).getLast? = F.getLast? := by
  cases hM : F.getLast? with
  | none => rw [List.getLast?_eq_none_iff.mp hM]; rw [Files.delAll_eq_filter]; rfl
  | some M =>
    exact Files.getLast_delAll hM fun h =>
      Int.lt_irrefl _ (removals_lt_top hS hs keep n ovw hN hM _ (List.mem_of_mem_take h))

/-- Newer names are removed first and in ascending order, so the latest of them goes last; once they are gone
nothing above `s` is left, and `s` itself is never removed. -/
theorem partial_cleanup_latest {c : Content} (hc : (s, c) ∈ F) (keep : Nat) (n : Int) (ovw : Bool) (j : Nat) :
    (Files.delAll ((removals keep n ovw s F.steps).take j) F).getLast? = F.getLast? ∨
    (Files.delAll ((removals keep n ovw s F.steps).take j) F).getLast? = some (s, c) := by
  have hl : Asc F.steps := (Files.sorted_iff_steps F).mp hS
  have hs : s ∈ F.steps := Files.fst_mem_steps hc
  cases ovw with
  | false => exact Or.inl (partial_cleanup_top hS hs keep n false rfl j)
  | true =>
    have hold := old_not_top hl hs keep n true
    rw [removals, newerOf_of_mem hs, if_pos rfl]
    by_cases hj : j < (F.steps.filter (fun x => decide (s < x))).length
    · left
      rw [List.take_append_of_le_length (Nat.le_of_lt hj)]
      obtain ⟨M, hM⟩ := Lists.exists_getLast_of_mem hc
      rw [hM]
      -- a newer name not yet removed lies above all removed ones, and is at most the latest
      obtain ⟨y, hy⟩ := List.exists_mem_of_ne_nil ((F.steps.filter (fun x => decide (s < x))).drop j)
        (fun h => Nat.lt_irrefl _ (Nat.lt_of_lt_of_le hj (List.drop_eq_nil_iff.mp h)))
      obtain ⟨e, he, rfl⟩ := Files.mem_steps.mp (List.mem_filter.mp (List.mem_of_mem_drop hy)).1
      exact Files.getLast_delAll hM fun h => Int.lt_irrefl _ (Int.lt_of_lt_of_le
        (asc_take_lt_drop (List.Pairwise.filter _ hl) j h hy) (Files.getLast_max hS hM e he))
    · right
      rw [List.take_append, List.take_of_length_le (Nat.le_of_not_lt hj)]
      apply Files.getLast_of_max (Files.sorted_delAll _ hS)
      · refine Files.mem_delAll.mpr ⟨hc, fun h => ?_⟩
        rcases List.mem_append.mp h with h | h
        · exact Int.lt_irrefl s (of_decide_eq_true (List.mem_filter.mp h).2)
        · exact Int.lt_irrefl s ((hold s (List.mem_of_mem_take h)).2 rfl)
      · intro x hx
        obtain ⟨hx1, hx2⟩ := Files.mem_delAll.mp hx
        have : ¬ s < x.1 := fun h => hx2 (List.mem_append.mpr (Or.inl
          (List.mem_filter.mpr ⟨Files.fst_mem_steps hx1, decide_eq_true h⟩)))
        exact Int.not_lt.mp this

end partial_cleanup

theorem newerOf_nil_of_free {cfg : Cfg} {d : Dir} (hf : InPlaceFree cfg d) (c : Content) :
    newerOf cfg.overwrite cfg.step (d.ckpts.put cfg.step c).steps = [] := by
  rw [newerOf_of_mem (Files.mem_steps_put _ _ _)]
  split
  · rename_i ho
    refine List.filter_eq_nil_iff.mpr (fun x hx hlt => ?_)
    rw [Files.steps_put] at hx
    rcases (mem_insertStep _ _ _).mp hx with e | e
    · exact Int.lt_irrefl _ (e ▸ of_decide_eq_true hlt)
    · exact hf ⟨ho, x, e, Int.le_of_lt (of_decide_eq_true hlt)⟩
  · rfl

theorem put_top_not_removed {F : Files} (hS : F.Sorted) {s : Int} (c : Content) (htop : ∀ x ∈ F, x.1 < s)
    (keep : Nat) (n : Int) (ovw : Bool) : s ∉ removals keep n ovw s (F.put s c).steps :=
  top_not_removed ((Files.sorted_iff_steps _).mp (Files.sorted_put s c hS)) (Files.mem_steps_put F s c)
    (fun x hx => by
      obtain ⟨e, he, rfl⟩ := Files.mem_steps.mp hx
      rcases (Files.mem_put_of_sorted hS e).mp he with e1 | ⟨e1, _⟩
      · rw [e1]; exact Int.le_refl _
      · exact Int.le_of_lt (htop e e1)) keep n ovw

/-- Every crash state of a save.  Left: the check raised, or the crash came before the commit.  Right: `Sorted` is
natural_sort order; the bound on `k` and the entries serve `retry_after_crash_orbax`, the fourth conjunct
`retry_after_crash_legacy`; the last disjunct is an Orbax directory whose `rmtree` was interrupted. -/
theorem crashed_spec {cfg : Cfg} {d : Dir} (hS : d.ckpts.Sorted)
    (hf : cfg.backend = .orbax → InPlaceFree cfg d) (k : Nat) :
    (crashed cfg d k).ckpts = d.ckpts ∨
    ((prepare cfg d).length < k ∧ (crashed cfg d k).ckpts.Sorted ∧
      (latest (crashed cfg d k) = latest d ∨
        latest (crashed cfg d k) = some (cfg.step, .complete cfg.payload)) ∧
      ((∀ x ∈ d.ckpts, x.1 < cfg.step) → (cfg.step, .complete cfg.payload) ∈ (crashed cfg d k).ckpts) ∧
      ∀ e ∈ (crashed cfg d k).ckpts, e = (cfg.step, .complete cfg.payload) ∨ (e ∈ d.ckpts ∧ e.1 ≠ cfg.step) ∨
        (cfg.backend = .orbax ∧ e.2 = .torn ∧ ∃ m, latest (crashed cfg d k) = some m ∧ e.1 < m.1)) := by
  cases hc : check cfg d with
  | error e => exact Or.inl (by rw [crashed_err hc])
  | ok u =>
  cases u
  rcases crashed_shape hS hc hf k rfl rfl with h | ⟨hk, j, h⟩
  · exact Or.inl h
  refine Or.inr ⟨hk, ?_⟩
  -- `F` the final names right after the commit, `R` the removal list, `G` what is left once its first `j` are gone
  have hSF := Files.sorted_put cfg.step (.complete cfg.payload) hS
  have hsF := Files.mem_steps_put d.ckpts cfg.step (.complete cfg.payload)
  have hmF := Files.mem_put_of_sorted (s := cfg.step) (c := .complete cfg.payload) hS
  have hnew : (cfg.step, Content.complete cfg.payload) ∈ d.ckpts.put cfg.step (.complete cfg.payload) :=
    (hmF _).mpr (Or.inl rfl)
  have hlat := (partial_cleanup_latest hSF hnew cfg.keep cfg.everyN cfg.overwrite j).elim
    (fun h1 => (Files.latest_put hS cfg.step (.complete cfg.payload)).elim
      (fun h2 => Or.inr (h1.trans h2)) (fun h2 => Or.inl (h1.trans h2))) Or.inr
  have htop := fun ht => put_top_not_removed hS (s := cfg.step) (.complete cfg.payload) ht cfg.keep cfg.everyN
    cfg.overwrite
  -- Orbax: nothing newer is removed (`InPlaceFree`), so the latest after the commit stays and bounds what is removed
  have hfree := fun hb => newerOf_nil_of_free (hf hb) (.complete cfg.payload)
  have hkeep := fun hb => partial_cleanup_top hSF hsF cfg.keep cfg.everyN cfg.overwrite (hfree hb) j
  have hbelow := fun hb M => removals_lt_top hSF hsF cfg.keep cfg.everyN cfg.overwrite (hfree hb) (M := M)
  generalize removals cfg.keep cfg.everyN cfg.overwrite cfg.step
    (d.ckpts.put cfg.step (.complete cfg.payload)).steps = R at h hlat htop hkeep hbelow
  generalize d.ckpts.put cfg.step (.complete cfg.payload) = F at h hSF hmF hnew hlat hkeep hbelow
  have hSG := Files.sorted_delAll (R.take j) hSF
  have hold : ∀ e ∈ Files.delAll (R.take j) F,
      e = (cfg.step, .complete cfg.payload) ∨ (e ∈ d.ckpts ∧ e.1 ≠ cfg.step) :=
    fun e he => (hmF e).mp (Files.mem_delAll.mp he).1
  have hsurv : (∀ x ∈ d.ckpts, x.1 < cfg.step) → (cfg.step, Content.complete cfg.payload) ∈
      Files.delAll (R.take j) F :=
    fun ht => Files.mem_delAll.mpr ⟨hnew, fun hm => htop ht (List.mem_of_mem_take hm)⟩
  generalize Files.delAll (R.take j) F = G at h hlat hkeep hSG hold hsurv
  unfold latest
  rcases h with h | ⟨hb, x, hx, h⟩
  · rw [h]
    exact ⟨hSG, hlat, hsurv, fun e he => (hold e he).imp_right Or.inl⟩
  · have hxR := List.mem_of_getElem? hx
    have hxlt : ∀ m, G.getLast? = some m → x < m.1 := fun m hm => hbelow hb m ((hkeep hb).symm.trans hm) x hxR
    rw [h, Files.damage_getLast hSG x hxlt]
    refine ⟨Files.sorted_damage hSG x, hlat, fun ht => ?_, fun e he => ?_⟩
    · exact (Files.mem_damage hSG x _).mpr (Or.inr ⟨hsurv ht, fun (e : cfg.step = x) => htop ht (e ▸ hxR)⟩)
    · rcases (Files.mem_damage hSG x e).mp he with ⟨he, _⟩ | ⟨he, _⟩
      · -- the new checkpoint is still there, so there is a latest one
        obtain ⟨m, hm⟩ := Lists.exists_getLast_of_mem hnew
        have hl := (hkeep hb).trans hm
        exact Or.inr (Or.inr ⟨hb, by rw [he], m, hl, by rw [he]; exact hxlt m hl⟩)
      · exact (hold e he).imp_right Or.inl

end Flax.Ckpt

namespace Flax.C11
open Flax.Ckpt

/-- what holds of a directory between saves: final names in natural_sort order without ties, each one a
complete checkpoint -/
structure Inv (d : Dir) : Prop where
  sorted : d.ckpts.Sorted
  complete : d.ckpts.AllComplete

/-- directories reachable from the empty one by completed saves (either back-end) and by legacy saves
interrupted at any point; not by interrupted Orbax saves, which can leave a listed torn directory (`Inv` fails) -/
inductive Reachable : Dir → Prop
  | empty : Reachable Dir.empty
  | saved {d d' : Dir} {cfg : Cfg} : Reachable d → save cfg d = .ok d' → Reachable d'
  | crashedLegacy {d : Dir} {cfg : Cfg} (k : Nat) : Reachable d → cfg.backend = .legacy → Reachable (crashed cfg d k)

end Flax.C11
