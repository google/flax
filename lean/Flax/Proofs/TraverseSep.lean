/-
Separator-joined keys (`sep=...`) for C16: `str.split` undoes `str.join` on a non-empty list of pieces none of which
overlaps the separator (`NoOverlap`, `splitS_joinS`).
-/
import Flax.Proofs.TraverseSpec

namespace Flax.Traverse

theorem NoOverlap.not_infix {sep x : List Char} (h : NoOverlap sep x) : ¬ sep <:+: x :=
  fun hi => h (hi.trans (List.prefix_append x sep.dropLast).isInfix)

theorem splitAux_skip (sep : List Char) (a rest cur : List Char) :
    splitAux sep (a ++ rest) cur a.length = splitAux sep rest cur 0 := by
  induction a with
  | nil => simp
  | cons c a ih => simpa [splitAux] using ih

/-- scanning over `x` without a match starting inside it moves `x` into the current piece -/
theorem splitAux_scan (sep rest : List Char) : ∀ (x cur : List Char),
    (∀ s t, x = s ++ t → t ≠ [] → ¬ sep <+: t ++ rest) →
    splitAux sep (x ++ rest) cur 0 = splitAux sep rest (x.reverse ++ cur) 0 := by
  intro x
  induction x with
  | nil => intro cur _; rfl
  | cons c x ih =>
    intro cur h
    have hp : sep.isPrefixOf (c :: (x ++ rest)) = false :=
      Bool.eq_false_iff.mpr fun hb => h [] (c :: x) rfl (List.cons_ne_nil _ _) (List.isPrefixOf_iff_prefix.mp hb)
    simp only [List.cons_append, splitAux, hp, Bool.false_eq_true, ↓reduceIte]
    rw [ih (c :: cur) fun s t e => h (c :: s) t (by rw [e]; rfl)]
    simp

theorem splitAux_last (sep : List Char) (x cur : List Char) (h : ¬ sep <:+: x) :
    splitAux sep x cur 0 = [cur.reverse ++ x] := by
  have := splitAux_scan sep [] x cur fun s t e _ hp =>
    h (e ▸ (List.append_nil t ▸ hp).isInfix.trans (List.suffix_append s t).isInfix)
  simpa [splitAux] using this

theorem splitAux_piece (sep : List Char) (hsep : sep ≠ []) (rest x cur : List Char) (h : NoOverlap sep x) :
    splitAux sep (x ++ sep ++ rest) cur 0 = (cur.reverse ++ x) :: splitAux sep rest [] 0 := by
  rw [List.append_assoc, splitAux_scan sep (sep ++ rest) x cur]
  · cases sep with
    | nil => exact absurd rfl hsep
    | cons c sep' =>
      have hp : (c :: sep').isPrefixOf (c :: (sep' ++ rest)) = true :=
        List.isPrefixOf_iff_prefix.mpr (by simp)
      have := splitAux_skip (c :: sep') sep' rest []
      simp only [List.cons_append, splitAux, hp, ↓reduceIte, List.length_cons,
        Nat.add_sub_cancel, List.reverse_append, List.reverse_reverse]
      rw [this]
  · -- a match starting inside `x` would lie in `x ++ sep.dropLast`: `NoOverlap`
    intro s t e ht h1
    have h2 : t ++ sep.dropLast <+: t ++ (sep ++ rest) :=
      (List.prefix_append_right_inj _).mpr ((List.dropLast_prefix sep).trans (List.prefix_append _ _))
    have hlen : sep.length ≤ (t ++ sep.dropLast).length := by
      -- n ≤ (n - 1) + 1 ≤ (n - 1) + t.length; by hand, `omega` is slower here
      rw [List.length_append, List.length_dropLast, Nat.add_comm]
      exact Nat.le_trans (Nat.le_succ_of_pred_le (Nat.le_refl _)) (Nat.add_le_add_left (List.length_pos_iff.mpr ht) _)
    refine h (e ▸ ?_)
    rw [List.append_assoc]
    exact (List.prefix_of_prefix_length_le h1 h2 hlen).isInfix.trans (List.suffix_append s _).isInfix

theorem splitAux_joinL (sep : List Char) (hsep : sep ≠ []) : ∀ (path : List (List Char)), path ≠ [] →
    (∀ x ∈ path, NoOverlap sep x) → splitAux sep (joinL sep path) [] 0 = path := by
  intro path
  induction path with
  | nil => intro h; exact absurd rfl h
  | cons x rest ih =>
    intro _ hno
    cases rest with
    | nil =>
      simp only [joinL]
      rw [splitAux_last sep x [] (hno x (by simp)).not_infix]
      simp
    | cons y rest =>
      simp only [joinL]
      rw [splitAux_piece sep hsep _ x [] (hno x (by simp)), ih (by simp) (fun z hz => hno z (by simp [hz]))]
      simp

theorem toList_ne_nil (sep : String) (hsep : sep ≠ "") : sep.toList ≠ [] :=
  mt String.toList_eq_nil_iff.mp hsep

theorem toList_isEmpty (sep : String) (hsep : sep ≠ "") : sep.toList.isEmpty = false :=
  List.isEmpty_eq_false_iff.mpr (toList_ne_nil sep hsep)

theorem splitS_joinS (sep : String) (hsep : sep ≠ "") (path : List String) (hp : path ≠ [])
    (hno : ∀ k ∈ path, NoOverlap sep.toList k.toList) : splitS sep (joinS sep path) = .ok path := by
  have hs := toList_ne_nil sep hsep
  have he := toList_isEmpty sep hsep
  simp only [splitS, splitL, he, Bool.false_eq_true, ↓reduceIte, joinS, String.toList_ofList, Except.map]
  rw [splitAux_joinL sep.toList hs (path.map String.toList) (by simpa using hp)
    (by intro x hx; simp only [List.mem_map] at hx; obtain ⟨k, hk, rfl⟩ := hx; exact hno k hk)]
  simp

theorem noOverlap_singleton (c : Char) (x : List Char) : NoOverlap [c] x ↔ c ∉ x := by
  simp only [NoOverlap, List.dropLast_singleton, List.append_nil]
  constructor
  · intro h hc
    obtain ⟨s, t, rfl⟩ := List.append_of_mem hc
    exact h ⟨s, t, by simp⟩
  · intro h ⟨s, t, e⟩
    exact h (by rw [← e]; simp)

end Flax.Traverse
