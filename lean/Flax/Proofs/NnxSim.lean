/-
The simulation of `flatten` (+ `outer_index` stamps) by `unflattenO` with `outer_index_outer_ref`: objects whose stamp is bound
by `omap` are re-used in place (`clear` + `init` / value update), all others are created.  C03's `sim` (Proofs/GraphIso) is the
case "nothing is re-used"; `simO` and `sim` are two proofs over the same `flatten_induct`, neither derived from the other.
Users call `rebuild`.
-/
import Flax.Proofs.GraphIso
import Flax.Proofs.NnxStep

namespace Flax.Nnx
open Flax.Heap Flax.Graph

/-- `reuse a = some c`: the object `a` of the flattened heap `g` carries a stamp that `omap` binds to the existing
object `c` of the target heap `H0`.  The protocol guarantees: distinct objects re-use distinct targets, a
target has the kind of its source. -/
structure Reuse (g H0 : Heap) (reuse : Addr → Option Addr) : Prop where
  inj : ∀ (a a' c : Nat), reuse a = some c → reuse a' = some c → a = a'
  lt : ∀ (a c : Nat), reuse a = some c → c < H0.length
  kind : ∀ (a c : Nat) o, reuse a = some c → g[a]? = some o → (H0[c]?).map kindOf = some (kindOf o)

/-- invariant of the joint run (cf. C03 `Good`): `ir` binds the indices `0 … idx.length-1` injectively, an object is
bound to its re-use target if it has one and to a new address otherwise; target objects that nobody re-used so far
are untouched -/
structure GoodO (H0 : Heap) (reuse : Addr → Option Addr) (idx : RefIndex) (ir : IndexRef) (H : Heap) : Prop where
  nodup : idx.Nodup
  dom : ∀ i, (irLookup i ir).isSome = true ↔ i < idx.length
  tgt : ∀ (i a b : Nat), idx[i]? = some a → irLookup i ir = some b →
          (reuse a = some b) ∨ (reuse a = Option.none ∧ H0.length ≤ b ∧ b < H.length)
  inj : ∀ (i j b : Nat), irLookup i ir = some b → irLookup j ir = some b → i = j
  len : H0.length ≤ H.length
  frame : ∀ (c : Nat), c < H0.length → (∀ (a : Nat), a ∈ idx → reuse a ≠ some c) → H[c]? = H0[c]?
  irLen : ir.length = idx.length
  onto : ∀ (b : Nat), H0.length ≤ b → b < H.length → ∃ i, irLookup i ir = some b

theorem GoodO.nil (H0 : Heap) (reuse : Addr → Option Addr) : GoodO H0 reuse [] [] H0 :=
  ⟨List.nodup_nil, by simp [irLookup], by simp [irLookup], by simp [irLookup], Nat.le_refl _,
    fun _ _ _ => rfl, rfl, fun b h1 h2 => by omega⟩

section
variable {g H0 : Heap} {reuse : Addr → Option Addr}

theorem phi_idx {idx : RefIndex} {ir : IndexRef} {a b : Nat} (h : phi idx ir a = some b) :
    ∃ (i : Nat), idx[i]? = some a ∧ irLookup i ir = some b := by
  obtain ⟨i, hi, hb⟩ := phi_eq_some.mp h
  exact ⟨i, indexOf?_some hi, hb⟩

theorem phi_tgt {idx ir H} (G : GoodO H0 reuse idx ir H) {a b : Nat} (h : phi idx ir a = some b) :
    (reuse a = some b) ∨ (reuse a = Option.none ∧ H0.length ≤ b ∧ b < H.length) := by
  obtain ⟨i, h1, h2⟩ := phi_idx h
  exact G.tgt i a b h1 h2

theorem phi_ltO (R : Reuse g H0 reuse) {idx ir H} (G : GoodO H0 reuse idx ir H) {a b : Nat}
    (h : phi idx ir a = some b) : b < H.length := by
  rcases phi_tgt G h with h1 | ⟨_, _, h3⟩
  · have := R.lt a b h1; have := G.len; omega
  · exact h3

theorem phi_of_memO {idx ir H} (G : GoodO H0 reuse idx ir H) {a : Addr} (h : a ∈ idx) : ∃ b, phi idx ir a = some b := by
  obtain ⟨i, hi⟩ := indexOf?_of_mem h
  have hlt := indexOf?_lt hi
  have := (G.dom i).mpr hlt
  obtain ⟨b, hb⟩ := Option.isSome_iff_exists.mp this
  exact ⟨b, by simp [phi, hi, hb]⟩

theorem GoodO.heap_same {idx ir H H'} (G : GoodO H0 reuse idx ir H) (hl : H'.length = H.length)
    (hf : ∀ (c : Nat), c < H0.length → (∀ (a : Nat), a ∈ idx → reuse a ≠ some c) → H'[c]? = H[c]?) : GoodO H0 reuse idx ir H' :=
  ⟨G.nodup, G.dom, fun i a b h1 h2 => by rw [hl]; exact G.tgt i a b h1 h2, G.inj, by rw [hl]; exact G.len,
    fun c hc hn => by rw [hf c hc hn]; exact G.frame c hc hn, G.irLen, fun b h1 h2 => G.onto b h1 (by omega)⟩

/-- after one registration: `c` overwritten in place, or one object appended at `c = H.length` -/
theorem placed (R : Reuse g H0 reuse) {idx ir H} (G : GoodO H0 reuse idx ir H) {a c : Nat} {Hc : Heap}
    (hc : (reuse a = some c ∧ ∃ o, Hc = write H c o) ∨ (reuse a = Option.none ∧ c = H.length ∧ ∃ o, Hc = H ++ [o])) :
    H.length ≤ Hc.length ∧ c < Hc.length ∧ (∀ b, b < Hc.length → b ≠ c → b < H.length) ∧
      ∀ c', c' < H.length → c' ≠ c → Hc[c']? = H[c']? := by
  rcases hc with ⟨hr, o, rfl⟩ | ⟨_, rfl, o, rfl⟩
  · have hlt := Nat.lt_of_lt_of_le (R.lt a c hr) G.len
    exact ⟨by simp [write_length], by simpa [write_length] using hlt, fun b hb _ => by simpa [write_length] using hb,
      fun c' _ hne => write_frame _ _ _ _ hne⟩
  · exact ⟨by simp, by simp, fun b hb hne => by simp at hb; omega, fun c' hc' _ => List.getElem?_append_left hc'⟩

theorem GoodO.push (R : Reuse g H0 reuse) {idx ir H} (G : GoodO H0 reuse idx ir H) {a : Nat} (ha : a ∉ idx)
    {c : Nat} {Hc : Heap}
    (hc : (reuse a = some c ∧ ∃ o, Hc = write H c o) ∨ (reuse a = Option.none ∧ c = H.length ∧ ∃ o, Hc = H ++ [o])) :
    GoodO H0 reuse (idx ++ [a]) ((idx.length, c) :: ir) Hc := by
  obtain ⟨hlen, hcl, hsmall, hfr⟩ := placed R G hc
  -- `c` is nobody's image yet: a target is claimed once (`R.inj`) and lies below `H0.length`, created addresses lie above
  have hold : ∀ j, irLookup j ir = some c → False := by
    intro j hj
    have hjlt : j < idx.length := (G.dom j).mp (by simp [hj])
    obtain ⟨a'', ha''⟩ : ∃ a'', idx[j]? = some a'' := ⟨idx[j], List.getElem?_eq_getElem hjlt⟩
    have hmem : a'' ∈ idx := List.mem_of_getElem? ha''
    rcases G.tgt j a'' c ha'' hj with h1 | ⟨_, h2, h3⟩
    · rcases hc with ⟨hr, _⟩ | ⟨_, hcH, _⟩
      · exact ha (R.inj a a'' c hr h1 ▸ hmem)
      · exact Nat.ne_of_lt (Nat.lt_of_lt_of_le (R.lt a'' c h1) G.len) hcH
    · rcases hc with ⟨hr, _⟩ | ⟨_, hcH, _⟩
      · exact Nat.not_lt.mpr h2 (R.lt a c hr)
      · exact Nat.ne_of_lt h3 hcH
  refine ⟨?_, ?_, ?_, ?_, ?_, ?_, ?_, ?_⟩
  · exact Lists.nodup_concat G.nodup ha
  · intro i
    simp only [irLookup_cons, List.length_append, List.length_singleton]
    by_cases e : idx.length = i
    · simp [e]
    · simp only [e, if_false, G.dom i]
      exact ⟨Nat.lt_succ_of_lt, fun h => Nat.lt_of_le_of_ne (Nat.le_of_lt_succ h) (Ne.symm e)⟩
  · intro i a' b h1 h2
    simp only [irLookup_cons] at h2
    split at h2
    · next e =>
      subst e
      have : a' = a := by simpa using h1.symm
      subst this
      have : c = b := Option.some.inj h2
      subst this
      rcases hc with ⟨hr, _⟩ | ⟨hr, hcH, _⟩
      · exact Or.inl hr
      · exact Or.inr ⟨hr, hcH ▸ G.len, hcl⟩
    · next e =>
      have hilt : i < idx.length := (G.dom i).mp (by simp [h2])
      rw [List.getElem?_append_left hilt] at h1
      rcases G.tgt i a' b h1 h2 with h3 | ⟨h3, h4, h5⟩
      · exact Or.inl h3
      · exact Or.inr ⟨h3, h4, Nat.lt_of_lt_of_le h5 hlen⟩
  · intro i j b hi hj
    simp only [irLookup_cons] at hi hj
    split at hi <;> split at hj
    · next ei ej => exact ei.symm.trans ej
    · have e1 : c = b := Option.some.inj hi
      subst e1; exact absurd hj (fun h => hold j h)
    · have e1 : c = b := Option.some.inj hj
      subst e1; exact absurd hi (fun h => hold i h)
    · exact G.inj i j b hi hj
  · exact Nat.le_trans G.len hlen
  · intro c' hc' hn
    have hne : c' ≠ c := fun e => by
      rcases hc with ⟨hr, _⟩ | ⟨_, hcH, _⟩
      · exact hn a (by simp) (e ▸ hr)
      · have := G.len; omega
    rw [hfr c' (Nat.lt_of_lt_of_le hc' G.len) hne]
    exact G.frame c' hc' (fun a' ha' => hn a' (List.mem_append_left _ ha'))
  · simp [G.irLen]
  · intro b h1 h2
    by_cases e : b = c
    · exact ⟨idx.length, by simp [irLookup_cons, e]⟩
    · obtain ⟨i, hi⟩ := G.onto b h1 (hsmall b h2 e)
      have hilt : i < idx.length := (G.dom i).mp (by simp [hi])
      exact ⟨i, (irLookup_cons _ _ _ _).trans ((if_neg (Nat.ne_of_gt hilt)).trans hi)⟩

/-- what one sub-run of flatten / unflattenO adds (cf. C03 `Post`; here the target heap is also written in place) -/
structure PostO (g : Heap) (idx : RefIndex) (ir : IndexRef) (H : Heap)
    (idx' : RefIndex) (ir' : IndexRef) (H' : Heap) : Prop where
  lenLe : H.length ≤ H'.length
  idxExt : ∃ new, idx' = idx ++ new
  old : ∀ i, i < idx.length → irLookup i ir' = irLookup i ir
  stable : ∀ (c : Nat), c < H.length → (∀ (a : Nat), a ∈ idx' → a ∉ idx → phi idx' ir' a ≠ some c) → H'[c]? = H[c]?
  obj : ∀ (a : Nat), a ∈ idx' → a ∉ idx → ∃ (o o' : Obj) (b : Nat), g[a]? = some o ∧ phi idx' ir' a = some b ∧ H'[b]? = some o' ∧
          ObjRel (phi idx' ir') o o'

theorem PostO.refl (g : Heap) (idx : RefIndex) (ir : IndexRef) (H : Heap) : PostO g idx ir H idx ir H :=
  ⟨Nat.le_refl _, ⟨[], by simp⟩, fun _ _ => rfl, fun _ _ _ => rfl, fun a h1 h2 => absurd h1 h2⟩

theorem PostO.phiLe {idx ir H idx' ir' H'} (p : PostO g idx ir H idx' ir' H') : PhiLe (phi idx ir) (phi idx' ir') := by
  intro a b hab
  obtain ⟨new, rfl⟩ := p.idxExt
  obtain ⟨i, hi, hb⟩ := phi_eq_some.mp hab
  exact phi_eq_some.mpr ⟨i, indexOf?_append_left new hi, (p.old i (indexOf?_lt hi)).trans hb⟩

theorem PostO.trans (R : Reuse g H0 reuse) {idx ir H idx1 ir1 H1 idx2 ir2 H2}
    (G1 : GoodO H0 reuse idx1 ir1 H1) (G2 : GoodO H0 reuse idx2 ir2 H2)
    (p1 : PostO g idx ir H idx1 ir1 H1) (p2 : PostO g idx1 ir1 H1 idx2 ir2 H2) : PostO g idx ir H idx2 ir2 H2 := by
  obtain ⟨new1, e1⟩ := p1.idxExt
  obtain ⟨new2, e2⟩ := p2.idxExt
  have hl1 : idx.length ≤ idx1.length := by rw [e1]; simp
  have sub1 : ∀ a, a ∈ idx → a ∈ idx1 := fun a h => by rw [e1]; exact List.mem_append_left _ h
  have sub2 : ∀ a, a ∈ idx1 → a ∈ idx2 := fun a h => by rw [e2]; exact List.mem_append_left _ h
  refine ⟨Nat.le_trans p1.lenLe p2.lenLe, ⟨new1 ++ new2, by rw [e2, e1]; simp⟩, ?_, ?_, ?_⟩
  · intro i hi
    rw [p2.old i (by omega), p1.old i hi]
  · intro c hc hn
    have h1 : H1[c]? = H[c]? := p1.stable c hc (fun a ha hna hphi => hn a (sub2 a ha) hna (p2.phiLe a c hphi))
    have h2 : H2[c]? = H1[c]? := p2.stable c (Nat.lt_of_lt_of_le hc p1.lenLe)
      (fun a ha hna => hn a ha (fun h => hna (sub1 a h)))
    rw [h2, h1]
  · intro a ha2 hna
    by_cases ha1 : a ∈ idx1
    · obtain ⟨o, o', b, ho, hphi, hH, hrel⟩ := p1.obj a ha1 hna
      have hb := phi_ltO R G1 hphi
      refine ⟨o, o', b, ho, p2.phiLe a b hphi, ?_, ObjRel.mono p2.phiLe hrel⟩
      rw [p2.stable b hb (fun a' ha' hna' hphi' => hna' (phi_inj G2.inj hphi' (p2.phiLe a b hphi) ▸ ha1))]
      exact hH
    · exact p2.obj a ha2 ha1

end

theorem convLeaves_append (raw : Bool) (a b : FlatState) :
    convLeaves raw (a ++ b) = convLeaves raw a ++ convLeaves raw b := by
  simp [convLeaves]

/-- running `unflattenO omap` on the stamped output of `flatten` rebuilds an image
of the flattened graph under the address map `phi`, consuming exactly the emitted leaves; objects with a re-use
target are rebuilt in place. `tbl` is the stamp table, `idxF` the final `ref_index` of the whole `to_tree`. -/
theorem simO {g H0 : Heap} {reuse : Addr → Option Addr} (R : Reuse g H0 reuse) (raw : Bool)
    (tbl : Nat → Option Nat) (omap : Nat → Option Addr) (idxF : RefIndex)
    (hst : ∀ i a, idxF[i]? = some a → (tbl i).bind omap = reuse a) : ∀ fuel : Nat,
    (∀ path v idx gd ls idx', flattenVal fuel g path v idx = .ok (gd, ls, idx') → (∃ r, idxF = idx' ++ r) →
      ∀ H ir rest, GoodO H0 reuse idx ir H →
        ∃ v' H' ir', unflattenO omap (stampWith tbl gd) (convLeaves raw ls ++ rest) H ir = .ok (v', rest, H', ir') ∧
          GoodO H0 reuse idx' ir' H' ∧ PostO g idx ir H idx' ir' H' ∧ ValRel (phi idx' ir') v v') ∧
    (∀ path items idx gs ls idx', flattenItems fuel g path items idx = .ok (gs, ls, idx') → (∃ r, idxF = idx' ++ r) →
      ∀ H ir rest, GoodO H0 reuse idx ir H →
        ∃ vs H' ir', unflattenAttrsO omap (stampAttrs tbl gs) (convLeaves raw ls ++ rest) H ir = .ok (vs, rest, H', ir') ∧
          GoodO H0 reuse idx' ir' H' ∧ PostO g idx ir H idx' ir' H' ∧ KVsRel (phi idx' ir') items vs) := by
  -- Along flatten's recursion.  `unflattenO` takes the matching branch because `GoodO` says which indices `ir` binds
  -- (`0 … idx.length-1`: a `ref i` is found, the next index is free) and every sub-run ends in a prefix of `idxF`, so `hst`
  -- reads the stamp of the object registered next as `reuse a`.
  refine flatten_induct g
    (P := fun _ _ v idx gd ls idx' => (∃ r, idxF = idx' ++ r) → ∀ H ir rest, GoodO H0 reuse idx ir H →
      ∃ v' H' ir', unflattenO omap (stampWith tbl gd) (convLeaves raw ls ++ rest) H ir = .ok (v', rest, H', ir') ∧
        GoodO H0 reuse idx' ir' H' ∧ PostO g idx ir H idx' ir' H' ∧ ValRel (phi idx' ir') v v')
    (Q := fun _ _ items idx gs ls idx' => (∃ r, idxF = idx' ++ r) → ∀ H ir rest, GoodO H0 reuse idx ir H →
      ∃ vs H' ir', unflattenAttrsO omap (stampAttrs tbl gs) (convLeaves raw ls ++ rest) H ir = .ok (vs, rest, H', ir') ∧
        GoodO H0 reuse idx' ir' H' ∧ PostO g idx ir H idx' ir' H' ∧ KVsRel (phi idx' ir') items vs)
    ?_ ?_ ?_ ?_ ?_ ?_ ?_ ?_ ?_ ?_
  · intro _ path s idx _ H ir rest G
    exact ⟨.static s, H, ir, rfl, G, PostO.refl g _ _ _, .static s⟩
  · intro _ path d idx _ H ir rest G
    refine ⟨.array d, H, ir, ?_, G, PostO.refl g _ _ _, .array d⟩
    cases raw <;> rfl
  · intro _ path idx _ H ir rest G
    exact ⟨.none, H, ir, rfl, G, PostO.refl g _ _ _, .none⟩
  · intro _ path t xs idx as ls idx' _ ih hpre H ir rest G
    obtain ⟨vs, H', ir', hu, G', p', hr⟩ := ih hpre H ir rest G
    exact ⟨.seq t (vs.map (·.2)), H', ir', by simp only [stampWith, unflattenO, hu], G', p', .seq (KVsRel.enum_vals hr)⟩
  · intro _ path kvs idx as ls idx' _ ih hpre H ir rest G
    obtain ⟨vs, H', ir', hu, G', p', hr⟩ := ih hpre H ir rest G
    refine ⟨.dict vs, H', ir', by simp only [stampWith, unflattenO, hu], G', p', .dict ?_⟩
    rw [KVsRel.sortKV_right hr]; exact hr
  · intro _ path a idx i hi _ H ir rest G
    obtain ⟨b, hb⟩ := Option.isSome_iff_exists.mp ((G.dom i).mpr (indexOf?_lt hi))
    exact ⟨.ref b, H, ir, by simp [stampWith, unflattenO, hb, convLeaves], G, PostO.refl g _ _ _,
      .ref (by simp [phi, hi, hb])⟩
  · -- a Variable seen for the first time
    intro _ path a idx ty val md ha hget hpre H ir rest G
    obtain ⟨r, hr⟩ := hpre
    have hbind : (tbl idx.length).bind omap = reuse a := hst _ _ (by rw [hr]; simp)
    have hleaf : convLeaves raw [(path, Leaf.vstate ty val md)] ++ rest =
        (if raw then Leaf.arr val else Leaf.vstate ty val md) :: rest := rfl
    have hnew : ∀ a' ∈ idx ++ [a], a' ∉ idx → a' = a := fun a' ha' hna' => by
      rcases List.mem_append.mp ha' with h1 | h1
      · exact absurd h1 hna'
      · simpa using h1
    -- updated in place or created at `c = H.length`: the two differ in `Hc` only
    obtain ⟨c, Hc, hcase, hunf, hHc⟩ : ∃ (c : Nat) (Hc : Heap),
        ((reuse a = some c ∧ ∃ o, Hc = write H c o) ∨ (reuse a = Option.none ∧ c = H.length ∧ ∃ o, Hc = H ++ [o])) ∧
        unflattenO omap (stampWith tbl (.var ty idx.length md)) (convLeaves raw [(path, Leaf.vstate ty val md)] ++ rest) H ir =
          .ok (.ref c, rest, Hc, (idx.length, c) :: ir) ∧ Hc[c]? = some (Obj.var ty val md) := by
      cases hre : reuse a with
      | some c =>
        have hclt := R.lt a c hre
        have hHc : H[c]? = H0[c]? := G.frame c hclt (fun a' ha' hr' => ha (R.inj a a' c hre hr' ▸ ha'))
        obtain ⟨v0, hv0⟩ := var_of_kind (R.kind a c _ hre hget)
        refine ⟨c, write H c (Obj.var ty val md), Or.inl ⟨rfl, _, rfl⟩, ?_, write_get _ _ _ (Nat.lt_of_lt_of_le hclt G.len)⟩
        rw [hleaf]
        simp only [stampWith, unflattenO, hbind, hre, hHc, hv0]
        cases raw <;> simp
      | none =>
        refine ⟨H.length, H ++ [Obj.var ty val md], Or.inr ⟨rfl, rfl, _, rfl⟩, ?_, by simp⟩
        rw [hleaf]
        simp only [stampWith, unflattenO, hbind, hre]
        cases raw <;> simp [makeVar]
    obtain ⟨hlen, _, _, hfr⟩ := placed R G hcase
    refine ⟨.ref c, Hc, (idx.length, c) :: ir, hunf, GoodO.push R G ha hcase, ?_, .ref (phi_new ha _)⟩
    refine ⟨hlen, ⟨[a], rfl⟩, fun i hi => (irLookup_cons _ _ _ _).trans (if_neg (Nat.ne_of_gt hi)),
      fun c' hc' hn => hfr c' hc' (fun e => hn a (by simp) ha (e ▸ phi_new ha _)), ?_⟩
    intro a' ha' hna'
    obtain rfl := hnew a' ha' hna'
    exact ⟨_, _, c, hget, phi_new ha _, hHc, .var ty val md⟩
  · -- a graph node seen for the first time: registered, then its attributes, then `init`
    intro fuel path a idx cls attrs as ls1 idx1 ha hget heq ih hpre H ir rest G
    obtain ⟨new, enew⟩ := (flatten_prefix g fuel).2 _ _ _ _ _ _ heq
    obtain ⟨r, hr⟩ := hpre
    have hbind : (tbl idx.length).bind omap = reuse a := hst _ _ (by rw [hr, enew]; simp)
    have hnone' : irLookup idx.length ir = Option.none := by
      cases e : irLookup idx.length ir with
      | none => rfl
      | some b => have := (G.dom idx.length).mp (by simp [e]); omega
    -- re-use and creation differ in `Hc` only, as for a Variable: `hunf` is their common continuation
    obtain ⟨c, Hc, hcase, hunf⟩ : ∃ (c : Nat) (Hc : Heap),
        ((reuse a = some c ∧ ∃ o, Hc = write H c o) ∨ (reuse a = Option.none ∧ c = H.length ∧ ∃ o, Hc = H ++ [o])) ∧
        ∀ (rest' : List Leaf) (vs : List (Key × PVal)) (ls' : List Leaf) (H' : Heap) (ir' : IndexRef),
          unflattenAttrsO omap (stampAttrs tbl as) rest' Hc ((idx.length, c) :: ir) = .ok (vs, ls', H', ir') →
          unflattenO omap (stampWith tbl (.node (.obj cls) (some idx.length) as)) rest' H ir =
            .ok (.ref c, ls', write H' c (Obj.node cls vs), ir') := by
      cases hre : reuse a with
      | some c =>
        have hclt := R.lt a c hre
        have hHc : H[c]? = H0[c]? := G.frame c hclt (fun a' ha' hr' => ha (R.inj a a' c hre hr' ▸ ha'))
        obtain ⟨A0, hA0⟩ := node_of_kind (R.kind a c _ hre hget)
        refine ⟨c, write H c (Obj.node cls []), Or.inl ⟨rfl, _, rfl⟩, ?_⟩
        intro rest' vs ls' H' ir' hX
        simp [stampWith, unflattenO, hnone', hbind, hre, hHc, hA0, hX]
      | none =>
        refine ⟨H.length, H ++ [Obj.node cls []], Or.inr ⟨rfl, rfl, _, rfl⟩, ?_⟩
        intro rest' vs ls' H' ir' hX
        simp [stampWith, unflattenO, hnone', hbind, hre, hX]
    have G1 := GoodO.push R G ha hcase
    obtain ⟨vs, H', ir', hu, G', p', hrel⟩ := ih ⟨r, hr⟩ Hc ((idx.length, c) :: ir) rest G1
    obtain ⟨hHcl, hcHc, _, hfr⟩ := placed R G hcase
    have hcH' : c < H'.length := Nat.lt_of_lt_of_le hcHc p'.lenLe
    have hphia : phi idx1 ir' a = some c := p'.phiLe a _ (phi_new ha _)
    have hamem : a ∈ idx1 := by rw [enew]; simp
    refine ⟨.ref c, write H' c (Obj.node cls vs), ir', hunf _ _ _ _ _ hu, ?_, ?_, .ref hphia⟩
    · -- `init` writes `c` only, and `c` is `a`'s image: no target object that is still unclaimed changes
      exact G'.heap_same (by simp [write_length]) (fun c' hc' hn => by
        have hne : c' ≠ c := fun e => by
          rcases phi_tgt G' hphia with h1 | ⟨_, h2, _⟩
          · exact hn a hamem (e ▸ h1)
          · omega
        exact write_frame _ _ _ _ hne)
    · refine ⟨?_, ⟨a :: new, by rw [enew]; simp⟩, ?_, ?_, ?_⟩
      · simp only [write_length]; exact Nat.le_trans hHcl p'.lenLe
      · intro i hi
        rw [p'.old i (by simp; omega)]
        simp only [irLookup_cons]; rw [if_neg (by omega)]
      · intro c' hc' hn
        have hne : c' ≠ c := fun e => hn a hamem ha (e ▸ hphia)
        rw [write_frame _ _ _ _ hne]
        rw [p'.stable c' (by omega) (fun a' ha' hna' => hn a' ha' (fun h => hna' (List.mem_append_left _ h)))]
        exact hfr c' hc' hne
      · intro a' ha' hna'
        by_cases e : a' = a
        · subst e
          refine ⟨_, _, c, hget, hphia, write_get _ _ _ hcH', .node ?_⟩
          rw [KVsRel.sortKV_right hrel]; exact hrel
        · have hnin : a' ∉ idx ++ [a] := by simp [hna', e]
          obtain ⟨o, o', b, ho, hphi, hH, hrel'⟩ := p'.obj a' ha' hnin
          refine ⟨o, o', b, ho, hphi, ?_, hrel'⟩
          have hne : b ≠ c := fun eb => e (phi_inj G'.inj (eb ▸ hphi) hphia)
          rw [write_frame _ _ _ _ hne]; exact hH
  · intro _ path idx _ H ir rest G
    exact ⟨[], H, ir, rfl, G, PostO.refl g _ _ _, .nil⟩
  · intro fuel path k v rest' idx g1 ls1 idx1 gs2 ls2 idx2 _ heq2 ih1 ih2 hpre H ir rest G
    obtain ⟨n2, e2⟩ := (flatten_prefix g fuel).2 _ _ _ _ _ _ heq2
    obtain ⟨r, hr⟩ := hpre
    -- the leaves of the later items are what the first item must leave over
    obtain ⟨v', H1, ir1, hu1, G1, p1, hr1⟩ := ih1 ⟨n2 ++ r, by rw [hr, e2]; simp⟩ H ir (convLeaves raw ls2 ++ rest) G
    obtain ⟨vs, H2, ir2, hu2, G2, p2, hr2⟩ := ih2 ⟨r, hr⟩ H1 ir1 rest G1
    refine ⟨(k, v') :: vs, H2, ir2, ?_, G2, PostO.trans R G1 G2 p1 p2, .cons (ValRel.mono p2.phiLe hr1) hr2⟩
    simp only [stampAttrs, unflattenAttrsO, convLeaves_append, List.append_assoc, hu1, hu2]

/-- `to_tree` over a tuple of roots with any budget per root (the model never traverses the eager heaps of the loop invariants,
so they have no budget of their own) -/
inductive FlatRoots (g : Heap) : List PVal → RefIndex → List GDef → List FlatState → RefIndex → Prop where
  | nil (idx : RefIndex) : FlatRoots g [] idx [] [] idx
  | cons {fuel : Nat} {v : PVal} {vs : List PVal} {idx idx1 idx2 : RefIndex} {gd : GDef} {ls : FlatState}
      {gds : List GDef} {lss : List FlatState} :
      flattenVal fuel g [] v idx = .ok (gd, ls, idx1) → FlatRoots g vs idx1 gds lss idx2 →
      FlatRoots g (v :: vs) idx (gd :: gds) (ls :: lss) idx2

theorem flatRoots_of_flattenRoots {g : Heap} : ∀ {vs : List PVal} {idx : RefIndex} {gds fss idx'},
    flattenRoots g vs idx = .ok (gds, fss, idx') → FlatRoots g vs idx gds fss idx'
  | [], idx, gds, fss, idx', h => by
    simp [flattenRoots] at h; obtain ⟨rfl, rfl, rfl⟩ := h; exact .nil _
  | v :: vs, idx, gds, fss, idx', h => by
    simp only [flattenRoots] at h
    split at h
    · cases h
    · next gd ls idx1 heq =>
      split at h
      · cases h
      · next gds2 lss2 idx2 heq2 =>
        simp at h; obtain ⟨rfl, rfl, rfl⟩ := h
        exact .cons heq (flatRoots_of_flattenRoots heq2)

theorem flatRoots_prefix {g : Heap} {vs : List PVal} {idx : RefIndex} {gds fss idx'}
    (h : FlatRoots g vs idx gds fss idx') : ∃ new, idx' = idx ++ new := by
  induction h with
  | nil idx => exact ⟨[], by simp⟩
  | cons heq _ ih =>
    obtain ⟨n1, e1⟩ := (flatten_prefix g _).1 _ _ _ _ _ _ heq
    obtain ⟨n2, e2⟩ := ih
    exact ⟨n1 ++ n2, by rw [e2, e1]; simp⟩

theorem flatRoots_det {g : Heap} {vs : List PVal} {idx : RefIndex} {gds fss idx1 gds' fss' idx1'}
    (h1 : FlatRoots g vs idx gds fss idx1) (h2 : FlatRoots g vs idx gds' fss' idx1') :
    gds = gds' ∧ fss = fss' ∧ idx1 = idx1' := by
  induction h1 generalizing gds' fss' idx1' with
  | nil _ => cases h2; exact ⟨rfl, rfl, rfl⟩
  | cons heq _ ih =>
    cases h2 with
    | cons heq' ht' =>
      have := flatten_det g heq heq'
      simp only [Prod.mk.injEq] at this
      obtain ⟨rfl, rfl, rfl⟩ := this
      obtain ⟨rfl, rfl, rfl⟩ := ih ht'
      exact ⟨rfl, rfl, rfl⟩

theorem flattenRoots_prefix (g : Heap) : ∀ (vs : List PVal) (idx : RefIndex) gds fss idx',
    flattenRoots g vs idx = .ok (gds, fss, idx') → ∃ new, idx' = idx ++ new :=
  fun _ _ _ _ _ h => flatRoots_prefix (flatRoots_of_flattenRoots h)

theorem simRootsF {g H0 : Heap} {reuse : Addr → Option Addr} (R : Reuse g H0 reuse) (raw : Bool)
    (tbl : Nat → Option Nat) (omap : Nat → Option Addr) (idxF : RefIndex)
    (hst : ∀ i a, idxF[i]? = some a → (tbl i).bind omap = reuse a) :
    ∀ {vs : List PVal} {idx : RefIndex} {gds fss idx'}, FlatRoots g vs idx gds fss idx' →
      (∃ r, idxF = idx' ++ r) → ∀ H ir, GoodO H0 reuse idx ir H →
        ∃ vs' H' ir', unflattenRootsO omap (gds.map (stampWith tbl)) (fss.map (convLeaves raw)) H ir = .ok (vs', H', ir') ∧
          GoodO H0 reuse idx' ir' H' ∧ PostO g idx ir H idx' ir' H' ∧ ValsRel (phi idx' ir') vs vs' := by
  intro vs idx gds fss idx' hF
  induction hF with
  | nil idx => exact fun _ H ir G => ⟨[], H, ir, by simp [unflattenRootsO], G, PostO.refl g _ _ _, .nil⟩
  | cons heq ht ih =>
    rename_i fuel v vs idx idx1 idx2 gd ls gds lss
    intro hpre H ir G
    obtain ⟨n2, e2⟩ := flatRoots_prefix ht
    obtain ⟨r, hr⟩ := hpre
    obtain ⟨v', H1, ir1, hu1, G1, p1, hr1⟩ :=
      (simO R raw tbl omap idxF hst _).1 [] v idx gd ls idx1 heq ⟨n2 ++ r, by rw [hr, e2]; simp⟩ H ir [] G
    obtain ⟨vs', H2, ir2, hu2, G2, p2, hr2⟩ := ih ⟨r, hr⟩ H1 ir1 G1
    refine ⟨v' :: vs', H2, ir2, ?_, G2, PostO.trans R G1 G2 p1 p2, .cons (ValRel.mono p2.phiLe hr1) hr2⟩
    simp only [List.append_nil] at hu1
    simp only [List.map_cons, unflattenRootsO, hu1, hu2]

/-- `from_tree` with re-use: started in `H0` on the stamped `to_tree` of `(g, vs)`, it leaves an isomorphic image of what `vs`
reaches in `g` and does not touch the objects of `H0` that are nobody's image.  Instances: inner merge (`H0 = []`), outer merge,
final merge of a loop (every registered object is its own target). -/
theorem rebuild {g H0 : Heap} {reuse : Addr → Option Addr} (R : Reuse g H0 reuse) (raw : Bool)
    (tbl : Nat → Option Nat) (omap : Nat → Option Addr) {vs : List PVal} {gds : List GDef} {fss : List FlatState}
    {idx : RefIndex} (hF : FlatRoots g vs [] gds fss idx)
    (hst : ∀ i a, idx[i]? = some a → (tbl i).bind omap = reuse a) :
    ∃ vs' H' ir', unflattenRootsO omap (gds.map (stampWith tbl)) (fss.map (convLeaves raw)) H0 [] = .ok (vs', H', ir') ∧
      GoodO H0 reuse idx ir' H' ∧ Iso g (.seq true vs) H' (.seq true vs') (phi idx ir') ∧
      (∀ (c : Nat), c < H0.length → (∀ (a : Nat), phi idx ir' a ≠ some c) → H'[c]? = H0[c]?) := by
  obtain ⟨vs', H', ir', hu, Gd, p, hv⟩ := simRootsF R raw tbl omap idx hst hF ⟨[], by simp⟩ H0 [] (GoodO.nil _ _)
  refine ⟨vs', H', ir', hu, Gd, ⟨.seq hv, fun a b c h1 h2 => phi_inj Gd.inj h1 h2, fun a b hab => ?_⟩,
    fun c hc hn => p.stable c hc (fun a _ _ => hn a)⟩
  obtain ⟨o, o', b', ho, hphi, hH, hrel⟩ := p.obj a (phi_mem hab) (by simp)
  have : b' = b := by rw [hab] at hphi; exact (Option.some.inj hphi).symm
  subst this
  exact ⟨o, o', ho, hH, hrel⟩

end Flax.Nnx
