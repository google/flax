/- C12: padding amounts, window counts and the `jnp.pad` index maps, one axis at a time -/
import Flax.Model.Layers

namespace Flax.Layers

theorem outLen_add (m w s : Nat) : outLen (m + w) w s = m / s + 1 := by
  simp [outLen]

theorem dilatedK_pos (k d : Nat) : 1 ≤ dilatedK k d := Nat.le_add_left _ _

theorem centrePads_total (k d : Nat) : (centrePads k d).1 + (centrePads k d).2 = dilatedK k d - 1 := by
  simp only [centrePads, dilatedK, Nat.add_sub_cancel]; omega

theorem causalPad_eq (k d : Nat) : (causalPad k d).1 = dilatedK k d - 1 ∧ (causalPad k d).2 = 0 := by
  simp [causalPad, dilatedK, Nat.mul_comm]

theorem causalPad_total (k d : Nat) : (causalPad k d).1 + (causalPad k d).2 = dilatedK k d - 1 := by
  rw [(causalPad_eq k d).1, (causalPad_eq k d).2, Nat.add_zero]

/-- `⌈n / s⌉` outputs for every padding that adds `w − 1` positions in total -/
theorem outLen_pad_total (n w s lo hi : Nat) (hn : 1 ≤ n) (hw : 1 ≤ w) (h : lo + hi = w - 1) :
    outLen (n + lo + hi) w s = (n - 1) / s + 1 := by
  rw [show n + lo + hi = (n - 1) + w by omega, outLen_add]

theorem samePads_total (n w s : Nat) :
    (samePads n w s).1 + (samePads n w s).2 = ((n + s - 1) / s - 1) * s + w - n :=
  Nat.add_sub_cancel' (Nat.div_le_self _ 2)

theorem outLen_of_bounds (m w s q : Nat) (h1 : q * s + w ≤ m) (h2 : m < q * s + w + s) :
    outLen m w s = q + 1 := by
  have hq : (m - w) / s = q := by
    rw [Nat.div_eq_iff (by omega)]
    omega
  rw [outLen, if_neg (by omega), hq]

theorem dilatedLen_of_pos (n ld : Nat) (hn : 1 ≤ n) : dilatedLen n ld = (n - 1) * ld + 1 := by
  simp [dilatedLen]; omega

/-- `lax._conv_transpose_padding`: the two pads add up to `k_d + s − 2`, plus `k_d − s` more for `'VALID'` -/
theorem transposePads_total (kd s : Nat) (same : Bool) :
    (transposePads kd s same).1 + (transposePads kd s same).2
      = (kd : Int) + s - 2 + ((if same then 0 else kd - s : Nat) : Int) := by
  cases same
  · simp only [transposePads, Bool.false_eq_true, if_false]
    split <;> omega
  · simp only [transposePads, if_true]; omega

theorem transpose_outLen (n kd s : Nat) (same : Bool) (hn : 1 ≤ n) (hk : 1 ≤ kd) (hs : 1 ≤ s) :
    outLen (((dilatedLen n s : Nat) : Int) + (transposePads kd s same).1 + (transposePads kd s same).2).toNat kd 1
      = n * s + (if same then 0 else kd - s) := by
  have hns : s ≤ n * s := Nat.le_mul_of_pos_left s hn
  rw [Int.add_assoc, transposePads_total, dilatedLen_of_pos n s hn, Nat.sub_one_mul]
  generalize (if same then 0 else kd - s) = extra
  rw [show (((n * s - s + 1 : Nat) : Int) + ((kd : Int) + s - 2 + (extra : Int))).toNat = (n * s - 1 + extra) + kd by omega,
    outLen_add, Nat.div_one, Nat.add_right_comm, Nat.sub_add_cancel (Nat.le_trans hs hns)]

theorem padSrc_zeros_eq (n lo i : Nat) :
    padSrc .zeros n lo i = if lo ≤ i ∧ i < lo + n then some (i - lo) else none := rfl

theorem padSrc_nopad {n i : Nat} (h : i < n) : padSrc .zeros n 0 i = some i := by
  rw [padSrc_zeros_eq, if_pos ⟨Nat.zero_le _, by omega⟩]
  rfl

theorem padSrc_wrap_eq (n lo i : Nat) (hn : n ≠ 0) : padSrc .wrap n lo i = some (((i : Int) - lo) % n).toNat :=
  if_neg hn

theorem wrap_shift (n : Nat) (hn : 0 < n) (A : Int) (r : Nat) :
    ((A % n).toNat + r) % n = ((A + r) % n).toNat := by
  have h1 : 0 ≤ A % n := Int.emod_nonneg _ (by omega)
  have h2 : 0 ≤ (A + r) % n := Int.emod_nonneg _ (by omega)
  apply Int.ofNat_inj.mp
  rw [Int.toNat_of_nonneg h2]
  push_cast
  rw [Int.toNat_of_nonneg h1, Int.emod_add_emod]

theorem pad1_zeros {R : Type} [Zero R] (n lo : Nat) (x : Nat → R) (i : Nat) :
    pad1 .zeros n lo x i = if lo ≤ i ∧ i < lo + n then x (i - lo) else 0 := by
  rw [pad1, padSrc_zeros_eq]
  by_cases h : lo ≤ i ∧ i < lo + n
  · rw [if_pos h, if_pos h]
  · rw [if_neg h, if_neg h]

theorem pad1_wrap {R : Type} [Zero R] (n lo : Nat) (x : Nat → R) (i : Nat) (hn : n ≠ 0) :
    pad1 .wrap n lo x i = x (((i : Int) - lo) % n).toNat := by
  rw [pad1, padSrc_wrap_eq n lo i hn]

/-- reflect padding has period `2(n−1)`: index `j` on the way up, `2(n−1) − j` on the way down -/
theorem padSrc_reflect_of_rem (n lo i j : Nat) (q : Int) (hn : 2 ≤ n) (hj : j < 2 * (n - 1))
    (h : (i : Int) - lo = j + (2 * (n - 1) : Nat) * q) :
    padSrc .reflect n lo i = some (if j < n then j else 2 * (n - 1) - j) := by
  have e : ((i : Int) - lo) % ((2 * (n - 1) : Nat) : Int) = j := by
    rw [h, Int.add_mul_emod_self_left, Int.emod_eq_of_lt (Int.natCast_nonneg j) (Int.ofNat_lt.mpr hj)]
  simp only [padSrc, show n ≠ 0 by omega, show n ≠ 1 by omega, if_false, e, Int.toNat_natCast]

theorem padSrc_reflect_of_dist (n lo i t : Nat) (q : Int) (hn : 2 ≤ n) (ht : t ≤ n - 1)
    (h : (i : Int) - lo = t + (2 * (n - 1) : Nat) * q ∨ (i : Int) - lo = -(t : Int) + (2 * (n - 1) : Nat) * q) :
    padSrc .reflect n lo i = some t := by
  by_cases ht0 : t = 0
  · rw [padSrc_reflect_of_rem n lo i 0 q hn (by omega) (by omega), if_pos (Nat.zero_lt_of_lt hn), ht0]
  · rcases h with h | h
    · rw [padSrc_reflect_of_rem n lo i t q hn (by omega) h, if_pos (Nat.lt_of_le_of_lt ht (Nat.sub_one_lt_of_lt hn))]
    · -- one period below: `−t ≡ 2(n−1) − t`, on the downward half unless `t = n − 1`
      rw [padSrc_reflect_of_rem n lo i (2 * (n - 1) - t) (q - 1) hn (by omega) (by rw [Int.mul_sub]; omega)]
      clear h
      congr 1
      split <;> omega

end Flax.Layers
