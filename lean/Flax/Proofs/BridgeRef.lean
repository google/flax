/-
The two reference semantics of C18 and what the refinement theorems ask: plain Linen use of a Linen
module (`LinenRef`, `runRef`) against the ToNNX wrapper (`runWrapper`; `ModOk`, `Sim`), plain NNX use of
an NNX module (`NnxUser`, `runNnxUser`) against a Linen caller of ToLinen (`runLinenCaller`; `NModOk`, `LSim`).
-/
import Flax.Proofs.BridgeTrans

namespace Flax.Bridge

section
variable {α β γ ι ο μ : Type}

/-- the invariant of a ToNNX wrapper between calls -/
structure WrapOk (s : ToNNX α) : Prop where
  inj : s.reg.Inj
  bounded : s.reg.Bounded
  attrs : AttrsOk s.reg s.attrs

/-- plain Linen use of the wrapped module: the caller keeps the variables and merges the returned
updates into them leaf by leaf -/
structure LinenRef (α : Type) where
  vars : Forest (LBox α)
  rngs : Rngs

def LinenRef.call (m : LinenMod α ι ο μ) (s : LinenRef α) (mu : Option μ) (x : ι) :
    Except Err (ο × LinenRef α) := do
  let (ks, rngs') := s.rngs.draw
  let (out, upd) ← m.apply s.vars ks mu x
  match mu with
  | none => pure (out, { s with rngs := rngs' })
  | some _ => do
      let v ← recursiveMerge s.vars upd
      pure (out, { vars := v, rngs := rngs' })

/-- updates that fit the variables they were computed from: convertible, and an attribute path of the
updates nests with an attribute path of the variables only when it is the same path in the same
collection (Linen never lets a name be a variable in one collection and something else in another) -/
structure Fits (r : Reg) (V U : Forest (LBox α)) : Prop where
  vars : VarsOk r U
  paths : ∀ c q c' q', leafAtF V (c :: q) ≠ none → leafAtF U (c' :: q') ≠ none →
    (q <+: q' ∨ q' <+: q) → q = q' ∧ c = c'

/-- what the refinement needs from the abstract wrapped module -/
structure ModOk (m : LinenMod α ι ο μ) : Prop where
  /-- `apply` reads its variables through look-ups only: dicts with the same leaves give the same result -/
  ext : ∀ V V' ks mu x, WFF V → WFF V' → Equiv V V' → m.apply V ks mu x = m.apply V' ks mu x
  /-- the updates it returns fit the variables it was given, for every registry state -/
  fits : ∀ r V ks mu x o U, r.Inj → r.Bounded → VarsOk r V → m.apply V ks mu x = .ok (o, U) → Fits r V U
  /-- `init` returns convertible variables -/
  initOk : ∀ r ks x o V, r.Inj → r.Bounded → m.init ks x = .ok (o, V) → VarsOk r V

/-- the wrapper and the reference are in step -/
structure Sim (s : ToNNX α) (ref : LinenRef α) : Prop where
  wrap : WrapOk s
  rngs : s.rngs = ref.rngs
  wf : WFF ref.vars
  held : ∃ V, s.heldVars = .ok V ∧ Equiv V ref.vars

def runWrapper (m : LinenMod α ι ο μ) : ToNNX α → List (Option μ × ι) → Except Err (List ο × ToNNX α)
  | s, [] => .ok ([], s)
  | s, (mu, x) :: rest => do
      let (o, s') ← s.call m mu x
      let (os, s'') ← runWrapper m s' rest
      pure (o :: os, s'')

def runRef (m : LinenMod α ι ο μ) : LinenRef α → List (Option μ × ι) → Except Err (List ο × LinenRef α)
  | s, [] => .ok ([], s)
  | s, (mu, x) :: rest => do
      let (o, s') ← s.call m mu x
      let (os, s'') ← runRef m s' rest
      pure (o :: os, s'')

end

section
variable {α ι ο γ : Type}

/-- plain NNX use: the user holds graph definition and state -/
structure NnxUser (α γ : Type) where
  gdef : γ
  state : Forest (NVar α)

/-- the collection a Variable belongs to is mutable -/
def mutableVar (r : Reg) (isMutable : String → Bool) (v : NVar α) : Bool :=
  match r.nameOf v.vtype with
  | some c => isMutable c
  | none => false

/-- the state a Linen-style caller ends up with when only some collections are mutable: Variables of
mutable collections take their new value, the others keep the old one;
made of the model's own `unflatten` and `recursiveMerge` -/
def keepMutable (r : Reg) (isMutable : String → Bool) (S S' : Forest (NVar α)) : Except Err (Forest (NVar α)) := do
  let f ← unflatten ((flattenF S').filter fun pv => mutableVar r isMutable pv.2)
  recursiveMerge S f

def NnxUser.step (m : NnxMod α ι ο γ) (r : Reg) (scopePath : Path) (u : NnxUser α γ) (rngs : Keys)
    (isMutable : String → Bool) (x : ι) : Except Err (ο × NnxUser α γ) := do
  let (out, g', S') ← m.call u.gdef (m.reseed u.state (linenRngsDict scopePath rngs)) x
  let S2 ← keepMutable r isMutable u.state S'
  pure (out, ⟨if isMutable "nnx" then g' else u.gdef, S2⟩)

/-- what the refinement needs from the abstract NNX module -/
structure NModOk (m : NnxMod α ι ο γ) : Prop where
  /-- reseed-and-call reads the state through look-ups only: on states with the same Variables it fails
  or succeeds alike, with the same output and graph definition and new states with the same Variables -/
  ext : ∀ g S S' ks x, WFF S → WFF S' → Equiv S S' →
    ∀ o g' T', m.call g (m.reseed S' ks) x = .ok (o, g', T') →
      ∃ T, m.call g (m.reseed S ks) x = .ok (o, g', T) ∧ Equiv T T'
  /-- a call keeps the set of Variables and their types (new structure would need a mutable `nnx`
  collection *and* shows up as a new graph definition; values and graph definition are free) -/
  shape : ∀ r g S ks x o g' S', AttrsOk r S → m.call g (m.reseed S ks) x = .ok (o, g', S') →
    AttrsOk r S' ∧ ∀ q, (leafAtF S' q).map (·.vtype) = (leafAtF S q).map (·.vtype)

/-- the Linen caller and the NNX user are in step -/
structure LSim (r : Reg) (lv : LinenVars α γ) (u : NnxUser α γ) : Prop where
  inj : r.Inj
  bounded : r.Bounded
  gdef : lv.gdef = some u.gdef
  attrs : AttrsOk r u.state
  nonnx : NoNnx r u.state
  exposes : Exposes r lv.vars u.state

/-- rngs of the Linen `apply`, mutable collections, input -/
abbrev LCall (ι : Type) := Keys × (String → Bool) × ι

/-- each step's registry is dropped: under `LSim` it is `r` itself (`lstep_sim`) -/
def runLinenCaller (m : NnxMod α ι ο γ) (r : Reg) (scopePath : Path) :
    LinenVars α γ → List (LCall ι) → Except Err (List ο × LinenVars α γ)
  | lv, [] => .ok ([], lv)
  | lv, (rngs, mu, x) :: rest => do
      let (o, _, lv') ← lv.step m r scopePath rngs mu x
      let (os, lv'') ← runLinenCaller m r scopePath lv' rest
      pure (o :: os, lv'')

def runNnxUser (m : NnxMod α ι ο γ) (r : Reg) (scopePath : Path) :
    NnxUser α γ → List (LCall ι) → Except Err (List ο × NnxUser α γ)
  | u, [] => .ok ([], u)
  | u, (rngs, mu, x) :: rest => do
      let (o, u') ← u.step m r scopePath rngs mu x
      let (os, u'') ← runNnxUser m r scopePath u' rest
      pure (o :: os, u'')

end

end Flax.Bridge
