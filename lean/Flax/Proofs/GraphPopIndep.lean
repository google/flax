/- `pop` for filters that do not look at the path (types, tags, their combinations: `pathFree`): being selected is then
a property of the Variable, not of the encounter.  First a second induction over `popNode` / `popItems` (`pop_post`, no
paths, no well-formedness): what is left behind is `Clean`, so nothing selected stays reachable.  Then `PopExact`, read
off the arbitrary-filter invariant, and the first path. -/
import Flax.Proofs.GraphPopOrder

namespace Flax.Graph
open Flax.Heap
open Flax.Filter (NFilter)

theorem deepRefs_child {h : Heap} {v w : PVal} {k : Key} {b : Addr} (hv : ∀ a, v ≠ .ref a)
    (hs : step h v k = some w) (hb : b ∈ deepRefs w) : b ∈ deepRefs v := by
  cases v with
  | ref a => exact absurd rfl (hv a)
  | seq t xs =>
    rw [deepRefs, ← deepRefsKV_enumFrom 0 xs]
    exact deepRefs_lookupKV hs b hb
  | dict kvs =>
    rw [deepRefs]
    exact deepRefs_lookupKV hs b hb
  | _ => cases hs

section PopInv
variable (preds : List NFilter)

/-- predicates that do not look at the path (types, tags and their combinations) -/
def PathIndep : Prop := ∀ (p q : Path) (l : Leaf), bucketOf preds (p, l) = bucketOf preds (q, l)

/-- the Variable at `b` is selected by one of the filters -/
def sel (hp : Heap) (b : Addr) : Prop :=
  ∃ ty val md, hp[b]? = some (.var ty val md) ∧ bucketOf preds ([], .vstate ty val md) < preds.length

/-- every reference in `v` is to a visited node or to a Variable that is not selected -/
def Clean (V : List Addr) (hp : Heap) (v : PVal) : Prop :=
  ∀ b ∈ deepRefs v, (∃ cls attrs, hp[b]? = some (.node cls attrs) ∧ b ∈ V) ∨
    (∃ ty val md, hp[b]? = some (.var ty val md) ∧ ¬ sel preds hp b)

def IsSelRef (hp : Heap) (v : PVal) : Prop := ∃ b, v = .ref b ∧ sel preds hp b

/-- Variables recorded in `id_to_index` were popped, hence selected -/
def VS (st : PopSt) : Prop := ∀ b ∈ st.visited, ∀ ty val md, st.heap[b]? = some (.var ty val md) → sel preds st.heap b

variable {preds}

theorem sel_shape {hp hp' : Heap} (s : PShape hp hp') (b : Addr) : sel preds hp b ↔ sel preds hp' b := by
  constructor
  · rintro ⟨ty, val, md, h1, h2⟩; exact ⟨ty, val, md, (s.var b ty val md).mp h1, h2⟩
  · rintro ⟨ty, val, md, h1, h2⟩; exact ⟨ty, val, md, (s.var b ty val md).mpr h1, h2⟩

theorem Clean.mono {V V' : List Addr} {hp hp' : Heap} (hv : ∀ a, a ∈ V → a ∈ V') (s : PShape hp hp') {v : PVal}
    (h : Clean preds V hp v) : Clean preds V' hp' v := by
  intro b hb
  rcases h b hb with ⟨cls, attrs, hg, hb⟩ | ⟨ty, val, md, hg, hns⟩
  · obtain ⟨attrs', hg', _⟩ := s.node b cls attrs hg
    exact Or.inl ⟨cls, attrs', hg', hv b hb⟩
  · exact Or.inr ⟨ty, val, md, (s.var b ty val md).mp hg, fun hs => hns ((sel_shape s b).mpr hs)⟩

theorem IsSelRef_shape {hp hp' : Heap} (s : PShape hp hp') (v : PVal) : IsSelRef preds hp v ↔ IsSelRef preds hp' v := by
  constructor
  · rintro ⟨b, e, h⟩; exact ⟨b, e, (sel_shape s b).mp h⟩
  · rintro ⟨b, e, h⟩; exact ⟨b, e, (sel_shape s b).mpr h⟩

/-- what a sub-run of `_graph_pop` guarantees; `owner` is the node whose attribute loop is running -/
structure PopPost (preds : List NFilter) (owner : Option Addr) (st st' : PopSt) : Prop where
  shape : PShape st.heap st'.heap
  sub : ∀ a, a ∈ st.visited → a ∈ st'.visited
  frame : ∀ (a : Nat), a ∈ st.visited → some a ≠ owner → st'.heap[a]? = st.heap[a]?
  vs : VS preds st'
  cleanNew : ∀ (a : Nat), a ∈ st'.visited → a ∉ st.visited → ∀ cls attrs, st'.heap[a]? = some (.node cls attrs) →
    ∀ kv ∈ attrs, Clean preds st'.visited st'.heap kv.2

theorem PopPost.refl {owner : Option Addr} {st : PopSt} (hvs : VS preds st) : PopPost preds owner st st :=
  ⟨PShape.refl _, fun _ h => h, fun _ _ _ => rfl, hvs, fun _ h1 h2 => absurd h1 h2⟩

theorem PopPost.weaken {owner : Option Addr} {st st' : PopSt} (p : PopPost preds Option.none st st') :
    PopPost preds owner st st' :=
  ⟨p.shape, p.sub, fun a ha _ => p.frame a ha (by simp), p.vs, p.cleanNew⟩

theorem PopPost.trans {owner : Option Addr} {st st1 st2 : PopSt} (ho : ∀ a, owner = some a → a ∈ st.visited)
    (p1 : PopPost preds owner st st1) (p2 : PopPost preds owner st1 st2) : PopPost preds owner st st2 := by
  refine ⟨p1.shape.trans p2.shape, fun a ha => p2.sub a (p1.sub a ha), ?_, p2.vs, ?_⟩
  · intro a ha hne
    rw [p2.frame a (p1.sub a ha) hne, p1.frame a ha hne]
  · intro a ha2 hna cls attrs hget kv hkv
    by_cases h1 : a ∈ st1.visited
    · have hne : some a ≠ owner := by
        intro e
        exact hna (ho a e.symm)
      rw [p2.frame a h1 hne] at hget
      exact (p1.cleanNew a h1 hna cls attrs hget kv hkv).mono p2.sub p2.shape
    · exact p2.cleanNew a ha2 h1 cls attrs hget kv hkv

/-- one pass of the attribute loop over `(k, v)`: `v` ends clean unless it refers to a selected Variable, and then the
owner has lost the key `k` -/
structure ItemPost (preds : List NFilter) (owner : Option Addr) (k : Key) (v : PVal) (st st1 : PopSt) : Prop where
  post : PopPost preds owner st st1
  clean : ¬ IsSelRef preds st.heap v → Clean preds st1.visited st1.heap v
  noOwner : owner = Option.none → ¬ IsSelRef preds st.heap v
  live : ∀ a cls live, owner = some a → st.heap[a]? = some (.node cls live) →
    ∃ live1, st1.heap[a]? = some (.node cls live1) ∧ (∀ kv ∈ live1, kv ∈ live) ∧
      (IsSelRef preds st.heap v → ∀ kv ∈ live1, kv.1 ≠ k)

theorem clean_of_no_refs {V : List Addr} {hp : Heap} {v : PVal} (h : deepRefs v = []) : Clean preds V hp v := by
  intro b hb; rw [h] at hb; cases hb

theorem itemPost_noop {owner : Option Addr} {k : Key} {v : PVal} {st : PopSt} (hvs : VS preds st)
    (hns : ¬ IsSelRef preds st.heap v) (hc : Clean preds st.visited st.heap v) : ItemPost preds owner k v st st :=
  ⟨PopPost.refl hvs, fun _ => hc, fun _ => hns,
   fun _ _ live _ hg => ⟨live, hg, fun _ h => h, fun hs => absurd hs hns⟩⟩

theorem itemPost_of_node {owner : Option Addr} {k : Key} {v : PVal} {st st1 : PopSt}
    (ho : ∀ a, owner = some a → a ∈ st.visited)
    (hns : ¬ IsSelRef preds st.heap v)
    (p : PopPost preds Option.none st st1) (hc : Clean preds st1.visited st1.heap v) : ItemPost preds owner k v st st1 :=
  ⟨p.weaken, fun _ => hc, fun _ => hns,
   fun a cls live ha hg => ⟨live, by rw [p.frame a (ho a ha) (by simp)]; exact hg, fun _ h => h, fun hs => absurd hs hns⟩⟩

theorem popItem_post (hPI : PathIndep preds) (fuel : Nat)
    (ihNode : ∀ path v st st', VS preds st → popNode true preds fuel path v st = .ok st' →
      PopPost preds Option.none st st' ∧ Clean preds st'.visited st'.heap v)
    (path : Path) (owner : Option Addr) (k : Key) (v : PVal) (st st1 : PopSt) (hvs : VS preds st)
    (ho : ∀ a, owner = some a → a ∈ st.visited)
    (h : popItem true preds fuel path owner k v st = .ok st1) : ItemPost preds owner k v st st1 := by
  rcases popItem_ok h with ⟨hv, rfl⟩ | ⟨hnode, hrun⟩ | ⟨b, ty, val, md, rfl, hget, hcase⟩
  · have hnr : ∀ b, v ≠ .ref b := by
      rcases hv with ⟨s, rfl⟩ | ⟨d, rfl⟩ <;> exact fun b e => PVal.noConfusion e
    have hd : deepRefs v = [] := by
      rcases hv with ⟨s, rfl⟩ | ⟨d, rfl⟩ <;> rfl
    exact itemPost_noop hvs (fun ⟨b, e, _⟩ => hnr b e) (clean_of_no_refs hd)
  · obtain ⟨p, hc⟩ := ihNode _ _ st st1 hvs hrun
    refine itemPost_of_node ho ?_ p hc
    rintro ⟨b, e, ty, val, md, hg, _⟩
    obtain ⟨cls, attrs, hget⟩ := hnode b e
    rw [hget] at hg; cases hg
  · -- the Variable is selected iff some predicate matches it at this path (path independence)
    have hsel_iff : sel preds st.heap b ↔ bucketOf preds (path ++ [k], .vstate ty val md) < preds.length := by
      constructor
      · rintro ⟨ty', val', md', hg, hlt⟩
        rw [hget] at hg; cases hg
        rw [hPI (path ++ [k]) [] _]; exact hlt
      · intro hlt
        exact ⟨ty, val, md, hget, by rw [hPI [] (path ++ [k]) _]; exact hlt⟩
    have erase_case : ∀ (a : Addr) (vis' : List Addr) (out' : List FlatState), owner = some a →
        sel preds st.heap b → (∃ new, vis' = st.visited ++ new ∧ ∀ x ∈ new, x = b) →
        ItemPost preds owner k (.ref b) st { heap := eraseAttr st.heap a k, visited := vis', out := out' } := by
      intro a vis' out' hoa hsel ⟨new, hvis, hnew⟩
      have hsh := eraseAttr_shape st.heap a k
      have hisr : IsSelRef preds st.heap (.ref b) := ⟨b, rfl, hsel⟩
      refine ⟨⟨hsh, fun x hx => hvis ▸ List.mem_append_left _ hx, ?_, ?_, ?_⟩, fun hn => absurd hisr hn,
        (fun hn => by rw [hoa] at hn; cases hn), ?_⟩
      · intro x _ hne
        have : x ≠ a := fun e => hne (by rw [e, hoa])
        exact eraseAttr_other _ _ _ _ this
      · intro x hx ty' val' md' hg
        simp only at hx hg
        have hg0 := (hsh.var x ty' val' md').mpr hg
        rw [hvis] at hx
        rcases List.mem_append.mp hx with h1 | h1
        · exact (sel_shape hsh x).mp (hvs x h1 ty' val' md' hg0)
        · rw [hnew x h1]; exact (sel_shape hsh b).mp hsel
      · intro x hx hnx cls attrs hg
        simp only at hx hg
        rw [hvis] at hx
        rcases List.mem_append.mp hx with h1 | h1
        · exact absurd h1 hnx
        · have := (hsh.var b ty val md).mp hget
          rw [hnew x h1] at hg
          rw [this] at hg; cases hg
      · intro a' cls live ha' hg
        rw [hoa] at ha'; cases ha'
        refine ⟨eraseKV k live, eraseAttr_self k hg, fun kv hkv => (mem_eraseKV.mp hkv).1, fun _ kv hkv => (mem_eraseKV.mp hkv).2⟩
    rcases hcase with ⟨hvis, a, rfl, rfl⟩ | ⟨hnvis, hlt, a, rfl, rfl⟩ | ⟨hnvis, hnlt, rfl⟩
    · exact erase_case a st.visited st.out rfl (hvs b hvis ty val md hget) ⟨[], by simp, by simp⟩
    · exact erase_case a _ _ rfl (hsel_iff.mpr hlt) ⟨[b], rfl, by simp⟩
    · have hns : ¬ sel preds st1.heap b := fun hs => hnlt (hsel_iff.mp hs)
      refine itemPost_noop hvs ?_ ?_
      · rintro ⟨b', e, hs⟩; cases e; exact hns hs
      · intro b' hb'
        simp [deepRefs] at hb'; subst hb'
        exact Or.inr ⟨ty, val, md, hget, hns⟩

theorem pop_post (hPI : PathIndep preds) : ∀ fuel : Nat,
    (∀ path v st st', VS preds st → popNode true preds fuel path v st = .ok st' →
      PopPost preds Option.none st st' ∧ Clean preds st'.visited st'.heap v) ∧
    (∀ path owner items st st', VS preds st → (∀ a, owner = some a → a ∈ st.visited) →
      popItems true preds fuel path owner items st = .ok st' →
      PopPost preds owner st st' ∧
      (∀ it ∈ items, ¬ IsSelRef preds st.heap it.2 → Clean preds st'.visited st'.heap it.2) ∧
      (owner = Option.none → ∀ it ∈ items, ¬ IsSelRef preds st.heap it.2) ∧
      (∀ a cls live, owner = some a → st.heap[a]? = some (.node cls live) →
        ∃ live', st'.heap[a]? = some (.node cls live') ∧ (∀ kv ∈ live', kv ∈ live) ∧
          (∀ kv ∈ live', ∀ it ∈ items, IsSelRef preds st.heap it.2 → it.1 ≠ kv.1))) := by
  intro fuel
  induction fuel with
  | zero =>
    constructor
    · intro path v st st' _ h; cases h
    · intro path owner items st st' _ _ h; cases h
  | succ fuel ih =>
    constructor
    · intro path v st st' hvs h
      rcases popNode_ok h with ⟨rfl, rfl⟩ | ⟨t, xs, rfl, h⟩ | ⟨kvs, rfl, h⟩ |
        ⟨a, cls, attrs, rfl, hget, ⟨hvis, rfl⟩ | ⟨hnvis, h⟩⟩
      · exact ⟨PopPost.refl hvs, clean_of_no_refs rfl⟩
      · obtain ⟨p, hc, hno, _⟩ := ih.2 path Option.none _ st st' hvs (fun a ha => by cases ha) h
        refine ⟨p, ?_⟩
        intro b hb
        rw [deepRefs, ← deepRefsKV_enumFrom 0 xs] at hb
        obtain ⟨kv, hkv, hbx⟩ := mem_deepRefsKV'.mp hb
        exact hc kv hkv (hno rfl kv hkv) b hbx
      · obtain ⟨p, hc, hno, _⟩ := ih.2 path Option.none _ st st' hvs (fun a ha => by cases ha) h
        refine ⟨p, ?_⟩
        intro b hb
        rw [deepRefs, ← mem_deepRefsKV_sortKV] at hb
        obtain ⟨kv, hkv, hbx⟩ := mem_deepRefsKV'.mp hb
        exact hc kv hkv (hno rfl kv hkv) b hbx
      · refine ⟨PopPost.refl hvs, ?_⟩
        intro b hb
        simp [deepRefs] at hb; subst hb
        exact Or.inl ⟨cls, attrs, hget, hvis⟩
      · have hvs1 : VS preds { st with visited := st.visited ++ [a] } := by
          intro x hx ty val md hg
          simp only at hx hg
          rcases List.mem_append.mp hx with h1 | h1
          · exact hvs x h1 ty val md hg
          · simp at h1; subst h1; rw [hget] at hg; cases hg
        obtain ⟨p, hc, _, hlive⟩ := ih.2 path (some a) _ _ st' hvs1 (fun a' ha' => by cases ha'; simp) h
        obtain ⟨live', hg', hsub, hsel⟩ := hlive a cls attrs rfl hget
        have ha' : a ∈ st'.visited := p.sub a (by simp)
        refine ⟨⟨p.shape, fun x hx => p.sub x (by simp [hx]), ?_, p.vs, ?_⟩, ?_⟩
        · intro x hx _
          have : x ≠ a := fun e => hnvis (e ▸ hx)
          exact p.frame x (by simp [hx]) (by simp [this])
        · intro x hx hnx cls' attrs' hgx kv hkv
          by_cases e : x = a
          · subst e
            rw [hg'] at hgx; cases hgx
            -- a remaining attribute is one of the scanned items and is not a selected reference
            have hin : kv ∈ sortKV attrs := mem_sortKV.mpr (hsub kv hkv)
            have hns : ¬ IsSelRef preds st.heap kv.2 := fun hs => hsel kv hkv kv hin hs rfl
            exact hc kv hin hns
          · exact p.cleanNew x hx (by simp [hnx, e]) cls' attrs' hgx kv hkv
        · intro b hb
          simp [deepRefs] at hb; subst hb
          exact Or.inl ⟨cls, live', hg', ha'⟩
    · intro path owner items st st' hvs ho h
      rcases popItems_ok h with ⟨rfl, rfl⟩ | ⟨k, v, rest, st1, rfl, hitem, h⟩
      · exact ⟨PopPost.refl hvs, by simp, by simp, fun a cls live _ hg => ⟨live, hg, fun _ h => h, by simp⟩⟩
      · have ip := popItem_post hPI fuel ih.1 path owner k v st st1 hvs ho hitem
        have ho1 : ∀ a, owner = some a → a ∈ st1.visited := fun a ha => ip.post.sub a (ho a ha)
        obtain ⟨p2, hc2, hno2, hlive2⟩ := ih.2 path owner rest st1 st' ip.post.vs ho1 h
        refine ⟨PopPost.trans ho ip.post p2, ?_, ?_, ?_⟩
        · intro it hit hns
          rcases List.mem_cons.mp hit with e | hr
          · subst e
            exact (ip.clean hns).mono p2.sub p2.shape
          · exact hc2 it hr (fun hs => hns ((IsSelRef_shape ip.post.shape it.2).mpr hs))
        · intro hnone it hit
          rcases List.mem_cons.mp hit with e | hr
          · subst e; exact ip.noOwner hnone
          · exact fun hs => hno2 hnone it hr ((IsSelRef_shape ip.post.shape it.2).mp hs)
        · intro a cls live ha hg
          obtain ⟨live1, hg1, hsub1, hk1⟩ := ip.live a cls live ha hg
          obtain ⟨live2, hg2, hsub2, hk2⟩ := hlive2 a cls live1 ha hg1
          refine ⟨live2, hg2, fun kv hkv => hsub1 kv (hsub2 kv hkv), ?_⟩
          intro kv hkv it hit hs
          rcases List.mem_cons.mp hit with e | hr
          · subst e
            exact fun e' => hk1 hs kv (hsub2 kv hkv) e'.symm
          · exact hk2 kv hkv it hr ((IsSelRef_shape ip.post.shape it.2).mp hs)

theorem pop_clean_paths (hPI : PathIndep preds) (h : Heap) (root : PVal) (h' : Heap) (outs : List FlatState)
    (hp : pop true h root preds = .ok (h', outs)) :
    PShape h h' ∧ ∀ (p : Path) (b : Addr), resolve h' root p = some (.ref b) → ¬ sel preds h' b := by
  obtain ⟨st', hrun, rfl, rfl⟩ := pop_ok hp
  have hvs0 : VS preds { heap := h, visited := [], out := List.map (fun _ => []) preds } := by
    intro b hb; cases hb
  obtain ⟨post, hroot⟩ := (pop_post hPI _).1 [] root _ st' hvs0 hrun
  refine ⟨post.shape, ?_⟩
  -- every value met along a path is clean: one step from a clean value reaches a clean value
  have cstep : ∀ {v v1 : PVal} (k : Key), Clean preds st'.visited st'.heap v → step st'.heap v k = some v1 →
      Clean preds st'.visited st'.heap v1 := by
    intro v v1 k hc hstep
    cases v with
    | ref a =>
      obtain ⟨cls, attrs, hget, hl⟩ := step_ref_some hstep
      have ha : a ∈ st'.visited := by
        rcases hc a (by simp [deepRefs]) with ⟨_, _, _, hv⟩ | ⟨ty, val, md, hg, _⟩
        · exact hv
        · rw [hget] at hg; cases hg
      exact post.cleanNew a ha (by simp) cls attrs hget (k, v1) (lookupKV_mem hl)
    | _ => exact fun b hb => hc b (deepRefs_child (fun _ e => PVal.noConfusion e) hstep hb)
  intro p b hr hs
  obtain ⟨_, _, _, hc⟩ := resolve_rel (R := fun v v' => v = v' ∧ Clean preds st'.visited st'.heap v)
    (fun k hv hstep => ⟨_, hv.1 ▸ hstep, rfl, cstep k hv.2 hstep⟩) p ⟨rfl, hroot⟩ hr
  rcases hc b (by simp [deepRefs]) with ⟨cls, attrs, hg, _⟩ | ⟨_, _, _, _, hns⟩
  · obtain ⟨ty, val, md, hg', _⟩ := hs
    rw [hg] at hg'; cases hg'
  · exact hns hs

end PopInv

open Flax.Filter (denote denoteAny denoteAll firstMatch)

mutual
  /-- filters built from types and tags only: they cannot observe the path -/
  def pathFree : NFilter → Bool
    | .pathContains _ => false
    | .pathIn _ => false
    | .any fs => pathFreeL fs
    | .allOf fs => pathFreeL fs
    | .not f => pathFree f
    | _ => true
  def pathFreeL : List NFilter → Bool
    | [] => true
    | f :: fs => pathFree f && pathFreeL fs
end

mutual
  theorem denote_pathFree : ∀ (f : NFilter), pathFree f = true → ∀ p q x, denote f p x = denote f q x
    | .withTag _, _, _, _, _ => by simp [denote]
    | .ofType _, _, _, _, _ => by simp [denote]
    | .everything, _, _, _, _ => by simp [denote]
    | .nothing, _, _, _, _ => by simp [denote]
    | .pathContains _, h, _, _, _ => by simp [pathFree] at h
    | .pathIn _, h, _, _, _ => by simp [pathFree] at h
    | .not f, h, p, q, x => by simp only [denote]; rw [denote_pathFree f (by simpa [pathFree] using h) p q x]
    | .any fs, h, p, q, x => by simp only [denote]; exact denoteAny_pathFree fs (by simpa [pathFree] using h) p q x
    | .allOf fs, h, p, q, x => by simp only [denote]; exact denoteAll_pathFree fs (by simpa [pathFree] using h) p q x
  theorem denoteAny_pathFree : ∀ (fs : List NFilter), pathFreeL fs = true → ∀ p q x, denoteAny fs p x = denoteAny fs q x
    | [], _, _, _, _ => by simp [denoteAny]
    | f :: fs, h, p, q, x => by
      simp only [pathFreeL, Bool.and_eq_true] at h
      simp only [denoteAny]
      rw [denote_pathFree f h.1 p q x, denoteAny_pathFree fs h.2 p q x]
  theorem denoteAll_pathFree : ∀ (fs : List NFilter), pathFreeL fs = true → ∀ p q x, denoteAll fs p x = denoteAll fs q x
    | [], _, _, _, _ => by simp [denoteAll]
    | f :: fs, h, p, q, x => by
      simp only [pathFreeL, Bool.and_eq_true] at h
      simp only [denoteAll]
      rw [denote_pathFree f h.1 p q x, denoteAll_pathFree fs h.2 p q x]
end

theorem firstMatch_pathFree : ∀ (preds : List NFilter), pathFreeL preds = true → ∀ p q x, firstMatch preds p x = firstMatch preds q x
  | [], _, _, _, _ => by simp [firstMatch]
  | f :: fs, h, p, q, x => by
    simp only [pathFreeL, Bool.and_eq_true] at h
    simp only [firstMatch]
    rw [denote_pathFree f h.1 p q x, firstMatch_pathFree fs h.2 p q x]

theorem pathIndep_of_pathFree (preds : List NFilter) (h : pathFreeL preds = true) : PathIndep preds := by
  intro p q l
  exact firstMatch_pathFree preds h _ _ _

section PopOut
variable (preds : List NFilter) (h0 : Heap) (root0 : PVal)

/-- `GInv2` for path-independent filters: a popped Variable is a selected one -/
structure GInv (st : PopSt) : Prop where
  shape0 : PShape h0 st.heap
  vs : VS preds st
  keeps : ∀ (a : Nat) cls attrs0, h0[a]? = some (.node cls attrs0) →
    ∃ live, st.heap[a]? = some (.node cls live) ∧ ∀ kv ∈ attrs0, ¬ IsSelRef preds h0 kv.2 → kv ∈ live
  erased : ∀ (a : Nat) cls attrs0 live, h0[a]? = some (.node cls attrs0) → st.heap[a]? = some (.node cls live) →
    ∀ kv ∈ attrs0, kv ∉ live → ∃ (b : Nat), kv.2 = .ref b ∧ b ∈ st.visited ∧ sel preds h0 b
  out : OutInv preds h0 root0 st

variable {preds h0 root0}

theorem GInv2.popped_sel (hPI : PathIndep preds) {st : PopSt} (g : GInv2 preds h0 root0 st) {b : Nat} (hb : b ∈ st.visited)
    {ty val md} (hb0 : h0[b]? = some (.var ty val md)) : sel preds h0 b := by
  obtain ⟨i, p, hp, _⟩ := g.out.complete b hb ty val md hb0
  obtain ⟨_, _, _, _, _, _, _, hi, hlt, _⟩ := g.out.sound i _ hp
  exact ⟨ty, val, md, hb0, by rw [hPI [] p, hi]; exact hlt⟩

theorem GInv2.toGInv (hPI : PathIndep preds) {st : PopSt} (g : GInv2 preds h0 root0 st) : GInv preds h0 root0 st := by
  have hsel : ∀ v, IsPoppedRef h0 st v → IsSelRef preds h0 v := by
    rintro v ⟨b, e, hb, ty, val, md, hb0⟩
    exact ⟨b, e, g.popped_sel hPI hb hb0⟩
  refine ⟨g.shape0, ?_, ?_, ?_, g.out⟩
  · intro b hb ty val md hg
    exact (sel_shape g.shape0 b).mp (g.popped_sel hPI hb ((g.shape0.var b ty val md).mpr hg))
  · intro a cls attrs0 hg
    obtain ⟨live, hl, hk⟩ := g.keeps a cls attrs0 hg
    exact ⟨live, hl, fun kv hkv hns => hk kv hkv (fun hp => hns (hsel _ hp))⟩
  · intro a cls attrs0 live hg hl kv hkv hnl
    obtain ⟨b, e, hb, ty, val, md, hb0⟩ := g.erased a cls attrs0 live hg hl kv hkv hnl
    exact ⟨b, e, hb, g.popped_sel hPI hb hb0⟩

/-- what `pop` returns and what it leaves behind (repaired definition, path-independent filters) -/
structure PopExact (preds : List NFilter) (h : Heap) (root : PVal) (h' : Heap) (outs : List FlatState) : Prop where
  len : outs.length = preds.length
  /-- every returned entry is a Variable of the original graph, under a path that reaches it, in the
  state of the first filter matching it -/
  sound : ∀ i, ∀ it ∈ outs.getD i [], ∃ (b : Nat), ∃ ty val md, it.2 = .vstate ty val md ∧ h[b]? = some (.var ty val md) ∧
    resolve h root it.1 = some (.ref b) ∧ bucketOf preds it = i ∧ i < preds.length
  /-- no Variable is returned twice (not even when it was shared) -/
  once : (∀ i, (outs.getD i []).Nodup) ∧ ∀ i j it it' (b : Nat), it ∈ outs.getD i [] → it' ∈ outs.getD j [] →
    resolve h root it.1 = some (.ref b) → resolve h root it'.1 = some (.ref b) → it = it' ∧ i = j
  /-- every selected Variable reachable from the node is returned -/
  complete : ∀ (q : Path) (b : Nat), resolve h root q = some (.ref b) → sel preds h b →
    ∃ i p ty val md, (p, Leaf.vstate ty val md) ∈ outs.getD i [] ∧ resolve h root p = some (.ref b)
  /-- only attributes are removed, nothing is allocated, Variables are untouched -/
  shape : PShape h h'
  /-- nothing but references to selected Variables is removed -/
  keeps : ∀ (a : Nat) cls attrs0, h[a]? = some (.node cls attrs0) →
    ∃ live, h'[a]? = some (.node cls live) ∧ ∀ kv ∈ attrs0, ¬ IsSelRef preds h kv.2 → kv ∈ live
  /-- afterwards no selected Variable is reachable from the node -/
  gone : ∀ (p : Path) (b : Nat), resolve h' root p = some (.ref b) → ¬ sel preds h b

theorem GInv.step_survives (hw : Heap.wf h0 = true) {st : PopSt} (g : GInv preds h0 root0 st) {u u1 : PVal} {k : Key}
    (hstep : step h0 u k = some u1) :
    step st.heap u k = some u1 ∨ ∃ (b' : Nat), u1 = .ref b' ∧ b' ∈ st.visited ∧ sel preds h0 b' := by
  cases u with
  | ref a =>
    obtain ⟨cls, attrs0, hg0, hl0⟩ := step_ref_some hstep
    obtain ⟨live, hl, _⟩ := g.keeps a cls attrs0 hg0
    have hmem0 := lookupKV_mem hl0
    by_cases hin : (k, u1) ∈ live
    · left
      rw [step_ref hl]
      cases hlk : lookupKV k live with
      | none => exact absurd hlk (lookupKV_ne_none_of_mem hin)
      | some w =>
        obtain ⟨attrs0', hg0', hsub⟩ := g.shape0.node_back hl
        rw [hg0] at hg0'; cases hg0'
        have := Assoc.eq_of_nodup_map (heap_wf_node hw hg0).1 (hsub _ (lookupKV_mem hlk)) hmem0 rfl
        cases this; rfl
    · exact Or.inr (g.erased a cls attrs0 live hg0 hl (k, u1) hmem0 hin)
  | _ => exact Or.inl hstep

theorem pop_exact_aux (hPI : PathIndep preds) (h : Heap) (root : PVal) (hw : Heap.wf h = true) (hrw : root.wf = true)
    (h' : Heap) (outs : List FlatState) (hp : pop true h root preds = .ok (h', outs)) :
    PopExact preds h root h' outs := by
  obtain ⟨hshape, hgone⟩ := pop_clean_paths hPI h root h' outs hp
  have pa := pop_any_aux h root hw hrw h' outs hp
  obtain ⟨_, _, _, st', _, r, _, rfl, rfl⟩ := pop_runs hw hrw hp
  have g : GInv preds h root st' := ((ginv2_init h root).run hw r).toGInv hPI
  -- a path of the original graph survives `pop` unless it runs into a popped Variable, and there it ends
  have surv : ∀ (q : Path) (u v : PVal), resolve h u q = some v →
      resolve st'.heap u q = some v ∨ ∃ (b' : Nat), v = .ref b' ∧ b' ∈ st'.visited ∧ sel preds h b' := by
    intro q
    induction q with
    | nil => intro u v hr; exact Or.inl hr
    | cons k q ih =>
      intro u v hr
      simp only [resolve] at hr ⊢
      split at hr
      · next u1 hstep =>
        rcases g.step_survives hw hstep with hs | ⟨b', e1, e2, e3⟩
        · simp only [hs]; exact ih u1 v hr
        · subst e1
          cases q with
          | nil => simp [resolve] at hr; subst hr; exact Or.inr ⟨b', rfl, e2, e3⟩
          | cons k2 q2 =>
            obtain ⟨ty, val, md, hb', _⟩ := e3
            simp [resolve, step, hb'] at hr
      · cases hr
  refine ⟨pa.len, pa.sound, pa.once, ?_, hshape, g.keeps, fun p b hr hs => hgone p b hr ((sel_shape hshape b).mp hs)⟩
  intro q b hr hs
  rcases surv q root (.ref b) hr with hr' | ⟨b', e1, e2, _⟩
  · exact absurd ((sel_shape hshape b).mp hs) (hgone q b hr')
  · cases e1
    obtain ⟨ty, val, md, hb, _⟩ := hs
    obtain ⟨i, p, hp', hrp⟩ := g.out.complete b e2 ty val md hb
    exact ⟨i, p, ty, val, md, hp', hrp⟩

end PopOut

section PopFirst
variable {preds : List NFilter} {h0 : Heap}

theorem encMatches_pathIndep (hPI : PathIndep preds) (b : Addr) (p q : Path) :
    encMatches preds h0 (b, p) = encMatches preds h0 (b, q) := by
  simp only [encMatches]
  cases h0[b]? with
  | none => rfl
  | some o =>
    cases o with
    | node _ _ => rfl
    | var ty val md => simp only [hPI p q]

theorem firstOcc_of_firstM (hPI : PathIndep preds) {b : Addr} {q : Path} {E : Log}
    (h : firstM preds h0 E b = some q) : firstOcc b E = some q := by
  -- some encounter of `b` matches, hence (path independence) every encounter of `b` does
  have hq := (firstM_some h).2
  simp only [firstM, Option.map_eq_some_iff] at h
  obtain ⟨⟨c, p⟩, he, rfl⟩ := h
  obtain ⟨hp, as, bs, rfl, hno⟩ := List.find?_eq_some_iff_append.mp he
  obtain rfl : c = b := by simp only [encPred, Bool.and_eq_true, decide_eq_true_eq] at hp; exact hp.1
  rw [firstOcc_append, firstOcc_none_of_not_mem, Option.none_or, firstOcc_cons_self]
  intro a ha hab
  have := hno a ha
  rw [encPred, ← hab, decide_eq_true rfl, Bool.true_and, encMatches_pathIndep hPI a.1 a.2 p, hab, hq] at this
  cases this

/-- The DFS is the one `pop_runs` gives, so nothing is assumed of `flatten`. -/
theorem pop_first_occ (hPI : PathIndep preds) (h : Heap) (root : PVal) (hw : Heap.wf h = true) (hrw : root.wf = true)
    (h' : Heap) (outs : List FlatState) (hp : pop true h root preds = .ok (h', outs)) :
    ∃ enc reg idx, traceVal (fuelFor h root + 1) h [] root [] = .ok (enc, reg, idx) ∧
      ∀ i, ∀ it ∈ outs.getD i [], ∃ b, resolve h root it.1 = some (.ref b) ∧ firstOcc b enc = some it.1 := by
  obtain ⟨enc, reg, idx, ht, _, po⟩ := pop_ordered h root hw hrw h' outs hp
  refine ⟨enc, reg, idx, ht, fun i it hit => ?_⟩
  obtain ⟨b, hb, hr⟩ := po.returned i it hit
  exact ⟨b, hr, firstOcc_of_firstM hPI hb⟩

theorem pop_first_path (hPI : PathIndep preds) (h : Heap) (root : PVal) (hw : Heap.wf h = true) (hrw : root.wf = true)
    (h' : Heap) (outs : List FlatState) (hp : pop true h root preds = .ok (h', outs))
    (gd : GDef) (ls : FlatState) (idx : RefIndex) (hf : flatten h root = .ok (gd, ls, idx)) :
    ∃ enc reg, trace h root = .ok (enc, reg, idx) ∧
      ∀ i, ∀ it ∈ outs.getD i [], ∃ b, resolve h root it.1 = some (.ref b) ∧ firstOcc b enc = some it.1 := by
  obtain ⟨enc, reg, idx', ht', hfo⟩ := pop_first_occ hPI h root hw hrw h' outs hp
  exact ⟨enc, reg, trace_of_one_more hw hrw hf ht', hfo⟩

end PopFirst

end Flax.Graph
