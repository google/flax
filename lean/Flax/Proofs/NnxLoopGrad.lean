/- C08 proofs: `nnx.grad` / `nnx.value_and_grad` — which leaves are differentiated, what is closed over, and
that the forward pass sees the caller's values (`ownedEntries`, `WFArgsG`, `grad_forward_sees_caller_values`) -/
import Flax.Proofs.NnxLoopArgs

namespace Flax.NnxLoop
open Flax.Filter Flax.LiftLoop

theorem split_diff_nondiff {α : Type} (f : NFilter) (flat : Flat α) :
    splitStatesX [f, .everything] flat =
      .ok [(flat.filter (fun x => denote f x.1 x.2.1)).map (fun x => (x.1, x.2.2)),
           (flat.filter (fun x => !(denote f x.1 x.2.1))).map (fun x => (x.1, x.2.2))] := by
  have hfm : ∀ x : Path × VarInfo × Arr α,
      firstMatch [f, .everything] x.1 x.2.1 = if denote f x.1 x.2.1 then 0 else 1 := by
    intro x
    by_cases h : denote f x.1 x.2.1 = true <;> simp [firstMatch, h, denote]
  simp only [splitStatesX]
  have hno : (flat.any fun x => firstMatch [f, .everything] x.1 x.2.1 == [f, NFilter.everything].length) = false := by
    simp only [List.any_eq_false, beq_iff_eq]
    intro x _
    rw [hfm]
    split <;> simp
  simp only [hno]
  simp only [List.length_cons, List.length_nil, List.range_succ, List.range_zero, List.nil_append, List.cons_append,
    List.map_cons, List.map_nil, Bool.false_eq_true, if_false]
  congr 2
  · congr 1
    apply List.filter_congr
    intro x _
    rw [hfm]
    by_cases h : denote f x.1 x.2.1 = true <;> simp [h]
  · congr 2
    apply List.filter_congr
    intro x _
    rw [hfm]
    by_cases h : denote f x.1 x.2.1 = true <;> simp [h]

theorem set_getElem?_self {β : Type} (l : List β) (k : Nat) (x : β) (h : l[k]? = some x) : l.set k x = l := by
  obtain ⟨hk, rfl⟩ := List.getElem?_eq_some_iff.1 h
  exact List.set_getElem_self hk

theorem substDin_dinOf {α : Type} (pure : List (GPure α)) : ∀ (argnums : List Nat) (dins : List (DIn α)),
    dinOf pure argnums = .ok dins → substDin pure (argnums.zip dins) = pure := by
  intro argnums
  induction argnums with
  | nil => intro dins _; simp [substDin]
  | cons k ks ih =>
    intro dins h
    obtain ⟨d, ds, hd, hds, rfl⟩ := mapX_cons_ok h
    simp only [List.zip_cons_cons, substDin]
    cases hk : pure[k]? with
    | none => simp [hk] at hd
    | some g =>
      cases g with
      | node gd st =>
        simp only [hk] at hd
        injection hd with hd
        subst hd
        simp only []
        rw [set_getElem?_self pure k _ hk]
        exact ih ds hds
      | arr a =>
        simp only [hk] at hd
        injection hd with hd
        subst hd
        simp only []
        rw [set_getElem?_self pure k _ hk]
        exact ih ds hds

/-- The value and the aux are those of *one* call of `GradFn` at the original values by the contract A-AD of
`jax.value_and_grad` (`ad.vag_val`), and the gradients have the paths and shapes of the differentiated leaves
(`ad.vag_struct`). -/
theorem nnxGrad_ok {α : Type} {ad : AD α} {argnums : List DiffArg} {hasAux : Bool} {body : Body α}
    {args : List (Arg α)} {store : Store α} {r : GradRes α}
    (h : nnxGrad ad argnums hasAux body args store = .ok r) :
    ∃ ifl pure nondiff dins ga,
      indexFilter argnums [] = .ok ifl ∧
      gradToTree store ((argFilters ifl args.length).zip args) [] [] = .ok (pure, nondiff) ∧
      dinOf pure (argnums.map (·.argnum)) = .ok dins ∧
      gradFn body hasAux nondiff pure = .ok (r.loss, ga) ∧
      r.aux = ga.aux ∧ gradWriteBack pure ga.argsOut store = .ok r.store ∧
      r.grads.map DIn.struct = dins.map DIn.struct := by
  simp only [nnxGrad] at h
  cases h1 : indexFilter argnums [] with
  | error e => simp [h1] at h
  | ok ifl =>
    simp only [h1] at h
    cases h2 : gradToTree store ((argFilters ifl args.length).zip args) [] [] with
    | error e => simp [h2] at h
    | ok pn =>
      obtain ⟨pure, nondiff⟩ := pn
      simp only [h2] at h
      cases h3 : dinOf pure (argnums.map (·.argnum)) with
      | error e => simp [h3] at h
      | ok dins =>
        simp only [h3] at h
        cases h4 : ad.vag (gradClosure body hasAux nondiff pure (argnums.map (·.argnum))) dins with
        | error e => simp [h4] at h
        | ok vg =>
          obtain ⟨⟨loss, ga⟩, grads⟩ := vg
          simp only [h4] at h
          cases h5 : gradWriteBack pure ga.argsOut store with
          | error e => simp [h5] at h
          | ok store' =>
            simp only [h5] at h
            injection h with h
            subst h
            have hval := ad.vag_val (gradClosure body hasAux nondiff pure (argnums.map (·.argnum))) dins
            rw [h4] at hval
            simp only [gradClosure, substDin_dinOf pure _ dins h3] at hval
            exact ⟨ifl, pure, nondiff, dins, ga, rfl, h2, h3, hval.symm, rfl, h5,
              ad.vag_struct _ _ _ _ h4⟩

theorem ad_extensional {α β : Type} (ad : AD α) (f g : List (DIn α) → Except Err (Arr α × β)) (x : List (DIn α))
    (hfg : ∀ y, f y = g y) : ad.vag f x = ad.vag g x := by
  have : f = g := funext hfg
  rw [this]

/-- all first occurrences over the arguments (grad: prefixes play no role in which Variables are reachable) -/
def ownedEntries {α π : Type} : List (π × Arg α) → List VarId → List Entry
  | [], _ => []
  | (_, .arr _) :: rest, seen => ownedEntries rest seen
  | (_, .node es) :: rest, seen => ownedOf es (markOwn es seen).1 ++ ownedEntries rest (markOwn es seen).2

def WFArgsG {α π : Type} (pas : List (π × Arg α)) : Prop :=
  ∀ pa ∈ pas, ∀ es, pa.2 = .node es → (es.map (·.path)).Nodup

theorem gradToTree_arr_ok {α : Type} {store : Store α} {p : Option NFilter} {a : Arr α}
    {rest : List (Option NFilter × Arg α)} {np : GPrefixes} {seen : List VarId}
    {res : List (GPure α) × List (Option (State α))}
    (h : gradToTree store ((p, .arr a) :: rest) np seen = .ok res) :
    ∃ r, gradToTree store rest np seen = .ok r ∧ res = (.arr a :: r.1, r.2) := by
  simp only [gradToTree] at h
  cases hr : gradToTree store rest np seen with
  | error e => simp [hr] at h
  | ok r => simp only [hr] at h; injection h with h; exact ⟨r, rfl, h.symm⟩

theorem gradToTree_node_ok {α : Type} {store : Store α} {p : Option NFilter} {es : List Entry}
    {rest : List (Option NFilter × Arg α)} {np : GPrefixes} {seen : List VarId}
    {res : List (GPure α) × List (Option (State α))}
    (h : gradToTree store ((p, .node es) :: rest) np seen = .ok res) :
    ∃ flat r st nd, flatOf (ownedOf es (markOwn es seen).1) store = .ok flat ∧
      gradToTree store rest (np ++ es.map (fun e => (e.id, p))) (markOwn es seen).2 = .ok r ∧
      res = (.node ⟨es, (markOwn es seen).1⟩ st :: r.1, nd :: r.2) ∧
      (∀ pv, pv ∈ st ++ nd.getD [] ↔ ∃ x ∈ flat, pv = (x.1, x.2.2)) := by
  simp only [gradToTree] at h
  split at h
  · cases h
  cases h2 : flatOf (ownedOf es (markOwn es seen).1) store with
  | error e => simp [h2] at h
  | ok flat =>
    simp only [h2] at h
    cases h3 : gradToTree store rest (np ++ es.map (fun e => (e.id, p))) (markOwn es seen).2 with
    | error e => simp [h3] at h
    | ok r =>
      simp only [h3] at h
      cases p with
      | none =>
        simp only [] at h
        injection h with h
        refine ⟨flat, r, _, none, rfl, rfl, h.symm, ?_⟩
        intro pv
        simp only [Option.getD_none, List.append_nil, List.mem_map]
        constructor
        · rintro ⟨x, hx, rfl⟩; exact ⟨x, hx, rfl⟩
        · rintro ⟨x, hx, rfl⟩; exact ⟨x, hx, rfl⟩
      | some f =>
        simp only [split_diff_nondiff] at h
        injection h with h
        refine ⟨flat, r, _, some _, rfl, rfl, h.symm, ?_⟩
        intro pv
        simp only [Option.getD_some, List.mem_append, List.mem_map, List.mem_filter]
        constructor
        · rintro (⟨x, ⟨hx, _⟩, rfl⟩ | ⟨x, ⟨hx, _⟩, rfl⟩) <;> exact ⟨x, hx, rfl⟩
        · rintro ⟨x, hx, rfl⟩
          by_cases hd : denote f x.1 x.2.1 = true
          · exact Or.inl ⟨x, ⟨hx, hd⟩, rfl⟩
          · exact Or.inr ⟨x, ⟨hx, by simpa using hd⟩, rfl⟩

/-- `GradFn` merges `diff` and the closed-over `nondiff` again: the traced function sees every reachable Variable once,
with the caller's value, selected or not. -/
theorem grad_forward_sees_caller_values {α : Type} (store : Store α) :
    ∀ (pas : List (Option NFilter × Arg α)) (np : GPrefixes) (seen : List VarId)
      (res : List (GPure α) × List (Option (State α))) (inner : Store α),
      WFArgsG pas → gradToTree store pas np seen = .ok res → inner.map (·.1) = seen →
      ∃ ins, mapX (fun (e : Entry) => match store.getX e.id with
          | .ok v => Except.ok (e.id, v)
          | .error err => .error err) (ownedEntries pas seen) = .ok ins ∧
        gradMergeAll res.1 res.2 inner = .ok (inner ++ ins) := by
  intro pas
  induction pas with
  | nil =>
    intro np seen res inner _ h _
    simp only [gradToTree] at h
    injection h with h
    subst h
    exact ⟨[], rfl, by simp [gradMergeAll]⟩
  | cons pa rest ih =>
    intro np seen res inner hwf h hinv
    obtain ⟨p, arg⟩ := pa
    cases arg with
    | arr a =>
      obtain ⟨r, hr, rfl⟩ := gradToTree_arr_ok h
      obtain ⟨ins, h1, h2⟩ := ih np seen r inner (fun q hq => hwf q (List.mem_cons_of_mem _ hq)) hr hinv
      exact ⟨ins, by simpa [ownedEntries] using h1, by simpa [gradMergeAll] using h2⟩
    | node es =>
      obtain ⟨flat, r, st, nd, hfl, hr, rfl, hmem⟩ := gradToTree_node_ok h
      have hes : (es.map (·.path)).Nodup := hwf (p, .node es) (by simp) es rfl
      have hnd : (flat.map (·.1)).Nodup := by rw [flatOf_paths hfl]; exact owned_paths_nodup _ hes
      have hlk := lookup_by_membership hnd (fun x => x.2.2) (st ++ nd.getD [])
        (fun x hx => (hmem _).2 ⟨x, hx, rfl⟩) (fun kb hkb => (hmem kb).1 hkb)
      obtain ⟨hfa, _⟩ := flatOf_ok_mem hfl
      have hown : ∀ e ∈ ownedOf es (markOwn es seen).1,
          ∃ v, (match store.getX e.id with
            | .ok v => Except.ok (e.id, v)
            | .error err => .error err) = .ok (e.id, v) ∧ (st ++ nd.getD []).lookup e.path = some v := by
        intro e he
        obtain ⟨v, hv, hm⟩ := hfa e he
        exact ⟨v, by simp only [Store.getX, hv], hlk _ hm⟩
      obtain ⟨ins1, hm1, hmerge, hinv'⟩ := mergeEntries_collected (st ++ nd.getD []) es seen inner hinv hown
      obtain ⟨ins, h1, h2⟩ := ih _ (markOwn es seen).2 r _ (fun q hq => hwf q (List.mem_cons_of_mem _ hq)) hr hinv'
      refine ⟨ins1 ++ ins, ?_, ?_⟩
      · simp only [ownedEntries]
        exact mapX_append_of_ok hm1 h1
      · simp only [gradMergeAll, hmerge]
        rw [h2, List.append_assoc]

end Flax.NnxLoop
