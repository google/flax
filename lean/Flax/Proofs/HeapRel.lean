/-
Values, attribute lists and objects related along an address map `φ` (`ValRel`, `ValsRel`, `KVsRel`, `ObjRel` of Model/Heap):
growth of the map (`PhiLe`), keys, lookups, positions, append / split, the range of `φ`, composition of two maps (`comp`), and the
relations that compare attribute dictionaries as maps (`OptRel`, `AttrsSim`, `ObjSim`), which sorted lists with distinct keys
turn back into the entrywise relation (`kvsRel_of_sorted`).
-/
import Flax.Model.Heap
import Flax.Proofs.GraphOrder
import Flax.Proofs.HeapKV

namespace Flax.Graph
open Flax.Heap

def PhiLe (φ φ' : Addr → Option Addr) : Prop := ∀ a b, φ a = some b → φ' a = some b

theorem PhiLe.refl (φ : Addr → Option Addr) : PhiLe φ φ := fun _ _ h => h

theorem PhiLe.trans {φ₁ φ₂ φ₃ : Addr → Option Addr} (h1 : PhiLe φ₁ φ₂) (h2 : PhiLe φ₂ φ₃) : PhiLe φ₁ φ₃ :=
  fun a b h => h2 a b (h1 a b h)

theorem ValRel.mono {φ φ' : Addr → Option Addr} (hle : PhiLe φ φ') {v w : PVal} (h : ValRel φ v w) : ValRel φ' v w :=
  -- by the recursor (also `valRel_comp`, `valRel_range`): structural recursion over the mutual family elaborates far more slowly
  ValRel.rec (motive_1 := fun v w _ => ValRel φ' v w) (motive_2 := fun xs ys _ => ValsRel φ' xs ys)
    (motive_3 := fun xs ys _ => KVsRel φ' xs ys)
    (fun s => .static s) (fun d => .array d) .none (fun h => .ref (hle _ _ h)) (fun _ ih => .seq ih) (fun _ ih => .dict ih)
    .nil (fun _ _ ih1 ih2 => .cons ih1 ih2) .nil (fun _ _ ih1 ih2 => .cons ih1 ih2) h

theorem ValsRel.mono {φ φ' : Addr → Option Addr} (hle : PhiLe φ φ') :
    ∀ {xs ys : List PVal}, ValsRel φ xs ys → ValsRel φ' xs ys
  | _, _, .nil => .nil
  | _, _, .cons h t => .cons (ValRel.mono hle h) (ValsRel.mono hle t)

theorem KVsRel.mono {φ φ' : Addr → Option Addr} (hle : PhiLe φ φ') :
    ∀ {xs ys : List (Key × PVal)}, KVsRel φ xs ys → KVsRel φ' xs ys
  | _, _, .nil => .nil
  | _, _, .cons h t => .cons (ValRel.mono hle h) (KVsRel.mono hle t)

theorem ObjRel.mono {φ φ' : Addr → Option Addr} (hle : PhiLe φ φ') {o o' : Obj} (h : ObjRel φ o o') :
    ObjRel φ' o o' := by
  cases h with
  | node hk => exact .node (KVsRel.mono hle hk)
  | var ty v md => exact .var ty v md

theorem KVsRel.keys {φ : Addr → Option Addr} : ∀ {xs ys : List (Key × PVal)}, KVsRel φ xs ys →
    xs.map (·.1) = ys.map (·.1)
  | _, _, .nil => rfl
  | _, _, .cons _ t => by simp [KVsRel.keys t]

theorem sorted_of_keys_eq {α β : Type} {xs : List (Key × α)} {ys : List (Key × β)}
    (hk : xs.map (·.1) = ys.map (·.1)) (hs : Sorted Key.lt xs) : Sorted Key.lt ys := by
  have h1 : (xs.map (·.1)).Pairwise (fun a b => Key.lt b a = false) := by
    rw [List.pairwise_map]; exact hs
  rw [hk, List.pairwise_map] at h1
  exact h1

theorem KVsRel.sortKV_right {φ : Addr → Option Addr} {l : List (Key × PVal)} {vs : List (Key × PVal)}
    (h : KVsRel φ (sortKV l) vs) : sortKV vs = vs :=
  sortBy_of_sorted vs (sorted_of_keys_eq (KVsRel.keys h) (sortBy_sorted Key.strictTotal l))

theorem KVsRel.enum_vals {φ : Addr → Option Addr} : ∀ {n : Nat} {xs : List PVal} {cs : List (Key × PVal)},
    KVsRel φ (enumFrom n xs) cs → ValsRel φ xs (cs.map (·.2))
  | _, [], _, h => by
    simp only [enumFrom] at h
    cases h
    exact .nil
  | n, x :: xs, cs, h => by
    simp only [enumFrom] at h
    cases h with
    | cons hv ht => exact .cons hv (KVsRel.enum_vals ht)

def OptRel (φ : Addr → Option Addr) (x y : Option PVal) : Prop :=
  (x = Option.none ∧ y = Option.none) ∨ ∃ v w, x = some v ∧ y = some w ∧ ValRel φ v w

theorem ValsRel.get {φ : Addr → Option Addr} : ∀ {xs ys : List PVal}, ValsRel φ xs ys → ∀ (r : Nat), OptRel φ xs[r]? ys[r]?
  | _, _, .nil, r => Or.inl ⟨by simp, by simp⟩
  | _, _, .cons (x := x) (y := y) hv ht, r => by
    cases r with
    | zero => exact Or.inr ⟨x, y, rfl, rfl, hv⟩
    | succ r => rw [List.getElem?_cons_succ, List.getElem?_cons_succ]; exact ValsRel.get ht r

theorem ValsRel.append {φ : Addr → Option Addr} : ∀ {xs ys xs' ys' : List PVal}, ValsRel φ xs ys → ValsRel φ xs' ys' →
    ValsRel φ (xs ++ xs') (ys ++ ys')
  | _, _, _, _, .nil, h2 => by simpa using h2
  | _, _, _, _, .cons hv ht, h2 => by simpa using ValsRel.cons hv (ValsRel.append ht h2)

theorem ValsRel.split {φ : Addr → Option Addr} : ∀ {xs ys zs : List PVal}, ValsRel φ (xs ++ ys) zs →
    ValsRel φ xs (zs.take xs.length) ∧ ValsRel φ ys (zs.drop xs.length)
  | [], ys, zs, h => by simpa using ⟨ValsRel.nil, h⟩
  | x :: xs, ys, zs, h => by
    cases h with
    | cons hv ht =>
      obtain ⟨h1, h2⟩ := ValsRel.split ht
      exact ⟨by simpa using ValsRel.cons hv h1, by simpa using h2⟩

theorem ValsRel.enum {φ : Addr → Option Addr} : ∀ {xs ys : List PVal} (n : Nat), ValsRel φ xs ys →
    KVsRel φ (enumFrom n xs) (enumFrom n ys)
  | _, _, _, .nil => .nil
  | _, _, n, .cons hv ht => .cons hv (ValsRel.enum (n + 1) ht)

theorem KVsRel.lookup {φ : Addr → Option Addr} (k : Key) : ∀ {l l' : List (Key × PVal)}, KVsRel φ l l' →
    OptRel φ (lookupKV k l) (lookupKV k l')
  | _, _, .nil => Or.inl ⟨rfl, rfl⟩
  | _, _, .cons (k := k0) (v := v) (w := w) hv ht => by
    simp only [lookupKV]
    by_cases e : k0 = k
    · simp only [e, if_true]; exact Or.inr ⟨v, w, rfl, rfl, hv⟩
    · simp only [e, if_false]; exact KVsRel.lookup k ht

theorem ValsRel.lookup_enum {φ : Addr → Option Addr} (k : Key) {xs ys : List PVal} (n : Nat) (h : ValsRel φ xs ys) :
    OptRel φ (lookupKV k (enumFrom n xs)) (lookupKV k (enumFrom n ys)) :=
  KVsRel.lookup k (ValsRel.enum n h)

end Flax.Graph

namespace Flax.Nnx
open Flax.Heap Flax.Graph

def AttrsSim (φ : Addr → Option Addr) (A A' : List (Key × PVal)) : Prop :=
  ∀ k, OptRel φ (lookupKV k A) (lookupKV k A')

theorem attrsSim_of_sorted {φ : Addr → Option Addr} {A A' : List (Key × PVal)} (h : KVsRel φ (sortKV A) (sortKV A')) :
    AttrsSim φ A A' := fun k => by
  have := KVsRel.lookup k h
  rwa [lookupKV_sortKV, lookupKV_sortKV] at this

/-- objects related as Python objects: same class and attribute map / same Variable type, value, metadata -/
inductive ObjSim (φ : Addr → Option Addr) : Obj → Obj → Prop where
  | node {cls : String} {A A' : List (Key × PVal)} : AttrsSim φ A A' → ObjSim φ (.node cls A) (.node cls A')
  | var (ty : VType) (v : Data) (md : Meta) : ObjSim φ (.var ty v md) (.var ty v md)

theorem objRel_toSim {φ : Addr → Option Addr} {o o' : Obj} (h : ObjRel φ o o') : ObjSim φ o o' := by
  cases h with
  | node hk => exact .node (attrsSim_of_sorted hk)
  | var ty v md => exact .var ty v md

theorem optRel_mono {φ φ' : Addr → Option Addr} (hle : PhiLe φ φ') {x y : Option PVal} (h : OptRel φ x y) :
    OptRel φ' x y := by
  rcases h with h | ⟨v, w, h1, h2, h3⟩
  · exact Or.inl h
  · exact Or.inr ⟨v, w, h1, h2, ValRel.mono hle h3⟩

theorem objSim_mono {φ φ' : Addr → Option Addr} (hle : PhiLe φ φ') {o o' : Obj} (h : ObjSim φ o o') :
    ObjSim φ' o o' := by
  cases h with
  | node ha => exact .node (fun k => optRel_mono hle (ha k))
  | var ty v md => exact .var ty v md

theorem valsRel_of_seq {φ : Addr → Option Addr} {t t' : Bool} {xs ys : List PVal} (h : ValRel φ (.seq t xs) (.seq t' ys)) :
    ValsRel φ xs ys := by
  cases h with
  | seq hs => exact hs

def comp (φ χ : Addr → Option Addr) (a : Addr) : Option Addr := (φ a).bind χ

theorem comp_eq_some {φ χ : Addr → Option Addr} {a c : Nat} : Nnx.comp φ χ a = some c ↔ ∃ b, φ a = some b ∧ χ b = some c :=
  Option.bind_eq_some_iff

theorem valRel_comp {φ χ : Addr → Option Addr} : ∀ {v w u : PVal}, ValRel φ v w → ValRel χ w u → ValRel (comp φ χ) v u :=
  fun {_ _ u} h => ValRel.rec (motive_1 := fun v w _ => ∀ u, ValRel χ w u → ValRel (comp φ χ) v u)
    (motive_2 := fun xs ys _ => ∀ zs, ValsRel χ ys zs → ValsRel (comp φ χ) xs zs)
    (motive_3 := fun xs ys _ => ∀ zs, KVsRel χ ys zs → KVsRel (comp φ χ) xs zs)
    (fun s _ h2 => by cases h2; exact .static s)
    (fun d _ h2 => by cases h2; exact .array d)
    (fun _ h2 => by cases h2; exact .none)
    (fun h _ h2 => by
      cases h2 with
      | ref h' => exact .ref (by simp [Nnx.comp, h, h']))
    (fun _ ih _ h2 => by
      cases h2 with
      | seq h' => exact .seq (ih _ h'))
    (fun _ ih _ h2 => by
      cases h2 with
      | dict h' => exact .dict (ih _ h'))
    (fun _ h2 => by cases h2; exact .nil)
    (fun _ _ ih1 ih2 _ h2 => by
      cases h2 with
      | cons h' t' => exact .cons (ih1 _ h') (ih2 _ t'))
    (fun _ h2 => by cases h2; exact .nil)
    (fun _ _ ih1 ih2 _ h2 => by
      cases h2 with
      | cons h' t' => exact .cons (ih1 _ h') (ih2 _ t'))
    h u

theorem kvsRel_comp {φ χ : Addr → Option Addr} : ∀ {xs ys zs : List (Key × PVal)}, KVsRel φ xs ys → KVsRel χ ys zs →
    KVsRel (comp φ χ) xs zs
  | _, _, _, .nil, h2 => by cases h2; exact .nil
  | _, _, _, .cons h t, h2 => by
    cases h2 with
    | cons h' t' => exact .cons (valRel_comp h h') (kvsRel_comp t t')

theorem optRel_comp {φ χ : Addr → Option Addr} {x y z : Option PVal} (h1 : OptRel φ x y) (h2 : OptRel χ y z) :
    OptRel (comp φ χ) x z := by
  rcases h1 with ⟨rfl, rfl⟩ | ⟨v, w, rfl, rfl, hv⟩
  · rcases h2 with ⟨_, rfl⟩ | ⟨w, u, hw, _, _⟩
    · exact Or.inl ⟨rfl, rfl⟩
    · cases hw
  · rcases h2 with ⟨hw, _⟩ | ⟨w', u, hw, rfl, hu⟩
    · cases hw
    · cases hw
      exact Or.inr ⟨v, u, rfl, rfl, valRel_comp hv hu⟩

theorem objSim_comp {φ χ : Addr → Option Addr} {o1 o2 o3 : Obj} (h1 : ObjSim φ o1 o2) (h2 : ObjSim χ o2 o3) :
    ObjSim (comp φ χ) o1 o3 := by
  cases h1 with
  | node ha =>
    cases h2 with
    | node hb => exact .node (fun k => optRel_comp (ha k) (hb k))
  | var ty v md =>
    cases h2 with
    | var _ _ _ => exact .var ty v md

theorem valsRel_length {φ : Addr → Option Addr} : ∀ {xs ys : List PVal}, ValsRel φ xs ys → xs.length = ys.length
  | _, _, .nil => rfl
  | _, _, .cons _ ht => by simp [valsRel_length ht]

theorem valRel_range {φ : Addr → Option Addr} : ∀ {v w : PVal}, ValRel φ v w → ∀ b ∈ deepRefs w, ∃ a, φ a = some b :=
  fun {_ _} h => ValRel.rec (motive_1 := fun _ w _ => ∀ b ∈ deepRefs w, ∃ a, φ a = some b)
    (motive_2 := fun _ ys _ => ∀ b ∈ deepRefsL ys, ∃ a, φ a = some b)
    (motive_3 := fun _ ys _ => ∀ b ∈ deepRefsKV ys, ∃ a, φ a = some b)
    (fun _ b hb => by simp [deepRefs] at hb)
    (fun _ b hb => by simp [deepRefs] at hb)
    (fun b hb => by simp [deepRefs] at hb)
    (fun {a _} hab b hb => by simp [deepRefs] at hb; subst hb; exact ⟨a, hab⟩)
    (fun _ ih b hb => ih b (by simpa [deepRefs] using hb))
    (fun _ ih b hb => ih b (mem_deepRefsKV_sortKV.mpr (by simpa [deepRefs] using hb)))
    (fun b hb => by simp [deepRefsL] at hb)
    (fun _ _ ih1 ih2 b hb => by
      simp only [deepRefsL, List.mem_append] at hb
      exact hb.elim (ih1 b) (ih2 b))
    (fun b hb => by simp [deepRefsKV] at hb)
    (fun _ _ ih1 ih2 b hb => by
      simp only [deepRefsKV, List.mem_append] at hb
      exact hb.elim (ih1 b) (ih2 b))
    h

theorem valsRel_range {φ : Addr → Option Addr} : ∀ {xs ys : List PVal}, ValsRel φ xs ys → ∀ b ∈ deepRefsL ys, ∃ a, φ a = some b :=
  fun h b hb => valRel_range (.seq (t := true) h) b (by simpa [deepRefs] using hb)

theorem kvsRel_range {φ : Addr → Option Addr} : ∀ {xs ys : List (Key × PVal)}, KVsRel φ xs ys →
    ∀ b ∈ deepRefsKV ys, ∃ a, φ a = some b
  | _, _, .nil, b, hb => by simp [deepRefsKV] at hb
  | _, _, .cons hv ht, b, hb => by
    simp only [deepRefsKV, List.mem_append] at hb
    rcases hb with hb | hb
    · exact valRel_range hv b hb
    · exact kvsRel_range ht b hb

theorem valsRel_ref_mem {φ : Addr → Option Addr} : ∀ {xs ys : List PVal}, ValsRel φ xs ys → ∀ {a : Nat}, PVal.ref a ∈ xs →
    ∃ b, φ a = some b
  | _, _, .nil, a, h => by simp at h
  | _, _, .cons hv ht, a, h => by
    rcases List.mem_cons.mp h with e | h'
    · subst e
      cases hv with
      | ref hab => exact ⟨_, hab⟩
    · exact valsRel_ref_mem ht h'

theorem valsRel_arrays {φ : Addr → Option Addr} : ∀ {pre : List PVal}, (∀ v ∈ pre, ∃ d, v = PVal.array d) → ValsRel φ pre pre
  | [], _ => .nil
  | v :: rest, h => by
    obtain ⟨d, rfl⟩ := h v (by simp)
    exact .cons (.array d) (valsRel_arrays (fun w hw => h w (List.mem_cons_of_mem _ hw)))

theorem lookupKV_below {k k' : Key} {v' : PVal} {T' : List (Key × PVal)} (s : SSorted Key.lt ((k', v') :: T'))
    (hlt : Key.lt k k' = true) : lookupKV k ((k', v') :: T') = Option.none :=
  lookupKV_none_of_notin (fun kv hkv e => by
    rcases List.mem_cons.mp hkv with rfl | h1
    · simp only at e; rw [e, Key.lt_irrefl] at hlt; cases hlt
    · have h2 := (List.pairwise_cons.mp s).1 kv h1
      simp only at h2
      rw [e] at h2
      have := Key.lt_trans hlt h2
      rw [Key.lt_irrefl] at this; cases this)

theorem kvsRel_of_sorted {φ : Addr → Option Addr} : ∀ {L L' : List (Key × PVal)}, SSorted Key.lt L → SSorted Key.lt L' →
    AttrsSim φ L L' → KVsRel φ L L'
  | [], [], _, _, _ => .nil
  | [], (k', v') :: T', _, _, h => by
    rcases h k' with ⟨_, h2⟩ | ⟨v, w, h1, _, _⟩
    · simp [lookupKV] at h2
    · simp [lookupKV] at h1
  | (k, v) :: T, [], _, _, h => by
    rcases h k with ⟨h1, _⟩ | ⟨v0, w, _, h2, _⟩
    · simp [lookupKV] at h1
    · simp [lookupKV] at h2
  | (k, v) :: T, (k', v') :: T', s1, s2, h => by
    have s1' := List.pairwise_cons.mp s1
    have s2' := List.pairwise_cons.mp s2
    have hT : ∀ kv ∈ T, kv.1 ≠ k := fun kv hkv e => by
      have := s1'.1 kv hkv; simp only at this; rw [e, Key.lt_irrefl] at this; cases this
    have hT' : ∀ kv ∈ T', kv.1 ≠ k' := fun kv hkv e => by
      have := s2'.1 kv hkv; simp only at this; rw [e, Key.lt_irrefl] at this; cases this
    have hkk : k = k' := by
      by_cases e : k = k'
      · exact e
      · exfalso
        rcases Key.lt_total e with hlt | hlt
        · -- k < k' ≤ every key of L': k is missing on the right
          rcases h k with ⟨h1, _⟩ | ⟨_, w, _, h2, _⟩
          · simp [lookupKV] at h1
          · rw [lookupKV_below s2 hlt] at h2; cases h2
        · rcases h k' with ⟨_, h2⟩ | ⟨v0, _, h1, _, _⟩
          · simp [lookupKV] at h2
          · rw [lookupKV_below s1 hlt] at h1; cases h1
    subst hkk
    have hv : ValRel φ v v' := by
      rcases h k with ⟨h1, _⟩ | ⟨v0, w, h1, h2, hr⟩
      · simp [lookupKV] at h1
      · simp [lookupKV] at h1 h2; subst h1; subst h2; exact hr
    refine .cons hv (kvsRel_of_sorted s1'.2 s2'.2 (fun k0 => ?_))
    by_cases e : k = k0
    · subst e
      rw [lookupKV_none_of_notin hT, lookupKV_none_of_notin hT']
      exact Or.inl ⟨rfl, rfl⟩
    · have := h k0
      simpa [lookupKV, e] using this

theorem attrsSim_sorted {φ : Addr → Option Addr} {A A' : List (Key × PVal)} (h : AttrsSim φ A A')
    (n : keysNodup A) (n' : keysNodup A') : KVsRel φ (sortKV A) (sortKV A') :=
  kvsRel_of_sorted (sortKV_ssorted n) (sortKV_ssorted n') (fun k => by
    rw [lookupKV_sortKV, lookupKV_sortKV]; exact h k)

end Flax.Nnx
