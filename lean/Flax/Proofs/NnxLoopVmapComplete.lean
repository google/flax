/- C08 proofs: `nnx.vmap` — the converse, one lemma per stage: with consistent aliasing, agreeing sizes and the
per-index reference defined, no stage of the implementation rejects; and `vmapDims_nonempty_mapped` for
`nnxVmap_accepts_iff` -/
import Flax.Proofs.NnxLoopVmapTop

namespace Flax.NnxLoop
open Flax.Filter Flax.LiftLoop

section comp
variable {α : Type} [Inhabited α]

theorem sliceArg_complete {store : Store α} (i : Nat) {pas : List (Prefix × Arg α)} {np : NodePrefixes}
    {seen : List VarId} {pure : List (PureArg α)} (hS : Splits store pas np seen pure) {ins : Store α}
    {arrs : List (Arr α)} (hins : mapX (sliceEntry store i) (ownedAll pas seen) = .ok ins)
    (harrs : mapX (sliceArr i) (arrArgs pas) = .ok arrs) : ∃ sl, mapX (sliceArg i) pure = .ok sl := by
  apply mapX_ok_of_forall
  intro x hx
  cases hS.mem x hx with
  | @arr p a hpa =>
    obtain ⟨v, hv, _⟩ := mapX_ok_mem harrs _ hpa
    cases p with
    | sa s => simp [sliceArr] at hv
    | ax ax => simp only [sliceArr] at hv; exact ⟨_, sliceArg_arr_ok.2 ⟨ax, v, rfl, hv, rfl⟩⟩
  | @node g p flat sts _ hfl hsp hown =>
    obtain ⟨sts', hsts'⟩ := mapX_ok_of_forall (f := fun q => sliceState i q.1 q.2) (p.axes.zip sts) (by
      intro q hq
      obtain ⟨a, s⟩ := q
      simp only [sliceState, leafMap]
      apply mapX_ok_of_forall
      intro pv hpv
      obtain ⟨e, heo, hat, _, hv⟩ := split_state_item hfl hsp hq hpv
      obtain ⟨y, hy, _⟩ := mapX_ok_mem hins _ (hown e heo)
      simp only [sliceEntry, hat, hv] at hy
      cases hsv : sliceVal i a pv.2 with
      | error err => simp [hsv] at hy
      | ok v' => exact ⟨(pv.1, v'), by simp⟩)
    exact ⟨_, sliceArg_node_ok.2 ⟨sts', hsts', rfl⟩⟩

/-- the reference's slices at `i` defined, the function is called on them: `Flax.C08.vmap_no_rejection_before_calls` -/
theorem vmap_call_defined {store : Store α} (i : Nat) {pas : List (Prefix × Arg α)} {np : NodePrefixes}
    {seen : List VarId} {pure : List (PureArg α)} (hS : Splits store pas np seen pure) (hwf : WFArgs pas)
    {ins : Store α} {arrs : List (Arr α)} (hins : mapX (sliceEntry store i) (ownedAll pas seen) = .ok ins)
    (harrs : mapX (sliceArr i) (arrArgs pas) = .ok arrs) (inner : Store α) (hinv : inner.map (·.1) = seen) :
    ∃ sl, mapX (sliceArg i) pure = .ok sl ∧ mergeAll sl inner = .ok (inner ++ ins) ∧ arraysOf sl = arrs := by
  obtain ⟨sl, hsl⟩ := sliceArg_complete i hS hins harrs
  obtain ⟨ins', e1, e2, e3⟩ := vmap_call_sees_slices i hS hwf sl inner hsl hinv
  cases hins.symm.trans e1
  exact ⟨sl, hsl, e2, Except.ok.inj (e3.symm.trans harrs)⟩

theorem splitArgOut_complete {store : Store α} (st : Store α) {pas : List (Prefix × Arg α)} {np : NodePrefixes}
    {seen : List VarId} {pure : List (PureArg α)} (hS : Splits store pas np seen pure)
    (hst : ∀ ep ∈ ownedAll pas seen, (st.lookup ep.1.id).isSome) : ∃ r, mapX (splitArgOut st) pure = .ok r := by
  apply mapX_ok_of_forall
  intro x hx
  cases hS.mem x hx with
  | arr _ => exact ⟨[], rfl⟩
  | @node g p flat sts _ hfl hsp hown =>
    obtain ⟨sts', hsts'⟩ := splitFlat_owned_ok (split_owned_at hfl hsp) st
    exact ⟨sts', by simp only [splitArgOut, flatOf_of_total _ _ (fun e he => hst _ (hown e he)), hsts']⟩

theorem no_carry_axes {p : Prefix} (h : p.hasCarry = false) : ∀ a ∈ p.axes, a ≠ .carry := by
  intro a ha hc
  subst hc
  cases p with
  | ax a' =>
    simp only [Prefix.axes, List.mem_singleton] at ha
    subst ha
    simp [Prefix.hasCarry] at h
  | sa s =>
    simp only [Prefix.axes, List.mem_map] at ha
    obtain ⟨fa, hfa, he⟩ := ha
    simp only [Prefix.hasCarry, List.any_eq_false, decide_eq_true_eq] at h
    exact h fa hfa he

omit [Inhabited α] in
theorem vmapDims_complete {store : Store α} (n : Nat) {pas : List (Prefix × Arg α)} {np : NodePrefixes}
    {seen : List VarId} {pure : List (PureArg α)} (hS : Splits store pas np seen pure)
    (hnc : ∀ pa ∈ pas, pa.1.hasCarry = false)
    (hsz : ∀ ep ∈ ownedAll pas seen, ∀ k, ep.2.at ep.1 = .ok (.axis k) →
      ∃ v, store.lookup ep.1.id = some v ∧ dimAt k v = .ok n)
    (harr : ∀ pa ∈ arrArgs pas, (∃ k, pa.1 = .ax (.axis k) ∧ dimAt k pa.2 = .ok n) ∨ pa.1 = .ax .bcast) :
    ∃ dims, vmapDims pure = .ok dims ∧ ∀ d ∈ dims, d = n := by
  obtain ⟨dss, hdss, hn⟩ := mapX_ok_all (f := argDims) (P := fun ds => ∀ d ∈ ds, d = n) pure (by
    intro x hx
    cases hS.mem x hx with
    | @arr p a hpa =>
      rcases harr _ hpa with ⟨k, hk, hd⟩ | hb
      · cases hk; exact ⟨[n], by simp [argDims, hd, liftL], by simp⟩
      · cases hb; exact ⟨[], rfl, by simp⟩
    | @node g p flat sts hpa hfl hsp hown =>
      have hpc := no_carry_axes (hnc _ hpa)
      obtain ⟨ds, hds, hdn⟩ := mapX_ok_all (f := fun q => stateDims q.1 q.2) (P := fun ds => ∀ d ∈ ds, d = n)
        (p.axes.zip sts) (by
          intro q hq
          obtain ⟨a, s⟩ := q
          cases a with
          | carry => exact absurd rfl (hpc _ (List.of_mem_zip hq).1)
          | bcast => exact ⟨[], rfl, by simp⟩
          | axis k =>
            refine mapX_ok_all s (fun pv hpv => ?_)
            obtain ⟨e, heo, hat, _, hv⟩ := split_state_item hfl hsp hq hpv
            obtain ⟨v, hv', hd⟩ := hsz _ (hown e heo) k hat
            cases hv.symm.trans hv'
            exact ⟨n, by rw [hd]; rfl, rfl⟩)
      exact ⟨ds.flatten, by simp only [argDims, statesDims, hds], List.forall_mem_flatten.2 hdn⟩)
  exact ⟨dss.flatten, vmapDims_ok_iff.2 ⟨dss, hdss, rfl⟩, List.forall_mem_flatten.2 hn⟩

omit [Inhabited α] in
theorem vmapDims_nonempty_mapped {store : Store α} {pas : List (Prefix × Arg α)} {np : NodePrefixes}
    {seen : List VarId} {pure : List (PureArg α)} {dims : List Nat} (hS : Splits store pas np seen pure)
    (hd : vmapDims pure = .ok dims) (hne : dims ≠ []) : HasMapped pas seen := by
  obtain ⟨dss, hdss, rfl⟩ := vmapDims_ok_iff.1 hd
  obtain ⟨dx, hdx, hdxne⟩ := List.flatten_ne_nil_iff.1 hne
  obtain ⟨x, hx, hxe⟩ := mapX_ok_mem_rev hdss dx hdx
  cases hS.mem x hx with
  | @arr p a hpa =>
    right
    cases p with
    | sa s => simp [argDims] at hxe
    | ax ax =>
      cases ax with
      | carry => simp [argDims] at hxe
      | bcast => cases hxe; exact absurd rfl hdxne
      | axis k => exact ⟨_, hpa, k, rfl⟩
  | @node g p flat sts _ hfl hsp hown =>
    left
    simp only [argDims, statesDims] at hxe
    cases hm : mapX (fun q => stateDims q.1 q.2) (p.axes.zip sts) with
    | error e => simp [hm] at hxe
    | ok dsq =>
      simp only [hm] at hxe
      cases hxe
      obtain ⟨ds, hds, hdne⟩ := List.flatten_ne_nil_iff.1 hdxne
      obtain ⟨q, hq, hqe⟩ := mapX_ok_mem_rev hm ds hds
      obtain ⟨a, s⟩ := q
      cases a with
      | carry => simp [stateDims] at hqe
      | bcast => cases hqe; exact absurd rfl hdne
      | axis k =>
        cases s with
        | nil => cases hqe; exact absurd rfl hdne
        | cons pv s' =>
          obtain ⟨e, heo, hat, _, _⟩ := split_state_item hfl hsp hq List.mem_cons_self
          exact ⟨_, hown e heo, k, hat⟩

/-- group by group: a `None` group takes the index-0 state; in an axis group every leaf's per-index values are those the
reference puts together (`holds_lookups`), so `jnp.stack` accepts them -/
theorem vmapCollectStates_complete {p : Prefix} (hpc : ∀ a ∈ p.axes, a ≠ .carry) {n0 : Flat α} {rest : List (Flat α)}
    (hnd : (n0.map (·.1)).Nodup)
    (hkeys : ∀ fl ∈ n0 :: rest, fl.map (fun x => (x.1, x.2.1)) = n0.map (fun x => (x.1, x.2.1)))
    {rows : List (List (State α))} (hrows : mapX (splitFlat p) (n0 :: rest) = .ok rows)
    (hitem : ∀ x ∈ n0, ∃ a vs v, axAt p x.1 x.2.1 = some a ∧
      mapX (fun fl => valAt fl x.1) (n0 :: rest) = .ok vs ∧ collectVal a vs = .ok v) :
    ∃ cs, vmapCollectStates p.axes rows = .ok cs := by
  have hm : ∀ row ∈ rows, row.length = p.axes.length := by
    intro row hr
    obtain ⟨fl, _, hfl⟩ := mapX_ok_mem_rev hrows row hr
    exact (splitFlat_spec hfl).1
  obtain ⟨row0, rowsR, hrow0, _, hre⟩ := mapX_cons_ok hrows
  obtain ⟨hlen0, hmem0, hlt0⟩ := splitFlat_spec hrow0
  simp only [vmapCollectStates]
  apply mapX_ok_of_forall
  intro q hq
  obtain ⟨g, a⟩ := q
  obtain ⟨j, hj1, hj2⟩ := mem_zip_iff.1 hq
  have hjl : j < p.axes.length := (List.getElem?_eq_some_iff.1 hj2).1
  have hgj : g = j := by
    rw [List.getElem?_range hjl] at hj1; exact (Option.some.inj hj1).symm
  subst hgj
  have hcol := column_getD g ([] : State α) rows (fun row hr => by rw [hm row hr]; exact hjl)
  simp only [hcol]
  have hg0 : g < row0.length := by omega
  have hhead : rows.map (fun row => row.getD g []) = row0[g] :: (rowsR.map (fun row => row.getD g [])) := by
    rw [hre]; simp [List.getD_eq_getElem?_getD, List.getElem?_eq_getElem hg0]
  cases a with
  | carry => exact absurd rfl (hpc _ (List.mem_of_getElem? hj2))
  | bcast => rw [hhead]; exact ⟨_, rfl⟩
  | axis k =>
    simp only [vmapCollectState]
    rw [hhead]
    simp only [stackStates]
    rw [← hhead]
    apply mapX_ok_of_forall
    intro pv hpv
    obtain ⟨y, hy, he, hgy⟩ := (hmem0 g _ (List.getElem?_eq_getElem hg0) pv).1 hpv
    subst he
    obtain ⟨hlenc, hh⟩ := holds_column hnd hkeys hrows hcol
    obtain ⟨vs, hvs, hlk⟩ := holds_lookups hnd hlenc hh hy hgy
    obtain ⟨a', vs', v, ha', hvs', hv⟩ := hitem y hy
    rw [hvs] at hvs'
    injection hvs' with hvs'
    subst hvs'
    have haa : a' = .axis k := by
      simp only [axAt, hgy, hj2] at ha'
      exact (Option.some.inj ha').symm
    subst haa
    have hst : liftL (stackAt k y.2.2.shape vs) = .ok v := by
      obtain ⟨t, rfl⟩ := vals_head hnd hy hvs
      exact hv
    simp only []
    generalize hmm : mapX _ (rows.map (fun row => row.getD g [])) = m
    have hm' : m = .ok vs := hmm.symm.trans hlk
    subst hm'
    simp only [hst]
    exact ⟨_, rfl⟩

theorem collectEntry_item {p : Prefix} {owned : List Entry} (hndO : (owned.map (·.path)).Nodup)
    {sts : List (Store α)} {flats : List (Flat α)} (hflats : mapX (flatOf owned) sts = .ok flats)
    {vals : List (VarId × Arr α)} (hvals : mapX (collectEntry sts) (owned.map (fun e => (e, p))) = .ok vals)
    {n0 : Flat α} {st : Store α} (hst : flatOf owned st = .ok n0) :
    ∀ x ∈ n0, ∃ a vs v, axAt p x.1 x.2.1 = some a ∧ mapX (fun fl => valAt fl x.1) flats = .ok vs ∧
      collectVal a vs = .ok v := by
  intro x hx
  obtain ⟨e, he, _, hp1, hp2⟩ := (flatOf_ok_mem hst).2 x hx
  rw [mapX_map] at hvals
  obtain ⟨y, hy, _⟩ := mapX_ok_mem hvals e he
  obtain ⟨a, vs, v, hat, hg, hc, _⟩ := collectEntry_ok_iff.1 hy
  exact ⟨a, vs, v, by rw [hp1, hp2]; exact (prefix_at_eq_axAt p e a).1 hat,
    by rw [hp1, ← valAt_flats_eq_getX hndO he hflats]; exact hg, hc⟩

theorem vmapWriteBack_complete {store0 : Store α} {pas : List (Prefix × Arg α)} {np : NodePrefixes}
    {seen : List VarId} {pure : List (PureArg α)} (hS : Splits store0 pas np seen pure) (hwf : WFArgs pas)
    (hnc : ∀ pa ∈ pas, pa.1.hasCarry = false) (a0 : Store α) (arest : List (Store α)) :
    ∀ (rows : List (List (List (State α)))) (vals : List (VarId × Arr α)),
      mapX (fun st => mapX (splitArgOut st) pure) (a0 :: arest) = .ok rows →
      mapX (collectEntry (a0 :: arest)) (ownedAll pas seen) = .ok vals →
      ∀ store, ∃ store', vmapWriteBack rows pure store = .ok store' := by
  induction hS with
  | nil => intro rows vals _ _ store; exact ⟨store, rfl⟩
  | arr _ ih =>
    intro rows vals hrows hvals store
    obtain ⟨heads, rows', _, e2, _, e4⟩ := rows_cons hrows
    simp only [vmapWriteBack, e4]
    exact ih (WFArgs_tail hwf) (fun q hq => hnc q (List.mem_cons_of_mem _ hq)) rows' vals e2 hvals store
  | @node p es rest np np' seen flat sts r _ hfl hsp _ ih =>
    intro rows vals hrows hvals store
    obtain ⟨heads, rows', e1, e2, e3, e4⟩ := rows_cons hrows
    simp only [ownedAll] at hvals
    obtain ⟨v1, v2, hv1, hv2, _⟩ := mapX_append_ok hvals
    simp only [splitArgOut_node, GraphDef.owned] at e1
    obtain ⟨flats, hflats, hheads⟩ := mapX_comp_ok e1
    obtain ⟨n0, frest, hn0, hfrest, rfl⟩ := mapX_cons_ok hflats
    have hndO := hwf.head_owned_nodup (markOwn es seen).1
    obtain ⟨hnd, hkeys⟩ := flats_keys hndO hflats
    have hitem := collectEntry_item (p := p) hndO hflats hv1 hn0
    have hpc := no_carry_axes (hnc (p, .node es) (by simp))
    obtain ⟨cs, hcs⟩ := vmapCollectStates_complete hpc hnd hkeys hheads hitem
    have hown := collectEntry_lookup (p := p) hndO hflats hn0 (vmap_collect_lookup hnd hkeys hheads hcs)
    obtain ⟨vals1, _, hus⟩ := updateStore_collected (F := collectEntry (a0 :: arest))
      (ownedOf es (markOwn es seen).1) store hown
    obtain ⟨store', hs'⟩ := ih (WFArgs_tail hwf) (fun q hq => hnc q (List.mem_cons_of_mem _ hq)) rows' v2 e2 hv2
      (writeAll vals1 store)
    refine ⟨store', ?_⟩
    simp only [vmapWriteBack, e3, hcs, GraphDef.owned, hus, e4]
    exact hs'

theorem collectNode_item {q : Prefix} {n0 : Flat α} {rest : List (Flat α)} {fl : Flat α}
    (h : collectNode q (n0 :: rest) = .ok fl) :
    ∀ x ∈ n0, ∃ a vs v, q.at ⟨x.1, 0, x.2.1⟩ = .ok a ∧ mapX (fun f => valAt f x.1) (n0 :: rest) = .ok vs ∧
      collectVal a vs = .ok v := by
  intro x hx
  simp only [collectNode] at h
  obtain ⟨y, hy, _⟩ := mapX_ok_mem h x hx
  cases hat : q.at ⟨x.1, 0, x.2.1⟩ with
  | error e => simp [hat] at hy
  | ok a =>
    simp only [hat] at hy
    cases hv : mapX (fun f => valAt f x.1) (n0 :: rest) with
    | error e => simp [hv] at hy
    | ok vs =>
      simp only [hv] at hy
      cases hc : collectVal a vs with
      | error e => simp [hc] at hy
      | ok v => exact ⟨a, vs, v, rfl, rfl, hc⟩

/-- the inner `to_tree` of the results does not reject when the reference can put the results together -/
theorem collectOut_splitOut {q : Prefix} {o0 : Out α} {orest : List (Out α)} {out : Out α}
    (h : collectOut q (o0 :: orest) = .ok out) (hwf : OutColWF (o0 :: orest)) :
    ∀ o ∈ o0 :: orest, ∃ po, splitOut (q, o) = .ok po := by
  cases o0 with
  | argRef k => simp [collectOut] at h
  | arr a0 =>
    simp only [collectOut] at h
    cases q with
    | sa s => simp at h
    | ax a =>
      simp only [] at h
      cases hm : mapX Out.arr? (Out.arr a0 :: orest) with
      | error e => simp [hm] at h
      | ok vs =>
        intro o ho
        obtain ⟨v, hv, _⟩ := mapX_ok_mem hm o ho
        cases o with
        | arr a' => exact ⟨_, rfl⟩
        | node n => simp [Out.arr?] at hv
        | argRef k => simp [Out.arr?] at hv
  | node n0 =>
    obtain ⟨nodes, fl, hm, hc, _⟩ := collectOut_node_ok.1 h
    obtain ⟨nd0, ndr, hnd0, _, rfl⟩ := mapX_cons_ok hm
    simp only [Out.node?] at hnd0
    injection hnd0 with hnd0
    subst hnd0
    have hitem := collectNode_item hc
    obtain ⟨hnd, hk⟩ := hwf
    intro o ho
    obtain ⟨n, hn, _⟩ := mapX_ok_mem hm o ho
    cases o with
    | arr a' => simp [Out.node?] at hn
    | argRef k => simp [Out.node?] at hn
    | node n' =>
      have hkeys := hk _ ho n' rfl
      have hat : ∀ x' ∈ n', ∃ a, q.at ⟨x'.1, 0, x'.2.1⟩ = .ok a := by
        intro x' hx'
        obtain ⟨x, hx, h1, h2⟩ := mem_of_keys (fl := n0) (fl0 := n') hkeys.symm hx'
        obtain ⟨a, _, _, ha, _, _⟩ := hitem x hx
        exact ⟨a, by rw [← h1, ← h2]; exact ha⟩
      obtain ⟨sts, hsts⟩ := splitFlat_ok_of_at q n' hat
      exact ⟨_, splitOut_ok_iff.2 (.inr ⟨n', sts, rfl, hat, hsts, rfl⟩)⟩

theorem vmap_collect_out_complete {q : Prefix} (hqc : q.hasCarry = false) {o0 : Out α} {orest : List (Out α)}
    {p0 : PureOut α} {prest : List (PureOut α)} {out : Out α}
    (hsp : mapX (fun o => splitOut (q, o)) (o0 :: orest) = .ok (p0 :: prest))
    (hwf : OutColWF (o0 :: orest)) (h : collectOut q (o0 :: orest) = .ok out) :
    ∃ out', vmapCollectOut p0 (p0 :: prest) = .ok out' := by
  have harr : mapX outArr (p0 :: prest) = mapX Out.arr? (o0 :: orest) :=
    mapX_through hsp (fun x _ y hy => splitOut_arr hy)
  obtain ⟨y, ys, hp0, _, heq⟩ := mapX_cons_ok hsp
  injection heq with heq1 heq2
  subst heq1
  rcases splitOut_ok_iff.1 hp0 with ⟨a0, rfl, rfl⟩ | ⟨n0, sts0, rfl, _, _, hp0'⟩
  · exact ⟨out, (vmapCollectOut_arr harr).2 h⟩
  · obtain ⟨nodes, fl, hm, hc, _⟩ := collectOut_node_ok.1 h
    have hst : ∀ po ∈ p0 :: prest, ∃ sts, outStates po = .ok sts := by
      intro po hpo
      obtain ⟨o, ho, hso⟩ := mapX_ok_mem_rev hsp po hpo
      obtain ⟨n, hn, _⟩ := mapX_ok_mem hm o ho
      rcases splitOut_ok_iff.1 hso with ⟨a, rfl, _⟩ | ⟨n', sts, _, _, _, rfl⟩
      · cases hn
      · exact ⟨sts, rfl⟩
    obtain ⟨rows, hrows⟩ := mapX_ok_of_forall (f := outStates) (p0 :: prest) hst
    obtain ⟨ndr, hnodes, hrows', hnd, hkeys⟩ := node_col hsp hwf hrows
    rw [hm] at hnodes
    injection hnodes with hnodes
    subst hnodes
    have hitem : ∀ x ∈ n0, ∃ a vs v, axAt q x.1 x.2.1 = some a ∧
        mapX (fun f => valAt f x.1) (n0 :: ndr) = .ok vs ∧ collectVal a vs = .ok v := by
      intro x hx
      obtain ⟨a, vs, v, ha, hvs, hv⟩ := collectNode_item hc x hx
      exact ⟨a, vs, v, (prefix_at_eq_axAt q ⟨x.1, 0, x.2.1⟩ a).1 ha, hvs, hv⟩
    obtain ⟨cs, hcs⟩ := vmapCollectStates_complete (no_carry_axes hqc) hnd hkeys hrows' hitem
    have hlk := vmap_collect_lookup hnd hkeys hrows' hcs
    subst hp0'
    have hrb : ∃ fl', rebuildNode (n0.map (fun x => (x.1, x.2.1))) cs = .ok fl' := by
      simp only [rebuildNode, mapX_map]
      apply mapX_ok_of_forall
      intro x hx
      obtain ⟨_, _, v, _, _, _, hl⟩ := hlk x hx
      exact ⟨(x.1, x.2.1, v), by simp only [hl]⟩
    obtain ⟨fl', hfl'⟩ := hrb
    exact ⟨.node fl', by simp only [vmapCollectOut, hrows, hcs, hfl']⟩

end comp

end Flax.NnxLoop
