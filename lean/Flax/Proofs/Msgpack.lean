/-
The msgpack wire format (`Flax/Model/Msgpack.lean`): the decoder's dispatch on the tag byte as a table (`fmt`), what
each header function of the packer emits and how it is read back (`Head`), and from these the round trip.
-/
import Flax.Model.Msgpack

namespace Flax.Msgpack

mutual
  /-- the values the wire format can carry -/
  def MVal.WF : MVal → Prop
    | .nil => True
    | .bool _ => True
    | .int i => -(2 ^ 63 : Int) ≤ i ∧ i < (2 ^ 64 : Int)
    | .f64 bits => bits < 2 ^ 64
    | .str s => s.length < 2 ^ 32
    | .bin b => b.length < 2 ^ 32
    | .arr xs => xs.length < 2 ^ 32 ∧ WFList xs
    | .map kvs => kvs.length < 2 ^ 32 ∧ WFPairs kvs
    | .ext code data => code < 128 ∧ data.length < 2 ^ 32
  def WFList : List MVal → Prop
    | [] => True
    | x :: r => x.WF ∧ WFList r
  def WFPairs : List (MVal × MVal) → Prop
    | [] => True
    | (k, v) :: r => k.WF ∧ v.WF ∧ WFPairs r
end

mutual
  def MVal.depth : MVal → Nat
    | .arr xs => 1 + depthList xs
    | .map kvs => 1 + depthPairs kvs
    | _ => 1
  def depthList : List MVal → Nat
    | [] => 0
    | x :: r => max x.depth (depthList r)
  def depthPairs : List (MVal × MVal) → Nat
    | [] => 0
    | (k, v) :: r => max k.depth (max v.depth (depthPairs r))
end

theorem length_be : ∀ (k n : Nat), (be k n).length = k
  | 0, _ => rfl
  | k + 1, n => by simp [be, length_be k n]

theorem foldl_be (n : Nat) : ∀ (k acc : Nat),
    (be k n).foldl (fun acc b => acc * 256 + b) acc = acc * 256 ^ k + n % 256 ^ k
  | 0, acc => by simp [be, Nat.mod_one]
  | k + 1, acc => by
    simp only [be, List.foldl_cons]
    rw [foldl_be n k]
    have h := Nat.mod_mul (a := 256 ^ k) (b := 256) (x := n)
    rw [Nat.pow_succ, h, Nat.add_mul, Nat.mul_assoc, Nat.mul_comm 256 (256 ^ k),
      Nat.mul_comm (n / 256 ^ k % 256)]
    omega

theorem fromBe_be (k n : Nat) (h : n < 256 ^ k) : fromBe (be k n) = n := by
  simp only [fromBe, foldl_be]
  rw [Nat.mod_eq_of_lt h]
  omega

theorem takeN_eq (k : Nat) (bs : Bytes) :
    takeN k bs = if k ≤ bs.length then some (bs.take k, bs.drop k) else none := by
  cases k with
  | zero => rfl
  | succ k =>
    rw [takeN, ← List.tail_drop]
    cases hd : bs.drop k with
    | nil => rw [if_neg (Nat.not_le_of_lt (Nat.lt_succ_of_le (List.drop_eq_nil_iff.mp hd)))]
    | cons a r =>
      rw [if_pos (Nat.succ_le_of_lt (Nat.lt_of_not_le fun h => by rw [List.drop_eq_nil_iff.mpr h] at hd; cases hd))]; rfl

theorem takeN_append (k : Nat) (h r : Bytes) (hl : h.length = k) : takeN k (h ++ r) = some (h, r) := by
  rw [takeN_eq, if_pos (by rw [List.length_append, hl]; exact Nat.le_add_right _ _), List.take_left' hl,
    List.drop_left' hl]

theorem readBe_be (k n : Nat) (r : Bytes) (h : n < 256 ^ k) : readBe k (be k n ++ r) = some (n, r) := by
  simp [readBe, takeN_append k (be k n) r (length_be k n), fromBe_be k n h]

/-! The decoder's dispatch on the tag byte, as a table: what the tag announces (`fmt`) and how that is read
(`Fmt.read`). The proofs reason about the few shapes of `Fmt`, not about the thirty-odd tags. -/

abbrev Reader := Bytes → Option (MVal × Bytes)

/-- the formats whose body is read once a length is known -/
inductive Kind
  | str | bin | ext | arr | map

def Kind.read (rd : Reader) : Kind → Nat → Reader
  | .str => readStr
  | .bin => readBin
  | .ext => readExt
  | .arr => readArr rd
  | .map => readMap rd

inductive Fmt
  /-- the tag is the value (`nil`, `true`, `false`, fixints) -/
  | imm (v : MVal)
  | uint (k : Nat)
  | sint (k : Nat)
  | f64
  /-- the tag carries the length -/
  | fix (c : Kind) (n : Nat)
  /-- a `k`-byte length field follows -/
  | len (c : Kind) (k : Nat)
  | bad

def Fmt.read (rd : Reader) : Fmt → Reader
  | .imm v, rest => some (v, rest)
  | .uint k, rest => readUInt k rest
  | .sint k, rest => readSInt k rest
  | .f64, rest =>
    match readBe 8 rest with
    | none => none
    | some (n, r) => some (.f64 n, r)
  | .fix c n, rest => c.read rd n rest
  | .len c k, rest => withLen k rest (c.read rd)
  | .bad, _ => none

def fmt (b : Nat) : Fmt :=
  if b < 0x80 then .imm (.int b)
  else if b < 0x90 then .fix .map (b - 0x80)
  else if b < 0xa0 then .fix .arr (b - 0x90)
  else if b < 0xc0 then .fix .str (b - 0xa0)
  else if b = 0xc0 then .imm .nil
  else if b = 0xc2 then .imm (.bool false)
  else if b = 0xc3 then .imm (.bool true)
  else if b = 0xc4 then .len .bin 1
  else if b = 0xc5 then .len .bin 2
  else if b = 0xc6 then .len .bin 4
  else if b = 0xc7 then .len .ext 1
  else if b = 0xc8 then .len .ext 2
  else if b = 0xc9 then .len .ext 4
  else if b = 0xcb then .f64
  else if b = 0xcc then .uint 1
  else if b = 0xcd then .uint 2
  else if b = 0xce then .uint 4
  else if b = 0xcf then .uint 8
  else if b = 0xd0 then .sint 1
  else if b = 0xd1 then .sint 2
  else if b = 0xd2 then .sint 4
  else if b = 0xd3 then .sint 8
  else if b = 0xd4 then .fix .ext 1
  else if b = 0xd5 then .fix .ext 2
  else if b = 0xd6 then .fix .ext 4
  else if b = 0xd7 then .fix .ext 8
  else if b = 0xd8 then .fix .ext 16
  else if b = 0xd9 then .len .str 1
  else if b = 0xda then .len .str 2
  else if b = 0xdb then .len .str 4
  else if b = 0xdc then .len .arr 2
  else if b = 0xdd then .len .arr 4
  else if b = 0xde then .len .map 2
  else if b = 0xdf then .len .map 4
  else if 0xe0 ≤ b ∧ b < 0x100 then .imm (.int (toSigned 1 b))
  else .bad

theorem unpackF_cons (fuel b : Nat) (rest : Bytes) :
    unpackF (fuel + 1) (b :: rest) = (fmt b).read (unpackF fuel) rest := by
  simp only [fmt, apply_ite (fun f : Fmt => f.read (unpackF fuel) rest)]
  rfl

/-! The tags that carry a number; for a literal tag `fmt t = …` holds by `rfl`. -/

theorem fmt_posfix {b : Nat} (h : b < 0x80) : fmt b = .imm (.int b) := by
  rw [fmt, if_pos h]

theorem fmt_fixmap {n : Nat} (h : n < 16) : fmt (0x80 + n) = .fix .map n := by
  rw [fmt, if_neg (by omega), if_pos (by omega), Nat.add_sub_cancel_left]

theorem fmt_fixarr {n : Nat} (h : n < 16) : fmt (0x90 + n) = .fix .arr n := by
  rw [fmt, if_neg (by omega), if_neg (by omega), if_pos (by omega), Nat.add_sub_cancel_left]

theorem fmt_fixstr {n : Nat} (h : n < 32) : fmt (0xa0 + n) = .fix .str n := by
  rw [fmt, if_neg (by omega), if_neg (by omega), if_neg (by omega), if_pos (by omega),
    Nat.add_sub_cancel_left]

theorem fmt_negfix {b : Nat} (h1 : 0xe0 ≤ b) (h2 : b < 0x100) : fmt b = .imm (.int (toSigned 1 b)) := by
  unfold fmt
  -- `b` lies above every bound and every single tag tested before the last branch
  repeat rw [if_neg (Nat.not_lt.mpr (Nat.le_trans (by decide) h1))]
  repeat rw [if_neg (Nat.ne_of_gt (Nat.lt_of_lt_of_le (by decide) h1))]
  rw [if_pos ⟨h1, h2⟩]

theorem withLen_be (k n : Nat) (r : Bytes) (body : Nat → Reader) (h : n < 256 ^ k) :
    withLen k (be k n ++ r) body = body n r := by
  rw [withLen, readBe_be k n r h]

theorem unpackF_imm {t : Nat} {v : MVal} (ht : fmt t = .imm v) (fuel : Nat) (rest : Bytes) :
    unpackF (fuel + 1) (t :: rest) = some (v, rest) := by
  rw [unpackF_cons, ht]; rfl

theorem unpackF_fix {t n : Nat} {c : Kind} (ht : fmt t = .fix c n) (fuel : Nat) (body : Bytes) :
    unpackF (fuel + 1) (t :: body) = c.read (unpackF fuel) n body := by
  rw [unpackF_cons, ht]; rfl

theorem unpackF_len {t k n : Nat} {c : Kind} (ht : fmt t = .len c k) (hn : n < 256 ^ k)
    (fuel : Nat) (body : Bytes) :
    unpackF (fuel + 1) (t :: (be k n ++ body)) = c.read (unpackF fuel) n body := by
  rw [unpackF_cons, ht]; exact withLen_be k n body _ hn

theorem unpackF_uint {t k n : Nat} (ht : fmt t = .uint k) (hn : n < 256 ^ k) (fuel : Nat) (rest : Bytes) :
    unpackF (fuel + 1) (t :: (be k n ++ rest)) = some (.int n, rest) := by
  rw [unpackF_cons, ht, Fmt.read, readUInt, readBe_be k n rest hn]

theorem toSigned_ofSigned (k : Nat) (hk : 1 ≤ k) (i : Int) (h1 : -(2 ^ (8 * k - 1) : Nat) ≤ i) (h2 : i < 0) :
    toSigned k (ofSigned k i) = i ∧ ofSigned k i < 256 ^ k := by
  have hp : (2 : Nat) ^ (8 * k) = 2 * 2 ^ (8 * k - 1) := by
    rw [← Nat.pow_succ']; congr 1; omega
  have h256 : (256 : Nat) ^ k = 2 ^ (8 * k) := by
    rw [show (256 : Nat) = 2 ^ 8 by rfl, ← Nat.pow_mul]
  rw [h256, toSigned, ofSigned, hp]
  constructor
  · split <;> omega
  · omega

theorem unpackF_sint {t k : Nat} (ht : fmt t = .sint k) (hk : 1 ≤ k) {i : Int}
    (h1 : -(2 ^ (8 * k - 1) : Nat) ≤ i) (h2 : i < 0) (fuel : Nat) (rest : Bytes) :
    unpackF (fuel + 1) (t :: (be k (ofSigned k i) ++ rest)) = some (.int i, rest) := by
  have hs := toSigned_ofSigned k hk i h1 h2
  rw [unpackF_cons, ht, Fmt.read, readSInt, readBe_be k _ rest hs.2]
  simp only [hs.1]

def IsBytes (bs : Bytes) : Prop := ∀ b ∈ bs, b < 256

theorem isBytes_nil : IsBytes [] := by intro x hx; cases hx

theorem isBytes_cons {a : Nat} {b : Bytes} (ha : a < 256) (hb : IsBytes b) : IsBytes (a :: b) :=
  List.forall_mem_cons.mpr ⟨ha, hb⟩

theorem isBytes_append {a b : Bytes} (ha : IsBytes a) (hb : IsBytes b) : IsBytes (a ++ b) :=
  List.forall_mem_append.mpr ⟨ha, hb⟩

theorem isBytes_be : ∀ (k n : Nat), IsBytes (be k n)
  | 0, _ => isBytes_nil
  | k + 1, n => isBytes_cons (Nat.mod_lt _ (by omega)) (isBytes_be k n)

/-- a tag byte and a big-endian field of at most `w` bytes: every header and every packed int -/
def Tagged (w : Nat) (bs : Bytes) : Prop := ∃ t k m, t < 256 ∧ k ≤ w ∧ bs = t :: be k m

theorem Tagged.single {w t : Nat} (ht : t < 256) : Tagged w [t] := ⟨t, 0, 0, ht, Nat.zero_le w, rfl⟩

theorem Tagged.cons {w : Nat} (t k m : Nat) (ht : t < 256) (hk : k ≤ w) : Tagged w (t :: be k m) :=
  ⟨t, k, m, ht, hk, rfl⟩

theorem Tagged.length_le {w : Nat} {bs : Bytes} (h : Tagged w bs) : bs.length ≤ w + 1 := by
  obtain ⟨t, k, m, _, hk, rfl⟩ := h
  rw [List.length_cons, length_be]; omega

theorem Tagged.one_le_length {w : Nat} {bs : Bytes} (h : Tagged w bs) : 1 ≤ bs.length := by
  obtain ⟨t, k, m, _, _, rfl⟩ := h
  rw [List.length_cons]; omega

theorem Tagged.isBytes {w : Nat} {bs : Bytes} (h : Tagged w bs) : IsBytes bs := by
  obtain ⟨t, k, m, ht, _, rfl⟩ := h
  exact isBytes_cons ht (isBytes_be k m)

theorem Tagged.add_le_append {w d : Nat} {h p : Bytes} (ht : Tagged w h) (hp : d ≤ p.length) :
    1 + d ≤ (h ++ p).length := by
  rw [List.length_append]; exact Nat.add_le_add ht.one_le_length hp

theorem Tagged.one_le_append {w : Nat} {h : Bytes} (ht : Tagged w h) (p : Bytes) : 1 ≤ (h ++ p).length :=
  ht.add_le_append (Nat.zero_le _)

/-- how the packer's cascades over the size of a number are walked -/
theorem ite_ind {α : Type} {Q : α → Prop} {c : Prop} [Decidable c] {a b : α} (ha : c → Q a) (hb : ¬c → Q b) :
    Q (if c then a else b) := by
  by_cases h : c
  · rw [if_pos h]; exact ha h
  · rw [if_neg h]; exact hb h

/-- The head of an encoding: `h` is a tag and a field of at most `w` bytes, and under `P` (the limit below which the
number fits its field) the decoder, having read `h`, goes on with `g`. The shape gives lengths and byte range, the
read-back the round trip; stated together, they are proved in one walk through the cascade of a packer function. -/
def Head (w : Nat) (P : Prop) (g : Reader → Reader) (h : Bytes) : Prop :=
  Tagged w h ∧ (P → ∀ (fuel : Nat) (rest : Bytes), unpackF (fuel + 1) (h ++ rest) = g (unpackF fuel) rest)

namespace Head
variable {w : Nat} {P : Prop} {g : Reader → Reader}

theorem tagged {h : Bytes} (hh : Head w P g h) : Tagged w h := hh.1

theorem unpackF {h : Bytes} (hh : Head w P g h) : P → ∀ (fuel : Nat) (rest : Bytes),
    unpackF (fuel + 1) (h ++ rest) = g (Msgpack.unpackF fuel) rest := hh.2

theorem mono {P' : Prop} {h : Bytes} (hp : P' → P) (hh : Head w P g h) : Head w P' g h :=
  ⟨hh.1, fun p => hh.2 (hp p)⟩

theorem imm {t : Nat} {v : MVal} (hf : fmt t = .imm v) (ht : t < 256) :
    Head w P (fun _ rest => some (v, rest)) [t] :=
  ⟨.single ht, fun _ => unpackF_imm hf⟩

theorem fix {t n : Nat} {c : Kind} (hf : fmt t = .fix c n) (ht : t < 256) :
    Head w P (fun rd => c.read rd n) [t] :=
  ⟨.single ht, fun _ => unpackF_fix hf⟩

theorem len {t k n : Nat} {c : Kind} (hf : fmt t = .len c k) (ht : t < 256) (hk : k ≤ w)
    (hn : P → n < 256 ^ k) : Head w P (fun rd => c.read rd n) (t :: be k n) :=
  ⟨.cons t k n ht hk, fun p => unpackF_len hf (hn p)⟩

theorem uint {t k n : Nat} (hf : fmt t = .uint k) (ht : t < 256) (hk : k ≤ w)
    (hn : P → n < 256 ^ k) : Head w P (fun _ rest => some (.int n, rest)) (t :: be k n) :=
  ⟨.cons t k n ht hk, fun p => unpackF_uint hf (hn p)⟩

theorem sint {t k : Nat} {i : Int} (hf : fmt t = .sint k) (ht : t < 256) (hk : k ≤ w) (h1 : 1 ≤ k)
    (hi : P → -(2 ^ (8 * k - 1) : Nat) ≤ i) (h2 : i < 0) :
    Head w P (fun _ rest => some (.int i, rest)) (t :: be k (ofSigned k i)) :=
  ⟨.cons t k _ ht hk, fun p => unpackF_sint hf h1 (hi p) h2⟩

end Head

theorem strHdr_head (n : Nat) : Head 4 (n < 2 ^ 32) (fun rd => Kind.str.read rd n) (strHdr n) :=
  ite_ind (fun c => .fix (fmt_fixstr c) (by omega)) fun _ =>
  ite_ind (fun c => .len (t := 0xd9) rfl (by decide) (by decide) fun _ => c) fun _ =>
  ite_ind (fun c => .len (t := 0xda) rfl (by decide) (by decide) fun _ => c) fun _ =>
  .len (t := 0xdb) rfl (by decide) (by decide) fun h => h

theorem binHdr_head (n : Nat) : Head 4 (n < 2 ^ 32) (fun rd => Kind.bin.read rd n) (binHdr n) :=
  ite_ind (fun c => .len (t := 0xc4) rfl (by decide) (by decide) fun _ => c) fun _ =>
  ite_ind (fun c => .len (t := 0xc5) rfl (by decide) (by decide) fun _ => c) fun _ =>
  .len (t := 0xc6) rfl (by decide) (by decide) fun h => h

theorem arrHdr_head (n : Nat) : Head 4 (n < 2 ^ 32) (fun rd => Kind.arr.read rd n) (arrHdr n) :=
  ite_ind (fun c => .fix (fmt_fixarr c) (by omega)) fun _ =>
  ite_ind (fun c => .len (t := 0xdc) rfl (by decide) (by decide) fun _ => c) fun _ =>
  .len (t := 0xdd) rfl (by decide) (by decide) fun h => h

theorem mapHdr_head (n : Nat) : Head 4 (n < 2 ^ 32) (fun rd => Kind.map.read rd n) (mapHdr n) :=
  ite_ind (fun c => .fix (fmt_fixmap c) (by omega)) fun _ =>
  ite_ind (fun c => .len (t := 0xde) rfl (by decide) (by decide) fun _ => c) fun _ =>
  .len (t := 0xdf) rfl (by decide) (by decide) fun h => h

/-- what `extHdr` emits: a `Head`, then the type code -/
def ExtHead (code n : Nat) (bs : Bytes) : Prop :=
  ∃ h, Head 4 (n < 2 ^ 32) (fun rd => Kind.ext.read rd n) h ∧ bs = h ++ [code]

theorem extHdr_head (code n : Nat) : ExtHead code n (extHdr code n) :=
  ite_ind (fun c => ⟨_, .fix (t := 0xd4) (c ▸ rfl) (by decide), rfl⟩) fun _ =>
  ite_ind (fun c => ⟨_, .fix (t := 0xd5) (c ▸ rfl) (by decide), rfl⟩) fun _ =>
  ite_ind (fun c => ⟨_, .fix (t := 0xd6) (c ▸ rfl) (by decide), rfl⟩) fun _ =>
  ite_ind (fun c => ⟨_, .fix (t := 0xd7) (c ▸ rfl) (by decide), rfl⟩) fun _ =>
  ite_ind (fun c => ⟨_, .fix (t := 0xd8) (c ▸ rfl) (by decide), rfl⟩) fun _ =>
  ite_ind (fun c => ⟨_, .len (t := 0xc7) rfl (by decide) (by decide) fun _ => c, rfl⟩) fun _ =>
  ite_ind (fun c => ⟨_, .len (t := 0xc8) rfl (by decide) (by decide) fun _ => c, rfl⟩) fun _ =>
  ⟨_, .len (t := 0xc9) rfl (by decide) (by decide) fun h => h, rfl⟩

/-- the non-negative half of `packInt` -/
theorem packNat_head (n : Nat) : Head 8 (n < 2 ^ 64) (fun _ rest => some (.int n, rest))
    (if n < 0x80 then [n]
     else if n < 0x100 then 0xcc :: be 1 n
     else if n < 0x10000 then 0xcd :: be 2 n
     else if n < 0x100000000 then 0xce :: be 4 n
     else 0xcf :: be 8 n) :=
  ite_ind (fun c => .imm (fmt_posfix c) (by omega)) fun _ =>
  ite_ind (fun c => .uint (t := 0xcc) rfl (by decide) (by decide) fun _ => c) fun _ =>
  ite_ind (fun c => .uint (t := 0xcd) rfl (by decide) (by decide) fun _ => c) fun _ =>
  ite_ind (fun c => .uint (t := 0xce) rfl (by decide) (by decide) fun _ => c) fun _ =>
  .uint (t := 0xcf) rfl (by decide) (by decide) fun h => h

/-- the negative half of `packInt` -/
theorem packNeg_head (i : Int) (h : i < 0) :
    Head 8 (-((2 ^ 63 : Nat) : Int) ≤ i) (fun _ rest => some (.int i, rest))
    (if -0x20 ≤ i then [ofSigned 1 i]
     else if -0x80 ≤ i then 0xd0 :: be 1 (ofSigned 1 i)
     else if -0x8000 ≤ i then 0xd1 :: be 2 (ofSigned 2 i)
     else if -0x80000000 ≤ i then 0xd2 :: be 4 (ofSigned 4 i)
     else 0xd3 :: be 8 (ofSigned 8 i)) :=
  ite_ind (fun c => by
      have hs := toSigned_ofSigned 1 (Nat.le_refl 1) i (by omega) h
      have hb : 0xe0 ≤ ofSigned 1 i := by simp only [ofSigned]; omega
      have := Head.imm (w := 8) (P := -((2 ^ 63 : Nat) : Int) ≤ i) (fmt_negfix hb hs.2) hs.2
      rwa [hs.1] at this) fun _ =>
  ite_ind (fun c => .sint (t := 0xd0) rfl (by decide) (by decide) (by decide) (fun _ => c) h) fun _ =>
  ite_ind (fun c => .sint (t := 0xd1) rfl (by decide) (by decide) (by decide) (fun _ => c) h) fun _ =>
  ite_ind (fun c => .sint (t := 0xd2) rfl (by decide) (by decide) (by decide) (fun _ => c) h) fun _ =>
  .sint (t := 0xd3) rfl (by decide) (by decide) (by decide) (fun p => p) h

theorem packInt_head (i : Int) : Head 8 (-(2 ^ 63 : Int) ≤ i ∧ i < (2 ^ 64 : Int))
    (fun _ rest => some (.int i, rest)) (packInt i) := by
  unfold packInt
  by_cases hpos : 0 ≤ i
  · rw [if_pos hpos]
    obtain ⟨n, rfl⟩ := Int.eq_ofNat_of_zero_le hpos
    exact (packNat_head n).mono fun p => by omega
  · rw [if_neg hpos]
    exact (packNeg_head i (by omega)).mono fun p => by omega

theorem MVal.one_le_depth (v : MVal) : 1 ≤ v.depth := by
  cases v <;> simp [MVal.depth]

mutual
  theorem rt_val : ∀ (v : MVal) (fuel : Nat) (rest : Bytes), v.WF → v.depth ≤ fuel →
      unpackF fuel (pack v ++ rest) = some (v, rest)
    | v, 0, _, _, hd => absurd hd (by have := v.one_le_depth; omega)
    | .nil, f + 1, rest, _, _ => unpackF_imm (t := 0xc0) rfl f rest
    | .bool false, f + 1, rest, _, _ => unpackF_imm (t := 0xc2) rfl f rest
    | .bool true, f + 1, rest, _, _ => unpackF_imm (t := 0xc3) rfl f rest
    | .int i, f + 1, rest, hw, _ => (packInt_head i).unpackF (by simpa only [MVal.WF] using hw) f rest
    | .f64 bits, f + 1, rest, hw, _ => by
      simp only [MVal.WF] at hw
      rw [pack, List.cons_append, unpackF_cons, show fmt 0xcb = .f64 from rfl, Fmt.read,
        readBe_be 8 bits rest (by omega)]
    | .str s, f + 1, rest, hw, _ => by
      simp only [MVal.WF] at hw
      rw [pack, List.append_assoc, (strHdr_head _).unpackF hw, Kind.read, readStr, takeN_append s.length s rest rfl]
    | .bin b, f + 1, rest, hw, _ => by
      simp only [MVal.WF] at hw
      rw [pack, List.append_assoc, (binHdr_head _).unpackF hw, Kind.read, readBin, takeN_append b.length b rest rfl]
    | .ext code data, f + 1, rest, hw, _ => by
      simp only [MVal.WF] at hw
      obtain ⟨h, hh, e⟩ := extHdr_head code data.length
      rw [pack, e, List.append_assoc, List.append_assoc, hh.unpackF hw.2, List.singleton_append, Kind.read, readExt,
        if_pos hw.1, takeN_append data.length data rest rfl]
    | .arr xs, f + 1, rest, hw, hd => by
      simp only [MVal.WF] at hw
      simp only [MVal.depth] at hd
      rw [pack, List.append_assoc, (arrHdr_head _).unpackF hw.1, Kind.read, readArr,
        rt_list xs f rest hw.2 (by omega)]
    | .map kvs, f + 1, rest, hw, hd => by
      simp only [MVal.WF] at hw
      simp only [MVal.depth] at hd
      rw [pack, List.append_assoc, (mapHdr_head _).unpackF hw.1, Kind.read, readMap,
        rt_pairs kvs f rest hw.2 (by omega)]
  theorem rt_list : ∀ (xs : List MVal) (fuel : Nat) (rest : Bytes), WFList xs → depthList xs ≤ fuel →
      unpackMany (unpackF fuel) xs.length (packList xs ++ rest) = some (xs, rest)
    | [], _, _, _, _ => rfl
    | x :: r, fuel, rest, hw, hd => by
      simp only [WFList] at hw
      simp only [depthList, Nat.max_le] at hd
      have h1 := rt_val x fuel (packList r ++ rest) hw.1 hd.1
      have h2 := rt_list r fuel rest hw.2 hd.2
      simp only [packList, List.append_assoc, List.length_cons, unpackMany, h1, h2]
  theorem rt_pairs : ∀ (kvs : List (MVal × MVal)) (fuel : Nat) (rest : Bytes), WFPairs kvs →
      depthPairs kvs ≤ fuel →
      unpackPairs (unpackF fuel) kvs.length (packPairs kvs ++ rest) = some (kvs, rest)
    | [], _, _, _, _ => rfl
    | (k, v) :: r, fuel, rest, hw, hd => by
      simp only [WFPairs] at hw
      simp only [depthPairs, Nat.max_le] at hd
      have h1 := rt_val k fuel (pack v ++ (packPairs r ++ rest)) hw.1 hd.1
      have h2 := rt_val v fuel (packPairs r ++ rest) hw.2.1 hd.2.1
      have h3 := rt_pairs r fuel rest hw.2.2 hd.2.2
      simp only [packPairs, List.append_assoc, List.length_cons, unpackPairs, h1, h2, h3]
end

mutual
  theorem depth_le_val : ∀ (v : MVal), v.depth ≤ (pack v).length
    | .nil => Nat.le_refl 1
    | .bool false => Nat.le_refl 1
    | .bool true => Nat.le_refl 1
    | .int i => (packInt_head i).tagged.one_le_length
    | .f64 _ => Nat.le_add_left 1 _
    | .str s => (strHdr_head _).tagged.one_le_append s
    | .bin b => (binHdr_head _).tagged.one_le_append b
    | .ext c d => by
      obtain ⟨h, hh, e⟩ := extHdr_head c d.length
      show 1 ≤ (extHdr c d.length ++ d).length
      rw [e, List.append_assoc]; exact hh.tagged.one_le_append _
    | .arr xs => (arrHdr_head _).tagged.add_le_append (depth_le_list xs)
    | .map kvs => (mapHdr_head _).tagged.add_le_append (depth_le_pairs kvs)
  theorem depth_le_list : ∀ (xs : List MVal), depthList xs ≤ (packList xs).length
    | [] => Nat.le_refl 0
    | x :: r => by
      rw [depthList, packList, List.length_append, Nat.max_le]
      exact ⟨Nat.le_trans (depth_le_val x) (Nat.le_add_right _ _),
        Nat.le_trans (depth_le_list r) (Nat.le_add_left _ _)⟩
  theorem depth_le_pairs : ∀ (kvs : List (MVal × MVal)), depthPairs kvs ≤ (packPairs kvs).length
    | [] => Nat.le_refl 0
    | (k, v) :: r => by
      rw [depthPairs, packPairs, List.length_append, List.length_append, Nat.max_le, Nat.max_le]
      exact ⟨Nat.le_trans (depth_le_val k) (Nat.le_add_right _ _),
        Nat.le_trans (depth_le_val v) (Nat.le_trans (Nat.le_add_right _ _) (Nat.le_add_left _ _)),
        Nat.le_trans (depth_le_pairs r) (Nat.le_trans (Nat.le_add_left _ _) (Nat.le_add_left _ _))⟩
end

theorem pack_prefix_free {v w : MVal} (hv : v.WF) (hw : w.WF) {r r' : Bytes} (h : pack v ++ r = pack w ++ r') :
    v = w ∧ r = r' := by
  have h1 := rt_val v (v.depth + w.depth) r hv (Nat.le_add_right _ _)
  rw [h, rt_val w (v.depth + w.depth) r' hw (Nat.le_add_left _ _)] at h1
  cases h1
  exact ⟨rfl, rfl⟩

theorem unpack_eq_some_iff {bs : Bytes} {w : MVal} : unpack bs = some w ↔ unpackF (bs.length + 1) bs = some (w, []) := by
  unfold unpack
  constructor
  · intro h
    split at h
    · next v hv => cases h; exact hv
    · cases h
  · intro h; rw [h]

/-- `msgpack.unpackb(msgpack.packb(v)) == v` for every value the wire format can carry -/
theorem unpack_pack (v : MVal) (h : v.WF) : unpack (pack v) = some v := by
  have := rt_val v ((pack v).length + 1) [] h (Nat.le_succ_of_le (depth_le_val v))
  rw [List.append_nil] at this
  exact unpack_eq_some_iff.mpr this

mutual
  /-- payloads are bytes and an ext code fits one byte (`MVal.WF` asks `code < 128`: what the decoder accepts) -/
  def MVal.payloadOK : MVal → Prop
    | .str s => IsBytes s
    | .bin b => IsBytes b
    | .ext code data => code < 256 ∧ IsBytes data
    | .arr xs => payloadOKList xs
    | .map kvs => payloadOKPairs kvs
    | _ => True
  def payloadOKList : List MVal → Prop
    | [] => True
    | x :: r => x.payloadOK ∧ payloadOKList r
  def payloadOKPairs : List (MVal × MVal) → Prop
    | [] => True
    | (k, v) :: r => k.payloadOK ∧ v.payloadOK ∧ payloadOKPairs r
end

mutual
  theorem pack_bytes_lt : ∀ (v : MVal), v.payloadOK → IsBytes (pack v)
    | .nil, _ => by simp only [pack]; exact isBytes_cons (by omega) isBytes_nil
    | .bool b, _ => by cases b <;> (simp only [pack]; exact isBytes_cons (by omega) isBytes_nil)
    | .int i, _ => by simpa [pack] using (packInt_head i).tagged.isBytes
    | .f64 bits, _ => by simp only [pack]; exact isBytes_cons (by omega) (isBytes_be _ _)
    | .str s, h => by simp only [pack]; exact isBytes_append (strHdr_head _).tagged.isBytes h
    | .bin b, h => by simp only [pack]; exact isBytes_append (binHdr_head _).tagged.isBytes h
    | .ext c d, h => by
      obtain ⟨hd, hh, e⟩ := extHdr_head c d.length
      simp only [pack, e]
      exact isBytes_append (isBytes_append hh.tagged.isBytes (isBytes_cons h.1 isBytes_nil)) h.2
    | .arr xs, h => by
      simp only [pack]; exact isBytes_append (arrHdr_head _).tagged.isBytes (packList_bytes_lt xs h)
    | .map kvs, h => by
      simp only [pack]; exact isBytes_append (mapHdr_head _).tagged.isBytes (packPairs_bytes_lt kvs h)
  theorem packList_bytes_lt : ∀ (xs : List MVal), payloadOKList xs → IsBytes (packList xs)
    | [], _ => isBytes_nil
    | x :: r, h => by
      simp only [packList]
      exact isBytes_append (pack_bytes_lt x h.1) (packList_bytes_lt r h.2)
  theorem packPairs_bytes_lt : ∀ (kvs : List (MVal × MVal)), payloadOKPairs kvs → IsBytes (packPairs kvs)
    | [], _ => isBytes_nil
    | (k, v) :: r, h => by
      simp only [packPairs]
      exact isBytes_append (pack_bytes_lt k h.1)
        (isBytes_append (pack_bytes_lt v h.2.1) (packPairs_bytes_lt r h.2.2))
end

end Flax.Msgpack
