/- C06: `lift.scan` (model) = the explicit loop (spec) -/
import Flax.Proofs.LiftLoopScan
import Flax.Proofs.LiftLoopLength

set_option linter.unusedSectionVars false

namespace Flax.LiftLoop
open Flax.Filter
variable {α : Type} [Inhabited α]

theorem range_map_drop2 {β : Type} (f : Nat → β) (k : Nat) :
    ((List.range (k + 2)).map f).drop 2 = (List.range k).map (fun g => f (g + 2)) := by
  apply List.ext_getElem
  · simp
  · intro i h1 h2
    simp [Nat.add_comm]

theorem ScanCfg.inFs_length (cfg : ScanCfg) : cfg.inFs.length = cfg.inAx.length + 2 := by simp [ScanCfg.inFs]

theorem ScanCfg.outFs_length (cfg : ScanCfg) : cfg.outFs.length = cfg.outAx.length + 2 := by simp [ScanCfg.outFs]

theorem groups_drop2 {β : Type} (d : List (String × β)) (fs : List LFilter) (k : Nat) (h : fs.length = k + 2) :
    (groupDict d fs).drop 2 = axisGroups d fs k := by
  rw [groupDict_eq, h]
  exact range_map_drop2 _ _

theorem scanned_opt (m : LFilter) (cfg : ScanCfg) (body : Body α) (b : Vars α)
    (st : Vars α × List (Arr α)) (sl : List (Vars α)) (rg : List Rngs) (xs : List (Arr α)) :
    opt (scanned (innerMutable m cfg.outFs) cfg.outFs body b st sl rg xs) =
      (opt (body (innerMutable m cfg.outFs) (mergeGroups (b :: st.1 :: sl)) (mergeGroups rg) st.2 xs)).bind
        fun r =>
          let mv := r.1.filter (fun kv => inFilter (innerMutable m cfg.outFs) kv.1)
          some (reinject b (roleGroup mv cfg.outFs 0), (roleGroup mv cfg.outFs 1, r.2.1),
            (r.2.2, axisGroups mv cfg.outFs cfg.outAx.length)) := by
  unfold scanned
  refine opt_bind_congr rfl fun r _ => ?_
  have hl := cfg.outFs_length
  rw [repack_eq, ← groupDict_eq]
  show some _ = _
  rw [groupDict_getD _ _ 0 (by omega), groupDict_getD _ _ 1 (by omega), groups_drop2 _ _ _ hl]

theorem step_eq (cfg : ScanCfg) (m : LFilter) (body : Body α) (outer : Vars α) (rngs : Rngs)
    (inArgAxes : List (Option Int)) (args : List (Arr α)) (dLength : Nat) (xs : ScanXs α)
    (hp : prepXs (cfg.inAx.map (·.axis)) inArgAxes (axisGroups outer cfg.inFs cfg.inAx.length)
      (splitGroups (groupDict rngs (cfg.splitRngs.map (·.1))) (cfg.splitRngs.map (·.2)) dLength) args = .ok xs)
    (i : Nat) (hi : i < dLength) (b : Vars α) (st : Vars α × List (Arr α)) :
    opt (xs.at i >>= fun x => scanned (innerMutable m cfg.outFs) cfg.outFs body b st x.1 x.2.1 x.2.2) =
      loopStep cfg (innerMutable m cfg.outFs) body outer rngs inArgAxes args dLength b st i := by
  have hat := prepXs_at (cfg.inAx.map (·.axis)) inArgAxes (axisGroups outer cfg.inFs cfg.inAx.length)
    (splitGroups (groupDict rngs (cfg.splitRngs.map (·.1))) (cfg.splitRngs.map (·.2)) dLength) args i
  rw [hp, rngAt_splitGroups _ _ _ _ hi] at hat
  rw [opt_bind, show opt (xs.at i) = _ from hat]
  unfold loopStep iterArgs
  simp only [Option.bind_assoc, opt_ok, Option.bind_some]
  exact Option.bind_congr fun sl _ => Option.bind_congr fun as _ => scanned_opt m cfg body b st sl _ as

theorem mem_order_lt {n : Nat} {rev : Bool} {i : Nat}
    (h : i ∈ (if rev then (List.range n).reverse else List.range n)) : i < n := by
  cases rev <;> simpa using h

theorem scanBody_opt (fn : ScanFn α) (b : Vars α) (s : Vars α × List (Arr α))
    (xa : Except Err (List (Vars α) × List Rngs × List (Arr α))) :
    opt (xa >>= scanBody fn b s) =
      (opt (xa >>= fun x => fn b s x.1 x.2.1 x.2.2)).map (fun r => (r.2.1, r.2.2)) := by
  cases xa with
  | error e => rfl
  | ok x =>
    simp only [bind, Except.bind, scanBody]
    cases fn b s x.1 x.2.1 x.2.2 <;> rfl

/-! Nothing below depends on how the slices `xs` were made or on what the lifted body `fn` is: only that, on the
indices below `N`, calling `fn` on slice `i` is what the explicit step `step` does at index `i`. -/

section sliced
variable {xs : ScanXs α} {fn : ScanFn α} {step : Vars α → Vars α × List (Arr α) → Nat → Option (StepOut α)}
  {N : Nat}

theorem laxScan_sliced_opt
    (hstep : ∀ i, i < N → ∀ b s, opt (xs.at i >>= fun x => fn b s x.1 x.2.1 x.2.2) = step b s i)
    (n : Nat) (hn : n ≤ N) (reverse : Bool) (b : Vars α) (init : Vars α × List (Arr α)) :
    opt (laxScan n reverse xs.at (scanBody fn b) sameStruct init) =
      (loopRun (fun st i => (step b st i).map (fun r => (r.2.1, r.2.2))) sameStruct init
        (if reverse then (List.range n).reverse else List.range n)).bind fun res =>
      (byIndex n res.2).map fun outs => (res.1, outs) := by
  rw [laxScan_opt]
  congr 1
  apply loopRun_congr
  intro i hi s
  rw [scanBody_opt, hstep i (Nat.lt_of_lt_of_le (mem_order_lt hi) hn)]

theorem axesLoop_opt
    (hstep : ∀ i, i < N → ∀ b s, opt (xs.at i >>= fun x => fn b s x.1 x.2.1 x.2.2) = step b s i)
    (n : Nat) (hn : n ≤ N) (reverse : Bool) (outYAxes : List (Option Int)) (outVarAxes : List Int)
    (init : Vars α × List (Arr α)) (r0 : StepOut α) :
    opt (axesLoop reverse outYAxes outVarAxes xs fn init r0 n) =
      (loopRun (fun st i => (step r0.1 st i).map (fun r => (r.2.1, r.2.2))) sameStruct init
          (if reverse then (List.range n).reverse else List.range n)).bind fun res =>
      (byIndex n res.2).bind fun outs =>
      (opt (collectOuts stackAt outYAxes outVarAxes r0.2.2.1 outs)).bind fun out =>
      some (r0.1, res.1, out) := by
  unfold axesLoop
  exact (opt_bind_congr (laxScan_sliced_opt hstep n hn ..) fun res _ =>
    opt_bind_congr (collectOuts_opt stackFront stackAt stackFront_opt ..) fun out _ => rfl).trans (bind_map_bind ..)

/-- if `lax.scan` would reject the sizes, or accept zero iterations, the whole `axes_scan.scan` fails -/
theorem axesScanTail_none (reverse verdict : Bool) (outAxes : AxesTree) (outVarAxes : List Int)
    (fn : ScanFn α) (bIn : Vars α) (init : Vars α × List (Arr α)) (xs : ScanXs α) (nE : Except Err Nat)
    (i0 : Nat) (h : ∀ n, nE = .ok n → n = 0) :
    opt (axesScanTail reverse verdict false outAxes outVarAxes fn bIn init xs nE i0) = none := by
  unfold axesScanTail
  refine opt_bind_eq_none _ fun x0 => opt_bind_eq_none _ fun r0 => opt_bind_eq_none _ fun oy => ?_
  cases verdict with
  | false => rfl
  | true =>
    cases nE with
    | error e => rfl
    | ok n => cases h n rfl; rfl

/-- `scan_fn`: the broadcast pass is the step at the first index processed, the loop follows -/
theorem axesScanTail_opt
    (hstep : ∀ i, i < N → ∀ b s, opt (xs.at i >>= fun x => fn b s x.1 x.2.1 x.2.2) = step b s i)
    (nE : Except Err Nat) (hN : ∀ n, nE = .ok n → n ≤ N) (reverse verdict : Bool) (outAxes : AxesTree)
    (outVarAxes : List Int) (bIn : Vars α) (init : Vars α × List (Arr α)) :
    opt (axesScanTail reverse verdict false outAxes outVarAxes fn bIn init xs nE (firstIndex reverse nE)) =
      (opt nE).bind fun n =>
      if n = 0 then none else
      (step bIn init (if reverse then n - 1 else 0)).bind fun r0 =>
      (opt (outAxes.expand r0.2.2.1.length)).bind fun outYAxes =>
      if !verdict then none else
      (loopRun (fun st i => (step r0.1 st i).map (fun r => (r.2.1, r.2.2))) sameStruct init
          (if reverse then (List.range n).reverse else List.range n)).bind fun res =>
      (byIndex n res.2).bind fun outs =>
      (opt (collectOuts stackAt outYAxes outVarAxes r0.2.2.1 outs)).bind fun out =>
      some (r0.1, res.1, out) := by
  cases nE with
  | error e => exact axesScanTail_none _ _ _ _ _ _ _ _ _ _ (fun n h => nomatch h)
  | ok n =>
    by_cases hn0 : n = 0
    · rw [axesScanTail_none _ _ _ _ _ _ _ _ _ _ (fun k h => (Except.ok.inj h).symm.trans hn0)]
      simp only [opt_ok, Option.bind_some, hn0, if_true]
    · have hn := hN n rfl
      have hi0 : (if reverse then n - 1 else 0) < N := by split <;> omega
      unfold axesScanTail
      simp only [opt_ok, Option.bind_some, hn0, if_false, firstIndex]
      rw [← bind_assoc]
      refine opt_bind_congr (hstep _ hi0 _ _) fun r0 _ => opt_bind_congr rfl fun outYAxes _ => ?_
      cases verdict with
      | false => rfl
      | true =>
        simp only [Bool.false_eq_true, if_false, Bool.not_true, bind, Except.bind, hn0]
        exact axesLoop_opt hstep n hn reverse outYAxes outVarAxes init r0

/-- `simple_scan_fn`: no broadcast pass, the broadcast inputs go to every iteration as they are -/
theorem axesScanSimple_opt
    (hstep : ∀ i, i < N → ∀ b s, opt (xs.at i >>= fun x => fn b s x.1 x.2.1 x.2.2) = step b s i)
    (length : Option Nat) (hN : ∀ n, (xs.dims >>= jaxLength length) = .ok n → n ≤ N) (reverse : Bool)
    (outAxes : AxesTree) (outVarAxes : List Int) (bIn : Vars α) (init : Vars α × List (Arr α)) :
    opt (axesScanSimple length reverse outAxes outVarAxes fn bIn init xs) =
      if outAxes.hasBroadcast then none else
      (opt xs.dims).bind fun dims => (opt (jaxLength length dims)).bind fun n =>
      if n = 0 then none else
      (loopRun (fun st i => (step bIn st i).map (fun r => (r.2.1, r.2.2))) sameStruct init
          (if reverse then (List.range n).reverse else List.range n)).bind fun res =>
      (byIndex n res.2).bind fun outs =>
      (opt (outAxes.expand ((outs.head?.map (fun o => o.1.length)).getD 0))).bind fun outYAxes =>
      (opt (collectOuts stackAt outYAxes outVarAxes [] outs)).bind fun out =>
      some (bIn, res.1, out) := by
  unfold axesScanSimple
  cases outAxes.hasBroadcast with
  | true => rfl
  | false =>
    simp only [Bool.false_eq_true, if_false]
    rw [opt_bind, opt_bind_bind]
    refine Option.bind_congr fun dims hd => Option.bind_congr fun n hj => ?_
    have hn : n ≤ N := hN n (by rw [opt_eq_some.1 hd]; exact opt_eq_some.1 hj)
    by_cases hn0 : n = 0
    · rw [if_pos hn0, if_pos hn0]; rfl
    · rw [if_neg hn0, if_neg hn0]
      exact (opt_bind_congr (laxScan_sliced_opt hstep n hn ..) fun res _ => opt_bind_congr rfl fun outYAxes _ =>
        opt_bind_congr (collectOuts_opt stackFront stackAt stackFront_opt ..) fun out _ => rfl).trans
          (bind_map_bind ..)

end sliced

theorem dims_opt (cfg : ScanCfg) (outer : Vars α) (rngs : Rngs) (inArgAxes : List (Option Int))
    (args : List (Arr α)) (dLength : Nat) :
    opt (prepXs (cfg.inAx.map (·.axis)) inArgAxes (axisGroups outer cfg.inFs cfg.inAx.length)
      (splitGroups (groupDict rngs (cfg.splitRngs.map (·.1))) (cfg.splitRngs.map (·.2)) dLength) args
        >>= ScanXs.dims) = loopDims cfg outer rngs inArgAxes args dLength := by
  rw [prepXs_dims, rngDims_splitGroups]
  rfl

theorem n_eq_dLength (cfg : ScanCfg) (outer : Vars α) (rngs : Rngs) (inArgAxes : List (Option Int))
    (args : List (Arr α)) (sizes : List Nat) (dLength : Nat) (dims : List Nat) (n : Nat)
    (hsizes : argSizes cfg.inAxes args = .ok sizes) (hdl : decideLength cfg.length sizes = .ok dLength)
    (hexp : cfg.inAxes.expand args.length = .ok inArgAxes)
    (hd : loopDims cfg outer rngs inArgAxes args dLength = some dims)
    (hj : jaxLength cfg.length dims = .ok n) : n = dLength := by
  unfold loopDims at hd
  obtain ⟨d1, _, hd⟩ := Option.bind_eq_some_iff.1 hd
  obtain ⟨d3, h3, hd⟩ := Option.bind_eq_some_iff.1 hd
  cases hd
  exact length_agrees cfg.length sizes _ dLength n hdl hj fun x hxm =>
    List.mem_append_right _ (argSizes_sub cfg.inAxes args sizes inArgAxes d3 hsizes hexp (opt_eq_some.1 h3) x hxm)

theorem loopCore_of_dims_none {cfg : ScanCfg} {outer : Vars α} {rngs : Rngs} {inArgAxes : List (Option Int)}
    {args : List (Arr α)} {dLength : Nat} (h : loopDims cfg outer rngs inArgAxes args dLength = none)
    (verdict : Bool) (mutF : LFilter) (body : Body α) (init : List (Arr α)) :
    loopCore cfg verdict mutF body outer rngs init args inArgAxes dLength = none := by
  unfold loopCore loopCoreChecked loopCoreSimple
  rw [h]
  cases cfg.checkConst <;> cases cfg.outAxes.hasBroadcast <;> rfl

/-- `axes_scan.scan(scanned, …)` on the groups is the explicit loop, for both values of `check_constancy_invariants` -/
theorem axesScan_opt (cfg : ScanCfg) (verdict : Bool) (m : LFilter) (body : Body α) (outer : Vars α)
    (rngs : Rngs) (init : List (Arr α)) (args : List (Arr α)) (sizes : List Nat) (dLength : Nat)
    (inArgAxes : List (Option Int))
    (hsizes : argSizes cfg.inAxes args = .ok sizes) (hdl : decideLength cfg.length sizes = .ok dLength)
    (hexp : cfg.inAxes.expand args.length = .ok inArgAxes) :
    opt (axesScan cfg.checkConst cfg.length cfg.reverse verdict false (cfg.inAx.map (·.axis)) inArgAxes cfg.outAxes
        (cfg.outAx.map (·.axis)) (scanned (innerMutable m cfg.outFs) cfg.outFs body)
        (roleGroup outer cfg.inFs 0) (roleGroup outer cfg.inFs 1, init)
        (axisGroups outer cfg.inFs cfg.inAx.length)
        (splitGroups (groupDict rngs (cfg.splitRngs.map (·.1))) (cfg.splitRngs.map (·.2)) dLength) args) =
      loopCore cfg verdict (innerMutable m cfg.outFs) body outer rngs init args inArgAxes dLength := by
  have hdims := dims_opt cfg outer rngs inArgAxes args dLength
  unfold axesScan
  cases hp : prepXs (cfg.inAx.map (·.axis)) inArgAxes (axisGroups outer cfg.inFs cfg.inAx.length)
      (splitGroups (groupDict rngs (cfg.splitRngs.map (·.1))) (cfg.splitRngs.map (·.2)) dLength) args with
  | error e =>
    rw [hp] at hdims
    rw [loopCore_of_dims_none hdims.symm]
    rfl
  | ok xs =>
    rw [hp] at hdims
    replace hdims : opt xs.dims = loopDims cfg outer rngs inArgAxes args dLength := hdims
    have hstep := step_eq cfg m body outer rngs inArgAxes args dLength xs hp
    have hN : ∀ n, (xs.dims >>= jaxLength cfg.length) = .ok n → n ≤ dLength := by
      intro n hn
      obtain ⟨dims, hd, hj⟩ := bind_ok.mp hn
      rw [hd] at hdims
      exact Nat.le_of_eq (n_eq_dLength cfg outer rngs inArgAxes args sizes dLength dims n hsizes hdl hexp
        hdims.symm hj)
    unfold loopCore
    cases cfg.checkConst with
    | false =>
      refine (axesScanSimple_opt hstep cfg.length hN _ _ _ _ _).trans ?_
      rw [hdims]
      rfl
    | true =>
      refine (axesScanTail_opt hstep _ hN _ _ _ _ _ _).trans ?_
      rw [opt_bind_bind, hdims]
      rfl

/-- **`lift.scan` is the explicit loop** (success and result; which error is raised is not compared) -/
theorem liftScan_opt (cfg : ScanCfg) (verdict : Bool) (body : Body α) (scopeMut : LFilter) (outer : Vars α)
    (rngs : Rngs) (init : List (Arr α)) (args : List (Arr α)) :
    opt (liftScan cfg verdict body scopeMut outer rngs init args) =
      loopSpec cfg verdict body scopeMut outer rngs init args := by
  unfold liftScan liftScanCore loopSpec
  have hl := cfg.inFs_length
  simp only [groupDict_getD cfg.inFs outer 0 (by omega), groupDict_getD cfg.inFs outer 1 (by omega),
    groups_drop2 outer _ _ hl]
  refine opt_bind_congr rfl fun sizes hsizes => opt_bind_congr rfl fun dLength hdl =>
    opt_bind_congr rfl fun inArgAxes hexp =>
    (opt_bind_congr (axesScan_opt cfg verdict scopeMut body outer rngs init args sizes dLength inArgAxes
      hsizes hdl hexp) fun r _ => rfl).trans ?_
  cases loopCore cfg verdict (innerMutable scopeMut cfg.outFs) body outer rngs init args inArgAxes dLength <;> rfl

end Flax.LiftLoop
