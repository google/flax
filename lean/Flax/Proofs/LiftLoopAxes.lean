/- C06: axis arithmetic of `transpose_to_front` / `transpose_from_front`.  The permutations the two hand to
   `jnp.transpose` (`toFrontQ`, `fromFrontQ`) permute `range r` and act on any per-axis list through `map`. -/
import Flax.Model.LiftLoop
import Flax.Proofs.ListLemmas
import Flax.Proofs.Except

namespace Flax.LiftLoop

theorem normAxis_nonneg {r : Nat} {ax : Int} (h0 : 0 ≤ ax) (h1 : ax < r) : normAxis r ax = some ax.toNat := by
  simp [normAxis, h0, h1]

theorem normAxis_neg {r : Nat} {ax : Int} (h0 : -(r:Int) ≤ ax) (h1 : ax < 0) : normAxis r ax = some (ax + r).toNat := by
  have : ¬ (0 ≤ ax) := by omega
  simp [normAxis, this, h0, h1]

theorem normAxis_cases (r : Nat) (ax : Int) :
    (0 ≤ ax ∧ ax < r ∧ normAxis r ax = some ax.toNat) ∨
    (-(r:Int) ≤ ax ∧ ax < 0 ∧ normAxis r ax = some (ax + r).toNat) ∨
    ((ax < -(r:Int) ∨ (r:Int) ≤ ax) ∧ normAxis r ax = none) := by
  by_cases h0 : 0 ≤ ax ∧ ax < r
  · exact Or.inl ⟨h0.1, h0.2, normAxis_nonneg h0.1 h0.2⟩
  · by_cases h1 : -(r:Int) ≤ ax ∧ ax < 0
    · exact Or.inr (Or.inl ⟨h1.1, h1.2, normAxis_neg h1.1 h1.2⟩)
    · refine Or.inr (Or.inr ⟨by omega, ?_⟩)
      unfold normAxis
      rw [if_neg h0, if_neg h1]

theorem normAxis_lt {r : Nat} {ax : Int} {n : Nat} (h : normAxis r ax = some n) : n < r := by
  rcases normAxis_cases r ax with ⟨_, _, e⟩ | ⟨_, _, e⟩ | ⟨_, e⟩
  · have := Option.some.inj (e.symm.trans h); omega
  · have := Option.some.inj (e.symm.trans h); omega
  · rw [e] at h; cases h

theorem normAxis_val {r : Nat} {ax : Int} {n : Nat} (h : normAxis r ax = some n) :
    (n : Int) = if ax < 0 then ax + r else ax := by
  rcases normAxis_cases r ax with ⟨h0, _, e⟩ | ⟨h0, h1, e⟩ | ⟨_, e⟩
  · rw [if_neg (Int.not_lt.2 h0), ← Option.some.inj (e.symm.trans h)]; exact Int.toNat_of_nonneg h0
  · rw [if_pos h1, ← Option.some.inj (e.symm.trans h)]; exact Int.toNat_of_nonneg (Int.add_nonneg_iff_neg_le.2 h0)
  · rw [e] at h; cases h

theorem normAxis_eq_none_iff {r : Nat} {ax : Int} : normAxis r ax = none ↔ ax < -(r : Int) ∨ (r : Int) ≤ ax := by
  rcases normAxis_cases r ax with ⟨_, _, e⟩ | ⟨_, _, e⟩ | ⟨h, e⟩
  · rw [e]; simp only [reduceCtorEq, false_iff]; omega
  · rw [e]; simp only [reduceCtorEq, false_iff]; omega
  · rw [e]; exact ⟨fun _ => h, fun _ => rfl⟩

theorem normAxis_ofNat {r k : Nat} (h : k < r) : normAxis r (k : Int) = some k := by
  rw [normAxis_nonneg (by omega) (by omega)]; simp

theorem normAxis_isSome {r : Nat} {ax : Int} (h0 : -(r:Int) ≤ ax) (h1 : ax < r) : ∃ n, normAxis r ax = some n := by
  by_cases h : 0 ≤ ax
  · exact ⟨_, normAxis_nonneg h h1⟩
  · exact ⟨_, normAxis_neg h0 (by omega)⟩

theorem mapM_normAxis_ofNat (r : Nat) (l : List Nat) (h : ∀ k ∈ l, k < r) :
    (l.map (fun (k : Nat) => (k : Int))).mapM (normAxis r) = some l := by
  simpa using mapM_map_eq_some (h := id) l fun k hk => normAxis_ofNat (h k hk)

theorem permute_eq_map {β : Type} (d : β) (xs : List β) : ∀ (q : List Nat), (∀ k ∈ q, k < xs.length) →
    permute q xs = some (q.map (xs.getD · d)) := by
  intro q
  induction q with
  | nil => intro _; rfl
  | cons k ks ih =>
    intro h
    have hk : k < xs.length := h k (by simp)
    simp only [permute, ih (fun j hj => h j (by simp [hj])), List.getElem?_eq_getElem hk, List.map_cons,
      List.getD_eq_getElem?_getD, Option.getD_some]

theorem insertIdx_range' (a : Nat) : ∀ (n s m : Nat), n ≤ m →
    (List.range' s m).insertIdx n a = List.range' s n ++ a :: List.range' (s + n) (m - n)
  | 0, _, _, _ => rfl
  | n + 1, s, m + 1, h => by
    rw [List.range'_succ, List.insertIdx_succ_cons, insertIdx_range' a n (s + 1) m (Nat.le_of_succ_le_succ h),
      List.range'_succ, Nat.add_sub_add_right, Nat.add_right_comm s 1 n, Nat.add_assoc s n 1]
    rfl

/-- the permutation `transpose_to_front` hands to `jnp.transpose` for rank `r` and normalised axis `n` -/
def toFrontQ (r n : Nat) : List Nat := n :: (List.range r).eraseIdx n

/-- the permutation `transpose_from_front` hands to `jnp.transpose`: the leading axis moves to position `n` -/
def fromFrontQ (r n : Nat) : List Nat := (List.range' 1 (r - 1)).insertIdx n 0

theorem toFrontQ_perm {r n : Nat} (h : n < r) : (toFrontQ r n).Perm (List.range r) := by
  have hn : n < (List.range r).length := by simpa using h
  have := List.perm_insertIdx (List.range r)[n] ((List.range r).eraseIdx n) (i := n)
    (by rw [List.length_eraseIdx_of_lt hn]; omega)
  rw [Lists.insertIdx_eraseIdx_self _ n hn, List.getElem_range] at this
  exact this.symm

theorem fromFrontQ_perm {r n : Nat} (h : n < r) : (fromFrontQ r n).Perm (List.range r) := by
  obtain ⟨r', rfl⟩ := Nat.exists_eq_add_one_of_ne_zero (Nat.ne_zero_of_lt h)
  rw [List.range_eq_range']
  exact List.perm_insertIdx 0 (List.range' 1 r') (by rw [List.length_range']; exact Nat.le_of_lt_succ h)

theorem toFrontQ_map {β : Type} (d : β) (xs : List β) (n : Nat) (h : n < xs.length) :
    (toFrontQ xs.length n).map (xs.getD · d) = xs[n] :: xs.eraseIdx n := by
  rw [toFrontQ, List.map_cons, Lists.map_eraseIdx, Lists.map_getD_range, List.getD_eq_getElem?_getD,
    List.getElem?_eq_getElem h, Option.getD_some]

theorem fromFrontQ_map {β : Type} (d y0 : β) (rest : List β) (n : Nat) :
    (fromFrontQ (rest.length + 1) n).map ((y0 :: rest).getD · d) = rest.insertIdx n y0 := by
  rw [fromFrontQ, Lists.map_insertIdx, List.range'_eq_map_range, List.map_map, Nat.add_sub_cancel]
  have : ((y0 :: rest).getD · d) ∘ (1 + ·) = (rest.getD · d) := by
    funext k; simp only [Function.comp, Nat.add_comm 1 k, List.getD_cons_succ]
  rw [this, Lists.map_getD_range]
  rfl

theorem canonPerm_ofNat {r : Nat} {q : List Nat} (hq : q.Perm (List.range r)) :
    canonPerm r (q.map (fun (k : Nat) => (k : Int))) = .ok q := by
  unfold canonPerm
  rw [mapM_normAxis_ofNat r q fun k hk => List.mem_range.1 (hq.mem_iff.1 hk)]
  exact if_pos ⟨by rw [hq.length_eq, List.length_range], hq.nodup_iff.2 List.nodup_range⟩

theorem toFront_canon {r : Nat} {ax : Int} {n : Nat} (hn : normAxis r ax = some n) :
    (toFrontPerm r ax >>= canonPerm r) = .ok (toFrontQ r n) := by
  have hq := toFrontQ_perm (normAxis_lt hn)
  have hmem : ∀ k ∈ (List.range r).eraseIdx n, k < r := fun k hk =>
    List.mem_range.1 (List.mem_of_mem_eraseIdx hk)
  simp only [toFrontPerm, hn, bind, Except.bind, canonPerm, List.mapM_cons, mapM_normAxis_ofNat r _ hmem]
  exact if_pos ⟨hq.length_eq.trans List.length_range, hq.nodup_iff.2 List.nodup_range⟩

theorem toFrontPerm_of_none {r : Nat} {ax : Int} (hn : normAxis r ax = none) :
    toFrontPerm r ax = .error .axisOutOfBounds := by
  rw [toFrontPerm, hn]

theorem intRange_ofNat (a b : Nat) :
    intRange (a : Int) (b : Int) = (List.range' a (b - a)).map (fun (k : Nat) => (k : Int)) := by
  unfold intRange
  rw [show ((b : Int) - (a : Int)).toNat = b - a by omega, List.range'_eq_map_range, List.map_map]
  rfl

theorem fromFront_canon {r : Nat} {ax : Int} {n : Nat} (hn : normAxis r ax = some n) :
    (fromFrontPerm r ax >>= canonPerm r) = .ok (fromFrontQ r n) := by
  have hlt := normAxis_lt hn
  have hpax : (if ax < 0 then (r : Int) + ax else ax) = (n : Int) := by
    rw [normAxis_val hn, Int.add_comm]
  have hp : fromFrontPerm r ax = .ok ((fromFrontQ r n).map (fun (k : Nat) => (k : Int))) := by
    -- `range(1, pax + 1) + (0,) + range(pax + 1, r)` is `1, …, r - 1` with `0` inserted at position `n`
    unfold fromFrontPerm
    simp only [hpax]
    rw [if_pos (Int.ofNat_lt.2 hlt), fromFrontQ, insertIdx_range' 0 n 1 (r - 1) (Nat.le_sub_one_of_lt hlt),
      show ((n : Int) + 1) = ((n + 1 : Nat) : Int) by rfl, show (1 : Int) = ((1 : Nat) : Int) by rfl,
      intRange_ofNat, intRange_ofNat, Nat.add_sub_cancel, Nat.sub_sub r 1 n, Nat.add_comm 1 n]
    simp only [List.map_append, List.map_cons, List.append_assoc, List.cons_append, List.nil_append]
    rfl
  rw [hp]
  exact canonPerm_ofNat (fromFrontQ_perm hlt)

theorem normAxis_zero_some {r n : Nat} (h : normAxis r 0 = some n) : n = 0 := by
  have := normAxis_val h
  simpa using this

theorem normAxis_zero_none {r : Nat} (h : normAxis r 0 = none) : r = 0 := by
  cases r with
  | zero => rfl
  | succ r => rw [normAxis_nonneg (by omega) (by omega)] at h; cases h

theorem axesToFront_eq {β : Type} (xs : List β) (ax : Int) (n : Nat)
    (hn : normAxis xs.length ax = some n) :
    ∃ h : n < xs.length, axesToFront ax xs = .ok (xs[n] :: xs.eraseIdx n) := by
  have hlt := normAxis_lt hn
  refine ⟨hlt, ?_⟩
  unfold axesToFront
  by_cases h0 : ax = 0
  · subst h0
    cases normAxis_zero_some hn
    cases xs with
    | nil => simp at hlt
    | cons x xs => rfl
  · rw [if_neg h0, ← bind_assoc, toFront_canon hn]
    have d : β := xs[n]
    show (match permute (toFrontQ xs.length n) xs with
      | some ys => Except.ok ys | none => Except.error Err.badPerm) = _
    rw [permute_eq_map d xs _ fun k hk => List.mem_range.1 ((toFrontQ_perm hlt).mem_iff.1 hk), toFrontQ_map d xs n hlt]

theorem axesToFront_of_none {β : Type} (xs : List β) {ax : Int} (h0 : ax ≠ 0) (hn : normAxis xs.length ax = none) :
    axesToFront ax xs = .error .axisOutOfBounds := by
  rw [axesToFront, if_neg h0, toFrontPerm_of_none hn]
  rfl

theorem axesFromFront_eq {β : Type} (y0 : β) (rest : List β) (ax : Int) (n : Nat)
    (hn : normAxis (rest.length + 1) ax = some n) :
    axesFromFront ax (y0 :: rest) = .ok (rest.insertIdx n y0) := by
  have hlt := normAxis_lt hn
  unfold axesFromFront
  by_cases h0 : ax = 0
  · subst h0
    cases normAxis_zero_some hn
    rfl
  · rw [if_neg h0, ← bind_assoc, List.length_cons, fromFront_canon hn]
    show (match permute (fromFrontQ (rest.length + 1) n) (y0 :: rest) with
      | some ys => Except.ok ys | none => Except.error Err.badPerm) = _
    rw [permute_eq_map y0 (y0 :: rest) _ fun k hk => List.mem_range.1 ((fromFrontQ_perm hlt).mem_iff.1 hk),
      fromFrontQ_map]

theorem axes_front_inverse {β : Type} (xs : List β) (ax : Int) (hlo : -(xs.length : Int) ≤ ax) (hhi : ax < xs.length) :
    (axesToFront ax xs >>= axesFromFront ax) = .ok xs ∧ (axesFromFront ax xs >>= axesToFront ax) = .ok xs := by
  obtain ⟨n, hn⟩ := normAxis_isSome hlo hhi
  obtain ⟨hlt, hto⟩ := axesToFront_eq xs ax n hn
  constructor
  · rw [hto]
    have hlen : (xs.eraseIdx n).length + 1 = xs.length := by
      rw [List.length_eraseIdx_of_lt hlt]; exact Nat.sub_add_cancel (Nat.zero_lt_of_lt hlt)
    have := axesFromFront_eq xs[n] (xs.eraseIdx n) ax n (by rw [hlen]; exact hn)
    simp only [bind, Except.bind, this]
    congr 1
    exact Lists.insertIdx_eraseIdx_self xs n hlt
  · cases xs with
    | nil => simp at hlt
    | cons y rest =>
      have hf := axesFromFront_eq y rest ax n (by simpa using hn)
      simp only [bind, Except.bind, hf]
      have hlen : (rest.insertIdx n y).length = (y :: rest).length := by
        rw [List.length_insertIdx_of_le_length (Nat.le_of_lt_succ hlt)]; rfl
      obtain ⟨hlt', hto'⟩ := axesToFront_eq (rest.insertIdx n y) ax n (by rw [hlen]; exact hn)
      rw [hto']
      congr 1
      rw [List.getElem_insertIdx_self, List.eraseIdx_insertIdx_self]

end Flax.LiftLoop
