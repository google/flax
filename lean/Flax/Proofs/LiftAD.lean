/-
The lifted autodiff transforms through `pack`: `lift.vjp`, `lift.jvp`, `lift.value_and_grad` are `pack` around JAX's
operator applied to a closure over the two groups of `_partial_pack`, `lift.custom_vjp` outside differentiation is
`liftId`; A-AD read as a comparison of what JAX returns for a closure with the traced body's result.
-/
import Flax.Model.LiftAD
import Flax.Proofs.LiftPack

namespace Flax.C07
open Flax.Filter Flax.Lift Flax.LiftAD

/-- the differentiated group `_partial_pack` builds for `lift.vjp` -/
def selGroup (s : ScopeSt) (vjpF : LFilter) : Vars := s.vars.filter (fun kv => inFilter vjpF kv.1)
/-- the closed-over group: what `varF` matches of the rest -/
def restGroup (s : ScopeSt) (vjpF varF : LFilter) : Vars :=
  (s.vars.filter (fun kv => !(inFilter vjpF kv.1))).filter (fun kv => inFilter varF kv.1)

end Flax.C07

namespace Flax.LiftAD
open Flax.Filter Flax.Lift Flax.C07

theorem varGroups_two (s : ScopeSt) (vjpF varF : LFilter) (outF rngF : List LFilter) :
    (partialPack [vjpF, varF] outF rngF s).varGroups = [selGroup s vjpF, restGroup s vjpF varF] :=
  groupBy_two s.vars vjpF varF

theorem liftVjp_eq_pack (ad : AD) (vjpF varF rngF : LFilter) (hasAux : Bool) (nY : Nat) (attrs : List (String × Int))
    (f : Fn) (args : List Int) (s : ScopeSt) :
    liftVjp ad vjpF varF rngF hasAux nY attrs f args s =
      pack [vjpF, varF] [varF] [rngF] (fun pe ctr =>
        match ad.vjp (vjpClosure attrs f hasAux nY pe (restGroup s vjpF varF) ctr) (selGroup s vjpF, args) with
        | .error e => .error e
        | .ok (y, bwd, (aux, out, ctr')) => .ok (⟨y, bwd, if hasAux then some aux else none⟩, out, ctr')) s := by
  simp only [liftVjp, pack, varGroups_two]
  rfl

theorem liftJvp_eq_pack (ad : AD) (vt : Vars) (varF rngF : LFilter) (attrs : List (String × Int)) (f : Fn)
    (args tangents : List Int) (s : ScopeSt) :
    liftJvp ad vt varF rngF attrs f args tangents s =
      pack [jvpTarget vt, varF] [varF] [rngF] (fun pe ctr =>
        match ad.jvp (vjpClosure attrs f false 0 pe (restGroup s (jvpTarget vt) varF) ctr)
            (selGroup s (jvpTarget vt), args) (jvpTangents vt, tangents) with
        | .error e => .error e
        | .ok (y, ty, (_, out, ctr')) => .ok ((y, ty), out, ctr')) s := by
  simp only [liftJvp, pack, varGroups_two]
  rfl

theorem liftValueAndGrad_eq_pack (ad : AD) (varF rngF : LFilter) (hasAux : Bool) (nY : Nat)
    (attrs : List (String × Int)) (f : Fn) (args : List Int) (s : ScopeSt) :
    liftValueAndGrad ad varF rngF hasAux nY attrs f args s =
      pack [varF] [varF] [rngF] (fun pe ctr =>
        match ad.vjp (vagClosure attrs f hasAux nY pe ctr) ([], args) with
        | .error e => .error e
        | .ok (y, bwd, (aux, out, ctr')) =>
          .ok (⟨y, if hasAux then some aux else none, (bwd (y.map (fun _ => 1))).2⟩, out, ctr')) s := rfl

theorem liftCustomVjp_eq_liftId {ρ : Type} (gradF : LFilter) (attrs : List (String × Int)) (fn fwdFn : Fn) (nY : Nat)
    (mkRes : List Int → ρ) (bwdFn : ρ → DOut → DIn) (args : List Int) (s : ScopeSt) :
    liftCustomVjp gradF attrs fn fwdFn nY mkRes bwdFn args s =
      liftId [gradF, .tt] [gradF, .tt] [.tt] .tt attrs fn args s := by
  simp only [liftCustomVjp, liftId, pack, varGroups_two, CustomVjp.call]

/-- A-AD (`vjp_val`, `jvp_val`) read as comparisons.  One lemma per field: the `match` in each field's statement is a
matcher constant of its own, and a common lemma stated with a third `match` unifies with neither. -/
theorem AD.vjp_rel (ad : AD) (g : DIn → Except Err (DOut × DAux)) (x : DIn) :
    ExceptRel (fun q v => (q.1, q.2.2) = v) (ad.vjp g x) (g x) := by
  have h := ad.vjp_val g x
  generalize g x = gx at h ⊢
  subst h
  cases ad.vjp g x <;> rfl

theorem AD.jvp_rel (ad : AD) (g : DIn → Except Err (DOut × DAux)) (x t : DIn) :
    ExceptRel (fun q v => (q.1, q.2.2) = v) (ad.jvp g x t) (g x) := by
  have h := ad.jvp_val g x t
  generalize g x = gx at h ⊢
  subst h
  cases ad.jvp g x t <;> rfl

/-- `X`: what JAX returns for a closure of value `gx` (A-AD, `hX`); `gx` is the traced body's result `r0` with `aux` split
off (`hg`) -/
theorem closure_rel {β : Type} {hasAux : Bool} {nY : Nat} {X : Except Err (DOut × β × DAux)}
    {gx : Except Err (DOut × DAux)} {r0 : Except Err (Out × List Vars × Counters)}
    (hX : ExceptRel (fun q v => (q.1, q.2.2) = v) X gx)
    (hg : gx = match r0 with
      | .error e => .error e
      | .ok (y, out, c) => .ok ((splitAux hasAux nY y.vals).1, (splitAux hasAux nY y.vals).2, out, c)) :
    ExceptRel (fun v q => q.1 = (splitAux hasAux nY v.1.vals).1 ∧ q.2.2 = ((splitAux hasAux nY v.1.vals).2, v.2))
      r0 X := by
  subst hg
  revert hX
  rcases r0 with e | ⟨y, out, c⟩ <;> rcases X with e' | ⟨y', bwd, a⟩ <;> intro h <;> cases h
  · rfl
  · exact ⟨rfl, rfl⟩

end Flax.LiftAD
