/-
C09: counter dictionaries are shared by reference; the replay of counter increments on a jit cache hit
(`set_from_dict`, in place) keeps every already-bound child scope aliased with its parent's entry, so a cache hit is
indistinguishable from running the body.

The heap `CHeap` (dict objects + links) and the scope machine's `Store` are both read as a table of counts (`HeapRep`, `Rep`).
-/
import Flax.Proofs.RngLinen

namespace Flax.Rng

/-- the heap is a tree with canonical addresses: what `Scope.push` and `set_from_dict` maintain -/
structure Canon (h : CHeap) : Prop where
  link : ∀ (a : CRef) (n : String) (b : CRef), find? (a, n) h.links = some b → b = (a.1, a.2 ++ [n])
  target : ∀ (a : CRef) (n : String) (b : CRef), find? (a, n) h.links = some b → (find? b h.cells).isSome
  nolink : ∀ (a : CRef) (n : String), find? (a, n) h.links = none → find? ((a.1, a.2 ++ [n]) : CRef) h.cells = none
  closed : ∀ (r : Nat) (q : List String) (m : String),
    (find? ((r, q ++ [m]) : CRef) h.cells).isSome → (find? ((r, q) : CRef) h.cells).isSome

def LinksMono (h h' : CHeap) : Prop := ∀ k v, find? k h.links = some v → find? k h'.links = some v
def CellsMono (h h' : CHeap) : Prop := ∀ c : CRef, (find? c h.cells).isSome → (find? c h'.cells).isSome
def ReadEq (h h' : CHeap) : Prop := ∀ (b : CRef) (s : String), h'.read b s = h.read b s

/-- kept by every heap operation: the tree shape, the scope's dict `a`, every link (every scope bound before stays aliased
with its parent's entry) -/
structure Keeps (a : CRef) (h h' : CHeap) : Prop where
  canon : Canon h'
  has : (find? a h'.cells).isSome
  links : LinksMono h h'

theorem Keeps.refl {a : CRef} {h : CHeap} (hc : Canon h) (ha : (find? a h.cells).isSome) : Keeps a h h :=
  ⟨hc, ha, fun _ _ h => h⟩

theorem Keeps.trans {a : CRef} {h h' h'' : CHeap} (h1 : Keeps a h h') (h2 : Keeps a h' h'') : Keeps a h h'' :=
  ⟨h2.canon, h2.has, fun k v hk => h2.links k v (h1.links k v hk)⟩

theorem canon_init : Canon CHeap.init := by
  refine ⟨by intro a n b h; simp [CHeap.init] at h, by intro a n b h; simp [CHeap.init] at h, ?_, ?_⟩
  · intro a n _
    simp only [CHeap.init, find?_cons, find?_nil]
    have : ¬ (((0 : Nat), ([] : List String)) = ((a.1, a.2 ++ [n]) : CRef)) := by
      intro e; have := (Prod.mk.inj e).2; simp at this
    simp [this]
  · intro r q m h
    simp only [CHeap.init, find?_cons, find?_nil] at h
    have : ¬ (((0 : Nat), ([] : List String)) = ((r, q ++ [m]) : CRef)) := by
      intro e; have := (Prod.mk.inj e).2; simp at this
    simp [this] at h

/-- the child's address; `Canon` kept; the child's dict exists; no link, no cell lost; every read unchanged -/
theorem pushC_spec (h : CHeap) (hc : Canon h) (a : CRef) (ha : (find? a h.cells).isSome) (n : String) :
    (h.pushC a n).2 = (a.1, a.2 ++ [n]) ∧ Canon (h.pushC a n).1 ∧ (find? (h.pushC a n).2 (h.pushC a n).1.cells).isSome ∧
      LinksMono h (h.pushC a n).1 ∧ CellsMono h (h.pushC a n).1 ∧ ReadEq h (h.pushC a n).1 := by
  unfold CHeap.pushC
  cases hl : find? (a, n) h.links with
  | some b =>
    exact ⟨hc.link a n b hl, hc, hc.target a n b hl, fun _ _ h => h, fun _ h => h, fun _ _ => rfl⟩
  | none =>
    -- no link means no cell at the canonical address (`nolink`), so links and cells each grow by one entry under a fresh key
    -- (`hL`, `hC`); a canonical address determines parent and name (`haddr`), so only the new link leads to the new cell
    have hcell := hc.nolink a n hl
    have hL := find?_append_fresh (a, n) ((a.1, a.2 ++ [n]) : CRef) h.links hl
    have hC := find?_append_fresh ((a.1, a.2 ++ [n]) : CRef) ([] : List (String × Nat)) h.cells hcell
    have haddr : ∀ (a' : CRef) (n' : String), ((a'.1, a'.2 ++ [n']) : CRef) = (a.1, a.2 ++ [n]) → (a', n') = (a, n) := by
      intro a' n' e
      obtain ⟨e1, e2⟩ := Prod.mk.inj e
      obtain ⟨e3, e4⟩ := List.append_singleton_inj.mp e2
      exact Prod.ext (Prod.ext e1 e3) e4
    have hself : a ≠ (a.1, a.2 ++ [n]) := by
      intro e
      have := congrArg (fun c : CRef => c.2.length) e
      simp at this
    simp only []
    refine ⟨trivial, ⟨?_, ?_, ?_, ?_⟩, by simp [hC], ?_, ?_, ?_⟩
    · intro a' n' b' hf
      rw [hL] at hf
      split at hf
      · rename_i he
        obtain ⟨rfl, rfl⟩ := Prod.mk.inj he
        exact (Option.some.inj hf).symm
      · exact hc.link a' n' b' hf
    · intro a' n' b' hf
      rw [hL] at hf
      rw [hC]
      split at hf
      · rw [← Option.some.inj hf]; simp
      · have := hc.target a' n' b' hf
        split
        · rfl
        · exact this
    · intro a' n' hf
      rw [hL] at hf
      split at hf
      · cases hf
      · rename_i he
        rw [hC, if_neg (fun e => he (haddr a' n' e))]
        exact hc.nolink a' n' hf
    · intro r q m hf
      rw [hC] at hf ⊢
      split at hf
      · rename_i he
        obtain ⟨e1, e2⟩ := Prod.mk.inj he
        obtain ⟨e3, _⟩ := List.append_singleton_inj.mp e2
        have : ((r, q) : CRef) = a := Prod.ext e1 e3
        rw [this, if_neg hself]
        exact ha
      · split
        · rfl
        · exact hc.closed r q m hf
    · intro k v hf
      rw [hL, if_neg (fun e => by rw [e, hl] at hf; cases hf)]
      exact hf
    · intro c hcs
      rw [hC]
      split
      · rfl
      · exact hcs
    · intro b s
      unfold CHeap.read
      simp only [hC]
      by_cases he : b = (a.1, a.2 ++ [n])
      · rw [if_pos he, he, hcell]; rfl
      · rw [if_neg he]

theorem ensure_spec : ∀ (p : List String) (h : CHeap), Canon h → ∀ (a : CRef), (find? a h.cells).isSome →
    (h.ensure a p).2 = (a.1, a.2 ++ p) ∧ Canon (h.ensure a p).1 ∧ (find? (h.ensure a p).2 (h.ensure a p).1.cells).isSome ∧
      LinksMono h (h.ensure a p).1 ∧ CellsMono h (h.ensure a p).1 ∧ ReadEq h (h.ensure a p).1 := by
  intro p
  induction p with
  | nil =>
    intro h hc a ha
    exact ⟨by simp [CHeap.ensure], hc, ha, fun _ _ h => h, fun _ h => h, fun _ _ => rfl⟩
  | cons n rest ih =>
    intro h hc a ha
    obtain ⟨e1, c1, x1, l1, m1, r1⟩ := pushC_spec h hc a ha n
    obtain ⟨e2, c2, x2, l2, m2, r2⟩ := ih (h.pushC a n).1 c1 (h.pushC a n).2 x1
    simp only [CHeap.ensure]
    refine ⟨by rw [e2, e1]; simp, c2, x2, fun k v hk => l2 k v (l1 k v hk), fun c hcs => m2 c (m1 c hcs), ?_⟩
    intro b s
    rw [r2 b s, r1 b s]

theorem read_modify (h : CHeap) (b : CRef) (s : String) (f : Nat → Nat) (b' : CRef) (t : String) :
    (h.modify b s f).read b' t = if b' = b ∧ t = s then f (h.read b s) else h.read b' t := by
  unfold CHeap.modify CHeap.read
  simp only []
  by_cases hb : b' = b
  · subst hb
    rw [find?_set_self]
    by_cases ht : t = s
    · subst ht; simp [find?_set_self]
    · simp only [ht, and_false, if_false, find?_set_ne _ _ _ _ ht]
      cases find? b' h.cells <;> rfl
  · simp only [hb, false_and, if_false, find?_set_ne _ _ _ _ hb]

theorem modify_cells_isSome (h : CHeap) (b : CRef) (hb : (find? b h.cells).isSome) (s : String) (f : Nat → Nat) (c : CRef) :
    (find? c (h.modify b s f).cells).isSome = (find? c h.cells).isSome := by
  unfold CHeap.modify
  simp only []
  by_cases hc : c = b
  · subst hc; simp [find?_set_self, hb]
  · rw [find?_set_ne _ _ _ _ hc]

theorem modify_canon (h : CHeap) (hc : Canon h) (b : CRef) (hb : (find? b h.cells).isSome) (s : String) (f : Nat → Nat) :
    Canon (h.modify b s f) := by
  have hs := modify_cells_isSome h b hb s f
  refine ⟨hc.link, ?_, ?_, ?_⟩
  · intro a n b' hf
    rw [hs]; exact hc.target a n b' hf
  · intro a n hf
    have := hc.nolink a n hf
    have h2 := hs (a.1, a.2 ++ [n])
    rw [this] at h2
    cases hx : find? ((a.1, a.2 ++ [n]) : CRef) (h.modify b s f).cells with
    | none => rfl
    | some d => rw [hx] at h2; simp at h2
  · intro r q m hf
    rw [hs] at hf ⊢
    exact hc.closed r q m hf

theorem applyAt_spec (h : CHeap) (hc : Canon h) (a : CRef) (ha : (find? a h.cells).isSome) (p : List String) (s : String)
    (f : Nat → Nat) :
    Keeps a h (h.applyAt a p s f) ∧
      ∀ (b : CRef) (t : String), (h.applyAt a p s f).read b t =
        if b = (a.1, a.2 ++ p) ∧ t = s then f (h.read b t) else h.read b t := by
  obtain ⟨e, c1, x1, l1, m1, r1⟩ := ensure_spec p h hc a ha
  unfold CHeap.applyAt
  simp only []
  refine ⟨⟨modify_canon _ c1 _ x1 s f, ?_, l1⟩, ?_⟩
  · rw [modify_cells_isSome _ _ x1]; exact m1 a ha
  · intro b t
    rw [read_modify, e]
    by_cases hb : b = (a.1, a.2 ++ p) ∧ t = s
    · obtain ⟨rfl, rfl⟩ := hb
      rw [if_pos ⟨rfl, rfl⟩, if_pos ⟨rfl, rfl⟩, r1]
    · simp only [hb, if_false]
      exact r1 b t

def hits (a : CRef) (b : CRef) (t : String) (body : List (List String × String)) : Nat :=
  (body.filter (fun d => decide (b = ((a.1, a.2 ++ d.1) : CRef) ∧ t = d.2))).length

theorem runBody_spec (a : CRef) : ∀ (body : List (List String × String)) (h : CHeap), Canon h → (find? a h.cells).isSome →
    Keeps a h (h.runBody a body) ∧ ∀ b t, (h.runBody a body).read b t = h.read b t + hits a b t body := by
  intro body
  induction body with
  | nil => intro h hc ha; exact ⟨Keeps.refl hc ha, fun b t => rfl⟩
  | cons d rest ih =>
    intro h hc ha
    obtain ⟨p, s⟩ := d
    obtain ⟨k1, r1⟩ := applyAt_spec h hc a ha p s (· + 1)
    obtain ⟨k2, r2⟩ := ih _ k1.canon k1.has
    simp only [CHeap.runBody]
    refine ⟨k1.trans k2, ?_⟩
    intro b t
    rw [r2 b t, r1 b t]
    simp only [hits, List.filter_cons]
    by_cases hb : b = (a.1, a.2 ++ p) ∧ t = s
    · simp only [hb, and_self, decide_true, if_true, List.length_cons]
      exact Nat.add_right_comm _ 1 _
    · simp only [hb, decide_false, if_false, Bool.false_eq_true]

theorem setFromDict_spec (a : CRef) : ∀ (ups : List (List String × String × Nat)) (h : CHeap), Canon h →
    (find? a h.cells).isSome → (ups.map (fun x => (x.1, x.2.1))).Nodup →
    Keeps a h (h.setFromDict a ups) ∧
      (∀ x ∈ ups, (h.setFromDict a ups).read (a.1, a.2 ++ x.1) x.2.1 = x.2.2) ∧
      (∀ b t, (∀ x ∈ ups, ¬ (b = (a.1, a.2 ++ x.1) ∧ t = x.2.1)) → (h.setFromDict a ups).read b t = h.read b t) := by
  intro ups
  induction ups with
  | nil =>
    intro h hc ha _
    exact ⟨Keeps.refl hc ha, fun x hx => absurd hx List.not_mem_nil, fun b t _ => rfl⟩
  | cons u rest ih =>
    intro h hc ha hnd
    obtain ⟨p, s, v⟩ := u
    simp only [List.map_cons, List.nodup_cons] at hnd
    obtain ⟨k1, r1⟩ := applyAt_spec h hc a ha p s (fun _ => v)
    obtain ⟨k2, w2, u2⟩ := ih _ k1.canon k1.has hnd.2
    simp only [CHeap.setFromDict]
    refine ⟨k1.trans k2, ?_, ?_⟩
    · intro x hx
      rcases List.mem_cons.mp hx with rfl | hx
      · rw [u2]
        · rw [r1]; simp
        · intro y hy hh
          obtain ⟨e1, e2⟩ := hh
          have e3 : p = y.1 := List.append_cancel_left (Prod.mk.inj e1).2
          apply hnd.1
          simp only [List.mem_map]
          exact ⟨y, hy, by simp [← e3, ← e2]⟩
      · exact w2 x hx
    · intro b t hno
      rw [u2 b t (fun x hx => hno x (List.mem_cons_of_mem _ hx)), r1]
      have := hno (p, s, v) (by simp)
      simp only at this
      simp [this]

theorem absent_deep (h : CHeap) (hc : Canon h) (r : Nat) : ∀ (more q : List String),
    find? ((r, q) : CRef) h.cells = none → find? ((r, q ++ more) : CRef) h.cells = none := by
  intro more
  induction more with
  | nil => intro q hq; simpa using hq
  | cons m rest ih =>
    intro q hq
    have h1 : find? ((r, q ++ [m]) : CRef) h.cells = none := by
      cases hx : find? ((r, q ++ [m]) : CRef) h.cells with
      | none => rfl
      | some d =>
        have := hc.closed r q m (by simp [hx])
        rw [hq] at this; simp at this
    have := ih (q ++ [m]) h1
    simpa [List.append_assoc] using this

theorem readVia_canon (h : CHeap) (hc : Canon h) : ∀ (p : List String) (a : CRef) (s : String),
    h.readVia a p s = h.read (a.1, a.2 ++ p) s := by
  intro p
  induction p with
  | nil => intro a s; simp [CHeap.readVia, CHeap.walk]
  | cons n rest ih =>
    intro a s
    unfold CHeap.readVia
    simp only [CHeap.walk]
    cases hl : find? (a, n) h.links with
    | some b =>
      have hb := hc.link a n b hl
      have := ih b s
      unfold CHeap.readVia at this
      simp only [] at this ⊢
      rw [this, hb]
      simp [List.append_assoc]
    | none =>
      have h0 := hc.nolink a n hl
      have h1 := absent_deep h hc a.1 rest (a.2 ++ [n]) h0
      simp only [CHeap.read]
      have : a.2 ++ n :: rest = a.2 ++ [n] ++ rest := by simp
      rw [this, h1]

theorem mem_dedupKeys (l : List (List String × String)) (x : List String × String) : x ∈ dedupKeys l ↔ x ∈ l := by
  induction l with
  | nil => simp [dedupKeys]
  | cons y ys ih =>
    unfold dedupKeys
    by_cases h : y ∈ ys
    · simp only [h, if_true, ih, List.mem_cons]
      constructor
      · intro hx; exact Or.inr hx
      · rintro (rfl | hx)
        · exact h
        · exact hx
    · simp only [h, if_false, List.mem_cons, ih]

theorem nodup_dedupKeys (l : List (List String × String)) : (dedupKeys l).Nodup := by
  induction l with
  | nil => simp [dedupKeys]
  | cons y ys ih =>
    unfold dedupKeys
    by_cases h : y ∈ ys
    · simp [h, ih]
    · simp only [h, if_false, List.nodup_cons]
      exact ⟨fun hm => h ((mem_dedupKeys ys y).mp hm), ih⟩

theorem hits_eq_count (a : CRef) (p : List String) (s : String) (body : List (List String × String)) :
    hits a (a.1, a.2 ++ p) s body = (body.filter (fun d => decide (d = (p, s)))).length := by
  unfold hits
  congr 1
  apply List.filter_congr
  intro d _
  obtain ⟨p', s'⟩ := d
  simp only [Prod.mk.injEq, decide_eq_decide]
  constructor
  · rintro ⟨e1, e2⟩
    exact ⟨(List.append_cancel_left e1.2).symm, e2.symm⟩
  · rintro ⟨rfl, rfl⟩
    simp

theorem hits_zero_of_not_mem (a b : CRef) (t : String) (body : List (List String × String))
    (h : ∀ d ∈ body, ¬ (b = (a.1, a.2 ++ d.1) ∧ t = d.2)) : hits a b t body = 0 := by
  unfold hits
  rw [List.length_eq_zero_iff, List.filter_eq_nil_iff]
  intro d hd
  simp only [decide_eq_true_eq]
  exact h d hd

/-- **A cache hit is indistinguishable from running the body** (in-place replay): every counter, read through any
reference, has the value the traced body would have left; no link is redirected. -/
theorem hitCall_spec (h : CHeap) (hc : Canon h) (a : CRef) (ha : (find? a h.cells).isSome)
    (body : List (List String × String)) :
    Keeps a h (h.hitCall a (deltaOf body)) ∧
      ∀ b t, (h.hitCall a (deltaOf body)).read b t = h.read b t + hits a b t body := by
  unfold CHeap.hitCall
  have hkeys : ((deltaOf body).map (fun x => (x.1, x.2.1, h.readVia a x.1 x.2.1 + x.2.2))).map (fun x => (x.1, x.2.1))
      = dedupKeys body := by
    simp [deltaOf, List.map_map, Function.comp_def]
  obtain ⟨k1, w1, u1⟩ := setFromDict_spec a _ h hc ha (by rw [hkeys]; exact nodup_dedupKeys body)
  refine ⟨k1, ?_⟩
  intro b t
  by_cases hex : ∃ d ∈ body, b = (a.1, a.2 ++ d.1) ∧ t = d.2
  · obtain ⟨d, hd, rfl, rfl⟩ := hex
    have hmem : (d.1, d.2, h.readVia a d.1 d.2 + (body.filter (fun d' => decide (d' = d))).length) ∈
        (deltaOf body).map (fun x => (x.1, x.2.1, h.readVia a x.1 x.2.1 + x.2.2)) := by
      simp only [deltaOf, List.map_map, List.mem_map, Function.comp]
      exact ⟨d, (mem_dedupKeys body d).mpr hd, rfl⟩
    have := w1 _ hmem
    simp only at this
    rw [this, readVia_canon h hc, hits_eq_count]
  · have hno : ∀ d ∈ body, ¬ (b = (a.1, a.2 ++ d.1) ∧ t = d.2) := fun d hd hh => hex ⟨d, hd, hh⟩
    rw [hits_zero_of_not_mem a b t body hno, Nat.add_zero]
    apply u1
    intro x hx
    simp only [deltaOf, List.map_map, List.mem_map, Function.comp] at hx
    obtain ⟨k, hk, rfl⟩ := hx
    exact hno k ((mem_dedupKeys body k).mp hk)

/-- `n` cache hits of a jit-ted function in a row; the traced first call is `runBody` -/
def jitCalls (a : CRef) (body : List (List String × String)) : Nat → CHeap → CHeap
  | 0, h => h
  | n + 1, h => (jitCalls a body n h).hitCall a (deltaOf body)

def runCalls (a : CRef) (body : List (List String × String)) : Nat → CHeap → CHeap
  | 0, h => h
  | n + 1, h => (runCalls a body n h).runBody a body

theorem calls_spec (a : CRef) (body : List (List String × String)) (step : CHeap → CHeap)
    (hstep : ∀ h, Canon h → (find? a h.cells).isSome →
      Keeps a h (step h) ∧ ∀ b t, (step h).read b t = h.read b t + hits a b t body)
    (f : Nat → CHeap → CHeap) (h0 : ∀ h, f 0 h = h) (hs : ∀ n h, f (n + 1) h = step (f n h)) :
    ∀ (n : Nat) (h : CHeap), Canon h → (find? a h.cells).isSome →
      Keeps a h (f n h) ∧ ∀ b t, (f n h).read b t = h.read b t + n * hits a b t body := by
  intro n
  induction n with
  | zero => intro h hc ha; rw [h0]; exact ⟨Keeps.refl hc ha, fun b t => by rw [Nat.zero_mul]; rfl⟩
  | succ n ih =>
    intro h hc ha
    obtain ⟨k1, r1⟩ := ih h hc ha
    obtain ⟨k2, r2⟩ := hstep _ k1.canon k1.has
    rw [hs]
    refine ⟨k1.trans k2, ?_⟩
    intro b t
    rw [r2, r1, Nat.add_mul, Nat.one_mul, Nat.add_assoc]

theorem jitCalls_spec (a : CRef) (body : List (List String × String)) : ∀ (n : Nat) (h : CHeap), Canon h →
    (find? a h.cells).isSome →
    Keeps a h (jitCalls a body n h) ∧ ∀ b t, (jitCalls a body n h).read b t = h.read b t + n * hits a b t body :=
  calls_spec a body _ (fun h hc ha => hitCall_spec h hc a ha body) (jitCalls a body) (fun _ => rfl) (fun _ _ => rfl)

theorem runCalls_spec (a : CRef) (body : List (List String × String)) : ∀ (n : Nat) (h : CHeap), Canon h →
    (find? a h.cells).isSome →
    Keeps a h (runCalls a body n h) ∧ ∀ b t, (runCalls a body n h).read b t = h.read b t + n * hits a b t body :=
  calls_spec a body _ (fun h hc ha => runBody_spec a body h hc ha) (runCalls a body) (fun _ => rfl) (fun _ _ => rfl)

theorem walk_mono (h h' : CHeap) (hl : LinksMono h h') : ∀ (p : List String) (a b : CRef),
    h.walk a p = some b → h'.walk a p = some b := by
  intro p
  induction p with
  | nil => intro a b hw; simpa [CHeap.walk] using hw
  | cons n rest ih =>
    intro a b hw
    simp only [CHeap.walk] at hw ⊢
    cases hf : find? (a, n) h.links with
    | none => simp [hf] at hw
    | some c =>
      rw [hf] at hw
      rw [hl _ _ hf]
      exact ih c b hw

/-- the heap holds the counts `c` (dict objects under root id 0 — the `bind` root — at their canonical addresses) -/
def HeapRep (h : CHeap) (c : Counts) : Prop := ∀ (π : Path) (s : String), h.read ((0 : Nat), π) s = c π s

theorem heapRep_init : HeapRep CHeap.init (fun _ _ => 0) := by
  intro π s
  by_cases h : ((0 : Nat), ([] : List String)) = ((0 : Nat), π) <;> simp [CHeap.read, CHeap.init, find?_cons, h]

/-- the draws of a body as the heap model sees them: (child path relative to the scope, stream after fallback); a draw no
stream answers is skipped; the theorems ask for `jitFree` -/
def bodyOf (cfg : Cfg) (B : List (String × SymKey)) : Prog → List (Path × String)
  | .done => []
  | .draw s rest =>
    match effOf cfg B s with
    | some (s', _) => ([], s') :: bodyOf cfg B rest
    | none => bodyOf cfg B rest
  | .sub n body rest => (bodyOf cfg B body).map (fun d => (n :: d.1, d.2)) ++ bodyOf cfg B rest
  | .jit body rest => bodyOf cfg B body ++ bodyOf cfg B rest

theorem hits_append (a b : CRef) (t : String) (x y : List (Path × String)) :
    hits a b t (x ++ y) = hits a b t x + hits a b t y := by
  simp [hits, List.filter_append]

theorem hits_map_cons (r : Nat) (π : Path) (n : String) (b : CRef) (t : String) (x : List (Path × String)) :
    hits (r, π) b t (x.map (fun d => (n :: d.1, d.2))) = hits (r, π ++ [n]) b t x := by
  unfold hits
  rw [List.filter_map, List.length_map]
  congr 1
  apply List.filter_congr
  intro d _
  simp only [Function.comp, List.append_assoc, List.singleton_append]

theorem specProg_counts (cfg : Cfg) : ∀ (p : Prog) (B : List (String × SymKey)) (rel π : Path) (c : Counts)
    (ks : List SymKey) (c' : Counts), specProg cfg p B rel π c = .ok (ks, c') → p.jitFree →
    ∀ π' s, c' π' s = c π' s + hits ((0 : Nat), π) ((0 : Nat), π') s (bodyOf cfg B p) := by
  refine specProg_ok_induction cfg ?_ ?_ ?_ (fun _ _ _ _ _ _ _ _ _ _ _ _ _ _ hjf => hjf.elim)
  · intro B rel π c _ π' s
    rfl
  · intro st rest B rel π c s' k ks c' he _ ih hjf π' s
    rw [ih hjf π' s]
    simp only [bodyOf, he, hits, List.filter_cons, List.append_nil, bump, Prod.mk.injEq, true_and]
    by_cases hp : π' = π ∧ s = s'
    · simp only [hp, and_self, decide_true, if_true, List.length_cons]
      exact Nat.add_right_comm _ 1 _
    · simp only [hp, decide_false, if_false, Bool.false_eq_true]
  · intro n body rest B rel π c k1 c1 k2 c2 _ _ ihb ihr hjf π' s
    rw [ihr hjf.2 π' s, ihb hjf.1 π' s]
    simp only [bodyOf, hits_append, hits_map_cons]
    exact Nat.add_assoc _ _ _

/-- `Store` side: the (jit-free) body runs at scope `π`, the traced call.  Heap side: the same body run on dict objects, or its
cached delta replayed in place (a cache hit). -/
theorem store_run_simulated_by_heap_replay (cfg : Cfg) (B : List (String × SymKey))
    (rel π : Path) (st : Store) (c : Counts) (hrep : Rep B st c) (hhas : (find? ((0 : Nat), π) st.dicts).isSome)
    (h : CHeap) (hc : Canon h) (ha : (find? ((0 : Nat), π) h.cells).isSome) (hh : HeapRep h c)
    (p : Prog) (hjf : p.jitFree) (ks : List SymKey) (st' : Store)
    (hrun : runProg cfg p (scopeG B rel π) st = .ok (ks, st')) :
    ∃ c', Rep B st' c' ∧
      HeapRep (h.runBody ((0 : Nat), π) (bodyOf cfg B p)) c' ∧
      HeapRep (h.hitCall ((0 : Nat), π) (deltaOf (bodyOf cfg B p))) c' ∧
      (∀ q b, h.walk ((0 : Nat), π) q = some b → (h.hitCall ((0 : Nat), π) (deltaOf (bodyOf cfg B p))).walk ((0 : Nat), π) q = some b) := by
  obtain ⟨c', hs, hrep', _⟩ := (runProg_specProg cfg p B (Or.inl hjf) rel π st c hrep hhas).of_ok hrun
  have hcnt := specProg_counts cfg p B rel π c ks c' hs hjf
  obtain ⟨_, rr⟩ := runBody_spec ((0 : Nat), π) (bodyOf cfg B p) h hc ha
  obtain ⟨kh, rh⟩ := hitCall_spec h hc ((0 : Nat), π) ha (bodyOf cfg B p)
  refine ⟨c', hrep', ?_, ?_, ?_⟩
  · intro π' s; rw [rr, hh π' s, hcnt π' s]
  · intro π' s; rw [rh, hh π' s, hcnt π' s]
  · intro q b hw; exact walk_mono _ _ kh.links q _ b hw

end Flax.Rng
