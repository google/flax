/- C08 proofs: `nnx.scan` — the loop: every iteration of `lax.scan(ScanFn, …)` is an iteration of the reference loop,
carry threaded in processing order (either direction); `nnxScan_loop` opens a returning `nnxScan` into its stages -/
import Flax.Proofs.NnxLoopScanIter

namespace Flax.NnxLoop
open Flax.Filter Flax.LiftLoop

section loop
variable {α : Type} [Inhabited α]

theorem spureAt_skeleton {i : Nat} (st : Store α) {pure xs : List (SPure α)} (h : mapX (spureAt i) pure = .ok xs) :
    mapX (scanSplitArgOut st) xs = mapX (scanSplitArgOut st) pure := by
  refine mapX_through h (fun x _ y hx => ?_)
  cases x with
  | node g p vec => obtain ⟨_, _, rfl⟩ := spureAt_node_ok.1 hx; rfl
  | arrX k a => obtain ⟨_, _, rfl⟩ := spureAt_arrX_ok.1 hx; rfl
  | arrCarry a => cases hx; rfl
  | hole => cases hx; rfl

/-- what relates the carry of `lax.scan` to the state of the reference loop: same array carry, and `carry_deque` is the
carry route of the values the previous iteration left -/
def CarryInv (pure : List (SPure α)) (cI : ScanCarry α) (cS : Option (Arr α) × Store α) : Prop :=
  cI.1 = cS.1 ∧ ∃ parts, mapX (scanSplitArgOut cS.2) pure = .ok parts ∧ cI.2 = (parts.filterMap id).map (·.2)

/-- what relates the per-iteration output of `ScanFn` to what the reference iteration records: the vectorised states are
the vectorised route of the values the iteration left, the results are the iteration's results after `to_tree`, one per
out prefix -/
def YRel (pure : List (SPure α)) (outPs : List Prefix) (yS : Store α × List (Out α)) (yI : ScanY α) : Prop :=
  (∃ parts, mapX (scanSplitArgOut yS.1) pure = .ok parts ∧ yI.1 = (parts.filterMap id).map (·.1)) ∧
  mapX splitOut (outPs.zip yS.2) = .ok yI.2 ∧ outPs.length = yS.2.length

theorem scanFn_step {body : Body α} {ca : CarryArg} {cout : CarryPos} {outPs : List Prefix} {store : Store α}
    {pas : List (Prefix × Arg α)} {si : ScanIn α} (hwf : WFArgs pas) (hsi : scanSplitIn store pas [] [] = .ok si)
    {cI : ScanCarry α} {cS : Option (Arr α) × Store α} (hinv : CarryInv si.pure cI cS) {i : Nat}
    {xs : List (SPure α)} (hxs : mapX (spureAt i) si.pure = .ok xs) {cI' : ScanCarry α} {yI : ScanY α}
    (h : scanFn body ca cout outPs si.bcastDeque si.bcastArrays cI xs = .ok (cI', yI)) :
    ∃ cS' yS, scanStepSpec body ca cout outPs store pas cS i = .ok (cS', yS) ∧
      CarryInv si.pure cI' cS' ∧ YRel si.pure outPs yS yI := by
  obtain ⟨hc1, parts, hparts, hc2⟩ := hinv
  obtain ⟨pure, hS, hR⟩ := scanSplitIn_ok_iff.1 hsi
  -- `_scan_merge_in` hands the function the reference's inputs; after the call both sides run the same checks, and the
  -- new carry deque and vectorised states are routes of the store the call left
  obtain ⟨ins, arrs, h1, h2, h3⟩ := scan_iteration_sees cS.2 i cI.1 hS hR hwf xs parts [] hxs hparts rfl
  simp only [scanFn] at h
  rw [hc2, h3] at h
  simp only [List.nil_append] at h
  cases hb : body ins arrs with
  | error e => simp [hb] at h
  | ok io =>
    obtain ⟨inner', outs⟩ := io
    simp only [hb] at h
    cases hcr : checkCarryRefs ca ((carryOutIdx cout).bind (fun k => outs[k]?)) with
    | error e => simp [hcr] at h
    | ok cArr =>
      simp only [hcr] at h
      cases hpo : mapX (scanSplitArgOut inner') xs with
      | error e => simp [hpo] at h
      | ok parts' =>
        simp only [hpo] at h
        by_cases hlen : outPs.length = (dropCarry (carryOutIdx cout) outs).length
        · simp only [hlen, ne_eq, not_true_eq_false, if_false] at h
          cases hso : mapX splitOut (outPs.zip (dropCarry (carryOutIdx cout) outs)) with
          | error e => simp [hso] at h
          | ok pouts =>
            simp only [hso] at h
            injection h with h
            injection h with h1' h2'
            subst h1'; subst h2'
            rw [spureAt_skeleton inner' hxs] at hpo
            refine ⟨(cArr, inner'), (inner', dropCarry (carryOutIdx cout) outs), ?_, ?_, ?_⟩
            · simp only [scanStepSpec, h1, bindX]
              rw [← hc1, h2]
              simp only [hb, hcr, hlen, ne_eq, not_true_eq_false, if_false]
            · exact ⟨rfl, parts', hpo, rfl⟩
            · exact ⟨⟨parts', hpo, rfl⟩, hso, hlen⟩
        · simp [hlen] at h

/-- a step-wise simulation lifts to the fold: `Inv` relates the carries, `Y` the outputs position by position -/
theorem foldX_scanStep_sim {σI σS χ ωI ωS : Type} {xsAt : Nat → Except Err χ} {fI : σI → χ → Except Err (σI × ωI)}
    {sameI : σI → σI → Bool} {fS : σS → Nat → Except Err (σS × ωS)} {Inv : σI → σS → Prop} {Y : ωS → ωI → Prop}
    (hstep : ∀ cI cS i x cI' yI, Inv cI cS → xsAt i = .ok x → fI cI x = .ok (cI', yI) →
      ∃ cS' yS, fS cS i = .ok (cS', yS) ∧ Inv cI' cS' ∧ Y yS yI) :
    ∀ (l : List Nat) (sI : σI × List ωI) (sS : σS × List ωS) (sI' : σI × List ωI),
      Inv sI.1 sS.1 → All2 Y sS.2 sI.2 → foldX (scanStep xsAt fI sameI) sI l = .ok sI' →
      ∃ sS', foldX (scanStep (fun i => .ok i) fS (fun _ _ => true)) sS l = .ok sS' ∧
        Inv sI'.1 sS'.1 ∧ All2 Y sS'.2 sI'.2 := by
  intro l
  induction l with
  | nil =>
    intro sI sS sI' hi hy h
    simp only [foldX] at h
    injection h with h
    subst h
    exact ⟨sS, rfl, hi, hy⟩
  | cons i is ih =>
    intro sI sS sI' hi hy h
    obtain ⟨s1, hs1, hrest⟩ := foldX_cons_ok h
    simp only [scanStep] at hs1
    cases hx : xsAt i with
    | error e => simp [hx] at hs1
    | ok x =>
      simp only [hx] at hs1
      cases hf : fI sI.1 x with
      | error e => simp [hf] at hs1
      | ok r =>
        obtain ⟨cI', yI⟩ := r
        simp only [hf] at hs1
        cases hsm : sameI sI.1 cI' with
        | false => simp [hsm] at hs1
        | true =>
          simp only [hsm, if_true] at hs1
          injection hs1 with hs1
          subst hs1
          obtain ⟨cS', yS, hfs, hinv', hy'⟩ := hstep _ _ _ _ _ _ hi hx hf
          obtain ⟨sS', hfold, h1, h2⟩ := ih (cI', sI.2 ++ [yI]) (cS', sS.2 ++ [yS]) sI' hinv' (all2_append hy (.cons hy' .nil)) hrest
          refine ⟨sS', ?_, h1, h2⟩
          simp only [foldX, scanStep, hfs, if_true]
          exact hfold

/-- when `lax.scan(ScanFn, …)` returns, so does the reference loop over the same processing order (`reverse`: from `n-1`
down to `0`); not conversely, the reference compares no carry structures.  `scanFn_step` along the list of indices;
output `i` of either side is the record of the iteration that processed index `i`. -/
theorem scan_loop_sim {body : Body α} {ca : CarryArg} {cout : CarryPos} {outPs : List Prefix} {store : Store α}
    {pas : List (Prefix × Arg α)} {si : ScanIn α} (hwf : WFArgs pas) (hsi : scanSplitIn store pas [] [] = .ok si)
    {n : Nat} {reverse : Bool} {cfin : ScanCarry α} {ys : List (ScanY α)}
    (h : laxScanX n reverse (fun i => mapX (spureAt i) si.pure)
      (scanFn body ca cout outPs si.bcastDeque si.bcastArrays) sameCarry (initCarryArr si.pure, si.carryDeque)
      = .ok (cfin, ys)) :
    ∃ fin recs, laxScanX n reverse (fun i => .ok i) (scanStepSpec body ca cout outPs store pas) (fun _ _ => true)
        (initCarrySpec (arrArgs pas), store) = .ok (fin, recs) ∧
      CarryInv si.pure cfin fin ∧ All2 (YRel si.pure outPs) recs ys := by
  simp only [laxScanX] at h
  cases hf : foldX (scanStep (fun i => mapX (spureAt i) si.pure)
      (scanFn body ca cout outPs si.bcastDeque si.bcastArrays) sameCarry)
      ((initCarryArr si.pure, si.carryDeque), []) (if reverse then (List.range n).reverse else List.range n) with
  | error e => simp [hf] at h
  | ok r =>
    simp only [hf] at h
    injection h with h
    injection h with h1 h2
    obtain ⟨pure, hS, hR⟩ := scanSplitIn_ok_iff.1 hsi
    obtain ⟨⟨parts, hp1, hp2⟩, hinit⟩ := scanSplitIn_init hS hR
    have hinv0 : CarryInv si.pure (initCarryArr si.pure, si.carryDeque) (initCarrySpec (arrArgs pas), store) :=
      ⟨hinit, parts, hp1, hp2⟩
    obtain ⟨sS', hfold, hi', hy'⟩ := foldX_scanStep_sim
      (fS := scanStepSpec body ca cout outPs store pas) (Inv := CarryInv si.pure) (Y := YRel si.pure outPs)
      (fun cI cS i x cI' yI hinv hx hfI => scanFn_step hwf hsi hinv hx hfI)
      _ ((initCarryArr si.pure, si.carryDeque), []) ((initCarrySpec (arrArgs pas), store), []) r hinv0 All2.nil hf
    refine ⟨sS'.1, if reverse then sS'.2.reverse else sS'.2, ?_, ?_, ?_⟩
    · simp only [laxScanX, hfold]
    · rw [← h1]; exact hi'
    · rw [← h2]
      cases reverse with
      | true => simpa using all2_reverse hy'
      | false => simpa using hy'

end loop

/-- `nnx.scan` up to the final stacking: what it returns is computed by `scanWriteBack` and `scanCollectOut` /
`insertCarry` from per-iteration records that `scan_loop_sim` relates to those of the reference loop. -/
theorem nnxScan_loop {α : Type} [Inhabited α] {inAxes outAxes : AxesSpec} {length : Option Nat} {reverse : Bool}
    {nOuts : Nat} {body : Body α} {args : List (Arg α)} {store : Store α} {res : Store α × List (Out α)}
    (h : nnxScan inAxes outAxes length reverse nOuts body args store = .ok res)
    (hwf : ∀ ps, inAxes.expand args.length = .ok ps → WFArgs (ps.zip args)) :
    ∃ cin cout ps si ca outPs n cfin ys fin recs outs,
      scanSetup inAxes outAxes = .ok (cin, cout) ∧ inAxes.expand args.length = .ok ps ∧
      scanSplitIn store (ps.zip args) [] [] = .ok si ∧ carryArgOf cin args = .ok ca ∧
      outPrefixes outAxes cout nOuts = .ok outPs ∧ 0 < n ∧
      laxScanX n reverse (fun i => .ok i) (scanStepSpec body ca cout outPs store (ps.zip args)) (fun _ _ => true)
        (initCarrySpec (arrArgs (ps.zip args)), store) = .ok (fin, recs) ∧
      CarryInv si.pure cfin fin ∧ All2 (YRel si.pure outPs) recs ys ∧
      scanWriteBack (ys.map (·.1)) si.pure cfin.2 si.bcastDeque store = .ok res.1 ∧
      (∃ y0 yt, ys = y0 :: yt ∧ mapX (scanOutAt (ys.map (·.2))) ((List.range y0.2.length).zip y0.2) = .ok outs) ∧
      insertCarry cout ca fin.1 outs = .ok res.2 ∧
      ∃ dims, scanDims si.pure = .ok dims ∧ jaxLength length dims = .ok n := by
  simp only [nnxScan] at h
  cases h1 : scanSetup inAxes outAxes with
  | error e => simp [h1] at h
  | ok cc =>
  obtain ⟨cin, cout⟩ := cc
  simp only [h1] at h
  by_cases hc : (decide (cin = .all) && decide (args.length ≠ 1)) = true
  · rw [if_pos hc] at h; cases h
  rw [if_neg hc] at h
  cases h2 : inAxes.expand args.length with
  | error e => simp [h2] at h
  | ok ps =>
  simp only [h2] at h
  cases h3 : scanSplitIn store (ps.zip args) [] [] with
  | error e => simp [h3] at h
  | ok si =>
  simp only [h3] at h
  cases h4 : carryArgOf cin args with
  | error e => simp [h4] at h
  | ok ca =>
  simp only [h4] at h
  cases h5 : outPrefixes outAxes cout nOuts with
  | error e => simp [h5] at h
  | ok outPs =>
  simp only [h5] at h
  cases h6 : scanDims si.pure with
  | error e => simp [h6] at h
  | ok dims =>
  simp only [h6] at h
  cases h7 : liftL (jaxLength length dims) with
  | error e => simp [h7] at h
  | ok n =>
  simp only [h7] at h
  by_cases hn0 : n = 0
  · rw [if_pos hn0] at h; cases h
  rw [if_neg hn0] at h
  generalize hls : laxScanX n reverse _ _ sameCarry _ = mls at h
  cases mls with
  | error e => simp at h
  | ok cy =>
  obtain ⟨cfin, ys⟩ := cy
  simp only [] at h
  cases ys with
  | nil => simp at h
  | cons y0 yt =>
  simp only [] at h
  generalize hwb : scanWriteBack _ si.pure cfin.2 si.bcastDeque store = mwb at h
  cases mwb with
  | error e => simp at h
  | ok store' =>
  simp only [] at h
  generalize hco : mapX (scanOutAt _) ((List.range y0.2.length).zip y0.2) = mco at h
  cases mco with
  | error e => simp at h
  | ok outs =>
  simp only [] at h
  cases hic : insertCarry cout ca cfin.1 outs with
  | error e => simp [hic] at h
  | ok outs' =>
  simp only [hic] at h
  injection h with h
  subst h
  -- when the scan of `ScanFn` returns, so does the reference loop
  obtain ⟨fin, recs, hloop, hinv, hy⟩ := scan_loop_sim (hwf ps h2) h3 hls
  refine ⟨cin, cout, ps, si, ca, outPs, n, cfin, y0 :: yt, fin, recs, outs, rfl, rfl, h3, h4, h5,
    Nat.pos_of_ne_zero hn0, hloop, hinv, hy, hwb, ⟨y0, yt, rfl, hco⟩, ?_, dims, h6, liftL_ok.1 h7⟩
  rw [← hinv.1]
  exact hic

end Flax.NnxLoop
