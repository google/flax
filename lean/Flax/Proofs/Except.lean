/-
What a `do` block in `Except` returns (`bind_ok`, `map_ok`, the guards), two runs that end alike (`ExceptRel`), what a
`mapM` over a list does in `Option` and in `Except`, and what `Except.toOption` keeps of sequencing and of traversals:
the steps with which every inversion of a model run begins. All of it is independent of the error type, since every
model has its own.
-/
namespace Flax
universe u v

theorem bind_ok {ε : Type u} {α β : Type v} {x : Except ε α} {f : α → Except ε β} {b : β} :
    (x >>= f) = .ok b ↔ ∃ a, x = .ok a ∧ f a = .ok b := by
  cases x with
  | error e => exact ⟨fun h => (nomatch h), fun ⟨_, h, _⟩ => (nomatch h)⟩
  | ok a => exact ⟨fun h => ⟨a, rfl, h⟩, fun ⟨_, h, h'⟩ => Except.ok.inj h ▸ h'⟩

theorem bind_err {ε : Type u} {α β : Type v} {x : Except ε α} {f : α → Except ε β} {e : ε} (h : (x >>= f) = .error e) :
    x = .error e ∨ ∃ a, x = .ok a ∧ f a = .error e := by
  cases x with
  | error e' => exact Or.inl (congrArg Except.error (Except.error.inj h))
  | ok a => exact Or.inr ⟨a, rfl, h⟩

/-- A change of error type (the models' `liftL`, `liftG`, `liftE`: each `Except.mapError` of a constructor, written
out) succeeds exactly where the run did, with the same value. -/
theorem lift_eq_ok {ε ε' α : Type} (lift : Except ε α → Except ε' α) (ok : ∀ a, lift (.ok a) = .ok a)
    (error : ∀ e, ∃ e', lift (.error e) = .error e') {x : Except ε α} {a : α} : lift x = .ok a ↔ x = .ok a := by
  cases x with
  | ok b => rw [ok]; exact ⟨fun h => congrArg _ (Except.ok.inj h), fun h => congrArg _ (Except.ok.inj h)⟩
  | error e => obtain ⟨e', he⟩ := error e; rw [he]; exact ⟨fun h => (nomatch h), fun h => (nomatch h)⟩

theorem map_ok {ε α β : Type} {f : α → β} {x : Except ε α} {b : β} :
    x.map f = .ok b ↔ ∃ a, x = .ok a ∧ f a = b := by
  cases x with
  | error e => exact ⟨fun h => (nomatch h), fun ⟨_, h, _⟩ => (nomatch h)⟩
  | ok a => exact ⟨fun h => ⟨a, rfl, Except.ok.inj h⟩, fun ⟨_, h, h'⟩ => Except.ok.inj h ▸ congrArg _ h'⟩

theorem map_error {ε α β : Type} {f : α → β} {x : Except ε α} {e : ε} : x.map f = .error e ↔ x = .error e := by
  cases x with
  | error e' => exact ⟨fun h => Except.error.inj h ▸ rfl, fun h => Except.error.inj h ▸ rfl⟩
  | ok a => exact ⟨fun h => (nomatch h), fun h => (nomatch h)⟩

/-- `if p then throw e` followed by `k`, as `do` notation unfolds it -/
theorem guard_ok {ε α : Type} (p : Prop) [Decidable p] (e : ε) (k : Unit → Except ε α) (a : α) :
    (if p then (do let r ← (throw e : Except ε Unit); k r) else k ()) = .ok a ↔ ¬ p ∧ k () = .ok a := by
  by_cases h : p
  · simp only [h, if_true, not_true, false_and, iff_false]; intro h'; cases h'
  · simp only [h, if_false, not_false_eq_true, true_and]

theorem check_then_ok {ε α : Type} (chk : Except ε Unit) (v out : α) :
    (do chk; pure v) = Except.ok out ↔ chk = .ok () ∧ v = out := by
  rw [bind_ok]
  exact ⟨fun ⟨_, h, h'⟩ => ⟨h, Except.ok.inj h'⟩, fun ⟨h, h'⟩ => ⟨(), h, congrArg _ h'⟩⟩

/-! ### Two runs that end alike -/

/-- both runs return, with `R`-related results, or both fail with the same error: the form of every comparison of plain
code with transformed code, of one scope with another, of a Python loop with a JAX loop -/
def ExceptRel {ε α β : Type} (R : α → β → Prop) : Except ε α → Except ε β → Prop
  | .ok a, .ok b => R a b
  | .error e, .error e' => e = e'
  | _, _ => False

namespace ExceptRel
variable {ε α β γ : Type} {R : α → β → Prop} {x : Except ε α} {y : Except ε β}

theorem ok {a : α} {b : β} (h : R a b) : ExceptRel R (.ok a : Except ε α) (.ok b) := h

theorem error (e : ε) : ExceptRel R (.error e : Except ε α) (.error e : Except ε β) := rfl

@[elab_as_elim] theorem elim {P : Except ε α → Except ε β → Prop} (h : ExceptRel R x y)
    (ok : ∀ a b, x = .ok a → y = .ok b → R a b → P (.ok a) (.ok b))
    (error : ∀ e, x = .error e → y = .error e → P (.error e) (.error e)) : P x y := by
  cases x <;> cases y
  · cases h; exact error _ rfl rfl
  · exact False.elim h
  · exact False.elim h
  · exact ok _ _ rfl rfl h

theorem cases (h : ExceptRel R x y) : (∃ e, x = .error e ∧ y = .error e) ∨ ∃ a b, x = .ok a ∧ y = .ok b ∧ R a b :=
  h.elim (fun a b _ _ r => Or.inr ⟨a, b, rfl, rfl, r⟩) (fun e _ _ => Or.inl ⟨e, rfl, rfl⟩)

theorem mono {S : α → β → Prop} (h : ExceptRel R x y) (hRS : ∀ a b, x = .ok a → y = .ok b → R a b → S a b) :
    ExceptRel S x y :=
  h.elim (fun a b hx hy r => hRS a b hx hy r) (fun _ _ _ => rfl)

theorem trans {S : β → γ → Prop} {z : Except ε γ} (h₁ : ExceptRel R x y) (h₂ : ExceptRel S y z) :
    ExceptRel (fun a c => ∃ b, y = .ok b ∧ R a b ∧ S b c) x z := by
  revert h₂
  refine h₁.elim (fun a b _ _ r h₂ => ?_) (fun e _ _ h₂ => ?_)
  · cases z
    · exact False.elim h₂
    · exact ⟨b, rfl, r, h₂⟩
  · cases z
    · exact h₂
    · exact False.elim h₂

end ExceptRel

theorem map_eq_map {ε α β : Type} {g : α → β} {x y : Except ε α} (h : x.map g = y.map g) :
    ExceptRel (fun a b => g a = g b) x y := by
  cases x <;> cases y <;> simp [Except.map] at h
  · exact h ▸ .error _
  · exact .ok h

end Flax

/-! ### `mapM`

The models write their `mapM` out (`LiftLoop.mapE`, `NnxLoop.mapX` in `Except`, each over its own error type;
`LiftLoop.mapO` in `Option`); all are `List.mapM`. What a successful run says about the elements
is proved for `Option` and carried to `Except` by forgetting the error. -/
namespace Flax
universe u v w
variable {ε : Type u} {β : Type w} {γ δ : Type v}

theorem mapM_congr {m : Type v → Type u} [Monad m] [LawfulMonad m] {f g : β → m γ} :
    ∀ (l : List β), (∀ x ∈ l, f x = g x) → l.mapM f = l.mapM g
  | [], _ => rfl
  | x :: xs, h => by
    rw [List.mapM_cons, List.mapM_cons, h x List.mem_cons_self,
      mapM_congr xs fun y hy => h y (List.mem_cons_of_mem _ hy)]

theorem mapM_cons_some {f : β → Option γ} {x : β} {xs : List β} {r : List γ} :
    (x :: xs).mapM f = some r ↔ ∃ y ys, f x = some y ∧ xs.mapM f = some ys ∧ r = y :: ys := by
  rw [List.mapM_cons]
  constructor
  · intro h
    obtain ⟨y, hy, h⟩ := Option.bind_eq_some_iff.mp h
    obtain ⟨ys, hys, h⟩ := Option.bind_eq_some_iff.mp h
    exact ⟨y, ys, hy, hys, (Option.some.inj h).symm⟩
  · rintro ⟨y, ys, hy, hys, rfl⟩
    rw [hy, hys]; rfl

/-- a run succeeds exactly when every element does, and then position by position -/
theorem mapM_some_iff {f : β → Option γ} : ∀ {l : List β} {r : List γ},
    l.mapM f = some r ↔ r.length = l.length ∧ ∀ i (h1 : i < l.length) (h2 : i < r.length), f l[i] = some r[i]
  | [], r => by
    rw [List.mapM_nil]
    exact ⟨fun h => Option.some.inj h ▸ ⟨rfl, fun _ h1 => absurd h1 (Nat.not_lt_zero _)⟩,
      fun h => congrArg _ (List.eq_nil_of_length_eq_zero h.1).symm⟩
  | x :: xs, r => by
    rw [mapM_cons_some]
    constructor
    · rintro ⟨y, ys, hy, hys, rfl⟩
      have ih := mapM_some_iff.mp hys
      refine ⟨congrArg (· + 1) ih.1, fun i h1 h2 => ?_⟩
      cases i with
      | zero => exact hy
      | succ i => exact ih.2 i (Nat.lt_of_succ_lt_succ h1) (Nat.lt_of_succ_lt_succ h2)
    · intro ⟨hl, hp⟩
      cases r with
      | nil => cases hl
      | cons y ys =>
        exact ⟨y, ys, hp 0 (Nat.zero_lt_succ _) (Nat.zero_lt_succ _), mapM_some_iff.mpr ⟨Nat.succ.inj hl, fun i h1 h2 =>
          hp (i + 1) (Nat.succ_lt_succ h1) (Nat.succ_lt_succ h2)⟩, rfl⟩

theorem mapM_id_some_iff (l : List (Option γ)) (s : List γ) : l.mapM id = some s ↔ l = s.map some := by
  rw [mapM_some_iff]
  constructor
  · intro ⟨hl, h⟩
    refine List.ext_getElem (by rw [List.length_map, hl]) fun i h1 h2 => ?_
    rw [List.getElem_map]
    exact h i h1 (by rwa [List.length_map] at h2)
  · rintro rfl
    exact ⟨(List.length_map _).symm, fun i _ _ => List.getElem_map _⟩

theorem mapM_eq_some_map {f : β → Option γ} {g : β → γ} (l : List β) (h : ∀ x ∈ l, f x = some (g x)) :
    l.mapM f = some (l.map g) := by
  rw [mapM_congr l h]; exact List.mapM_pure (m := Option)

theorem mapM_map_eq_some {α : Type u} {β : Type v} {γ : Type w} {f : β → Option γ} {g : α → β} {h : α → γ} (l : List α)
    (hp : ∀ x ∈ l, f (g x) = some (h x)) : (l.map g).mapM f = some (l.map h) := by
  rw [List.mapM_map]; exact mapM_eq_some_map l hp

theorem toOption_mapM (f : β → Except ε γ) : ∀ l : List β, (l.mapM f).toOption = l.mapM fun x => (f x).toOption
  | [] => rfl
  | x :: xs => by
    rw [List.mapM_cons, List.mapM_cons, ← toOption_mapM f xs]
    cases f x with
    | error e => rfl
    | ok y => cases xs.mapM f <;> rfl


theorem mapM_cons_ok {f : β → Except ε γ} {x : β} {xs : List β} {r : List γ} :
    (x :: xs).mapM f = .ok r ↔ ∃ y ys, f x = .ok y ∧ xs.mapM f = .ok ys ∧ r = y :: ys := by
  rw [List.mapM_cons]
  constructor
  · intro h
    obtain ⟨y, hy, h⟩ := bind_ok.mp h
    obtain ⟨ys, hys, h⟩ := bind_ok.mp h
    exact ⟨y, ys, hy, hys, (Except.ok.inj h).symm⟩
  · rintro ⟨y, ys, hy, hys, rfl⟩
    rw [hy, hys]; rfl

theorem toOption_eq_some {x : Except ε γ} {a : γ} : x.toOption = some a ↔ x = .ok a := by
  cases x with
  | error e => exact ⟨fun h => (nomatch h), fun h => (nomatch h)⟩
  | ok b => exact ⟨fun h => congrArg _ (Option.some.inj h), fun h => congrArg _ (Except.ok.inj h)⟩

theorem mapM_ok_iff {f : β → Except ε γ} {l : List β} {r : List γ} :
    l.mapM f = .ok r ↔ r.length = l.length ∧ ∀ i (h1 : i < l.length) (h2 : i < r.length), f l[i] = .ok r[i] := by
  rw [← toOption_eq_some, toOption_mapM, mapM_some_iff]
  simp only [toOption_eq_some]

theorem mapM_ok_mem {f : β → Except ε γ} {l : List β} {r : List γ} (h : l.mapM f = .ok r) :
    ∀ x ∈ l, ∃ y, f x = .ok y ∧ y ∈ r := by
  intro x hx
  obtain ⟨i, hi, rfl⟩ := List.getElem_of_mem hx
  obtain ⟨hl, hp⟩ := mapM_ok_iff.mp h
  exact ⟨r[i]'(hl ▸ hi), hp i hi (hl ▸ hi), List.getElem_mem _⟩

theorem mapM_ok_mem_rev {f : β → Except ε γ} {l : List β} {r : List γ} (h : l.mapM f = .ok r) :
    ∀ y ∈ r, ∃ x ∈ l, f x = .ok y := by
  intro y hy
  obtain ⟨i, hi, rfl⟩ := List.getElem_of_mem hy
  obtain ⟨hl, hp⟩ := mapM_ok_iff.mp h
  exact ⟨l[i]'(hl ▸ hi), List.getElem_mem _, hp i (hl ▸ hi) hi⟩

theorem mapM_eq_map {f : β → Except ε γ} {g : β → γ} (l : List β) (h : ∀ x ∈ l, f x = .ok (g x)) :
    l.mapM f = .ok (l.map g) := by
  rw [mapM_congr l h]; exact List.mapM_pure (m := Except ε)

theorem mapM_ok_of_forall {f : β → Except ε γ} : ∀ (l : List β), (∀ x ∈ l, ∃ y, f x = .ok y) → ∃ r, l.mapM f = .ok r
  | [], _ => ⟨[], rfl⟩
  | x :: xs, h => by
    obtain ⟨y, hy⟩ := h x List.mem_cons_self
    obtain ⟨ys, hys⟩ := mapM_ok_of_forall xs fun z hz => h z (List.mem_cons_of_mem _ hz)
    exact ⟨y :: ys, mapM_cons_ok.mpr ⟨y, ys, hy, hys, rfl⟩⟩

theorem mapM_append_ok {f : β → Except ε γ} {l1 l2 : List β} {r : List γ} :
    (l1 ++ l2).mapM f = .ok r ↔ ∃ r1 r2, l1.mapM f = .ok r1 ∧ l2.mapM f = .ok r2 ∧ r = r1 ++ r2 := by
  rw [List.mapM_append]
  constructor
  · intro h
    obtain ⟨r1, h1, h⟩ := bind_ok.mp h
    obtain ⟨r2, h2, h⟩ := bind_ok.mp h
    exact ⟨r1, r2, h1, h2, (Except.ok.inj h).symm⟩
  · rintro ⟨r1, r2, h1, h2, rfl⟩
    rw [h1, h2]; rfl

theorem mapM_through {F : β → Except ε γ} {G : γ → Except ε δ} {H : β → Except ε δ} :
    ∀ {l : List β} {m : List γ}, l.mapM F = .ok m → (∀ x ∈ l, ∀ y, F x = .ok y → G y = H x) → m.mapM G = l.mapM H
  | [], m, h, _ => by rw [List.mapM_nil] at h; rw [← Except.ok.inj h]; rfl
  | x :: xs, m, h, hp => by
    obtain ⟨y, ys, hx, hr, rfl⟩ := mapM_cons_ok.mp h
    rw [List.mapM_cons, List.mapM_cons, hp x List.mem_cons_self y hx,
      mapM_through hr fun z hz => hp z (List.mem_cons_of_mem _ hz)]

/-! ### Forgetting which error

`Except.toOption` keeps whether a run returns, and what.  A description of a run that has no errors of its own is
compared with the run through it: sequencing stage by stage (`toOption_bind_congr`), and two traversals in a row
element by element (`toOption_mapM_bind`).  The latter is false of the runs themselves, which stop at different
errors. -/

theorem toOption_bind (x : Except ε δ) (f : δ → Except ε γ) :
    (x >>= f).toOption = x.toOption.bind fun v => (f v).toOption := by
  cases x <;> rfl

theorem toOption_bind_congr {x : Except ε δ} {o : Option δ} {f : δ → Except ε γ} {g : δ → Option γ}
    (hx : x.toOption = o) (hf : ∀ v, x = .ok v → (f v).toOption = g v) : (x >>= f).toOption = o.bind g := by
  subst hx
  cases x with
  | error e => rfl
  | ok v => exact hf v rfl

/-- two traversals in a row in `Option` are one: both sides run `f x`, the rest of `f`, `g` on the head and `g` on the
rest, in two different orders -/
theorem mapM_bind_mapM {f : β → Option γ} {g : γ → Option δ} : ∀ (l : List β),
    (l.mapM f).bind (List.mapM g) = l.mapM fun x => (f x).bind g
  | [] => rfl
  | x :: xs => by
    simp only [List.mapM_cons, ← mapM_bind_mapM xs, bind, pure]
    cases f x with
    | none => rfl
    | some y =>
      cases xs.mapM f with
      | none => simp only [Option.bind_some, Option.bind_none]; cases g y <;> rfl
      | some ys => simp only [Option.bind_some, List.mapM_cons, bind, pure]

theorem toOption_mapM_bind {f : β → Except ε γ} {g : γ → Except ε δ} {h : β → Except ε δ} (l : List β)
    (hfg : ∀ x ∈ l, (f x >>= g).toOption = (h x).toOption) :
    (l.mapM f >>= List.mapM g).toOption = (l.mapM h).toOption := by
  rw [toOption_bind, toOption_mapM, toOption_mapM, funext (toOption_mapM g), mapM_bind_mapM]
  exact mapM_congr l fun x hx => (toOption_bind (f x) g).symm.trans (hfg x hx)

end Flax
