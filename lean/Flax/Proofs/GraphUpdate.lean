/- One call and one loop pass of `update` described once, the induction over its successful runs (`update_induct`), and
its first instance: `update` keeps every object in place (no allocation, same kinds, same references). -/
import Flax.Model.Graph
import Flax.Proofs.HeapKV
namespace Flax.Graph
open Flax.Heap

inductive Forall2 {α : Type} (R : α → α → Prop) : List α → List α → Prop where
  | nil : Forall2 R [] []
  | cons {a b : α} {l l' : List α} : R a b → Forall2 R l l' → Forall2 R (a :: l) (b :: l')

/-- two attribute slots agree up to an array payload: same key, and the same value unless both are
array leaves -/
def SlotShape (kv kv' : Key × PVal) : Prop :=
  kv.1 = kv'.1 ∧ (kv.2 = kv'.2 ∨ ∃ d d', kv.2 = .array d ∧ kv'.2 = .array d')

/-- same object up to mutable payloads: a Variable keeps its class, a node keeps its class, its keys in
order and every attribute value that is not an array leaf (in particular every reference) -/
def ObjShape : Obj → Obj → Prop
  | .var ty _ _, .var ty' _ _ => ty = ty'
  | .node cls attrs, .node cls' attrs' => cls = cls' ∧ Forall2 SlotShape attrs attrs'
  | _, _ => False

/-- nothing allocated, every address still holds the same object up to payloads -/
def SameShape (h h' : Heap) : Prop :=
  h.length = h'.length ∧ ∀ (a : Nat) o, h[a]? = some o → ∃ o', h'[a]? = some o' ∧ ObjShape o o'

/-- equal, or both array leaves: what `SlotShape` asks of the two values -/
def ValSim (v w : PVal) : Prop := v = w ∨ ∃ d d', v = .array d ∧ w = .array d'

def OptSim : Option PVal → Option PVal → Prop
  | some v, some w => ValSim v w
  | Option.none, Option.none => True
  | _, _ => False

theorem ValSim.trans {a b c : PVal} (h1 : ValSim a b) (h2 : ValSim b c) : ValSim a c := by
  rcases h1 with e | ⟨d, d', e1, e2⟩
  · subst e; exact h2
  · rcases h2 with e | ⟨d2, d2', e3, e4⟩
    · subst e; exact Or.inr ⟨d, d', e1, e2⟩
    · exact Or.inr ⟨d, d2', e1, e4⟩

theorem ValSim.symm {a b : PVal} (h : ValSim a b) : ValSim b a := by
  rcases h with e | ⟨d, d', e1, e2⟩
  · exact Or.inl e.symm
  · exact Or.inr ⟨d', d, e2, e1⟩

theorem ValSim.ref_left {a : Addr} {w : PVal} (h : ValSim (.ref a) w) : w = .ref a := by
  rcases h with e | ⟨d, d', e1, _⟩
  · exact e.symm
  · cases e1

theorem OptSim.refl : ∀ x : Option PVal, OptSim x x
  | some _ => Or.inl rfl
  | Option.none => trivial

theorem OptSim.trans {a b c : Option PVal} (h1 : OptSim a b) (h2 : OptSim b c) : OptSim a c := by
  cases b with
  | none =>
    cases a with
    | none => exact h2
    | some _ => exact False.elim h1
  | some y =>
    cases a with
    | none => exact False.elim h1
    | some x =>
      cases c with
      | none => exact False.elim h2
      | some z => exact ValSim.trans h1 h2

theorem OptSim.symm : ∀ {a b : Option PVal}, OptSim a b → OptSim b a
  | some _, some _, h => ValSim.symm h
  | Option.none, Option.none, _ => trivial
  | some _, Option.none, h => by cases h
  | Option.none, some _, h => by cases h

theorem OptSim.of_some_right {x : Option PVal} {w : PVal} (h : OptSim x (some w)) : ∃ v, x = some v ∧ ValSim v w := by
  cases x with
  | none => exact False.elim h
  | some v => exact ⟨v, rfl, h⟩

theorem SlotShape.refl (kv : Key × PVal) : SlotShape kv kv := ⟨rfl, Or.inl rfl⟩

theorem SlotShape.trans {a b c : Key × PVal} (h1 : SlotShape a b) (h2 : SlotShape b c) : SlotShape a c :=
  ⟨h1.1.trans h2.1, ValSim.trans h1.2 h2.2⟩

theorem Forall2.refl {α : Type} {R : α → α → Prop} (hr : ∀ a, R a a) : ∀ l : List α, Forall2 R l l
  | [] => .nil
  | a :: l => .cons (hr a) (Forall2.refl hr l)

theorem Forall2.trans {α : Type} {R : α → α → Prop} (ht : ∀ a b c, R a b → R b c → R a c) {l1 l2 l3 : List α}
    (h1 : Forall2 R l1 l2) (h2 : Forall2 R l2 l3) : Forall2 R l1 l3 := by
  induction h1 generalizing l3 with
  | nil => exact h2
  | cons hab _ ih =>
    cases h2 with
    | cons hbc t2 => exact .cons (ht _ _ _ hab hbc) (ih t2)

theorem ObjShape.refl : ∀ o : Obj, ObjShape o o
  | .var _ _ _ => rfl
  | .node _ attrs => ⟨rfl, Forall2.refl SlotShape.refl attrs⟩

theorem ObjShape.trans {a b c : Obj} (h1 : ObjShape a b) (h2 : ObjShape b c) : ObjShape a c := by
  cases a <;> cases b <;> cases c <;> simp only [ObjShape] at h1 h2 ⊢
  · exact ⟨h1.1.trans h2.1, Forall2.trans (R := SlotShape) (fun _ _ _ => SlotShape.trans) h1.2 h2.2⟩
  · exact h1.trans h2

theorem SameShape.refl (h : Heap) : SameShape h h := ⟨rfl, fun _ o ho => ⟨o, ho, ObjShape.refl o⟩⟩

theorem SameShape.trans {a b c : Heap} (h1 : SameShape a b) (h2 : SameShape b c) : SameShape a c := by
  refine ⟨h1.1.trans h2.1, ?_⟩
  intro x o ho
  obtain ⟨o', ho', s1⟩ := h1.2 x o ho
  obtain ⟨o'', ho'', s2⟩ := h2.2 x o' ho'
  exact ⟨o'', ho'', s1.trans s2⟩

theorem SameShape.node {h h' : Heap} (ss : SameShape h h') {a : Addr} {cls : String} {attrs : List (Key × PVal)}
    (hg : h[a]? = some (.node cls attrs)) :
    ∃ attrs', h'[a]? = some (.node cls attrs') ∧ Forall2 SlotShape attrs attrs' := by
  obtain ⟨o', ho', hs⟩ := ss.2 a _ hg
  cases o' with
  | var _ _ _ => exact hs.elim
  | node cls' attrs' =>
    obtain ⟨rfl, hf⟩ := hs
    exact ⟨attrs', ho', hf⟩

theorem SameShape.write {h : Heap} {a : Addr} {o o' : Obj} (ho : h[a]? = some o) (hs : ObjShape o o') :
    SameShape h (write h a o') := by
  refine ⟨(write_length h a o').symm, ?_⟩
  intro x ox hx
  by_cases e : x = a
  · subst e
    rw [ho] at hx; cases hx
    have hlt : x < h.length := (List.getElem?_eq_some_iff.mp ho).1
    exact ⟨o', write_get h x o' hlt, hs⟩
  · exact ⟨ox, by rw [write_frame h a x o' e]; exact hx, ObjShape.refl ox⟩

theorem setKV_shape (k : Key) (d : Data) : ∀ attrs : List (Key × PVal),
    (∀ v, lookupKV k attrs = some v → ∃ d0, v = .array d0) → Forall2 SlotShape attrs (setKV k (.array d) attrs)
  | [], _ => .nil
  | (k', v') :: rest, hl => by
    by_cases e : k' = k
    · obtain ⟨d0, hd0⟩ := hl v' (by rw [lookupKV, if_pos e])
      rw [setKV, if_pos e]
      exact .cons ⟨rfl, Or.inr ⟨d0, d, hd0, rfl⟩⟩ (Forall2.refl SlotShape.refl rest)
    · rw [setKV, if_neg e]
      exact .cons (SlotShape.refl _) (setKV_shape k d rest (fun v hv => hl v (by rw [lookupKV, if_neg e]; exact hv)))

theorem lookup_sim {k : Key} {l l' : List (Key × PVal)} (hf : Forall2 SlotShape l l') :
    OptSim (lookupKV k l) (lookupKV k l') := by
  induction hf with
  | nil => trivial
  | @cons a b _ _ hab _ ih =>
    obtain ⟨ka, va⟩ := a
    obtain ⟨kb, vb⟩ := b
    obtain ⟨hk, hv⟩ := hab
    cases hk
    by_cases e : ka = k
    · rw [lookupKV, lookupKV, if_pos e, if_pos e]
      exact hv
    · rw [lookupKV, lookupKV, if_neg e, if_neg e]
      exact ih

theorem setAttr_shape {h : Heap} {a : Addr} {cls : String} {live : List (Key × PVal)} (k : Key) (d : Data)
    (ho : h[a]? = some (.node cls live)) (hl : ∀ v, lookupKV k live = some v → ∃ d0, v = .array d0) :
    SameShape h (setAttr h a k (.array d)) := by
  simp only [setAttr, ho]
  exact SameShape.write ho ⟨rfl, setKV_shape k d live hl⟩

/-- the loop invariant of `updateItems`: the snapshot `attrs` still describes the live node up to payloads -/
def OwnerOk (h : Heap) (owner : Option Addr) (attrs : List (Key × PVal)) : Prop :=
  ∀ a, owner = some a → ∃ cls live, h[a]? = some (.node cls live) ∧ Forall2 SlotShape attrs live

theorem OwnerOk.step {h h' : Heap} {owner : Option Addr} {attrs : List (Key × PVal)} (ok : OwnerOk h owner attrs)
    (ss : SameShape h h') : OwnerOk h' owner attrs := by
  intro a ha
  obtain ⟨cls, live, hl, hf⟩ := ok a ha
  obtain ⟨live', hl', hf'⟩ := ss.node hl
  exact ⟨cls, live', hl', Forall2.trans (R := SlotShape) (fun _ _ _ => SlotShape.trans) hf hf'⟩

theorem OwnerOk.setAttr_shape {h : Heap} {a : Addr} {attrs : List (Key × PVal)} {k : Key} {d0 : Data}
    (ok : OwnerOk h (some a) attrs) (hcur : lookupKV k attrs = some (.array d0)) (d : Data) :
    SameShape h (setAttr h a k (.array d)) := by
  obtain ⟨cls, live, hl, hf⟩ := ok a rfl
  refine Graph.setAttr_shape k d hl ?_
  intro v hv
  have hrel : ValSim (.array d0) v := by
    have := lookup_sim (k := k) hf
    rwa [hcur, hv] at this
  rcases hrel with e | ⟨_, y, _, e⟩
  · exact ⟨d0, e.symm⟩
  · exact ⟨y, e⟩

theorem Kids.own {h : Heap} {v : PVal} {owner : Option Addr} {attrs : List (Key × PVal)}
    (kids : Kids h v owner attrs) (a : Addr) (ha : owner = some a) : v = .ref a := by
  cases kids <;> cases ha
  rfl

theorem Kids.ok {h : Heap} {v : PVal} {owner : Option Addr} {attrs : List (Key × PVal)}
    (kids : Kids h v owner attrs) : OwnerOk h owner attrs := by
  intro a ha
  cases kids <;> cases ha
  next cls hg => exact ⟨cls, attrs, hg, Forall2.refl SlotShape.refl attrs⟩

theorem Kids.updateVal {h : Heap} {v : PVal} {owner : Option Addr} {attrs : List (Key × PVal)}
    (kids : Kids h v owner attrs) (items : List (Key × STree)) :
    updateVal (.node items) h v = updateItems items h owner attrs := by
  cases kids with
  | node hg => simp only [Graph.updateVal, hg]
  | _ => simp only [Graph.updateVal]

theorem updateVal_leaf_ok {l : Leaf} {h : Heap} {v : PVal} {h' : Heap} : updateVal (.leaf l) h v = .ok h' →
    ∃ a ty val md, v = .ref a ∧ h[a]? = some (.var ty val md) ∧
      h' = write h a (match l with
        | .vstate _ val' md' => .var ty val' md'
        | .arr d => .var ty d md) := by
  intro hu
  cases v with
  | ref a =>
    simp only [updateVal] at hu
    split at hu
    · cases hu
    · next ty val md hg =>
      refine ⟨a, ty, val, md, rfl, hg, ?_⟩
      cases l <;> cases hu <;> rfl
    · cases hu
  | _ => cases hu

theorem updateVal_node_ok {items : List (Key × STree)} {h : Heap} {v : PVal} {h' : Heap}
    (hu : updateVal (.node items) h v = .ok h') :
    (∃ a ty val md, v = .ref a ∧ h[a]? = some (.var ty val md) ∧ items = [] ∧ h' = h) ∨
    ∃ owner attrs, Kids h v owner attrs ∧ updateItems items h owner attrs = .ok h' := by
  cases v with
  | ref a =>
    simp only [updateVal] at hu
    split at hu
    · cases hu
    · next ty val md hg =>
      cases items with
      | nil => cases hu; exact .inl ⟨a, ty, val, md, rfl, hg, rfl, rfl⟩
      | cons _ _ => cases hu
    · next cls attrs hg => exact .inr ⟨_, _, .node hg, hu⟩
  | seq t xs => exact .inr ⟨_, _, .seq t xs, (Kids.seq t xs).updateVal items ▸ hu⟩
  | dict kvs => exact .inr ⟨_, _, .dict kvs, (Kids.dict kvs).updateVal items ▸ hu⟩
  | none => exact .inr ⟨_, _, .none, Kids.none.updateVal items ▸ hu⟩
  | _ => cases hu

/-- what one round of the `updateItems` loop does with the item `(k, s)` whose value in the snapshot is
`cur`: a raw leaf overwrites an array attribute of the owner, anything else descends -/
def ItemStep (k : Key) (s : STree) (h : Heap) (owner : Option Addr) (cur : PVal) (h1 : Heap) : Prop :=
  (∃ a d0 d, owner = some a ∧ cur = .array d0 ∧ s = .leaf (.arr d) ∧ h1 = setAttr h a k (.array d)) ∨
  updateVal s h cur = .ok h1

theorem updateItems_cons_ok {k : Key} {s : STree} {rest : List (Key × STree)} {h : Heap} {owner : Option Addr}
    {attrs : List (Key × PVal)} {h' : Heap} (hu : updateItems ((k, s) :: rest) h owner attrs = .ok h') :
    ∃ cur h1, lookupKV k attrs = some cur ∧ ItemStep k s h owner cur h1 ∧ updateItems rest h1 owner attrs = .ok h' := by
  dsimp only [updateItems] at hu
  split at hu
  · cases hu
  · next cur hcur =>
    split at hu
    · cases hu
    · next h1 hr =>
      refine ⟨cur, h1, hcur, ?_, hu⟩
      cases cur with
      | static _ => cases hr
      | array d0 =>
        cases owner with
        | none => cases hr
        | some a =>
          simp only at hr
          split at hr
          · next d => cases hr; exact .inl ⟨a, d0, d, rfl, rfl, rfl, rfl⟩
          · cases hr
      | ref b =>
        simp only at hr
        split at hr
        · cases hr
        · exact .inr hr
        · split at hr
          · cases hr
          · exact .inr hr
      | _ =>
        simp only at hr
        split at hr
        · cases hr
        · exact .inr hr

/-- where `updateVal` succeeds on the child, the loop's own checks have passed -/
theorem updateItems_cons_of_ok {k : Key} {s : STree} {rest : List (Key × STree)} {h : Heap} {owner : Option Addr}
    {attrs : List (Key × PVal)} {cur : PVal} {h1 : Heap} (hl : lookupKV k attrs = some cur)
    (hu : updateVal s h cur = .ok h1) :
    updateItems ((k, s) :: rest) h owner attrs = updateItems rest h1 owner attrs := by
  simp only [updateItems, hl]
  cases s with
  | leaf l =>
    obtain ⟨a, ty, val, md, rfl, hg, -⟩ := updateVal_leaf_ok hu
    simp only [hg, hu]
  | node items =>
    rcases updateVal_node_ok hu with ⟨a, ty, val, md, rfl, hg, -, -⟩ | ⟨_, _, kids, -⟩
    · simp only [hg, hu]
    · cases kids with
      | node hg => simp only [hg, isVStateLeaf, Bool.false_eq_true, if_false, hu]
      | _ => simp only [isVStateLeaf, Bool.false_eq_true, if_false, hu]

theorem step_sim {h h' : Heap} (ss : SameShape h h') (v : PVal) (k : Key) : OptSim (step h v k) (step h' v k) := by
  cases v with
  | ref a =>
    cases hg : h[a]? with
    | none =>
      have hg' : h'[a]? = Option.none := List.getElem?_eq_none_iff.mpr (ss.1 ▸ List.getElem?_eq_none_iff.mp hg)
      simp only [step, hg, hg']
      trivial
    | some o =>
      cases o with
      | var ty val md =>
        obtain ⟨o', hg', hs⟩ := ss.2 a _ hg
        cases o' with
        | var _ _ _ => simp only [step, hg, hg']; trivial
        | node _ _ => exact False.elim hs
      | node cls attrs =>
        obtain ⟨attrs', hg', hf⟩ := ss.node hg
        simp only [step, hg, hg']
        exact lookup_sim hf
  | _ => exact OptSim.refl _

/-- `_update_variable` -/
def applyLeaf : Obj → Leaf → Obj
  | .var ty _ _, .vstate _ v' m' => .var ty v' m'
  | .var ty _ m, .arr d => .var ty d m
  | o, _ => o

theorem updateVal_array (s : STree) (h : Heap) (d : Data) : updateVal s h (.array d) = .error .unsupported := by
  cases s <;> rfl

/-- The cases of an induction over the successful runs of `update`.  They speak of the LIVE container `v` and its
live children `step h v k`; that the `node_dict` snapshot, in which `updateItems` looks the keys up, agrees with
them up to array payloads is shown once, in `update_induct`.  Every case comes with `SameShape` for what has run. -/
structure UpdateCases (P : STree → Heap → PVal → Heap → Prop) (Q : List (Key × STree) → Heap → PVal → Heap → Prop) :
    Prop where
  leaf : ∀ l h a ty val md, h[a]? = some (.var ty val md) → P (.leaf l) h (.ref a) (write h a (applyLeaf (.var ty val md) l))
  node : ∀ items h v h', Q items h v h' → P (.node items) h v h'
  nil : ∀ h v, Q [] h v h
  setArr : ∀ k d rest h a0 cls live d0 h', h[a0]? = some (.node cls live) → step h (.ref a0) k = some (.array d0) →
    SameShape h (setAttr h a0 k (.array d)) → Q rest (setAttr h a0 k (.array d)) (.ref a0) h' →
    Q ((k, .leaf (.arr d)) :: rest) h (.ref a0) h'
  down : ∀ k s rest h v cur h1 h', step h v k = some cur → SameShape h h1 → P s h cur h1 → Q rest h1 v h' →
    Q ((k, s) :: rest) h v h'

section
variable {P : STree → Heap → PVal → Heap → Prop} {Q : List (Key × STree) → Heap → PVal → Heap → Prop}

mutual
  theorem update_induct (c : UpdateCases P Q) :
      ∀ (s : STree) (h : Heap) (v : PVal) (h' : Heap), updateVal s h v = .ok h' → SameShape h h' ∧ P s h v h'
    | .leaf l, h, v, h', hu => by
      obtain ⟨a, ty, val, md, rfl, hg, rfl⟩ := updateVal_leaf_ok hu
      cases l <;> exact ⟨SameShape.write hg rfl, c.leaf _ _ a ty val md hg⟩
    | .node items, h, v, h', hu => by
      rcases updateVal_node_ok hu with ⟨a, ty, val, md, rfl, hg, rfl, rfl⟩ | ⟨owner, attrs, kids, hi⟩
      · exact ⟨SameShape.refl _, c.node _ _ _ _ (c.nil _ _)⟩
      · obtain ⟨ss, q⟩ := update_induct_items c items h owner attrs h' v (fun k => kids.child k ▸ OptSim.refl _)
          kids.own kids.ok hi
        exact ⟨ss, c.node items h v h' q⟩
  /-- the loop: `v` is the value whose children are being updated, `attrs` its `node_dict` snapshot -/
  theorem update_induct_items (c : UpdateCases P Q) :
      ∀ (items : List (Key × STree)) (h : Heap) (owner : Option Addr) (attrs : List (Key × PVal)) (h' : Heap) (v : PVal),
        (∀ k, OptSim (step h v k) (lookupKV k attrs)) → (∀ a0, owner = some a0 → v = .ref a0) →
        OwnerOk h owner attrs → updateItems items h owner attrs = .ok h' → SameShape h h' ∧ Q items h v h'
    | [], h, _, _, h', v, _, _, _, hu => by
      rw [updateItems] at hu; cases hu
      exact ⟨SameShape.refl h, c.nil h v⟩
    | (k, s) :: rest, h, owner, attrs, h', v, hstep, hov, ok, hu => by
      obtain ⟨cur, h1, hcur, hitem, hrest⟩ := updateItems_cons_ok hu
      -- the live child is the snapshot child up to an array payload
      obtain ⟨cur', hst, hsim⟩ := OptSim.of_some_right (hcur ▸ hstep k)
      have next : ∀ ss1 : SameShape h h1, SameShape h1 h' ∧ Q rest h1 v h' := fun ss1 =>
        update_induct_items c rest h1 owner attrs h' v (fun k' => (step_sim ss1 v k').symm.trans (hstep k')) hov
          (ok.step ss1) hrest
      rcases hitem with ⟨a0, d0, d, rfl, rfl, rfl, rfl⟩ | hr
      · have ss1 := ok.setAttr_shape hcur d
        obtain ⟨ss2, q⟩ := next ss1
        cases hov a0 rfl
        obtain ⟨cls, live, hl, _⟩ := ok a0 rfl
        obtain ⟨d0', rfl⟩ : ∃ d0', cur' = .array d0' := by
          rcases hsim with e | ⟨x, _, e, _⟩
          · exact ⟨d0, e⟩
          · exact ⟨x, e⟩
        exact ⟨ss1.trans ss2, c.setArr k d rest h a0 cls live d0' h' hl hst ss1 q⟩
      · -- `updateVal` fails on an array, so here the live child IS the snapshot child
        have e : cur' = cur := by
          rcases hsim with e | ⟨_, y, _, e⟩
          · exact e
          · rw [e, updateVal_array] at hr; cases hr
        subst e
        obtain ⟨ss1, p⟩ := update_induct c s h cur' h1 hr
        obtain ⟨ss2, q⟩ := next ss1
        exact ⟨ss1.trans ss2, c.down k s rest h v cur' h1 h' hst ss1 p q⟩
end
end

theorem updateVal_shape (s : STree) (h : Heap) (v : PVal) (h' : Heap) (hu : updateVal s h v = .ok h') : SameShape h h' :=
  (update_induct (P := fun _ _ _ _ => True) (Q := fun _ _ _ _ => True)
    ⟨fun _ _ _ _ _ _ _ => trivial, fun _ _ _ _ _ => trivial, fun _ _ => trivial,
      fun _ _ _ _ _ _ _ _ _ _ _ _ _ => trivial, fun _ _ _ _ _ _ _ _ _ _ _ _ => trivial⟩ s h v h' hu).1

end Flax.Graph
