/-
Final-named checkpoints as association lists in natural_sort order (C11).  Ascending lists of step values (`Asc`,
`insertStep`); `get`, `put`, `del` and the latest entry on strictly ascending `Files`, where an entry is determined by
its step; `delAll` (a removal list carried out) and `Files.damage` (an interrupted `rmtree`).
-/
import Flax.Model.Ckpt
import Flax.Proofs.Assoc
import Flax.Proofs.ListLemmas

namespace Flax.Ckpt

/-- natural_sort order without ties: strictly ascending step values -/
def Files.Sorted (f : Files) : Prop := f.Pairwise (fun a b => a.1 < b.1)

/-- no final name holds a partial (half written, half deleted) checkpoint -/
def Files.AllComplete (f : Files) : Prop := ∀ e ∈ f, e.2 ≠ Content.torn

abbrev Asc (l : List Int) : Prop := l.Pairwise (· < ·)

theorem asc_nodup {l : List Int} (h : Asc l) : l.Nodup :=
  List.Pairwise.imp (fun {a b} (hab : a < b) => by omega) h

theorem asc_ext {l1 l2 : List Int} (h1 : Asc l1) (h2 : Asc l2) (h : ∀ x, x ∈ l1 ↔ x ∈ l2) : l1 = l2 :=
  List.Perm.eq_of_pairwise (fun a b _ _ hab hba => by omega) h1 h2
    ((List.perm_ext_iff_of_nodup (asc_nodup h1) (asc_nodup h2)).mpr h)

theorem asc_take_lt_drop {l : List Int} (h : Asc l) (n : Nat) {x y : Int}
    (hx : x ∈ l.take n) (hy : y ∈ l.drop n) : x < y := by
  rw [← List.take_append_drop n l] at h
  exact (List.pairwise_append.mp h).2.2 x hx y hy

theorem mem_insertStep (s : Int) (l : List Int) (x : Int) : x ∈ insertStep s l ↔ x = s ∨ x ∈ l := by
  fun_induction insertStep s l with
  | case1 => simp
  | case2 => simp
  | case3 => simp
  | case4 a r h1 h2 ih => simp only [List.mem_cons, ih]; exact or_left_comm

theorem self_mem_insertStep (s : Int) (l : List Int) : s ∈ insertStep s l := (mem_insertStep s l s).mpr (Or.inl rfl)

theorem asc_insertStep (s : Int) {l : List Int} (h : Asc l) : Asc (insertStep s l) := by
  fun_induction insertStep s l with
  | case1 => simp
  | case2 a r h1 =>
    have ha := List.pairwise_cons.mp h
    exact List.pairwise_cons.mpr ⟨fun y hy => by
      rcases List.mem_cons.mp hy with e | e
      · exact e ▸ h1
      · exact Int.lt_trans h1 (ha.1 y e), h⟩
  | case3 => exact h
  | case4 a r h1 h2 ih =>
    have ha := List.pairwise_cons.mp h
    refine List.pairwise_cons.mpr ⟨fun y hy => ?_, ih ha.2⟩
    rcases (mem_insertStep s r y).mp hy with e | e
    · omega
    · exact ha.1 y e

namespace Files

theorem sorted_nil : Files.Sorted [] := List.Pairwise.nil

theorem mem_steps {f : Files} {x : Int} : x ∈ f.steps ↔ ∃ e ∈ f, e.1 = x := List.mem_map

theorem fst_mem_steps {f : Files} {e : Int × Content} (h : e ∈ f) : e.1 ∈ f.steps := mem_steps.mpr ⟨e, h, rfl⟩

theorem sorted_iff_steps (f : Files) : f.Sorted ↔ Asc f.steps := List.pairwise_map.symm

theorem get_eq_lookup (s : Int) (f : Files) : f.get s = f.lookup s :=
  Assoc.lookup_unique (fun _ => rfl) (fun _ _ _ _ => rfl) s f

theorem nodup_steps {f : Files} (h : f.Sorted) : f.steps.Nodup := asc_nodup ((sorted_iff_steps f).mp h)

theorem get_isSome_iff (f : Files) (s : Int) : (f.get s).isSome ↔ s ∈ f.steps :=
  get_eq_lookup s f ▸ Assoc.lookup_isSome_iff

theorem get_eq_some_iff {f : Files} (h : f.Sorted) (s : Int) (c : Content) :
    f.get s = some c ↔ (s, c) ∈ f :=
  get_eq_lookup s f ▸ Assoc.lookup_eq_some_iff (nodup_steps h)

theorem steps_put (s : Int) (c : Content) (f : Files) : (f.put s c).steps = insertStep s f.steps := by
  fun_induction put s c f with
  | case1 => rfl
  | case2 y cy r h => simp [steps, insertStep, h]
  | case3 cy r h => simp [steps, insertStep]
  | case4 y cy r h1 h2 ih => simp only [steps, List.map_cons, insertStep, h1, h2, if_false] at ih ⊢; rw [ih]

theorem get_put (f : Files) (s : Int) (c : Content) (x : Int) :
    (f.put s c).get x = if s = x then some c else f.get x := by
  induction f with
  | nil => rfl
  | cons a r ih =>
    obtain ⟨y, cy⟩ := a
    by_cases h1 : s < y
    · simp only [put, h1, if_true, get]
    · by_cases h2 : s = y
      · subst h2
        simp only [put, h1, if_false, if_true, get]
        by_cases hx : s = x
        · simp only [hx, if_true]
        · simp only [hx, if_false]
      · simp only [put, h1, h2, if_false, get, ih]
        by_cases hx : s = x
        · subst hx; simp only [if_true, if_neg (Ne.symm h2)]
        · simp only [hx, if_false]

theorem get_put_self (f : Files) (s : Int) (c : Content) : (f.put s c).get s = some c := by
  rw [get_put, if_pos rfl]

theorem sorted_put {f : Files} (s : Int) (c : Content) (h : f.Sorted) : (f.put s c).Sorted := by
  rw [sorted_iff_steps, steps_put]; exact asc_insertStep s ((sorted_iff_steps f).mp h)

theorem mem_put_of_sorted {f : Files} {s : Int} {c : Content} (h : f.Sorted) (e : Int × Content) :
    e ∈ f.put s c ↔ e = (s, c) ∨ (e ∈ f ∧ e.1 ≠ s) := by
  obtain ⟨x, cx⟩ := e
  rw [← get_eq_some_iff (sorted_put s c h), get_put, ← get_eq_some_iff h]
  by_cases hx : s = x
  · subst hx; simp [eq_comm]
  · simp [hx, Ne.symm hx]

theorem mem_steps_put (f : Files) (s : Int) (c : Content) : s ∈ (f.put s c).steps := by
  rw [steps_put]; exact self_mem_insertStep s _

theorem mem_del {f : Files} {s : Int} {e : Int × Content} : e ∈ f.del s ↔ e ∈ f ∧ e.1 ≠ s := by
  simp [del, List.mem_filter]

theorem sorted_del {f : Files} (s : Int) (h : f.Sorted) : (f.del s).Sorted :=
  List.Pairwise.filter _ h

theorem steps_del (f : Files) (s : Int) : (f.del s).steps = f.steps.filter (fun x => decide (x ≠ s)) := by
  simp only [del, steps, List.filter_map]
  rfl

theorem nodup {f : Files} (h : f.Sorted) : f.Nodup :=
  List.Pairwise.of_map (·.1) (fun _ _ hab e => hab (by rw [e])) (nodup_steps h)

theorem ext {f g : Files} (hf : f.Sorted) (hg : g.Sorted) (h : ∀ e, e ∈ f ↔ e ∈ g) : f = g :=
  List.Perm.eq_of_pairwise (fun a b _ _ (hab : a.1 < b.1) (hba : b.1 < a.1) => by omega) hf hg
    ((List.perm_ext_iff_of_nodup (nodup hf) (nodup hg)).mpr h)

theorem del_put_self (f : Files) (s : Int) (c : Content) : (f.put s c).del s = f.del s := by
  fun_induction put s c f with
  | case1 => simp [del]
  | case2 y cy r h => simp [del]
  | case3 cy r h => simp [del]
  | case4 y cy r h1 h2 ih => simp only [del, List.filter_cons] at ih ⊢; rw [ih]

theorem put_del_self {f : Files} (h : f.Sorted) (s : Int) (c : Content) :
    (f.del s).put s c = f.put s c := by
  apply ext (sorted_put s c (sorted_del s h)) (sorted_put s c h)
  intro e
  rw [mem_put_of_sorted (sorted_del s h), mem_put_of_sorted h, mem_del, and_assoc, and_self]

theorem getLast_max {f : Files} (h : f.Sorted) {e : Int × Content} (hm : f.getLast? = some e) :
    ∀ x ∈ f, x.1 ≤ e.1 := fun x hx =>
  (Lists.pairwise_getLast h hm x hx).elim (fun e => e ▸ Int.le_refl _) Int.le_of_lt

theorem getLast_of_max {f : Files} (h : f.Sorted) {e : Int × Content} (he : e ∈ f)
    (hmax : ∀ x ∈ f, x.1 ≤ e.1) : f.getLast? = some e := by
  obtain ⟨m, hl⟩ := Lists.exists_getLast_of_mem he
  have hm := List.mem_of_getLast? hl
  rw [hl, Assoc.eq_of_nodup_map (nodup_steps h) he hm (Int.le_antisymm (getLast_max h hl e he) (hmax m hm))]

theorem getLast_put_of_lt {f : Files} (hS : f.Sorted) {m : Int × Content} (hl : f.getLast? = some m) {s : Int}
    (hsm : s < m.1) (c : Content) : (f.put s c).getLast? = some m := by
  refine getLast_of_max (sorted_put s c hS)
    ((mem_put_of_sorted hS m).mpr (Or.inr ⟨List.mem_of_getLast? hl, Int.ne_of_gt hsm⟩)) fun y hy => ?_
  rcases (mem_put_of_sorted hS y).mp hy with e | ⟨e, _⟩
  · rw [e]; exact Int.le_of_lt hsm
  · exact getLast_max hS hl y e

theorem latest_put {f : Files} (hS : f.Sorted) (s : Int) (c : Content) :
    (f.put s c).getLast? = some (s, c) ∨ (f.put s c).getLast? = f.getLast? := by
  cases hl : f.getLast? with
  | none => rw [List.getLast?_eq_none_iff.mp hl]; exact Or.inl rfl
  | some m =>
    by_cases hsm : s < m.1
    · exact Or.inr (getLast_put_of_lt hS hl hsm c)
    · refine Or.inl (getLast_of_max (sorted_put s c hS) ((mem_put_of_sorted hS _).mpr (Or.inl rfl)) fun y hy => ?_)
      rcases (mem_put_of_sorted hS y).mp hy with e | ⟨e, _⟩
      · rw [e]; exact Int.le_refl _
      · exact Int.le_trans (getLast_max hS hl y e) (Int.not_lt.mp hsm)

end Files

def Files.delAll (L : List Int) (f : Files) : Files := L.foldl (fun f x => f.del x) f

theorem delAll_nil (f : Files) : Files.delAll [] f = f := rfl
theorem delAll_cons (x : Int) (r : List Int) (f : Files) :
    Files.delAll (x :: r) f = Files.delAll r (f.del x) := rfl

namespace Files

theorem delAll_eq_filter (L : List Int) (f : Files) :
    delAll L f = f.filter (fun e => decide (e.1 ∉ L)) := by
  induction L generalizing f with
  | nil => exact (List.filter_eq_self.mpr (fun _ _ => by simp)).symm
  | cons x r ih =>
    rw [delAll_cons, ih, del, List.filter_filter]
    congr 1
    funext e
    simp [Bool.and_comm]

theorem getLast_delAll {F : Files} {M : Int × Content} (hM : F.getLast? = some M) {L : List Int}
    (hL : M.1 ∉ L) : (delAll L F).getLast? = some M := by
  obtain ⟨ys, rfl⟩ := List.getLast?_eq_some_iff.mp hM
  rw [delAll_eq_filter, List.filter_append,
    List.filter_cons_of_pos (p := fun e : Int × Content => decide (e.1 ∉ L)) (decide_eq_true hL), List.filter_nil,
    List.getLast?_concat]

theorem mem_delAll {L : List Int} {f : Files} {e : Int × Content} :
    e ∈ delAll L f ↔ e ∈ f ∧ e.1 ∉ L := by
  simp [delAll_eq_filter]

theorem sorted_delAll (L : List Int) {f : Files} (h : f.Sorted) : (delAll L f).Sorted := by
  rw [delAll_eq_filter]; exact List.Pairwise.filter _ h

theorem steps_delAll (L : List Int) (f : Files) :
    (delAll L f).steps = f.steps.filter (fun x => decide (x ∉ L)) := by
  rw [delAll_eq_filter, steps, steps, List.filter_map]; rfl

/-- `rmtree` has started on directory `x` -/
def damage (x : Int) (f : Files) : Files := if (f.get x).isSome then f.put x Content.torn else f

theorem del_damage (f : Files) (x : Int) : (f.damage x).del x = f.del x := by
  unfold damage
  split
  · exact del_put_self f x _
  · rfl

theorem sorted_damage {f : Files} (hS : f.Sorted) (x : Int) : (f.damage x).Sorted := by
  unfold damage
  split
  · exact sorted_put _ _ hS
  · exact hS

theorem mem_damage {f : Files} (hS : f.Sorted) (x : Int) (e : Int × Content) :
    e ∈ f.damage x ↔ (e = (x, Content.torn) ∧ x ∈ f.steps) ∨ (e ∈ f ∧ e.1 ≠ x) := by
  simp only [damage, get_isSome_iff]
  split
  · next hx => rw [mem_put_of_sorted hS, and_iff_left hx]
  · next hx => rw [and_iff_left_of_imp (fun he h => hx (mem_steps.mpr ⟨e, he, h⟩)), or_iff_right (fun h => hx h.2)]

theorem damage_getLast {f : Files} (hS : f.Sorted) (x : Int)
    (hx : ∀ m, f.getLast? = some m → x < m.1) : (f.damage x).getLast? = f.getLast? := by
  cases hl : f.getLast? with
  | none => rw [List.getLast?_eq_none_iff.mp hl]; rfl
  | some m =>
    unfold damage
    split
    · exact getLast_put_of_lt hS hl (hx m hl) _
    · exact hl

end Files
end Flax.Ckpt
