/-
Variable box conversion (`to_nnx_var` / `to_linen_var`) for C18, and `NNXMeta.add_axis` / `remove_axis`.
-/
import Flax.Model.Bridge
import Flax.Proofs.Assoc

namespace Flax.Bridge
variable {α : Type}

theorem Meta.get?_eq_lookup (m : Meta) (k : String) : Meta.get? m k = m.lookup k :=
  Assoc.find?_key_eq_lookup k m

theorem Meta.get?_append (a b : Meta) (k : String) :
    Meta.get? (a ++ b) k = (Meta.get? a k).or (Meta.get? b k) := by
  simp only [Meta.get?_eq_lookup, List.lookup_append]

theorem Meta.get?_append_self (a : Meta) (k : String) (v : MetaVal) (h : Meta.get? a k = none) :
    Meta.get? (a ++ [(k, v)]) k = some v := by
  rw [Meta.get?_append, h, Meta.get?_eq_lookup, Option.none_or, List.lookup_cons_self]

theorem Meta.erase_append_of_none (a : Meta) (k : String) (v : MetaVal) (h : Meta.get? a k = none) :
    Meta.erase (a ++ [(k, v)]) k = a := by
  have hk := Assoc.lookup_eq_none_iff.mp (Meta.get?_eq_lookup a k ▸ h)
  have ha : a.filter (fun e => e.1 ≠ k) = a :=
    List.filter_eq_self.mpr fun e he => decide_eq_true fun e' : e.1 = k => hk (e' ▸ List.mem_map_of_mem he)
  rw [Meta.erase, List.filter_append, ha]
  simp

/-- the array inside a Linen leaf -/
def LBox.value : LBox α → α
  | .plain v => v
  | .partitioned v _ _ => v
  | .logical v _ _ _ => v
  | .nnxMeta _ v _ => v
  | .box _ v _ => v

/-- the axis names of a Linen leaf, when it carries any -/
def LBox.names? : LBox α → Option MetaVal
  | .partitioned _ n _ => some n
  | .logical _ n _ _ => some n
  | _ => none

/-- Linen leaves that `to_linen_var` can produce for a Variable of type `t`: an `NNXMeta` box carries
the collection's own type and metadata that is neither blank nor a Linen box's; a generic box class is
not one of the two partitioning classes and has no field called `linen_meta_type` -/
def LBox.Ok (t : VType) : LBox α → Prop
  | .plain _ => True
  | .partitioned _ _ _ => True
  | .logical _ _ _ _ => True
  | .nnxMeta vt _ md => vt = t ∧ Meta.get? md "linen_meta_type" = none ∧ isVanilla md = false
  | .box c _ fields => c ≠ clsPartitioned ∧ c ≠ clsLogical ∧ Meta.get? fields "linen_meta_type" = none

theorem toNnxVarWith_vtype {t : VType} {x : LBox α} {v : NVar α} (h : toNnxVarWith t x = .ok v) : v.vtype = t := by
  cases x with
  | nnxMeta vt a md =>
    simp only [toNnxVarWith] at h
    split at h
    · rename_i e; cases h; exact e.symm
    · cases h
  | plain a => cases h; rfl
  | partitioned a n m => cases h; rfl
  | logical a n m ru => cases h; rfl
  | box c a f => cases h; rfl

/-- Variables that `to_nnx_var` can produce -/
def NVar.Canon (v : NVar α) : Prop :=
  v.md = [] ∨
  (∃ names mesh, v.md = [("mesh", mesh), ("sharding", names), ("linen_meta_type", .cls clsPartitioned)]) ∨
  (∃ names mesh rules, v.md = [("mesh", mesh), ("sharding", names), ("sharding_rules", rules),
      ("linen_meta_type", .cls clsLogical)]) ∨
  (Meta.get? v.md "linen_meta_type" = none ∧ isVanilla v.md = false) ∨
  (∃ c fields, v.md = fields ++ [("linen_meta_type", .cls c)] ∧ c ≠ clsPartitioned ∧ c ≠ clsLogical ∧
      Meta.get? fields "linen_meta_type" = none)

theorem box_roundtrip_aux (t : VType) (x : LBox α) (h : x.Ok t) :
    ∃ v, toNnxVarWith t x = .ok v ∧ v.vtype = t ∧ v.value = x.value ∧ toLinenVar v = .ok x ∧
      (∀ n, x.names? = some n → Meta.get? v.md "sharding" = some n) ∧ v.Canon := by
  cases x with
  | plain a =>
    exact ⟨⟨t, a, []⟩, rfl, rfl, rfl, rfl, (fun _ hn => nomatch hn), Or.inl rfl⟩
  | partitioned a names mesh =>
    refine ⟨_, rfl, rfl, rfl, ?_, ?_, Or.inr (Or.inl ⟨names, mesh, rfl⟩)⟩
    · simp [toLinenVar, boxToMeta, Meta.get?, List.find?, clsPartitioned]
    · intro n hn; simp only [LBox.names?, Option.some.injEq] at hn; subst hn
      simp [boxToMeta, Meta.get?, List.find?]
  | logical a names mesh rules =>
    refine ⟨_, rfl, rfl, rfl, ?_, ?_, Or.inr (Or.inr (Or.inl ⟨names, mesh, rules, rfl⟩))⟩
    · simp [toLinenVar, boxToMeta, Meta.get?, List.find?, clsPartitioned, clsLogical]
    · intro n hn; simp only [LBox.names?, Option.some.injEq] at hn; subst hn
      simp [boxToMeta, Meta.get?, List.find?]
  | nnxMeta vt a md =>
    obtain ⟨rfl, h1, h2⟩ := h
    refine ⟨⟨vt, a, md⟩, if_pos rfl, rfl, rfl, ?_, (fun _ hn => nomatch hn), Or.inr (Or.inr (Or.inr (Or.inl ⟨h1, h2⟩)))⟩
    simp [toLinenVar, h1, h2]
  | box c a fields =>
    obtain ⟨h1, h2, h3⟩ := h
    refine ⟨⟨t, a, fields ++ [("linen_meta_type", .cls c)]⟩, rfl, rfl, rfl, ?_, (fun _ hn => nomatch hn),
      Or.inr (Or.inr (Or.inr (Or.inr ⟨c, fields, rfl, h1, h2, h3⟩)))⟩
    simp only [toLinenVar, Meta.get?_append_self fields _ (.cls c) h3, h1, h2, ↓reduceIte,
      Meta.erase_append_of_none fields "linen_meta_type" (.cls c) h3]

/-- each of the five shapes of `Canon` metadata is what `to_nnx_var` makes of one kind of Linen leaf -/
theorem var_roundtrip_aux (v : NVar α) (h : v.Canon) :
    ∃ x, toLinenVar v = .ok x ∧ x.Ok v.vtype ∧ toNnxVarWith v.vtype x = .ok v := by
  have of_box : ∀ x : LBox α, x.Ok v.vtype → toNnxVarWith v.vtype x = .ok v →
      ∃ x, toLinenVar v = .ok x ∧ x.Ok v.vtype ∧ toNnxVarWith v.vtype x = .ok v := by
    intro x hok hx
    obtain ⟨v', hv', _, _, hback, _⟩ := box_roundtrip_aux v.vtype x hok
    rw [hx] at hv'; cases hv'
    exact ⟨x, hback, hok, hx⟩
  obtain ⟨t, a, md⟩ := v
  rcases h with h | ⟨names, mesh, h⟩ | ⟨names, mesh, rules, h⟩ | ⟨h1, h2⟩ | ⟨c, fields, h, h1, h2, h3⟩
  · simp only at h; subst h
    exact of_box (.plain a) trivial rfl
  · simp only at h; subst h
    exact of_box (.partitioned a names mesh) trivial rfl
  · simp only at h; subst h
    exact of_box (.logical a names mesh rules) trivial rfl
  · exact of_box (.nnxMeta t a md) ⟨rfl, h1, h2⟩ (by simp [toNnxVarWith])
  · simp only at h; subst h
    exact of_box (.box c a fields) ⟨h1, h2, h3⟩ rfl

theorem conv_iff (t : VType) (x : LBox α) (v : NVar α) :
    x.Ok t ∧ toNnxVarWith t x = .ok v ↔ v.Canon ∧ v.vtype = t ∧ toLinenVar v = .ok x := by
  constructor
  · rintro ⟨hok, hx⟩
    obtain ⟨v', hv', ht, _, hback, _, hc⟩ := box_roundtrip_aux t x hok
    rw [hx] at hv'; cases hv'
    exact ⟨hc, ht, hback⟩
  · rintro ⟨hc, rfl, hx⟩
    obtain ⟨x', hx', hok, hback⟩ := var_roundtrip_aux v hc
    rw [hx] at hx'; cases hx'
    exact ⟨hok, hback⟩

theorem toLinenVar_value {v : NVar α} {x : LBox α} (hc : v.Canon) (h : toLinenVar v = .ok x) :
    v.value = x.value := by
  obtain ⟨hok, hback⟩ := (conv_iff v.vtype x v).mpr ⟨hc, rfl, h⟩
  obtain ⟨v', hv', _, h2, _⟩ := box_roundtrip_aux v.vtype x hok
  rw [hback] at hv'; cases hv'
  exact h2

/-- past the end `insertAt` appends, core's `insertIdx` does nothing -/
theorem insertAt_eq_insertIdx {σ : Type} : ∀ (l : List σ) (k : Nat) (a : σ), k ≤ l.length → insertAt l k a = l.insertIdx k a
  | l, 0, a, _ => by cases l <;> rfl
  | [], k + 1, a, h => absurd h (Nat.not_succ_le_zero k)
  | x :: l, k + 1, a, h => by
    rw [insertAt, insertAt_eq_insertIdx l k a (Nat.le_of_succ_le_succ h), List.insertIdx_succ_cons]

/-- an index a lifted transform can pass for a value of rank `len`: `-(len+1) ≤ index ≤ len` -/
def AxisIndexOk (len : Nat) (index : Int) : Prop := -(len : Int) - 1 ≤ index ∧ index ≤ len

theorem addIndex_le (len : Nat) (index : Int) (h : AxisIndexOk len index) : addIndex len index ≤ len := by
  unfold addIndex AxisIndexOk at *
  split <;> omega

theorem insertAxis_eq (ns : List (Option String)) (index : Int) (axis : String) (h : AxisIndexOk ns.length index) :
    insertAxis ns index axis = ns.insertIdx (addIndex ns.length index) (some axis) := by
  have := addIndex_le ns.length index h
  simp only [insertAxis]
  rw [Nat.sub_eq_zero_of_le this, List.replicate_zero, List.append_nil, insertAt_eq_insertIdx ns _ _ this]

theorem removeAxis_insertAxis (ns : List (Option String)) (index : Int) (axis : String) (h : AxisIndexOk ns.length index) :
    removeAxis (insertAxis ns index axis) index axis = .ok ns := by
  have hk := addIndex_le ns.length index h
  rw [insertAxis_eq ns index axis h]
  have hlen := List.length_insertIdx_of_le_length (a := some axis) hk
  have hj : (if index < 0 then index + ((ns.insertIdx (addIndex ns.length index) (some axis)).length : Int) else index)
      = (addIndex ns.length index : Int) := by
    rw [hlen, addIndex]
    unfold AxisIndexOk at h
    by_cases hneg : index < 0
    · rw [if_pos hneg, if_pos hneg, Int.toNat_of_nonneg (by omega), Int.add_assoc]
      rfl
    · rw [if_neg hneg, if_neg hneg, Int.toNat_of_nonneg (Int.not_lt.mp hneg)]
  simp only [removeAxis, hj]
  have h1 : ¬ ((addIndex ns.length index : Int) < 0 ∨
      ((ns.insertIdx (addIndex ns.length index) (some axis)).length : Int) ≤ (addIndex ns.length index : Int)) := by
    rw [hlen, not_or, Int.not_lt, Int.not_le]
    exact ⟨Int.natCast_nonneg _, Int.ofNat_lt.mpr (Nat.lt_succ_of_le hk)⟩
  simp only [h1, ↓reduceIte, Int.toNat_natCast, List.getElem?_insertIdx_self, if_pos hk,
    List.eraseIdx_insertIdx_self]

end Flax.Bridge
