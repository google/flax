/- C12: which configurations the layers' front ends accept, and the value they then return -/
import Flax.Model.Layers
import Flax.Proofs.Except

namespace Flax.Layers

section
variable {R : Type} [Zero R] [Add R] [Mul R]

theorem convLayer_ok (c : ConvCfg) (x k : Tensor R) (bias mask : Option (Tensor R)) (out : Tensor R) :
    convLayer c x k bias mask = .ok out ↔ convCheck c x k mask = .ok () ∧ convCore c x k bias mask = out :=
  check_then_ok _ _ _

theorem denseGeneral_ok (axis batchDims : List Int) (nFeat : Nat) (x k : Tensor R) (bias : Option (Tensor R)) (y : Tensor R) :
    denseGeneral axis batchDims nFeat x k bias = .ok y ↔
      denseGeneralCheck axis batchDims nFeat x k bias = .ok () ∧ denseGeneralCore axis batchDims x k bias = y :=
  check_then_ok _ _ _

omit [Zero R] [Add R] [Mul R] in
theorem convCheck_ok (c : ConvCfg) (x k : Tensor R) (mask : Option (Tensor R)) (h : convCheck c x k mask = .ok ()) :
    c.groups ≠ 0 ∧ nth x.shape (x.rank - 1) % c.groups = 0 ∧
      k.shape.take c.kernelSize.length = c.kernelSize ∧
      nth k.shape c.kernelSize.length = nth x.shape (x.rank - 1) / c.groups := by
  simp only [convCheck, guard_ok, bind_ok, not_or, Decidable.not_not] at h
  obtain ⟨-, -, -, ⟨hg, hc⟩, ⟨hk, hcg⟩, -⟩ := h
  exact ⟨hg, hc, hk, hcg⟩
end

theorem poolGeomGen_ok (orig : Bool) (shape window strides : List Nat) (pad : PoolPad) (r : Bool × List Nat × PoolGeom) :
    poolGeomGen orig shape window strides pad = .ok r ↔
      (window.length + 1 ≤ shape.length ∧
        (if strides.isEmpty then List.replicate window.length 1 else strides).length = window.length ∧
        (∀ ps, pad = .explicit ps → ps.length = window.length) ∧
        (poolGeomCore orig shape window strides pad).2.2.pads.length = (poolGeomCore orig shape window strides pad).2.1.length) ∧
      poolGeomCore orig shape window strides pad = r := by
  cases pad <;>
    simp only [poolGeomGen, guard_ok, Nat.not_lt, Decidable.not_not, Except.ok.injEq, and_assoc, reduceCtorEq,
      false_imp_iff, implies_true, true_and, PoolPad.explicit.injEq, forall_eq']

theorem groupNormPieces_ok (x : Tensor Int) (numGroups : Nat) (redAxes : Option (List Int)) (useFast : Bool)
    (mask scale bias : Option (Tensor Int)) (repeatAx : Option Nat) (ps : List NormPiece) :
    groupNormPieces x numGroups redAxes useFast mask scale bias repeatAx = .ok ps ↔
      x.rank ≠ 0 ∧ (groupNormRed x.rank redAxes).getLast? = some (x.rank - 1) ∧
      (numGroups ≠ 0 ∧ nth x.shape (x.rank - 1) % numGroups = 0) ∧
      ¬ (((List.range (x.rank - 1)).filter (fun a => !((groupNormRed x.rank redAxes).dropLast.contains a))).length + 1
          ≤ repeatAx.getD ((List.range (x.rank - 1)).filter (fun a => !((groupNormRed x.rank redAxes).dropLast.contains a))).length) ∧
      groupNormCore x numGroups (groupNormRed x.rank redAxes) useFast mask scale bias
        (repeatAx.getD ((List.range (x.rank - 1)).filter (fun a => !((groupNormRed x.rank redAxes).dropLast.contains a))).length) = ps := by
  simp only [groupNormPieces, guard_ok, not_or, Decidable.not_not, Except.ok.injEq, ne_eq]

theorem dropoutBranch_identity (num den : Nat) (det : Bool) (shape : List Nat) (bd : List Int) (h : num = 0 ∨ det = true) :
    dropoutBranch num den det shape bd = .identity := if_pos h

theorem dropoutBranch_zeros (den : Nat) (shape : List Nat) (bd : List Int) (hden : den ≠ 0) :
    dropoutBranch den den false shape bd = .zeros := by
  rw [dropoutBranch, if_neg (by simp [hden]), if_pos rfl]

theorem dropoutBranch_masked (num den : Nat) (shape : List Nat) (bd : List Int) (h0 : num ≠ 0) (hne : num ≠ den) :
    dropoutBranch num den false shape bd = .masked (den - num) den
      ((List.range shape.length).map (fun i => if (bd.map (normAxis shape.length)).contains i then 1 else nth shape i)) := by
  rw [dropoutBranch, if_neg (by simp [h0]), if_neg hne]

end Flax.Layers
