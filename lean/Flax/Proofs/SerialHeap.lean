/-
Frame lemmas for the in-place passes of serialization (`Flax/Model/SerialHeap.lean`):
a pass started at a root allocated after address `b`, in a heap whose objects from `b` on only
reference objects from `b` on, writes only to addresses `≥ b` and leaves everything below `b` as it was.
`to_state_dict` and the copy put the passes in that position (`Grown`, `GrownTo`).
-/
import Flax.Model.SerialHeap
import Flax.Proofs.Serial

namespace Flax.SerialHeap
open Flax.Serial

/-- every dict edge out of an object at an address `≥ b` leads to an address in `[b, |h|)` -/
def Closed (b : Nat) (h : Heap) : Prop :=
  ∀ a obj, b ≤ a → h[a]? = some obj → ∀ k c, (k, HVal.ref c) ∈ obj → b ≤ c ∧ c < h.length

/-- the root is not a dict, or a dict allocated at an address in `[b, |h|)` -/
def RootOK (b : Nat) (h : Heap) : HVal → Prop
  | .leaf _ => True
  | .ref a => b ≤ a ∧ a < h.length

/-- `h'` has everything `h` had below `b`, unchanged, and is not shorter -/
def Pres (b : Nat) (h h' : Heap) : Prop :=
  h.length ≤ h'.length ∧ ∀ a, a < b → h'[a]? = h[a]?

theorem Pres.refl (b : Nat) (h : Heap) : Pres b h h := ⟨Nat.le_refl _, fun _ _ => rfl⟩

theorem Pres.trans {b : Nat} {h1 h2 h3 : Heap} (p : Pres b h1 h2) (q : Pres b h2 h3) : Pres b h1 h3 :=
  ⟨Nat.le_trans p.1 q.1, fun a ha => by rw [q.2 a ha, p.2 a ha]⟩

theorem RootOK.mono {b : Nat} {h h' : Heap} {v : HVal} (hl : h.length ≤ h'.length) (r : RootOK b h v) :
    RootOK b h' v := by
  cases v with
  | leaf _ => trivial
  | ref a => exact ⟨r.1, Nat.lt_of_lt_of_le r.2 hl⟩

theorem RootOK.weaken {b b' : Nat} {h : Heap} {v : HVal} (hb : b ≤ b') (r : RootOK b' h v) : RootOK b h v := by
  cases v with
  | leaf _ => trivial
  | ref a => exact ⟨Nat.le_trans hb r.1, r.2⟩

theorem closed_base (h : Heap) : Closed h.length h := by
  intro a obj ha hget
  rw [List.getElem?_eq_none (by omega)] at hget
  cases hget

theorem closed_alloc (lo : Nat) (h : Heap) (obj : DictObj) (hc : Closed lo h)
    (hobj : ∀ k c, (k, HVal.ref c) ∈ obj → lo ≤ c ∧ c < h.length) : Closed lo (h ++ [obj]) := by
  intro a o hlo hget k c hm
  rw [List.length_append, List.length_singleton]
  rcases Lists.get_append_one hget with hg | ⟨_, rfl⟩
  · exact ⟨(hc a o hlo hg k c hm).1, Nat.lt_succ_of_lt (hc a o hlo hg k c hm).2⟩
  · exact ⟨(hobj k c hm).1, Nat.lt_succ_of_lt (hobj k c hm).2⟩

/-- From `h` to `h'` by allocation only: the heap is extended at its end and stays closed above `lo`, and the dict
entries `obj` built on the way refer only to objects allocated on the way (`allocKvs`, the entry loop of `copyH`). -/
structure Grown (lo : Nat) (h h' : Heap) (obj : DictObj) : Prop where
  isPrefix : h <+: h'
  closed : Closed lo h'
  refs : ∀ k c, (k, HVal.ref c) ∈ obj → h.length ≤ c ∧ c < h'.length

/-- `Grown` for a returned value (`allocSTree`, `copyH`): a dict root is a new object -/
structure GrownTo (lo : Nat) (h h' : Heap) (v : HVal) : Prop where
  isPrefix : h <+: h'
  closed : Closed lo h'
  root : RootOK h.length h' v

theorem Grown.nil {lo : Nat} {h : Heap} (hc : Closed lo h) : Grown lo h h [] :=
  ⟨List.prefix_rfl, hc, fun _ _ hm => nomatch hm⟩

theorem GrownTo.leaf {lo : Nat} {h : Heap} (hc : Closed lo h) (x : Leaf) : GrownTo lo h h (.leaf x) :=
  ⟨List.prefix_rfl, hc, trivial⟩

theorem Grown.cons {lo : Nat} {h h1 h2 : Heap} {k : String} {v : HVal} {r : DictObj}
    (gv : GrownTo lo h h1 v) (gr : Grown lo h1 h2 r) : Grown lo h h2 ((k, v) :: r) := by
  refine ⟨gv.isPrefix.trans gr.isPrefix, gr.closed, fun k' c hm => ?_⟩
  rcases List.mem_cons.mp hm with hm | hm
  · cases hm
    exact ⟨gv.root.1, Nat.lt_of_lt_of_le gv.root.2 gr.isPrefix.length_le⟩
  · exact ⟨Nat.le_trans gv.isPrefix.length_le (gr.refs k' c hm).1, (gr.refs k' c hm).2⟩

/-- `{...}` of the entries built so far -/
theorem Grown.alloc {lo : Nat} {h h1 : Heap} {obj : DictObj} (hlo : lo ≤ h.length) (g : Grown lo h h1 obj) :
    GrownTo lo h (h1 ++ [obj]) (.ref h1.length) :=
  ⟨g.isPrefix.trans (List.prefix_append h1 [obj]),
    closed_alloc lo _ _ g.closed fun k c hm => ⟨Nat.le_trans hlo (g.refs k c hm).1, (g.refs k c hm).2⟩,
    g.isPrefix.length_le, by rw [List.length_append]; exact Nat.lt_succ_self _⟩

mutual
  theorem allocSTree_spec : ∀ (s : STree) (h : Heap) (lo : Nat), lo ≤ h.length → Closed lo h →
      GrownTo lo h (allocSTree h s).1 (allocSTree h s).2
    | .leaf v, _, _, _, hc => GrownTo.leaf hc v
    | .dict kvs, h, lo, hlo, hc => (allocKvs_spec kvs h lo hlo hc).alloc hlo
  theorem allocKvs_spec : ∀ (kvs : List (String × STree)) (h : Heap) (lo : Nat), lo ≤ h.length → Closed lo h →
      Grown lo h (allocKvs h kvs).1 (allocKvs h kvs).2
    | [], _, _, _, hc => Grown.nil hc
    | (_, v0) :: r, h, lo, hlo, hc =>
      have g : GrownTo lo h _ _ := allocSTree_spec v0 h lo hlo hc
      Grown.cons g (allocKvs_spec r _ lo (Nat.le_trans hlo g.isPrefix.length_le) g.closed)
end

theorem allocSTree_fresh (s : STree) (h : Heap) : GrownTo h.length h (allocSTree h s).1 (allocSTree h s).2 :=
  allocSTree_spec s h h.length (Nat.le_refl _) (closed_base h)

theorem allocKvs_fresh (kvs : List (String × STree)) (h : Heap) :
    Grown h.length h (allocKvs h kvs).1 (allocKvs h kvs).2 :=
  allocKvs_spec kvs h h.length (Nat.le_refl _) (closed_base h)

theorem getElem?_of_prefix {h h' : Heap} (p : h <+: h') {a : Nat} (ha : a < h.length) : h'[a]? = h[a]? := by
  obtain ⟨t, rfl⟩ := p
  exact List.getElem?_append_left ha

theorem pres_of_prefix (b : Nat) {h h' : Heap} (hb : b ≤ h.length) (p : h <+: h') : Pres b h h' :=
  ⟨p.length_le, fun _ ha => getElem?_of_prefix p (Nat.lt_of_lt_of_le ha hb)⟩

theorem setItem_of_none {h : Heap} {a : Nat} (k : String) (v : HVal) (hg : h[a]? = none) : setItem h a k v = h := by
  rw [setItem, hg]

theorem setItem_at (h : Heap) (a : Nat) (k : String) (v : HVal) (obj : DictObj) (hg : h[a]? = some obj) :
    (setItem h a k v)[a]? = some (dictSet obj k v) ∧ (setItem h a k v).length = h.length ∧
    ∀ x, x ≠ a → (setItem h a k v)[x]? = h[x]? := by
  have hlt : a < h.length := by
    by_cases hl : a < h.length
    · exact hl
    · rw [List.getElem?_eq_none (by omega)] at hg; cases hg
  simp only [setItem, hg]
  refine ⟨by simp [hlt], by simp, ?_⟩
  intro x hx
  rw [List.getElem?_set]
  have : ¬ a = x := fun e => hx e.symm
  simp [this]

theorem setItem_spec (b : Nat) (h : Heap) (a : Nat) (k : String) (v : HVal)
    (hc : Closed b h) (ha : b ≤ a) (hv : RootOK b h v) :
    Closed b (setItem h a k v) ∧ Pres b h (setItem h a k v) := by
  cases hget : h[a]? with
  | none => rw [setItem_of_none k v hget]; exact ⟨hc, Pres.refl _ _⟩
  | some obj =>
    obtain ⟨h1, h2, h3⟩ := setItem_at h a k v obj hget
    refine ⟨fun a' o hlo hg k' c hm => ?_, Nat.le_of_eq h2.symm, fun a' ha' => h3 a' (by omega)⟩
    rw [h2]
    by_cases e : a' = a
    · rw [e, h1] at hg
      cases hg
      rcases mem_dictSet obj k v k' (.ref c) hm with hm | hm
      · exact hc a obj ha hget k' c hm
      · subst hm; exact hv
    · exact hc a' o hlo (h3 a' e ▸ hg) k' c hm

/-- what the frame argument needs of a pass -/
def PassOK (b : Nat) (f : Heap → HVal → Out) : Prop :=
  ∀ h v, b ≤ h.length → Closed b h → RootOK b h v →
    Closed b (f h v).heap ∧ RootOK b (f h v).heap (f h v).val ∧ Pres b h (f h v).heap ∧
    ∀ a ∈ (f h v).writes, b ≤ a

theorem passEntries_spec (b : Nat) (step : Leaf → Option STree) (recur : Heap → HVal → Out)
    (hrec : PassOK b recur) (a : Nat) (ha : b ≤ a) :
    ∀ (ks : List String) (h : Heap) (w : List Nat), b ≤ h.length → Closed b h → (∀ x ∈ w, b ≤ x) →
      Closed b (passEntries step recur a ks h w).1 ∧ Pres b h (passEntries step recur a ks h w).1 ∧
      ∀ x ∈ (passEntries step recur a ks h w).2, b ≤ x
  | [], h, w, _, hc, hw => by
    simp only [passEntries]
    exact ⟨hc, Pres.refl _ _, hw⟩
  | k :: ks, h, w, hb, hc, hw => by
    simp only [passEntries]
    cases hget : h[a]? with
    | none => exact ⟨hc, Pres.refl _ _, hw⟩
    | some obj =>
      simp only
      cases hlk : lookup k obj with
      | none => exact passEntries_spec b step recur hrec a ha ks h w hb hc hw
      | some val =>
        cases val with
        | leaf v =>
          simp only
          cases hst : step v with
          | none => exact passEntries_spec b step recur hrec a ha ks h w hb hc hw
          | some s =>
            simp only
            obtain ⟨hpre, hc1, hr1⟩ := allocSTree_spec s h b hb hc
            have hlen : h.length ≤ (allocSTree h s).1.length := hpre.length_le
            have hp1 : Pres b h (allocSTree h s).1 := pres_of_prefix b hb hpre
            obtain ⟨hc2, hp2⟩ := setItem_spec b (allocSTree h s).1 a k (allocSTree h s).2 hc1 ha
              (RootOK.weaken hb hr1)
            have ih := passEntries_spec b step recur hrec a ha ks
              (setItem (allocSTree h s).1 a k (allocSTree h s).2) (w ++ [a]) (by have := hp2.1; omega) hc2
              (List.forall_mem_append.mpr ⟨hw, List.forall_mem_singleton.mpr ha⟩)
            exact ⟨ih.1, (hp1.trans hp2).trans ih.2.1, ih.2.2⟩
        | ref c =>
          simp only
          have hmem : (k, HVal.ref c) ∈ obj := (mem_keys_of_lookup obj k _ hlk).2
          have hcr := hc a obj ha hget k c hmem
          obtain ⟨r1, r2, r3, r4⟩ := hrec h (.ref c) hb hc hcr
          have ih := passEntries_spec b step recur hrec a ha ks (recur h (.ref c)).heap
            (w ++ (recur h (.ref c)).writes) (by have := r3.1; omega) r1
            (List.forall_mem_append.mpr ⟨hw, r4⟩)
          exact ⟨ih.1, r3.trans ih.2.1, ih.2.2⟩

theorem inPlace_spec (b : Nat) (step : Leaf → Option STree) : ∀ (fuel : Nat), PassOK b (inPlace step fuel)
  | 0 => by
    intro h v _ hc hr
    simp only [inPlace]
    exact ⟨hc, hr, Pres.refl _ _, by intro a ha; cases ha⟩
  | fuel + 1 => by
    intro h v hb hc hr
    cases v with
    | leaf x =>
      simp only [inPlace]
      cases hst : step x with
      | none => exact ⟨hc, trivial, Pres.refl _ _, by intro a ha; cases ha⟩
      | some s =>
        simp only
        obtain ⟨hpre, hc1, hr1⟩ := allocSTree_spec s h b hb hc
        exact ⟨hc1, RootOK.weaken hb hr1, pres_of_prefix b hb hpre, by intro a ha; cases ha⟩
    | ref a =>
      simp only [RootOK] at hr
      simp only [inPlace]
      cases hget : h[a]? with
      | none => exact ⟨hc, hr, Pres.refl _ _, by intro x hx; cases hx⟩
      | some obj =>
        simp only
        have := passEntries_spec b step (inPlace step fuel) (inPlace_spec b step fuel) a hr.1 (keys obj) h []
          hb hc (by intro x hx; cases hx)
        exact ⟨this.1, ⟨hr.1, Nat.lt_of_lt_of_le hr.2 this.2.1.1⟩, this.2.1, this.2.2⟩

theorem passes_spec (b : Nat) (isJax : Leaf → Bool) (toNp : Leaf → Leaf) (T : Nat) (isz : String → Nat)
    (fuel : Nat) : PassOK b (passes isJax toNp T isz fuel) := by
  intro h v hb hc hr
  obtain ⟨a1, a2, a3, a4⟩ := inPlace_spec b (npStep isJax toNp) fuel h v hb hc hr
  obtain ⟨c1, c2, c3, c4⟩ := inPlace_spec b (chunkStep T isz) fuel _ _ (by have := a3.1; omega) a1 a2
  simp only [passes]
  exact ⟨c1, c2, a3.trans c3, List.forall_mem_append.mpr ⟨a4, c4⟩⟩

theorem passes_frame (isJax : Leaf → Bool) (toNp : Leaf → Leaf) (T : Nat) (isz : String → Nat) (fuel : Nat)
    {h₀ h1 : Heap} {v1 : HVal} (g : GrownTo h₀.length h₀ h1 v1) :
    (∀ a ∈ (passes isJax toNp T isz fuel h1 v1).writes, h₀.length ≤ a) ∧
    ∀ a, a < h₀.length → (passes isJax toNp T isz fuel h1 v1).heap[a]? = h₀[a]? := by
  obtain ⟨_, _, p3, p4⟩ := passes_spec h₀.length isJax toNp T isz fuel h1 v1 g.isPrefix.length_le g.closed g.root
  exact ⟨p4, fun a ha => (p3.2 a ha).trans (getElem?_of_prefix g.isPrefix ha)⟩

theorem copyH_spec : ∀ (fuel : Nat) (h : Heap) (v : HVal) (lo : Nat) (h' : Heap) (v' : HVal),
    lo ≤ h.length → Closed lo h → copyH fuel h v = some (h', v') → GrownTo lo h h' v'
  | 0, _, _, _, _, _, _, _, he => nomatch he
  | fuel + 1, h, .leaf x, lo, h', v', _, hc, he => by
    cases he
    exact GrownTo.leaf hc x
  | fuel + 1, h, .ref a, lo, h', v', hlo, hc, he => by
    have go_spec : ∀ (o : DictObj) (g g' : Heap) (o' : DictObj), lo ≤ g.length → Closed lo g →
        copyH.go (copyH fuel) o g = some (g', o') → Grown lo g g' o' := by
      intro o
      induction o with
      | nil =>
        intro g g' o' _ hcg hgo
        cases hgo
        exact Grown.nil hcg
      | cons kv r ih =>
        intro g g' o' hg hcg hgo
        rw [copyH.go] at hgo
        cases h1 : copyH fuel g kv.2 with
        | none => rw [h1] at hgo; cases hgo
        | some p1 =>
          rw [h1] at hgo
          have gv : GrownTo lo g p1.1 p1.2 := copyH_spec fuel g kv.2 lo p1.1 p1.2 hg hcg h1
          cases h2 : copyH.go (copyH fuel) r p1.1 with
          | none => simp only [h2] at hgo; cases hgo
          | some p2 =>
            simp only [h2] at hgo
            cases hgo
            exact Grown.cons gv (ih p1.1 p2.1 p2.2 (Nat.le_trans hg gv.isPrefix.length_le) gv.closed h2)
    rw [copyH] at he
    cases hget : h[a]? with
    | none => rw [hget] at he; cases he
    | some obj =>
      simp only [hget] at he
      cases hgo : copyH.go (copyH fuel) obj h with
      | none => simp only [hgo] at he; cases he
      | some p =>
        simp only [hgo] at he
        cases he
        exact (go_spec obj h p.1 p.2 hlo hc hgo).alloc hlo

end Flax.SerialHeap
