/- C08 proofs: small lemmas on `bindX`, `Store.getX`, `leafMap` and flats, then the one notion the state lemmas of
`nnx.vmap` and `nnx.scan` share.  `ctx.split` puts the items of a flat state into one state per filter, and the
transforms work state by state.  `Holds` survives such a step (`Holds.leafMap`, `Holds.mono`), and any arrangement of
states that covers all groups answers a look-up by path with the `R`-value, whatever their order. -/
import Flax.Proofs.NnxLoopSpec
import Flax.Proofs.NnxLoopMerge

namespace Flax.NnxLoop
open Flax.Filter Flax.LiftLoop

theorem bindX_ok {β γ : Type} {x : Except Err β} {f : β → Except Err γ} {b : γ} :
    bindX x f = .ok b ↔ ∃ a, x = .ok a ∧ f a = .ok b := by
  cases x <;> simp [bindX]

theorem Store.getX_ok {α : Type} {st : Store α} {id : VarId} {v : Arr α} : st.getX id = .ok v ↔ st.lookup id = some v := by
  rw [Store.getX]; cases st.lookup id <;> simp

theorem leafMap_eq {α β : Type} (t : Arr α → Except Err (Arr β)) (s : State α) :
    leafMap t s = mapX (fun pv => (t pv.2).map (fun v => (pv.1, v))) s :=
  mapX_congr s fun pv _ => by cases t pv.2 <;> rfl

theorem leafMap_ok_mem {α β : Type} {t : Arr α → Except Err (Arr β)} {s : State α} {s' : State β}
    (h : leafMap t s = .ok s') : ∀ pv ∈ s, ∃ v', t pv.2 = .ok v' ∧ (pv.1, v') ∈ s' :=
  (mapX_map_ok (leafMap_eq t s ▸ h)).1

theorem leafMap_ok_mem_rev {α β : Type} {t : Arr α → Except Err (Arr β)} {s : State α} {s' : State β}
    (h : leafMap t s = .ok s') : ∀ kv ∈ s', ∃ pv ∈ s, t pv.2 = .ok kv.2 ∧ kv.1 = pv.1 := by
  intro kv hkv
  obtain ⟨pv, hpv, _, hv, rfl⟩ := (mapX_map_ok (leafMap_eq t s ▸ h)).2.1 kv hkv
  exact ⟨pv, hpv, hv, rfl⟩

theorem leafMap_keys {α β : Type} {t : Arr α → Except Err (Arr β)} {s : State α} {s' : State β}
    (h : leafMap t s = .ok s') : s'.map (·.1) = s.map (·.1) := by
  obtain ⟨_, _, hl, hi⟩ := mapX_map_ok (leafMap_eq t s ▸ h)
  refine List.ext_getElem (by simpa using hl) fun i h1 h2 => ?_
  obtain ⟨v, _, e⟩ := hi i (by simpa using h2) (by simpa using h1)
  simp [e]

theorem leafMap_id {α : Type} (s : State α) : leafMap (fun v => Except.ok v) s = .ok s := by
  have := mapX_eq_map (f := fun (pv : Path × Arr α) => match (Except.ok pv.2 : Except Err (Arr α)) with
      | .ok v => Except.ok (pv.1, v)
      | .error e => .error e) (g := fun pv => pv) s (by intro x _; rfl)
  simpa [leafMap] using this

theorem mapX_zip_states {β γ : Type} {F : Ax → β → Except Err γ} {axes : List Ax} {sts : List β} {sts' : List γ}
    (h : mapX (fun q => F q.1 q.2) (axes.zip sts) = .ok sts') (hlen : sts.length = axes.length) :
    sts'.length = sts.length ∧
    ∀ (g : Nat) (a : Ax) (s : β), axes[g]? = some a → sts[g]? = some s → ∃ s', sts'[g]? = some s' ∧ F a s = .ok s' := by
  have hl := mapX_length h
  simp only [List.length_zip, hlen, Nat.min_self] at hl
  refine ⟨by omega, ?_⟩
  intro g a s ha hs
  have hg : g < (axes.zip sts).length := by
    have := (List.getElem?_eq_some_iff.1 ha).1
    simp [List.length_zip, hlen]; exact this
  have hg' : g < sts'.length := by
    have := (List.getElem?_eq_some_iff.1 ha).1; omega
  have := mapX_ok_getElem h g hg hg'
  have hz : (axes.zip sts)[g] = (a, s) := (List.getElem_eq_iff hg).2 (List.getElem?_zip_eq_some.2 ⟨ha, hs⟩)
  rw [hz] at this
  exact ⟨sts'[g], List.getElem?_eq_getElem hg', this⟩

section holds
variable {α β γ : Type}

theorem valAt_of_mem {fl : Flat α} (hnd : (fl.map (·.1)).Nodup) {x : Path × VarInfo × Arr α} (hx : x ∈ fl) :
    valAt fl x.1 = .ok x.2.2 := by
  have : (fl.map (fun x => (x.1, x.2.2))).lookup x.1 = some x.2.2 :=
    Assoc.lookup_of_mem (by rw [List.map_map]; exact hnd) (List.mem_map.2 ⟨x, hx, rfl⟩)
  simp [valAt, this]

theorem mem_of_keys {fl fl0 : Flat α}
    (hk : fl.map (fun x => (x.1, x.2.1)) = fl0.map (fun x => (x.1, x.2.1))) {x : Path × VarInfo × Arr α}
    (hx : x ∈ fl0) : ∃ y ∈ fl, y.1 = x.1 ∧ y.2.1 = x.2.1 := by
  have : (x.1, x.2.1) ∈ fl.map (fun x => (x.1, x.2.1)) := by rw [hk]; exact List.mem_map.2 ⟨x, hx, rfl⟩
  obtain ⟨y, hy, he⟩ := List.mem_map.1 this
  injection he with h1 h2
  exact ⟨y, hy, h1, h2⟩

theorem keys_paths {fl fl0 : Flat α}
    (hk : fl.map (fun x => (x.1, x.2.1)) = fl0.map (fun x => (x.1, x.2.1))) : fl.map (·.1) = fl0.map (·.1) := by
  have := congrArg (List.map (·.1)) hk
  simpa [List.map_map, Function.comp_def] using this

/-- `s` holds, at their paths, exactly the items of `n0` that the prefix puts in group `g`, each with a value `R`
relates it to -/
def Holds (p : Prefix) (n0 : Flat α) (R : Path × VarInfo × Arr α → Arr β → Prop) (g : Nat) (s : State β) : Prop :=
  (∀ y ∈ n0, groupIdx p y.1 y.2.1 = g → ∃ v, R y v ∧ (y.1, v) ∈ s) ∧
  (∀ kb ∈ s, ∃ y ∈ n0, groupIdx p y.1 y.2.1 = g ∧ kb.1 = y.1 ∧ R y kb.2)

variable {p : Prefix} {n0 : Flat α} {g : Nat}

theorem Holds.mono {R R' : Path × VarInfo × Arr α → Arr β → Prop} {s : State β} (h : Holds p n0 R g s)
    (hR : ∀ y ∈ n0, groupIdx p y.1 y.2.1 = g → ∀ v, R y v → R' y v) : Holds p n0 R' g s := by
  refine ⟨fun y hy hg => ?_, fun kb hkb => ?_⟩
  · obtain ⟨v, hv, hm⟩ := h.1 y hy hg
    exact ⟨v, hR y hy hg v hv, hm⟩
  · obtain ⟨y, hy, hg, hk, hv⟩ := h.2 kb hkb
    exact ⟨y, hy, hg, hk, hR y hy hg _ hv⟩

theorem Holds.leafMap {R : Path × VarInfo × Arr α → Arr β → Prop} {s : State β} (h : Holds p n0 R g s)
    {t : Arr β → Except Err (Arr γ)} {s' : State γ} (ht : leafMap t s = .ok s') :
    Holds p n0 (fun y w => ∃ v, R y v ∧ t v = .ok w) g s' := by
  refine ⟨fun y hy hg => ?_, fun kb hkb => ?_⟩
  · obtain ⟨v, hv, hm⟩ := h.1 y hy hg
    obtain ⟨w, hw, hwm⟩ := leafMap_ok_mem ht _ hm
    exact ⟨w, ⟨v, hv, hw⟩, hwm⟩
  · obtain ⟨pv, hpv, hw, hk⟩ := leafMap_ok_mem_rev ht kb hkb
    obtain ⟨y, hy, hg, hk', hv⟩ := h.2 pv hpv
    exact ⟨y, hy, hg, hk.trans hk', _, hv, hw⟩

theorem Holds.lookup {R : Path × VarInfo × Arr α → Arr β → Prop} {s : State β} (h : Holds p n0 R g s)
    (hnd : (n0.map (·.1)).Nodup) (hfun : ∀ y v v', R y v → R y v' → v = v') {y : Path × VarInfo × Arr α}
    (hy : y ∈ n0) (hg : groupIdx p y.1 y.2.1 = g) : ∃ v, R y v ∧ s.lookup y.1 = some v := by
  obtain ⟨v, hv, hm⟩ := h.1 y hy hg
  refine ⟨v, hv, lookup_of_mem_unique hm fun v' hv' => ?_⟩
  obtain ⟨z, hz, _, hk, hRz⟩ := h.2 _ hv'
  cases Assoc.eq_of_nodup_map hnd hz hy hk.symm
  exact hfun _ _ _ hRz hv

theorem holds_split (hnd : (n0.map (·.1)).Nodup) {fl : Flat α}
    (hk : fl.map (fun x => (x.1, x.2.1)) = n0.map (fun x => (x.1, x.2.1))) {sts : List (State α)}
    (hsp : splitFlat p fl = .ok sts) {s : State α} (hs : sts[g]? = some s) :
    Holds p n0 (fun y v => valAt fl y.1 = .ok v) g s := by
  obtain ⟨_, hmem, _⟩ := splitFlat_spec hsp
  have hndF : (fl.map (·.1)).Nodup := by rw [keys_paths hk]; exact hnd
  refine ⟨fun y hy hg => ?_, fun kb hkb => ?_⟩
  · obtain ⟨z, hz, hz1, hz2⟩ := mem_of_keys (fl := fl) (fl0 := n0) hk hy
    exact ⟨z.2.2, by show valAt fl y.1 = _; rw [← hz1]; exact valAt_of_mem hndF hz,
      (hmem g s hs _).2 ⟨z, hz, by rw [hz1], by rw [hz1, hz2]; exact hg⟩⟩
  · obtain ⟨z, hz, he, hgz⟩ := (hmem g s hs kb).1 hkb
    obtain ⟨y, hy, hy1, hy2⟩ := mem_of_keys (fl := n0) (fl0 := fl) hk.symm hz
    refine ⟨y, hy, by rw [hy1, hy2]; exact hgz, by rw [hy1, he], ?_⟩
    show valAt fl y.1 = _
    rw [hy1, he]
    exact valAt_of_mem hndF hz

theorem split_group_lt {fl : Flat α} {sts : List (State α)} (hsp : splitFlat p fl = .ok sts)
    (hk : fl.map (fun x => (x.1, x.2.1)) = n0.map (fun x => (x.1, x.2.1))) :
    ∀ y ∈ n0, groupIdx p y.1 y.2.1 < p.axes.length := by
  obtain ⟨hl, _, hlt⟩ := splitFlat_spec hsp
  intro y hy
  obtain ⟨z, hz, hz1, hz2⟩ := mem_of_keys (fl := fl) (fl0 := n0) hk hy
  rw [← hl, ← hz1, ← hz2]
  exact hlt z hz

theorem axAt_of_group {a : Ax} (ha : p.axes[g]? = some a) (y : Path × VarInfo × Arr α)
    (hg : groupIdx p y.1 y.2.1 = g) : axAt p y.1 y.2.1 = some a := by
  simp only [axAt, hg, ha]

theorem lookup_of_holds (hnd : (n0.map (·.1)).Nodup) {R : Path × VarInfo × Arr α → Arr β → Prop}
    (hfun : ∀ y v v', R y v → R y v' → v = v') {L : List (State β)} (hL : ∀ s ∈ L, ∃ g, Holds p n0 R g s)
    (hcov : ∀ y ∈ n0, ∃ s ∈ L, Holds p n0 R (groupIdx p y.1 y.2.1) s) :
    ∀ x ∈ n0, ∃ v, R x v ∧ L.flatten.lookup x.1 = some v := by
  apply lookup_of_relation hnd hfun
  · intro y hy
    obtain ⟨s, hs, hh⟩ := hcov y hy
    obtain ⟨v, hv, hm⟩ := hh.1 y hy rfl
    exact ⟨v, hv, List.mem_flatten.2 ⟨s, hs, hm⟩⟩
  · intro kb hkb
    obtain ⟨s, hs, hin⟩ := List.mem_flatten.1 hkb
    obtain ⟨g, hh⟩ := hL s hs
    obtain ⟨y, hy, _, hk, hv⟩ := hh.2 kb hin
    exact ⟨y, hy, hk, hv⟩

theorem lookup_of_holds_groups (hnd : (n0.map (·.1)).Nodup) {R : Path × VarInfo × Arr α → Arr β → Prop}
    (hfun : ∀ y v v', R y v → R y v' → v = v') {sts : List (State β)}
    (hlt : ∀ y ∈ n0, groupIdx p y.1 y.2.1 < sts.length) (hg : ∀ g s, sts[g]? = some s → Holds p n0 R g s) :
    ∀ x ∈ n0, ∃ v, R x v ∧ sts.flatten.lookup x.1 = some v :=
  lookup_of_holds hnd hfun
    (fun s hs => by
      obtain ⟨g, hgl, rfl⟩ := List.getElem_of_mem hs
      exact ⟨g, hg g _ (List.getElem?_eq_getElem hgl)⟩)
    (fun y hy => ⟨_, List.getElem_mem (hlt y hy), hg _ _ (List.getElem?_eq_getElem (hlt y hy))⟩)

/-- states in group order, state `g` holding group `g` with the values `Q a` for the axis `a` of that group: a look-up by
path answers with the `Q`-value at the item's own axis -/
theorem lookup_by_axis (hnd : (n0.map (·.1)).Nodup) {Q : Ax → Path × VarInfo × Arr α → Arr β → Prop}
    (hQ : ∀ a y v v', Q a y v → Q a y v' → v = v') {sts : List (State β)} (hlen : sts.length = p.axes.length)
    (hlt : ∀ y ∈ n0, groupIdx p y.1 y.2.1 < p.axes.length)
    (hg : ∀ g a s, p.axes[g]? = some a → sts[g]? = some s → Holds p n0 (Q a) g s) :
    ∀ x ∈ n0, ∃ a v, axAt p x.1 x.2.1 = some a ∧ Q a x v ∧ sts.flatten.lookup x.1 = some v := by
  have key := lookup_of_holds_groups hnd (p := p) (sts := sts)
    (R := fun y v => ∃ a, axAt p y.1 y.2.1 = some a ∧ Q a y v)
    (fun y v v' ⟨a, ha, hv⟩ ⟨a', ha', hv'⟩ => by cases ha.symm.trans ha'; exact hQ a y v v' hv hv')
    (fun y hy => hlen ▸ hlt y hy)
    (fun g s hs => by
      have hgl : g < p.axes.length := hlen ▸ (List.getElem?_eq_some_iff.1 hs).1
      exact (hg g _ s (List.getElem?_eq_getElem hgl) hs).mono fun y _ hgy v hv =>
        ⟨_, axAt_of_group (List.getElem?_eq_getElem hgl) y hgy, hv⟩)
  exact fun x hx => let ⟨v, ⟨a, ha, hv⟩, hl⟩ := key x hx; ⟨a, v, ha, hv, hl⟩

theorem leafwise_lookup {flat : Flat α} {sts : List (State α)}
    (hs : splitFlat p flat = .ok sts) (hnd : (flat.map (·.1)).Nodup)
    (t : Ax → Arr α → Except Err (Arr β)) {sts' : List (State β)}
    (ht : mapX (fun q => leafMap (t q.1) q.2) (p.axes.zip sts) = .ok sts') :
    ∀ x ∈ flat, ∃ a v', axAt p x.1 x.2.1 = some a ∧ t a x.2.2 = .ok v' ∧ sts'.flatten.lookup x.1 = some v' := by
  have hlen := (splitFlat_spec hs).1
  obtain ⟨hlen', hst⟩ := mapX_zip_states (F := fun a s => leafMap (t a) s) ht hlen
  refine lookup_by_axis hnd (Q := fun a y w => t a y.2.2 = .ok w) (fun _ _ _ _ h h' => Except.ok.inj (h.symm.trans h'))
    (hlen'.trans hlen) (split_group_lt hs rfl) fun g a s' ha hs' => ?_
  have hgs : g < sts.length := hlen ▸ (List.getElem?_eq_some_iff.1 ha).1
  obtain ⟨s'', hs'', hF⟩ := hst g _ _ ha (List.getElem?_eq_getElem hgs)
  cases hs'.symm.trans hs''
  refine ((holds_split hnd rfl hs (List.getElem?_eq_getElem hgs)).leafMap hF).mono ?_
  rintro y hy _ w ⟨v, hv, hw⟩
  cases (valAt_of_mem hnd hy).symm.trans hv
  exact hw

end holds

end Flax.NnxLoop
