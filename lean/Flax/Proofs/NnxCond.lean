/-
Tracing the branches of cond / switch is `mapM` of the traced function over them; the traced output structures alone decide
the call, and an accepted call is `remat` of the selected branch.
-/
import Flax.Proofs.NnxJit
import Flax.Proofs.Except

namespace Flax.Nnx
open Flax.Heap Flax.Graph

theorem traceBranches_eq_mapM (gds : List GDef) (lss : List (List Leaf)) : ∀ (fs : List Fn),
    traceBranches gds lss fs = fs.mapM fun f => pureRun false true f [] gds lss
  | [] => rfl
  | f :: fs => by
    rw [traceBranches, List.mapM_cons, ← traceBranches_eq_mapM gds lss fs]
    cases pureRun false true f [] gds lss with
    | error e => rfl
    | ok o => cases traceBranches gds lss fs <;> rfl

theorem traceBranches_get {gds : List GDef} {lss : List (List Leaf)} {fs : List Fn} {outs}
    (h : traceBranches gds lss fs = .ok outs) :
    outs.length = fs.length ∧ ∀ (k : Nat) f, fs[k]? = some f → ∃ o, outs[k]? = some o ∧ pureRun false true f [] gds lss = .ok o := by
  rw [traceBranches_eq_mapM] at h
  obtain ⟨hl, hp⟩ := mapM_ok_iff.mp h
  refine ⟨hl, fun k f hk => ?_⟩
  obtain ⟨hk1, rfl⟩ := List.getElem?_eq_some_iff.mp hk
  exact ⟨outs[k]'(hl ▸ hk1), List.getElem?_eq_getElem _, hp k hk1 _⟩

/-- the branch index `lax.switch` selects -/
def clampIndex (index : Int) (n : Nat) : Nat := if index < 0 then 0 else min index.toNat (n - 1)

theorem clampIndex_lt (index : Int) {n : Nat} (hn : 0 < n) : clampIndex index n < n := by
  unfold clampIndex; split <;> omega

section
variable {fs : List Fn} {index : Int} {h : Heap} {args : List PVal} {gds : List GDef} {lss : List (List Leaf)}
  {idx1 : RefIndex} {outs : List (List ODef × List (List Leaf))}

theorem switchCall_accept (hs1 : step1 false h args = .ok (gds, lss, idx1)) (htr : traceBranches gds lss fs = .ok outs)
    (hsame : ∀ o ∈ outs, ∀ o' ∈ outs, o.1 = o'.1) {f : Fn} (hf : fs[clampIndex index fs.length]? = some f) :
    switchCall fs index h args = rematCall f h args := by
  obtain ⟨hl, hk⟩ := traceBranches_get htr
  obtain ⟨⟨g, lssO⟩, hget, hpr⟩ := hk _ f hf
  unfold switchCall rematCall protoCall
  rw [hs1]
  simp only [htr, hpr]
  cases outs with
  | nil => simp at hget
  | cons o0 rest =>
    obtain ⟨gdsO, l0⟩ := o0
    have hall : ((gdsO, l0) :: rest).all (fun o => decide (o.1 = gdsO)) = true :=
      List.all_eq_true.mpr (fun o ho => by simpa using hsame o ho (gdsO, l0) List.mem_cons_self)
    have hg : gdsO = g := hsame _ List.mem_cons_self _ (List.mem_of_getElem? hget)
    subst hg
    have hkk : (if index < 0 then 0 else min index.toNat (((gdsO, l0) :: rest).length - 1)) = clampIndex index fs.length := by
      rw [hl]; rfl
    simp only [hall, if_true, hkk, hget]

theorem switchCall_reject (hs1 : step1 false h args = .ok (gds, lss, idx1)) (htr : traceBranches gds lss fs = .ok outs)
    {o o' : List ODef × List (List Leaf)} (ho : o ∈ outs) (ho' : o' ∈ outs) (hne : o.1 ≠ o'.1) :
    switchCall fs index h args = .error .structureMismatch := by
  unfold switchCall
  rw [hs1]
  simp only [htr]
  cases outs with
  | nil => cases ho
  | cons o0 rest =>
    obtain ⟨gdsO, l0⟩ := o0
    have : ((gdsO, l0) :: rest).all (fun x => decide (x.1 = gdsO)) = false := by
      apply Bool.eq_false_iff.mpr
      intro hall
      have a1 := List.all_eq_true.mp hall o ho
      have a2 := List.all_eq_true.mp hall o' ho'
      simp only [decide_eq_true_eq] at a1 a2
      exact hne (a1.trans a2.symm)
    simp only [this, Bool.false_eq_true, if_false]

end

theorem switchCall_ok {fs : List Fn} {index : Int} {h : Heap} {args : List PVal} {r : List PVal × Heap}
    (hs : switchCall fs index h args = .ok r) :
    ∃ f, fs[clampIndex index fs.length]? = some f ∧ rematCall f h args = .ok r := by
  cases hs1 : step1 false h args with
  | error e => simp [switchCall, hs1] at hs
  | ok p =>
    obtain ⟨gds, lss, idx1⟩ := p
    cases htr : traceBranches gds lss fs with
    | error e => simp [switchCall, hs1, htr] at hs
    | ok os =>
      by_cases hsame : ∀ o ∈ os, ∀ o' ∈ os, o.1 = o'.1
      · have hne : 0 < fs.length := by
          cases os with
          | nil => simp [switchCall, hs1, htr] at hs
          | cons _ _ => rw [← (traceBranches_get htr).1]; simp
        have hf := List.getElem?_eq_getElem (clampIndex_lt index hne)
        exact ⟨_, hf, by rw [← switchCall_accept hs1 htr hsame hf]; exact hs⟩
      · obtain ⟨o, h1⟩ := Classical.not_forall.mp hsame
        obtain ⟨ho, h2⟩ := Classical.not_imp.mp h1
        obtain ⟨o', h3⟩ := Classical.not_forall.mp h2
        obtain ⟨ho', hne⟩ := Classical.not_imp.mp h3
        rw [switchCall_reject hs1 htr ho ho' hne] at hs; cases hs

end Flax.Nnx
