/-
C06: the *specification side* of `lift.scan` (`lift.vmap`'s is in LiftLoopVmap): the explicit Python loop over slices.
Its own: roles by "first matching filter", slices and stacks along the declared axis (`takeAt` / `stackAt`), keys
`Key.split k n i` per index, the loop (`loopRun`, `byIndex`); failure is just `none`.  Called from the model as they
are: `mergeGroups`, `reinject`, `publish`, `collectOuts`, `sameStruct`, `innerMutable`, `argTakeAt`, the length inference.
-/
import Flax.Model.LiftLoop
import Flax.Proofs.LiftLoopMonad

namespace Flax.LiftLoop
open Flax.Filter
variable {α : Type} [Inhabited α]

/-- the entries of a dict whose key's first matching filter is number `g` -/
def roleGroup {β : Type} (d : List (String × β)) (fs : List LFilter) (g : Nat) : List (String × β) :=
  d.filter (fun kv => decide (firstIdx fs kv.1 = some g))

/-- the rng streams handed to iteration / index `i`, group by group: a stream whose first matching
`split_rngs` entry says split gets `random.split(k, n)[i]`, otherwise its own key; unmatched streams are
not passed on -/
def iterRngGroups (splitRngs : List (LFilter × Bool)) (rngs : Rngs) (n i : Nat) : List Rngs :=
  ((List.range splitRngs.length).zip splitRngs).map (fun p =>
    (roleGroup rngs (splitRngs.map (·.1)) p.1).map (fun sk =>
      (sk.1, if p.2.2 then Key.split sk.2 n i else sk.2)))

/-- the groups of collections that are sliced per iteration: group `g` holds the collections whose first
matching filter is entry `g` of `variable_axes` (after `variable_broadcast` and `variable_carry`) -/
def axisGroups {β : Type} (d : List (String × β)) (fs : List LFilter) (k : Nat) : List (List (String × β)) :=
  (List.range k).map (fun g => roleGroup d fs (g + 2))

/-- slice `i` of every collection of an axis group, along the group's declared axis -/
def groupSlice (i : Nat) (p : Int × Vars α) : Except Err (Vars α) := Vars.mapE (takeAt p.1 i) p.2

/-- sizes of an axis group's leaves along its axis -/
def groupDims (p : Int × Vars α) : Except Err (List Nat) := mapE (dimAt p.1) (Vars.leaves p.2)

/-- the positional arguments of iteration `i` -/
def iterArgs (inArgAxes : List (Option Int)) (args : List (Arr α)) (i : Nat) : Option (List (Arr α)) :=
  opt (mapE (argTakeAt i) (inArgAxes.zip args))

/-- one iteration of the explicit loop: broadcast collections `b` as they are, carried collections and
carry from the previous iteration, slice `i` of every axis collection along its declared axis; afterwards
the mutable collections are sorted into broadcast / carry / per-axis outputs by their first matching
out filter -/
def loopStep (cfg : ScanCfg) (mutF : LFilter) (body : Body α) (outer : Vars α) (rngs : Rngs)
    (inArgAxes : List (Option Int)) (args : List (Arr α)) (dLength : Nat)
    (b : Vars α) (st : Vars α × List (Arr α)) (i : Nat) : Option (StepOut α) :=
  (opt (mapE (groupSlice i)
      ((cfg.inAx.map (·.axis)).zip (axisGroups outer cfg.inFs cfg.inAx.length)))).bind fun sl =>
  (iterArgs inArgAxes args i).bind fun xs =>
  (opt (body mutF (mergeGroups (b :: st.1 :: sl))
      (mergeGroups (iterRngGroups cfg.splitRngs rngs dLength i)) st.2 xs)).bind fun r =>
  let mv := r.1.filter (fun kv => inFilter mutF kv.1)
  some (reinject b (roleGroup mv cfg.outFs 0), (roleGroup mv cfg.outFs 1, r.2.1),
        (r.2.2, axisGroups mv cfg.outFs cfg.outAx.length))

/-- run the iterations in the given order, threading the state, remembering each iteration's output
under its index; the carry must keep its structure -/
def loopRun {σ ω : Type} (step : σ → Nat → Option (σ × ω)) (same : σ → σ → Bool) :
    σ → List Nat → Option (σ × List (Nat × ω))
  | s, [] => some (s, [])
  | s, i :: is =>
    match step s i with
    | none => none
    | some r =>
      if same s r.1 then
        match loopRun step same r.1 is with
        | none => none
        | some rest => some (rest.1, (i, r.2) :: rest.2)
      else none

/-- the outputs in index order: entry `i` is what iteration `i` produced -/
def byIndex {ω : Type} (n : Nat) (recs : List (Nat × ω)) : Option (List ω) :=
  mapO (fun i => recs.lookup i) (List.range n)

/-- the sizes, along the declared axes, of everything that is sliced per iteration -/
def loopDims (cfg : ScanCfg) (outer : Vars α) (rngs : Rngs) (inArgAxes : List (Option Int))
    (args : List (Arr α)) (dLength : Nat) : Option (List Nat) :=
  (opt (mapE groupDims
      ((cfg.inAx.map (·.axis)).zip (axisGroups outer cfg.inFs cfg.inAx.length)))).bind fun d1 =>
  (opt (mapE argDimAt (inArgAxes.zip args))).bind fun d3 =>
  some (d1.flatten
    ++ ((List.range cfg.splitRngs.length).zip cfg.splitRngs).flatMap (fun p =>
        if p.2.2 then (roleGroup rngs (cfg.splitRngs.map (·.1)) p.1).map (fun _ => dLength) else [])
    ++ d3.flatten)

/-- the loop itself, once flax has fixed `d_length` and the per-argument axes: how many iterations, the
one-time initialisation of the broadcast collections, the iterations in order, the stacked outputs.
Result: `(broadcast collections, (carried collections, carry), (ys, stacked axis collections))` -/
def loopCoreChecked (cfg : ScanCfg) (verdict : Bool) (mutF : LFilter) (body : Body α) (outer : Vars α)
    (rngs : Rngs) (init : List (Arr α)) (args : List (Arr α)) (inArgAxes : List (Option Int))
    (dLength : Nat) : Option (StepOut α) :=
  (loopDims cfg outer rngs inArgAxes args dLength).bind fun dims =>
  (opt (jaxLength cfg.length dims)).bind fun n =>
  if n = 0 then none else
  let step := loopStep cfg mutF body outer rngs inArgAxes args dLength
  let st0 : Vars α × List (Arr α) := (roleGroup outer cfg.inFs 1, init)
  -- broadcast collections are initialised once: by the body on the inputs of the first iteration
  (step (roleGroup outer cfg.inFs 0) st0 (if cfg.reverse then n - 1 else 0)).bind fun r0 =>
  (opt (cfg.outAxes.expand r0.2.2.1.length)).bind fun outYAxes =>
  if !verdict then none else
  (loopRun (fun st i => (step r0.1 st i).map (fun r => (r.2.1, r.2.2))) sameStruct st0
      (if cfg.reverse then (List.range n).reverse else List.range n)).bind fun res =>
  (byIndex n res.2).bind fun outs =>
  (opt (collectOuts stackAt outYAxes (cfg.outAx.map (·.axis)) r0.2.2.1 outs)).bind fun out =>
  some (r0.1, res.1, out)

/-- the loop with `check_constancy_invariants=False`: the broadcast collections are inputs only (passed unchanged
to every iteration and returned unchanged; what the body does to them is dropped), no output may be declared
`broadcast`; everything else — number of iterations, direction, slices, carry threading, stacking — as above -/
def loopCoreSimple (cfg : ScanCfg) (mutF : LFilter) (body : Body α) (outer : Vars α)
    (rngs : Rngs) (init : List (Arr α)) (args : List (Arr α)) (inArgAxes : List (Option Int))
    (dLength : Nat) : Option (StepOut α) :=
  if cfg.outAxes.hasBroadcast then none else
  (loopDims cfg outer rngs inArgAxes args dLength).bind fun dims =>
  (opt (jaxLength cfg.length dims)).bind fun n =>
  if n = 0 then none else
  let step := loopStep cfg mutF body outer rngs inArgAxes args dLength
  let st0 : Vars α × List (Arr α) := (roleGroup outer cfg.inFs 1, init)
  let b := roleGroup outer cfg.inFs 0
  (loopRun (fun st i => (step b st i).map (fun r => (r.2.1, r.2.2))) sameStruct st0
      (if cfg.reverse then (List.range n).reverse else List.range n)).bind fun res =>
  (byIndex n res.2).bind fun outs =>
  (opt (cfg.outAxes.expand ((outs.head?.map (fun o => o.1.length)).getD 0))).bind fun outYAxes =>
  (opt (collectOuts stackAt outYAxes (cfg.outAx.map (·.axis)) [] outs)).bind fun out =>
  some (b, res.1, out)

/-- both values of `check_constancy_invariants` -/
def loopCore (cfg : ScanCfg) (verdict : Bool) (mutF : LFilter) (body : Body α) (outer : Vars α)
    (rngs : Rngs) (init : List (Arr α)) (args : List (Arr α)) (inArgAxes : List (Option Int))
    (dLength : Nat) : Option (StepOut α) :=
  if cfg.checkConst then loopCoreChecked cfg verdict mutF body outer rngs init args inArgAxes dLength
  else loopCoreSimple cfg mutF body outer rngs init args inArgAxes dLength

/-- **the explicit loop** that `lift.scan` is claimed to equal; its results are written back into the
scope (mutable collections only) -/
def loopSpec (cfg : ScanCfg) (verdict : Bool) (body : Body α) (scopeMut : LFilter) (outer : Vars α)
    (rngs : Rngs) (init : List (Arr α)) (args : List (Arr α)) : Option (Result α) :=
  (opt (argSizes cfg.inAxes args)).bind fun sizes =>
  (opt (decideLength cfg.length sizes)).bind fun dLength =>
  (opt (cfg.inAxes.expand args.length)).bind fun inArgAxes =>
  (loopCore cfg verdict (innerMutable scopeMut cfg.outFs) body outer rngs init args inArgAxes dLength).map
    fun r => { vars := publish scopeMut outer (r.1 :: r.2.1.1 :: r.2.2.2), carry := r.2.1.2, ys := r.2.2.1 }

end Flax.LiftLoop
