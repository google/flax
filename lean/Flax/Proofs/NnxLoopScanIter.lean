/- C08 proofs: `nnx.scan` — `_scan_split_in` is `to_tree`'s split followed, argument by argument, by the routes
(`Routes`); what every iteration is called on (`_scan_split_in` → lax.scan slice → `_scan_merge_in`); the sizes lax.scan
compares (`scanDims_mem`) -/
import Flax.Proofs.NnxLoopScanRoute
import Flax.Proofs.NnxLoopToTree
import Flax.Proofs.NnxLoopSizes

namespace Flax.NnxLoop
open Flax.Filter Flax.LiftLoop

section iter
variable {α : Type} [Inhabited α]

/-- what `_scan_split_in` makes of an array argument: its entry of `pure_args` and what it adds to `broadcast_arrays`.
`StateAxes` is the one kind of prefix with no case: `_scan_split_in` rejects it on an array, `to_tree` does not. -/
inductive RouteArr : Prefix → Arr α → SPure α → List (Arr α) → Prop where
  | carry {a : Arr α} : RouteArr (.ax .carry) a (.arrCarry a) []
  | bcast {a : Arr α} : RouteArr (.ax .bcast) a .hole [a]
  | axis {k : Int} {a a' : Arr α} : Arr.toFront k a = .ok a' → RouteArr (.ax (.axis k)) a (.arrX k a') []

/-- `_scan_split_in`, argument by argument: a node's states go three ways (`routeStates`) -/
inductive Routes : List (PureArg α) → ScanIn α → Prop where
  | nil : Routes [] ⟨[], [], [], []⟩
  | arr {p : Prefix} {a : Arr α} {x : SPure α} {ba : List (Arr α)} {r : List (PureArg α)} {s : ScanIn α} :
      RouteArr p a x ba → Routes r s →
      Routes (.arr p a :: r) { s with pure := x :: s.pure, bcastArrays := ba ++ s.bcastArrays }
  | node {g : GraphDef} {p : Prefix} {sts vec car bc : List (State α)} {r : List (PureArg α)} {s : ScanIn α} :
      routeStates true (p.axes.zip sts) = .ok (vec, car, bc) → Routes r s →
      Routes (.node g p sts :: r) { pure := .node g p vec :: s.pure, carryDeque := car :: s.carryDeque,
                                     bcastDeque := bc :: s.bcastDeque, bcastArrays := s.bcastArrays }

/-- `_scan_split_in` returns exactly when `to_tree`'s split does and every argument can be routed; the node case is
that of `toTree_ok_iff` with `routeStates` inserted -/
theorem scanSplitIn_ok_iff {store : Store α} {pas : List (Prefix × Arg α)} {np : NodePrefixes} {seen : List VarId}
    {si : ScanIn α} :
    scanSplitIn store pas np seen = .ok si ↔ ∃ pure, Splits store pas np seen pure ∧ Routes pure si := by
  constructor
  · intro h
    induction pas generalizing np seen si with
    | nil => cases h; exact ⟨[], .nil, .nil⟩
    | cons pa rest ih =>
      obtain ⟨p, arg⟩ := pa
      cases arg with
      | arr a =>
        simp only [scanSplitIn] at h
        cases p with
        | sa s => cases h
        | ax ax =>
          simp only [] at h
          cases hr : scanSplitIn store rest np seen with
          | error e => simp [hr] at h
          | ok r =>
            simp only [hr] at h
            obtain ⟨pure, hS, hR⟩ := ih hr
            refine ⟨.arr (.ax ax) a :: pure, .arr hS, ?_⟩
            cases ax with
            | carry => cases h; exact .arr .carry hR
            | bcast => cases h; exact .arr .bcast hR
            | axis k =>
              simp only [] at h
              cases ht : liftL (Arr.toFront k a) with
              | error e => simp [ht] at h
              | ok a' => simp only [ht] at h; cases h; exact .arr (.axis (liftL_ok.1 ht)) hR
      | node es =>
        simp only [scanSplitIn] at h
        cases h1 : checkAliasing p es np with
        | error e => simp [h1] at h
        | ok np' =>
          simp only [h1] at h
          cases h2 : flatOf (ownedOf es (markOwn es seen).1) store with
          | error e => simp [h2] at h
          | ok flat =>
            simp only [h2] at h
            cases h3 : splitFlat p flat with
            | error e => simp [h3] at h
            | ok sts =>
              simp only [h3] at h
              cases h4 : routeStates true (p.axes.zip sts) with
              | error e => simp [h4] at h
              | ok vcb =>
                obtain ⟨vec, car, bc⟩ := vcb
                simp only [h4] at h
                cases h5 : scanSplitIn store rest np' (markOwn es seen).2 with
                | error e => simp [h5] at h
                | ok r =>
                  simp only [h5] at h
                  cases h
                  obtain ⟨pure, hS, hR⟩ := ih h5
                  exact ⟨_, .node h1 h2 h3 hS, .node h4 hR⟩
  · rintro ⟨pure, hS, hR⟩
    induction hS generalizing si with
    | nil => cases hR; rfl
    | arr _ ih =>
      cases hR with
      | arr ha hR =>
        cases ha with
        | carry => simp only [scanSplitIn, ih hR]; rfl
        | bcast => simp only [scanSplitIn, ih hR]; rfl
        | axis ha => simp only [scanSplitIn, ih hR, ha, liftL]; rfl
    | node h1 h2 h3 _ ih =>
      cases hR with
      | node h4 hR => simp only [scanSplitIn, h1, h2, h3, h4, ih hR]

/-- one argument of `Routes`, keeping its `pure_args` entry only -/
inductive RouteArg : PureArg α → SPure α → Prop where
  | arr {p : Prefix} {a : Arr α} {x : SPure α} {ba : List (Arr α)} : RouteArr p a x ba → RouteArg (.arr p a) x
  | node {g : GraphDef} {p : Prefix} {sts vec car bc : List (State α)} :
      routeStates true (p.axes.zip sts) = .ok (vec, car, bc) → RouteArg (.node g p sts) (.node g p vec)

theorem Routes.all2 {pure : List (PureArg α)} {si : ScanIn α} (h : Routes pure si) : All2 RouteArg pure si.pure := by
  induction h with
  | nil => exact .nil
  | arr ha _ ih => exact .cons (.arr ha) ih
  | node hrt _ ih => exact .cons (.node hrt) ih

theorem Routes.of_arg {pure : List (PureArg α)} {si : ScanIn α} (h : Routes pure si) :
    ∀ x ∈ pure, ∃ y ∈ si.pure, RouteArg x y :=
  all2_forall_left h.all2 (fun y hy _ hxy => ⟨y, hy, hxy⟩)

theorem Routes.mem {pure : List (PureArg α)} {si : ScanIn α} (h : Routes pure si) :
    ∀ y ∈ si.pure, ∃ x ∈ pure, RouteArg x y :=
  all2_forall_right h.all2 (fun x hx _ hxy => ⟨x, hx, hxy⟩)

theorem scanSplitArgOut_node_ok {cur : Store α} {g : GraphDef} {p : Prefix} {vec : List (State α)}
    {y : Option (List (State α) × List (State α))} (h : scanSplitArgOut cur (.node g p vec) = .ok y) :
    ∃ flat sts, flatOf g.owned cur = .ok flat ∧ splitFlat p flat = .ok sts ∧
      y = some (vecStates p.axes sts, kindStates .carry (p.axes.zip sts)) := by
  simp only [scanSplitArgOut] at h
  cases h1 : flatOf g.owned cur with
  | error e => simp [h1] at h
  | ok flat =>
    simp only [h1] at h
    cases h2 : splitFlat p flat with
    | error e => simp [h2] at h
    | ok sts =>
      simp only [h2, routeStates_false] at h
      exact ⟨flat, sts, rfl, h2, (Except.ok.inj h).symm⟩

theorem RouteArr.splitArgOut {p : Prefix} {a : Arr α} {x : SPure α} {ba : List (Arr α)} (h : RouteArr p a x ba)
    (st : Store α) : scanSplitArgOut st x = .ok none := by
  cases h <;> rfl

theorem spureAt_node_ok {i : Nat} {g : GraphDef} {p : Prefix} {vec : List (State α)} {y : SPure α} :
    spureAt i (.node g p vec) = .ok y ↔ ∃ v, mapX (take0State i) vec = .ok v ∧ y = .node g p v := by
  rw [spureAt]
  constructor
  · intro h
    cases hm : mapX (take0State i) vec with
    | error e => rw [hm] at h; cases h
    | ok v => rw [hm] at h; exact ⟨v, rfl, (Except.ok.inj h).symm⟩
  · rintro ⟨v, hm, rfl⟩
    rw [hm]

theorem spureAt_arrX_ok {i : Nat} {k : Int} {a : Arr α} {y : SPure α} :
    spureAt i (.arrX k a) = .ok y ↔ ∃ v, liftL (a.take 0 i) = .ok v ∧ y = .arrX k v := by
  rw [spureAt]
  constructor
  · intro h
    cases hm : liftL (a.take 0 i) with
    | error e => rw [hm] at h; cases h
    | ok v => rw [hm] at h; exact ⟨v, rfl, (Except.ok.inj h).symm⟩
  · rintro ⟨v, hm, rfl⟩
    rw [hm]

/-- the slice is `moveaxis(x, axis, 0)` before the loop and a leading-axis slice inside it: C06 `take_front_eq` -/
theorem RouteArr.sees {p : Prefix} {a : Arr α} {x x' : SPure α} {ba : List (Arr α)} (h : RouteArr p a x ba) {i : Nat}
    (carr : Option (Arr α)) (hx : spureAt i x = .ok x') :
    ∃ v, scanArrIn carr i (p, a) = .ok v ∧
      ∀ xs cd bd bas inner st as, scanMergeIn xs cd bd bas carr inner = .ok (st, as) →
        scanMergeIn (x' :: xs) cd bd (ba ++ bas) carr inner = .ok (st, v :: as) := by
  cases h with
  | carry =>
    cases hx
    exact ⟨carr.getD a, rfl, fun xs cd bd bas inner st as h => by simp only [List.nil_append, scanMergeIn, h]⟩
  | bcast =>
    cases hx
    exact ⟨a, rfl, fun xs cd bd bas inner st as h => by simp only [List.cons_append, List.nil_append, scanMergeIn, h]⟩
  | @axis k _ a' ha' =>
    obtain ⟨v, htk, rfl⟩ := spureAt_arrX_ok.1 hx
    refine ⟨v, ?_, fun xs cd bd bas inner st as h => by simp only [List.nil_append, scanMergeIn, h]⟩
    simp only [scanArrIn]
    rw [← take_front_eq a a' k ha' i]
    exact htk

/-- `si` is what `_scan_split_in` made of the arguments (from the original values `store`), the carry deque is the carry
route of the values `cur` the previous iteration left (`_scan_split_out`), `xs` is slice `i` of the scanned inputs. -/
theorem scan_iteration_sees {store : Store α} (cur : Store α) (i : Nat) (carr : Option (Arr α))
    {pas : List (Prefix × Arg α)} {np : NodePrefixes} {seen : List VarId} {pure : List (PureArg α)} {si : ScanIn α}
    (hS : Splits store pas np seen pure) (hR : Routes pure si) (hwf : WFArgs pas) :
    ∀ (xs : List (SPure α)) (parts : List (Option (List (State α) × List (State α)))) (inner : Store α),
      mapX (spureAt i) si.pure = .ok xs → mapX (scanSplitArgOut cur) si.pure = .ok parts → inner.map (·.1) = seen →
      ∃ ins arrs, mapX (scanEntryIn store cur i) (ownedAll pas seen) = .ok ins ∧
        mapX (scanArrIn carr i) (arrArgs pas) = .ok arrs ∧
        scanMergeIn xs ((parts.filterMap id).map (·.2)) si.bcastDeque si.bcastArrays carr inner =
          .ok (inner ++ ins, arrs) := by
  induction hS generalizing si with
  | nil =>
    intro xs parts inner hx hp _
    cases hR
    cases hx
    cases hp
    exact ⟨[], [], rfl, rfl, by simp [scanMergeIn]⟩
  | @arr p a rest np seen r _ ih =>
    intro xs parts inner hx hp hinv
    cases hR with
    | @arr _ _ x ba _ s ha hR' =>
    obtain ⟨x', xs', hx0, hxs, rfl⟩ := mapX_cons_ok hx
    obtain ⟨y, ys, hy0, hys, rfl⟩ := mapX_cons_ok hp
    rw [ha.splitArgOut cur] at hy0
    cases hy0
    obtain ⟨v, hv, hmg⟩ := ha.sees carr hx0
    obtain ⟨ins, arrs, h1, h2, h3⟩ := ih hR' (WFArgs_tail hwf) xs' ys inner hxs hys hinv
    exact ⟨ins, v :: arrs, h1, mapX_cons_of_ok hv h2, hmg _ _ _ _ _ _ _ h3⟩
  | @node p es rest np np' seen flatS stsS r _ hflS hspS _ ih =>
    intro xs parts inner hx hp hinv
    cases hR with
    | @node _ _ _ vec car bc _ s hrS hR' =>
    obtain ⟨x, xs', hx0, hxs, rfl⟩ := mapX_cons_ok hx
    obtain ⟨y, ys, hy0, hys, rfl⟩ := mapX_cons_ok hp
    obtain ⟨flatC, stsC, hflC, hspC, rfl⟩ := scanSplitArgOut_node_ok hy0
    obtain ⟨veci, hv, rfl⟩ := spureAt_node_ok.1 hx0
    have hnd := hwf.head_owned_nodup (markOwn es seen).1
    simp only [GraphDef.owned] at hflC
    have hown := scan_node_lookup hnd hflS hflC hspS hspC hrS hv
    obtain ⟨ins1, hm1, hmerge, hinv'⟩ := mergeEntries_collected (F := fun e => scanEntryIn store cur i (e, p))
      (veci.flatten ++ (kindStates .carry (p.axes.zip stsC)).flatten ++ bc.flatten) es seen inner hinv hown
    obtain ⟨ins, arrs, h1, h2, h3⟩ := ih hR' (WFArgs_tail hwf) xs' ys _ hxs hys hinv'
    refine ⟨ins1 ++ ins, arrs, ?_, h2, ?_⟩
    · simp only [ownedAll]
      apply mapX_append_of_ok _ h1
      rw [mapX_map]
      exact hm1
    · simp only [List.filterMap_cons, id, List.map_cons, scanMergeIn, hmerge]
      rw [h3, List.append_assoc]

/-- the carry the loop starts from: the carry route of the original values, and the `Carry` array argument -/
theorem scanSplitIn_init {store : Store α} {pas : List (Prefix × Arg α)} {np : NodePrefixes} {seen : List VarId}
    {pure : List (PureArg α)} {si : ScanIn α} (hS : Splits store pas np seen pure) (hR : Routes pure si) :
    (∃ parts, mapX (scanSplitArgOut store) si.pure = .ok parts ∧ si.carryDeque = (parts.filterMap id).map (·.2)) ∧
    initCarryArr si.pure = initCarrySpec (arrArgs pas) := by
  induction hS generalizing si with
  | nil => cases hR; exact ⟨⟨[], rfl, rfl⟩, rfl⟩
  | arr _ ih =>
    cases hR with
    | arr ha hR =>
      obtain ⟨⟨parts, hp1, hp2⟩, hi⟩ := ih hR
      refine ⟨⟨none :: parts, mapX_cons_of_ok (ha.splitArgOut store) hp1, by simpa using hp2⟩, ?_⟩
      cases ha <;> first | rfl | simpa [initCarryArr, arrArgs, initCarrySpec] using hi
  | node _ hfl hsp _ ih =>
    cases hR with
    | @node _ _ _ _ car _ _ _ hrt hR =>
      obtain ⟨⟨parts, hp1, hp2⟩, hi⟩ := ih hR
      obtain ⟨vec', hrt'⟩ := routeStates_car_indep hrt
      refine ⟨⟨some (vec', car) :: parts, ?_, ?_⟩, by simpa [initCarryArr, arrArgs] using hi⟩
      · refine mapX_cons_of_ok ?_ hp1
        simp only [scanSplitArgOut, GraphDef.owned, hfl, hsp, hrt']
      · simp [hp2]

omit [Inhabited α] in
theorem scanDims_ok_iff {pure : List (SPure α)} {dims : List Nat} :
    scanDims pure = .ok dims ↔ ∃ ds, mapX spureDims pure = .ok ds ∧ dims = ds.flatten := by
  simp only [scanDims]
  cases mapX spureDims pure with
  | error e => exact ⟨fun h => (nomatch h), fun ⟨_, h, _⟩ => (nomatch h)⟩
  | ok ds => exact ⟨fun h => ⟨ds, rfl, (Except.ok.inj h).symm⟩, fun ⟨_, h, hd⟩ => by cases h; rw [hd]⟩

theorem scanDims_mem {store : Store α} {pas : List (Prefix × Arg α)} {np : NodePrefixes} {seen : List VarId}
    {pure : List (PureArg α)} {si : ScanIn α} {dims : List Nat} (hS : Splits store pas np seen pure)
    (hR : Routes pure si) (hd : scanDims si.pure = .ok dims) : ListsSizes store pas seen dims := by
  obtain ⟨dss, hdss, rfl⟩ := scanDims_ok_iff.1 hd
  refine And.intro ?_ ?_
  · intro ep hep k hk
    obtain ⟨g, flat, sts, hm, he, hfl, hsp⟩ := hS.of_owned ep hep
    obtain ⟨_, hmv, hxy⟩ := hR.of_arg _ hm
    cases hxy with
    | @node _ _ _ vec car bc hrt =>
    obtain ⟨dx, hx, hdx⟩ := mapX_ok_mem hdss _ hmv
    obtain ⟨v, s, hv, hz, hin⟩ := split_entry_item hfl hsp he hk
    obtain ⟨_, rv, rt⟩ := routeStates_spec hrt
    -- the size along the axis is the leading size of the copy moved to the front
    obtain ⟨sF, hsF⟩ := rt k _ hz
    obtain ⟨F, hF, hFm⟩ := leafMap_ok_mem hsF _ hin
    simp only [spureDims] at hx
    cases hm2 : mapX leadDims vec with
    | error e' => simp [hm2] at hx
    | ok ds =>
      simp only [hm2] at hx
      cases hx
      obtain ⟨dg, hdg, hdgm⟩ := mapX_ok_mem hm2 sF ((rv sF).2 ⟨k, _, hz, hsF⟩)
      obtain ⟨d, hd1, hd2⟩ := mapX_ok_mem hdg _ hFm
      exact ⟨v, d, hv, leadDim_front_ok.2 ⟨_, liftL_ok.1 hF, liftL_ok.1 hd1⟩,
        List.mem_flatten.2 ⟨_, hdx, List.mem_flatten.2 ⟨dg, hdgm, hd2⟩⟩⟩
  · intro pa hpa k hk
    have hm := hS.of_arr pa hpa
    rw [hk] at hm
    obtain ⟨_, hma, hxy⟩ := hR.of_arg _ hm
    cases hxy with
    | arr ha =>
    cases ha with
    | @axis _ _ a' ha' =>
    obtain ⟨dx, hx, hdx⟩ := mapX_ok_mem hdss _ hma
    simp only [spureDims] at hx
    cases hl : liftL (leadDim a') with
    | error e => simp [hl] at hx
    | ok d =>
      simp only [hl] at hx
      cases hx
      exact ⟨d, leadDim_front_ok.2 ⟨_, ha', liftL_ok.1 hl⟩, List.mem_flatten.2 ⟨_, hdx, List.mem_cons_self⟩⟩

end iter

end Flax.NnxLoop
