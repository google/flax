/-
C09: what `nn.jit` caches.  The per-function counter-delta cache of `lift.jit` (finding F11) is sound.  The static cache key must
contain the counters of the module's scope *and of every descendant scope*: the keys a jit-ted body hands out depend on all of them,
and two entries that agree on all of them run the body identically, so a trace may be reused.
-/
import Flax.Proofs.RngSpec

namespace Flax.Rng

/-- the caches agree: a (function, fingerprint) pair has a delta iff it was traced, and the delta is the body's -/
def JitInv (d : Nat → Nat) (w : JitWorld) : Prop :=
  (∀ fn fp, w.traced.contains (fn, fp) = (find? (fn, fp) w.deltas).isSome) ∧
  (∀ fn fp dl, find? (fn, fp) w.deltas = some dl → dl = d fn)

theorem jitCall_sound (d : Nat → Nat) (w : JitWorld) (hinv : JitInv d w) (fn fp c : Nat) :
    (jitCall false w fn fp (d fn) c).2 = c + d fn ∧ JitInv d (jitCall false w fn fp (d fn) c).1 := by
  obtain ⟨h1, h2⟩ := hinv
  unfold jitCall
  simp only [Bool.false_eq_true, if_false]
  cases hf : find? (fn, fp) w.deltas with
  | some dl =>
    have ht : w.traced.contains (fn, fp) = true := by rw [h1, hf]; rfl
    have hd := h2 fn fp dl hf
    subst hd
    simp only [ht, Bool.not_true, Bool.false_eq_true, if_false]
    exact ⟨trivial, h1, h2⟩
  | none =>
    have ht : w.traced.contains (fn, fp) = false := by rw [h1, hf]; rfl
    simp only [ht, Bool.not_false, if_true]
    refine ⟨trivial, ?_, ?_⟩
    · intro fn' fp'
      by_cases he : (fn', fp') = (fn, fp)
      · rw [he, find?_append_new _ _ _ hf]
        simp
      · rw [find?_append_ne _ _ _ _ he, ← h1 fn' fp']
        simp only [List.contains_eq_mem, List.mem_append, List.mem_singleton, he, or_false]
    · intro fn' fp' dl hdl
      by_cases he : (fn', fp') = (fn, fp)
      · rw [he, find?_append_new _ _ _ hf] at hdl
        have := (Prod.mk.inj he).1
        subst this
        simp at hdl
        omega
      · rw [find?_append_ne _ _ _ _ he] at hdl
        exact h2 fn' fp' dl hdl

theorem jitRun_sound (d : Nat → Nat) : ∀ (calls : List (Nat × Nat × Nat)) (w : JitWorld), JitInv d w →
    jitRun false d w calls = calls.map (fun x => x.2.2 + d x.1) := by
  intro calls
  induction calls with
  | nil => intro w _; rfl
  | cons x rest ih =>
    intro w hinv
    obtain ⟨fn, fp, c⟩ := x
    obtain ⟨h1, h2⟩ := jitCall_sound d w hinv fn fp c
    simp only [jitRun, List.map_cons]
    rw [h1, ih _ h2]

theorem jitInv_empty (d : Nat → Nat) : JitInv d { traced := [], deltas := [] } :=
  ⟨by intro fn fp; rfl, by intro fn fp dl h; simp at h⟩

/-- the two counter tables agree on the scope at `π0` and on all its descendants: what `_fingerprint_recursive` puts into the key
(`scope.rng_counters`, the nested dict of own and child counters) -/
def AgreeBelow (π0 : Path) (c1 c2 : Counts) : Prop := ∀ π' s, π0 <+: π' → c1 π' s = c2 π' s

theorem agree_bump {π0 π : Path} {c1 c2 : Counts} (h : AgreeBelow π0 c1 c2) (s : String) :
    AgreeBelow π0 (bump c1 π s) (bump c2 π s) := by
  intro π' t hp
  simp only [bump]
  rw [h π' t hp]

theorem agree_bumpAll {π0 π : Path} {c1 c2 : Counts} (h : AgreeBelow π0 c1 c2) (ns : List String) :
    AgreeBelow π0 (bumpAll c1 π ns) (bumpAll c2 π ns) := by
  intro π' t hp
  simp only [bumpAll]
  rw [h π' t hp]

/-- nested `jit`-ted calls included: the forked bases are made from counts of the scope itself -/
theorem specProg_agree (cfg : Cfg) (π0 : Path) : ∀ (p : Prog) (B : List (String × SymKey)) (rel π : Path)
    (c1 c2 : Counts), AgreeBelow π0 c1 c2 → π0 <+: π →
    Follows (AgreeBelow π0) (specProg cfg p B rel π c2) (specProg cfg p B rel π c1) := by
  intro p
  induction p with
  | done =>
    intro B rel π c1 c2 ha _
    exact ⟨c2, rfl, ha⟩
  | draw s rest ih =>
    intro B rel π c1 c2 ha hp
    rw [specProg_draw, specProg_draw]
    cases effOf cfg B s with
    | none => exact (rfl : Except.error Err.invalidRng = _)
    | some sk =>
      exact Follows.andThen (Q1 := AgreeBelow π0) ⟨bump c2 π sk.1, by rw [ha π sk.1 hp], agree_bump ha sk.1⟩
        (fun d1 d2 hd => ih B rel π d1 d2 hd hp)
  | sub n body rest ihb ihr =>
    intro B rel π c1 c2 ha hp
    rw [specProg_sub, specProg_sub]
    exact Follows.andThen (ihb B (rel ++ [n]) (π ++ [n]) c1 c2 ha (hp.trans (List.prefix_append π [n])))
      (fun d1 d2 hd => ihr B rel π d1 d2 hd hp)
  | jit body rest ihb ihr =>
    intro B rel π c1 c2 ha hp
    have hfb : forkBases cfg.sep B rel π c1 = forkBases cfg.sep B rel π c2 := by
      simp only [forkBases, ha π _ hp]
    rw [specProg_jit, specProg_jit, hfb]
    exact Follows.andThen (ihb _ [] π _ _ (agree_bumpAll ha _) hp) (fun d1 d2 hd => ihr B rel π d1 d2 hd hp)

end Flax.Rng
