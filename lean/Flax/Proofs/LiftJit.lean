/-
The trace cache of `nn.jit`: equal fingerprints give the same traced function (`traceJit_congr`), so a cache whose
entries are traces of their keys (`CacheOk`) stays so under a call, and every call returns what tracing afresh returns
(`jitCall_sound`, `jitHistory_sound`).
-/
import Flax.Model.Lift

namespace Flax.Lift
open Flax.Filter

theorem inFilter_hashableFilter (f : LFilter) (c : String) : inFilter (hashableFilter f) c = inFilter f c := by
  induction f with
  | tt => rfl
  | ff => rfl
  | name s => simp [hashableFilter, inFilter]
  | names xs => rfl
  | deny f ih => simp [hashableFilter, inFilter, ih]

theorem traceJit_congr (variables rngs : LFilter) (f : Fn) {e e' : JitEnv}
    (h : fingerprint variables e = fingerprint variables e') (i : JitIn) :
    traceJit variables rngs f e i = traceJit variables rngs f e' i := by
  have ha : e.attrs = e'.attrs := congrArg Fingerprint.attrs h
  have hm : e.mutable = e'.mutable := congrArg Fingerprint.scopeMutable h
  have hc : e.counters = e'.counters := congrArg Fingerprint.counters h
  simp [traceJit, jitScope, ha, hm, hc]

/-- every cached function is the trace of any environment and input structure that has its key -/
def CacheOk (variables rngs : LFilter) (f : Fn) (cache : TraceCache) : Prop :=
  ∀ k t, cache.find k = some t → ∀ e i, (fingerprint variables e, i.shape) = k → t i = traceJit variables rngs f e i

theorem cacheOk_nil (variables rngs : LFilter) (f : Fn) : CacheOk variables rngs f [] :=
  fun _ _ hk => nomatch hk

theorem jitCall_sound {variables rngs : LFilter} {f : Fn} {cache : TraceCache} (hok : CacheOk variables rngs f cache)
    (e : JitEnv) (i : JitIn) :
    (jitCall variables rngs f cache e i).1 = traceJit variables rngs f e i ∧
      CacheOk variables rngs f (jitCall variables rngs f cache e i).2.1 := by
  simp only [jitCall]
  cases hf : cache.find (fingerprint variables e, i.shape) with
  | some t => exact ⟨hok _ t hf e i rfl, hok⟩
  | none =>
    refine ⟨rfl, fun k t hk e' i' hk' => ?_⟩
    simp only [TraceCache.find] at hk
    split at hk
    · rename_i heq
      cases hk
      exact traceJit_congr variables rngs f (by rw [← hk'] at heq; exact (Prod.mk.inj heq).1) i'
    · exact hok k t hk e' i' hk'

theorem jitHistory_sound (variables rngs : LFilter) (f : Fn) : ∀ (h : List (JitEnv × JitIn)) (cache : TraceCache),
    CacheOk variables rngs f cache →
    (jitHistory variables rngs f cache h).1 = h.map (fun ei => traceJit variables rngs f ei.1 ei.2)
  | [], _, _ => rfl
  | (e, i) :: rest, cache, hok => by
    have hc := jitCall_sound hok e i
    simp only [jitHistory, List.map_cons, hc.1, jitHistory_sound variables rngs f rest _ hc.2]

end Flax.Lift
