/-
C09: the fold `specRun` over a list of draws (scope path, requested stream), the key derivation left open (`RngNnx` is its
instance at the root scope); its closed form: the `i`-th key is a function of seed, scope path and rank among the earlier draws
at its position.  Without `nn.jit`, `specProg` is that fold over `Prog.draws`.  Last: `specProg_mapStreams`, for all programs.
-/
import Flax.Proofs.RngSpec

namespace Flax.Rng

/-- the draws in execution order: (scope path, requested stream), also those no stream answers; the draws of `fork_rngs` are
not listed, so the theorems ask for `jitFree` -/
def Prog.draws : Prog → Path → List (Path × String)
  | .done, _ => []
  | .draw s rest, π => (π, s) :: rest.draws π
  | .sub n body rest, π => body.draws (π ++ [n]) ++ rest.draws π
  | .jit body rest, π => body.draws π ++ rest.draws π

/-- reference semantics of a list of draws: one counter per (scope path, stream after fallback); `out` makes the key from the
seed of that stream, the scope path and the count found, `err` is raised when no stream answers (Linen: `linenOut`) -/
def specRun (out : SymKey → Path → Nat → SymKey) (err : Err) (cfg : Cfg) (seeds : List (String × SymKey)) :
    Counts → List (Path × String) → Except Err (List SymKey × Counts)
  | c, [] => .ok ([], c)
  | c, (π, s) :: ds =>
    match effOf cfg seeds s with
    | none => .error err
    | some (s', k) =>
      match specRun out err cfg seeds (bump c π s') ds with
      | .error e => .error e
      | .ok (ks, c') => .ok (out k π (c π s') :: ks, c')

def linenOut (sep : Bool) : SymKey → Path → Nat → SymKey := fun k π n => keyAt sep k π (n + 1)

theorem specRun_cons (out : SymKey → Path → Nat → SymKey) (err : Err) (cfg : Cfg) (seeds : List (String × SymKey))
    (c : Counts) (π : Path) (s : String) (ds : List (Path × String)) :
    specRun out err cfg seeds c ((π, s) :: ds) =
      match effOf cfg seeds s with
      | none => .error err
      | some (s', k) => (specRun out err cfg seeds (bump c π s') ds).map fun r => (out k π (c π s') :: r.1, r.2) := by
  rw [specRun]
  cases effOf cfg seeds s with
  | none => rfl
  | some sk => dsimp only; cases specRun out err cfg seeds (bump c π sk.1) ds <;> rfl

theorem specRun_append (out : SymKey → Path → Nat → SymKey) (err : Err) (cfg : Cfg) (seeds : List (String × SymKey))
    (a b : List (Path × String)) (c : Counts) :
    specRun out err cfg seeds c (a ++ b) =
      andThen (specRun out err cfg seeds c a) (fun c1 => specRun out err cfg seeds c1 b) := by
  induction a generalizing c with
  | nil =>
    rw [List.nil_append, specRun, andThen_ok]
    cases specRun out err cfg seeds c b <;> rfl
  | cons d a ih =>
    obtain ⟨π, s⟩ := d
    simp only [List.cons_append, specRun]
    cases effOf cfg seeds s with
    | none => rfl
    | some sk =>
      simp only [ih]
      cases specRun out err cfg seeds (bump c π sk.1) a with
      | error e => rfl
      | ok r =>
        obtain ⟨k1, c1⟩ := r
        simp only [andThen_ok]
        cases specRun out err cfg seeds c1 b <;> rfl

/-- outside `nn.jit` the names pushed since the bases were installed are the whole scope path -/
theorem specProg_jitFree (cfg : Cfg) (B : List (String × SymKey)) : ∀ (p : Prog), p.jitFree → ∀ (π : Path) (c : Counts),
    specProg cfg p B π π c = specRun (linenOut cfg.sep) .invalidRng cfg B c (p.draws π) := by
  intro p
  induction p with
  | done => intro _ π c; rfl
  | draw s rest ih =>
    intro hjf π c
    simp only [specProg, Prog.draws, specRun, ih hjf]
    rfl
  | sub n body rest ihb ihr =>
    intro hjf π c
    rw [specProg_sub, Prog.draws, specRun_append, ihb hjf.1, funext (ihr hjf.2 π)]
  | jit body rest _ _ => intro hjf; exact hjf.elim

/-- the number of draws in `l` that hit position (scope path `π`, stream-after-fallback `s'`) -/
def countPos (cfg : Cfg) (seeds : List (String × SymKey)) (π : Path) (s' : String) (l : List (Path × String)) : Nat :=
  (l.filter (fun d => decide (d.1 = π ∧ (effOf cfg seeds d.2).map (·.1) = some s'))).length

theorem countPos_nil (cfg : Cfg) (seeds : List (String × SymKey)) (π : Path) (s' : String) :
    countPos cfg seeds π s' [] = 0 := rfl

theorem countPos_cons (cfg : Cfg) (seeds : List (String × SymKey)) (π : Path) (s' : String) (d : Path × String)
    (l : List (Path × String)) :
    countPos cfg seeds π s' (d :: l) =
      (if d.1 = π ∧ (effOf cfg seeds d.2).map (·.1) = some s' then 1 else 0) + countPos cfg seeds π s' l := by
  by_cases h : d.1 = π ∧ (effOf cfg seeds d.2).map (·.1) = some s'
  · simp only [countPos, List.filter_cons, h, and_self, decide_true, if_true, List.length_cons]
    exact Nat.add_comm _ 1
  · simp only [countPos, List.filter_cons, h, decide_false, if_false, Bool.false_eq_true, Nat.zero_add]

theorem countPos_append (cfg : Cfg) (seeds : List (String × SymKey)) (π : Path) (s' : String)
    (a b : List (Path × String)) :
    countPos cfg seeds π s' (a ++ b) = countPos cfg seeds π s' a + countPos cfg seeds π s' b := by
  simp only [countPos, List.filter_append, List.length_append]

theorem bump_eq_ite (cfg : Cfg) (seeds : List (String × SymKey)) (c : Counts) (π0 : Path) (s0 s0' : String) (k0 : SymKey)
    (he : effOf cfg seeds s0 = some (s0', k0)) (π : Path) (s : String) :
    bump c π0 s0' π s =
      c π s + if (π0, s0).1 = π ∧ (effOf cfg seeds (π0, s0).2).map (·.1) = some s then 1 else 0 := by
  simp only [bump_apply, he, Option.map, Option.some.injEq]

/-- closed form: final count = initial + draws at that position; `i`-th key from the count after the earlier draws there -/
theorem specRun_closed (out : SymKey → Path → Nat → SymKey) (err : Err) (cfg : Cfg) (seeds : List (String × SymKey)) :
    ∀ (ds : List (Path × String)) (c : Counts) (ks : List SymKey) (c' : Counts),
      specRun out err cfg seeds c ds = .ok (ks, c') →
      ks.length = ds.length ∧
      (∀ π s, c' π s = c π s + countPos cfg seeds π s ds) ∧
      ∀ (i : Nat) (hi : i < ds.length), ∃ s' k, effOf cfg seeds (ds[i]).2 = some (s', k) ∧
        ks[i]? = some (out k (ds[i]).1 (c (ds[i]).1 s' + countPos cfg seeds (ds[i]).1 s' (ds.take i))) := by
  intro ds
  induction ds with
  | nil =>
    intro c ks c' h
    simp only [specRun, Except.ok.injEq, Prod.mk.injEq] at h
    obtain ⟨rfl, rfl⟩ := h
    exact ⟨rfl, fun π s => rfl, fun i hi => absurd hi (Nat.not_lt_zero i)⟩
  | cons d ds ih =>
    intro c ks c' h
    obtain ⟨π0, s0⟩ := d
    rw [specRun_cons] at h
    cases he : effOf cfg seeds s0 with
    | none => rw [he] at h; cases h
    | some sk =>
      obtain ⟨s0', k0⟩ := sk
      rw [he] at h
      obtain ⟨⟨ks1, c1⟩, hs, h⟩ := map_ok.mp h
      obtain ⟨rfl, rfl⟩ : out k0 π0 (c π0 s0') :: ks1 = ks ∧ c1 = c' := Prod.mk.inj h
      obtain ⟨hlen, hc, hkeys⟩ := ih (bump c π0 s0') ks1 c1 hs
      refine ⟨by rw [List.length_cons, List.length_cons, hlen], ?_, ?_⟩
      · intro π s
        rw [hc π s, countPos_cons, bump_eq_ite cfg seeds c π0 s0 s0' k0 he, Nat.add_assoc]
      · intro i hi
        cases i with
        | zero => exact ⟨s0', k0, he, rfl⟩
        | succ i =>
          obtain ⟨s', k, hes, hk⟩ := hkeys i (Nat.lt_of_succ_lt_succ hi)
          refine ⟨s', k, hes, ?_⟩
          simp only [List.getElem?_cons_succ, List.getElem_cons_succ, List.take_succ_cons]
          rw [hk, countPos_cons, bump_eq_ite cfg seeds c π0 s0 s0' k0 he]
          simp only [Nat.add_assoc]

theorem countPos_le_length (cfg : Cfg) (seeds : List (String × SymKey)) (π : Path) (s' : String)
    (l : List (Path × String)) : countPos cfg seeds π s' l ≤ l.length :=
  List.length_filter_le _ _

theorem countPos_take_mono (cfg : Cfg) (seeds : List (String × SymKey)) (π : Path) (s' : String)
    (ds : List (Path × String)) (i j : Nat) (h : i ≤ j) :
    countPos cfg seeds π s' (ds.take i) ≤ countPos cfg seeds π s' (ds.take j) :=
  ((List.take_sublist_take_left h).filter _).length_le

theorem countPos_take_lt (cfg : Cfg) (seeds : List (String × SymKey)) (π : Path) (s' : String)
    (ds : List (Path × String)) (i j : Nat) (hij : i < j) (hi : i < ds.length)
    (hπ : (ds[i]).1 = π) (hs : (effOf cfg seeds (ds[i]).2).map (·.1) = some s') :
    countPos cfg seeds π s' (ds.take i) < countPos cfg seeds π s' (ds.take j) := by
  have h1 : countPos cfg seeds π s' (ds.take (i + 1)) = countPos cfg seeds π s' (ds.take i) + 1 := by
    rw [List.take_add_one, countPos_append]
    simp only [List.getElem?_eq_getElem hi, Option.toList]
    rw [countPos_cons, countPos_nil]
    simp [hπ, hs]
  have h2 := countPos_take_mono cfg seeds π s' ds (i + 1) j hij
  rw [h1] at h2
  exact h2

/-- Equal keys have equal seeds, hence equal streams, and by `hinj` equal paths and
equal ranks; but the rank at one position grows strictly. -/
theorem keys_distinct_of_positions (cfg : Cfg) (seeds : List (String × SymKey)) (hseeds : (seeds.map (·.2)).Nodup)
    (ds : List (Path × String)) (ks : List SymKey)
    (hk : ∀ (i : Nat) (hi : i < ds.length), ∃ s' k, effOf cfg seeds (ds[i]).2 = some (s', k) ∧
      ks[i]? = some (keyAt cfg.sep k (ds[i]).1 (countPos cfg seeds (ds[i]).1 s' (ds.take i) + 1)))
    (hinj : ∀ d ∈ ds, ∀ e ∈ ds, ∀ a b, 1 ≤ a → a ≤ ds.length → 1 ≤ b → b ≤ ds.length →
      encodeSuffix cfg.sep (suffixOf d.1 a) = encodeSuffix cfg.sep (suffixOf e.1 b) → d.1 = e.1 ∧ a = b)
    (i j : Nat) (hij : i < j) (hj : j < ds.length) : ks[i]? ≠ ks[j]? := by
  have hi : i < ds.length := Nat.lt_trans hij hj
  obtain ⟨s1, k1, he1, h1⟩ := hk i hi
  obtain ⟨s2, k2, he2, h2⟩ := hk j hj
  intro heq
  rw [h1, h2] at heq
  obtain ⟨hkk, henc⟩ := keyAt_inj.mp (Option.some.inj heq)
  have hc1 := Nat.le_trans (countPos_le_length cfg seeds (ds[i]).1 s1 (ds.take i)) (List.length_take_le i ds)
  have hc2 := Nat.le_trans (countPos_le_length cfg seeds (ds[j]).1 s2 (ds.take j)) (List.length_take_le j ds)
  obtain ⟨hπ, hr⟩ := hinj _ (List.getElem_mem hi) _ (List.getElem_mem hj) _ _ (Nat.le_add_left 1 _) (Nat.lt_of_le_of_lt hc1 hi)
    (Nat.le_add_left 1 _) (Nat.lt_of_le_of_lt hc2 hj) henc
  have hs : s1 = s2 := find?_inj_of_nodup_vals seeds hseeds s1 s2 k1 (effOf_find cfg seeds _ _ _ he1)
    (hkk ▸ effOf_find cfg seeds _ _ _ he2)
  subst hs
  have hlt := countPos_take_lt cfg seeds (ds[i]).1 s1 ds i j hij hi rfl (by simp [he1])
  rw [hπ] at hlt hr
  exact Nat.ne_of_lt hlt (Nat.succ.inj hr)

theorem specRun_error_iff (out : SymKey → Path → Nat → SymKey) (err : Err) (cfg : Cfg) (seeds : List (String × SymKey)) :
    ∀ (ds : List (Path × String)) (c : Counts) (e : Err),
      specRun out err cfg seeds c ds = .error e ↔ (e = err ∧ ∃ d ∈ ds, effOf cfg seeds d.2 = none) := by
  intro ds
  induction ds with
  | nil => intro c e; simp [specRun]
  | cons d ds ih =>
    intro c e
    obtain ⟨π0, s0⟩ := d
    simp only [specRun_cons, List.mem_cons, exists_eq_or_imp]
    cases he : effOf cfg seeds s0 with
    | none => simp [eq_comm]
    | some sk => simp [map_error, ih]

def Prog.mapStreams (f : String → String) : Prog → Prog
  | .done => .done
  | .draw s rest => .draw (f s) (rest.mapStreams f)
  | .sub n body rest => .sub n (body.mapStreams f) (rest.mapStreams f)
  | .jit body rest => .jit (body.mapStreams f) (rest.mapStreams f)

theorem Prog.draws_mapStreams (f : String → String) (p : Prog) (π : Path) :
    (p.mapStreams f).draws π = (p.draws π).map (fun d => (d.1, f d.2)) := by
  induction p generalizing π with
  | done => rfl
  | draw s rest ih => simp [Prog.mapStreams, Prog.draws, ih]
  | sub n body rest ihb ihr => simp [Prog.mapStreams, Prog.draws, ihb, ihr]
  | jit body rest ihb ihr => simp [Prog.mapStreams, Prog.draws, ihb, ihr]

theorem Prog.jitFree_mapStreams (f : String → String) (p : Prog) (h : p.jitFree) : (p.mapStreams f).jitFree := by
  induction p with
  | done => trivial
  | draw s rest ih => exact ih h
  | sub n body rest ihb ihr => exact ⟨ihb h.1, ihr h.2⟩
  | jit body rest _ _ => exact h.elim

/-- `jit`-ted calls included: `fork_rngs` draws from every stream whatever the body requests -/
theorem specProg_mapStreams (cfg : Cfg) (f : String → String) :
    ∀ (p : Prog) (B : List (String × SymKey)), (∀ s, effOf cfg B (f s) = effOf cfg B s) → ∀ (rel π : Path) (c : Counts),
      specProg cfg (p.mapStreams f) B rel π c = specProg cfg p B rel π c := by
  intro p
  induction p with
  | done => intro _ _ _ _ _; rfl
  | draw s rest ih => intro B hf rel π c; simp only [Prog.mapStreams, specProg, hf s, ih B hf]
  | sub n body rest ihb ihr => intro B hf rel π c; simp only [Prog.mapStreams, specProg, ihb B hf, ihr B hf]
  | jit body rest ihb ihr =>
    intro B hf rel π c
    have hf' : ∀ s, effOf cfg (forkBases cfg.sep B rel π c) (f s) = effOf cfg (forkBases cfg.sep B rel π c) s :=
      fun s => by rw [effOf_forkBases, effOf_forkBases, hf s]
    simp only [Prog.mapStreams, specProg, ihb _ hf', ihr B hf]

end Flax.Rng
