/-
The list level of C16. Induction over nested dicts with the hypothesis for every child (`Tree.induct`) and the model's
functions on the items of a dict as `List` combinators (`below g` for flat forms, `filterMap (reval f)` for dicts rebuilt
item by item): a fact about trees is one induction whose dict case is a fact about lists. Python dicts as association
lists (`Dict`, through `Proofs/Assoc`; `lastVal`), and how `d[k]`, `d[k] = t` act on `below g` (`below_perm_iff`).
-/
import Flax.Proofs.Assoc
import Flax.Proofs.ListLemmas
import Flax.Proofs.TraverseSpec

set_option linter.unusedSectionVars false

namespace Flax.Traverse

variable {κ α : Type}

theorem Tree.induct {P : Tree κ α → Prop} (leaf : ∀ v, P (.leaf v))
    (dict : ∀ kvs, (∀ kc ∈ kvs, P kc.2) → P (.dict kvs)) (t : Tree κ α) : P t :=
  Tree.rec (motive_1 := P) (motive_2 := fun kvs => ∀ kc ∈ kvs, P kc.2) (motive_3 := fun kc => P kc.2)
    leaf dict (fun _ h => nomatch h)
    (fun _ _ hc hr kc h => (List.mem_cons.mp h).elim (fun e => e ▸ hc) (hr kc)) (fun _ _ h => h) t

section
variable {β γ δ : Type}

abbrev shift (k : κ) (l : List (Path κ × β)) : List (Path κ × β) := l.map (fun pv => (k :: pv.1, pv.2))

/-- the flat form of a dict from the flat forms `g k c` of its children; `relKvs` and `leavesKvs` are of this form, and
what holds of both is proved once for `below g` -/
def below (g : κ → Tree κ α → List (Path κ × β)) (d : List (κ × Tree κ α)) : List (Path κ × β) :=
  d.flatMap (fun kc => shift kc.1 (g kc.1 kc.2))

theorem below_cons (g : κ → Tree κ α → List (Path κ × β)) (k : κ) (c : Tree κ α) (d : List (κ × Tree κ α)) :
    below g ((k, c) :: d) = shift k (g k c) ++ below g d := rfl

theorem below_eq_nil_iff (g : κ → Tree κ α → List (Path κ × β)) (d : List (κ × Tree κ α)) :
    below g d = [] ↔ ∀ kc ∈ d, g kc.1 kc.2 = [] := by
  rw [below, List.flatMap_eq_nil_iff]
  exact forall₂_congr fun _ _ => List.map_eq_nil_iff

theorem below_paths_ne_nil (g : κ → Tree κ α → List (Path κ × β)) (d : List (κ × Tree κ α)) :
    ∀ pv ∈ below g d, pv.1 ≠ [] := by
  intro pv h
  obtain ⟨kc, _, h⟩ := List.mem_flatMap.mp h
  obtain ⟨q, _, rfl⟩ := List.mem_map.mp h
  exact List.cons_ne_nil _ _

theorem shift_perm_iff (k : κ) (a b : List (Path κ × β)) : (shift k a).Perm (shift k b) ↔ a.Perm b := by
  refine ⟨fun h => ?_, fun h => h.map _⟩
  have := h.map (fun pv => (pv.1.tail, pv.2))
  simpa only [shift, List.map_map, Function.comp_def, List.tail_cons, List.map_id'] using this

end

abbrev reval (f : κ → Tree κ α → Option (Tree κ α)) (kc : κ × Tree κ α) : Option (κ × Tree κ α) :=
  (f kc.1 kc.2).map (kc.1, ·)

theorem filterMap_reval_eq_nil_iff (f : κ → Tree κ α → Option (Tree κ α)) (d : List (κ × Tree κ α)) :
    d.filterMap (reval f) = [] ↔ ∀ kc ∈ d, f kc.1 kc.2 = none := by
  rw [List.filterMap_eq_nil_iff]
  exact forall₂_congr fun _ _ => Option.map_eq_none_iff

theorem filterMap_reval_self (f : κ → Tree κ α → Option (Tree κ α)) (d : List (κ × Tree κ α))
    (h : ∀ kc ∈ d, f kc.1 kc.2 = some kc.2) : d.filterMap (reval f) = d := by
  rw [Lists.filterMap_congr (g := some) fun kc hkc => by rw [reval, h kc hkc]; rfl, List.filterMap_some]

theorem leavesKvs_eq_below : ∀ kvs : List (κ × Tree κ α), leavesKvs kvs = below (fun _ => leavesT) kvs
  | [] => rfl
  | (k, c) :: rest => by rw [leavesKvs, leavesKvs_eq_below rest]; rfl

theorem keysKvs_eq_flatMap : ∀ kvs : List (κ × Tree κ α), keysKvs kvs = kvs.flatMap fun kc => kc.1 :: keysT kc.2
  | [] => rfl
  | (k, c) :: rest => by rw [keysKvs, keysKvs_eq_flatMap rest]; rfl

theorem flatKvs_eq_flatMap (keep : Bool) (isLeaf : Path κ → Tree κ α → Bool) (pre : Path κ) :
    ∀ kvs : List (κ × Tree κ α), flatKvs keep isLeaf kvs pre = kvs.flatMap fun kc => flatT keep isLeaf kc.2 (pre ++ [kc.1])
  | [] => rfl
  | (k, c) :: rest => by rw [flatKvs, flatKvs_eq_flatMap keep isLeaf pre rest]; rfl

theorem normKvs_filterMap (keep : Bool) (isLeaf : Path κ → Tree κ α → Bool) : ∀ kvs : List (κ × Tree κ α),
    normKvs keep isLeaf kvs = kvs.filterMap (reval fun k => normT keep fun p => isLeaf (k :: p))
  | [] => rfl
  | (k, c) :: rest => by
    rw [normKvs, normKvs_filterMap keep isLeaf rest, List.filterMap_cons, reval]
    cases normT keep (fun p => isLeaf (k :: p)) c <;> rfl

theorem keepPathsKvs_filterMap (P : Path κ → Bool) : ∀ kvs : List (κ × Tree κ α),
    keepPathsKvs P kvs = kvs.filterMap (reval fun k => keepPathsT fun p => P (k :: p))
  | [] => rfl
  | (k, c) :: rest => by
    rw [keepPathsKvs, keepPathsKvs_filterMap P rest, List.filterMap_cons, reval]
    cases keepPathsT (fun p => P (k :: p)) c <;> rfl

theorem mapWithPathKvs_filterMap (f : Path κ → Tree κ α → Tree κ α) : ∀ kvs : List (κ × Tree κ α),
    mapWithPathKvs f kvs = kvs.filterMap (reval fun k c => some (mapWithPath (fun p => f (k :: p)) c))
  | [] => rfl
  | (k, c) :: rest => by rw [mapWithPathKvs, mapWithPathKvs_filterMap f rest]; rfl

section
variable [DecidableEq κ]

theorem wfKvs_iff : ∀ kvs : List (κ × Tree κ α),
    WFKvs kvs ↔ kvs.Pairwise (fun a b => a.1 ≠ b.1) ∧ ∀ kc ∈ kvs, WF kc.2
  | [] => by simp [WFKvs]
  | (k, c) :: rest => by
    simp only [WFKvs, wfKvs_iff rest, List.pairwise_cons, List.mem_cons, forall_eq_or_imp]
    exact ⟨fun ⟨h1, h2, h3, h4⟩ => ⟨⟨fun b hb e => h1 b hb e.symm, h3⟩, h2, h4⟩,
      fun ⟨⟨h1, h3⟩, h2, h4⟩ => ⟨fun b hb e => h1 b hb e.symm, h2, h3, h4⟩⟩

theorem wf_nodup (s : List (κ × Tree κ α)) (h : WFKvs s) : (s.map Prod.fst).Nodup :=
  List.pairwise_map.mpr ((wfKvs_iff s).mp h).1

theorem wf_of_mem (s : List (κ × Tree κ α)) (h : WFKvs s) : ∀ kc ∈ s, WF kc.2 := ((wfKvs_iff s).mp h).2

theorem wf_intro (s : List (κ × Tree κ α)) (hnd : (s.map Prod.fst).Nodup) (hc : ∀ kc ∈ s, WF kc.2) : WFKvs s :=
  (wfKvs_iff s).mpr ⟨List.pairwise_map.mp hnd, hc⟩

theorem wfKvs_reval (f : κ → Tree κ α → Option (Tree κ α)) (kvs : List (κ × Tree κ α))
    (hwf : WFKvs kvs) (hf : ∀ kc ∈ kvs, ∀ c', f kc.1 kc.2 = some c' → WF c') : WFKvs (kvs.filterMap (reval f)) := by
  obtain ⟨hk, _⟩ := (wfKvs_iff kvs).mp hwf
  refine (wfKvs_iff _).mpr ⟨List.pairwise_filterMap.mpr (hk.imp fun {a b} hab x hx y hy => ?_), fun x hx => ?_⟩
  · obtain ⟨_, _, rfl⟩ := Option.map_eq_some_iff.mp hx
    obtain ⟨_, _, rfl⟩ := Option.map_eq_some_iff.mp hy
    exact hab
  · obtain ⟨kc, hkc, hx⟩ := List.mem_filterMap.mp hx
    obtain ⟨c', hc', rfl⟩ := Option.map_eq_some_iff.mp hx
    exact hf kc hkc c' hc'

end

namespace Dict
variable {β : Type} [DecidableEq κ]

theorem get_eq_lookup (d : List (κ × β)) (k : κ) : get d k = d.lookup k :=
  Assoc.lookup_unique (get := fun k d => get d k) (fun _ => rfl) (fun _ _ _ _ => rfl) k d

theorem set_isUpsert : Assoc.IsUpsert (fun (k : κ) (v : β) d => set d k v) :=
  ⟨fun _ _ => rfl, fun _ _ _ _ => if_pos rfl, fun _ _ _ h => if_neg h⟩

theorem get_none_iff (d : List (κ × β)) (k : κ) : get d k = none ↔ ∀ kv ∈ d, kv.1 ≠ k := by
  rw [get_eq_lookup, Assoc.lookup_eq_none_iff, List.mem_map]
  exact ⟨fun h kv hkv e => h ⟨kv, hkv, e⟩, fun h ⟨kv, hkv, e⟩ => h kv hkv e⟩

theorem set_of_get_none (d : List (κ × β)) (k : κ) (v : β) (h : get d k = none) : set d k v = d ++ [(k, v)] :=
  set_isUpsert.of_not_mem v (Assoc.lookup_eq_none_iff.mp ((get_eq_lookup d k).symm.trans h))

theorem get_set (d : List (κ × β)) (k k2 : κ) (v : β) :
    get (set d k v) k2 = if k = k2 then some v else get d k2 := by
  rw [get_eq_lookup, get_eq_lookup]
  exact (set_isUpsert.lookup k k2 v d).trans (ite_congr (propext eq_comm) (fun _ => rfl) fun _ => rfl)

theorem get_set_self (d : List (κ × β)) (k : κ) (v : β) : get (set d k v) k = some v := by
  rw [get_set, if_pos rfl]

theorem get_set_ne (d : List (κ × β)) (k k2 : κ) (v : β) (h : k2 ≠ k) : get (set d k v) k2 = get d k2 := by
  rw [get_set, if_neg (Ne.symm h)]

theorem set_set (d : List (κ × β)) (k : κ) (v w : β) : set (set d k v) k w = set d k w :=
  set_isUpsert.set_set k v w d

theorem set_of_get_some (d : List (κ × β)) (k : κ) (v : β) (h : get d k = some v) : set d k v = d :=
  set_isUpsert.of_lookup ((get_eq_lookup d k).symm.trans h)

theorem ofList_of_nodup (l : List (κ × β)) (h : (l.map Prod.fst).Nodup) : ofList l = l := by
  have := set_isUpsert.foldl_append_of_nodup (a := []) (b := l) (by simpa using h)
  simpa [ofList] using this

theorem isSome_get_iff (d : List (κ × β)) (k : κ) : (get d k).isSome = true ↔ k ∈ d.map Prod.fst := by
  rw [get_eq_lookup]
  exact Assoc.lookup_isSome_iff

theorem keys_set (d : List (κ × β)) (k : κ) (v : β) :
    (set d k v).map Prod.fst = if (get d k).isSome then d.map Prod.fst else d.map Prod.fst ++ [k] :=
  (set_isUpsert.keys k v d).trans (ite_congr (propext (isSome_get_iff d k).symm) (fun _ => rfl) fun _ => rfl)

theorem nodup_set (d : List (κ × β)) (k : κ) (v : β) (h : (d.map Prod.fst).Nodup) :
    ((set d k v).map Prod.fst).Nodup :=
  set_isUpsert.nodup_keys k v h

theorem ofList_nodup (l : List (κ × β)) : ((ofList l).map Prod.fst).Nodup :=
  set_isUpsert.foldl_nodup_keys l (a := []) (by simp)

/-- `ys.keys() <= xs.keys()`, as `DictEq` states it -/
theorem isSome_of_keys_subset {γ : Type} {xs : List (κ × β)} {ys : List (κ × γ)}
    (h : ∀ k ∈ ys.map Prod.fst, k ∈ xs.map Prod.fst) (k : κ) (hk : (get ys k).isSome = true) :
    (get xs k).isSome = true :=
  (isSome_get_iff xs k).mpr (h k ((isSome_get_iff ys k).mp hk))

theorem mem_of_get (d : List (κ × β)) (k : κ) (v : β) (h : get d k = some v) : (k, v) ∈ d :=
  Assoc.mem_of_lookup ((get_eq_lookup d k).symm.trans h)

theorem mem_iff_get (d : List (κ × β)) (h : (d.map Prod.fst).Nodup) (k : κ) (v : β) :
    (k, v) ∈ d ↔ get d k = some v := by
  rw [get_eq_lookup]
  exact (Assoc.lookup_eq_some_iff h).symm

theorem mem_set (d : List (κ × β)) (k : κ) (v : β) : ∀ kc ∈ set d k v, kc = (k, v) ∨ kc ∈ d :=
  fun _ h => set_isUpsert.mem h

theorem get_append_single (d : List (κ × β)) (k k' : κ) (v : β) (h : get d k' = none) (hne : k ≠ k') :
    get (d ++ [(k, v)]) k' = none := by
  rw [get_none_iff] at h ⊢
  intro x hx
  rcases List.mem_append.mp hx with hx | hx
  · exact h x hx
  · cases List.mem_singleton.mp hx; exact hne

end Dict

section
open Flax.State (lastVal)
variable {γ : Type} [DecidableEq κ]

theorem lastVal_eq_lookup (l : List (κ × γ)) (k : κ) : lastVal l k = l.reverse.lookup k := by
  induction l with
  | nil => rfl
  | cons x rest ih =>
    rw [lastVal, ih, List.reverse_cons, List.lookup_append, Assoc.lookup_cons, List.lookup_nil]
    cases rest.reverse.lookup k <;> rfl

theorem Dict.get_foldl_set (l acc : List (κ × γ)) (k : κ) :
    Dict.get (l.foldl (fun acc kv => Dict.set acc kv.1 kv.2) acc) k
      = match lastVal l k with | some v => some v | none => Dict.get acc k := by
  rw [Dict.get_eq_lookup, Dict.get_eq_lookup, Dict.set_isUpsert.foldl_lookup, lastVal_eq_lookup]
  cases l.reverse.lookup k <;> rfl

theorem Dict.get_ofList (l : List (κ × γ)) (k : κ) : Dict.get (Dict.ofList l) k = lastVal l k := by
  simp only [Dict.ofList, Dict.get_foldl_set, Dict.get]
  cases lastVal l k <;> rfl

theorem lastVal_some_mem (l : List (κ × γ)) (k : κ) (v : γ) (h : lastVal l k = some v) : (k, v) ∈ l :=
  List.mem_reverse.mp (Assoc.mem_of_lookup ((lastVal_eq_lookup l k).symm.trans h))

theorem Dict.mem_ofList (l : List (κ × γ)) (k : κ) (v : γ) : (k, v) ∈ Dict.ofList l ↔ lastVal l k = some v := by
  rw [Dict.mem_iff_get _ (Dict.ofList_nodup l), Dict.get_ofList]

theorem lastVal_of_nodup (l : List (κ × γ)) (h : (l.map Prod.fst).Nodup) (k : κ) (v : γ) :
    lastVal l k = some v ↔ (k, v) ∈ l := by
  rw [← Dict.mem_ofList, Dict.ofList_of_nodup _ h]

theorem lastVal_isSome_iff (l : List (κ × γ)) (k : κ) : (∃ v, lastVal l k = some v) ↔ k ∈ l.map Prod.fst := by
  rw [lastVal_eq_lookup, ← Option.isSome_iff_exists, Assoc.lookup_isSome_iff, List.map_reverse, List.mem_reverse]

theorem lastVal_eq_none (l : List (κ × γ)) (k : κ) (h : k ∉ l.map Prod.fst) : lastVal l k = none := by
  cases hv : lastVal l k with
  | none => rfl
  | some v => exact absurd ((lastVal_isSome_iff l k).mp ⟨v, hv⟩) h

theorem lastVal_append (l1 l2 : List (κ × γ)) (k : κ) :
    lastVal (l1 ++ l2) k = match lastVal l2 k with
      | some v => some v
      | none => lastVal l1 k := by
  rw [lastVal_eq_lookup, lastVal_eq_lookup, lastVal_eq_lookup, List.reverse_append, List.lookup_append]
  cases l2.reverse.lookup k <;> rfl

end

section
variable [DecidableEq κ] {β : Type}

def headIs (k : κ) (e : Path κ × β) : Bool := decide (e.1.head? = some k)

theorem filter_head_shift (k k' : κ) (l : List (Path κ × β)) :
    (shift k' l).filter (headIs k) = if k' = k then shift k' l else [] := by
  by_cases h : k' = k
  · rw [if_pos h, List.filter_eq_self]
    intro e he
    obtain ⟨q, _, rfl⟩ := List.mem_map.mp he
    simp [headIs, h]
  · rw [if_neg h, List.filter_eq_nil_iff]
    intro e he
    obtain ⟨q, _, rfl⟩ := List.mem_map.mp he
    simp [headIs, h]

theorem below_filter_head (g : κ → Tree κ α → List (Path κ × β)) (k : κ) : ∀ (d : List (κ × Tree κ α)),
    (d.map Prod.fst).Nodup →
    (below g d).filter (headIs k) = (Dict.get d k).elim [] (fun c => shift k (g k c))
  | [], _ => rfl
  | (k', c) :: rest, hnd => by
    simp only [List.map_cons, List.nodup_cons] at hnd
    rw [below_cons, List.filter_append, filter_head_shift, below_filter_head g k rest hnd.2]
    by_cases h : k' = k
    · subst h
      have hg : Dict.get rest k' = none := (Dict.get_none_iff _ _).mpr
        (fun kv hkv e => hnd.1 (e ▸ List.mem_map_of_mem hkv))
      simp only [hg, Dict.get, ↓reduceIte, Option.elim, List.append_nil]
    · simp only [Dict.get, h, ↓reduceIte, List.nil_append]

theorem below_split_key (g : κ → Tree κ α → List (Path κ × β)) (k : κ) : ∀ (d : List (κ × Tree κ α)),
    (d.map Prod.fst).Nodup →
    (below g d).Perm (shift k ((Dict.get d k).elim [] (g k)) ++ below g (d.filter fun kc => decide (kc.1 ≠ k)))
  | [], _ => List.Perm.refl _
  | (k', c) :: rest, hnd => by
    rw [List.map_cons, List.nodup_cons] at hnd
    by_cases hk : k' = k
    · subst hk
      have hf : rest.filter (fun kc => decide (kc.1 ≠ k')) = rest :=
        List.filter_eq_self.mpr fun kc h => decide_eq_true fun e => hnd.1 (List.mem_map.mpr ⟨kc, h, e⟩)
      simp only [Dict.get, ↓reduceIte, Option.elim, List.filter_cons, ne_eq, not_true_eq_false, decide_false,
        Bool.false_eq_true, hf, below_cons]
      exact List.Perm.refl _
    · simp only [Dict.get, hk, ↓reduceIte, List.filter_cons, ne_eq, not_false_eq_true, decide_true, below_cons]
      exact ((below_split_key g k rest hnd.2).append_left _).trans (List.perm_append_comm_assoc _ _ _)

/-- `d[k] = t` on the flat form: up to order, the entries below `k` are exchanged and the rest `r` stays -/
theorem below_set_perm (g : κ → Tree κ α → List (Path κ × β)) (k : κ) (acc : List (κ × Tree κ α))
    (hnd : (acc.map Prod.fst).Nodup) :
    ∃ r, (below g acc).Perm (shift k ((Dict.get acc k).elim [] (g k)) ++ r) ∧
      ∀ t, (below g (Dict.set acc k t)).Perm (shift k (g k t) ++ r) :=
  ⟨_, below_split_key g k acc hnd, fun t => by
    have := below_split_key g k (Dict.set acc k t) (Dict.nodup_set acc k t hnd)
    rwa [Dict.get_set_self, Dict.set_isUpsert.filter_ne] at this⟩

/-- from left to right the entries are sorted out by their first key; from right to left one key of `xs` after the
other is taken out of both dicts -/
theorem below_perm_iff (g : κ → Tree κ α → List (Path κ × β)) : ∀ (xs ys : List (κ × Tree κ α)),
    (xs.map Prod.fst).Nodup → (ys.map Prod.fst).Nodup →
    ((below g xs).Perm (below g ys) ↔
      ∀ k, ((Dict.get xs k).elim [] (g k)).Perm ((Dict.get ys k).elim [] (g k))) := by
  intro xs ys hx hy
  constructor
  · intro h k
    have := h.filter (headIs k)
    rw [below_filter_head g k xs hx, below_filter_head g k ys hy] at this
    refine (shift_perm_iff k _ _).mp (List.Perm.trans (List.Perm.trans ?_ this) ?_)
    · cases Dict.get xs k <;> exact List.Perm.refl _
    · cases Dict.get ys k <;> exact List.Perm.refl _
  · intro h
    induction xs generalizing ys with
    | nil =>
      have hnil : below g ys = [] := (below_eq_nil_iff g ys).mpr fun kc hkc => by
        have := h kc.1
        rw [(Dict.mem_iff_get ys hy kc.1 kc.2).mp hkc] at this
        exact this.symm.eq_nil
      rw [hnil]
      exact List.Perm.refl _
    | cons x rest ih =>
      rw [List.map_cons, List.nodup_cons] at hx
      have hxk : Dict.get rest x.1 = none := (Dict.get_none_iff _ _).mpr fun kv hkv e =>
        hx.1 (e ▸ List.mem_map_of_mem hkv)
      have hhead := h x.1
      rw [Dict.get, if_pos rfl] at hhead
      refine List.Perm.trans ?_ (below_split_key g x.1 ys hy).symm
      refine List.Perm.append (hhead.map _) (ih _ hx.2 ((List.filter_sublist.map _).nodup hy) fun k => ?_)
      rw [Dict.get_eq_lookup (ys.filter _), Assoc.lookup_filter_key (fun k' => decide (k' ≠ x.1)), ← Dict.get_eq_lookup]
      by_cases hk : k = x.1
      · rw [hk, hxk, if_neg (by rw [decide_eq_true_eq]; exact fun h => h rfl)]
      · have := h k
        rw [Dict.get, if_neg (Ne.symm hk)] at this
        rw [if_pos (decide_eq_true hk)]
        exact this

end

end Flax.Traverse
