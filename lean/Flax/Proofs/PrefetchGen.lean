/-
`prefetch_to_device`: what `enqueue` returns, and the observations of the generator for every ending
of the source as a prefix of one stream (`genRun_eq`).
-/
import Flax.Model.Prefetch

namespace Flax.C20
open Flax.Prefetch
variable {α ε : Type}

/-- the first `k` observations of the stream "`L`, then `StopIteration` for ever" -/
def firstK (L : List (Obs α ε)) (k : Nat) : List (Obs α ε) := (L ++ List.replicate k Obs.stop).take k

theorem take_append_replicate_succ {β : Type} (L : List β) (s : β) (k : Nat) :
    (L ++ List.replicate (k + 1) s).take k = (L ++ List.replicate k s).take k := by
  rw [List.replicate_succ', ← List.append_assoc, List.take_append_of_le_length (by simp)]

theorem firstK_cons (a : Obs α ε) (L : List (Obs α ε)) (k : Nat) :
    firstK (a :: L) (k + 1) = a :: firstK L k :=
  congrArg (a :: ·) (take_append_replicate_succ L .stop k)

theorem firstK_nil (k : Nat) : firstK ([] : List (Obs α ε)) k = List.replicate k Obs.stop := by
  simp [firstK]

theorem firstK_stop (L : List (Obs α ε)) (k : Nat) : firstK (L ++ [.stop]) k = firstK L k := by
  rw [firstK, List.append_assoc, List.singleton_append, ← List.replicate_succ]
  exact take_append_replicate_succ L .stop k

end Flax.C20

namespace Flax.Prefetch
open Flax.C20 (firstK firstK_cons firstK_nil)
variable {α ε : Type}

theorem genRun_finished (size : Nat) (ending : Ending ε) (q src : List α) (st : Bool) :
    ∀ k, genRun size ending k ⟨st, true, q, src⟩ = List.replicate k (Obs.stop : Obs α ε) := by
  intro k
  induction k with
  | zero => rfl
  | succ k ih => simp [genRun, genNext, ih, List.replicate_succ]

/-- `islice(iterator, n)` pulls `n` items or all there are; the ending is met exactly when there are fewer -/
theorem enqueue_eq (ending : Ending ε) : ∀ (n : Nat) (q src : List α),
    enqueue ending n q src = (q ++ src.take n, src.drop n,
      if src.length < n then (match ending with | .stop => none | .raises e => some e) else none)
  | 0, q, src => by simp [enqueue]
  | n + 1, q, [] => by cases ending <;> simp [enqueue]
  | n + 1, q, x :: r => by simp [enqueue, enqueue_eq ending n (q ++ [x]) r]

theorem enqueue_le (ending : Ending ε) :
    ∀ (n : Nat) (q src : List α), n ≤ src.length →
      enqueue ending n q src = (q ++ src.take n, src.drop n, none) := by
  intro n q src h
  rw [enqueue_eq, if_neg (Nat.not_lt.mpr h)]

theorem enqueue_gt (ending : Ending ε) :
    ∀ (n : Nat) (q src : List α), src.length < n →
      enqueue ending n q src = (q ++ src, [], match ending with | .stop => none | .raises e => some e) := by
  intro n q src h
  rw [enqueue_eq, if_pos h, List.take_of_length_le (Nat.le_of_lt h), List.drop_eq_nil_of_le (Nat.le_of_lt h)]

theorem genNext_of_le (size : Nat) (ending : Ending ε) (st : Bool) (q src : List α)
    (h1 : 1 ≤ (if st then 1 else size)) (hle : (if st then 1 else size) ≤ src.length) :
    ∃ h t, q ++ src.take (if st then 1 else size) = h :: t ∧
      genNext size ending ⟨st, false, q, src⟩ = (⟨true, false, t, src.drop (if st then 1 else size)⟩, .item h) := by
  cases hq : q ++ src.take (if st then 1 else size) with
  | nil =>
    have := congrArg List.length hq
    simp only [List.length_append, List.length_take, List.length_nil] at this
    omega
  | cons h t => exact ⟨h, t, rfl, by simp [genNext, enqueue_le ending _ q src hle, hq]⟩

/-- The items a generator hands out before the source's ending, from queue `q` and source `src` when
its next `enqueue` pulls `n`.  On `StopIteration` the loop drains the queue.  An exception surfaces in
the `enqueue` that meets it and the queue is dropped: each earlier `enqueue` delivered one item. -/
def delivered (ending : Ending ε) (n : Nat) (q src : List α) : List α :=
  match ending with
  | .stop => q ++ src
  | .raises _ => (q ++ src).take (src.length + 1 - n)

theorem delivered_cons (ending : Ending ε) {n : Nat} {q src t : List α} {h : α} (hle : n ≤ src.length)
    (hq : q ++ src.take n = h :: t) :
    delivered ending n q src = h :: delivered ending 1 t (src.drop n) := by
  have hsplit : q ++ src = h :: (t ++ src.drop n) := by
    rw [← List.cons_append, ← hq, List.append_assoc, List.take_append_drop]
  cases ending with
  | stop => exact hsplit
  | raises e =>
    show (q ++ src).take _ = h :: (t ++ src.drop n).take _
    rw [hsplit, List.length_drop, Nat.add_sub_cancel, Nat.sub_add_comm hle, List.take_succ_cons]

theorem genRun_eq (size : Nat) (ending : Ending ε) :
    ∀ (k : Nat) (st : Bool) (q src : List α), 1 ≤ (if st then 1 else size) →
      genRun size ending k ⟨st, false, q, src⟩
        = firstK ((delivered ending (if st then 1 else size) q src).map Obs.item ++ [ending.obs]) k := by
  intro k
  induction k with
  | zero => intro st q src _; simp [genRun, firstK]
  | succ k ih =>
    intro st q src h1
    by_cases hle : (if st then 1 else size) ≤ src.length
    · obtain ⟨h, t, hq, hg⟩ := genNext_of_le size ending st q src h1 hle
      rw [genRun, hg, delivered_cons ending hle hq, List.map_cons, List.cons_append, firstK_cons]
      exact congrArg _ (ih true t _ (Nat.le_refl 1))
    · -- the source ends inside this `enqueue`
      have he := enqueue_gt ending _ q src (Nat.lt_of_not_le hle)
      cases ending with
      | stop =>
        cases hq : q ++ src with
        | nil => simp [genRun, genNext, he, hq, genRun_finished, delivered, firstK_cons, firstK_nil, Ending.obs]
        | cons h t =>
          have := ih true t [] (Nat.le_refl 1)
          simp only [delivered, List.append_nil] at this
          simp [genRun, genNext, he, hq, delivered, firstK_cons, this]
      | raises e =>
        have hn : src.length + 1 - (if st then 1 else size) = 0 := Nat.sub_eq_zero_of_le (Nat.lt_of_not_le hle)
        simp [genRun, genNext, he, hn, genRun_finished, delivered, firstK_cons, firstK_nil, Ending.obs]

end Flax.Prefetch
