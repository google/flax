/- The traversal budget of `flatten` always suffices on a closed heap; closedness is decidable. -/
import Flax.Proofs.GraphFlatten
namespace Flax.Graph
open Flax.Heap

/-- weight of the objects of `t` (living at addresses `s, s+1, …`) that are not registered in `idx` -/
def restSize (idx : RefIndex) : Nat → Heap → Nat
  | _, [] => 0
  | s, o :: t => (if s ∈ idx then 0 else objSize o) + restSize idx (s + 1) t

/-- total size of the heap objects `flatten` has not registered yet -/
def unvisited (h : Heap) (idx : RefIndex) : Nat := restSize idx 0 h

theorem restSize_mono {idx idx' : RefIndex} (hs : ∀ a, a ∈ idx → a ∈ idx') :
    ∀ (s : Nat) (t : Heap), restSize idx' s t ≤ restSize idx s t
  | _, [] => Nat.le_refl _
  | s, o :: t => by
    have ih := restSize_mono hs (s + 1) t
    simp only [restSize]
    by_cases e : s ∈ idx
    · rw [if_pos e, if_pos (hs s e)]; omega
    · rw [if_neg e]; split <;> omega

theorem restSize_push {idx : RefIndex} {o : Obj} : ∀ (s : Nat) (t : Heap) (i : Nat), s + i ∉ idx → t[i]? = some o →
    restSize (idx ++ [s + i]) s t + objSize o ≤ restSize idx s t
  | _, [], _, _, hg => by cases hg
  | s, x :: t, 0, ha, hg => by
    cases hg
    rw [Nat.add_zero] at ha ⊢
    have := restSize_mono (idx := idx) (idx' := idx ++ [s]) (fun y hy => List.mem_append_left _ hy) (s + 1) t
    simp only [restSize]
    rw [if_neg ha, if_pos (List.mem_append_right _ (List.mem_singleton.mpr rfl))]
    omega
  | s, x :: t, i + 1, ha, hg => by
    have e : s + (i + 1) = s + 1 + i := by omega
    rw [e] at ha ⊢
    have ih := restSize_push (s + 1) t i ha (List.getElem?_cons_succ ▸ hg)
    have hs : s ∈ idx ++ [s + 1 + i] ↔ s ∈ idx := by
      rw [List.mem_append, List.mem_singleton]
      exact ⟨fun h => h.elim id (fun h => absurd h (by omega)), Or.inl⟩
    simp only [restSize, hs]
    omega

theorem unvisited_mono (h : Heap) {idx idx' : RefIndex} (hs : ∀ a, a ∈ idx → a ∈ idx') :
    unvisited h idx' ≤ unvisited h idx := restSize_mono hs 0 h

theorem unvisited_push (h : Heap) {idx : RefIndex} {a : Nat} {o : Obj} (ha : a ∉ idx) (hg : h[a]? = some o) :
    unvisited h (idx ++ [a]) + objSize o ≤ unvisited h idx :=
  by simpa [unvisited] using restSize_push 0 h a (by simpa using ha) hg

theorem restSize_nil : ∀ (s : Nat) (t : Heap), restSize [] s t = (t.map objSize).sum
  | _, [] => rfl
  | s, o :: t => by simp [restSize, restSize_nil (s + 1) t]

theorem unvisited_nil (h : Heap) : unvisited h [] = heapSize h := restSize_nil 0 h

theorem kvsSize_perm : ∀ {l l' : List (Key × PVal)}, l.Perm l' → kvsSize l = kvsSize l' := by
  intro l l' hp
  induction hp with
  | nil => rfl
  | cons x _ ih => obtain ⟨k, v⟩ := x; simp [kvsSize, ih]
  | swap x y l => obtain ⟨k, v⟩ := x; obtain ⟨k', v'⟩ := y; simp [kvsSize]; omega
  | trans _ _ ih1 ih2 => exact ih1.trans ih2

theorem kvsSize_sortKV (l : List (Key × PVal)) : kvsSize (sortKV l) = kvsSize l := kvsSize_perm (sortBy_perm l)

theorem kvsSize_enumFrom : ∀ (n : Nat) (xs : List PVal), kvsSize (enumFrom n xs) = valsSize xs
  | _, [] => rfl
  | n, x :: xs => by simp [enumFrom, kvsSize, valsSize, kvsSize_enumFrom (n + 1) xs]

theorem valSize_pos : ∀ v : PVal, 1 ≤ valSize v
  | .static _ => by simp [valSize]
  | .array _ => by simp [valSize]
  | .ref _ => by simp [valSize]
  | .none => by simp [valSize]
  | .seq _ _ => by simp [valSize]; omega
  | .dict _ => by simp [valSize]; omega

theorem flatten_total_aux (h : Heap) (hc : HeapClosed h) : ∀ fuel : Nat,
    (∀ path v idx, ValClosed h v → valSize v + unvisited h idx ≤ fuel →
      ∃ gd ls idx', flattenVal fuel h path v idx = .ok (gd, ls, idx')) ∧
    (∀ path items idx, (∀ b ∈ deepRefsKV items, b < h.length) → kvsSize items + 1 + unvisited h idx ≤ fuel →
      ∃ gs ls idx', flattenItems fuel h path items idx = .ok (gs, ls, idx')) := by
  intro fuel
  induction fuel with
  | zero =>
    constructor
    · intro path v idx _ hf; have := valSize_pos v; omega
    · intro path items idx _ hf; omega
  | succ fuel ih =>
    constructor
    · intro path v idx hv hf
      cases v with
      | static s => exact ⟨.static s, [], idx, rfl⟩
      | array d => exact ⟨.array, [(path, .arr d)], idx, rfl⟩
      | none => exact ⟨.node .none Option.none [], [], idx, rfl⟩
      | seq t xs =>
        obtain ⟨gs, ls, idx', he⟩ := ih.2 path (enumFrom 0 xs) idx (deepRefsKV_enumFrom 0 xs ▸ hv)
          (by rw [kvsSize_enumFrom]; simp only [valSize] at hf; omega)
        exact ⟨.node (.seq t) Option.none gs, ls, idx', by simp only [flattenVal, he]⟩
      | dict kvs =>
        obtain ⟨gs, ls, idx', he⟩ := ih.2 path (sortKV kvs) idx (fun b hb => hv b (mem_deepRefsKV_sortKV.mp hb))
          (by rw [kvsSize_sortKV]; simp only [valSize] at hf; omega)
        exact ⟨.node .dict Option.none gs, ls, idx', by simp only [flattenVal, he]⟩
      | ref a =>
        have halt : a < h.length := hv a (List.mem_singleton.mpr rfl)
        cases hi : indexOf? a idx with
        | some i => exact ⟨.ref (typeName h a) i, [], idx, by simp only [flattenVal, hi]⟩
        | none =>
          cases ho : h[a] with
          | var ty val md =>
            have hg : h[a]? = some (.var ty val md) := by rw [List.getElem?_eq_getElem halt, ho]
            exact ⟨.var ty idx.length md, [(path, .vstate ty val md)], idx ++ [a], by simp only [flattenVal, hi, hg]⟩
          | node cls attrs =>
            have hg : h[a]? = some (.node cls attrs) := by rw [List.getElem?_eq_getElem halt, ho]
            -- registering the node pays for its attribute loop
            have hpush := unvisited_push h (indexOf?_none.mp hi) hg
            simp only [objSize] at hpush
            simp only [valSize] at hf
            obtain ⟨gs, ls, idx', he⟩ := ih.2 path (sortKV attrs) (idx ++ [a])
              (fun b hb => hc a cls attrs hg b (mem_deepRefsKV_sortKV.mp hb)) (by rw [kvsSize_sortKV]; omega)
            exact ⟨.node (.obj cls) (some idx.length) gs, ls, idx', by simp only [flattenVal, hi, hg, he]⟩
    · intro path items idx hcl hf
      cases items with
      | nil => exact ⟨[], [], idx, rfl⟩
      | cons kv rest =>
        obtain ⟨k, v⟩ := kv
        simp only [kvsSize] at hf
        obtain ⟨g, ls1, idx1, he1⟩ := ih.1 (path ++ [k]) v idx
          (fun b hb => hcl b (List.mem_append_left _ hb)) (by omega)
        obtain ⟨new, rfl⟩ := (flatten_prefix h fuel).1 _ _ _ _ _ _ he1
        have hu := unvisited_mono h (idx := idx) (idx' := idx ++ new) fun _ hx => List.mem_append_left _ hx
        obtain ⟨gs, ls2, idx2, he2⟩ := ih.2 path rest (idx ++ new)
          (fun b hb => hcl b (List.mem_append_right _ hb)) (by omega)
        exact ⟨(k, g) :: gs, ls1 ++ ls2, idx2, by simp only [flattenItems, he1, he2]⟩

theorem flatten_total (h : Heap) (root : PVal) (hc : HeapClosed h) (hr : ValClosed h root)
    (hroot : isRootable root = true) : ∃ gd ls idx, flatten h root = .ok (gd, ls, idx) := by
  obtain ⟨gd, ls, idx, he⟩ := (flatten_total_aux h hc (fuelFor h root)).1 [] root [] hr
    (by rw [unvisited_nil]; simp [fuelFor]; omega)
  exact ⟨gd, ls, idx, by simp [flatten, hroot, he]⟩

def closedObj (n : Nat) : Obj → Bool
  | .node _ attrs => (deepRefsKV attrs).all (· < n)
  | .var _ _ _ => true

theorem heapClosed_iff_all {h : Heap} : HeapClosed h ↔ h.all (closedObj h.length) = true := by
  rw [List.all_eq_true]
  constructor
  · intro hc o ho
    obtain ⟨a, ha, rfl⟩ := List.mem_iff_getElem.mp ho
    cases e : h[a] with
    | var _ _ _ => rfl
    | node cls attrs =>
      have := hc a cls attrs (by rw [List.getElem?_eq_getElem ha, e])
      simpa [closedObj] using this
  · intro hall a cls attrs hg b hb
    have := hall _ (List.mem_of_getElem? hg)
    simp only [closedObj, List.all_eq_true, decide_eq_true_eq] at this
    exact this b hb

instance (h : Heap) : Decidable (HeapClosed h) := decidable_of_iff _ heapClosed_iff_all.symm

instance (h : Heap) (v : PVal) : Decidable (ValClosed h v) := by unfold ValClosed; infer_instance

end Flax.Graph
