/- C06: the number of iterations.  When `jax`'s own length check (`jaxLength`) and flax's `decideLength`
   return, when `decideLength` raises which of its two errors (`decideLength_eq_error`), and that the two agree
   (`length_agrees`).  Loop-free: about the two model functions only; the NNX transforms
   (C08) use the `jaxLength` half. -/
import Flax.Model.LiftLoop

namespace Flax.LiftLoop
open Flax.Filter

theorem jaxLength_eq_ok {L : Option Nat} {dims : List Nat} {n : Nat} :
    jaxLength L dims = .ok n ↔
      (∀ d ∈ dims, d = n) ∧ (∀ l, L = some l → l = n) ∧ (L = none → dims ≠ []) := by
  have hall : ∀ (ds : List Nat) (m : Nat), ds.all (fun d => decide (d = m)) = true ↔ ∀ d ∈ ds, d = m := by
    intro ds m
    simp only [List.all_eq_true, decide_eq_true_eq]
  cases L with
  | some l =>
    simp only [jaxLength]
    constructor
    · intro h
      split at h
      · rename_i hl
        cases Except.ok.inj h
        exact ⟨(hall dims _).1 hl, fun _ e => (Option.some.inj e).symm, nofun⟩
      · cases h
    · rintro ⟨hd, hl, _⟩
      cases hl l rfl
      rw [if_pos ((hall dims _).2 hd)]
  | none =>
    cases dims with
    | nil => exact ⟨nofun, fun h => absurd rfl (h.2.2 rfl)⟩
    | cons d ds =>
      simp only [jaxLength]
      constructor
      · intro h
        split at h
        · rename_i hl
          cases Except.ok.inj h
          exact ⟨fun x hx => (List.mem_cons.1 hx).elim id ((hall ds _).1 hl x), nofun, fun _ => List.cons_ne_nil _ ds⟩
        · cases h
      · rintro ⟨hd, _, _⟩
        cases hd d List.mem_cons_self
        rw [if_pos ((hall ds _).2 fun x hx => hd x (List.mem_cons_of_mem _ hx))]

theorem jaxLength_all {L : Option Nat} {dims : List Nat} {n : Nat} (h : jaxLength L dims = .ok n) :
    ∀ d ∈ dims, d = n := (jaxLength_eq_ok.1 h).1

/-- the three shapes of `set(sizes)` that `decideLength` tells apart -/
theorem eraseDups_cases (sizes : List Nat) :
    sizes = [] ∨
    (∃ a, sizes.eraseDups = [a] ∧ a ∈ sizes ∧ ∀ x ∈ sizes, x = a) ∨
    (∃ a b t, sizes.eraseDups = a :: b :: t ∧ a ∈ sizes ∧ b ∈ sizes ∧ a ≠ b) := by
  have hmem : ∀ a, a ∈ sizes.eraseDups ↔ a ∈ sizes := fun a => List.mem_eraseDups
  cases hs : sizes.eraseDups with
  | nil =>
    cases sizes with
    | nil => exact Or.inl rfl
    | cons x t => have := (hmem x).2 (by simp); rw [hs] at this; cases this
  | cons a t =>
    have ha : a ∈ sizes := (hmem a).1 (by rw [hs]; simp)
    cases t with
    | nil =>
      refine Or.inr (Or.inl ⟨a, rfl, ha, fun x hx => ?_⟩)
      have := (hmem x).2 hx
      rw [hs] at this
      simpa using this
    | cons b t' =>
      refine Or.inr (Or.inr ⟨a, b, t', rfl, ha, (hmem b).1 (by rw [hs]; simp), ?_⟩)
      cases sizes with
      | nil => cases ha
      | cons x rest =>
        rw [List.eraseDups_cons] at hs
        injection hs with h1 h2
        subst h1
        have : b ∈ (rest.filter (fun y => !(y == x))).eraseDups := by rw [h2]; simp
        have := List.mem_eraseDups.1 this
        simp only [List.mem_filter, Bool.not_eq_eq_eq_not, Bool.not_true, beq_eq_false_iff_ne] at this
        exact fun h => this.2 h.symm

theorem decideLength_eq (L : Option Nat) (sizes : List Nat) :
    decideLength L sizes =
      if ∃ a ∈ sizes, ∃ b ∈ sizes, a ≠ b then .error .inconsistentLengths
      else match L, sizes with
        | some l, _ => .ok l
        | none, [] => .error .lengthUnspecified
        | none, a :: _ => .ok a := by
  rcases eraseDups_cases sizes with rfl | ⟨a, hs, ha, hall⟩ | ⟨a, b, t, hs, ha, hb, hab⟩
  · cases L <;> simp [decideLength]
  · rw [if_neg (fun ⟨x, hx, y, hy, hxy⟩ => hxy ((hall x hx).trans (hall y hy).symm))]
    cases sizes with
    | nil => cases ha
    | cons x rest =>
      cases hall x (by simp)
      cases L <;> simp only [decideLength, hs]
  · rw [if_pos ⟨a, ha, b, hb, hab⟩]
    cases L <;> simp only [decideLength, hs]

theorem decideLength_eq_ok {L : Option Nat} {sizes : List Nat} {n : Nat} :
    decideLength L sizes = .ok n ↔
      (¬ ∃ a ∈ sizes, ∃ b ∈ sizes, a ≠ b) ∧ (L = some n ∨ (L = none ∧ n ∈ sizes)) := by
  rw [decideLength_eq]
  by_cases hyes : ∃ a ∈ sizes, ∃ b ∈ sizes, a ≠ b
  · rw [if_pos hyes]
    exact ⟨nofun, fun h => absurd hyes h.1⟩
  · rw [if_neg hyes]
    refine ⟨fun h => ⟨hyes, ?_⟩, fun h => ?_⟩
    · cases L with
      | some l => exact Or.inl (congrArg some (Except.ok.inj h))
      | none =>
        cases sizes with
        | nil => cases h
        | cons a rest => exact Or.inr ⟨rfl, Except.ok.inj h ▸ List.mem_cons_self⟩
    · rcases h.2 with rfl | ⟨rfl, hn⟩
      · rfl
      · cases sizes with
        | nil => cases hn
        | cons a rest =>
          -- all sizes are equal, so the first one is `n`
          exact congrArg _ (Decidable.byContradiction fun hne => hyes ⟨a, List.mem_cons_self, n, hn, hne⟩)

theorem decideLength_eq_error {L : Option Nat} {sizes : List Nat} {e : Err} :
    decideLength L sizes = .error e ↔
      (e = .inconsistentLengths ∧ ∃ a ∈ sizes, ∃ b ∈ sizes, a ≠ b) ∨ (e = .lengthUnspecified ∧ L = none ∧ sizes = []) := by
  rw [decideLength_eq]
  by_cases hyes : ∃ a ∈ sizes, ∃ b ∈ sizes, a ≠ b
  · rw [if_pos hyes]
    refine ⟨fun h => Or.inl ⟨(Except.error.inj h).symm, hyes⟩, fun h => ?_⟩
    rcases h with ⟨rfl, _⟩ | ⟨_, _, rfl⟩
    · rfl
    · obtain ⟨a, ha, _⟩ := hyes; cases ha
  · rw [if_neg hyes]
    refine ⟨fun h => Or.inr ?_, fun h => ?_⟩
    · cases L with
      | some l => cases h
      | none =>
        cases sizes with
        | nil => exact ⟨(Except.error.inj h).symm, rfl, rfl⟩
        | cons a rest => cases h
    · rcases h with ⟨_, h⟩ | ⟨rfl, rfl, rfl⟩
      · exact absurd h hyes
      · rfl

theorem decideLength_err {L : Option Nat} {sizes : List Nat} {e : Err} (h : decideLength L sizes = .error e) :
    e = .inconsistentLengths ∨ e = .lengthUnspecified :=
  (decideLength_eq_error.1 h).imp And.left And.left

/-- the number of iterations lax.scan finds is the `d_length` flax used for splitting the rngs -/
theorem length_agrees (L : Option Nat) (sizes dims : List Nat) (d n : Nat)
    (h1 : decideLength L sizes = .ok d) (h2 : jaxLength L dims = .ok n)
    (hsub : ∀ x ∈ sizes, x ∈ dims) : n = d := by
  obtain ⟨hdims, hL, _⟩ := jaxLength_eq_ok.1 h2
  rcases (decideLength_eq_ok.1 h1).2 with rfl | ⟨_, hd⟩
  · exact (hL d rfl).symm
  · exact (hdims d (hsub d hd)).symm

end Flax.LiftLoop
