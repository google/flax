/-
Structure does not depend on data.  Erasure forgets every payload: `ePV`, `eObj`, `eHeap`, `eLeaf`, `eFS` on data; `eFlat`,
`eRoots`, `eUn`, `eUnA`, `eUR`, `eSt`, `eFn` over the results of flatten, to_tree, unflatten (value, attributes, roots), a
statement, a call.  These functions commute with it; Proofs/NnxCache concludes that the traced output graphdefs depend on the
input graphdefs alone.
-/
import Flax.Proofs.NnxJit
import Flax.Proofs.Except

namespace Flax.Nnx
open Flax.Heap Flax.Graph

mutual
  def ePV : PVal → PVal
    | .array _ => .array 0
    | .seq t xs => .seq t (ePVs xs)
    | .dict kvs => .dict (ePKVs kvs)
    | .static s => .static s
    | .ref a => .ref a
    | .none => .none
  def ePVs : List PVal → List PVal
    | [] => []
    | x :: xs => ePV x :: ePVs xs
  def ePKVs : List (Key × PVal) → List (Key × PVal)
    | [] => []
    | (k, v) :: rest => (k, ePV v) :: ePKVs rest
end

def eObj : Obj → Obj
  | .node cls attrs => .node cls (ePKVs attrs)
  | .var ty _ md => .var ty 0 md

def eHeap (h : Heap) : Heap := h.map eObj

def eLeaf : Leaf → Leaf
  | .vstate ty _ md => .vstate ty 0 md
  | .arr _ => .arr 0

def eFS (fs : FlatState) : FlatState := fs.map (fun it => (it.1, eLeaf it.2))

theorem ePVs_eq_map : ∀ (xs : List PVal), ePVs xs = xs.map ePV
  | [] => rfl
  | x :: xs => by simp [ePVs, ePVs_eq_map xs]

theorem ePKVs_eq_map : ∀ (l : List (Key × PVal)), ePKVs l = l.map (fun kv => (kv.1, ePV kv.2))
  | [] => rfl
  | (k, v) :: rest => by simp [ePKVs, ePKVs_eq_map rest]

theorem eHeap_get (h : Heap) (a : Nat) : (eHeap h)[a]? = (h[a]?).map eObj := by simp [eHeap]

theorem eHeap_length (h : Heap) : (eHeap h).length = h.length := by simp [eHeap]

theorem eHeap_write (h : Heap) (a : Nat) (o : Obj) : eHeap (write h a o) = write (eHeap h) a (eObj o) := by
  simp [eHeap, write, List.map_set]

theorem eHeap_append (h : Heap) (o : Obj) : eHeap (h ++ [o]) = eHeap h ++ [eObj o] := by simp [eHeap]

theorem lookupKV_ePKVs (k : Key) (l : List (Key × PVal)) : lookupKV k (ePKVs l) = (lookupKV k l).map ePV := by
  rw [ePKVs_eq_map, lookupKV_eq_lookup, lookupKV_eq_lookup]
  exact Assoc.lookup_map_val ePV k l

theorem putKV_ePKVs (k : Key) (v : PVal) (l : List (Key × PVal)) : ePKVs (putKV k v l) = putKV k (ePV v) (ePKVs l) := by
  rw [ePKVs_eq_map, ePKVs_eq_map]
  exact putKV_isUpsert.map_val putKV_isUpsert ePV k v l

theorem eraseKV_ePKVs (k : Key) (l : List (Key × PVal)) : ePKVs (eraseKV k l) = eraseKV k (ePKVs l) := by
  simp [eraseKV, ePKVs_eq_map, List.filter_map, Function.comp_def]

theorem sortKV_ePKVs (l : List (Key × PVal)) : sortKV (ePKVs l) = ePKVs (sortKV l) := by
  rw [ePKVs_eq_map, ePKVs_eq_map, sortKV, sortKV, sortBy_eq_foldr, sortBy_eq_foldr]
  exact (insertBy_isInsert.sort_map insertBy_isInsert (fun kv => (kv.1, ePV kv.2)) l (fun _ _ _ _ => Iff.rfl)).symm

theorem enumFrom_ePVs : ∀ (n : Nat) (xs : List PVal), enumFrom n (ePVs xs) = ePKVs (enumFrom n xs)
  | _, [] => rfl
  | n, x :: xs => by simp [enumFrom, ePVs, ePKVs, enumFrom_ePVs (n + 1) xs]

theorem typeName_eHeap (h : Heap) (a : Addr) : typeName (eHeap h) a = typeName h a := by
  unfold typeName
  rw [eHeap_get]
  cases h[a]? with
  | none => rfl
  | some o => cases o <;> rfl

def eFlat {α : Type} : Except Graph.Err (α × FlatState × RefIndex) → Except Graph.Err (α × FlatState × RefIndex) :=
  Except.map fun r => (r.1, eFS r.2.1, r.2.2)

theorem flatten_erase (h : Heap) : ∀ fuel : Nat,
    (∀ path v idx, flattenVal fuel (eHeap h) path (ePV v) idx = eFlat (flattenVal fuel h path v idx)) ∧
    (∀ path items idx, flattenItems fuel (eHeap h) path (ePKVs items) idx = eFlat (flattenItems fuel h path items idx)) := by
  intro fuel
  induction fuel with
  | zero => exact ⟨fun _ _ _ => rfl, fun _ _ _ => rfl⟩
  | succ fuel ih =>
    constructor
    · intro path v idx
      cases v with
      | static s => simp [flattenVal, ePV, eFlat, Except.map, eFS]
      | array d => simp [flattenVal, ePV, eFlat, Except.map, eFS, eLeaf]
      | none => simp [flattenVal, ePV, eFlat, Except.map, eFS]
      | seq t xs =>
        simp only [flattenVal, ePV, enumFrom_ePVs, ih.2]
        cases flattenItems fuel h path (enumFrom 0 xs) idx with
        | error e => rfl
        | ok r => rfl
      | dict kvs =>
        simp only [flattenVal, ePV, sortKV_ePKVs, ih.2]
        cases flattenItems fuel h path (sortKV kvs) idx with
        | error e => rfl
        | ok r => rfl
      | ref a =>
        simp only [flattenVal, ePV, typeName_eHeap, eHeap_get]
        cases indexOf? a idx with
        | some i => simp [eFlat, Except.map, eFS]
        | none =>
          simp only
          cases h[a]? with
          | none => rfl
          | some o =>
            cases o with
            | var ty val md => simp [eObj, eFlat, Except.map, eFS, eLeaf]
            | node cls attrs =>
              simp only [Option.map_some, eObj, sortKV_ePKVs, ih.2]
              cases flattenItems fuel h path (sortKV attrs) (idx ++ [a]) with
              | error e => rfl
              | ok r => rfl
    · intro path items idx
      cases items with
      | nil => simp [flattenItems, ePKVs, eFlat, Except.map, eFS]
      | cons kv rest =>
        obtain ⟨k, v⟩ := kv
        simp only [flattenItems, ePKVs, ih.1]
        cases flattenVal fuel h (path ++ [k]) v idx with
        | error e => rfl
        | ok r =>
          obtain ⟨g, ls1, idx1⟩ := r
          simp only [eFlat, Except.map, ih.2]
          cases flattenItems fuel h path rest idx1 with
          | error e => rfl
          | ok r2 => simp [eFS]

theorem valSize_ePV : ∀ (v : PVal), valSize (ePV v) = valSize v := by
  intro v
  exact (PVal.rec (motive_1 := fun v => valSize (ePV v) = valSize v)
    (motive_2 := fun l => valsSize (ePVs l) = valsSize l)
    (motive_3 := fun l => kvsSize (ePKVs l) = kvsSize l)
    (motive_4 := fun p => valSize (ePV p.2) = valSize p.2)
    (fun s => rfl) (fun d => rfl) (fun a => rfl)
    (fun t xs ih => by simp [ePV, valSize, ih])
    (fun kvs ih => by simp [ePV, valSize, ih])
    rfl
    rfl
    (fun hd tl ih1 ih2 => by simp [ePVs, valsSize, ih1, ih2])
    rfl
    (fun hd tl ih1 ih2 => by obtain ⟨k, v⟩ := hd; simp only at ih1; simp [ePKVs, kvsSize, ih1, ih2])
    (fun k v ih => ih) v)

theorem kvsSize_ePKVs : ∀ (l : List (Key × PVal)), kvsSize (ePKVs l) = kvsSize l
  | [] => rfl
  | (k, v) :: rest => by simp [ePKVs, kvsSize, valSize_ePV, kvsSize_ePKVs rest]

theorem heapSize_eHeap (h : Heap) : heapSize (eHeap h) = heapSize h := by
  unfold heapSize eHeap
  rw [List.map_map]
  congr 1
  apply List.map_congr_left
  intro o _
  cases o <;> simp [eObj, objSize, kvsSize_ePKVs]

theorem fuelFor_erase (h : Heap) (v : PVal) : fuelFor (eHeap h) (ePV v) = fuelFor h v := by
  simp [fuelFor, heapSize_eHeap, valSize_ePV]

def eRoots : Except Err (List GDef × List FlatState × RefIndex) → Except Err (List GDef × List FlatState × RefIndex) :=
  Except.map fun r => (r.1, r.2.1.map eFS, r.2.2)

theorem flattenRoots_erase (h : Heap) : ∀ (vs : List PVal) (idx : RefIndex),
    flattenRoots (eHeap h) (vs.map ePV) idx = eRoots (flattenRoots h vs idx)
  | [], idx => rfl
  | v :: vs, idx => by
    simp only [List.map_cons, flattenRoots, fuelFor_erase, (flatten_erase h _).1]
    cases flattenVal (fuelFor h v) h [] v idx with
    | error e => rfl
    | ok r =>
      obtain ⟨gd, ls, idx1⟩ := r
      simp only [eFlat, Except.map, flattenRoots_erase h vs idx1]
      cases flattenRoots h vs idx1 with
      | error e => rfl
      | ok r2 => rfl

def eUn : Except Err (PVal × List Leaf × Heap × IndexRef) → Except Err (PVal × List Leaf × Heap × IndexRef) :=
  Except.map fun r => (ePV r.1, r.2.1.map eLeaf, eHeap r.2.2.1, r.2.2.2)

def eUnA : Except Err (List (Key × PVal) × List Leaf × Heap × IndexRef) → Except Err (List (Key × PVal) × List Leaf × Heap × IndexRef)
  | .ok (vs, ls, H, ir) => .ok (ePKVs vs, ls.map eLeaf, eHeap H, ir)
  | .error e => .error e

theorem makeVar_eLeaf (ty : VType) (md : Meta) (l : Leaf) : makeVar ty md (eLeaf l) = eObj (makeVar ty md l) := by
  cases l <;> rfl

abbrev noReuse : Nat → Option Addr := fun _ => Option.none

mutual
  theorem unflatten_erase : ∀ (gd : ODef) (ls : List Leaf) (H : Heap) (ir : IndexRef),
      unflattenO noReuse gd (ls.map eLeaf) (eHeap H) ir = eUn (unflattenO noReuse gd ls H ir)
    | .ref ty i, ls, H, ir => by
      simp only [unflattenO]
      cases irLookup i ir <;> simp [eUn, Except.map, ePV]
    | .var ty i outer md, ls, H, ir => by
      cases ls with
      | nil => simp [unflattenO, eUn, Except.map]
      | cons l ls' =>
        simp only [List.map_cons, unflattenO, Option.bind_fun_none]
        simp [eUn, Except.map, ePV, eHeap_length, eHeap_append, makeVar_eLeaf]
    | .static s, ls, H, ir => by simp [unflattenO, eUn, Except.map, ePV]
    | .array, ls, H, ir => by
      cases ls with
      | nil => simp [unflattenO, eUn, Except.map]
      | cons l ls' =>
        cases l with
        | arr d => simp [unflattenO, eUn, Except.map, ePV, eLeaf]
        | vstate ty v md => simp [unflattenO, eUn, Except.map, eLeaf]
    | .node (.obj cls) idx outer attrs, ls, H, ir => by
      cases idx with
      | none => simp [unflattenO, eUn, Except.map]
      | some i =>
        simp only [unflattenO, Option.bind_fun_none]
        split
        · simp [eUn, Except.map]
        · have ih := unflattenAttrs_erase attrs ls (H ++ [Obj.node cls []]) ((i, H.length) :: ir)
          simp only [eHeap_append, eObj, ePKVs] at ih
          simp only [eHeap_length, ih]
          cases unflattenAttrsO noReuse attrs ls (H ++ [Obj.node cls []]) ((i, H.length) :: ir) with
          | error e => rfl
          | ok r =>
            obtain ⟨children, ls', H', ir'⟩ := r
            simp [eUnA, eUn, Except.map, ePV, eHeap_write, eObj]
    | .node (.seq t) idx outer attrs, ls, H, ir => by
      simp only [unflattenO, unflattenAttrs_erase attrs ls H ir]
      cases unflattenAttrsO noReuse attrs ls H ir with
      | error e => rfl
      | ok r => obtain ⟨children, ls', H', ir'⟩ := r; simp [eUnA, eUn, Except.map, ePV, ePKVs_eq_map, ePVs_eq_map]
    | .node .dict idx outer attrs, ls, H, ir => by
      simp only [unflattenO, unflattenAttrs_erase attrs ls H ir]
      cases unflattenAttrsO noReuse attrs ls H ir with
      | error e => rfl
      | ok r => obtain ⟨children, ls', H', ir'⟩ := r; simp [eUnA, eUn, Except.map, ePV]
    | .node .none idx outer attrs, ls, H, ir => by
      simp only [unflattenO, unflattenAttrs_erase attrs ls H ir]
      cases unflattenAttrsO noReuse attrs ls H ir with
      | error e => rfl
      | ok r => obtain ⟨children, ls', H', ir'⟩ := r; simp [eUnA, eUn, Except.map, ePV]
  theorem unflattenAttrs_erase : ∀ (attrs : List (Key × ODef)) (ls : List Leaf) (H : Heap) (ir : IndexRef),
      unflattenAttrsO noReuse attrs (ls.map eLeaf) (eHeap H) ir = eUnA (unflattenAttrsO noReuse attrs ls H ir)
    | [], ls, H, ir => by simp [unflattenAttrsO, eUnA, ePKVs]
    | (k, g) :: rest, ls, H, ir => by
      simp only [unflattenAttrsO, unflatten_erase g ls H ir]
      cases unflattenO noReuse g ls H ir with
      | error e => rfl
      | ok r =>
        obtain ⟨v, ls1, H1, ir1⟩ := r
        simp only [eUn, Except.map, unflattenAttrs_erase rest ls1 H1 ir1]
        cases unflattenAttrsO noReuse rest ls1 H1 ir1 with
        | error e => rfl
        | ok r2 => obtain ⟨vs, ls2, H2, ir2⟩ := r2; simp [eUnA, ePKVs]
end

def eUR : Except Err (List PVal × Heap × IndexRef) → Except Err (List PVal × Heap × IndexRef) :=
  Except.map fun r => (r.1.map ePV, eHeap r.2.1, r.2.2)

theorem unflattenRoots_erase : ∀ (gds : List ODef) (lss : List (List Leaf)) (H : Heap) (ir : IndexRef),
    unflattenRootsO noReuse gds (lss.map (fun ls => ls.map eLeaf)) (eHeap H) ir = eUR (unflattenRootsO noReuse gds lss H ir)
  | [], [], H, ir => by simp [unflattenRootsO, eUR, Except.map]
  | [], _ :: _, H, ir => by simp [unflattenRootsO, eUR, Except.map]
  | _ :: _, [], H, ir => by simp [unflattenRootsO, eUR, Except.map]
  | gd :: gds, ls :: lss, H, ir => by
    simp only [List.map_cons, unflattenRootsO, unflatten_erase gd ls H ir]
    cases unflattenO noReuse gd ls H ir with
    | error e => rfl
    | ok r =>
      obtain ⟨v, rest, H1, ir1⟩ := r
      cases rest with
      | cons l rest' => simp [eUn, Except.map, eUR]
      | nil =>
        simp only [eUn, Except.map, List.map_nil, unflattenRoots_erase gds lss H1 ir1]
        cases unflattenRootsO noReuse gds lss H1 ir1 with
        | error e => rfl
        | ok r2 => obtain ⟨vs, H2, ir2⟩ := r2; simp [eUR, Except.map]

def eSt : Except Err (Heap × List PVal) → Except Err (Heap × List PVal) :=
  Except.map fun s => (eHeap s.1, s.2.map ePV)

/-- registers are only tested for holding an array -/
theorem eval_erase (env : List PVal) : ∀ (e : DExpr), ExceptRel (fun _ _ => True) (e.eval (env.map ePV)) (e.eval env) := by
  intro e
  induction e with
  | const c => exact .ok trivial
  | reg r =>
    simp only [DExpr.eval, List.getElem?_map]
    cases env[r]? with
    | none => exact .error _
    | some v => cases v <;> first | exact .ok trivial | exact .error _
  | add a b iha ihb | mul a b iha ihb | lt a b iha ihb =>
    simp only [DExpr.eval]
    refine iha.elim (fun _ _ _ _ _ => ?_) (fun er _ _ => .error er)
    exact ihb.elim (fun _ _ _ _ _ => .ok trivial) (fun er _ _ => .error er)

mutual
  theorem ePV_idem : ∀ (v : PVal), ePV (ePV v) = ePV v
    | .array _ => rfl
    | .static _ => rfl
    | .ref _ => rfl
    | .none => rfl
    | .seq t xs => by simp only [ePV, ePVs_idem xs]
    | .dict kvs => by simp only [ePV, ePKVs_idem kvs]
  theorem ePVs_idem : ∀ (xs : List PVal), ePVs (ePVs xs) = ePVs xs
    | [] => rfl
    | x :: xs => by simp only [ePVs, ePV_idem x, ePVs_idem xs]
  theorem ePKVs_idem : ∀ (l : List (Key × PVal)), ePKVs (ePKVs l) = ePKVs l
    | [] => rfl
    | (k, v) :: rest => by simp only [ePKVs, ePV_idem v, ePKVs_idem rest]
end

theorem eObj_idem (o : Obj) : eObj (eObj o) = eObj o := by cases o <;> simp [eObj, ePKVs_idem]

theorem eHeap_idem (h : Heap) : eHeap (eHeap h) = eHeap h := by
  unfold eHeap
  rw [List.map_map]
  apply List.map_congr_left
  intro o _
  exact eObj_idem o

theorem eEnv_idem (env : List PVal) : (env.map ePV).map ePV = env.map ePV := by
  simp [ePV_idem]

theorem deref_erase (h : Heap) (env : List PVal) (r : Nat) :
    deref (eHeap h) (env.map ePV) r = (deref h env r).map (fun p => (p.1, eObj p.2)) := by
  rw [deref, deref, List.getElem?_map]
  cases env[r]? with
  | none => rfl
  | some v =>
    cases v with
    | ref a =>
      simp only [Option.map_some, ePV, eHeap_get]
      cases h[a]? <;> rfl
    | _ => rfl

theorem runOp_erase (h : Heap) (env : List PVal) (op : Op) :
    eSt (runOp (eHeap h) (env.map ePV) op) = eSt (runOp h env op) := by
  -- erased on BOTH sides: on erased data the run computes other numbers, so only the erased states agree
  cases op with
  | getAttr r k =>
    rw [runOp_getAttr, runOp_getAttr, deref_erase]
    cases deref h env r with
    | error e => rfl
    | ok p =>
      obtain ⟨a, o⟩ := p
      cases o with
      | var ty v md => rfl
      | node cls attrs =>
        simp only [Except.map, eObj, lookupKV_ePKVs]
        cases lookupKV k attrs with
        | none => rfl
        | some w => simp [eSt, Except.map, eHeap_idem, ePV_idem]
  | readVar r =>
    rw [runOp_readVar, runOp_readVar, deref_erase]
    cases deref h env r with
    | error e => rfl
    | ok p =>
      obtain ⟨a, o⟩ := p
      cases o with
      | var ty v md => simp [Except.map, eObj, eSt, ePV, eHeap_idem, ePV_idem]
      | node cls attrs => rfl
  | setVar r e =>
    rw [runOp_setVar, runOp_setVar, deref_erase]
    cases deref h env r with
    | error er => rfl
    | ok p =>
      obtain ⟨a, o⟩ := p
      cases o with
      | node cls attrs => rfl
      | var ty v md =>
        simp only [Except.map, eObj]
        rcases (eval_erase env e).cases with ⟨er, h1, h2⟩ | ⟨d, d', h1, h2, _⟩
        · simp [h1, h2, eSt, Except.map]
        · simp [h1, h2, eSt, Except.map, eHeap_write, eObj, eHeap_idem, ePV_idem]
  | setAttr r k src =>
    rw [runOp_setAttr, runOp_setAttr, deref_erase, List.getElem?_map]
    cases env[src]? with
    | none => rfl
    | some w =>
      simp only [Option.map_some]
      cases deref h env r with
      | error e => rfl
      | ok p =>
        obtain ⟨a, o⟩ := p
        cases o with
        | var ty v md => rfl
        | node cls attrs => simp [Except.map, eObj, eSt, eHeap_write, putKV_ePKVs, eHeap_idem, ePKVs_idem, ePV_idem]
  | delAttr r k =>
    rw [runOp_delAttr, runOp_delAttr, deref_erase]
    cases deref h env r with
    | error e => rfl
    | ok p =>
      obtain ⟨a, o⟩ := p
      cases o with
      | var ty v md => rfl
      | node cls attrs =>
        simp only [Except.map, eObj, lookupKV_ePKVs]
        cases lookupKV k attrs with
        | none => rfl
        | some w => simp [eSt, Except.map, eHeap_write, eObj, eraseKV_ePKVs, eHeap_idem, ePKVs_idem, ePV_idem]
  | newNode cls => simp [runOp, eSt, Except.map, eHeap_append, eObj, ePKVs, ePV, eHeap_length, eHeap_idem, ePV_idem]
  | newVar ty e md =>
    simp only [runOp]
    rcases (eval_erase env e).cases with ⟨er, h1, h2⟩ | ⟨d, d', h1, h2, _⟩
    · simp [h1, h2, eSt, Except.map]
    · simp [h1, h2, eSt, Except.map, eHeap_append, eObj, ePV, eHeap_length, eHeap_idem, ePV_idem]
  | litStatic s => simp [runOp, eSt, Except.map, ePV, eHeap_idem, ePV_idem]
  | litNone => simp [runOp, eSt, Except.map, ePV, eHeap_idem, ePV_idem]
  | data e =>
    simp only [runOp]
    rcases (eval_erase env e).cases with ⟨er, h1, h2⟩ | ⟨d, d', h1, h2, _⟩
    · simp [h1, h2, eSt, Except.map]
    · simp [h1, h2, eSt, Except.map, ePV, eHeap_idem, ePV_idem]

theorem runOps_erase : ∀ (ops : List Op) (h h' : Heap) (env env' : List PVal), eHeap h = eHeap h' → env.map ePV = env'.map ePV →
    eSt (runOps ops h env) = eSt (runOps ops h' env')
  | [], h, h', env, env', e1, e2 => by simp [runOps, eSt, Except.map, e1, e2]
  | op :: rest, h, h', env, env', e1, e2 => by
    simp only [runOps]
    have s : eSt (runOp h env op) = eSt (runOp h' env' op) := by
      rw [← runOp_erase h env op, ← runOp_erase h' env' op, e1, e2]
    refine (map_eq_map s).elim (fun p p' _ _ hp => ?_) (fun _ _ _ => rfl)
    simp only [Prod.mk.injEq] at hp
    exact runOps_erase rest p.1 p'.1 p.2 p'.2 hp.1 hp.2

def eFn : Except Err (List PVal × Heap) → Except Err (List PVal × Heap) :=
  Except.map fun r => (r.1.map ePV, eHeap r.2)

theorem getRegs_erase (env env' : List PVal) (he : env.map ePV = env'.map ePV) : ∀ (rs : List Nat),
    (getRegs env rs).map (List.map ePV) = (getRegs env' rs).map (List.map ePV)
  | [] => rfl
  | r :: rs => by
    have hr : (env[r]?).map ePV = (env'[r]?).map ePV := by rw [← List.getElem?_map, ← List.getElem?_map, he]
    simp only [getRegs]
    cases h1 : env[r]? <;> cases h2 : env'[r]? <;> simp [h1, h2] at hr
    · rfl
    · exact (map_eq_map (getRegs_erase env env' he rs)).elim (fun vs vs' _ _ hv => by simp [Except.map, hr, hv]) (fun _ _ _ => rfl)

theorem runFn_erase (f : Fn) (h h' : Heap) (args args' : List PVal) (e1 : eHeap h = eHeap h') (e2 : args.map ePV = args'.map ePV) :
    eFn (runFn f h args) = eFn (runFn f h' args') := by
  unfold runFn
  refine (map_eq_map (runOps_erase f.body h h' args args' e1 e2)).elim (fun ⟨h1, env1⟩ ⟨h1', env1'⟩ _ _ hp => ?_) (fun _ _ _ => rfl)
  simp only [Prod.mk.injEq] at hp
  dsimp only
  refine (map_eq_map (getRegs_erase env1 env1' hp.2 f.ret)).elim (fun vs vs' _ _ hv => ?_) (fun _ _ _ => rfl)
  simp only [eFn, Except.map, hv, hp.1]

end Flax.Nnx
