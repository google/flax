/-
C09, NNX part: `RngStream.__call__`, `Rngs._get_stream`, `reseed`.  A sequence of calls on
`Rngs(**seeds)` is the reference semantics of Linen draws at the root scope, with `fold_in(key, count)` for the key
(`calls_specRun`); its position function is the closed form of `specRun`.
-/
import Flax.Proofs.RngLinenDraws

namespace Flax.Rng

theorem Stream.callN_scalar (tag : String) (k : SymKey) (n : Nat) : ∀ (c : Nat),
    Stream.callN { tag := tag, key := .scalar k, count := .scalar c } n =
      .ok ((List.range n).map (fun i => SymKey.foldIn k (c + i)), { tag := tag, key := .scalar k, count := .scalar (c + n) }) := by
  induction n with
  | zero => intro c; rfl
  | succ n ih =>
    intro c
    simp only [Stream.callN, Stream.call, ih (c + 1)]
    simp only [List.range_succ_eq_map, List.map_cons, List.map_map, Nat.add_zero, Except.ok.injEq, Prod.mk.injEq,
      List.cons.injEq, true_and]
    refine ⟨?_, by congr 2; omega⟩
    apply List.map_congr_left
    intro i _
    simp only [Function.comp]
    congr 1
    omega

/-- `rngs.<name>()` for each name in turn: the keys and the `Rngs` afterwards -/
def Rngs.calls (fb : String) : Rngs → List String → Except Err (List SymKey × Rngs)
  | r, [] => .ok ([], r)
  | r, n :: ns =>
    match r.call fb n with
    | .error e => .error e
    | .ok (k, r1) =>
      match Rngs.calls fb r1 ns with
      | .error e => .error e
      | .ok (ks, r2) => .ok (k :: ks, r2)

/-- which stream (and seed key) answers for `name` in `Rngs(**seeds)` -/
def resolveOf (fb : String) (seeds : List (String × SymKey)) (name : String) : Option (String × SymKey) :=
  effOf { sep := false, fallback := fb } seeds name

/-- every stream is scalar with the counts `c` (the state between transforms) -/
def NRep (seeds : List (String × SymKey)) (r : Rngs) (c : String → Nat) : Prop :=
  ∀ n, find? n r.streams =
    (find? n seeds).map (fun k => ({ tag := n, key := .scalar k, count := .scalar (c n) } : Stream))

def bumpS (c : String → Nat) (n : String) : String → Nat := fun t => if t = n then c t + 1 else c t

theorem nrep_init (seeds : List (String × SymKey)) : NRep seeds (Rngs.mk' seeds) (fun _ => 0) :=
  fun n => find?_map_key (fun n k => ({ tag := n, key := .scalar k, count := .scalar 0 } : Stream)) n seeds

theorem resolve_nrep (fb : String) (seeds : List (String × SymKey)) (r : Rngs) (c : String → Nat)
    (hrep : NRep seeds r c) (name : String) :
    r.resolve fb name =
      match resolveOf fb seeds name with
      | some (n', _) => .ok n'
      | none => .error .noStream :=
  resolve_effOf { sep := false, fallback := fb } seeds r.streams .noStream (fun n => by rw [hrep n, Option.isSome_map]) name

theorem call_nrep (fb : String) (seeds : List (String × SymKey)) (r : Rngs) (c : String → Nat)
    (hrep : NRep seeds r c) (name : String) :
    (resolveOf fb seeds name = none → r.call fb name = .error .noStream) ∧
    (∀ n' k, resolveOf fb seeds name = some (n', k) →
      ∃ r', r.call fb name = .ok (.foldIn k (c n'), r') ∧ NRep seeds r' (bumpS c n')) := by
  constructor
  · intro h
    unfold Rngs.call
    rw [resolve_nrep fb seeds r c hrep, h]
    rfl
  · intro n' k h
    have hk : find? n' seeds = some k := effOf_find _ seeds name n' k h
    unfold Rngs.call
    rw [resolve_nrep fb seeds r c hrep, h]
    simp only [bind, Except.bind, hrep n', hk, Option.map, Stream.call]
    refine ⟨_, rfl, ?_⟩
    intro t
    by_cases ht : t = n'
    · subst ht
      simp [find?_set_self, hk, bumpS]
    · simp only [find?_set_ne _ _ _ _ ht, hrep t, bumpS, ht, if_false]

/-- the number of names in `l` that resolve to stream `n'` -/
def countStream (fb : String) (seeds : List (String × SymKey)) (n' : String) (l : List String) : Nat :=
  (l.filter (fun x => decide ((resolveOf fb seeds x).map (·.1) = some n'))).length

/-- the calls of an `Rngs` as draws at the root scope -/
def rootDraws (names : List String) : List (Path × String) := names.map (fun x => ([], x))

/-- `RngStream.__call__` folds the count found into the stream's key; there is no path -/
def foldInOut : SymKey → Path → Nat → SymKey := fun k _ n => .foldIn k n

theorem countStream_eq_countPos (fb : String) (seeds : List (String × SymKey)) (n' : String) (l : List String) :
    countStream fb seeds n' l = countPos { sep := false, fallback := fb } seeds [] n' (rootDraws l) := by
  simp only [countStream, countPos, rootDraws, List.filter_map, List.length_map, resolveOf, Function.comp_def, true_and]
  rfl

theorem bump_root (c : Counts) (n : String) : bump c [] n [] = bumpS (c []) n := by
  funext t; simp only [bump, bumpS, true_and]

/-- **An `nnx.Rngs` is one Linen scope**: `Rngs.calls` on scalar streams follows `specRun` at the root scope, with
`fold_in(key, count)` for the key and `noStream` for the error. -/
theorem calls_specRun (fb : String) (seeds : List (String × SymKey)) : ∀ (names : List String) (r : Rngs) (c : Counts),
    NRep seeds r (c []) →
    Follows (fun c' r' => NRep seeds r' (c' [])) (Rngs.calls fb r names)
      (specRun foldInOut .noStream { sep := false, fallback := fb } seeds c (rootDraws names)) := by
  intro names
  induction names with
  | nil => intro r c hrep; exact ⟨r, rfl, hrep⟩
  | cons x names ih =>
    intro r c hrep
    obtain ⟨hc1, hc2⟩ := call_nrep fb seeds r (c []) hrep x
    simp only [rootDraws, List.map_cons, specRun, Rngs.calls]
    cases hres : resolveOf fb seeds x with
    | none => rw [hc1 hres, show effOf _ seeds x = none from hres]; exact (rfl : Except.error Err.noStream = _)
    | some nk =>
      obtain ⟨n0, k0⟩ := nk
      obtain ⟨r1, hcall, hrep1⟩ := hc2 n0 k0 hres
      have h := ih r1 (bump c [] n0) (by rw [bump_root]; exact hrep1)
      rw [hcall, show effOf _ seeds x = some (n0, k0) from hres]
      simp only [rootDraws] at h ⊢
      generalize specRun _ _ _ _ (bump c [] n0) _ = y at h ⊢
      cases y with
      | error e => rw [show Rngs.calls fb r1 names = .error e from h]; exact (rfl : Except.error e = _)
      | ok res =>
        obtain ⟨r2, hr, hq⟩ := h
        rw [hr]
        exact ⟨r2, rfl, hq⟩

/-- the closed form of `specRun`, read for `Rngs` -/
theorem calls_closed (fb : String) (seeds : List (String × SymKey)) (names : List String) (r : Rngs) (c : String → Nat)
    (hrep : NRep seeds r c) :
    (∀ e, Rngs.calls fb r names = .error e → e = .noStream ∧ ∃ x ∈ names, resolveOf fb seeds x = none) ∧
    (∀ ks r', Rngs.calls fb r names = .ok (ks, r') →
      ks.length = names.length ∧ NRep seeds r' (fun t => c t + countStream fb seeds t names) ∧
      ∀ (i : Nat) (hi : i < names.length), ∃ n' k, resolveOf fb seeds (names[i]) = some (n', k) ∧
        ks[i]? = some (.foldIn k (c n' + countStream fb seeds n' (names.take i)))) := by
  have hf := calls_specRun fb seeds names r (fun _ => c) hrep
  refine ⟨fun e h => ?_, fun ks r' h => ?_⟩
  · obtain ⟨he, d, hd, hnone⟩ := (specRun_error_iff _ _ _ seeds _ _ e).mp (hf.of_error h)
    obtain ⟨x, hx, rfl⟩ := List.mem_map.mp hd
    exact ⟨he, x, hx, hnone⟩
  · obtain ⟨c', hs, hrep'⟩ := hf.of_ok h
    obtain ⟨hlen, hc, hkeys⟩ := specRun_closed _ _ _ seeds _ _ _ _ hs
    simp only [rootDraws, List.length_map] at hlen hkeys
    refine ⟨hlen, ?_, fun i hi => ?_⟩
    · have : c' [] = fun t => c t + countStream fb seeds t names := by
        funext t; rw [hc, countStream_eq_countPos]
      rw [← this]; exact hrep'
    · obtain ⟨n', k, hk, hb⟩ := hkeys i hi
      simp only [List.getElem_map, ← List.map_take] at hk hb
      exact ⟨n', k, hk, by rw [hb, countStream_eq_countPos]; rfl⟩

/-- structural size of a key term: a key differs from the keys derived from it (`split_foldIn_ne`) -/
def SymKey.size : SymKey → Nat
  | .seed _ => 1
  | .foldStatic k _ => k.size + 1
  | .foldIn k _ => k.size + 1
  | .split k _ _ => k.size + 1

theorem split_foldIn_ne (k : SymKey) (c : Nat) (shape idx : List Nat) : SymKey.split (.foldIn k c) shape idx ≠ k := by
  intro h
  have := congrArg SymKey.size h
  simp [SymKey.size] at this
  omega

/-- what `reseed` does to one stream object -/
def reseedOne (newKeys : List (String × SymKey)) (s : Stream) : Stream :=
  match find? s.tag newKeys with
  | some k => { s with key := .scalar k, count := .scalar 0 }
  | none => s

/-- a requested stream that is split (`reseed` raises on it) -/
def NamedSplit (newKeys : List (String × SymKey)) (s : Stream) : Prop :=
  (find? s.tag newKeys).isSome ∧ ∃ k shape, s.key = .batched k shape

theorem reseedLoop_cons_of_split {ι : Type} (newKeys : List (String × SymKey)) (n : ι) (s : Stream) (rest : List (ι × Stream))
    (h : NamedSplit newKeys s) : reseedLoop newKeys ((n, s) :: rest) = .error .nonScalarReseed := by
  obtain ⟨h1, k0, shape, hk⟩ := h
  obtain ⟨k, hf⟩ := Option.isSome_iff_exists.mp h1
  simp only [reseedLoop, hf, hk]

theorem reseedLoop_cons {ι : Type} (newKeys : List (String × SymKey)) (n : ι) (s : Stream) (rest : List (ι × Stream))
    (h : ¬ NamedSplit newKeys s) :
    reseedLoop newKeys ((n, s) :: rest) = (reseedLoop newKeys rest).map (fun rest' => (n, reseedOne newKeys s) :: rest') := by
  simp only [reseedLoop, reseedOne]
  cases hf : find? s.tag newKeys with
  | none => cases reseedLoop newKeys rest <;> rfl
  | some k =>
    cases hk : s.key with
    | scalar k0 => cases reseedLoop newKeys rest <;> rfl
    | batched k0 shape => exact absurd ⟨by rw [hf]; rfl, k0, shape, hk⟩ h

theorem reseedLoop_ok {ι : Type} (newKeys : List (String × SymKey)) : ∀ (objs : List (ι × Stream)),
    (∀ p ∈ objs, ¬ NamedSplit newKeys p.2) →
    reseedLoop newKeys objs = .ok (objs.map (fun p => (p.1, reseedOne newKeys p.2))) := by
  intro objs
  induction objs with
  | nil => intro _; rfl
  | cons a rest ih =>
    intro h
    rw [reseedLoop_cons newKeys a.1 a.2 rest (h a List.mem_cons_self), ih (fun p hp => h p (List.mem_cons_of_mem _ hp))]
    rfl

theorem reseedLoop_error {ι : Type} (newKeys : List (String × SymKey)) : ∀ (objs : List (ι × Stream)),
    (∃ p ∈ objs, NamedSplit newKeys p.2) → reseedLoop newKeys objs = .error .nonScalarReseed := by
  intro objs
  induction objs with
  | nil => rintro ⟨p, hp, _⟩; cases hp
  | cons a rest ih =>
    rintro ⟨p, hp, hns⟩
    by_cases hhead : NamedSplit newKeys a.2
    · exact reseedLoop_cons_of_split newKeys a.1 a.2 rest hhead
    · rw [reseedLoop_cons newKeys a.1 a.2 rest hhead,
        ih ⟨p, (List.mem_cons.mp hp).resolve_left (fun e => hhead (e ▸ hns)), hns⟩]
      rfl

end Flax.Rng
