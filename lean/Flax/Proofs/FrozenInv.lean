/-
The separation invariant `Sep` of the FrozenDict heap model (`Model/Frozen.lean`): an API call (`step_api`) and a write
of the user (`sep_write`) keep it and leave the objects FrozenDicts are made of, and the values they denote, as they
were (`step_keeps_frozen`).  `…_spec`: the call keeps `HeapInv` and its result is of the class stated.
-/
import Flax.Proofs.FrozenAbs

namespace Flax.C15
open Flax.Frozen

def Ext (h h' : Heap) : Prop := ∃ ext, h' = h ++ ext

theorem ext_iff_prefix {h h' : Heap} : Ext h h' ↔ h <+: h' :=
  ⟨fun ⟨e, he⟩ => ⟨e, he.symm⟩, fun ⟨e, he⟩ => ⟨e, he.symm⟩⟩

/-! `Obj.dict`'s ghost flag says whether a dict was allocated as (part of) a FrozenDict's `_dict`.  The
invariant is local: owned dicts point only to older owned dicts and FrozenDict objects, user dicts only to user
dicts and FrozenDict objects; the `_dict` of a FrozenDict is owned and older than it; keys are distinct; the user
holds only user dicts, FrozenDict objects and leaves.  `frozen_separation` restates the consequence without the flag. -/

def isUser (h : Heap) (a : Addr) : Prop := ∃ kvs, h[a]? = some (.dict false kvs)
def isOwned (h : Heap) (a : Addr) : Prop := ∃ kvs, h[a]? = some (.dict true kvs)
def isFrozen (h : Heap) (a : Addr) : Prop := ∃ i, h[a]? = some (.frozen i)

/-- values a user may hold / a user dict may contain -/
def UserVal (h : Heap) : Val → Prop
  | .leaf _ => True
  | .ref a => isUser h a ∨ isFrozen h a

/-- values a FrozenDict's inner dicts may contain: leaves, owned dicts, and FrozenDict *objects*
(`tree_unflatten` stores its children as they are, so a FrozenDict child stays a FrozenDict inside `_dict`) -/
def OwnedVal (h : Heap) : Val → Prop
  | .leaf _ => True
  | .ref a => isOwned h a ∨ isFrozen h a

structure HeapInv (h : Heap) : Prop where
  frozen_inner : ∀ (f i : Addr), h[f]? = some (Obj.frozen i) → isOwned h i
  owned_closed : ∀ (a : Addr) (kvs : List (Key × Val)), h[a]? = some (Obj.dict true kvs) → ∀ p ∈ kvs, OwnedVal h p.2
  user_closed : ∀ (a : Addr) (kvs : List (Key × Val)), h[a]? = some (Obj.dict false kvs) → ∀ p ∈ kvs, UserVal h p.2
  frozen_down : ∀ (f i : Nat), h[f]? = some (Obj.frozen i) → i < f
  keys_nodup : ∀ (a : Addr) (o : Bool) (kvs : List (Key × Val)), h[a]? = some (Obj.dict o kvs) → (kvs.map (·.1)).Nodup
  /-- owned dicts are built bottom-up: they only point to older objects (so a FrozenDict is never cyclic) -/
  owned_down : ∀ (a : Nat) (kvs : List (Key × Val)), h[a]? = some (Obj.dict true kvs) →
    ∀ p ∈ kvs, ∀ b : Nat, p.2 = Val.ref b → b < a

structure Sep (w : World) : Prop where
  heap : HeapInv w.heap
  roots : ∀ v ∈ w.roots, UserVal w.heap v

/-- the class of values a walk allocating dicts with flag `own` produces -/
def Cls : Bool → Heap → Val → Prop
  | true => OwnedVal
  | false => UserVal

def AnyVal (h : Heap) (v : Val) : Prop := UserVal h v ∨ OwnedVal h v

theorem isOwned_mono {h h' : Heap} (e : h <+: h') {a : Addr} (hv : isOwned h a) : isOwned h' a := by
  obtain ⟨kvs, hk⟩ := hv; exact ⟨kvs, get_of_prefix e hk⟩

theorem Cls.leaf {own : Bool} {h : Heap} {l : Leaf} : Cls own h (.leaf l) := by
  cases own <;> trivial

theorem Cls.mono {own : Bool} {h h' : Heap} (e : h <+: h') {v : Val} (hv : Cls own h v) : Cls own h' v := by
  cases v with
  | leaf l => exact Cls.leaf
  | ref a =>
    cases own <;>
      exact hv.imp (fun ⟨kvs, hk⟩ => ⟨kvs, get_of_prefix e hk⟩) (fun ⟨i, hk⟩ => ⟨i, get_of_prefix e hk⟩)

theorem UserVal.mono {h h' : Heap} (e : h <+: h') {v : Val} (hv : UserVal h v) : UserVal h' v :=
  Cls.mono (own := false) e hv

theorem OwnedVal.mono {h h' : Heap} (e : h <+: h') {v : Val} (hv : OwnedVal h v) : OwnedVal h' v :=
  Cls.mono (own := true) e hv

theorem AnyVal.mono {h h' : Heap} (e : h <+: h') {v : Val} (hv : AnyVal h v) : AnyVal h' v :=
  hv.imp (UserVal.mono e) (OwnedVal.mono e)

theorem Cls.new_dict {own : Bool} {h : Heap} {kvs : List (Key × Val)} :
    Cls own (h ++ [.dict own kvs]) (.ref h.length) := by
  cases own <;> exact Or.inl ⟨kvs, by simp⟩

theorem Cls.new_frozen {own : Bool} {h : Heap} {j : Addr} : Cls own (h ++ [.frozen j]) (.ref h.length) := by
  cases own <;> exact Or.inr ⟨j, by simp⟩

theorem Cls.lt_length {own : Bool} {h : Heap} {b : Addr} (hv : Cls own h (.ref b)) : b < h.length := by
  cases own <;> rcases hv with ⟨_, hk⟩ | ⟨_, hk⟩ <;> exact lt_length_of_get hk

theorem Cls.any {o : Bool} {h : Heap} {v : Val} (hv : Cls o h v) : AnyVal h v := by
  cases o
  · exact Or.inl hv
  · exact Or.inr hv

/-- What the invariant asks of the object at address `a`: `HeapInv` is this for every object (`heapInv_iff`), so an
allocation or a write keeps it if the one new object is in order and the old ones still are. -/
def ObjOk (h : Heap) (a : Addr) : Obj → Prop
  | .dict own kvs => (∀ p ∈ kvs, Cls own h p.2) ∧ (kvs.map (·.1)).Nodup ∧
      (own = true → ∀ p ∈ kvs, ∀ b : Nat, p.2 = Val.ref b → b < a)
  | .frozen i => isOwned h i ∧ i < a

theorem heapInv_iff {h : Heap} : HeapInv h ↔ ∀ a o, h[a]? = some o → ObjOk h a o := by
  constructor
  · intro hi a o hg
    cases o with
    | frozen i => exact ⟨hi.frozen_inner a i hg, hi.frozen_down a i hg⟩
    | dict own kvs =>
      cases own with
      | false => exact ⟨hi.user_closed a kvs hg, hi.keys_nodup a _ kvs hg, fun e => nomatch e⟩
      | true => exact ⟨hi.owned_closed a kvs hg, hi.keys_nodup a _ kvs hg, fun _ => hi.owned_down a kvs hg⟩
  · intro H
    exact ⟨fun f i hg => (H f _ hg).1, fun a kvs hg => (H a _ hg).1, fun a kvs hg => (H a _ hg).1,
      fun f i hg => (H f _ hg).2, fun a o kvs hg => (H a _ hg).2.1, fun a kvs hg => (H a _ hg).2.2 rfl⟩

theorem HeapInv.entries {h : Heap} (hi : HeapInv h) {a : Addr} {o : Bool} {kvs : List (Key × Val)}
    (hg : h[a]? = some (.dict o kvs)) : ∀ p ∈ kvs, Cls o h p.2 :=
  (heapInv_iff.mp hi a _ hg).1

theorem HeapInv.inner {h : Heap} (hi : HeapInv h) {f i : Addr} {o : Bool} {kvs : List (Key × Val)}
    (hf : h[f]? = some (.frozen i)) (hg : h[i]? = some (.dict o kvs)) :
    (∀ p ∈ kvs, OwnedVal h p.2) ∧ (kvs.map (·.1)).Nodup := by
  obtain ⟨kvs0, h0⟩ := hi.frozen_inner f i hf
  cases hg.symm.trans h0
  exact ⟨hi.owned_closed i kvs h0, hi.keys_nodup i true kvs h0⟩

theorem ObjOk.mono {h h' : Heap} (e : h <+: h') {a : Addr} {o : Obj} (ho : ObjOk h a o) : ObjOk h' a o := by
  cases o with
  | dict own kvs => exact ⟨fun p hp => Cls.mono e (ho.1 p hp), ho.2⟩
  | frozen i => exact ⟨isOwned_mono e ho.1, ho.2⟩

theorem HeapInv.alloc {h : Heap} (hi : HeapInv h) (o : Obj) (ho : ObjOk h h.length o) : HeapInv (h ++ [o]) := by
  refine heapInv_iff.mpr fun a x hg => ObjOk.mono (List.prefix_append _ _) ?_
  rcases Lists.get_append_one hg with h1 | ⟨rfl, rfl⟩
  · exact heapInv_iff.mp hi a x h1
  · exact ho

theorem HeapInv.alloc_dict {h : Heap} (hi : HeapInv h) (own : Bool) (kvs : List (Key × Val))
    (hk : ∀ p ∈ kvs, Cls own h p.2) (hn : (kvs.map (·.1)).Nodup) : HeapInv (h ++ [.dict own kvs]) :=
  hi.alloc _ ⟨hk, hn, fun e p hp b hb => Cls.lt_length (own := own) (hb ▸ hk p hp)⟩

theorem HeapInv.alloc_frozen {h : Heap} (hi : HeapInv h) (j : Addr) (hj : isOwned h j) :
    HeapInv (h ++ [.frozen j]) :=
  hi.alloc _ ⟨hj, let ⟨_, hk⟩ := hj; lt_length_of_get hk⟩

theorem HeapInv.alloc_user_dict {h : Heap} (hi : HeapInv h) {kvs : List (Key × Val)}
    (hk : ∀ p ∈ kvs, UserVal h p.2) (hn : (kvs.map (·.1)).Nodup) :
    HeapInv (h ++ [.dict false kvs]) ∧ UserVal (h ++ [.dict false kvs]) (.ref h.length) :=
  ⟨hi.alloc_dict false kvs hk hn, Cls.new_dict (own := false)⟩

theorem HeapInv.alloc_frozenDict {h : Heap} (hi : HeapInv h) {kvs : List (Key × Val)}
    (hk : ∀ p ∈ kvs, OwnedVal h p.2) (hn : (kvs.map (·.1)).Nodup) :
    HeapInv (h ++ [.dict true kvs, .frozen h.length]) ∧
      UserVal (h ++ [.dict true kvs, .frozen h.length]) (.ref (h.length + 1)) := by
  have i2 := (hi.alloc_dict true kvs hk hn).alloc_frozen h.length ⟨kvs, by simp⟩
  rw [List.append_assoc] at i2
  exact ⟨i2, Or.inr ⟨h.length, (mkFrozen_objs h kvs).2⟩⟩

/-- the source may be anything valid, except that a walk allocating owned dicts in tree mode only
ever runs over owned dicts (it copies the `_dict` of a FrozenDict) -/
def DeepPre (m : Mode) (own : Bool) (h : Heap) (v : Val) : Prop :=
  AnyVal h v ∧ (m = .tree → own = true → OwnedVal h v)

theorem DeepPre.mono {m : Mode} {own : Bool} {h h' : Heap} (e : h <+: h') {v : Val}
    (hv : DeepPre m own h v) : DeepPre m own h' v :=
  ⟨AnyVal.mono e hv.1, fun h1 h2 => OwnedVal.mono e (hv.2 h1 h2)⟩

theorem DeepPre.of_inner {m : Mode} {own : Bool} {h : Heap} {i : Addr} (hi : isOwned h i) :
    DeepPre m own h (.ref i) :=
  ⟨Or.inr (Or.inl hi), fun _ _ => Or.inl hi⟩

/-- `prepare` is only run with `own = true` (it builds a `_dict`), `unfreeze` only with `own = false`. -/
theorem deep_spec {n : Nat} {m : Mode} {own : Bool} {h h' : Heap} {v v' : Val}
    (hd : deep m own n h v = .ok (h', v')) (hm1 : m = .prepare → own = true)
    (hm2 : m = .unfreeze → own = false) (hi : HeapInv h) (hpre : DeepPre m own h v) :
    HeapInv h' ∧ Cls own h' v' := by
  refine deep_ok_induction
    (motive := fun m own h v h' v' => (m = .prepare → own = true) → (m = .unfreeze → own = false) →
      HeapInv h → DeepPre m own h v → HeapInv h' ∧ Cls own h' v') ?_ ?_ ?_ ?_ ?_ hd hm1 hm2 hi hpre
  · intro m own h l _ _ hi _
    exact ⟨hi, Cls.leaf⟩
  · intro m own n h a o kvs h1 kvs' hget hmap ih hm1 hm2 hi hpre
    have hchild : ∀ p ∈ (if m = .tree then sortKvs kvs else kvs), DeepPre m own h p.2 := by
      intro p hp
      have hp := mem_ord hp
      cases o with
      | true =>
        have := hi.owned_closed a kvs hget p hp
        exact ⟨Or.inr this, fun _ _ => this⟩
      | false =>
        refine ⟨Or.inl (hi.user_closed a kvs hget p hp), ?_⟩
        intro h1 h2
        -- an owned tree walk does not start from a user dict
        rcases hpre.2 h1 h2 with ⟨kvs2, hk2⟩ | ⟨j2, hk2⟩ <;> (rw [hget] at hk2; cases hk2)
    obtain ⟨i1, q1⟩ := mapKvs_spec deep_prefix DeepPre.mono Cls.mono
      (fun hi hp hd => ih hd hm1 hm2 hi hp) hi hchild hmap
    exact ⟨i1.alloc_dict own kvs' q1 (by rw [mapKvs_keys hmap]; exact nodup_ord (hi.keys_nodup a o kvs hget)),
      Cls.new_dict⟩
  · intro own h a i hget hm1 _ hi _
    rw [hm1 rfl]
    exact ⟨hi, Or.inl (hi.frozen_inner a i hget)⟩
  · intro own n h a i h' v' hget _ ih _ _ hi _
    exact ih (by simp) (by simp) hi (.of_inner (hi.frozen_inner a i hget))
  · intro own n h a i h1 j hget hr ih _ _ hi _
    obtain ⟨i1, _⟩ := ih (by simp) (by simp) hi (.of_inner (hi.frozen_inner a i hget))
    obtain ⟨kvsi, hgi⟩ := hi.frozen_inner a i hget
    obtain ⟨j', kvsj, hj1, hj2⟩ := deep_of_dict hgi hr
    cases hj1
    exact ⟨i1.alloc_frozen j ⟨kvsj, hj2⟩, Cls.new_frozen⟩

theorem deep_user_spec {n : Nat} {m : Mode} {h : Heap} {v : Val} {h' : Heap} {v' : Val}
    (hm : m ≠ .prepare) (hi : HeapInv h) (hv : UserVal h v)
    (hd : deep m false n h v = .ok (h', v')) : HeapInv h' ∧ UserVal h' v' :=
  deep_spec hd (fun e => absurd e hm) (fun _ => rfl) hi ⟨Or.inl hv, by simp⟩

theorem treeCopy_spec {h : Heap} {a : Addr} {kvs : List (Key × Val)} {n : Nat} {h1 : Heap}
    {kvs' : List (Key × Val)} (hi : HeapInv h) (hg : h[a]? = some (.dict false kvs))
    (hm : mapKvs (deep .tree false n) h (sortKvs kvs) = .ok (h1, kvs')) :
    HeapInv h1 ∧ (∀ p ∈ kvs', UserVal h1 p.2) ∧ (kvs'.map (·.1)).Nodup := by
  obtain ⟨i1, u1⟩ := mapKvs_spec (Pin := UserVal) (Q := UserVal) deep_prefix UserVal.mono UserVal.mono
    (fun hi hp hd => deep_user_spec (by simp) hi hp hd) hi
    (fun p hp => hi.user_closed a kvs hg p (mem_sortKvs_iff.mp hp)) hm
  exact ⟨i1, u1, by rw [mapKvs_keys hm]; exact nodup_sortKvs (hi.keys_nodup a false kvs hg)⟩

theorem mkFrozen_spec {h : Heap} {kvs : List (Key × Val)} {h' : Heap} {v' : Val}
    (hi : HeapInv h) (hk : ∀ p ∈ kvs, AnyVal h p.2) (hn : (kvs.map (·.1)).Nodup)
    (hm : mkFrozen h kvs = .ok (h', v')) :
    HeapInv h' ∧ UserVal h' v' := by
  obtain ⟨h1, kvs', hmap, rfl, rfl⟩ := mkFrozen_ok hm
  obtain ⟨i1, q1⟩ := mapKvs_spec (Pin := AnyVal) (Q := OwnedVal) deep_prefix AnyVal.mono OwnedVal.mono
    (fun hi hp hd => deep_spec (own := true) hd (by simp) (by simp) hi ⟨hp, by simp⟩) hi hk hmap
  exact i1.alloc_frozenDict q1 (by rw [mapKvs_keys hmap]; exact hn)

theorem wrapVal_spec {h : Heap} {v : Val} {h' : Heap} {v' : Val}
    (hi : HeapInv h) (hv : AnyVal h v) (hm : wrapVal h v = .ok (h', v')) :
    HeapInv h' ∧ UserVal h' v' := by
  rcases wrapVal_ok hm with ⟨rfl, rfl, ⟨l, rfl⟩ | ⟨a, i, rfl, hg⟩⟩ | ⟨a, o, kvs, rfl, hg, hm'⟩
  · exact ⟨hi, trivial⟩
  · exact ⟨hi, Or.inr ⟨i, hg⟩⟩
  · exact mkFrozen_spec hi (fun p hp => (hi.entries hg p hp).any) (hi.keys_nodup a o kvs hg) hm'

theorem dictOf_spec {h : Heap} {x : Val} {h' : Heap} {kvs : List (Key × Val)}
    (hi : HeapInv h) (hx : UserVal h x) (hm : dictOf h x = .ok (h', kvs)) :
    HeapInv h' ∧ (∀ p ∈ kvs, UserVal h' p.2) ∧ (kvs.map (·.1)).Nodup := by
  obtain ⟨a, rfl, ⟨o, hg, rfl⟩ | ⟨i, o, kvs0, hg, hgi, hw⟩⟩ := dictOf_ok hm
  · refine ⟨hi, ?_, hi.keys_nodup a o kvs hg⟩
    rcases hx with ⟨kvs1, h1⟩ | ⟨i, h1⟩ <;> cases hg.symm.trans h1
    exact hi.user_closed a _ hg
  · obtain ⟨hown, hn⟩ := hi.inner hg hgi
    obtain ⟨i1, u1⟩ := mapKvs_spec (Pin := AnyVal) (Q := UserVal) wrapVal_prefix AnyVal.mono UserVal.mono
      wrapVal_spec hi (fun p hp => Or.inr (hown p hp)) hw
    exact ⟨i1, u1, by rw [mapKvs_keys hw]; exact hn⟩

/-- `FrozenDict(dict(x))` for a held `x` -/
theorem refreeze_spec {h h1 h2 : Heap} {x r : Val} {xs : List (Key × Val)} (hi : HeapInv h)
    (hx : UserVal h x) (hd : dictOf h x = .ok (h1, xs)) (hm : mkFrozen h1 xs = .ok (h2, r)) :
    HeapInv h2 ∧ UserVal h2 r := by
  obtain ⟨i1, u1, n1⟩ := dictOf_spec hi hx hd
  exact mkFrozen_spec i1 (fun p hp => Or.inl (u1 p hp)) n1 hm

theorem userVal_kvUpdate {h : Heap} {xs ys : List (Key × Val)} (hx : ∀ p ∈ xs, UserVal h p.2)
    (hy : ∀ p ∈ ys, UserVal h p.2) : ∀ p ∈ kvUpdate xs ys, UserVal h p.2 :=
  fun p hp => (mem_kvUpdate hp).elim (hx p) (hy p)

theorem root_valid {w : World} (hs : Sep w) {i : Nat} {v : Val} (hr : w.roots[i]? = some v) :
    UserVal w.heap v := hs.roots v (List.mem_of_getElem? hr)

theorem root_dict_user {w : World} (hs : Sep w) {i : Nat} {a : Addr} {o : Bool}
    {kvs : List (Key × Val)} (hr : w.roots[i]? = some (.ref a)) (hg : w.heap[a]? = some (.dict o kvs)) :
    o = false := by
  rcases root_valid hs hr with ⟨k1, h1⟩ | ⟨j, h1⟩ <;> cases hg.symm.trans h1
  rfl

/-- `fd[k]` on a held FrozenDict -/
theorem wrap_inner_spec {h h1 : Heap} {f i : Addr} {kvs : List (Key × Val)} {k : Key} {v v' : Val}
    (hi : HeapInv h) (hf : h[f]? = some (.frozen i)) (hin : innerKvs h i = .ok kvs)
    (hk : kvGet kvs k = some v) (hw : wrapVal h v = .ok (h1, v')) : HeapInv h1 ∧ UserVal h1 v' := by
  obtain ⟨o, hg⟩ := innerKvs_ok.mp hin
  exact wrapVal_spec hi (Or.inr ((hi.inner hf hg).1 _ (kvGet_mem hk))) hw

theorem get_set_other {h : Heap} {a b : Addr} {o x y : Obj} (hg : h[a]? = some y) (hb : h[b]? = some x)
    (hne : x ≠ y) : (h.set a o)[b]? = some x := by
  have hab : a ≠ b := by rintro rfl; exact hne (Option.some.inj (hb.symm.trans hg))
  rw [List.getElem?_set_ne hab]; exact hb

theorem UserVal.set {h : Heap} {a : Addr} {kvs kvs' : List (Key × Val)} {v : Val}
    (hg : h[a]? = some (.dict false kvs)) (hv : UserVal h v) : UserVal (h.set a (.dict false kvs')) v := by
  cases v with
  | leaf l => trivial
  | ref b =>
    by_cases hab : a = b
    · subst hab; exact Or.inl ⟨kvs', List.getElem?_set_self (lt_length_of_get hg)⟩
    · exact hv.imp (fun ⟨k1, h1⟩ => ⟨k1, by rw [List.getElem?_set_ne hab]; exact h1⟩)
        (fun ⟨i, h1⟩ => ⟨i, by rw [List.getElem?_set_ne hab]; exact h1⟩)

theorem isOwned_set {h : Heap} {a b : Addr} {kvs kvs' : List (Key × Val)}
    (hg : h[a]? = some (.dict false kvs)) (hv : isOwned h b) : isOwned (h.set a (.dict false kvs')) b :=
  hv.imp fun _ h1 => get_set_other hg h1 (by simp)

theorem OwnedVal.set {h : Heap} {a : Addr} {kvs kvs' : List (Key × Val)} {v : Val}
    (hg : h[a]? = some (.dict false kvs)) (hv : OwnedVal h v) : OwnedVal (h.set a (.dict false kvs')) v := by
  cases v with
  | leaf l => trivial
  | ref b => exact hv.imp (isOwned_set hg) (fun ⟨i, h1⟩ => ⟨i, get_set_other hg h1 (by simp)⟩)

theorem get_set_cases {h : Heap} {a b : Addr} {o x y : Obj} (hg : h[a]? = some y)
    (hb : (h.set a o)[b]? = some x) : (b = a ∧ x = o) ∨ h[b]? = some x := by
  by_cases hab : a = b
  · subst hab
    rw [List.getElem?_set_self (lt_length_of_get hg)] at hb
    exact Or.inl ⟨rfl, (Option.some.inj hb).symm⟩
  · rw [List.getElem?_set_ne hab] at hb
    exact Or.inr hb

theorem ObjOk.set {h : Heap} {a b : Addr} {kvs kvs' : List (Key × Val)} {x : Obj}
    (hg : h[a]? = some (.dict false kvs)) (hx : ObjOk h b x) : ObjOk (h.set a (.dict false kvs')) b x := by
  cases x with
  | frozen i => exact ⟨isOwned_set hg hx.1, hx.2⟩
  | dict own kvs2 =>
    cases own with
    | false => exact ⟨fun p hp => UserVal.set hg (hx.1 p hp), hx.2⟩
    | true => exact ⟨fun p hp => OwnedVal.set hg (hx.1 p hp), hx.2⟩

theorem HeapInv.set_user {h : Heap} {a : Addr} {kvs kvs' : List (Key × Val)} (hi : HeapInv h)
    (hg : h[a]? = some (.dict false kvs)) (hk : ∀ p ∈ kvs', UserVal h p.2)
    (hn : (kvs'.map (·.1)).Nodup) :
    HeapInv (h.set a (.dict false kvs')) := by
  refine heapInv_iff.mpr fun b x hb => ?_
  rcases get_set_cases hg hb with ⟨_, rfl⟩ | h1
  · exact ⟨fun p hp => UserVal.set hg (hk p hp), hn, fun e => nomatch e⟩
  · exact ObjOk.set hg (heapInv_iff.mp hi b x h1)

theorem childOk_owned {h : Heap} {v : Val} (hc : childOk h v = true) : OwnedVal h v := by
  cases v with
  | leaf l => trivial
  | ref a =>
    simp only [childOk] at hc
    split at hc
    · rename_i i hf; exact Or.inr ⟨i, hf⟩
    · cases hc

theorem step_unflatten_ok {w w' : World} {ks : List (Key × Nat)} (hs : step w (.unflatten ks) = .ok w') :
    ∃ kvs, resolveKs w.roots ks = some kvs ∧ (∀ p ∈ kvs, childOk w.heap p.2 = true) ∧ (kvs.map (·.1)).Nodup ∧
      w' = ⟨w.heap ++ [.dict true kvs, .frozen w.heap.length], w.roots ++ [.ref (w.heap.length + 1)]⟩ := by
  dsimp only [step] at hs
  split at hs
  · cases hs
  · next kvs hres =>
    split at hs
    · next hok =>
      cases hs
      simp only [Bool.and_eq_true, List.all_eq_true, decide_eq_true_eq] at hok
      exact ⟨kvs, hres, hok.1, hok.2, rfl⟩
    · cases hs

/-- `copy(d, add)` / `copy(d, view)` on a held dict `d`: the tree_map copy of `d` updated with `dict(add)` -/
theorem treeCopy_update_spec {w : World} (hsep : Sep w) {x ai n : Nat} {a : Addr} {o : Bool} {av : Val}
    {kvs kvs' ys : List (Key × Val)} {h1 h2 : Heap} (hr : w.roots[x]? = some (.ref a))
    (hg : w.heap[a]? = some (.dict o kvs)) (hadd : w.roots[ai]? = some av)
    (hmap : mapKvs (deep .tree false n) w.heap (sortKvs kvs) = .ok (h1, kvs'))
    (hd : dictOf h1 av = .ok (h2, ys)) :
    HeapInv (h2 ++ [.dict false (kvUpdate kvs' ys)]) ∧
      UserVal (h2 ++ [.dict false (kvUpdate kvs' ys)]) (.ref h2.length) := by
  cases root_dict_user hsep hr hg
  obtain ⟨i1, u1, n1⟩ := treeCopy_spec hsep.heap hg hmap
  obtain ⟨i2, u2, _⟩ := dictOf_spec i1 (UserVal.mono (mapKvs_prefix deep_prefix hmap) (root_valid hsep hadd)) hd
  exact i2.alloc_user_dict (userVal_kvUpdate (fun p hp => UserVal.mono (dictOf_prefix hd) (u1 p hp)) u2)
    (nodup_kvUpdate n1)

theorem user_entry {w : World} (hsep : Sep w) {x : Nat} {a : Addr} {o : Bool} {kvs : List (Key × Val)}
    (hr : w.roots[x]? = some (.ref a)) (hg : w.heap[a]? = some (.dict o kvs)) :
    ∀ p ∈ kvs, UserVal w.heap p.2 := by
  cases root_dict_user hsep hr hg
  exact hsep.heap.user_closed a kvs hg

/-- One case per API call.  `api_only_allocates`, `step_stable` and `step_length_le` read the part that needs no
hypothesis, hence `Sep w →` inside the conclusion. -/
theorem step_api {w w' : World} {op : Op} (hop : op.isUserWrite = false) (hs : step w op = .ok w') :
    w.heap <+: w'.heap ∧ ∃ new, w'.roots = w.roots ++ new ∧
      (Sep w → HeapInv w'.heap ∧ ∀ v ∈ new, UserVal w'.heap v) := by
  cases op with
  | setKey d k src => cases hop
  | delKey d k => cases hop
  | newDict =>
    cases hs
    exact ⟨List.prefix_append _ _, _, rfl, fun hsep =>
      (hsep.heap.alloc_user_dict (kvs := []) (by simp) (by simp)).imp_right List.forall_mem_singleton.mpr⟩
  | newLeaf l =>
    cases hs
    exact ⟨List.prefix_rfl, _, rfl, fun hsep => ⟨hsep.heap, List.forall_mem_singleton.mpr trivial⟩⟩
  | getitem x k =>
    -- `simp only [step]` would instantiate the match over all fifteen operations first
    dsimp only [step] at hs
    obtain ⟨a, hr, hs⟩ := ok_of_root hs
    rcases ok_of_obj hs with ⟨o, kvs, hg, hs⟩ | ⟨i, hg, hs⟩
    · obtain ⟨v, hk, hs⟩ := ok_of_some' hs
      cases hs
      exact ⟨List.prefix_rfl, _, rfl, fun hsep =>
        ⟨hsep.heap, List.forall_mem_singleton.mpr (user_entry hsep hr hg _ (kvGet_mem hk))⟩⟩
    · obtain ⟨kvs, hin, hs⟩ := ok_of_inner hs
      obtain ⟨v, hk, hs⟩ := ok_of_some hs
      obtain ⟨h1, v', hw, hs⟩ := ok_of_callV hs
      cases hs
      exact ⟨wrapVal_prefix hw, _, rfl, fun hsep =>
        (wrap_inner_spec hsep.heap hg hin hk hw).imp_right List.forall_mem_singleton.mpr⟩
  | get x k dflt =>
    dsimp only [step] at hs
    obtain ⟨a, hr, hs⟩ := ok_of_root hs
    rcases ok_of_obj hs with ⟨o, kvs, hg, hs⟩ | ⟨i, hg, hs⟩
    · cases hk : kvGet kvs k with
      | none =>
        rw [hk] at hs; cases hs
        exact ⟨List.prefix_rfl, _, rfl, fun hsep => ⟨hsep.heap, List.forall_mem_singleton.mpr trivial⟩⟩
      | some v =>
        rw [hk] at hs; cases hs
        exact ⟨List.prefix_rfl, _, rfl, fun hsep =>
          ⟨hsep.heap, List.forall_mem_singleton.mpr (user_entry hsep hr hg _ (kvGet_mem hk))⟩⟩
    · obtain ⟨kvs, hin, hs⟩ := ok_of_inner hs
      cases hk : kvGet kvs k with
      | none =>
        rw [hk] at hs; cases hs
        exact ⟨List.prefix_rfl, _, rfl, fun hsep => ⟨hsep.heap, List.forall_mem_singleton.mpr trivial⟩⟩
      | some v =>
        rw [hk] at hs
        obtain ⟨h1, v', hw, hs⟩ := ok_of_callV hs
        cases hs
        exact ⟨wrapVal_prefix hw, _, rfl, fun hsep =>
          (wrap_inner_spec hsep.heap hg hin hk hw).imp_right List.forall_mem_singleton.mpr⟩
  | items x =>
    dsimp only [step] at hs
    obtain ⟨a, hr, hs⟩ := ok_of_root hs
    rcases ok_of_obj hs with ⟨o, kvs, hg, hs⟩ | ⟨i, hg, hs⟩
    · cases hs
      exact ⟨List.prefix_rfl, _, rfl, fun hsep => ⟨hsep.heap, List.forall_mem_map.mpr (user_entry hsep hr hg)⟩⟩
    · obtain ⟨h1, kvs, hd, hs⟩ := ok_of_callK hs
      cases hs
      refine ⟨dictOf_prefix hd, _, rfl, fun hsep => ?_⟩
      obtain ⟨i1, u1, _⟩ := dictOf_spec hsep.heap (root_valid hsep hr) hd
      exact ⟨i1, List.forall_mem_map.mpr u1⟩
  | freeze x =>
    dsimp only [step] at hs
    obtain ⟨v, hr, hs⟩ := ok_of_some' hs
    obtain ⟨h1, xs, hd, hs⟩ := ok_of_callK hs
    obtain ⟨h2, r, hm, hs⟩ := ok_of_callV hs
    cases hs
    exact ⟨(dictOf_prefix hd).trans (mkFrozen_prefix hm), _, rfl, fun hsep =>
      (refreeze_spec hsep.heap (root_valid hsep hr) hd hm).imp_right List.forall_mem_singleton.mpr⟩
  | unfreeze x | treeMap x =>
    dsimp only [step] at hs
    obtain ⟨v, hr, hs⟩ := ok_of_some' hs
    obtain ⟨h1, r, hd, hs⟩ := ok_of_callV hs
    cases hs
    exact ⟨deep_prefix hd, _, rfl, fun hsep =>
      (deep_user_spec (by simp) hsep.heap (root_valid hsep hr) hd).imp_right List.forall_mem_singleton.mpr⟩
  | pickle x =>
    dsimp only [step] at hs
    obtain ⟨a, hr, hs⟩ := ok_of_root hs
    rcases ok_of_obj' hs with ⟨o, kvs, hg, hs⟩ | ⟨i, hg, hs⟩
    · cases hs
    obtain ⟨h1, u, hd, hs⟩ := ok_of_callV hs
    obtain ⟨h2, xs, hdo, hs⟩ := ok_of_callK hs
    obtain ⟨h3, r, hm, hs⟩ := ok_of_callV hs
    cases hs
    refine ⟨((deep_prefix hd).trans (dictOf_prefix hdo)).trans (mkFrozen_prefix hm), _, rfl, fun hsep => ?_⟩
    obtain ⟨i1, u1⟩ := deep_user_spec (by simp) hsep.heap (root_valid hsep hr) hd
    exact (refreeze_spec i1 u1 hdo hm).imp_right List.forall_mem_singleton.mpr
  | pop x k =>
    dsimp only [step] at hs
    obtain ⟨a, hr, hs⟩ := ok_of_root hs
    rcases ok_of_obj' hs with ⟨o, kvs, hg, hs⟩ | ⟨i, hg, hs⟩
    · obtain ⟨h1, kvs', hmap, hs⟩ := ok_of_callK hs
      obtain ⟨value, hk, hs⟩ := ok_of_some hs
      cases hs
      refine ⟨(mapKvs_prefix deep_prefix hmap).trans (List.prefix_append _ _), _, rfl, fun hsep => ?_⟩
      cases root_dict_user hsep hr hg
      obtain ⟨i1, u1, n1⟩ := treeCopy_spec hsep.heap hg hmap
      obtain ⟨i2, u2⟩ := i1.alloc_user_dict (fun p hp => u1 p (mem_kvErase hp)) (nodup_kvErase k n1)
      exact ⟨i2, List.forall_mem_cons.mpr ⟨u2,
        List.forall_mem_singleton.mpr (UserVal.mono (List.prefix_append _ _) (u1 _ (kvGet_mem hk)))⟩⟩
    · obtain ⟨kvs, hin, hs⟩ := ok_of_inner hs
      obtain ⟨v, hk, hs⟩ := ok_of_some hs
      obtain ⟨h1, value, hw, hs⟩ := ok_of_callV hs
      obtain ⟨h2, r, hm, hs⟩ := ok_of_callV hs
      cases hs
      have e1 := wrapVal_prefix hw
      have e2 := mkFrozen_prefix hm
      refine ⟨e1.trans e2, _, rfl, fun hsep => ?_⟩
      obtain ⟨o, hgi⟩ := innerKvs_ok.mp hin
      obtain ⟨hown, hn⟩ := hsep.heap.inner hg hgi
      obtain ⟨i1, u1⟩ := wrapVal_spec hsep.heap (Or.inr (hown _ (kvGet_mem hk))) hw
      obtain ⟨i2, u2⟩ := mkFrozen_spec i1
        (fun p hp => Or.inr (OwnedVal.mono e1 (hown p (mem_kvErase hp)))) (nodup_kvErase _ hn) hm
      exact ⟨i2, List.forall_mem_cons.mpr ⟨u2, List.forall_mem_singleton.mpr (UserVal.mono e2 u1)⟩⟩
  | copy x add =>
    cases add with
    | none =>
      dsimp only [step] at hs
      obtain ⟨a, hr, hs⟩ := ok_of_root hs
      rcases ok_of_obj' hs with ⟨o, kvs, hg, hs⟩ | ⟨i, hg, hs⟩
      · obtain ⟨h1, kvs', hmap, hs⟩ := ok_of_callK hs
        cases hs
        refine ⟨(mapKvs_prefix deep_prefix hmap).trans (List.prefix_append _ _), _, rfl, fun hsep => ?_⟩
        cases root_dict_user hsep hr hg
        obtain ⟨i1, u1, n1⟩ := treeCopy_spec hsep.heap hg hmap
        exact (i1.alloc_user_dict u1 n1).imp_right List.forall_mem_singleton.mpr
      · obtain ⟨h1, xs, hd, hs⟩ := ok_of_callK hs
        obtain ⟨h2, r, hm, hs⟩ := ok_of_callV hs
        cases hs
        exact ⟨(dictOf_prefix hd).trans (mkFrozen_prefix hm), _, rfl, fun hsep =>
          (refreeze_spec hsep.heap (root_valid hsep hr) hd hm).imp_right List.forall_mem_singleton.mpr⟩
    | some ai =>
      dsimp only [step] at hs
      obtain ⟨a, hr, hs⟩ := ok_of_root hs
      rcases ok_of_obj' hs with ⟨o, kvs, hg, hs⟩ | ⟨i, hg, hs⟩
      · obtain ⟨h1, kvs', hmap, hs⟩ := ok_of_callK hs
        obtain ⟨av, hadd, hs⟩ := ok_of_some hs
        obtain ⟨h2, ys, hd, hs⟩ := ok_of_callK hs
        cases hs
        exact ⟨((mapKvs_prefix deep_prefix hmap).trans (dictOf_prefix hd)).trans (List.prefix_append _ _), _, rfl,
          fun hsep => (treeCopy_update_spec hsep hr hg hadd hmap hd).imp_right List.forall_mem_singleton.mpr⟩
      · obtain ⟨h1, xs, hd, hs⟩ := ok_of_callK hs
        obtain ⟨av, hadd, hs⟩ := ok_of_some hs
        obtain ⟨h2, u, hdeep, hs⟩ := ok_of_callV hs
        obtain ⟨h3, ys, hd2, hs⟩ := ok_of_callK hs
        obtain ⟨h4, r, hm, hs⟩ := ok_of_callV hs
        cases hs
        have e1 := dictOf_prefix hd
        have e2 := deep_prefix hdeep
        have e3 := dictOf_prefix hd2
        refine ⟨((e1.trans e2).trans e3).trans (mkFrozen_prefix hm), _, rfl, fun hsep => ?_⟩
        obtain ⟨i1, u1, n1⟩ := dictOf_spec hsep.heap (root_valid hsep hr) hd
        obtain ⟨i2, u2⟩ := deep_user_spec (by simp) i1 (UserVal.mono e1 (root_valid hsep hadd)) hdeep
        obtain ⟨i3, u3, _⟩ := dictOf_spec i2 u2 hd2
        have hall := userVal_kvUpdate (fun p hp => UserVal.mono (e2.trans e3) (u1 p hp)) u3
        exact (mkFrozen_spec i3 (fun p hp => Or.inl (hall p hp)) (nodup_kvUpdate n1) hm).imp_right List.forall_mem_singleton.mpr
  | copyView x ai =>
    dsimp only [step] at hs
    obtain ⟨a, av, hr, hadd, hs⟩ := ok_of_root₂ hs
    rcases ok_of_obj' hs with ⟨o, kvs, hg, hs⟩ | ⟨i, hg, hs⟩
    · obtain ⟨h1, kvs', hmap, hs⟩ := ok_of_callK hs
      obtain ⟨h2, ys, hd, hs⟩ := ok_of_callK hs
      cases hs
      exact ⟨((mapKvs_prefix deep_prefix hmap).trans (dictOf_prefix hd)).trans (List.prefix_append _ _), _, rfl,
        fun hsep => (treeCopy_update_spec hsep hr hg hadd hmap hd).imp_right List.forall_mem_singleton.mpr⟩
    · obtain ⟨h1, xs, hd, hs⟩ := ok_of_callK hs
      obtain ⟨h2, ys, hd2, hs⟩ := ok_of_callK hs
      obtain ⟨h3, r, hm, hs⟩ := ok_of_callV hs
      cases hs
      have e1 := dictOf_prefix hd
      have e2 := dictOf_prefix hd2
      refine ⟨(e1.trans e2).trans (mkFrozen_prefix hm), _, rfl, fun hsep => ?_⟩
      obtain ⟨i1, u1, n1⟩ := dictOf_spec hsep.heap (root_valid hsep hr) hd
      obtain ⟨i2, u2, _⟩ := dictOf_spec i1 (UserVal.mono e1 (root_valid hsep hadd)) hd2
      have hall := userVal_kvUpdate (fun p hp => UserVal.mono e2 (u1 p hp)) u2
      exact (mkFrozen_spec i2 (fun p hp => Or.inl (hall p hp)) (nodup_kvUpdate n1) hm).imp_right List.forall_mem_singleton.mpr
  | unflatten ks =>
    obtain ⟨kvs, _, hch, hn, rfl⟩ := step_unflatten_ok hs
    exact ⟨List.prefix_append _ _, _, rfl, fun hsep =>
      (hsep.heap.alloc_frozenDict (fun p hp => childOk_owned (hch p hp)) hn).imp_right List.forall_mem_singleton.mpr⟩

theorem step_write {w w' : World} {op : Op} (hop : op.isUserWrite = true) (hs : step w op = .ok w') :
    ∃ (d : Nat) (a : Addr) (o : Bool) (kvs kvs' : List (Key × Val)), w.roots[d]? = some (Val.ref a) ∧ w.heap[a]? = some (Obj.dict o kvs) ∧
      w' = ⟨w.heap.set a (.dict o kvs'), w.roots⟩ ∧ (∀ p ∈ kvs', p ∈ kvs ∨ p.2 ∈ w.roots) ∧
      ((kvs.map (·.1)).Nodup → (kvs'.map (·.1)).Nodup) := by
  cases op with
  | setKey d k src =>
    dsimp only [step] at hs
    obtain ⟨a, v, hr, hsrc, hs⟩ := ok_of_root₂ hs
    rcases ok_of_obj hs with ⟨o, kvs, hg, hs⟩ | ⟨i, hg, hs⟩
    · cases hs
      exact ⟨d, a, o, kvs, kvSet kvs k v, hr, hg, rfl,
        fun p hp => (mem_kvSet hp).imp_right (fun e : p = (k, v) => e ▸ List.mem_of_getElem? hsrc), nodup_kvSet k v⟩
    · cases hs
  | delKey d k =>
    dsimp only [step] at hs
    obtain ⟨a, hr, hs⟩ := ok_of_root hs
    rcases ok_of_obj hs with ⟨o, kvs, hg, hs⟩ | ⟨i, hg, hs⟩
    · split at hs
      · cases hs
        exact ⟨d, a, o, kvs, kvErase kvs k, hr, hg, rfl, fun p hp => Or.inl (mem_kvErase hp), nodup_kvErase k⟩
      · cases hs
    · cases hs
  | _ => cases hop

theorem sep_write {w w' : World} {op : Op} (hs : Sep w) (hop : op.isUserWrite = true)
    (h : step w op = .ok w') : Sep w' := by
  obtain ⟨d, a, o, kvs, kvs', hr, hg, rfl, hmem, hn⟩ := step_write hop h
  cases root_dict_user hs hr hg
  exact ⟨hs.heap.set_user hg
      (fun p hp => (hmem p hp).elim (hs.heap.user_closed a kvs hg p) (hs.roots _))
      (hn (hs.heap.keys_nodup a false kvs hg)),
    fun v hv => UserVal.set hg (hs.roots v hv)⟩

/-- the objects a FrozenDict is made of are where and what they were -/
def Stable (h h' : Heap) : Prop := ∀ a, (isOwned h a ∨ isFrozen h a) → h'[a]? = h[a]?

theorem Stable.of_ext {h h' : Heap} (e : h <+: h') : Stable h h' := by
  intro a ha
  rcases ha with ⟨k, hk⟩ | ⟨i, hk⟩ <;> (rw [hk]; exact get_of_prefix e hk)

theorem Stable.of_set {h : Heap} {a : Addr} {kvs : List (Key × Val)} (o : Obj)
    (hg : h[a]? = some (.dict false kvs)) : Stable h (h.set a o) := by
  intro b hb
  rcases hb with ⟨k, hk⟩ | ⟨i, hk⟩ <;> (rw [hk]; exact get_set_other hg hk (by simp))

theorem step_stable {w w' : World} {op : Op} (hs : Sep w) (h : step w op = .ok w') :
    Stable w.heap w'.heap := by
  by_cases hop : op.isUserWrite = true
  · obtain ⟨d, a, o, kvs, kvs', hr, hg, rfl, _⟩ := step_write hop h
    cases root_dict_user hs hr hg
    exact Stable.of_set _ hg
  · exact Stable.of_ext (step_api (Bool.not_eq_true _ ▸ hop) h).1

theorem abs_owned_stable {h h' : Heap} (hi : HeapInv h) (st : Stable h h') :
    ∀ (n : Nat) (fz : Bool) (v : Val), OwnedVal h v → absVal fz n h' v = absVal fz n h v := by
  intro n
  induction n with
  | zero =>
    intro fz v _
    cases v with
    | leaf l => rw [absVal_leaf, absVal_leaf]
    | ref a => rfl
  | succ n ih =>
    intro fz v hv
    cases v with
    | leaf l => rw [absVal_leaf, absVal_leaf]
    | ref a =>
      rcases hv with ⟨kvs, hk⟩ | ⟨i, hf⟩
      · rw [absVal_dict hk, absVal_dict ((st a (Or.inl ⟨kvs, hk⟩)).trans hk),
          absKvs_congr (fun p hp => ih fz p.2 (hi.owned_closed a kvs hk p hp))]
      · obtain ⟨kvs, hk⟩ := hi.frozen_inner a i hf
        rw [absVal_frozen hf hk,
          absVal_frozen ((st a (Or.inr ⟨i, hf⟩)).trans hf) ((st i (Or.inl ⟨kvs, hk⟩)).trans hk),
          absKvs_congr (fun p hp => ih true p.2 (hi.owned_closed i kvs hk p hp))]

theorem step_keeps_frozen {w w' : World} {op : Op} (hs : Sep w) (h : step w op = .ok w') {f i : Addr}
    (hf : w.heap[f]? = some (.frozen i)) :
    w'.heap[f]? = some (.frozen i) ∧ ∀ fz n, absVal fz n w'.heap (.ref f) = absVal fz n w.heap (.ref f) :=
  have st := step_stable hs h
  ⟨(st f (Or.inr ⟨i, hf⟩)).trans hf, fun fz n => abs_owned_stable hs.heap st n fz (.ref f) (Or.inr ⟨i, hf⟩)⟩

theorem step_length_le {w w' : World} {op : Op} (h : step w op = .ok w') : w.heap.length ≤ w'.heap.length := by
  by_cases hop : op.isUserWrite = true
  · obtain ⟨d, a, o, kvs, kvs', _, _, rfl, _⟩ := step_write hop h
    simp
  · exact (step_api (Bool.not_eq_true _ ▸ hop) h).1.length_le

end Flax.C15
