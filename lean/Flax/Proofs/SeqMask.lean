/- Attention masks (`Flax/Model/Seq.lean` §1): `land`, and with it the fold `combine_masks` runs, is conjunction entry by
entry on what a mask allows and keeps the shape of its first argument. -/
import Flax.Model.Seq

namespace Flax.C13
open Flax.Seq

/-- is position `(i, j)` allowed by the mask (absent entries count as not allowed) -/
def allowedAt (m : Mask) (i j : Nat) : Bool := (entry m i j).any truthy

end Flax.C13

namespace Flax.Seq
open Flax.C13 (allowedAt)

theorem entry_land (a b : Mask) (i j : Nat) :
    entry (land a b) i j = (entry a i j).bind fun x => (entry b i j).map fun y => landI x y := by
  simp only [entry, land, List.getElem?_zipWith]
  cases a[i]? with
  | none => rfl
  | some ra =>
    cases b[i]? with
    | none => simp
    | some rb =>
      simp only [Option.bind_some, List.getElem?_zipWith]
      cases ra[j]? <;> cases rb[j]? <;> rfl

theorem allowedAt_land (a b : Mask) (i j : Nat) :
    allowedAt (land a b) i j = (allowedAt a i j && allowedAt b i j) := by
  simp only [allowedAt, entry_land]
  cases entry a i j with
  | none => rfl
  | some x =>
    cases entry b i j with
    | none => simp
    | some y => simp [truthy, landI]

theorem allowedAt_foldl_land (rest : List Mask) : ∀ (m : Mask) (i j : Nat),
    allowedAt (rest.foldl land m) i j = (allowedAt m i j && rest.all (allowedAt · i j)) := by
  induction rest with
  | nil => intro m i j; simp
  | cons x rest ih => intro m i j; simp [ih, allowedAt_land, Bool.and_assoc]

theorem sameShape_iff {a b : Mask} : sameShape a b = true ↔ a.map List.length = b.map List.length := by
  simp [sameShape]

theorem map_length_land (a b : Mask) (h : sameShape a b = true) :
    (land a b).map List.length = a.map List.length := by
  replace h := sameShape_iff.mp h
  simp only [land]
  induction a generalizing b with
  | nil => simp
  | cons r a ih =>
    cases b with
    | nil => simp at h
    | cons r' b =>
      simp only [List.map_cons, List.cons.injEq] at h
      simp [ih b h.2, h.1]

theorem map_length_foldl_land (rest : List Mask) : ∀ m : Mask, rest.all (sameShape m) = true →
    (rest.foldl land m).map List.length = m.map List.length := by
  induction rest with
  | nil => intro m _; rfl
  | cons x rest ih =>
    intro m h
    rw [List.all_cons, Bool.and_eq_true] at h
    have hs := map_length_land m x h.1
    rw [List.foldl_cons, ih (land m x), hs]
    -- `land m x` has the shape of `m`, so the remaining masks still fit
    exact List.all_eq_true.mpr fun y hy => sameShape_iff.mpr (hs ▸ sameShape_iff.mp (List.all_eq_true.mp h.2 y hy))

theorem combineMasks_of_cons {ms : List (Option Mask)} {m : Mask} {rest : List Mask} (h : ms.filterMap id = m :: rest) :
    combineMasks ms = if rest.all (sameShape m) then .ok (some (rest.foldl land m)) else .error "MaskShape" := by
  rw [combineMasks, h]

theorem combineMasks_eq_ok_none_iff {ms : List (Option Mask)} : combineMasks ms = .ok none ↔ ms.filterMap id = [] := by
  cases h : ms.filterMap id with
  | nil => rw [combineMasks, h]; exact iff_of_true rfl rfl
  | cons m rest => rw [combineMasks_of_cons h]; split <;> simp

end Flax.Seq
