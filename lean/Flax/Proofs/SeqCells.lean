/- The dense layers of the recurrent cells (`Flax/Model/Seq.lean` §4): what a fused layer (kernels concatenated along the
output axis, one matmul, the result split into blocks of `n` units) computes. -/
import Flax.Model.Seq

namespace Flax.Seq

section Blocks
variable {α : Type} {n : Nat}

theorem block_append_zero (a b : List α) (h : a.length = n) : ((a ++ b).drop (0 * n)).take n = a := by
  rw [Nat.zero_mul, List.drop_zero]
  exact List.take_left' h

theorem block_append_succ (a b : List α) (k : Nat) (h : a.length = n) :
    ((a ++ b).drop ((k + 1) * n)).take n = (b.drop (k * n)).take n := by
  rw [Nat.succ_mul, Nat.add_comm, ← List.drop_drop, List.drop_left' h]

theorem block_last (a : List α) (h : a.length = n) : (a.drop (0 * n)).take n = a := by
  rw [Nat.zero_mul, List.drop_zero, ← h, List.take_length]

end Blocks

section Elementwise
variable {R : Type}

theorem vadd_comm [Add R] (hcomm : ∀ a b : R, a + b = b + a) (a b : List R) : vadd a b = vadd b a :=
  List.zipWith_comm_of_comm hcomm

theorem vmul_comm [Mul R] (hcomm : ∀ a b : R, a * b = b * a) (a b : List R) : vmul a b = vmul b a :=
  List.zipWith_comm_of_comm hcomm

theorem vadd_assoc [Add R] (hassoc : ∀ a b c : R, a + b + c = a + (b + c)) (a b c : List R) :
    vadd (vadd a b) c = vadd a (vadd b c) := by
  simp only [vadd]
  induction a generalizing b c with
  | nil => simp
  | cons x a ih =>
    cases b with
    | nil => simp
    | cons y b =>
      cases c with
      | nil => simp
      | cons z c => simp [hassoc x y z, ih b c]

/-- the two summation orders of the fused cell (`dense_h + dense_i` in Linen, `dense_i + dense_h` in NNX) -/
theorem vadd_order [Add R] (hFirst : Bool) (hcomm : hFirst = true → ∀ a b : R, a + b = b + a) (a b : List R) :
    (if hFirst = true then vadd b a else vadd a b) = vadd a b := by
  cases hFirst with
  | false => rfl
  | true => exact vadd_comm (hcomm rfl) b a

end Elementwise

section Cells
variable {R : Type} [Add R] [Mul R] [OfNat R 0]

theorem dense_append (A B : List (List R)) (x : List R) : dense (A ++ B) x = dense A x ++ dense B x :=
  List.map_append

theorem dense_length (A : List (List R)) (x : List R) : (dense A x).length = A.length :=
  List.length_map _

theorem denseB_length (A : List (List R)) (b x : List R) (hl : A.length = b.length) :
    (denseB A b x).length = A.length := by
  simp [denseB, vadd, dense_length, hl]

theorem denseB_append (A B : List (List R)) (ba bb x : List R) (hl : A.length = ba.length) :
    denseB (A ++ B) (ba ++ bb) x = denseB A ba x ++ denseB B bb x := by
  simp only [denseB, vadd, dense_append]
  exact List.zipWith_append (by rw [dense_length, hl])

theorem dense_block_zero {n : Nat} (A B : List (List R)) (x : List R) (h : A.length = n) :
    ((dense (A ++ B) x).drop (0 * n)).take n = dense A x := by
  rw [dense_append, block_append_zero _ _ (by rw [dense_length, h])]

theorem dense_block_succ {n : Nat} (A B : List (List R)) (x : List R) (k : Nat) (h : A.length = n) :
    ((dense (A ++ B) x).drop ((k + 1) * n)).take n = ((dense B x).drop (k * n)).take n := by
  rw [dense_append, block_append_succ _ _ _ (by rw [dense_length, h])]

theorem dense_block_last {n : Nat} (A : List (List R)) (x : List R) (h : A.length = n) :
    ((dense A x).drop (0 * n)).take n = dense A x :=
  block_last _ (by rw [dense_length, h])

theorem denseB_block_zero {n : Nat} (A B : List (List R)) (ba bb x : List R) (h : A.length = n) (hb : ba.length = n) :
    ((denseB (A ++ B) (ba ++ bb) x).drop (0 * n)).take n = denseB A ba x := by
  rw [denseB_append _ _ _ _ _ (h.trans hb.symm), block_append_zero _ _ (by rw [denseB_length _ _ _ (h.trans hb.symm), h])]

theorem denseB_block_succ {n : Nat} (A B : List (List R)) (ba bb x : List R) (k : Nat) (h : A.length = n)
    (hb : ba.length = n) :
    ((denseB (A ++ B) (ba ++ bb) x).drop ((k + 1) * n)).take n = ((denseB B bb x).drop (k * n)).take n := by
  rw [denseB_append _ _ _ _ _ (h.trans hb.symm),
    block_append_succ _ _ _ (by rw [denseB_length _ _ _ (h.trans hb.symm), h])]

theorem denseB_block_last {n : Nat} (A : List (List R)) (b x : List R) (h : A.length = n) (hb : b.length = n) :
    ((denseB A b x).drop (0 * n)).take n = denseB A b x :=
  block_last _ (by rw [denseB_length _ _ _ (h.trans hb.symm), h])

end Cells

section Gru
variable {R : Type} [Add R] [Mul R] [Sub R] [OfNat R 0] [OfNat R 1]

theorem gruStepNnx_eq_gruStep (σ τ : R → R) (n : Nat) (p : GruParams R) (hnone : p.bhn = none)
    (hk : p.ir.length = n ∧ p.iz.length = n ∧ p.iN.length = n ∧ p.hr.length = n ∧ p.hz.length = n ∧ p.hn.length = n)
    (hb : p.bir.length = n ∧ p.biz.length = n ∧ p.biN.length = n) (h x : List R) :
    gruStepNnx σ τ n (p.ir ++ p.iz ++ p.iN) (p.bir ++ p.biz ++ p.biN) (p.hr ++ p.hz ++ p.hn) h x =
      gruStep σ τ p h x := by
  obtain ⟨k1, k2, k3, k4, k5, k6⟩ := hk
  obtain ⟨b1, b2, b3⟩ := hb
  -- with the concatenations nested to the right the block lemmas peel one kernel at a time
  simp only [gruStepNnx, gruStep, hnone, denseO, List.append_assoc, dense_block_zero, dense_block_succ,
    dense_block_last, denseB_block_zero, denseB_block_succ, denseB_block_last, k1, k2, k3, k4, k5, k6, b1, b2, b3]

end Gru

end Flax.Seq
