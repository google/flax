/- C06: `opt` forgets which error a run of the model stopped with.  A run is compared with its `Option`-valued
   description stage by stage (`opt_bind_congr`) and traversal by traversal (`opt_mapE_bind`).  The model's `mapE` and
   the specification's `mapO` are core `List.mapM` (`mapE_eq_mapM`, `mapO_eq_mapM`); the lemmas about them below
   restate those of `Proofs/Except`. -/
import Flax.Model.LiftLoop
import Flax.Proofs.Except

namespace Flax.LiftLoop

/-- forget which error: the "does the loop run, and with what result" view -/
def opt {β : Type} (x : Except Err β) : Option β :=
  match x with
  | .ok v => some v
  | .error _ => none

@[simp] theorem opt_ok {β : Type} (v : β) : opt (Except.ok v : Except Err β) = some v := rfl
@[simp] theorem opt_error {β : Type} (e : Err) : opt (Except.error e : Except Err β) = none := rfl
@[simp] theorem opt_pure {β : Type} (v : β) : opt (pure v : Except Err β) = some v := rfl
@[simp] theorem opt_throw {β : Type} (e : Err) : opt (throw e : Except Err β) = none := rfl

theorem opt_eq_toOption {β : Type} (x : Except Err β) : opt x = x.toOption := by cases x <;> rfl

theorem opt_bind {β γ : Type} (x : Except Err β) (f : β → Except Err γ) :
    opt (x >>= f) = (opt x).bind (fun v => opt (f v)) := by
  cases x <;> rfl

theorem opt_bind_bind {β γ δ : Type} (x : Except Err β) (f : β → Except Err γ) (g : γ → Option δ) :
    (opt (x >>= f)).bind g = (opt x).bind fun v => (opt (f v)).bind g := by
  cases x <;> rfl

theorem opt_bind_eq_none {β γ : Type} (x : Except Err β) {f : β → Except Err γ} (h : ∀ v, opt (f v) = none) :
    opt (x >>= f) = none := by
  cases x with
  | error e => rfl
  | ok v => exact h v

theorem opt_bind_congr {β γ : Type} {x : Except Err β} {o : Option β} {f : β → Except Err γ} {g : β → Option γ}
    (hx : opt x = o) (hf : ∀ v, x = .ok v → opt (f v) = g v) : opt (x >>= f) = o.bind g := by
  simp only [opt_eq_toOption] at hx hf ⊢
  exact toOption_bind_congr hx hf

/-- one stage of a run may be two stages of its description, the second of which only adds to the first's value -/
theorem bind_map_bind {β γ δ ρ : Type} (x : Option β) (y : β → Option γ) (p : β → γ → δ) (k : δ → Option ρ) :
    (x.bind fun a => (y a).map (p a)).bind k = x.bind fun a => (y a).bind fun b => k (p a b) := by
  cases x with
  | none => rfl
  | some a => show ((y a).map (p a)).bind k = (y a).bind fun b => k (p a b); cases y a <;> rfl

theorem opt_map {β γ : Type} (x : Except Err β) (f : β → γ) :
    opt (x.map f) = (opt x).map f := by
  cases x <;> rfl

theorem opt_eq_some {β : Type} {x : Except Err β} {v : β} : opt x = some v ↔ x = .ok v := by
  cases x <;> simp [opt]

theorem opt_eq_none {β : Type} {x : Except Err β} : opt x = none ↔ ∃ e, x = .error e := by
  cases x <;> simp [opt]

/-- `List.mapM` in `Option`, own recursion like the model's `mapE` -/
def mapO {β γ : Type} (f : β → Option γ) : List β → Option (List γ)
  | [] => some []
  | x :: xs =>
    match f x with
    | none => none
    | some y =>
      match mapO f xs with
      | none => none
      | some ys => some (y :: ys)

theorem mapE_eq_mapM {β γ : Type} (f : β → Except Err γ) : ∀ l : List β, mapE f l = l.mapM f
  | [] => rfl
  | x :: xs => by
    rw [mapE, mapE_eq_mapM f xs, List.mapM_cons]
    cases f x with
    | error e => rfl
    | ok y => cases xs.mapM f <;> rfl

theorem mapO_eq_mapM {β γ : Type} (f : β → Option γ) : ∀ l : List β, mapO f l = l.mapM f
  | [] => rfl
  | x :: xs => by
    rw [mapO, mapO_eq_mapM f xs, List.mapM_cons]
    cases f x with
    | none => rfl
    | some y => cases xs.mapM f <;> rfl

theorem opt_mapE {β γ : Type} (f : β → Except Err γ) (l : List β) :
    opt (mapE f l) = mapO (fun x => opt (f x)) l := by
  simp only [opt_eq_toOption, mapE_eq_mapM, mapO_eq_mapM, toOption_mapM]

theorem mapO_congr {β γ : Type} {f g : β → Option γ} (l : List β) (h : ∀ x ∈ l, f x = g x) :
    mapO f l = mapO g l := by
  rw [mapO_eq_mapM, mapO_eq_mapM, mapM_congr l h]

theorem mapO_eq_some {β γ : Type} {f : β → Option γ} {l : List β} {r : List γ} (h : mapO f l = some r) :
    r.length = l.length ∧ ∀ i (h1 : i < l.length) (h2 : i < r.length), f l[i] = some r[i] :=
  mapM_some_iff.mp (mapO_eq_mapM f l ▸ h)

theorem mapE_congr {β γ : Type} {f g : β → Except Err γ} : ∀ (l : List β), (∀ x ∈ l, f x = g x) →
    mapE f l = mapE g l := by
  intro l h
  rw [mapE_eq_mapM, mapE_eq_mapM, mapM_congr l h]

theorem mapE_eq_ok {β γ : Type} {f : β → Except Err γ} {l : List β} {r : List γ} (h : mapE f l = .ok r) :
    r.length = l.length ∧ ∀ i (h1 : i < l.length) (h2 : i < r.length), f l[i] = .ok r[i] :=
  mapM_ok_iff.mp (mapE_eq_mapM f l ▸ h)

theorem mapE_ok_of_forall {β γ : Type} {f : β → Except Err γ} (g : β → γ) (l : List β)
    (h : ∀ x ∈ l, f x = .ok (g x)) : mapE f l = .ok (l.map g) :=
  mapE_eq_mapM f l ▸ mapM_eq_map l h

theorem mapE_mem {β γ : Type} {f : β → Except Err γ} (l : List β) (r : List γ) (h : mapE f l = .ok r) :
    ∀ x ∈ l, ∀ y, f x = .ok y → y ∈ r := fun x hx y hy => by
  obtain ⟨y', hy', hm⟩ := mapM_ok_mem (mapE_eq_mapM f l ▸ h) x hx
  exact Except.ok.inj (hy.symm.trans hy') ▸ hm

theorem mapO_map_of_forall {β γ δ : Type} (f : γ → Option δ) (g : β → γ) (h : β → δ) (l : List β)
    (hp : ∀ p ∈ l, f (g p) = some (h p)) : mapO f (l.map g) = some (l.map h) := by
  rw [mapO_eq_mapM]; exact mapM_map_eq_some l hp

theorem mapO_fuse {β γ δ : Type} (f : β → Option γ) (g : γ → Option δ) (l : List β) :
    (mapO f l).bind (mapO g) = mapO (fun x => (f x).bind g) l := by
  rw [mapO_eq_mapM, mapO_eq_mapM, funext (mapO_eq_mapM g)]; exact mapM_bind_mapM l

theorem mapE_length {β γ : Type} {f : β → Except Err γ} {l : List β} {r : List γ} (h : mapE f l = .ok r) :
    r.length = l.length := (mapE_eq_ok h).1

theorem mapE_cons_ok {β γ : Type} {f : β → Except Err γ} {x : β} {xs : List β} {r : List γ} :
    mapE f (x :: xs) = .ok r ↔ ∃ y ys, f x = .ok y ∧ mapE f xs = .ok ys ∧ r = y :: ys := by
  simp only [mapE_eq_mapM]; exact mapM_cons_ok

theorem mapE_append_ok {β γ : Type} {f : β → Except Err γ} : ∀ (l1 l2 : List β) (r1 r2 : List γ),
    mapE f l1 = .ok r1 → mapE f l2 = .ok r2 → mapE f (l1 ++ l2) = .ok (r1 ++ r2) := by
  intro l1 l2 r1 r2 h1 h2
  simp only [mapE_eq_mapM] at h1 h2 ⊢; exact mapM_append_ok.mpr ⟨r1, r2, h1, h2, rfl⟩

theorem mapE_append {β γ : Type} (f : β → Except Err γ) (l1 l2 : List β) :
    mapE f (l1 ++ l2) = (do let r1 ← mapE f l1; let r2 ← mapE f l2; pure (r1 ++ r2)) := by
  simp only [mapE_eq_mapM]; exact List.mapM_append

theorem mapE_map {β γ δ : Type} (f : γ → Except Err δ) (g : β → γ) (l : List β) :
    mapE f (l.map g) = mapE (fun x => f (g x)) l := by
  rw [mapE_eq_mapM, mapE_eq_mapM, List.mapM_map]; rfl

theorem opt_mapE_congr {β γ : Type} {f g : β → Except Err γ} (l : List β)
    (h : ∀ x ∈ l, opt (f x) = opt (g x)) : opt (mapE f l) = opt (mapE g l) := by
  rw [opt_mapE, opt_mapE]
  exact mapO_congr l h

/-- only up to `opt`: the two runs stop at different errors -/
theorem opt_mapE_bind {β γ δ : Type} {f : β → Except Err γ} {g : γ → Except Err δ} {h : β → Except Err δ}
    (l : List β) (hfg : ∀ x ∈ l, opt (f x >>= g) = opt (h x)) :
    opt (mapE f l >>= mapE g) = opt (mapE h l) := by
  simp only [opt_eq_toOption, mapE_eq_mapM, funext (mapE_eq_mapM g)] at hfg ⊢
  exact toOption_mapM_bind l hfg

end Flax.LiftLoop
