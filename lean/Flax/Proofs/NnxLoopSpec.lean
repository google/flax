/-
Specification side of C08: the per-index reference `vmapSpecN` and the reference loop `scanSpecN`, stated per *Variable*
(`VarId`, in the order and with the axes of `ownedAll`), with no graphdefs, split states, deques or merges; a path only
picks a Variable's filter in a prefix and names a leaf of a returned node.  Both are an error at `n = 0`, and both use
the implementation model's own `out_axes` arity test and `expand`, `scanSpecN` also its carry checks.
-/
import Flax.Model.NnxLoop

namespace Flax.NnxLoop
open Flax.Filter Flax.LiftLoop

/-- inside one graph node every path leads to one place (Python attribute dictionaries) -/
def WFArgs {α : Type} (pas : List (Prefix × Arg α)) : Prop :=
  ∀ pa ∈ pas, ∀ es, pa.2 = .node es → (es.map (·.path)).Nodup

/-- all first occurrences over the arguments (in the order `ref_index` numbers them), each with the prefix of the
argument it occurs in -/
def ownedAll {α : Type} : List (Prefix × Arg α) → List VarId → List (Entry × Prefix)
  | [], _ => []
  | (_, .arr _) :: rest, seen => ownedAll rest seen
  | (p, .node es) :: rest, seen =>
    (ownedOf es (markOwn es seen).1).map (fun e => (e, p)) ++ ownedAll rest (markOwn es seen).2

def arrArgs {α : Type} : List (Prefix × Arg α) → List (Prefix × Arr α)
  | [] => []
  | (p, .arr a) :: rest => (p, a) :: arrArgs rest
  | (_, .node _) :: rest => arrArgs rest

/-- every `(Variable, axis)` occurrence over all arguments, or the first `map_prefix` failure -/
def allPrefixes {α : Type} : List (Prefix × Arg α) → NodePrefixes → Except Err NodePrefixes
  | [], np => .ok np
  | (_, .arr _) :: rest, np => allPrefixes rest np
  | (p, .node es) :: rest, np =>
    match collect p es np with
    | .error e => .error e
    | .ok np' => allPrefixes rest np'

/-- what index `i` sees of the Variable first met at occurrence `e` under prefix `p` -/
def sliceEntry {α : Type} [Inhabited α] (store : Store α) (i : Nat) (ep : Entry × Prefix) :
    Except Err (VarId × Arr α) :=
  match ep.2.at ep.1 with
  | .error e => .error e
  | .ok a =>
    match store.lookup ep.1.id with
    | none => .error .bodyContract
    | some v =>
      match sliceVal i a v with
      | .ok v' => .ok (ep.1.id, v')
      | .error e => .error e

/-- what index `i` sees of an array argument -/
def sliceArr {α : Type} [Inhabited α] (i : Nat) (pa : Prefix × Arr α) : Except Err (Arr α) :=
  match pa.1 with
  | .ax a => sliceVal i a pa.2
  | .sa _ => .error .stateAxesOnArray

/-- one leaf over all indices, put together: stacked along its axis, or the shared value -/
def collectVal {α : Type} [Inhabited α] (a : Ax) (vs : List (Arr α)) : Except Err (Arr α) :=
  match a, vs with
  | .axis k, v0 :: _ => liftL (stackAt k v0.shape vs)
  | .bcast, v0 :: _ => .ok v0
  | .carry, _ => .error .invalidAxes
  | _, [] => .error (.lax .stackMismatch)

def Store.getX {α : Type} (st : Store α) (id : VarId) : Except Err (Arr α) :=
  match st.lookup id with
  | some v => .ok v
  | none => .error .bodyContract

/-- the value a Variable ends with: its per-index values (as left by the calls) put together along its axis -/
def collectEntry {α : Type} [Inhabited α] (afters : List (Store α)) (ep : Entry × Prefix) :
    Except Err (VarId × Arr α) :=
  match ep.2.at ep.1 with
  | .error e => .error e
  | .ok a =>
    match mapX (fun (st : Store α) => st.getX ep.1.id) afters with
    | .error e => .error e
    | .ok vs =>
      match collectVal a vs with
      | .ok v => .ok (ep.1.id, v)
      | .error e => .error e

def writeAll {α : Type} (vals : List (VarId × Arr α)) (store : Store α) : Store α :=
  vals.foldl (fun s iv => s.set iv.1 iv.2) store

/-- the value of the Variable / result leaf at `path` in a flat node -/
def valAt {α : Type} (fl : Flat α) (path : Path) : Except Err (Arr α) :=
  match (fl.map (fun x => (x.1, x.2.2))).lookup path with
  | some v => .ok v
  | none => .error .missingState

/-- a fresh graph node returned by every index, put together Variable by Variable under the out prefix `q` -/
def collectNode {α : Type} [Inhabited α] (q : Prefix) (nodes : List (Flat α)) : Except Err (Flat α) :=
  match nodes with
  | [] => .error (.lax .stackMismatch)
  | n0 :: _ =>
    mapX (fun x =>
      match q.at ⟨x.1, 0, x.2.1⟩ with
      | .error e => .error e
      | .ok a =>
        match mapX (fun fl => valAt fl x.1) nodes with
        | .error e => .error e
        | .ok vs =>
          match collectVal a vs with
          | .ok v => .ok (x.1, x.2.1, v)
          | .error e => .error e) n0

def Out.arr? {α : Type} : Out α → Except Err (Arr α)
  | .arr a => .ok a
  | _ => .error (.lax .stackMismatch)

def Out.node? {α : Type} : Out α → Except Err (Flat α)
  | .node vs => .ok vs
  | _ => .error (.lax .stackMismatch)

/-- result `k` of the mapped function over all indices (`col`), put together under its out prefix -/
def collectOut {α : Type} [Inhabited α] (q : Prefix) (col : List (Out α)) : Except Err (Out α) :=
  match col with
  | [] => .error (.lax .stackMismatch)
  | .arr _ :: _ =>
    match q with
    | .sa _ => .error .stateAxesOnArray
    | .ax a =>
      match mapX Out.arr? col with
      | .error e => .error e
      | .ok vs => match collectVal a vs with | .ok v => .ok (.arr v) | .error e => .error e
  | .node _ :: _ =>
    match mapX Out.node? col with
    | .error e => .error e
    | .ok nodes => match collectNode q nodes with | .ok fl => .ok (.node fl) | .error e => .error e
  | .argRef _ :: _ => .error .unsupportedOut

def bindX {β γ : Type} (x : Except Err β) (f : β → Except Err γ) : Except Err γ :=
  match x with
  | .error e => .error e
  | .ok v => f v

/-- **the reference call at index `i`**: the traced function on the per-Variable slices -/
def vmapCall {α : Type} [Inhabited α] (body : Body α) (store : Store α) (pas : List (Prefix × Arg α)) (i : Nat) :
    Except Err (Store α × List (Out α)) :=
  bindX (mapX (sliceEntry store i) (ownedAll pas [])) fun ins =>
  bindX (mapX (sliceArr i) (arrArgs pas)) fun arrs =>
  body ins arrs

def collectOutAt {α : Type} [Inhabited α] (results : List (List (Out α))) (kq : Nat × Prefix) : Except Err (Out α) :=
  bindX (column kq.1 results) (collectOut kq.2)

/-- **the per-index reference computation of `nnx.vmap`** over `n` indices: one call per index on the slices; every
reachable Variable is left with its per-index values put together along its axis (shared value for `None`); results
put together along their out axes -/
def vmapSpecN {α : Type} [Inhabited α] (n : Nat) (outAxes : AxesSpec) (body : Body α)
    (pas : List (Prefix × Arg α)) (store : Store α) : Except Err (Store α × List (Out α)) :=
  bindX (mapX (vmapCall body store pas) (List.range n)) fun calls =>
  match calls with
  | [] => .error (.body "EmptyLoop")
  | c0 :: _ =>
    bindX (mapX (collectEntry (calls.map (·.1))) (ownedAll pas [])) fun vals =>
    if outAxes.isBareStateAxes && decide (c0.2.length ≠ 1) then .error .prefixArity else
    bindX (outAxes.expand c0.2.length) fun qs =>
    bindX (mapX (collectOutAt (calls.map (·.2))) ((List.range qs.length).zip qs)) fun outs =>
    .ok (writeAll vals store, outs)

/-- what a single trace guarantees about a column (one result position over the indices) headed by a fresh graph node:
distinct paths, and every node in it has the head's Variables (paths and types).  Other columns are not constrained;
`collectOut` rejects a column mixing arrays and nodes. -/
def OutColWF {α : Type} (col : List (Out α)) : Prop :=
  match col with
  | .node n0 :: _ =>
    (n0.map (·.1)).Nodup ∧
    ∀ o ∈ col, ∀ n, o = .node n → n.map (fun x => (x.1, x.2.1)) = n0.map (fun x => (x.1, x.2.1))
  | _ => True

/-- what iteration `i` sees of a Variable with axis `a`: the slice of its *original* value along the axis, its original
value if broadcast, the value the previous iteration left if carried -/
def scanValIn {α : Type} [Inhabited α] (store cur : Store α) (i : Nat) (a : Ax) (id : VarId) : Except Err (Arr α) :=
  match a with
  | .axis k => bindX (store.getX id) (fun v => liftL (takeAt k i v))
  | .bcast => store.getX id
  | .carry => cur.getX id

def scanEntryIn {α : Type} [Inhabited α] (store cur : Store α) (i : Nat) (ep : Entry × Prefix) :
    Except Err (VarId × Arr α) :=
  bindX (ep.2.at ep.1) fun a => bindX (scanValIn store cur i a ep.1.id) fun v => .ok (ep.1.id, v)

/-- what iteration `i` sees of an array argument: its slice, itself, or the array carry -/
def scanArrIn {α : Type} [Inhabited α] (carr : Option (Arr α)) (i : Nat) (pa : Prefix × Arr α) : Except Err (Arr α) :=
  match pa.1 with
  | .ax (.axis k) => liftL (takeAt k i pa.2)
  | .ax .bcast => .ok pa.2
  | .ax .carry => .ok (carr.getD pa.2)
  | .sa _ => .error .stateAxesOnArray

/-- **one iteration of the reference loop**: state = (array carry, the values the previous iteration left in the
Variables — only those of carried Variables are read) -/
def scanStepSpec {α : Type} [Inhabited α] (body : Body α) (ca : CarryArg) (cout : CarryPos) (outPs : List Prefix)
    (store : Store α) (pas : List (Prefix × Arg α)) (st : Option (Arr α) × Store α) (i : Nat) :
    Except Err ((Option (Arr α) × Store α) × (Store α × List (Out α))) :=
  bindX (mapX (scanEntryIn store st.2 i) (ownedAll pas [])) fun ins =>
  bindX (mapX (scanArrIn st.1 i) (arrArgs pas)) fun arrs =>
  bindX (body ins arrs) fun r =>
  bindX (checkCarryRefs ca ((carryOutIdx cout).bind (fun k => r.2[k]?))) fun cArr =>
  if outPs.length ≠ (dropCarry (carryOutIdx cout) r.2).length then .error .prefixArity else
  .ok ((cArr, r.1), (r.1, dropCarry (carryOutIdx cout) r.2))

/-- the value a Variable ends with after the loop: the stack by index of what the iterations left (axis), its original
value (broadcast: writes of the body are dropped), what the last iteration left (carry) -/
def scanFinalEntry {α : Type} [Inhabited α] (store final : Store α) (recs : List (Store α)) (ep : Entry × Prefix) :
    Except Err (VarId × Arr α) :=
  bindX (ep.2.at ep.1) fun a =>
  match a with
  | .axis k =>
    bindX (mapX (fun (st : Store α) => st.getX ep.1.id) recs) fun vs =>
    bindX (collectVal (.axis k) vs) fun v => .ok (ep.1.id, v)
  | .bcast => bindX (store.getX ep.1.id) fun v => .ok (ep.1.id, v)
  | .carry => bindX (final.getX ep.1.id) fun v => .ok (ep.1.id, v)

def initCarrySpec {α : Type} : List (Prefix × Arr α) → Option (Arr α)
  | [] => none
  | (.ax .carry, a) :: _ => some a
  | _ :: rest => initCarrySpec rest

/-- **the reference loop of `nnx.scan`**, over `n` iterations in processing order (`reverse`): carry threaded, axis
Variables sliced per iteration and re-stacked by index, broadcast Variables shared and left unchanged, results stacked
by index along their out axes, the carry put back among the results.  With these `xsAt` and `same`, `laxScanX`
is a plain fold of `scanStepSpec` over `range n` or its reverse. -/
def scanSpecN {α : Type} [Inhabited α] (n : Nat) (reverse : Bool) (ca : CarryArg) (cout : CarryPos)
    (outPs : List Prefix) (body : Body α) (pas : List (Prefix × Arg α)) (store : Store α) :
    Except Err (Store α × List (Out α)) :=
  bindX (laxScanX n reverse (fun i => .ok i) (scanStepSpec body ca cout outPs store pas) (fun _ _ => true)
    (initCarrySpec (arrArgs pas), store)) fun r =>
  match r.2 with
  | [] => .error (.body "EmptyLoop")
  | _ :: _ =>
    bindX (mapX (scanFinalEntry store r.1.2 (r.2.map (·.1))) (ownedAll pas [])) fun vals =>
    bindX (mapX (collectOutAt (r.2.map (·.2))) ((List.range outPs.length).zip outPs)) fun outs =>
    bindX (insertCarry cout ca r.1.1 outs) fun outs' =>
    .ok (writeAll vals store, outs')

end Flax.NnxLoop
