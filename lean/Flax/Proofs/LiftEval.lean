/-
Body runs of the lifting model: the scope operations `put` and `make_rng`, one rule induction over a run for what it can
do to its scope (`eval_induct`, with its instances), and the two-run induction `eval_sim` for a body run on two scopes
that agree on what it touches (`Sim`).
-/
import Flax.Proofs.LiftVars
import Flax.Proofs.Except

namespace Flax.Lift
open Flax.Filter

theorem put_ok {s s' : ScopeSt} {c n : String} {v : Int} (h : s.put c n v = .ok s') :
    inFilter s.mutable c = true ∧ s' = { s with vars := putVar s.vars c n v } := by
  unfold ScopeSt.put at h
  split at h
  · split at h
    · cases h
    · rename_i hm _
      cases h; exact ⟨hm, rfl⟩
  · cases h

theorem put_of_mutable (s : ScopeSt) (hf : s.FrozenOk) (c n : String) (v : Int) (hm : inFilter s.mutable c = true) :
    s.put c n v = .ok { s with vars := putVar s.vars c n v } := by
  unfold ScopeSt.put
  have : c ∉ s.frozen := fun hc => by simp [hf c hc] at hm
  simp [hm, this]

theorem put_of_immutable (s : ScopeSt) (c n : String) (v : Int) (hm : inFilter s.mutable c = false) :
    s.put c n v = .error .modifyImmutable := by
  unfold ScopeSt.put; simp [hm]

theorem makeRng_eq_makeRngAt (s : ScopeSt) (name : String) : s.makeRng name = s.makeRngAt [] name := by
  unfold ScopeSt.makeRng ScopeSt.makeRngAt
  cases s.rngName name with
  | none => rfl
  | some nm =>
    have hk : ctrKey [] nm = nm := rfl
    simp only [hk, List.map_nil, List.append_nil, List.isEmpty_nil, ↓reduceIte]
    cases alookup nm s.rngs <;> cases alookup nm s.counters <;> rfl

theorem eval_rng (env : Env) (st : String) (m : M) : eval env (.rng st) m = eval env (.rngAt [] st) m := by
  simp only [eval, makeRng_eq_makeRngAt]

theorem rngName_some {s : ScopeSt} {name nm : String} (h : s.rngName name = some nm) : nm = name ∨ nm = "params" := by
  unfold ScopeSt.rngName at h
  split at h
  · cases h; exact Or.inl rfl
  · split at h
    · cases h; exact Or.inr rfl
    · cases h

theorem makeRngAt_cases (s : ScopeSt) (path : List String) (name : String) :
    (∃ k ctr, s.makeRngAt path name = .ok (k, { s with counters := ctr })) ∨
      s.makeRngAt path name = .error .rngMissing ∨ s.makeRngAt path name = .error .counterMissing := by
  unfold ScopeSt.makeRngAt
  split
  · exact Or.inr (Or.inl rfl)
  · split
    · exact Or.inr (Or.inr rfl)
    · split
      · exact Or.inl ⟨_, _, rfl⟩
      · split
        · exact Or.inr (Or.inr rfl)
        · exact Or.inl ⟨_, _, rfl⟩

theorem put_ne_frozenWrite (s : ScopeSt) (hf : s.FrozenOk) (c n : String) (v : Int) :
    s.put c n v ≠ .error .frozenWrite := by
  cases hm : inFilter s.mutable c with
  | false => simp [put_of_immutable _ _ _ _ hm]
  | true => simp [put_of_mutable _ hf _ _ _ hm]

theorem wcols_sub_cols (b : Prog) : ∀ c, c ∈ wcols b → c ∈ cols b := by
  induction b with
  | seq p q ihp ihq =>
    intro c h
    simp only [wcols, cols, List.mem_append] at h ⊢
    exact h.imp (ihp c) (ihq c)
  | _ => intro c h; simp_all [wcols, cols]

theorem inChild_names (ch : String) (p : Prog) :
    cols (inChild ch p) = cols p ∧ wcols (inChild ch p) = wcols p ∧ rngNames (inChild ch p) = rngNames p := by
  induction p with
  | seq p q ihp ihq =>
    simp only [inChild, cols, wcols, rngNames, ihp.1, ihp.2.1, ihp.2.2, ihq.1, ihq.2.1, ihq.2.2, and_self]
  | _ => simp only [inChild, cols, wcols, rngNames, and_self]

theorem inPath_names (path : List String) (p : Prog) :
    cols (inPath path p) = cols p ∧ wcols (inPath path p) = wcols p ∧ rngNames (inPath path p) = rngNames p := by
  induction path with
  | nil => exact ⟨rfl, rfl, rfl⟩
  | cons ch rest ih =>
    have := inChild_names ch (inPath rest p)
    exact ⟨this.1.trans ih.1, this.2.1.trans ih.2.1, this.2.2.trans ih.2.2⟩

/-- Rule induction over a body run, for what concerns the scope alone: `P` relates the scope before a successful run
to the scope after it; `E` holds of the scope before a failing run and its error (`back`: the error arises at a scope
reached from the first). -/
theorem eval_induct {P : ScopeSt → ScopeSt → Prop} {E : ScopeSt → Err → Prop} (env : Env) (refl : ∀ s, P s s)
    (trans : ∀ {a b c}, P a b → P b c → P a c) (back : ∀ {a b e}, P a b → E b e → E a e) (b : Prog)
    (put : ∀ s c n v, c ∈ wcols b → inFilter s.mutable c = true → P s { s with vars := putVar s.vars c n v })
    (draw : rngNames b ≠ [] → ∀ s ctr, P s { s with counters := ctr })
    (err : ∀ s e, (e = .notFound ∨ e = .badExpr ∨ (∃ c n v, s.put c n v = .error e) ∨
      ∃ p st, s.makeRngAt p st = .error e) → E s e) :
    ∀ m, match eval env b m with | .ok m' => P m.sc m'.sc | .error e => E m.sc e := by
  have hput : ∀ (m : M) c n v (g : ScopeSt → M), c ∈ wcols b → (∀ sc, (g sc).sc = sc) →
      match (match m.sc.put c n v with | .error e => Except.error e | .ok sc => .ok (g sc)) with
      | .ok m' => P m.sc m'.sc | .error e => E m.sc e := by
    intro m c n v g hc hg
    cases hp : m.sc.put c n v with
    | error e => exact err _ _ (Or.inr (Or.inr (Or.inl ⟨c, n, v, hp⟩)))
    | ok sc =>
      simp only [hg, (put_ok hp).2]
      exact put _ c n _ hc (put_ok hp).1
  have hdraw : rngNames b ≠ [] → ∀ (m : M) p st,
      match eval env (.rngAt p st) m with | .ok m' => P m.sc m'.sc | .error e => E m.sc e := by
    intro hne m p st
    simp only [eval]
    rcases makeRngAt_cases m.sc p st with ⟨k, ctr, hk⟩ | hk | hk <;> rw [hk]
    · exact draw hne _ ctr
    · exact err _ _ (Or.inr (Or.inr (Or.inr ⟨_, _, hk⟩)))
    · exact err _ _ (Or.inr (Or.inr (Or.inr ⟨_, _, hk⟩)))
  induction b with
  | skip => intro m; exact refl _
  | seq p q ihp ihq =>
    intro m
    have h1 := ihp (fun s c n v hc => put s c n v (List.mem_append_left _ hc))
      (fun hne => draw (fun e => hne (List.append_eq_nil_iff.mp e).1))
      (fun m c n v g hc => hput m c n v g (List.mem_append_left _ hc))
      (fun hne => hdraw (fun e => hne (List.append_eq_nil_iff.mp e).1)) m
    simp only [eval]
    cases hp : eval env p m with
    | error e => rw [hp] at h1; exact h1
    | ok m1 =>
      rw [hp] at h1
      have h2 := ihq (fun s c n v hc => put s c n v (List.mem_append_right _ hc))
        (fun hne => draw (fun e => hne (List.append_eq_nil_iff.mp e).2))
        (fun m c n v g hc => hput m c n v g (List.mem_append_right _ hc))
        (fun hne => hdraw (fun e => hne (List.append_eq_nil_iff.mp e).2)) m1
      dsimp only
      cases hq : eval env q m1 with
      | error e => rw [hq] at h2; exact back h1 h2
      | ok m' => rw [hq] at h2; exact trans h1 h2
  | get c n =>
    intro m
    simp only [eval]
    cases getVar m.sc.vars c n with
    | none => exact err _ _ (Or.inl rfl)
    | some v => exact refl _
  | has c n => intro m; exact refl _
  | put c n e =>
    intro m
    simp only [eval]
    cases evalExpr env m.regs e with
    | none => exact err _ _ (Or.inr (Or.inl rfl))
    | some v => exact hput m c n v _ (List.mem_singleton_self c) (fun _ => rfl)
  | decl c n e =>
    intro m
    simp only [eval]
    cases getVar m.sc.vars c n with
    | some v => exact refl _
    | none =>
      cases inFilter m.sc.mutable c with
      | false => exact err _ _ (Or.inl rfl)
      | true =>
        cases evalExpr env m.regs e with
        | none => exact err _ _ (Or.inr (Or.inl rfl))
        | some v => exact hput m c n v _ (List.mem_singleton_self c) (fun _ => rfl)
  | rng st => intro m; rw [eval_rng]; exact hdraw (List.cons_ne_nil _ _) m [] st
  | rngAt p st => intro m; exact hdraw (List.cons_ne_nil _ _) m p st

theorem eval_induct_ok {P : ScopeSt → ScopeSt → Prop} (env : Env) (refl : ∀ s, P s s)
    (trans : ∀ {a b c}, P a b → P b c → P a c) (b : Prog)
    (put : ∀ s c n v, c ∈ wcols b → inFilter s.mutable c = true → P s { s with vars := putVar s.vars c n v })
    (draw : rngNames b ≠ [] → ∀ s ctr, P s { s with counters := ctr }) (m m' : M) (h : eval env b m = .ok m') :
    P m.sc m'.sc := by
  have := eval_induct (E := fun _ _ => True) env refl trans (fun _ _ => trivial) b put draw (fun _ _ _ => trivial) m
  rw [h] at this
  exact this

theorem eval_static (env : Env) (b : Prog) : ∀ (m m' : M), eval env b m = .ok m' →
    m'.sc.mutable = m.sc.mutable ∧ m'.sc.frozen = m.sc.frozen ∧ m'.sc.rngs = m.sc.rngs :=
  eval_induct_ok (P := fun s s' => s'.mutable = s.mutable ∧ s'.frozen = s.frozen ∧ s'.rngs = s.rngs) env
    (fun _ => ⟨rfl, rfl, rfl⟩) (fun h1 h2 => ⟨h2.1.trans h1.1, h2.2.1.trans h1.2.1, h2.2.2.trans h1.2.2⟩) b
    (fun _ _ _ _ _ _ => ⟨rfl, rfl, rfl⟩) (fun _ _ _ => ⟨rfl, rfl, rfl⟩)

theorem eval_frame (env : Env) (b : Prog) (c0 : String) : ∀ (m m' : M), eval env b m = .ok m' →
    (c0 ∉ wcols b ∨ inFilter m.sc.mutable c0 = false) → alookup c0 m'.sc.vars = alookup c0 m.sc.vars := by
  intro m m' h
  refine (eval_induct_ok (P := fun s s' => s'.mutable = s.mutable ∧
    ((c0 ∉ wcols b ∨ inFilter s.mutable c0 = false) → alookup c0 s'.vars = alookup c0 s.vars)) env
    (fun _ => ⟨rfl, fun _ => rfl⟩) ?_ b ?_ (fun _ _ _ => ⟨rfl, fun _ => rfl⟩) m m' h).2
  · intro s1 s2 s3 h1 h2
    exact ⟨h2.1.trans h1.1, fun hc => (h2.2 (by rw [h1.1]; exact hc)).trans (h1.2 hc)⟩
  · intro s c n v hc hm
    refine ⟨rfl, fun h0 => alookup_putVar_ne _ _ _ _ ?_⟩
    rintro rfl
    rcases h0 with h0 | h0
    · exact h0 hc
    · rw [hm] at h0; cases h0

theorem eval_mono (env : Env) (b : Prog) (c0 n0 : String) : ∀ (m m' : M), eval env b m = .ok m' →
    (getVar m.sc.vars c0 n0).isSome = true → (getVar m'.sc.vars c0 n0).isSome = true :=
  eval_induct_ok (P := fun s s' => (getVar s.vars c0 n0).isSome = true → (getVar s'.vars c0 n0).isSome = true) env
    (fun _ => id) (fun h1 h2 => h2 ∘ h1) b
    (fun s c n v _ _ hv => by
      simp only [getVar_putVar]
      split
      · rfl
      · exact hv)
    (fun _ _ _ => id)

theorem eval_wf (env : Env) (b : Prog) : ∀ (m m' : M), eval env b m = .ok m' →
    VarsWF m.sc.vars → VarsWF m'.sc.vars :=
  eval_induct_ok (P := fun s s' => VarsWF s.vars → VarsWF s'.vars) env (fun _ => id) (fun h1 h2 => h2 ∘ h1) b
    (fun s c n v _ _ => varsWF_putVar s.vars c n v) (fun _ _ _ => id)

theorem eval_ctr_norng (env : Env) (b : Prog) (hr : rngNames b = []) : ∀ (m m' : M), eval env b m = .ok m' →
    m'.sc.counters = m.sc.counters :=
  eval_induct_ok (P := fun s s' => s'.counters = s.counters) env (fun _ => rfl) (fun h1 h2 => h2.trans h1) b
    (fun _ _ _ _ _ _ => rfl) (fun hne => absurd hr hne)

/-- a run keeps `mutable` and `frozen`, and `put` refuses the write before it gets to the dict -/
theorem eval_ne_frozenWrite (env : Env) (b : Prog) (m : M) (hf : m.sc.FrozenOk) :
    eval env b m ≠ .error .frozenWrite := by
  have h := eval_induct (P := fun s s' => s'.mutable = s.mutable ∧ s'.frozen = s.frozen)
    (E := fun s e => s.FrozenOk → e ≠ .frozenWrite) env (fun _ => ⟨rfl, rfl⟩)
    (fun h1 h2 => ⟨h2.1.trans h1.1, h2.2.trans h1.2⟩)
    (fun h he hf => he (fun c hc => by rw [h.1]; exact hf c (h.2 ▸ hc))) b
    (fun _ _ _ _ _ _ => ⟨rfl, rfl⟩) (fun _ _ _ => ⟨rfl, rfl⟩)
    (by
      rintro s e (rfl | rfl | ⟨c, n, v, hp⟩ | ⟨p, st, hk⟩) hf
      · exact Err.noConfusion
      · exact Err.noConfusion
      · rintro rfl; exact put_ne_frozenWrite s hf c n v hp
      · rcases makeRngAt_cases s p st with ⟨_, _, h⟩ | h | h <;> rw [h] at hk <;> cases hk <;> exact Err.noConfusion) m
  intro he
  rw [he] at h
  exact h hf rfl

theorem runFn_ok {attrs : List (String × Int)} {f : Fn} {args : List Int} {s s' : ScopeSt} {y : Out}
    (h : runFn attrs f args s = .ok (y, s')) : ∃ m, eval ⟨args, attrs⟩ f.body ⟨[], [], s⟩ = .ok m ∧ m.sc = s' := by
  unfold runFn at h
  split at h
  · cases h
  · rename_i m hm
    split at h <;> cases h
    exact ⟨m, hm, rfl⟩

/-- `s` (outer) and `i` (inner) agree on the collections in `D`, on the mutability of those in `W`, on the rng
streams in `R`, and share the counters -/
structure Sim (D W R : String → Prop) (s i : ScopeSt) : Prop where
  vars : ∀ c, D c → ∀ n, getVar i.vars c n = getVar s.vars c n
  mutb : ∀ c, W c → inFilter i.mutable c = inFilter s.mutable c
  ifro : i.FrozenOk
  sfro : s.FrozenOk
  rngs : ∀ r, R r → alookup r i.rngs = alookup r s.rngs
  ctr : i.counters = s.counters

def SimM (D W R : String → Prop) (a b : M) : Prop := a.regs = b.regs ∧ a.keys = b.keys ∧ Sim D W R a.sc b.sc

theorem SimM.push {D W R : String → Prop} {a b : M} (h : SimM D W R a b) (v : Int) : SimM D W R (a.push v) (b.push v) :=
  ⟨by simp only [M.push, h.1], h.2.1, h.2.2⟩

theorem sim_put {D W R : String → Prop} {s i : ScopeSt} (h : Sim D W R s i) (c n : String) (v : Int) (hW : W c) : ExceptRel (Sim D W R) (s.put c n v) (i.put c n v) := by
  have hm := h.mutb c hW
  cases hs : inFilter s.mutable c with
  | false =>
    rw [put_of_immutable s c n v hs, put_of_immutable i c n v (by rw [hm, hs])]
    rfl
  | true =>
    rw [put_of_mutable s h.sfro c n v hs, put_of_mutable i h.ifro c n v (by rw [hm, hs])]
    exact {
      vars := by
        intro c' hc' n'
        simp only [getVar_putVar]
        split
        · rfl
        · exact h.vars c' hc' n'
      mutb := h.mutb, ifro := h.ifro, sfro := h.sfro, rngs := h.rngs, ctr := h.ctr }

theorem sim_makeRngAt {D W R : String → Prop} {s i : ScopeSt} (h : Sim D W R s i) (path : List String) (name : String)
    (hR : R name) (hP : R "params") :
    ExceptRel (fun a b => a.1 = b.1 ∧ Sim D W R a.2 b.2) (s.makeRngAt path name) (i.makeRngAt path name) := by
  have h1 := h.rngs name hR
  have h2 := h.rngs "params" hP
  have hn : i.rngName name = s.rngName name := by simp [ScopeSt.rngName, h1, h2]
  have hc : ∀ ctr, Sim D W R { s with counters := ctr } { i with counters := ctr } := fun ctr =>
    { vars := h.vars, mutb := h.mutb, ifro := h.ifro, sfro := h.sfro, rngs := h.rngs, ctr := rfl }
  unfold ScopeSt.makeRngAt
  rw [hn]
  cases hnm : s.rngName name with
  | none => rfl
  | some nm =>
    have h3 : alookup nm i.rngs = alookup nm s.rngs := by
      rcases rngName_some hnm with e | e <;> (subst e; assumption)
    simp only [h3, h.ctr]
    cases alookup nm s.rngs with
    | none => rfl
    | some r =>
      cases alookup (ctrKey path nm) s.counters with
      | some k => exact ⟨rfl, hc _⟩
      | none =>
        cases path.isEmpty with
        | true => rfl
        | false => exact ⟨rfl, hc _⟩

theorem sim_draw {D W R : String → Prop} (env : Env) (path : List String) (st : String) {ms mi : M}
    (h : SimM D W R ms mi) (hR : R st) (hP : R "params") :
    ExceptRel (SimM D W R) (eval env (.rngAt path st) ms) (eval env (.rngAt path st) mi) := by
  simp only [eval]
  refine (sim_makeRngAt h.2.2 path st hR hP).elim ?_ (fun _ _ _ => rfl)
  rintro ⟨k, s'⟩ ⟨k', i'⟩ _ _ ⟨hk, hs⟩
  cases (hk : k = k')
  exact ⟨h.1, by simp only [h.2.1], hs⟩

theorem eval_sim {D W R : String → Prop} (env : Env) (b : Prog) : ∀ (ms mi : M), SimM D W R ms mi →
    (∀ c, c ∈ cols b → D c) → (∀ c, c ∈ wcols b → W c) → (∀ r, r ∈ rngNames b → R r) →
    (rngNames b ≠ [] → R "params") →
    ExceptRel (SimM D W R) (eval env b ms) (eval env b mi) := by
  induction b with
  | skip => intro ms mi h _ _ _ _; exact h
  | seq p q ihp ihq =>
    intro ms mi h hD hW hR hP
    simp only [eval]
    refine (ihp ms mi h (fun c h => hD c (List.mem_append_left _ h)) (fun c h => hW c (List.mem_append_left _ h))
      (fun r h => hR r (List.mem_append_left _ h)) (fun h => hP (fun e => h (List.append_eq_nil_iff.mp e).1))).elim ?_
      (fun _ _ _ => rfl)
    intro m1 m1' _ _ h1
    exact ihq m1 m1' h1 (fun c h => hD c (List.mem_append_right _ h)) (fun c h => hW c (List.mem_append_right _ h))
      (fun r h => hR r (List.mem_append_right _ h)) (fun h => hP (fun e => h (List.append_eq_nil_iff.mp e).2))
  | get c n =>
    intro ms mi h hD _ _ _
    simp only [eval, h.2.2.vars c (hD c (List.mem_singleton_self c)) n]
    cases getVar ms.sc.vars c n with
    | none => rfl
    | some v => exact h.push v
  | has c n =>
    intro ms mi h hD _ _ _
    simp only [eval, h.2.2.vars c (hD c (List.mem_singleton_self c)) n]
    exact h.push _
  | put c n e =>
    intro ms mi h _ hW _ _
    simp only [eval, ← h.1]
    cases evalExpr env ms.regs e with
    | none => rfl
    | some v =>
      dsimp only
      refine (sim_put h.2.2 c n v (hW c (List.mem_singleton_self c))).elim ?_ (fun _ _ _ => rfl)
      intro s' i' _ _ hs
      exact ⟨rfl, h.2.1, hs⟩
  | decl c n e =>
    intro ms mi h hD hW _ _
    simp only [eval, h.2.2.vars c (hD c (List.mem_singleton_self c)) n, h.2.2.mutb c (hW c (List.mem_singleton_self c)), ← h.1]
    cases getVar ms.sc.vars c n with
    | some v => exact h.push v
    | none =>
      cases inFilter ms.sc.mutable c with
      | false => rfl
      | true =>
        cases evalExpr env ms.regs e with
        | none => rfl
        | some v =>
          simp only [↓reduceIte]
          refine (sim_put h.2.2 c n v (hW c (List.mem_singleton_self c))).elim ?_ (fun _ _ _ => rfl)
          intro s' i' _ _ hs
          exact ⟨rfl, h.2.1, hs⟩
  | rng st =>
    intro ms mi h _ _ hR hP
    rw [eval_rng, eval_rng]
    exact sim_draw env [] st h (hR st (List.mem_singleton_self st)) (hP (List.cons_ne_nil _ _))
  | rngAt pth st =>
    intro ms mi h _ _ hR hP
    exact sim_draw env pth st h (hR st (List.mem_singleton_self st)) (hP (List.cons_ne_nil _ _))

def SimRes (D W R : String → Prop) : Except Err M → Except Err M → Prop
  | .ok a, .ok b => a.regs = b.regs ∧ a.keys = b.keys ∧ Sim D W R a.sc b.sc
  | .error e, .error e' => e = e'
  | _, _ => False

theorem sim_eval {D W R : String → Prop} (env : Env) (b : Prog) : ∀ (ms mi : M),
    ms.regs = mi.regs → ms.keys = mi.keys → Sim D W R ms.sc mi.sc →
    (∀ c, c ∈ cols b → D c) → (∀ c, c ∈ wcols b → W c) → (∀ r, r ∈ rngNames b → R r) →
    (rngNames b ≠ [] → R "params") →
    SimRes D W R (eval env b ms) (eval env b mi) := by
  intro ms mi hr hk hs hD hW hR hP
  have h := eval_sim env b ms mi ⟨hr, hk, hs⟩ hD hW hR hP
  revert h
  cases eval env b ms <;> cases eval env b mi <;> exact id

theorem sim_runFn {D W R : String → Prop} (attrs : List (String × Int)) (f : Fn) (args : List Int) (s i : ScopeSt)
    (hs : Sim D W R s i) (hD : ∀ c, c ∈ cols f.body → D c) (hW : ∀ c, c ∈ wcols f.body → W c)
    (hR : ∀ r, r ∈ rngNames f.body → R r) (hP : rngNames f.body ≠ [] → R "params") :
    ExceptRel (fun a b => a.1 = b.1 ∧ Sim D W R a.2 b.2) (runFn attrs f args s) (runFn attrs f args i) := by
  unfold runFn
  refine (eval_sim ⟨args, attrs⟩ f.body ⟨[], [], s⟩ ⟨[], [], i⟩ ⟨rfl, rfl, hs⟩ hD hW hR hP).elim ?_ (fun _ _ _ => rfl)
  intro m m' _ _ h
  simp only [← h.1, ← h.2.1]
  cases evalRets ⟨args, attrs⟩ m.regs f.ret with
  | none => rfl
  | some vs => exact ⟨rfl, h.2.2⟩

end Flax.Lift
