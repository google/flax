/- C08 proofs: general lemmas (Except, `mapX`, association lists, `All2`) -/
import Flax.Model.NnxLoop
import Flax.Proofs.Except
import Flax.Proofs.Assoc

namespace Flax.NnxLoop
open Flax.Filter Flax.LiftLoop

theorem liftL_ok {β : Type} {x : Except LErr β} {v : β} : liftL x = .ok v ↔ x = .ok v :=
  lift_eq_ok liftL (fun _ => rfl) (fun _ => ⟨_, rfl⟩)

theorem or3_eq_false {a b c : Bool} : (a || b || c) = false ↔ a = false ∧ b = false ∧ c = false := by
  simp only [Bool.or_eq_false_iff, and_assoc]

theorem and_decide_eq_false {a : Bool} {p : Prop} [Decidable p] : (a && decide p) = false ↔ ¬ (a = true ∧ p) := by
  simp only [Bool.and_eq_false_imp, decide_eq_false_iff_not, not_and]

theorem mapX_eq_mapM {β γ : Type} (f : β → Except Err γ) : ∀ l : List β, mapX f l = l.mapM f
  | [] => rfl
  | x :: xs => by
    rw [mapX, mapX_eq_mapM f xs, List.mapM_cons]
    cases f x with
    | error e => rfl
    | ok y => cases xs.mapM f <;> rfl

theorem mapX_cons_ok {β γ : Type} {f : β → Except Err γ} {x : β} {xs : List β} {r : List γ}
    (h : mapX f (x :: xs) = .ok r) : ∃ y ys, f x = .ok y ∧ mapX f xs = .ok ys ∧ r = y :: ys := by
  simp only [mapX_eq_mapM] at h ⊢; exact mapM_cons_ok.mp h

theorem mapX_cons_of_ok {β γ : Type} {f : β → Except Err γ} {x : β} {xs : List β} {y : γ} {ys : List γ}
    (hx : f x = .ok y) (hr : mapX f xs = .ok ys) : mapX f (x :: xs) = .ok (y :: ys) := by
  simp only [mapX, hx, hr]

theorem mapX_length {β γ : Type} {f : β → Except Err γ} {l : List β} {r : List γ}
    (h : mapX f l = .ok r) : r.length = l.length :=
  (mapM_ok_iff.mp (mapX_eq_mapM f l ▸ h)).1

theorem mapX_ok_getElem {β γ : Type} {f : β → Except Err γ} {l : List β} {r : List γ}
    (h : mapX f l = .ok r) : ∀ i (h1 : i < l.length) (h2 : i < r.length), f l[i] = .ok r[i] :=
  (mapM_ok_iff.mp (mapX_eq_mapM f l ▸ h)).2

theorem mapX_ok_mem {β γ : Type} {f : β → Except Err γ} {l : List β} {r : List γ}
    (h : mapX f l = .ok r) : ∀ x ∈ l, ∃ y, f x = .ok y ∧ y ∈ r :=
  mapM_ok_mem (mapX_eq_mapM f l ▸ h)

theorem mapX_ok_mem_rev {β γ : Type} {f : β → Except Err γ} {l : List β} {r : List γ}
    (h : mapX f l = .ok r) : ∀ y ∈ r, ∃ x ∈ l, f x = .ok y :=
  mapM_ok_mem_rev (mapX_eq_mapM f l ▸ h)

theorem mapX_eq_map {β γ : Type} {f : β → Except Err γ} {g : β → γ} (l : List β)
    (h : ∀ x ∈ l, f x = .ok (g x)) : mapX f l = .ok (l.map g) :=
  mapX_eq_mapM f l ▸ mapM_eq_map l h

theorem mapX_congr {β γ : Type} {f g : β → Except Err γ} (l : List β) (h : ∀ x ∈ l, f x = g x) :
    mapX f l = mapX g l := by
  rw [mapX_eq_mapM, mapX_eq_mapM, mapM_congr l h]

theorem mapX_map {β γ δ : Type} (f : γ → Except Err δ) (g : β → γ) (l : List β) :
    mapX f (l.map g) = mapX (fun x => f (g x)) l := by
  rw [mapX_eq_mapM, mapX_eq_mapM, List.mapM_map]; rfl

theorem mapX_append_ok {β γ : Type} {f : β → Except Err γ} {l1 l2 : List β} {r : List γ}
    (h : mapX f (l1 ++ l2) = .ok r) : ∃ r1 r2, mapX f l1 = .ok r1 ∧ mapX f l2 = .ok r2 ∧ r = r1 ++ r2 := by
  simp only [mapX_eq_mapM] at h ⊢; exact mapM_append_ok.mp h

theorem mem_zip_iff {β γ : Type} {l1 : List β} {l2 : List γ} {b : β} {c : γ} :
    (b, c) ∈ l1.zip l2 ↔ ∃ g : Nat, l1[g]? = some b ∧ l2[g]? = some c := by
  rw [List.mem_iff_getElem?]
  exact exists_congr fun g => List.getElem?_zip_eq_some

theorem zip_range_getElem {β : Type} (l : List β) (k : Nat) (h1 : k < ((List.range l.length).zip l).length)
    (h2 : k < l.length) : ((List.range l.length).zip l)[k] = (k, l[k]) := by
  rw [List.getElem_zip, List.getElem_range]

theorem mapX_pointwise {β γ δ : Type} {f : β → Except Err δ} {g : γ → Except Err δ} : ∀ (l1 : List β) (l2 : List γ),
    l1.length = l2.length →
    (∀ i (h1 : i < l1.length) (h2 : i < l2.length), f l1[i] = g l2[i]) → mapX f l1 = mapX g l2 := by
  intro l1 l2 hl h
  have e : l1.map f = l2.map g := List.ext_getElem (by simpa using hl) fun i h1 h2 => by
    simpa using h i (by simpa using h1) (by simpa using h2)
  have := congrArg (mapX id) e
  rwa [mapX_map, mapX_map] at this

theorem mapX_ok_of_forall {β γ : Type} {f : β → Except Err γ} (l : List β)
    (h : ∀ x ∈ l, ∃ y, f x = .ok y) : ∃ r, mapX f l = .ok r :=
  mapX_eq_mapM f l ▸ mapM_ok_of_forall l h

theorem mapX_ok_all {β γ : Type} {f : β → Except Err γ} {P : γ → Prop} (l : List β)
    (h : ∀ x ∈ l, ∃ y, f x = .ok y ∧ P y) : ∃ r, mapX f l = .ok r ∧ ∀ y ∈ r, P y := by
  obtain ⟨r, hr⟩ := mapX_ok_of_forall l (fun x hx => let ⟨y, hy, _⟩ := h x hx; ⟨y, hy⟩)
  refine ⟨r, hr, fun y hy => ?_⟩
  obtain ⟨x, hx, hf⟩ := mapX_ok_mem_rev hr y hy
  obtain ⟨y', hy', hP⟩ := h x hx
  cases hf.symm.trans hy'
  exact hP

theorem mapX_append_of_ok {β γ : Type} {f : β → Except Err γ} {l1 l2 : List β} {r1 r2 : List γ}
    (h1 : mapX f l1 = .ok r1) (h2 : mapX f l2 = .ok r2) : mapX f (l1 ++ l2) = .ok (r1 ++ r2) := by
  simp only [mapX_eq_mapM] at h1 h2 ⊢; exact mapM_append_ok.mpr ⟨r1, r2, h1, h2, rfl⟩

theorem mapX_through {β γ δ : Type} {F : β → Except Err γ} {G : γ → Except Err δ} {H : β → Except Err δ}
    {l : List β} {m : List γ} (h : mapX F l = .ok m) (hp : ∀ x ∈ l, ∀ y, F x = .ok y → G y = H x) :
    mapX G m = mapX H l := by
  simp only [mapX_eq_mapM] at h ⊢; exact mapM_through h hp

theorem mapX_comp_ok {β γ δ : Type} {F : β → Except Err γ} {G : γ → Except Err δ} {l : List β} {r : List δ}
    (h : mapX (fun x => F x >>= G) l = .ok r) : ∃ m, mapX F l = .ok m ∧ mapX G m = .ok r := by
  obtain ⟨m, hm⟩ := mapX_ok_of_forall (f := F) l (fun x hx => by
    obtain ⟨y, hy, _⟩ := mapX_ok_mem h x hx
    obtain ⟨a, ha, _⟩ := bind_ok.1 hy
    exact ⟨a, ha⟩)
  exact ⟨m, hm, (mapX_through hm (fun x _ y hy => by rw [hy]; rfl)).trans h⟩

/-- a traversal whose step computes `F x` and wraps the result with `G x`: by membership both ways, and by index -/
theorem mapX_map_ok {β γ δ : Type} {F : β → Except Err γ} {G : β → γ → δ} {l : List β} {r : List δ}
    (h : mapX (fun x => (F x).map (G x)) l = .ok r) :
    (∀ x ∈ l, ∃ v, F x = .ok v ∧ G x v ∈ r) ∧ (∀ y ∈ r, ∃ x ∈ l, ∃ v, F x = .ok v ∧ y = G x v) ∧
    r.length = l.length ∧ ∀ i (h1 : i < l.length) (h2 : i < r.length), ∃ v, F l[i] = .ok v ∧ r[i] = G l[i] v :=
  ⟨fun x hx => let ⟨_, hy, hm⟩ := mapX_ok_mem h x hx; let ⟨v, hv, e⟩ := map_ok.1 hy; ⟨v, hv, e ▸ hm⟩,
   fun y hy => let ⟨x, hx, hf⟩ := mapX_ok_mem_rev h y hy; let ⟨v, hv, e⟩ := map_ok.1 hf; ⟨x, hx, v, hv, e.symm⟩,
   mapX_length h,
   fun i h1 h2 => let ⟨v, hv, e⟩ := map_ok.1 (mapX_ok_getElem h i h1 h2); ⟨v, hv, e.symm⟩⟩

theorem ofOption_ok {β : Type} {o : Option β} {e : Err} {v : β} :
    o.elim (Except.error e) Except.ok = .ok v ↔ o = some v := by
  cases o <;> simp

theorem mapX_imp_pos {β γ δ : Type} {f : β → Except Err δ} {g : γ → Except Err δ} (l1 : List β) (l2 : List γ)
    (r : List δ) (hl : l1.length = l2.length)
    (hp : ∀ k (h1 : k < l1.length) (h2 : k < l2.length) y, f l1[k] = .ok y → g l2[k] = .ok y)
    (h : mapX f l1 = .ok r) : mapX g l2 = .ok r := by
  rw [mapX_eq_mapM, mapM_ok_iff] at h ⊢
  exact ⟨h.1.trans hl, fun i h1 h2 => hp i (hl ▸ h1) h1 _ (h.2 i (hl ▸ h1) h2)⟩

theorem pickX_ok_iff {β : Type} {k : Nat} {xs : List β} {x : β} : pickX k xs = .ok x ↔ xs[k]? = some x := by
  simp only [pickX]
  cases xs[k]? <;> simp

theorem foldX_cons_ok {β σ : Type} {f : σ → β → Except Err σ} {s r : σ} {x : β} {xs : List β}
    (h : foldX f s (x :: xs) = .ok r) : ∃ s', f s x = .ok s' ∧ foldX f s' xs = .ok r := by
  simp only [foldX] at h
  cases hx : f s x with
  | error e => rw [hx] at h; cases h
  | ok s' => rw [hx] at h; exact ⟨s', rfl, h⟩

theorem lookup_of_mem_unique {κ ν : Type} [BEq κ] [LawfulBEq κ] {k : κ} {v : ν} {l : List (κ × ν)}
    (hm : (k, v) ∈ l) (hu : ∀ v', (k, v') ∈ l → v' = v) : l.lookup k = some v := by
  cases h : l.lookup k with
  | none => exact absurd (List.mem_map_of_mem (f := (·.1)) hm) (Assoc.lookup_eq_none_iff.mp h)
  | some v' => rw [hu v' (Assoc.mem_of_lookup h)]

theorem lookup_append_of_isSome {κ ν : Type} [BEq κ] {k : κ} {l1 l2 : List (κ × ν)}
    (h : (l1.lookup k).isSome) : (l1 ++ l2).lookup k = l1.lookup k := by
  rw [List.lookup_append, Option.or_of_isSome h]

theorem mem_keys_of_lookup_isSome {κ ν : Type} [BEq κ] [LawfulBEq κ] {k : κ} {l : List (κ × ν)}
    (h : (l.lookup k).isSome) : k ∈ l.map (·.1) :=
  Assoc.lookup_isSome_iff.mp h

inductive All2 {κ ρ : Type} (R : κ → ρ → Prop) : List κ → List ρ → Prop where
  | nil : All2 R [] []
  | cons {c : κ} {r : ρ} {cs : List κ} {rs : List ρ} : R c r → All2 R cs rs → All2 R (c :: cs) (r :: rs)

theorem mapX_factor {ι ρ κ : Type} {F : ι → Except Err ρ} {C : ι → Except Err κ} {R : κ → ρ → Prop} :
    ∀ {l : List ι} {rs : List ρ}, mapX F l = .ok rs →
    (∀ i ∈ l, ∀ r, F i = .ok r → ∃ c, C i = .ok c ∧ R c r) →
    ∃ cs, mapX C l = .ok cs ∧ All2 R cs rs := by
  intro l
  induction l with
  | nil => intro rs h _; simp [mapX] at h; subst h; exact ⟨[], rfl, All2.nil⟩
  | cons i is ih =>
    intro rs h hp
    obtain ⟨r, rs', hr, hrs, rfl⟩ := mapX_cons_ok h
    obtain ⟨c, hc, hR⟩ := hp i (by simp) r hr
    obtain ⟨cs, hcs, hF⟩ := ih hrs (fun j hj => hp j (by simp [hj]))
    exact ⟨c :: cs, mapX_cons_of_ok hc hcs, All2.cons hR hF⟩

theorem forall2_mapX {κ ρ δ : Type} {G : κ → Except Err δ} {proj : ρ → δ} {R : κ → ρ → Prop}
    (hR : ∀ c r, R c r → G c = .ok (proj r)) {cs : List κ} {rs : List ρ} (h : All2 R cs rs) :
    mapX G cs = .ok (rs.map proj) := by
  induction h with
  | nil => rfl
  | cons h1 _ ih => exact mapX_cons_of_ok (hR _ _ h1) ih

theorem all2_forall_right {κ ρ : Type} {R : κ → ρ → Prop} {P : ρ → Prop} {cs : List κ} {rs : List ρ}
    (h : All2 R cs rs) (hP : ∀ c ∈ cs, ∀ r, R c r → P r) : ∀ r ∈ rs, P r := by
  induction h with
  | nil => intro r hr; cases hr
  | cons h1 _ ih =>
    intro r hr
    rcases List.mem_cons.1 hr with e | e
    · rw [e]; exact hP _ (by simp) _ h1
    · exact ih (fun c hc r hR => hP c (by simp [hc]) r hR) r e

theorem all2_forall_left {κ ρ : Type} {R : κ → ρ → Prop} {P : κ → Prop} {cs : List κ} {rs : List ρ}
    (h : All2 R cs rs) (hP : ∀ r ∈ rs, ∀ c, R c r → P c) : ∀ c ∈ cs, P c := by
  induction h with
  | nil => intro c hc; cases hc
  | cons h1 _ ih =>
    intro c hc
    rcases List.mem_cons.1 hc with e | e
    · rw [e]; exact hP _ (by simp) _ h1
    · exact ih (fun r hr c hR => hP r (by simp [hr]) c hR) c e

theorem all2_length {κ ρ : Type} {R : κ → ρ → Prop} {cs : List κ} {rs : List ρ} (h : All2 R cs rs) :
    cs.length = rs.length := by
  induction h with
  | nil => rfl
  | cons _ _ ih => simp [ih]

theorem all2_append {κ ρ : Type} {R : κ → ρ → Prop} {cs cs' : List κ} {rs rs' : List ρ}
    (h : All2 R cs rs) (h' : All2 R cs' rs') : All2 R (cs ++ cs') (rs ++ rs') := by
  induction h with
  | nil => exact h'
  | cons h1 _ ih => exact All2.cons h1 ih

theorem all2_reverse {κ ρ : Type} {R : κ → ρ → Prop} {cs : List κ} {rs : List ρ} (h : All2 R cs rs) :
    All2 R cs.reverse rs.reverse := by
  induction h with
  | nil => exact All2.nil
  | cons h1 _ ih =>
    simp only [List.reverse_cons]
    exact all2_append ih (.cons h1 .nil)

end Flax.NnxLoop
