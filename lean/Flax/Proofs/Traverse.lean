/-
The flat form of a node seen from the node itself (`relT`, C16): `flatten` through it, what `unflatten` rebuilds from it
(`build_child`), well-formedness, prefix-freeness, the keys in its paths, and how it reads without `is_leaf` (as the
leaves, as the calls of `path_aware_map`).
-/
import Flax.Proofs.Except
import Flax.Proofs.TraverseInd

set_option linter.unusedSectionVars false

namespace Flax.Traverse

variable {κ α : Type}


private theorem shift_fun (isLeaf : Path κ → Tree κ α → Bool) (pre : Path κ) (k : κ) :
    (fun p => isLeaf ((pre ++ [k]) ++ p)) = (fun p => (fun q => isLeaf (pre ++ q)) (k :: p)) := by
  funext p; simp

theorem relKvs_eq_below (keep : Bool) (isLeaf : Path κ → Tree κ α → Bool) : ∀ kvs : List (κ × Tree κ α),
    relKvs keep isLeaf kvs = below (fun k => relT keep (fun p => isLeaf (k :: p))) kvs
  | [] => rfl
  | (k, c) :: rest => by rw [relKvs, relKvs_eq_below keep isLeaf rest]; rfl

private theorem flatKvs_rel_of (keep : Bool) (kvs : List (κ × Tree κ α))
    (h : ∀ kc ∈ kvs, ∀ (isLeaf : Path κ → Tree κ α → Bool) (pre : Path κ), pre ≠ [] → flatT keep isLeaf kc.2 pre
      = (relT keep (fun p => isLeaf (pre ++ p)) kc.2).map (fun pv => (pre ++ pv.1, pv.2)))
    (isLeaf : Path κ → Tree κ α → Bool) (pre : Path κ) :
    flatKvs keep isLeaf kvs pre
      = (relKvs keep (fun p => isLeaf (pre ++ p)) kvs).map (fun pv => (pre ++ pv.1, pv.2)) := by
  rw [flatKvs_eq_flatMap, relKvs_eq_below, below, List.map_flatMap]
  refine Lists.flatMap_congr fun kc hkc => ?_
  rw [h kc hkc isLeaf (pre ++ [kc.1]) (by simp), shift_fun, shift, List.map_map]
  exact List.map_congr_left fun pv _ => by simp

theorem flatT_rel (keep : Bool) : ∀ (t : Tree κ α) (isLeaf : Path κ → Tree κ α → Bool) (pre : Path κ), pre ≠ [] →
      flatT keep isLeaf t pre
        = (relT keep (fun p => isLeaf (pre ++ p)) t).map (fun pv => (pre ++ pv.1, pv.2)) := by
  intro t
  induction t using Tree.induct with
  | leaf v => intro isLeaf pre _; simp [flatT, relT]
  | dict kvs ih =>
    intro isLeaf pre hpre
    have hk := flatKvs_rel_of keep kvs ih isLeaf pre
    simp only [flatT, relT, List.append_nil]
    by_cases h1 : isLeaf pre (.dict kvs) = true
    · simp [h1]
    · by_cases h2 : (keep && kvs.isEmpty) = true
      · have : pre.isEmpty = false := by
          cases pre with
          | nil => exact absurd rfl hpre
          | cons _ _ => rfl
        simp [h1, h2, this]
      · simp only [h1, h2, Bool.false_eq_true, ↓reduceIte]
        exact hk

theorem flatKvs_rel (keep : Bool) (kvs : List (κ × Tree κ α)) (isLeaf : Path κ → Tree κ α → Bool) (pre : Path κ) :
    flatKvs keep isLeaf kvs pre
      = (relKvs keep (fun p => isLeaf (pre ++ p)) kvs).map (fun pv => (pre ++ pv.1, pv.2)) :=
  flatKvs_rel_of keep kvs (fun kc _ => flatT_rel keep kc.2) isLeaf pre

theorem flatT_root (keep : Bool) (isLeaf : Path κ → Tree κ α → Bool) (kvs : List (κ × Tree κ α))
    (h : isLeaf [] (.dict kvs) = false) : flatT keep isLeaf (.dict kvs) [] = relKvs keep isLeaf kvs := by
  have hk := flatKvs_rel keep kvs isLeaf []
  simp at hk
  simp only [flatT, h, Bool.false_eq_true, ↓reduceIte, List.isEmpty_nil]
  by_cases h2 : (keep && kvs.isEmpty) = true
  · have : kvs = [] := by
      have := (Bool.and_eq_true _ _).mp h2
      simpa using this.2
    subst this
    simp [relKvs, flatKvs]
  · simp only [h2, Bool.false_eq_true, ↓reduceIte]
    exact hk

theorem flattenWith_root {ρ : Type} [DecidableEq ρ] (key : Path κ → ρ) (keep : Bool) (isLeaf : Path κ → Tree κ α → Bool)
    (kvs : List (κ × Tree κ α)) (hroot : isLeaf [] (.dict kvs) = false)
    (hnd : ((relKvs keep isLeaf kvs).map fun pv => key pv.1).Nodup) :
    flattenWith key keep isLeaf (.dict kvs) = .ok ((relKvs keep isLeaf kvs).map fun pv => (key pv.1, pv.2)) := by
  rw [flattenWith, flatT_root keep isLeaf kvs hroot, Dict.ofList_of_nodup _ (by rwa [List.map_map])]

theorem flattenWith_leaf_root {ρ : Type} [DecidableEq ρ] (key : Path κ → ρ) (keep : Bool)
    (isLeaf : Path κ → Tree κ α → Bool) (kvs : List (κ × Tree κ α)) (hroot : isLeaf [] (.dict kvs) = true) :
    flattenWith key keep isLeaf (.dict kvs) = .ok [(key [], .val (.dict kvs))] := by
  simp [flattenWith, flatT, hroot, Dict.ofList, Dict.set]

/-- a dict is one entry of the flat form (`is_leaf` holds, or a kept `empty_node`) or is flattened through its items -/
theorem relT_dict (keep : Bool) (isLeaf : Path κ → Tree κ α → Bool) (kvs : List (κ × Tree κ α)) :
    (∃ v, relT keep isLeaf (.dict kvs) = [([], v)] ∧ normT keep isLeaf (.dict kvs) = some v.toTree) ∨
    (relT keep isLeaf (.dict kvs) = relKvs keep isLeaf kvs ∧ normT keep isLeaf (.dict kvs)
      = if (normKvs keep isLeaf kvs).isEmpty then none else some (.dict (normKvs keep isLeaf kvs))) := by
  simp only [relT, normT]
  by_cases h1 : isLeaf [] (.dict kvs) = true
  · exact Or.inl ⟨.val (.dict kvs), by simp [h1, FVal.toTree]⟩
  · by_cases h2 : (keep && kvs.isEmpty) = true
    · exact Or.inl ⟨.emptyNode, by simp [h1, h2, FVal.toTree]⟩
    · refine Or.inr ?_
      simp only [h1, h2, Bool.false_eq_true, ↓reduceIte, true_and]
      cases normKvs keep isLeaf kvs <;> rfl

section
variable [DecidableEq κ]

theorem build_nil (acc : List (κ × Tree κ α)) : build acc [] = .ok acc := rfl

theorem build_cons (acc : List (κ × Tree κ α)) (p : Path κ) (v : FVal κ α) (m : List (Path κ × FVal κ α)) :
    build acc ((p, v) :: m) = (insertPath acc p v.toTree >>= fun acc' => build acc' m) := rfl

theorem unflatten_eq_build (m : List (Path κ × FVal κ α)) : unflatten m = (build [] m).map Tree.dict := rfl

theorem unflattenLoop_key {ρ : Type} (key : Path κ → ρ) (unkey : ρ → Except Err (Path κ)) :
    ∀ (E : List (Path κ × FVal κ α)) (acc : List (κ × Tree κ α)),
    (∀ pv ∈ E, unkey (key pv.1) = .ok pv.1) →
    unflattenLoop unkey acc (E.map (fun pv => (key pv.1, pv.2))) = build acc E := by
  intro E
  induction E with
  | nil => intro acc _; rfl
  | cons x rest ih =>
    intro acc h
    obtain ⟨p, v⟩ := x
    have hp : unkey (key p) = .ok p := h (p, v) (by simp)
    simp only [List.map_cons, unflattenLoop, hp, build_cons, bind, Except.bind]
    cases insertPath acc p v.toTree with
    | error e => rfl
    | ok a => exact ih a (fun pv hpv => h pv (by simp [hpv]))

theorem build_append (m1 m2 : List (Path κ × FVal κ α)) : ∀ (acc : List (κ × Tree κ α)),
    build acc (m1 ++ m2) = (build acc m1 >>= fun a => build a m2) := by
  induction m1 with
  | nil => intro acc; rfl
  | cons x rest ih =>
    intro acc
    obtain ⟨p, v⟩ := x
    simp only [List.cons_append, build_cons]
    cases insertPath acc p v.toTree with
    | error e => rfl
    | ok a => exact ih a

theorem insertPath_single (acc : List (κ × Tree κ α)) (k : κ) (v : Tree κ α) :
    insertPath acc [k] v = .ok (Dict.set acc k v) := by
  simp [insertPath]

/-- the dict a path through `k` goes into: the one stored under `k`, or a new one -/
def Into (acc : List (κ × Tree κ α)) (k : κ) (sub : List (κ × Tree κ α)) : Prop :=
  Dict.get acc k = some (.dict sub) ∨ (Dict.get acc k = none ∧ sub = [])

theorem insertPath_into {acc sub : List (κ × Tree κ α)} {k : κ} (h : Into acc k sub) (p : Path κ) (hp : p ≠ [])
    (v : Tree κ α) :
    insertPath acc (k :: p) v = (insertPath sub p v >>= fun s' => .ok (Dict.set acc k (.dict s'))) := by
  cases p with
  | nil => exact absurd rfl hp
  | cons k2 rest => rcases h with h | ⟨h, rfl⟩ <;> simp [insertPath, h]

theorem insertPath_leaf (acc : List (κ × Tree κ α)) (k : κ) (p : Path κ) (hp : p ≠ []) (v : Tree κ α) (x : α)
    (h : Dict.get acc k = some (.leaf x)) : insertPath acc (k :: p) v = .error .notDict := by
  cases p with
  | nil => exact absurd rfl hp
  | cons k2 rest => simp [insertPath, h]

theorem build_single (acc : List (κ × Tree κ α)) (k : κ) (v : FVal κ α) (hk : Dict.get acc k = none) :
    build acc [([k], v)] = .ok (acc ++ [(k, v.toTree)]) := by
  rw [build_cons, insertPath_single, Dict.set_of_get_none _ _ _ hk]
  rfl

/-- for `E = []` nothing is written, so `k` must hold `sub` already -/
theorem build_under (k : κ) : ∀ (E : List (Path κ × FVal κ α)) (acc sub : List (κ × Tree κ α)),
    (∀ pv ∈ E, pv.1 ≠ []) → Into acc k sub → (E = [] → Dict.get acc k = some (.dict sub)) →
    build acc (E.map (fun pv => (k :: pv.1, pv.2)))
      = (build sub E).map (fun s' => Dict.set acc k (.dict s')) := by
  intro E
  induction E with
  | nil =>
    intro acc sub _ _ h
    simp [build_nil, Except.map, Dict.set_of_get_some _ _ _ (h rfl)]
  | cons x rest ih =>
    intro acc sub hne h _
    obtain ⟨p, v⟩ := x
    simp only [List.map_cons, build_cons]
    rw [insertPath_into h p (hne (p, v) (by simp))]
    cases hins : insertPath sub p v.toTree with
    | error e => rfl
    | ok s1 =>
      have := ih (Dict.set acc k (.dict s1)) s1 (fun pv hpv => hne pv (by simp [hpv]))
        (.inl (Dict.get_set_self _ _ _)) (fun _ => Dict.get_set_self _ _ _)
      simp only [bind, Except.bind]
      rw [this]
      simp [Dict.set_set]

theorem relT_nil_iff (keep : Bool) : ∀ (c : Tree κ α) (isLeaf : Path κ → Tree κ α → Bool),
      relT keep isLeaf c = [] ↔ normT keep isLeaf c = none := by
  intro c
  induction c using Tree.induct with
  | leaf v => intro isLeaf; simp [relT, normT]
  | dict kvs ih =>
    intro isLeaf
    have hk : relKvs keep isLeaf kvs = [] ↔ normKvs keep isLeaf kvs = [] := by
      rw [relKvs_eq_below, normKvs_filterMap, below_eq_nil_iff, filterMap_reval_eq_nil_iff]
      exact forall₂_congr fun kc hkc => ih kc hkc _
    rcases relT_dict keep isLeaf kvs with ⟨v, hr, hn⟩ | ⟨hr, hn⟩
    · rw [hr, hn]; simp
    · rw [hr, hn, hk]
      cases normKvs keep isLeaf kvs <;> simp

theorem relKvs_nil_iff (keep : Bool) (kvs : List (κ × Tree κ α)) (isLeaf : Path κ → Tree κ α → Bool) :
    relKvs keep isLeaf kvs = [] ↔ normKvs keep isLeaf kvs = [] := by
  rw [relKvs_eq_below, normKvs_filterMap, below_eq_nil_iff, filterMap_reval_eq_nil_iff]
  exact forall₂_congr fun kc _ => relT_nil_iff keep kc.2 _

omit [DecidableEq κ] in
theorem normT_keep (c : Tree κ α) : ∀ (isLeaf : Path κ → Tree κ α → Bool), normT true isLeaf c = some c := by
  induction c using Tree.induct with
  | leaf v => intro _; rfl
  | dict kvs ih =>
    intro isLeaf
    have hk : normKvs true isLeaf kvs = kvs := by
      rw [normKvs_filterMap]
      exact filterMap_reval_self _ kvs fun kc hkc => ih kc hkc _
    simp only [normT, hk]
    cases kvs <;> simp

theorem normKvs_keep (kvs : List (κ × Tree κ α)) (isLeaf : Path κ → Tree κ α → Bool) :
    normKvs true isLeaf kvs = kvs := by
  rw [normKvs_filterMap]
  exact filterMap_reval_self _ kvs fun kc _ => normT_keep kc.2 _

omit [DecidableEq κ] in
theorem relKvs_paths_ne_nil (keep : Bool) (isLeaf : Path κ → Tree κ α → Bool) (kvs : List (κ × Tree κ α)) :
    ∀ pv ∈ relKvs keep isLeaf kvs, pv.1 ≠ [] := by
  rw [relKvs_eq_below]
  exact below_paths_ne_nil _ kvs

/-- unflattening child by child: `n k c` is what the entries `g k c` of a child build under a fresh key `k`, if anything -/
theorem build_below (g : κ → Tree κ α → List (Path κ × FVal κ α)) (n : κ → Tree κ α → Option (Tree κ α))
    (kvs acc : List (κ × Tree κ α)) (hnd : kvs.Pairwise (fun a b => a.1 ≠ b.1))
    (hacc : ∀ kc ∈ kvs, Dict.get acc kc.1 = none)
    (hg : ∀ kc ∈ kvs, ∀ acc, Dict.get acc kc.1 = none →
      build acc (shift kc.1 (g kc.1 kc.2)) = .ok ((n kc.1 kc.2).elim acc (fun c' => acc ++ [(kc.1, c')]))) :
    build acc (below g kvs) = .ok (acc ++ kvs.filterMap (reval n)) := by
  induction kvs generalizing acc with
  | nil => exact congrArg Except.ok (List.append_nil acc).symm
  | cons x rest ih =>
    obtain ⟨hx, hnd⟩ := List.pairwise_cons.mp hnd
    obtain ⟨hax, hacc⟩ := List.forall_mem_cons.mp hacc
    obtain ⟨hgx, hg⟩ := List.forall_mem_cons.mp hg
    have ih := fun acc' h => ih acc' hnd h hg
    rw [below_cons, build_append, hgx acc hax, List.filterMap_cons, reval]
    cases n x.1 x.2 with
    | none => exact ih acc hacc
    | some c' =>
      refine (ih (acc ++ [(x.1, c')]) fun kc h => ?_).trans (congrArg Except.ok (List.append_assoc _ _ _))
      exact Dict.get_append_single acc x.1 kc.1 c' (hacc kc h) (hx kc h)

theorem build_child (keep : Bool) : ∀ (c : Tree κ α) (isLeaf : Path κ → Tree κ α → Bool)
      (acc : List (κ × Tree κ α)) (k : κ), WF c → Dict.get acc k = none →
      build acc ((relT keep isLeaf c).map (fun pv => (k :: pv.1, pv.2)))
        = .ok (match normT keep isLeaf c with | none => acc | some c' => acc ++ [(k, c')]) := by
  intro c
  induction c using Tree.induct with
  | leaf v => intro isLeaf acc k _ hk; exact build_single acc k (.val (.leaf v)) hk
  | dict kvs ih =>
    intro isLeaf acc k hwf hk
    have hw := (wfKvs_iff kvs).mp hwf
    have hkids : build [] (relKvs keep isLeaf kvs) = .ok (normKvs keep isLeaf kvs) := by
      rw [relKvs_eq_below, normKvs_filterMap]
      refine (build_below _ _ kvs [] hw.1 (fun _ _ => rfl) (fun kc hkc acc h => ?_)).trans
        (congrArg _ (List.nil_append _))
      refine (ih kc hkc _ acc kc.1 (hw.2 kc hkc) h).trans ?_
      cases normT keep (fun p => isLeaf (kc.1 :: p)) kc.2 <;> rfl
    rcases relT_dict keep isLeaf kvs with ⟨v, hr, hn⟩ | ⟨hr, hn⟩
    · rw [hr, hn]
      exact build_single acc k v hk
    · rw [hr, hn]
      by_cases hE : relKvs keep isLeaf kvs = []
      · rw [hE, (relKvs_nil_iff keep kvs isLeaf).mp hE]
        rfl
      · have hn : (normKvs keep isLeaf kvs).isEmpty = false := by
          cases h : normKvs keep isLeaf kvs with
          | nil => exact absurd ((relKvs_nil_iff keep kvs isLeaf).mpr h) hE
          | cons _ _ => rfl
        rw [build_under k _ acc [] (relKvs_paths_ne_nil keep isLeaf kvs) (.inr ⟨hk, rfl⟩) (fun e => absurd e hE), hkids, hn]
        exact congrArg Except.ok (Dict.set_of_get_none _ _ _ hk)

theorem build_kvs (keep : Bool) (kvs : List (κ × Tree κ α)) (isLeaf : Path κ → Tree κ α → Bool)
    (acc : List (κ × Tree κ α)) (hwf : WFKvs kvs) (hacc : ∀ kv ∈ kvs, Dict.get acc kv.1 = none) :
    build acc (relKvs keep isLeaf kvs) = .ok (acc ++ normKvs keep isLeaf kvs) := by
  have hw := (wfKvs_iff kvs).mp hwf
  rw [relKvs_eq_below, normKvs_filterMap]
  refine build_below _ _ kvs acc hw.1 hacc (fun kc hkc acc h => ?_)
  refine (build_child keep kc.2 _ acc kc.1 (hw.2 kc hkc) h).trans ?_
  cases normT keep (fun p => isLeaf (kc.1 :: p)) kc.2 <;> rfl

theorem wf_get (d : List (κ × Tree κ α)) (hwf : WFKvs d) (k : κ) (c : Tree κ α) (h : Dict.get d k = some c) :
    WF c := wf_of_mem d hwf (k, c) (Dict.mem_of_get d k c h)

theorem wf_set (d : List (κ × Tree κ α)) (hwf : WFKvs d) (k : κ) (v : Tree κ α) (hv : WF v) :
    WFKvs (Dict.set d k v) := by
  refine wf_intro _ (Dict.nodup_set d k v (wf_nodup d hwf)) ?_
  intro kc h
  rcases Dict.mem_set d k v kc h with rfl | h
  · exact hv
  · exact wf_of_mem d hwf kc h

theorem insertPath_wf : ∀ (p : Path κ) (acc : List (κ × Tree κ α)) (v : Tree κ α) (acc' : List (κ × Tree κ α)),
    WFKvs acc → WF v → insertPath acc p v = .ok acc' → WFKvs acc' := by
  intro p
  induction p with
  | nil => exact fun _ _ _ _ _ h => nomatch h
  | cons k tl ih =>
    intro acc v acc' hwf hv h
    by_cases htl : tl = []
    · subst htl
      cases h
      exact wf_set acc hwf k v hv
    · cases hg : Dict.get acc k with
      | none =>
        rw [insertPath_into (.inr ⟨hg, rfl⟩) tl htl v] at h
        obtain ⟨sub, hs, e⟩ := bind_ok.mp h
        cases e
        exact wf_set acc hwf k _ (ih [] v sub trivial hv hs)
      | some old =>
        cases old with
        | leaf x => rw [insertPath_leaf acc k tl htl v x hg] at h; cases h
        | dict sub =>
          rw [insertPath_into (.inl hg) tl htl v] at h
          obtain ⟨sub', hs, e⟩ := bind_ok.mp h
          cases e
          exact wf_set acc hwf k _ (ih sub v sub' (wf_get acc hwf k _ hg) hv hs)

theorem build_wf : ∀ (m : List (Path κ × FVal κ α)) (acc acc' : List (κ × Tree κ α)),
    WFKvs acc → (∀ e ∈ m, WF e.2.toTree) → build acc m = .ok acc' → WFKvs acc' := by
  intro m
  induction m with
  | nil => intro acc acc' hwf _ h; cases h; exact hwf
  | cons x rest ih =>
    intro acc acc' hwf hv h
    obtain ⟨a1, hi, h⟩ := bind_ok.mp ((build_cons acc x.1 x.2 rest).symm.trans h)
    exact ih a1 acc' (insertPath_wf x.1 acc _ a1 hwf (hv x List.mem_cons_self) hi)
      (fun e he => hv e (List.mem_cons_of_mem _ he)) h

theorem wf_update : ∀ (new acc : List (κ × Tree κ α)), WFKvs acc → WFKvs new → WFKvs (Dict.update acc new)
  | [], _, h, _ => h
  | x :: rest, acc, h, hn => wf_update rest (Dict.set acc x.1 x.2) (wf_set acc h x.1 x.2 hn.2.1) hn.2.2

omit [DecidableEq κ] in
theorem Incomp.ne {p q : Path κ} (h : Incomp p q) : p ≠ q := fun e => h.1 (e ▸ List.prefix_refl p)

omit [DecidableEq κ] in
theorem incomp_cons (k : κ) (p q : Path κ) : Incomp (k :: p) (k :: q) ↔ Incomp p q := by
  simp [Incomp, List.cons_prefix_cons]

omit [DecidableEq κ] in
theorem incomp_of_head_ne {k k' : κ} (h : k ≠ k') (p q : Path κ) : Incomp (k :: p) (k' :: q) := by
  simp only [Incomp, List.cons_prefix_cons, not_and]
  exact ⟨fun e => absurd e h, fun e => absurd e.symm h⟩

theorem PrefixFree.nodup_paths {β : Type} {m : List (Path κ × β)} (h : PrefixFree m) : (m.map Prod.fst).Nodup := by
  rw [List.Nodup, List.pairwise_map]
  exact h.imp (fun hi => hi.ne)

theorem PrefixFree.perm {β : Type} {l1 l2 : List (Path κ × β)} (h : l1.Perm l2) (hp : PrefixFree l1) :
    PrefixFree l2 :=
  (List.Perm.pairwise_iff And.symm h).mp hp

omit [DecidableEq κ] in
theorem prefixFree_map {β γ : Type} (f : β → γ) (m : List (Path κ × β)) :
    PrefixFree (m.map (fun e => (e.1, f e.2))) ↔ PrefixFree m := by
  simp [PrefixFree, List.pairwise_map]

theorem prefixFree_below {β : Type} (g : κ → Tree κ α → List (Path κ × β)) (kvs : List (κ × Tree κ α))
    (hk : kvs.Pairwise (fun a b => a.1 ≠ b.1)) (hg : ∀ kc ∈ kvs, PrefixFree (g kc.1 kc.2)) :
    PrefixFree (below g kvs) := by
  rw [PrefixFree, below, List.pairwise_flatMap]
  refine ⟨fun kc h => List.pairwise_map.mpr ((hg kc h).imp (incomp_cons _ _ _).mpr), hk.imp ?_⟩
  intro a b hab x hx y hy
  obtain ⟨_, _, rfl⟩ := List.mem_map.mp hx
  obtain ⟨_, _, rfl⟩ := List.mem_map.mp hy
  exact incomp_of_head_ne hab _ _

theorem relT_prefixFree (keep : Bool) : ∀ (c : Tree κ α) (isLeaf : Path κ → Tree κ α → Bool), WF c →
      PrefixFree (relT keep isLeaf c) := by
  intro c
  induction c using Tree.induct with
  | leaf v => intro _ _; exact List.pairwise_singleton _ _
  | dict kvs ih =>
    intro isLeaf hwf
    obtain ⟨hk, hc⟩ := (wfKvs_iff kvs).mp hwf
    rcases relT_dict keep isLeaf kvs with ⟨v, hr, _⟩ | ⟨hr, _⟩
    · rw [hr]; exact List.pairwise_singleton _ _
    · rw [hr, relKvs_eq_below]
      exact prefixFree_below _ kvs hk fun kc h => ih kc h _ (hc kc h)

theorem relKvs_prefixFree (keep : Bool) (kvs : List (κ × Tree κ α)) (isLeaf : Path κ → Tree κ α → Bool)
    (hwf : WFKvs kvs) : PrefixFree (relKvs keep isLeaf kvs) := by
  obtain ⟨hk, hc⟩ := (wfKvs_iff kvs).mp hwf
  rw [relKvs_eq_below]
  exact prefixFree_below _ kvs hk fun kc h => relT_prefixFree keep kc.2 _ (hc kc h)

theorem flatten_root (keep : Bool) (isLeaf : Path κ → Tree κ α → Bool) (kvs : List (κ × Tree κ α)) (hwf : WFKvs kvs)
    (hroot : isLeaf [] (.dict kvs) = false) : flatten keep isLeaf (.dict kvs) = .ok (relKvs keep isLeaf kvs) := by
  rw [flatten, flattenWith_root id keep isLeaf kvs hroot (relKvs_prefixFree keep kvs isLeaf hwf).nodup_paths]
  exact congrArg Except.ok (List.map_id' _)

end

theorem below_keys {β : Type} (g : κ → Tree κ α → List (Path κ × β)) (kvs : List (κ × Tree κ α))
    (h : ∀ kc ∈ kvs, ∀ pv ∈ g kc.1 kc.2, ∀ k ∈ pv.1, k ∈ keysT kc.2) :
    ∀ pv ∈ below g kvs, ∀ k ∈ pv.1, k ∈ keysKvs kvs := by
  intro pv hpv k hk
  obtain ⟨kc, hkc, hs⟩ := List.mem_flatMap.mp hpv
  obtain ⟨q, hq, rfl⟩ := List.mem_map.mp hs
  rw [keysKvs_eq_flatMap]
  refine List.mem_flatMap.mpr ⟨kc, hkc, ?_⟩
  rcases List.mem_cons.mp hk with rfl | hk
  · exact List.mem_cons_self
  · exact List.mem_cons_of_mem _ (h kc hkc q hq k hk)

theorem relT_keys (keep : Bool) : ∀ (c : Tree κ α) (isLeaf : Path κ → Tree κ α → Bool),
      ∀ pv ∈ relT keep isLeaf c, ∀ k ∈ pv.1, k ∈ keysT c := by
  intro c
  induction c using Tree.induct with
  | leaf v => intro isLeaf; simp [relT]
  | dict kvs ih =>
    intro isLeaf
    have hk := below_keys (fun k => relT keep fun p => isLeaf (k :: p)) kvs fun kc hkc => ih kc hkc _
    rw [← relKvs_eq_below] at hk
    rcases relT_dict keep isLeaf kvs with ⟨v, hr, _⟩ | ⟨hr, _⟩
    · rw [hr]
      intro pv hpv k hk
      cases List.mem_singleton.mp hpv
      exact nomatch hk
    · rw [hr]
      exact hk

theorem relKvs_keys (keep : Bool) (kvs : List (κ × Tree κ α)) (isLeaf : Path κ → Tree κ α → Bool) :
    ∀ pv ∈ relKvs keep isLeaf kvs, ∀ k ∈ pv.1, k ∈ keysKvs kvs := by
  rw [relKvs_eq_below]
  exact below_keys (fun k => relT keep fun p => isLeaf (k :: p)) kvs fun kc _ => relT_keys keep kc.2 _

theorem relT_dict_noLeaf (b : Bool) (sub : List (κ × Tree κ α)) :
    relT b noLeaf (.dict sub) = if (b && sub.isEmpty) = true then [([], .emptyNode)] else relKvs b noLeaf sub := by
  simp [relT, noLeaf]

theorem relKvs_noLeaf_eq_below (b : Bool) (d : List (κ × Tree κ α)) :
    relKvs b noLeaf d = below (fun _ => relT b noLeaf) d :=
  relKvs_eq_below b noLeaf d

section
variable [DecidableEq κ]

theorem relT_false_leaves : ∀ (c : Tree κ α), relT false noLeaf c = (leavesT c).map leafEntry := by
  intro c
  induction c using Tree.induct with
  | leaf v => rfl
  | dict kvs ih =>
    rw [relT_dict_noLeaf, Bool.false_and, if_neg Bool.false_ne_true, relKvs_noLeaf_eq_below, leavesT,
      leavesKvs_eq_below, below, below, List.map_flatMap]
    exact Lists.flatMap_congr fun kc h => by rw [ih kc h, shift, shift, List.map_map, List.map_map]; rfl

theorem relKvs_false_leaves (kvs : List (κ × Tree κ α)) :
    relKvs false noLeaf kvs = (leavesKvs kvs).map leafEntry := by
  have := relT_false_leaves (.dict kvs)
  rwa [relT_dict_noLeaf, Bool.false_and, if_neg Bool.false_ne_true, leavesT] at this

theorem leavesKvs_prefixFree (kvs : List (κ × Tree κ α)) (hwf : WFKvs kvs) : PrefixFree (leavesKvs kvs) := by
  have := relKvs_prefixFree false kvs noLeaf hwf
  rwa [relKvs_false_leaves, PrefixFree, List.pairwise_map] at this

omit [DecidableEq κ] in
theorem leavesKvs_paths_ne_nil (kvs : List (κ × Tree κ α)) : ∀ e ∈ leavesKvs kvs, e.1 ≠ [] := by
  rw [leavesKvs_eq_below]
  exact below_paths_ne_nil _ kvs

/-- the `f`-calls of `path_aware_map` are exactly the leaves (the `empty_node` entries are skipped) -/
theorem relT_true_calls : ∀ (c : Tree κ α),
      (relT true noLeaf c).filterMap (fun pv => match pv.2 with | .val x => some (pv.1, x) | .emptyNode => none)
        = (leavesT c).map (fun pa => (pa.1, Tree.leaf pa.2)) := by
  intro c
  induction c using Tree.induct with
  | leaf v => rfl
  | dict kvs ih =>
    cases kvs with
    | nil => rfl
    | cons x r =>
      rw [relT_dict_noLeaf, if_neg (by simp), leavesT, relKvs_noLeaf_eq_below, leavesKvs_eq_below, below, below,
        List.filterMap_flatMap, List.map_flatMap]
      refine Lists.flatMap_congr fun kc hkc => ?_
      refine Eq.trans ?_ ((congrArg (shift kc.1) (ih kc hkc)).trans (by
        rw [shift, shift, List.map_map, List.map_map]; rfl))
      rw [shift, shift, List.filterMap_map, List.map_filterMap]
      refine Lists.filterMap_congr fun pv _ => ?_
      obtain ⟨q, v⟩ := pv
      cases v <;> rfl

theorem relKvs_true_calls (kvs : List (κ × Tree κ α)) :
    (relKvs true noLeaf kvs).filterMap (fun pv => match pv.2 with | .val x => some (pv.1, x) | .emptyNode => none)
      = (leavesKvs kvs).map (fun pa => (pa.1, Tree.leaf pa.2)) := by
  cases kvs with
  | nil => rfl
  | cons x r =>
    have := relT_true_calls (.dict (x :: r))
    rwa [relT_dict_noLeaf, if_neg (by simp), leavesT] at this

theorem relKvs_true_ne_nil (kvs : List (κ × Tree κ α)) (h : kvs ≠ []) : relKvs true noLeaf kvs ≠ [] := by
  rwa [Ne, relKvs_nil_iff, normKvs_keep]

theorem relT_true_ne_nil (c : Tree κ α) : relT true noLeaf c ≠ [] := by
  rw [Ne, relT_nil_iff, normT_keep]
  exact fun h => nomatch h

end

end Flax.Traverse
