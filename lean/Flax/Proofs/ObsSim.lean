/-
Simulation between a module program and the same program with its observers (`sow`,
`capture_intermediates`) removed: the two runs agree on everything outside the observation
collections `S`.  Statements outside `S` go in lockstep (the operation lemmas of `Flax.Lockstep`); a `sow` is a
step of the first run alone.  Used by C01 (`observe_noninterference`).
-/
import Flax.Proofs.Lockstep

namespace Flax.ObsSim
open Flax.Filter (LFilter inFilter)
open Flax.Scope Flax.ModuleTree Flax.ScopeLemmas Flax.Lockstep

theorem properPrefix_cons_ne (a b : String) (as bs : Path) (h : a ≠ b) :
    properPrefix (a :: as) (b :: bs) = false := by
  simp [properPrefix, List.isPrefixOf, h]

/-- `s` (program with observers) and `t` (observers removed) agree outside the collections `S` -/
structure Sim (S : List String) (s t : Store) : Prop where
  rngs_eq : t.rngs = s.rngs
  mut_eq : ∀ c, c ∉ S → inFilter t.mutable c = inFilter s.mutable c
  vars_eq : ∀ c rest, c ∉ S → lookupP (c :: rest) t.vars = lookupP (c :: rest) s.vars
  hascol_eq : ∀ c, c ∉ S → hasCol t c = hasCol s c
  conflict_eq : ∀ c rest, c ∉ S → conflict t.vars (c :: rest) = conflict s.vars (c :: rest)

variable {S : List String}

theorem Sim.getVar_eq {s t : Store} (h : Sim S s t) {c : String} (hc : c ∉ S) (π : Path) (n : String) :
    getVar t π c n = getVar s π c n := h.vars_eq c _ hc

theorem Sim.isMutable_eq {s t : Store} (h : Sim S s t) {c : String} (hc : c ∉ S) :
    isMutable t c = isMutable s c := h.mut_eq c hc

theorem putVar_sim {s t s1 : Store} {col : String} (hS : col ∉ S) (hsim : Sim S s t) {π : Path} {n : String}
    {v : Val} (h : putVar π col n v s = (.ok (), s1)) :
    ∃ t1, putVar π col n v t = (.ok (), t1) ∧ Sim S s1 t1 := by
  obtain ⟨hm, hcf, rfl⟩ := putVar_ok_iff.mp h
  refine ⟨_, putVar_ok_iff.mpr ⟨by rw [hsim.isMutable_eq hS]; exact hm,
    (hsim.conflict_eq col _ hS).trans hcf, rfl⟩, hsim.rngs_eq, hsim.mut_eq, ?_, ?_, ?_⟩
  · intro c rest hcS
    by_cases hq : (c :: rest) = fullPath col π n
    · simp only [hq, lookupP_upsert_self]
    · simp only [lookupP_upsert_ne _ _ _ _ hq]; exact hsim.vars_eq c rest hcS
  · intro c hcS
    rw [hasCol_put, hasCol_put, hsim.hascol_eq c hcS]
  · intro c rest hcS
    rw [conflict_upsert, conflict_upsert, hsim.conflict_eq c rest hcS]

theorem putVar_left {s t s1 : Store} (hsim : Sim S s t) {col : String} (hc : col ∈ S) {π : Path} {n : String}
    {v : Val} (h : putVar π col n v s = (.ok (), s1)) : Sim S s1 t := by
  obtain ⟨_, _, rfl⟩ := putVar_ok_iff.mp h
  have hne : ∀ c, c ∉ S → col ≠ c := fun c hcS heq => hcS (heq ▸ hc)
  refine ⟨hsim.rngs_eq, hsim.mut_eq, ?_, ?_, ?_⟩
  · intro c rest hcS
    have hq : (c :: rest) ≠ fullPath col π n := fun heq => hne c hcS (List.cons.inj heq).1.symm
    simp only [lookupP_upsert_ne _ _ _ _ hq]; exact hsim.vars_eq c rest hcS
  · intro c hcS
    rw [hasCol_put, hsim.hascol_eq c hcS]
    simp [hne c hcS]
  · intro c rest hcS
    rw [conflict_upsert, hsim.conflict_eq c rest hcS]
    simp [fullPath, properPrefix_cons_ne _ _ _ _ (hne c hcS), properPrefix_cons_ne _ _ _ _ (hne c hcS).symm]

theorem obs_storeSim : StoreSim (Sim S) id (· ∉ S) Eq where
  mutable := fun h hc => h.isMutable_eq hc
  rngs := fun h => h.rngs_eq
  get_some := fun h hc hg => ⟨_, (h.getVar_eq hc _ _).trans hg, rfl⟩
  get_none := fun h hc hg => (h.getVar_eq hc _ _).trans hg
  col_le := fun h hc hh => (h.hascol_eq _ hc).symm.trans hh
  col_ge := fun h hc hh _ => (h.hascol_eq _ hc).trans hh
  bump := fun h => ⟨h.rngs_eq, h.mut_eq, h.vars_eq, h.hascol_eq, h.conflict_eq⟩
  put := fun h hc hv hp => by cases hv; exact putVar_sim hc h hp

theorem moduleSow_left {s t s1 : Store} {r r' r1 : Res} {col : String} (hS : col ∈ S) (hsim : Sim S s t)
    (hres : ResSub r' r) {π : Path} {n : String} {e : Int}
    (h : moduleSow π col n e r s = (.ok r1, s1)) : ResSub r' r1 ∧ Sim S s1 t := by
  rcases moduleSow_ok_iff.mp h with ⟨_, rfl, rfl⟩ | ⟨_, ⟨_, _, rfl, hp⟩ | ⟨_, hr, hp⟩⟩
  · exact ⟨hres, hsim⟩
  · exact ⟨hres, putVar_left hsim hS hp⟩
  · rw [reserve_res hr]
    exact ⟨hres.cons_right _, putVar_left hsim hS hp⟩

def quiet (cfg : Cfg) : Cfg := { cfg with capture := false }

def Covers (S : List String) (p : SProg) : Prop :=
  (∀ c ∈ sowCols p, c ∈ S) ∧ (∀ c ∈ otherCols p, c ∉ S)

/-- `l'`: the run without observers, which reserves no name for a `sow` (`res_sub`) -/
structure LocalSim (S : List String) (l l' : Local) : Prop where
  env_eq : l'.env = l.env
  out_eq : l'.out = l.out
  cursors_eq : l'.cursors = l.cursors
  kids_eq : l'.kids = l.kids.map (fun k => ⟨k.name, eraseSow k.body⟩)
  res_sub : ResSub l'.res l.res
  kids_ok : ∀ k ∈ l.kids, Covers S k.body

theorem LocalSim.empty (S : List String) : LocalSim S {} {} :=
  ⟨rfl, rfl, rfl, rfl, fun _ h => h, fun _ h => absurd h (by simp)⟩

theorem finishCall_left {cfg : Cfg} (hcap : cfg.capture = true → "intermediates" ∈ S) {π : Path} {l l1 l' : Local}
    {s s1 t : Store} (hl : LocalSim S l l') (hsim : Sim S s t) (h : finishCall cfg π l s = (.ok l1, s1)) :
    finishCall (quiet cfg) π l' t = (.ok l', t) ∧ LocalSim S l1 l' ∧ Sim S s1 t := by
  refine ⟨finishCall_ok_iff.mpr (.inr ⟨rfl, rfl, rfl⟩), ?_⟩
  rcases finishCall_ok_iff.mp h with ⟨hc, r, hsow, rfl⟩ | ⟨_, rfl, rfl⟩
  · obtain ⟨h1, h2⟩ := moduleSow_left (hcap hc) hsim hl.res_sub hsow
    exact ⟨⟨hl.env_eq, hl.out_eq, hl.cursors_eq, hl.kids_eq, h1, hl.kids_ok⟩, h2⟩
  · exact ⟨hl, hsim⟩

theorem covers_seq {a b : SProg} (h : Covers S (.seq a b)) : Covers S a ∧ Covers S b := by
  obtain ⟨h1, h2⟩ := h
  simp only [sowCols, otherCols, List.mem_append] at h1 h2
  exact ⟨⟨fun c hc => h1 c (Or.inl hc), fun c hc => h2 c (Or.inl hc)⟩,
         ⟨fun c hc => h1 c (Or.inr hc), fun c hc => h2 c (Or.inr hc)⟩⟩

theorem LocalSim.push {l l' : Local} (h : LocalSim S l l') (v : Int) : LocalSim S (push l v) (push l' v) :=
  ⟨by simp [ModuleTree.push, h.env_eq], h.out_eq, h.cursors_eq, h.kids_eq, h.res_sub, h.kids_ok⟩

theorem LocalSim.withRes {l l' : Local} (h : LocalSim S l l') {r r' : Res} (hr : ResSub r' r) :
    LocalSim S { l with res := r } { l' with res := r' } :=
  ⟨h.env_eq, h.out_eq, h.cursors_eq, h.kids_eq, hr, h.kids_ok⟩

theorem eval_sim {cfg : Cfg} (hst : cfg.style ≠ .core) (hcap : cfg.capture = true → "intermediates" ∈ S) :
    ∀ (fuel : Nat) (p : SProg) (π : Path) (x : Int) (l l' l1 : Local) (s t s1 : Store),
      Covers S p → LocalSim S l l' → Sim S s t →
      eval cfg fuel p π x l s = (.ok l1, s1) →
      ∃ l1' t1, eval (quiet cfg) fuel (eraseSow p) π x l' t = (.ok l1', t1) ∧ LocalSim S l1 l1' ∧ Sim S s1 t1 := by
  intro fuel
  induction fuel with
  | zero => intro p π x l l' l1 s t s1 _ _ _ h; rw [eval_zero] at h; cases h
  | succ fuel ih =>
    intro p π x l l' l1 s t s1 hcov hl hsim h
    cases p with
    | skip =>
      obtain ⟨rfl, rfl⟩ := eval_skip_ok.mp h
      exact ⟨l', t, eval_skip_ok.mpr ⟨rfl, rfl⟩, hl, hsim⟩
    | seq a b =>
      obtain ⟨hca, hcb⟩ := covers_seq hcov
      obtain ⟨l2, s2, ha, hb⟩ := eval_seq_ok.mp h
      obtain ⟨l2', t2, e1, hl2, hs2⟩ := ih a π x l l' l2 s t s2 hca hl hsim ha
      obtain ⟨l3', t3, e2, hl3, hs3⟩ := ih b π x l2 l2' l1 s2 t2 s1 hcb hl2 hs2 hb
      exact ⟨l3', t3, eval_seq_ok.mpr ⟨l2', t2, e1, e2⟩, hl3, hs3⟩
    | bind e =>
      obtain ⟨v, he, rfl, rfl⟩ := eval_bind_ok.mp h
      exact ⟨_, t, eval_bind_ok.mpr ⟨v, by rw [hl.env_eq]; exact he, rfl, rfl⟩, hl.push v, hsim⟩
    | ret e =>
      obtain ⟨v, he, rfl, rfl⟩ := eval_ret_ok.mp h
      exact ⟨_, t, eval_ret_ok.mpr ⟨v, by rw [hl.env_eq]; exact he, rfl, rfl⟩,
        ⟨hl.env_eq, rfl, hl.cursors_eq, hl.kids_eq, hl.res_sub, hl.kids_ok⟩, hsim⟩
    | param n shape init =>
      have hS : "params" ∉ S := hcov.2 "params" List.mem_cons_self
      obtain ⟨v, r, hp, rfl⟩ := eval_param_ok.mp h
      obtain ⟨_, r1', t1, e1, rfl, hsub, hs1⟩ :=
        scopeParam_sim (valSim_exact scalarSim_eq) obs_storeSim resSub_sim hsim hl.res_sub hS hp
      exact ⟨_, t1, eval_param_ok.mpr ⟨v, r1', e1, rfl⟩, (hl.push _).withRes hsub, hs1⟩
    | var col n shape init =>
      have hS : col ∉ S := hcov.2 col List.mem_cons_self
      obtain ⟨iv, r, v, he, hp, hg, rfl⟩ := eval_var_ok.mp h
      obtain ⟨r1', t1, e1, hsub, hs1⟩ := scopeVariable_sim obs_storeSim resSub_sim hsim hl.res_sub hS rfl hp
      exact ⟨_, t1, eval_var_ok.mpr ⟨iv, r1', v, by rw [hl.env_eq]; exact he, e1,
        by rw [hs1.getVar_eq hS]; exact hg, rfl⟩, (hl.push _).withRes hsub, hs1⟩
    | get col n =>
      have hS : col ∉ S := hcov.2 col List.mem_cons_self
      obtain ⟨rfl, rfl⟩ := eval_get_ok.mp h
      exact ⟨_, t, eval_get_ok.mpr ⟨rfl, rfl⟩, by rw [hsim.getVar_eq hS]; exact hl.push _, hsim⟩
    | put col rel n e =>
      have hS : col ∉ S := hcov.2 col List.mem_cons_self
      obtain ⟨v, he, hp, rfl⟩ := eval_put_ok.mp h
      obtain ⟨t1, e1, hs1⟩ := putVar_sim hS hsim hp
      exact ⟨l', t1, eval_put_ok.mpr ⟨v, by rw [hl.env_eq]; exact he, e1, rfl⟩, hl, hs1⟩
    | sow col n e =>
      have hS : col ∈ S := hcov.1 col List.mem_cons_self
      obtain ⟨v, r, he, hp, rfl⟩ := eval_sow_ok.mp h
      obtain ⟨h1, h2⟩ := moduleSow_left hS hsim hl.res_sub hp
      exact ⟨l', t, eval_skip_ok.mpr ⟨rfl, rfl⟩, ⟨hl.env_eq, hl.out_eq, hl.cursors_eq, hl.kids_eq, h1, hl.kids_ok⟩, h2⟩
    | perturb col n e =>
      have hS : col ∉ S := hcov.2 col List.mem_cons_self
      obtain ⟨v, y, r, he, hp, rfl⟩ := eval_perturb_ok.mp h
      obtain ⟨_, r1', t1, e1, rfl, hsub, hs1⟩ :=
        modulePerturb_sim (valSim_exact scalarSim_eq) obs_storeSim resSub_sim hsim hl.res_sub hS rfl hp
      exact ⟨_, t1, eval_perturb_ok.mpr ⟨v, y, r1', by rw [hl.env_eq]; exact he, e1, rfl⟩,
        (hl.push _).withRes hsub, hs1⟩
    | child cls name body =>
      have hcb : Covers S body := hcov
      obtain ⟨nm, cs, r, hn, hr, rfl, rfl⟩ := eval_child_ok.mp h
      have hname : childName (quiet cfg) cls name l' = childName cfg cls name l :=
        childName_congr (cfg := cfg) hl.cursors_eq (by rw [hl.kids_eq, List.length_map]) (fun hs => absurd hs hst) cls name
      obtain ⟨r', hr', hsub⟩ := resSub_sim hl.res_sub hr
      refine ⟨_, t, eval_child_ok.mpr ⟨nm, cs, r', by rw [hname]; exact hn, hr', rfl, rfl⟩, ?_, hsim⟩
      exact ⟨hl.env_eq, hl.out_eq, rfl, by simp [hl.kids_eq], hsub, kids_snoc hl.kids_ok hcb nm⟩
    | call slot a w =>
      obtain ⟨k, av, lk, s2, lk2, hk, he, hb, hf, rfl⟩ := eval_call_ok.mp h
      have hk' : l'.kids[slot]? = some ⟨k.name, eraseSow k.body⟩ := by
        rw [hl.kids_eq, List.getElem?_map, hk]; rfl
      have hkc : Covers S (bindArg w k.body) := by
        have := hl.kids_ok k (List.mem_of_getElem? hk)
        unfold Covers at this ⊢
        rw [sowCols_bindArg, otherCols_bindArg]; exact this
      obtain ⟨lk', t2, e1, hlk, hs2⟩ :=
        ih (bindArg w k.body) (π ++ [k.name]) av {} {} lk s t s2 hkc (LocalSim.empty S) hsim hb
      obtain ⟨f1, hlk2, hs3⟩ := finishCall_left hcap hlk hs2 hf
      rw [eraseSow_bindArg] at e1
      refine ⟨_, t2, eval_call_ok.mpr ⟨_, av, lk', t2, lk', hk', by rw [hl.env_eq]; exact he, e1, f1, rfl⟩, ?_, hs3⟩
      rw [hlk2.out_eq]; exact hl.push _
    | nested body m V a =>
      -- a nested apply runs under `capture := false` whatever the enclosing setting is, on its own store
      obtain ⟨av, li, si, he, hbs, hb, rfl, rfl⟩ := eval_nested_ok.mp h
      exact ⟨_, t, eval_nested_ok.mpr ⟨av, li, si, by rw [hl.env_eq]; exact he, hbs, hb, rfl, rfl⟩,
        (hl.push _).push _, hsim⟩

end Flax.ObsSim
