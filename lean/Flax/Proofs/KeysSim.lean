/-
Running a program again on (at least) the variables an earlier run of it produced creates no new
variable.  Used by C02 (`apply_keeps_tree`).
-/
import Flax.Proofs.ScopeEval

namespace Flax.KeysSim
open Flax.Filter (LFilter inFilter)
open Flax.Scope Flax.ModuleTree Flax.ScopeLemmas
open Flax.ObsSim (ResSub)

def SameKeys (t t' : Store) : Prop := ∀ q, (lookupP q t'.vars).isSome = (lookupP q t.vars).isSome

theorem SameKeys.refl (t : Store) : SameKeys t t := fun _ => rfl
theorem SameKeys.trans {a b c : Store} (h1 : SameKeys a b) (h2 : SameKeys b c) : SameKeys a c :=
  fun q => by rw [h2 q, h1 q]

theorem keysIn_of_same {s t t' : Store} (h : KeysIn s t) (h2 : SameKeys t t') : KeysIn s t' :=
  fun q hq => by rw [h2 q]; exact h q hq

/-- the second run may only write where the first one could -/
def FilterLe (s t : Store) : Prop := ∀ c, inFilter t.mutable c = true → inFilter s.mutable c = true

theorem putVar_samekeys {π : Path} {col n : String} {v : Val} {t : Store}
    (hpres : isMutable t col = true → hasVar t π col n = true) : SameKeys t (putVar π col n v t).2 := by
  intro q
  rcases putVar_vars π col n v t with h | ⟨hm, h⟩ <;> rw [h]
  by_cases heq : q = fullPath col π n
  · rw [heq, lookupP_upsert_self]; exact (hpres hm).symm
  · rw [lookupP_upsert_ne _ _ _ _ heq]

theorem samekeys_of_ownPut {π : Path} {col n : String} {t t' : Store}
    (hpres : isMutable t col = true → hasVar t π col n = true) : OwnPut π col n t t' → SameKeys t t'
  | .same => SameKeys.refl t
  | .put _ => putVar_samekeys hpres
  | .init _ _ _ => putVar_samekeys (t := { t with inits := t.inits + 1 }) hpres

theorem putVar_mutable {π : Path} {col n : String} {v : Val} (t : Store) : (putVar π col n v t).2.mutable = t.mutable :=
  (putVar_frame π col n v t).mutable_eq

theorem moduleSow_key {π : Path} {col n : String} {e : Int} {r r1 : Res} {s s1 : Store}
    (hm : inFilter s.mutable col = true) (h : moduleSow π col n e r s = (.ok r1, s1)) :
    hasVar s1 π col n = true := by
  rcases moduleSow_ok_iff.mp h with ⟨hm', _⟩ | ⟨_, ⟨_, _, _, hp⟩ | ⟨_, _, hp⟩⟩
  · rw [show isMutable s col = true from hm] at hm'; cases hm'
  · exact hasVar_of_getVar (putVar_stored hp)
  · exact hasVar_of_getVar (putVar_stored hp)

theorem modulePerturb_key {π : Path} {col n : String} {e y : Int} {r r1 : Res} {s s1 : Store}
    (hm : inFilter s.mutable col = true) (h : modulePerturb π col n e r s = (.ok (y, r1), s1)) :
    hasVar s1 π col n = true := by
  rcases (modulePerturb_ok_iff.mp h).1 with ⟨_, _, hp⟩ | ⟨hc, _, rfl⟩
  · exact hasVar_of_getVar (putVar_stored hp)
  · rw [show isMutable s1 col = true from hm] at hc
    simpa using hc

theorem moduleSow_res_second {π : Path} {col n : String} {e : Int} {r' r1' : Res} {t t2 : Store}
    (hpres : isMutable t col = true → hasVar t π col n = true) (h : moduleSow π col n e r' t = (.ok r1', t2)) :
    r1' = r' := by
  rcases moduleSow_ok_iff.mp h with ⟨_, rfl, _⟩ | ⟨hm, ⟨_, _, rfl, _⟩ | ⟨hg, _, _⟩⟩
  · rfl
  · rfl
  · rw [hasVar_eq_false.mpr hg] at hpres
    cases hpres hm

theorem modulePerturb_res_second {π : Path} {col n : String} {e y : Int} {r' r1' : Res} {t t2 : Store}
    (hpres : isMutable t col = true → hasVar t π col n = true)
    (h : modulePerturb π col n e r' t = (.ok (y, r1'), t2)) : r1' = r' := by
  rcases (modulePerturb_ok_iff.mp h).1 with ⟨hc, _, _⟩ | ⟨_, rfl, _⟩
  · simp only [Bool.and_eq_true, Bool.not_eq_true'] at hc
    rw [hpres hc.1] at hc
    cases hc.2
  · rfl

structure LocalKeys (l l' : Local) : Prop where
  env_len : l'.env.length = l.env.length
  res_sub : ResSub l'.res l.res
  cursors_eq : l'.cursors = l.cursors
  kids_eq : l'.kids = l.kids

theorem LocalKeys.refl (l : Local) : LocalKeys l l := ⟨rfl, .refl _, rfl, rfl⟩

theorem LocalKeys.push {l l' : Local} (h : LocalKeys l l') (v v' : Int) : LocalKeys (push l v) (push l' v') :=
  ⟨by simp [ModuleTree.push, h.env_len], h.res_sub, h.cursors_eq, h.kids_eq⟩

theorem LocalKeys.withRes {l l' : Local} (h : LocalKeys l l') {r r' : Res} (hr : ResSub r' r) :
    LocalKeys { l with res := r } { l' with res := r' } := ⟨h.env_len, hr, h.cursors_eq, h.kids_eq⟩

theorem finishCall_keys {cfg : Cfg} {π : Path} {l l1 l' : Local} {s s1 t : Store}
    (hf : FilterLe s t) (hl : LocalKeys l l') (h : finishCall cfg π l s = (.ok l1, s1)) (hk : KeysIn s1 t) :
    SameKeys t (finishCall cfg π l' t).2 ∧ ∀ l1', (finishCall cfg π l' t).1 = .ok l1' → LocalKeys l1 l1' := by
  rcases finishCall_ok_iff.mp h with ⟨hc, r, hsow, rfl⟩ | ⟨hc, rfl, rfl⟩
  · have hpres : isMutable t "intermediates" = true → hasVar t π "intermediates" "__call__" = true :=
      fun hm => hk _ (moduleSow_key (hf _ hm) hsow)
    have h1 := samekeys_of_ownPut hpres (moduleSow_effect π "intermediates" "__call__" l'.out l'.res t)
    unfold finishCall
    rw [if_pos hc]
    rcases hs2 : moduleSow π "intermediates" "__call__" l'.out l'.res t with ⟨_ | r2', t2⟩
    · rw [hs2] at h1; exact ⟨h1, fun _ hh => nomatch hh⟩
    · rw [hs2] at h1
      refine ⟨h1, fun l1' hh => ?_⟩
      cases hh
      rw [moduleSow_res_second hpres hs2]
      exact hl.withRes (hl.res_sub.trans (moduleSow_res hsow))
  · rw [finishCall_ok_iff.mpr (.inr ⟨hc, rfl, rfl⟩)]
    exact ⟨SameKeys.refl t, fun l1' hh => by cases hh; exact hl⟩

theorem FilterLe.step {s t s2 t2 : Store} (h : FilterLe s t) (hs : s2.mutable = s.mutable) (ht : t2.mutable = t.mutable) :
    FilterLe s2 t2 := by
  intro c hc
  rw [hs]; apply h; rw [← ht]; exact hc

theorem eval_mutable (cfg : Cfg) (fuel : Nat) (p : SProg) (π : Path) (x : Int) (l : Local) (s : Store) :
    (eval cfg fuel p π x l s).2.mutable = s.mutable := (eval_frame cfg fuel p π x l s).mutable_eq

/-- the second run's outcome `y`, returned or raised: no new variable; locals like `l1` if it returned -/
abbrev Kept (t : Store) (l1 : Local) (y : Except Err Local × Store) : Prop :=
  SameKeys t y.2 ∧ ∀ l1', y.1 = .ok l1' → LocalKeys l1 l1'

/-- A second run from any `t` holding the variables of the first run's final store `s1` creates nothing: stated on the
raw pair, to cover a second run that raises.  `hk` is weakened at each step to the store the first run had reached;
the second run reserves less (a variable that is there costs no name): `res_sub`. -/
theorem eval_second {cfg : Cfg} (hst : cfg.style ≠ .core) :
    ∀ (fuel : Nat) (p : SProg) (π : Path) (x x' : Int) (l l' l1 : Local) (s s1 t : Store),
      FilterLe s t → LocalKeys l l' → eval cfg fuel p π x l s = (.ok l1, s1) → KeysIn s1 t →
      Kept t l1 (eval cfg fuel p π x' l' t) := by
  intro fuel
  induction fuel with
  | zero => intro p π x x' l l' l1 s s1 t _ _ h; rw [eval_zero] at h; cases h
  | succ fuel ih =>
    intro p π x x' l l' l1 s s1 t hf hl h hk
    have hE := fun e =>
      evalE_rel scalarSim_any e (x := x) (x' := x') trivial hl.env_len fun _ _ _ _ _ => trivial
    have still : ∀ {res : Except Err Local}, (∀ l1', res = .ok l1' → LocalKeys l1 l1') → Kept t l1 (res, t) :=
      fun hres => ⟨SameKeys.refl t, hres⟩
    cases p with
    | skip =>
      obtain ⟨rfl, rfl⟩ := eval_skip_ok.mp h
      conv => arg 3; whnf
      exact still fun l1' hh => by cases hh; exact hl
    | seq a b =>
      obtain ⟨l2, s2, ha, hb⟩ := eval_seq_ok.mp h
      have kept : KeysIn s2 s1 := by
        have := eval_rel keysIn_step cfg fuel b π x l2 s2
        rw [hb] at this; exact this
      obtain ⟨sk1, lk1⟩ := ih a π x x' l l' l2 s s2 t hf hl ha (fun q hq => hk q (kept q hq))
      conv => arg 3; whnf
      have hs2m : s2.mutable = s.mutable := by rw [← eval_mutable cfg fuel a π x l s, ha]
      have ht2m := eval_mutable cfg fuel a π x' l' t
      rcases ha' : eval cfg fuel a π x' l' t with ⟨_ | l2', t2⟩
      · rw [ha'] at sk1; exact ⟨sk1, fun _ hh => nomatch hh⟩
      · rw [ha'] at sk1 lk1 ht2m
        obtain ⟨sk2, lk2⟩ := ih b π x x' l2 l2' l1 s2 s1 t2 (hf.step hs2m ht2m) (lk1 l2' rfl) hb (keysIn_of_same hk sk1)
        exact ⟨sk1.trans sk2, lk2⟩
    | bind e =>
      obtain ⟨v, he, rfl, rfl⟩ := eval_bind_ok.mp h
      obtain ⟨v', hv', _⟩ := hE e v he
      conv => arg 3; whnf
      simp only [hv']
      exact still fun l1' hh => by cases hh; exact hl.push v v'
    | ret e =>
      obtain ⟨v, he, rfl, rfl⟩ := eval_ret_ok.mp h
      obtain ⟨v', hv', _⟩ := hE e v he
      conv => arg 3; whnf
      simp only [hv']
      exact still fun l1' hh => by cases hh; exact ⟨hl.env_len, hl.res_sub, hl.cursors_eq, hl.kids_eq⟩
    | param n shape init =>
      obtain ⟨v, r, hp, rfl⟩ := eval_param_ok.mp h
      have h1 := samekeys_of_ownPut (fun _ => hk _ (hasVar_of_getVar (scopeParam_stored hp)))
        (scopeParam_effect π n (resolveDims shape) init l'.res t)
      conv => arg 3; whnf
      rcases hp' : scopeParam π n (resolveDims shape) init l'.res t with ⟨_ | ⟨v', r1'⟩, t2⟩
      · rw [hp'] at h1; exact ⟨h1, fun _ hh => nomatch hh⟩
      · rw [hp'] at h1
        refine ⟨h1, fun l1' hh => ?_⟩
        cases hh
        rw [scopeParam_res hp', scopeParam_res hp]
        exact (hl.push _ _).withRes (hl.res_sub.cons _)
    | var col n shape init =>
      obtain ⟨iv, r, v, he, hp, hg, rfl⟩ := eval_var_ok.mp h
      obtain ⟨iv', hiv', _⟩ := hE init iv he
      have h1 := samekeys_of_ownPut (fun _ => hk _ (scopeVariable_present hp))
        (scopeVariable_effect π col n (Val.full shape iv') l'.res t)
      conv => arg 3; whnf
      simp only [hiv']
      rcases hp' : scopeVariable π col n (Val.full shape iv') l'.res t with ⟨_ | r1', t2⟩
      · rw [hp'] at h1; exact ⟨h1, fun _ hh => nomatch hh⟩
      · rw [hp'] at h1
        dsimp only
        cases getVar t2 π col n with
        | none => exact ⟨h1, fun _ hh => nomatch hh⟩
        | some v' =>
          refine ⟨h1, fun l1' hh => ?_⟩
          cases hh
          rw [scopeVariable_res hp', scopeVariable_res hp]
          exact (hl.push _ _).withRes (hl.res_sub.cons _)
    | get col n =>
      obtain ⟨rfl, rfl⟩ := eval_get_ok.mp h
      conv => arg 3; whnf
      cases getVar t π col n <;> exact still fun l1' hh => by cases hh; exact hl.push _ _
    | put col rel n e =>
      obtain ⟨v, he, hp, rfl⟩ := eval_put_ok.mp h
      obtain ⟨v', hv', _⟩ := hE e v he
      have hs := putVar_samekeys (v := .tensor [] [v']) fun _ => hk _ (hasVar_of_getVar (putVar_stored hp))
      conv => arg 3; whnf
      simp only [hv']
      rcases hp' : putVar (π ++ rel) col n (.tensor [] [v']) t with ⟨_ | u', t2⟩
      · rw [hp'] at hs; exact ⟨hs, fun _ hh => nomatch hh⟩
      · rw [hp'] at hs; exact ⟨hs, fun l1' hh => by cases hh; exact hl⟩
    | sow col n e =>
      obtain ⟨v, r, he, hp, rfl⟩ := eval_sow_ok.mp h
      obtain ⟨v', hv', _⟩ := hE e v he
      have hpres : isMutable t col = true → hasVar t π col n = true := fun hm => hk _ (moduleSow_key (hf _ hm) hp)
      have h1 := samekeys_of_ownPut hpres (moduleSow_effect π col n v' l'.res t)
      conv => arg 3; whnf
      simp only [hv']
      rcases hp' : moduleSow π col n v' l'.res t with ⟨_ | r1', t2⟩
      · rw [hp'] at h1; exact ⟨h1, fun _ hh => nomatch hh⟩
      · rw [hp'] at h1
        refine ⟨h1, fun l1' hh => ?_⟩
        cases hh
        rw [moduleSow_res_second hpres hp']
        exact hl.withRes (hl.res_sub.trans (moduleSow_res hp))
    | perturb col n e =>
      obtain ⟨v, y, r, he, hp, rfl⟩ := eval_perturb_ok.mp h
      obtain ⟨v', hv', _⟩ := hE e v he
      have hpres : isMutable t col = true → hasVar t π col n = true :=
        fun hm => hk _ (modulePerturb_key (hf _ hm) hp)
      have h1 := samekeys_of_ownPut hpres (modulePerturb_effect π col n v' l'.res t)
      conv => arg 3; whnf
      simp only [hv']
      rcases hp' : modulePerturb π col n v' l'.res t with ⟨_ | ⟨y', r1'⟩, t2⟩
      · rw [hp'] at h1; exact ⟨h1, fun _ hh => nomatch hh⟩
      · rw [hp'] at h1
        refine ⟨h1, fun l1' hh => ?_⟩
        cases hh
        rw [modulePerturb_res_second hpres hp']
        exact (hl.push _ _).withRes (hl.res_sub.trans (modulePerturb_res hp))
    | child cls name body =>
      obtain ⟨nm, cs, r, hn, hr, rfl, rfl⟩ := eval_child_ok.mp h
      conv => arg 3; whnf
      simp only [childName_congr hl.cursors_eq (by rw [hl.kids_eq]) (fun hs => absurd hs hst) cls name, hn]
      cases hr' : reserve l'.res nm none with
      | error e => exact still fun _ hh => nomatch hh
      | ok r' =>
        refine still fun l1' hh => ?_
        cases hh
        rw [reserve_res hr, reserve_res hr']
        exact ⟨hl.env_len, hl.res_sub.cons _, rfl, by rw [hl.kids_eq]⟩
    | call slot a w =>
      obtain ⟨k, av, lk, s2, lk2, hkid, he, hb, hfc, rfl⟩ := eval_call_ok.mp h
      obtain ⟨av', hav', _⟩ := hE a av he
      have kept : KeysIn s2 s1 := by
        have := keysIn_step.of_ownPut (finishCall_effect cfg (π ++ [k.name]) lk s2)
        rw [hfc] at this; exact this
      obtain ⟨sk1, lk1⟩ := ih (bindArg w k.body) (π ++ [k.name]) av av' {} {} lk s s2 t hf (LocalKeys.refl _) hb
        (fun q hq => hk q (kept q hq))
      have hs2m : s2.mutable = s.mutable := by
        rw [← eval_mutable cfg fuel (bindArg w k.body) (π ++ [k.name]) av {} s, hb]
      have ht2m := eval_mutable cfg fuel (bindArg w k.body) (π ++ [k.name]) av' {} t
      conv => arg 3; whnf
      simp only [hl.kids_eq, hkid, hav']
      rcases hb' : eval cfg fuel (bindArg w k.body) (π ++ [k.name]) av' {} t with ⟨_ | lk', t2⟩
      · rw [hb'] at sk1; exact ⟨sk1, fun _ hh => nomatch hh⟩
      · rw [hb'] at sk1 lk1 ht2m
        obtain ⟨sk2, _⟩ := finishCall_keys (hf.step hs2m ht2m) (lk1 lk' rfl) hfc (keysIn_of_same hk sk1)
        dsimp only
        rcases hf' : finishCall cfg (π ++ [k.name]) lk' t2 with ⟨_ | lk2', t3⟩
        · rw [hf'] at sk2; exact ⟨sk1.trans sk2, fun _ hh => nomatch hh⟩
        · rw [hf'] at sk2
          exact ⟨sk1.trans sk2, fun l1' hh => by cases hh; exact hl.push _ _⟩
    | nested body m V a =>
      obtain ⟨av, li, si, he, hbs, hb, rfl, rfl⟩ := eval_nested_ok.mp h
      obtain ⟨av', hav', _⟩ := hE a av he
      conv => arg 3; whnf
      simp only [hav', hbs, Bool.false_eq_true, if_false]
      rcases eval (nestedCfg cfg) fuel body [] av' {} (Scope.bind m V ["params"]) with ⟨_ | li', ti⟩
      · exact still fun _ hh => nomatch hh
      · exact still fun l1' hh => by cases hh; exact (hl.push _ _).push _ _

theorem runTop_second {cfg : Cfg} (hst : cfg.style ≠ .core) (fuel : Nat) (p : SProg) (x x' y : Int)
    (s s2 t : Store) (hf : FilterLe s t) (h : runTop cfg fuel p x s = (.ok y, s2)) (hk : KeysIn s2 t) :
    SameKeys t (runTop cfg fuel p x' t).2 := by
  obtain ⟨l1, s1, l2, hev, hfc, _⟩ := runTop_ok_iff.mp h
  have kept : KeysIn s1 s2 := by
    have := keysIn_step.of_ownPut (finishCall_effect cfg [] l1 s1)
    rw [hfc] at this; exact this
  obtain ⟨sk1, lk1⟩ := eval_second hst fuel p [] x x' {} {} l1 s s1 t hf (LocalKeys.refl _) hev
    (fun q hq => hk q (kept q hq))
  have hs1m : s1.mutable = s.mutable := by rw [← eval_mutable cfg fuel p [] x {} s, hev]
  have ht1m := eval_mutable cfg fuel p [] x' {} t
  unfold runTop
  rcases hev' : eval cfg fuel p [] x' {} t with ⟨_ | l1', t1⟩
  · rw [hev'] at sk1; exact sk1
  · rw [hev'] at sk1 lk1 ht1m
    obtain ⟨sk2, _⟩ := finishCall_keys (hf.step hs1m ht1m) (lk1 l1' rfl) hfc (keysIn_of_same hk sk1)
    dsimp only
    rcases hf' : finishCall cfg [] l1' t1 with ⟨_ | l2', t3⟩ <;> (rw [hf'] at sk2; exact sk1.trans sk2)

theorem apply_keeps_tree_aux (cfg : Cfg) (hst : cfg.style ≠ .core) (fuel : Nat) (p : SProg) (m : LFilter)
    (rngs : List String) (x y : Int) (V : Vars)
    (hinit : (ModuleTree.init cfg fuel p m rngs x).result = .ok (y, V))
    (m2 : LFilter) (rngs2 : List String) (x2 : Int)
    (hle : ∀ c, inFilter (effMutable cfg m2) c = true → inFilter (effMutable cfg m) c = true) (q : Path) :
    (lookupP q (ModuleTree.apply cfg fuel p m2 V rngs2 x2).final.vars).isSome = (lookupP q V.vars).isSome := by
  obtain ⟨s2, hrun, rfl, hret⟩ := init_returns_store hinit
  rw [apply_final]
  split
  · rfl
  · have hk : KeysIn s2 (Scope.bind (effMutable cfg m2) (mutableVariables s2) rngs2) :=
      fun q' hq' => (congrArg Option.isSome (hret q')).trans hq'
    have hf : FilterLe (Scope.bind (effMutable cfg m) Vars.empty rngs)
        (Scope.bind (effMutable cfg m2) (mutableVariables s2) rngs2) := hle
    exact runTop_second hst fuel p x x2 y _ s2 _ hf hrun hk q

end Flax.KeysSim
