/-
C09: no key is handed out twice in a run, nested `nn.jit`-ted methods included.  Every draw — the user's, and the one per stream
that `fork_rngs` makes for a jit-ted call — is a request at (scope path, stream after fallback) and gets one plus the number of
earlier requests there; so the tickets (place, count) of a run differ pairwise, and with the separator a key determines its ticket.
-/
import Flax.Proofs.RngSpec

namespace Flax.Rng

/-- the stream after fallback, from the stream names alone -/
def effN (cfg : Cfg) (names : List String) (s : String) : Option String :=
  if s ∈ names then some s else if cfg.fallback ∈ names then some cfg.fallback else none

theorem effOf_effN (cfg : Cfg) (B : List (String × SymKey)) (s : String) :
    (effOf cfg B s).map (·.1) = effN cfg (B.map (·.1)) s := by
  simp only [effOf, effN, ← find?_isSome_iff_mem]
  cases find? s B <;> cases find? cfg.fallback B <;> rfl

abbrev Ticket := Path × String × Nat

/-- a counter request: scope path, stream after fallback, and whether the resulting key is handed to user code (`true`) or becomes
the base of a jit-ted scope (`false`) -/
abbrev Req := Path × String × Bool

/-- all requests of a program in execution order; a draw no stream answers ends the list (the run fails there) -/
def reqsN (cfg : Cfg) (names : List String) : Prog → Path → List Req
  | .done, _ => []
  | .draw s rest, π =>
    match effN cfg names s with
    | some s' => (π, s', true) :: reqsN cfg names rest π
    | none => []
  | .sub n body rest, π => reqsN cfg names body (π ++ [n]) ++ reqsN cfg names rest π
  | .jit body rest, π => names.map (fun n => (π, n, false)) ++ (reqsN cfg names body π ++ reqsN cfg names rest π)

def after (c : Counts) : List Req → Counts
  | [] => c
  | (π, s, _) :: r => after (bump c π s) r

/-- the tickets of the handed-out requests: each request gets the pre-incremented counter of its place -/
def assignH (c : Counts) : List Req → List Ticket
  | [] => []
  | (π, s, b) :: r => (if b then [(π, s, c π s + 1)] else []) ++ assignH (bump c π s) r

/-- how many requests of `l` are at place (π, s), handed out or not -/
def cntR (π : Path) (s : String) (l : List Req) : Nat := (l.filter (fun r => decide (r.1 = π ∧ r.2.1 = s))).length

theorem after_append (c : Counts) (a b : List Req) : after c (a ++ b) = after (after c a) b := by
  induction a generalizing c with
  | nil => rfl
  | cons x xs ih => obtain ⟨π, s, f⟩ := x; simp only [List.cons_append, after, ih]

theorem assignH_append (c : Counts) (a b : List Req) : assignH c (a ++ b) = assignH c a ++ assignH (after c a) b := by
  induction a generalizing c with
  | nil => rfl
  | cons x xs ih => obtain ⟨π, s, f⟩ := x; simp only [List.cons_append, assignH, after, ih, List.append_assoc]

theorem after_fork (c : Counts) (π : Path) : ∀ (ns : List String), ns.Nodup →
    after c (ns.map (fun n => ((π, n, false) : Req))) = bumpAll c π ns := by
  intro ns
  induction ns generalizing c with
  | nil => intro _; rw [bumpAll_nil]; rfl
  | cons n ns ih =>
    intro hnd
    simp only [List.nodup_cons] at hnd
    rw [bumpAll_cons c π n ns hnd.1, ← ih (bump c π n) hnd.2]
    rfl

theorem assignH_fork (c : Counts) (π : Path) : ∀ (ns : List String),
    assignH c (ns.map (fun n => ((π, n, false) : Req))) = [] := by
  intro ns
  induction ns generalizing c with
  | nil => rfl
  | cons n ns ih => simp [assignH, ih]

theorem cntR_append (π : Path) (s : String) (a b : List Req) : cntR π s (a ++ b) = cntR π s a + cntR π s b := by
  simp only [cntR, List.filter_append, List.length_append]

theorem cntR_cons (π : Path) (s : String) (x : Req) (l : List Req) : cntR π s (x :: l) = cntR π s [x] + cntR π s l :=
  cntR_append π s [x] l

theorem bump_eq_cntR (c : Counts) (π0 : Path) (s0 : String) (f : Bool) (π : Path) (s : String) :
    bump c π0 s0 π s = c π s + cntR π s [(π0, s0, f)] := by
  simp only [bump_apply, cntR, List.filter_cons, List.filter_nil]
  by_cases hp : π0 = π ∧ s0 = s <;> simp [hp]

theorem after_eq (c : Counts) : ∀ (l : List Req) (π : Path) (s : String), after c l π s = c π s + cntR π s l := by
  intro l
  induction l generalizing c with
  | nil => intro π s; rfl
  | cons x xs ih =>
    intro π s
    obtain ⟨π0, s0, f⟩ := x
    rw [after, ih, bump_eq_cntR c π0 s0 f, cntR_cons π s (π0, s0, f) xs, Nat.add_assoc]

theorem after_le (c : Counts) (l : List Req) (π : Path) (s : String) : c π s ≤ after c l π s := by
  rw [after_eq]; exact Nat.le_add_right _ _

/-- closed form: a ticket's count is the count at the start + the earlier requests at its place, handed out or not, + 1 -/
theorem assignH_closed (c : Counts) : ∀ (l : List Req) (t : Ticket),
    t ∈ assignH c l ↔ ∃ pre post, l = pre ++ (t.1, t.2.1, true) :: post ∧ t.2.2 = c t.1 t.2.1 + cntR t.1 t.2.1 pre + 1 := by
  intro l
  induction l generalizing c with
  | nil => intro t; simp [assignH]
  | cons x xs ih =>
    intro t
    obtain ⟨π0, s0, f⟩ := x
    obtain ⟨π, s, j⟩ := t
    -- a ticket of the tail counts the head request through `bump`
    have htail : ∀ pre, bump c π0 s0 π s + cntR π s pre + 1 = c π s + cntR π s ((π0, s0, f) :: pre) + 1 := by
      intro pre
      rw [bump_eq_cntR c π0 s0 f, cntR_cons π s (π0, s0, f) pre, Nat.add_assoc (c π s)]
    simp only [assignH, List.mem_append, ih]
    constructor
    · rintro (hm | ⟨pre, post, hl, hj⟩)
      · cases f with
        | false => simp at hm
        | true =>
          simp only [if_true, List.mem_singleton, Prod.mk.injEq] at hm
          obtain ⟨rfl, rfl, rfl⟩ := hm
          exact ⟨[], xs, rfl, rfl⟩
      · exact ⟨(π0, s0, f) :: pre, post, by rw [hl]; rfl, by rw [← htail]; exact hj⟩
    · rintro ⟨pre, post, hl, hj⟩
      cases pre with
      | nil =>
        simp only [List.nil_append, List.cons.injEq, Prod.mk.injEq] at hl
        obtain ⟨⟨rfl, rfl, rfl⟩, rfl⟩ := hl
        exact Or.inl (by simp [hj, cntR])
      | cons y ys =>
        simp only [List.cons_append, List.cons.injEq] at hl
        obtain ⟨rfl, rfl⟩ := hl
        exact Or.inr ⟨ys, post, rfl, by rw [htail]; exact hj⟩

theorem assignH_gt (c : Counts) (l : List Req) (t : Ticket) (h : t ∈ assignH c l) : c t.1 t.2.1 < t.2.2 := by
  obtain ⟨pre, _, _, hj⟩ := (assignH_closed c l t).mp h
  rw [hj]
  exact Nat.lt_succ_of_le (Nat.le_add_right _ _)

/-- counters only grow, so no ticket is issued twice -/
theorem assignH_nodup (c : Counts) : ∀ (l : List Req), (assignH c l).Nodup := by
  intro l
  induction l generalizing c with
  | nil => exact List.nodup_nil
  | cons x xs ih =>
    obtain ⟨π0, s0, f⟩ := x
    cases f with
    | false => exact ih (bump c π0 s0)
    | true =>
      simp only [assignH, if_true, List.singleton_append, List.nodup_cons]
      refine ⟨fun hm => ?_, ih (bump c π0 s0)⟩
      have := assignH_gt _ _ _ hm
      simp [bump] at this

/-- an upper bound on the tickets any one counter can issue: draws plus jit-ted calls -/
def Prog.size : Prog → Nat
  | .done => 0
  | .draw _ rest => 1 + rest.size
  | .sub _ body rest => body.size + rest.size
  | .jit body rest => 1 + body.size + rest.size

theorem cntR_reqsN_le_size (cfg : Cfg) (names : List String) (hnd : names.Nodup) (π' : Path) (s : String) :
    ∀ (p : Prog) (π : Path), cntR π' s (reqsN cfg names p π) ≤ p.size := by
  intro p
  induction p with
  | done => intro π; exact Nat.le_refl 0
  | draw st rest ih =>
    intro π
    simp only [reqsN, Prog.size]
    cases effN cfg names st with
    | none => exact Nat.zero_le _
    | some s' =>
      have h1 : cntR π' s [((π, s', true) : Req)] ≤ 1 := List.length_filter_le _ _
      rw [cntR_cons]
      exact Nat.add_le_add h1 (ih π)
  | sub n body rest ihb ihr =>
    intro π
    simp only [reqsN, Prog.size, cntR_append]
    exact Nat.add_le_add (ihb (π ++ [n])) (ihr π)
  | jit body rest ihb ihr =>
    intro π
    -- the fork requests are at most one per place: their effect on any counter table is `bumpAll`
    have h1 : cntR π' s (names.map (fun n => ((π, n, false) : Req))) ≤ 1 := by
      have h := after_eq (fun _ _ => 0) (names.map (fun n => ((π, n, false) : Req))) π' s
      rw [after_fork _ π names hnd, Nat.zero_add] at h
      rw [← h, bumpAll]
      split <;> decide
    simp only [reqsN, Prog.size, cntR_append, ← Nat.add_assoc]
    exact Nat.add_le_add (Nat.add_le_add h1 (ihb π)) (ihr π)

def NamesOK (l : List String) : Prop := ∀ n ∈ l, (0 : UInt8) ∉ strBytes n

theorem keyAt_inj_sep (b b' : SymKey) (rel rel' : Path) (j j' : Nat) (hr : NamesOK rel) (hr' : NamesOK rel')
    (hj : 1 ≤ j ∧ j < 256) (hj' : 1 ≤ j' ∧ j' < 256) (h : keyAt true b rel j = keyAt true b' rel' j') :
    b = b' ∧ rel = rel' ∧ j = j' := by
  obtain ⟨hb, henc⟩ := keyAt_inj.mp h
  exact ⟨hb, encodeSuffix_true_inj rel rel' j j' hr hr' (natBytes_small_nulfree j hj.1 hj.2)
    (natBytes_small_nulfree j' hj'.1 hj'.2) henc⟩

/-- `Base k0 π0 b`: `b` is a base key installed at scope path `π0` that descends from the user seed `k0` through
zero or more `fork_rngs` -/
inductive Base : SymKey → Path → SymKey → Prop where
  | root (i : Nat) : Base (.seed i) [] (.seed i)
  | fork (k0 : SymKey) (π0 : Path) (b : SymKey) (rel : Path) (j : Nat) (π : Path) (x : SymKey) :
      Base k0 π0 b → NamesOK rel → 1 ≤ j → j < 256 → π = π0 ++ rel → x = keyAt true b rel j → Base k0 π x

theorem Base.functional {k0 k0' : SymKey} {π π' : Path} {x : SymKey} (h : Base k0 π x) (h' : Base k0' π' x) :
    k0 = k0' ∧ π = π' := by
  induction h generalizing k0' π' with
  | root i =>
    cases h' with
    | root => exact ⟨rfl, rfl⟩
    | fork k0'' π0' b' rel' j' _ _ hb' hr' h1' h2' hπ' hx' => simp [keyAt] at hx'
  | fork k0 π0 b rel j π x hb hr h1 h2 hπ hx ih =>
    cases h' with
    | root i => simp [keyAt] at hx
    | fork k0'' π0' b' rel' j' _ _ hb' hr' h1' h2' hπ' hx' =>
      rw [hx] at hx'
      obtain ⟨e1, e2, _⟩ := keyAt_inj_sep b b' rel rel' j j' hr hr' ⟨h1, h2⟩ ⟨h1', h2'⟩ hx'
      subst e1; subst e2
      obtain ⟨e3, e4⟩ := ih hb'
      subst e3; subst e4
      exact ⟨rfl, by rw [hπ, hπ']⟩

/-- key `x` was produced for ticket `t` = (scope path, stream after fallback, count) -/
def Tk (seeds : List (String × SymKey)) (x : SymKey) (t : Ticket) : Prop :=
  ∃ k0 π0 rel b, find? t.2.1 seeds = some k0 ∧ Base k0 π0 b ∧ t.1 = π0 ++ rel ∧ x = keyAt true b rel t.2.2 ∧
    NamesOK rel ∧ 1 ≤ t.2.2 ∧ t.2.2 < 256

theorem Tk.functional (seeds : List (String × SymKey)) (hvals : (seeds.map (·.2)).Nodup) {x : SymKey} {t t' : Ticket}
    (h : Tk seeds x t) (h' : Tk seeds x t') : t = t' := by
  obtain ⟨k0, π0, rel, b, hs, hb, hπ, hx, hr, h1, h2⟩ := h
  obtain ⟨k0', π0', rel', b', hs', hb', hπ', hx', hr', h1', h2'⟩ := h'
  rw [hx] at hx'
  obtain ⟨e1, e2, e3⟩ := keyAt_inj_sep b b' rel rel' _ _ hr hr' ⟨h1, h2⟩ ⟨h1', h2'⟩ hx'
  subst e1; subst e2
  obtain ⟨e4, e5⟩ := hb.functional hb'
  subst e4; subst e5
  have hst := find?_inj_of_nodup_vals seeds hvals _ _ _ hs hs'
  obtain ⟨π, s, j⟩ := t
  obtain ⟨π', s', j'⟩ := t'
  simp only at hπ hπ' hst e3
  rw [hπ, hπ', hst, e3]

theorem nodup_keys_of_tickets (seeds : List (String × SymKey)) (hvals : (seeds.map (·.2)).Nodup) :
    ∀ kts : List (SymKey × Ticket), (∀ p ∈ kts, Tk seeds p.1 p.2) → (kts.map (·.2)).Nodup → (kts.map (·.1)).Nodup := by
  intro kts
  induction kts with
  | nil => intro _ _; simp
  | cons a l ih =>
    intro htk hnd
    simp only [List.map_cons, List.nodup_cons] at hnd ⊢
    refine ⟨?_, ih (fun p hp => htk p (List.mem_cons_of_mem _ hp)) hnd.2⟩
    intro hm
    obtain ⟨q, hq, hqe⟩ := List.mem_map.mp hm
    have h1 := htk a (by simp)
    have h2 := htk q (List.mem_cons_of_mem _ hq)
    rw [hqe] at h2
    have := Tk.functional seeds hvals h2 h1
    exact hnd.1 (by rw [← this]; exact List.mem_map_of_mem hq)

/-- every base of `B` descends from the seed of its stream and was installed at path `π0` -/
def GoodB (seeds B : List (String × SymKey)) (π0 : Path) : Prop :=
  ∀ s b, find? s B = some b → ∃ k0, find? s seeds = some k0 ∧ Base k0 π0 b

def Prog.names : Prog → List String
  | .done => []
  | .draw _ rest => rest.names
  | .sub n body rest => n :: (body.names ++ rest.names)
  | .jit body rest => body.names ++ rest.names

theorem NamesOK.snoc {rel : Path} {n : String} (hr : NamesOK rel) (hn : (0 : UInt8) ∉ strBytes n) : NamesOK (rel ++ [n]) := by
  intro m hm
  rcases List.mem_append.mp hm with hm | hm
  · exact hr m hm
  · rw [List.mem_singleton.mp hm]; exact hn

/-- the counts after a run are those before plus its requests -/
theorem specProg_after (cfg : Cfg) : ∀ (p : Prog) (B : List (String × SymKey)) (rel π : Path) (c : Counts)
    (ks : List SymKey) (c' : Counts), specProg cfg p B rel π c = .ok (ks, c') → (B.map (·.1)).Nodup →
    c' = after c (reqsN cfg (B.map (·.1)) p π) := by
  refine specProg_ok_induction cfg (fun _ _ _ _ _ => rfl) ?_ ?_ ?_
  · intro s rest B rel π c s' k ks c' he _ ih hnd
    have hn := effOf_effN cfg B s
    rw [he] at hn
    simp only [reqsN, ← hn, Option.map, after]
    exact ih hnd
  · intro n body rest B rel π c k1 c1 k2 c2 _ _ ihb ihr hnd
    rw [reqsN, after_append, ← ihb hnd]
    exact ihr hnd
  · intro body rest B rel π c k1 c1 k2 c2 _ _ ihb ihr hnd
    have hb := ihb (by rw [forkBases_names]; exact hnd)
    rw [forkBases_names] at hb
    rw [reqsN, after_append, after_append, after_fork c π _ hnd, ← hb]
    exact ihr hnd

/-- With the separator, every key handed out was produced for the ticket its request got: the keys
correspond, in order, to `assignH` of the requests. -/
theorem specProg_tickets (cfg : Cfg) (hsep : cfg.sep = true) (seeds : List (String × SymKey)) :
    ∀ (p : Prog) (B : List (String × SymKey)) (rel π : Path) (c : Counts) (ks : List SymKey) (c' : Counts),
      specProg cfg p B rel π c = .ok (ks, c') → (B.map (·.1)).Nodup → ∀ π0, π = π0 ++ rel → GoodB seeds B π0 → NamesOK rel →
      NamesOK p.names → (∀ π' s, c' π' s < 256) →
      ∃ kts : List (SymKey × Ticket), kts.map (·.1) = ks ∧ (∀ q ∈ kts, Tk seeds q.1 q.2) ∧
        kts.map (·.2) = assignH c (reqsN cfg (B.map (·.1)) p π) := by
  refine specProg_ok_induction cfg (fun _ _ _ _ _ _ _ _ _ _ _ => ⟨[], rfl, by simp, rfl⟩) ?_ ?_ ?_
  · intro s rest B rel π c s' k ks c' he hr ih hnd π0 hπ hgood hrel hnames hb
    obtain ⟨kts, hk1, hk2, hk3⟩ := ih hnd π0 hπ hgood hrel hnames hb
    obtain ⟨k0, hk0, hbase⟩ := hgood s' k (effOf_find cfg B s s' k he)
    -- the count of this draw is below the final counter of its place
    have hlt : c π s' + 1 < 256 := by
      have h1 := after_le (bump c π s') (reqsN cfg (B.map (·.1)) rest π) π s'
      rw [← specProg_after cfg rest B rel π _ ks c' hr hnd] at h1
      simp only [bump, and_self, if_true] at h1
      exact Nat.lt_of_le_of_lt h1 (hb π s')
    have hn := effOf_effN cfg B s
    rw [he] at hn
    refine ⟨(keyAt cfg.sep k rel (c π s' + 1), (π, s', c π s' + 1)) :: kts, by rw [List.map_cons, hk1], ?_, ?_⟩
    · intro q hq
      rcases List.mem_cons.mp hq with rfl | hq
      · exact ⟨k0, π0, rel, k, hk0, hbase, hπ, by rw [hsep], hrel, Nat.le_add_left 1 _, hlt⟩
      · exact hk2 q hq
    · simp only [List.map_cons, reqsN, ← hn, Option.map, assignH, if_true, List.singleton_append, hk3]
  · intro n body rest B rel π c k1 c1 k2 c2 hbd hr ihb ihr hnd π0 hπ hgood hrel hnames hb
    have hc1 := specProg_after cfg body B _ _ c k1 c1 hbd hnd
    have hc2 := specProg_after cfg rest B rel π c1 k2 c2 hr hnd
    obtain ⟨kt1, ha1, ha2, ha3⟩ := ihb hnd π0 (by rw [hπ, List.append_assoc]) hgood
      (hrel.snoc (hnames n (by simp [Prog.names]))) (fun m hm => hnames m (by simp [Prog.names, hm]))
      (fun π' s => Nat.lt_of_le_of_lt (by rw [hc2]; exact after_le c1 _ π' s) (hb π' s))
    obtain ⟨kt2, hb1, hb2, hb3⟩ := ihr hnd π0 hπ hgood hrel (fun m hm => hnames m (by simp [Prog.names, hm])) hb
    refine ⟨kt1 ++ kt2, by rw [List.map_append, ha1, hb1], ?_, by rw [List.map_append, ha3, hb3, reqsN, assignH_append, ← hc1]⟩
    intro q hq
    rcases List.mem_append.mp hq with hq | hq
    · exact ha2 q hq
    · exact hb2 q hq
  · intro body rest B rel π c k1 c1 k2 c2 hbd hr ihb ihr hnd π0 hπ hgood hrel hnames hb
    have hnd' : ((forkBases cfg.sep B rel π c).map (·.1)).Nodup := by rw [forkBases_names]; exact hnd
    have hc1 := specProg_after cfg body _ _ _ _ k1 c1 hbd hnd'
    have hc2 := specProg_after cfg rest B rel π c1 k2 c2 hr hnd
    rw [forkBases_names] at hc1
    have hle : ∀ π' s, bumpAll c π (B.map (·.1)) π' s ≤ c2 π' s := by
      intro π' s
      rw [hc2, hc1]
      exact Nat.le_trans (after_le _ _ π' s) (after_le _ _ π' s)
    -- the forked bases descend from the bases of `B`; their counts are below the final counters
    have hgood' : GoodB seeds (forkBases cfg.sep B rel π c) π := by
      intro s b' hf
      rw [find?_forkBases] at hf
      cases hfb : find? s B with
      | none => simp [hfb] at hf
      | some b =>
        simp only [hfb, Option.map, Option.some.injEq] at hf
        obtain ⟨k0, hk0, hbase⟩ := hgood s b hfb
        refine ⟨k0, hk0, Base.fork k0 π0 b rel (c π s + 1) π b' hbase hrel (Nat.le_add_left 1 _) ?_ hπ (by rw [← hf, hsep])⟩
        have hmem := (find?_isSome_iff_mem B s).mp (by rw [hfb]; rfl)
        have h1 := hle π s
        simp only [bumpAll, hmem, and_self, if_true] at h1
        exact Nat.lt_of_le_of_lt h1 (hb π s)
    obtain ⟨kt1, ha1, ha2, ha3⟩ := ihb hnd' π (by simp) hgood' (by intro m hm; simp at hm)
      (fun m hm => hnames m (by simp [Prog.names, hm]))
      (fun π' s => Nat.lt_of_le_of_lt (by rw [hc2]; exact after_le c1 _ π' s) (hb π' s))
    obtain ⟨kt2, hb1, hb2, hb3⟩ := ihr hnd π0 hπ hgood hrel (fun m hm => hnames m (by simp [Prog.names, hm])) hb
    rw [forkBases_names] at ha3
    refine ⟨kt1 ++ kt2, by rw [List.map_append, ha1, hb1], ?_, ?_⟩
    · intro q hq
      rcases List.mem_append.mp hq with hq | hq
      · exact ha2 q hq
      · exact hb2 q hq
    · rw [List.map_append, ha3, hb3, reqsN, assignH_append, assignH_append, assignH_fork, List.nil_append,
        after_fork c π _ hnd, ← hc1]

/-- the whole run from `bind`: `p.size < 256` bounds every counter -/
theorem specProg_top_tickets (cfg : Cfg) (hsep : cfg.sep = true) (seeds : List (String × SymKey))
    (hatoms : ∀ s k, find? s seeds = some k → ∃ i, k = .seed i) (hstreams : (seeds.map (·.1)).Nodup)
    (p : Prog) (hnames : NamesOK p.names) (hsize : p.size < 256) (ks : List SymKey) (c' : Counts)
    (h : specProg cfg p seeds [] [] (fun _ _ => 0) = .ok (ks, c')) :
    ∃ kts : List (SymKey × Ticket), kts.map (·.1) = ks ∧ (∀ q ∈ kts, Tk seeds q.1 q.2) ∧
      kts.map (·.2) = assignH (fun _ _ => 0) (reqsN cfg (seeds.map (·.1)) p []) := by
  have hb : ∀ π' s, c' π' s < 256 := by
    intro π' s
    rw [specProg_after cfg p seeds [] [] _ ks c' h hstreams, after_eq]
    rw [Nat.zero_add]
    exact Nat.lt_of_le_of_lt (cntR_reqsN_le_size cfg _ hstreams π' s p []) hsize
  have hgood : GoodB seeds seeds [] := by
    intro s b hf
    obtain ⟨i, rfl⟩ := hatoms s b hf
    exact ⟨_, hf, Base.root i⟩
  exact specProg_tickets cfg hsep seeds p seeds [] [] _ ks c' h hstreams [] rfl hgood (by intro m hm; simp at hm) hnames hb

theorem specProg_nodup (cfg : Cfg) (hsep : cfg.sep = true) (seeds : List (String × SymKey))
    (hatoms : ∀ s k, find? s seeds = some k → ∃ i, k = .seed i) (hstreams : (seeds.map (·.1)).Nodup)
    (hvals : (seeds.map (·.2)).Nodup)
    (p : Prog) (hnames : NamesOK p.names) (hsize : p.size < 256) (ks : List SymKey) (c' : Counts)
    (h : specProg cfg p seeds [] [] (fun _ _ => 0) = .ok (ks, c')) : ks.Nodup := by
  obtain ⟨kts, h1, h2, h3⟩ := specProg_top_tickets cfg hsep seeds hatoms hstreams p hnames hsize ks c' h
  rw [← h1]
  exact nodup_keys_of_tickets seeds hvals kts h2 (by rw [h3]; exact assignH_nodup _ _)

end Flax.Rng
