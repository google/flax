/-
Model of `flax/core/frozen_dict.py` (FrozenDict, freeze, unfreeze, copy, pop, pytree registration)
on an explicit heap, because the property (C15) is about aliasing.

* `Addr = Nat`, `Heap = List Obj`, allocation = append, so *fresh* means `≥ old length`.
* Objects: a Python `dict` (insertion-ordered association list) or a `FrozenDict` (`frozen inner`,
  `inner` = address of its `_dict`).  Leaves are opaque (ints, None, tuples, lists, arrays: the code
  never looks inside anything that is not a `dict`/`FrozenDict`).
* `Obj.dict` carries a **ghost** flag `own` ("allocated as part of some FrozenDict's `_dict`").  No
  function of the model ever branches on it; it only records which allocation site created the
  object, so that the separation invariant (`Sep`, `Proofs/FrozenInv.lean`) is a local, decidable predicate.  The
  theorems `frozen_separation`/`frozen_never_changes` are stated without it (reachability / abstract
  values).
* The *world* is the list of values the user holds (`roots`): source dicts, every returned value.
  User mutations are ordinary dict writes through a held handle (`setKey`, `delKey`), nested dicts
  are reached with `getitem` on a dict handle (which returns the stored object itself, as Python does).

Temporaries that the Python code creates and drops before returning (`dict(*args)` in `__init__`,
the intermediate FrozenDicts' wrappers when they are immediately unwrapped by `_prepare_freeze`) are
allocated too whenever they arise from a call that the model transcribes (`wrapVal`), and are not
allocated when they are plain shallow copies that nothing can reference (`dict(xs)`).
`copy(dict, add)` / `pop(dict, k)` build the final entry list before allocating the result instead of
allocating and then updating it; the result is the same object graph.

Core Lean only (linked into the driver).
-/

namespace Flax.Frozen

abbrev Addr := Nat
abbrev Key := String

/-- opaque leaves; `atom` = hashable (int, None, str, tuple of atoms), `opq` = unhashable (list, array) -/
inductive Leaf where
  | atom (n : Int)
  | opq (n : Int)
  deriving DecidableEq, Repr, Inhabited

inductive Val where
  | leaf (l : Leaf)
  | ref (a : Addr)
  deriving DecidableEq, Repr, Inhabited

inductive Obj where
  | dict (own : Bool) (kvs : List (Key × Val))
  | frozen (inner : Addr)
  deriving DecidableEq, Repr, Inhabited

abbrev Heap := List Obj

inductive Err where
  | typeError      -- TypeError / AttributeError of an operation applied to the wrong kind of value
  | keyError
  | immutable      -- any attempt to write through a FrozenDict (`__setitem__` raises ValueError, `del` fails)
  | recursion      -- fuel exhausted (cyclic user structure: Python raises RecursionError)
  | dangling       -- unreachable for well-formed worlds
  | badHandle      -- handle index out of range (harness bug, never a flax behaviour)
  deriving DecidableEq, Repr, Inhabited

/-! ### association lists (Python dict with insertion order) -/

def kvGet {α : Type} : List (Key × α) → Key → Option α
  | [], _ => none
  | (k', v) :: r, k => if k' = k then some v else kvGet r k

def kvSet {α : Type} : List (Key × α) → Key → α → List (Key × α)
  | [], k, v => [(k, v)]
  | (k', v') :: r, k, v => if k' = k then (k, v) :: r else (k', v') :: kvSet r k v

def kvErase {α : Type} (kvs : List (Key × α)) (k : Key) : List (Key × α) :=
  kvs.filter (fun p => !decide (p.1 = k))

/-- `d.update(other)` / `{**d, **other}` -/
def kvUpdate {α : Type} (kvs other : List (Key × α)) : List (Key × α) :=
  other.foldl (fun acc p => kvSet acc p.1 p.2) kvs

/-- insertion into a key-sorted entry list (before the first entry with a key that is not smaller) -/
def insertKv {α : Type} (p : Key × α) : List (Key × α) → List (Key × α)
  | [] => [p]
  | q :: r => if p.1 ≤ q.1 then p :: q :: r else q :: insertKv p r

/-- `sorted(keys)`; jax rebuilds dicts in sorted key order (insertion sort: structural, so closed
examples evaluate in the kernel) -/
def sortKvs {α : Type} (kvs : List (Key × α)) : List (Key × α) :=
  kvs.foldr insertKv []

/-! ### deep walks -/

/-- thread the heap through a function applied to every value of an entry list, in order -/
def mapKvs (f : Heap → Val → Except Err (Heap × Val)) :
    Heap → List (Key × Val) → Except Err (Heap × List (Key × Val))
  | h, [] => .ok (h, [])
  | h, (k, v) :: rest =>
    match f h v with
    | .error e => .error e
    | .ok (h1, v') =>
      match mapKvs f h1 rest with
      | .error e => .error e
      | .ok (h2, rest') => .ok (h2, (k, v') :: rest')

inductive Mode where
  | prepare    -- `_prepare_freeze`: copy dicts, share the `_dict` of FrozenDicts
  | unfreeze   -- module-level `unfreeze`: dict → rebuilt dict (same key order), FrozenDict → tree_map copy of `_dict`
  | tree       -- `jax.tree_util.tree_map(lambda x: x, ·)`: dicts and FrozenDicts rebuilt with sorted keys
  deriving DecidableEq, Repr

/-- The three recursive walks of the file.  `own` is the ghost flag given to the dicts allocated by
this walk (`true` exactly when they become (part of) a FrozenDict's `_dict`). -/
def deep (m : Mode) (own : Bool) : Nat → Heap → Val → Except Err (Heap × Val)
  | _, h, .leaf l => .ok (h, .leaf l)
  | 0, _, .ref _ => .error .recursion
  | n + 1, h, .ref a =>
    match h[a]? with
    | none => .error .dangling
    | some (.dict _ kvs) =>
      match mapKvs (deep m own n) h (if m = .tree then sortKvs kvs else kvs) with
      | .error e => .error e
      | .ok (h1, kvs') => .ok (h1 ++ [.dict own kvs'], .ref h1.length)
    | some (.frozen i) =>
      match m with
      | .prepare => .ok (h, .ref i)
      | .unfreeze => deep .tree own n h (.ref i)
      | .tree =>
        -- tree_flatten_with_keys hands out the raw `_dict` values; tree_unflatten wraps the rebuilt
        -- children with `__unsafe_skip_copy__=True`
        match deep .tree true n h (.ref i) with
        | .error e => .error e
        | .ok (h1, .ref j) => .ok (h1 ++ [.frozen j], .ref h1.length)
        | .ok (_, .leaf _) => .error .dangling

/-- fuel that suffices for every acyclic structure inside `h` -/
def fuelOf (h : Heap) : Nat := h.length + 1

/-- `FrozenDict(xs)` where `xs` is a dict with the given entries:
`self._dict = _prepare_freeze(xs)` (a new dict), then the wrapper object -/
def mkFrozen (h : Heap) (kvs : List (Key × Val)) : Except Err (Heap × Val) :=
  match mapKvs (deep .prepare true (fuelOf h)) h kvs with
  | .error e => .error e
  | .ok (h1, kvs') => .ok (h1 ++ [.dict true kvs', .frozen h1.length], .ref (h1.length + 1))

/-- the tail of `FrozenDict.__getitem__`: `if isinstance(v, dict): return FrozenDict(v)`; `return v` -/
def wrapVal (h : Heap) (v : Val) : Except Err (Heap × Val) :=
  match v with
  | .leaf l => .ok (h, .leaf l)
  | .ref a =>
    match h[a]? with
    | none => .error .dangling
    | some (.dict _ kvs) => mkFrozen h kvs
    | some (.frozen _) => .ok (h, .ref a)

/-- entries of `fd._dict` -/
def innerKvs (h : Heap) (i : Addr) : Except Err (List (Key × Val)) :=
  match h[i]? with
  | some (.dict _ kvs) => .ok kvs
  | _ => .error .dangling

/-- `dict(x)` / `{**x}` / what `dict.update(x)` reads: for a dict its entries, for a FrozenDict
`[(k, x[k]) for k in x]` (every nested dict re-wrapped, hence copied) -/
def dictOf (h : Heap) (x : Val) : Except Err (Heap × List (Key × Val)) :=
  match x with
  | .leaf _ => .error .typeError
  | .ref a =>
    match h[a]? with
    | none => .error .dangling
    | some (.dict _ kvs) => .ok (h, kvs)
    | some (.frozen i) =>
      match innerKvs h i with
      | .error e => .error e
      | .ok kvs => mapKvs wrapVal h kvs

/-! ### the world and its operations -/

structure World where
  heap : Heap
  roots : List Val
  deriving Repr, Inhabited, DecidableEq

def World.init : World := ⟨[], []⟩

inductive Op where
  -- plain Python on the user's side
  | newDict                                  -- `{}`
  | newLeaf (l : Leaf)
  | setKey (d : Nat) (k : Key) (src : Nat)   -- `roots[d][k] = roots[src]`
  | delKey (d : Nat) (k : Key)               -- `del roots[d][k]`
  -- the API
  | getitem (x : Nat) (k : Key)              -- `roots[x][k]`
  | get (x : Nat) (k : Key) (dflt : Leaf)    -- `roots[x].get(k, dflt)` (`Mapping.get`: `self[k]`, `dflt` on KeyError)
  | items (x : Nat)                          -- `[v for _, v in roots[x].items()]`
  | freeze (x : Nat)                         -- `freeze(x)` = `FrozenDict(x)`
  | unfreeze (x : Nat)                       -- `unfreeze(x)` (= `x.unfreeze()`)
  | copy (x : Nat) (add : Option Nat)        -- `copy(x, add)` (= `x.copy(add)` on a FrozenDict)
  | copyView (x : Nat) (add : Nat)           -- `copy(x, M(roots[add]))`, `M` a Mapping that is neither dict nor FrozenDict
                                             --  (MappingProxyType / ChainMap / UserDict view of a held dict or FrozenDict)
  | pop (x : Nat) (k : Key)                  -- `pop(x, k)` (= `x.pop(k)`); returns (rest, value)
  | pickle (x : Nat)                         -- `__reduce__`: `FrozenDict(x.unfreeze())`
  | treeMap (x : Nat)                        -- `jax.tree_util.tree_map(lambda y: y, x)` (flatten ∘ unflatten)
  | unflatten (ks : List (Key × Nat))        -- `tree_unflatten(<FrozenDict treedef with these keys>, [roots[i], …])`
                                             --  (also what `tree_map(f, fd)` does with the values `f` returns)
  deriving DecidableEq, Repr

/-- the held values named by an `unflatten` op -/
def resolveKs (rs : List Val) : List (Key × Nat) → Option (List (Key × Val))
  | [] => some []
  | (k, i) :: r =>
    match rs[i]?, resolveKs rs r with
    | some v, some kvs => some ((k, v) :: kvs)
    | _, _ => none

/-- children that `tree_unflatten` may be given within the modelled domain: leaves and FrozenDict
objects.  (A *mutable dict* passed as a child would be stored by reference — `__unsafe_skip_copy__` —
which is the documented contract of the pytree protocol and outside the no-alias claim, DESIGN §7.) -/
def childOk (h : Heap) (v : Val) : Bool :=
  match v with
  | .leaf _ => true
  | .ref a =>
    match h[a]? with
    | some (.frozen _) => true
    | _ => false

/-- is this op a mutation performed by the user (everything else is an API call) -/
def Op.isUserWrite : Op → Bool
  | .setKey .. => true
  | .delKey .. => true
  | _ => false

def hasKey {α : Type} (kvs : List (Key × α)) (k : Key) : Bool := (kvGet kvs k).isSome

/-- one operation; on success the new world (returned values appended to `roots`) -/
def step (w : World) (op : Op) : Except Err World :=
  let h := w.heap
  let rs := w.roots
  match op with
  | .newDict => .ok ⟨h ++ [.dict false []], rs ++ [.ref h.length]⟩
  | .newLeaf l => .ok ⟨h, rs ++ [.leaf l]⟩
  | .setKey d k src =>
    match rs[d]?, rs[src]? with
    | some (.ref a), some v =>
      match h[a]? with
      | some (.dict o kvs) => .ok ⟨h.set a (.dict o (kvSet kvs k v)), rs⟩
      | some (.frozen _) => .error .immutable
      | none => .error .dangling
    | some (.leaf _), some _ => .error .typeError
    | _, _ => .error .badHandle
  | .delKey d k =>
    match rs[d]? with
    | some (.ref a) =>
      match h[a]? with
      | some (.dict o kvs) =>
        if hasKey kvs k then .ok ⟨h.set a (.dict o (kvErase kvs k)), rs⟩ else .error .keyError
      | some (.frozen _) => .error .immutable
      | none => .error .dangling
    | some (.leaf _) => .error .typeError
    | none => .error .badHandle
  | .getitem x k =>
    match rs[x]? with
    | some (.ref a) =>
      match h[a]? with
      | some (.dict _ kvs) =>
        match kvGet kvs k with
        | some v => .ok ⟨h, rs ++ [v]⟩
        | none => .error .keyError
      | some (.frozen i) =>
        match innerKvs h i with
        | .error e => .error e
        | .ok kvs =>
          match kvGet kvs k with
          | none => .error .keyError
          | some v =>
            match wrapVal h v with
            | .error e => .error e
            | .ok (h1, v') => .ok ⟨h1, rs ++ [v']⟩
      | none => .error .dangling
    | some (.leaf _) => .error .typeError
    | none => .error .badHandle
  | .get x k dflt =>
    -- inherited `Mapping.get`: `try: return self[key]` / `except KeyError: return default` — so a nested dict
    -- comes out re-wrapped exactly as with `__getitem__`; for a plain dict `dict.get`
    match rs[x]? with
    | some (.ref a) =>
      match h[a]? with
      | some (.dict _ kvs) =>
        match kvGet kvs k with
        | some v => .ok ⟨h, rs ++ [v]⟩
        | none => .ok ⟨h, rs ++ [.leaf dflt]⟩
      | some (.frozen i) =>
        match innerKvs h i with
        | .error e => .error e
        | .ok kvs =>
          match kvGet kvs k with
          | none => .ok ⟨h, rs ++ [.leaf dflt]⟩
          | some v =>
            match wrapVal h v with
            | .error e => .error e
            | .ok (h1, v') => .ok ⟨h1, rs ++ [v']⟩
      | none => .error .dangling
    | some (.leaf _) => .error .typeError
    | none => .error .badHandle
  | .items x =>
    match rs[x]? with
    | some (.ref a) =>
      match h[a]? with
      | some (.dict _ kvs) => .ok ⟨h, rs ++ kvs.map (·.2)⟩
      | some (.frozen _) =>
        match dictOf h (.ref a) with
        | .error e => .error e
        | .ok (h1, kvs) => .ok ⟨h1, rs ++ kvs.map (·.2)⟩
      | none => .error .dangling
    | some (.leaf _) => .error .typeError
    | none => .error .badHandle
  | .freeze x =>
    match rs[x]? with
    | some v =>
      match dictOf h v with
      | .error e => .error e
      | .ok (h1, xs) =>
        match mkFrozen h1 xs with
        | .error e => .error e
        | .ok (h2, r) => .ok ⟨h2, rs ++ [r]⟩
    | none => .error .badHandle
  | .unfreeze x =>
    match rs[x]? with
    | some v =>
      match deep .unfreeze false (fuelOf h) h v with
      | .error e => .error e
      | .ok (h1, r) => .ok ⟨h1, rs ++ [r]⟩
    | none => .error .badHandle
  | .copy x add =>
    match rs[x]? with
    | some (.ref a) =>
      match h[a]? with
      | some (.frozen _) =>
        -- `type(self)({**self, **unfreeze(add_or_replace)})`
        match dictOf h (.ref a) with
        | .error e => .error e
        | .ok (h1, xs) =>
          match add with
          | none =>
            match mkFrozen h1 xs with
            | .error e => .error e
            | .ok (h2, r) => .ok ⟨h2, rs ++ [r]⟩
          | some ai =>
            match rs[ai]? with
            | none => .error .badHandle
            | some av =>
              match deep .unfreeze false (fuelOf h1) h1 av with
              | .error e => .error e
              | .ok (h2, u) =>
                match dictOf h2 u with        -- `**u` (a leaf is not a mapping: TypeError)
                | .error e => .error e
                | .ok (h3, ys) =>
                  match mkFrozen h3 (kvUpdate xs ys) with
                  | .error e => .error e
                  | .ok (h4, r) => .ok ⟨h4, rs ++ [r]⟩
      | some (.dict _ kvs) =>
        -- `new_dict = tree_map(lambda x: x, x); new_dict.update(add_or_replace); return new_dict`
        match mapKvs (deep .tree false (fuelOf h)) h (sortKvs kvs) with
        | .error e => .error e
        | .ok (h1, kvs') =>
          match add with
          | none => .ok ⟨h1 ++ [.dict false kvs'], rs ++ [.ref h1.length]⟩
          | some ai =>
            match rs[ai]? with
            | none => .error .badHandle
            | some av =>
              match dictOf h1 av with
              | .error e => .error e
              | .ok (h2, ys) => .ok ⟨h2 ++ [.dict false (kvUpdate kvs' ys)], rs ++ [.ref h2.length]⟩
      | none => .error .dangling
    | some (.leaf _) => .error .typeError
    | none => .error .badHandle
  | .copyView x ai =>
    match rs[x]?, rs[ai]? with
    | some (.ref a), some av =>
      match h[a]? with
      | some (.frozen _) =>
        -- `unfreeze(view)` returns the view itself (it is neither a FrozenDict nor a dict), so `{**self, **view}`
        -- holds the view's values as they are (nested dicts by reference); the *copying constructor*
        -- `type(self)(...)` is what deep-copies them
        match dictOf h (.ref a) with
        | .error e => .error e
        | .ok (h1, xs) =>
          match dictOf h1 av with            -- `**view`: keys() + view[k]
          | .error e => .error e
          | .ok (h2, ys) =>
            match mkFrozen h2 (kvUpdate xs ys) with
            | .error e => .error e
            | .ok (h3, r) => .ok ⟨h3, rs ++ [r]⟩
      | some (.dict _ kvs) =>
        -- `new_dict = tree_map(lambda x: x, x); new_dict.update(view)`: exactly as with a dict argument
        match mapKvs (deep .tree false (fuelOf h)) h (sortKvs kvs) with
        | .error e => .error e
        | .ok (h1, kvs') =>
          match dictOf h1 av with
          | .error e => .error e
          | .ok (h2, ys) => .ok ⟨h2 ++ [.dict false (kvUpdate kvs' ys)], rs ++ [.ref h2.length]⟩
      | none => .error .dangling
    | some (.leaf _), some _ => .error .typeError
    | _, _ => .error .badHandle
  | .pop x k =>
    match rs[x]? with
    | some (.ref a) =>
      match h[a]? with
      | some (.frozen i) =>
        -- `value = self[key]; new_dict = dict(self._dict); new_dict.pop(key); type(self)(new_dict)`
        match innerKvs h i with
        | .error e => .error e
        | .ok kvs =>
          match kvGet kvs k with
          | none => .error .keyError
          | some v =>
            match wrapVal h v with
            | .error e => .error e
            | .ok (h1, value) =>
              match mkFrozen h1 (kvErase kvs k) with
              | .error e => .error e
              | .ok (h2, r) => .ok ⟨h2, rs ++ [r, value]⟩
      | some (.dict _ kvs) =>
        -- `new_dict = tree_map(lambda x: x, x); value = new_dict.pop(key)`
        match mapKvs (deep .tree false (fuelOf h)) h (sortKvs kvs) with
        | .error e => .error e
        | .ok (h1, kvs') =>
          match kvGet kvs' k with
          | none => .error .keyError
          | some value => .ok ⟨h1 ++ [.dict false (kvErase kvs' k)], rs ++ [.ref h1.length, value]⟩
      | none => .error .dangling
    | some (.leaf _) => .error .typeError
    | none => .error .badHandle
  | .pickle x =>
    match rs[x]? with
    | some (.ref a) =>
      match h[a]? with
      | some (.frozen _) =>
        match deep .unfreeze false (fuelOf h) h (.ref a) with
        | .error e => .error e
        | .ok (h1, u) =>
          match dictOf h1 u with
          | .error e => .error e
          | .ok (h2, xs) =>
            match mkFrozen h2 xs with
            | .error e => .error e
            | .ok (h3, r) => .ok ⟨h3, rs ++ [r]⟩
      | some (.dict ..) => .error .typeError
      | none => .error .dangling
    | some (.leaf _) => .error .typeError
    | none => .error .badHandle
  | .unflatten ks =>
    -- `cls({k: v for k, v in zip(keys, values)}, __unsafe_skip_copy__=True)`: the children are stored as they
    -- are, so a FrozenDict child stays a FrozenDict *object* inside `_dict`
    match resolveKs rs ks with
    | none => .error .badHandle
    | some kvs =>
      if kvs.all (fun p => childOk h p.2) && decide ((kvs.map (·.1)).Nodup) then
        .ok ⟨h ++ [.dict true kvs, .frozen h.length], rs ++ [.ref (h.length + 1)]⟩
      else .error .badHandle
  | .treeMap x =>
    match rs[x]? with
    | some v =>
      match deep .tree false (fuelOf h) h v with
      | .error e => .error e
      | .ok (h1, r) => .ok ⟨h1, rs ++ [r]⟩
    | none => .error .badHandle

/-- a history: an operation that raises leaves the world as it was (the exception is the observation) -/
def run : World → List Op → World
  | w, [] => w
  | w, op :: ops =>
    match step w op with
    | .ok w' => run w' ops
    | .error _ => run w ops

/-! ### abstract values -/

inductive Tree where
  | leaf (l : Leaf)
  | node (fz : Bool) (kvs : List (Key × Tree))
  deriving Repr, Inhabited

def absKvs (f : Val → Option Tree) : List (Key × Val) → Option (List (Key × Tree))
  | [] => some []
  | (k, v) :: r =>
    match f v, absKvs f r with
    | some t, some ts => some ((k, t) :: ts)
    | _, _ => none

/-- the value denoted by `v` in heap `h` (`none`: out of fuel or dangling).  Below a FrozenDict every
node is tagged frozen (the API presents nested dicts as FrozenDicts). -/
def absVal (fz : Bool) : Nat → Heap → Val → Option Tree
  | _, _, .leaf l => some (.leaf l)
  | 0, _, .ref _ => none
  | n + 1, h, .ref a =>
    match h[a]? with
    | none => none
    | some (.dict _ kvs) => (absKvs (absVal fz n h) kvs).map (Tree.node fz)
    | some (.frozen i) =>
      match h[i]? with
      | some (.dict _ kvs) => (absKvs (absVal true n h) kvs).map (Tree.node true)
      | _ => none

/-- addresses of the *mutable* dicts reachable from `v` the way a user can reach them: through dict
values, never into a FrozenDict -/
def userDicts : Nat → Heap → Val → List Addr
  | _, _, .leaf _ => []
  | 0, _, .ref _ => []
  | n + 1, h, .ref a =>
    match h[a]? with
    | some (.dict _ kvs) => a :: (kvs.map (fun p => userDicts n h p.2)).flatten
    | _ => []

/-- addresses of the dicts that make up the `_dict` of the FrozenDicts reachable from `v` -/
def frozenDicts : Nat → Heap → Val → List Addr
  | _, _, .leaf _ => []
  | 0, _, .ref _ => []
  | n + 1, h, .ref a =>
    match h[a]? with
    | some (.dict _ kvs) => (kvs.map (fun p => frozenDicts n h p.2)).flatten
    | some (.frozen i) => userDicts n h (.ref i)
    | none => []

/-! ### equality, hash, pytree flatten on abstract values -/

def lookupT : Key → List (Key × Tree) → Option Tree
  | _, [] => none
  | k, (k', t) :: r => if k' = k then some t else lookupT k r

mutual
  /-- `Mapping.__eq__` / `dict.__eq__`: same number of keys, every key of the left present on the
  right with an equal value (the dict/FrozenDict distinction is ignored, as in Python) -/
  def treeEq : Tree → Tree → Bool
    | .leaf a, .leaf b => decide (a = b)
    | .node _ k1, .node _ k2 => decide (k1.length = k2.length) && kvsSub k1 k2
    | _, _ => false
  def kvsSub : List (Key × Tree) → List (Key × Tree) → Bool
    | [], _ => true
    | (k, t) :: r, k2 =>
      (match lookupT k k2 with
       | some t' => treeEq t t'
       | none => false) && kvsSub r k2
end

/-- Python's hashes are parameters: `hk` of keys, `hl` of leaves (`none` = unhashable, TypeError),
`pair a b` = `hash((k, v))` from the two component hashes. -/
structure HashFns where
  hk : Key → Nat
  hl : Leaf → Option Nat
  pair : Nat → Nat → Nat

mutual
  /-- `FrozenDict.__hash__`: `h = 0; for k, v in items(): h ^= hash((k, v))` -/
  def treeHash (H : HashFns) : Tree → Option Nat
    | .leaf l => H.hl l
    | .node _ kvs => kvsHash H kvs
  def kvsHash (H : HashFns) : List (Key × Tree) → Option Nat
    | [] => some 0
    | (k, t) :: r =>
      match treeHash H t, kvsHash H r with
      | some a, some b => some (b ^^^ H.pair (H.hk k) a)
      | _, _ => none
end

/-- the static half of a flattened pytree -/
inductive TDef where
  | leaf
  | node (fz : Bool) (kvs : List (Key × TDef))
  deriving Repr, Inhabited

def sortT {α : Type} (kvs : List (Key × α)) : List (Key × α) := sortKvs kvs

mutual
  /-- `tree_flatten`: children in sorted key order (FrozenDict.tree_flatten_with_keys sorts; jax sorts dict keys) -/
  def flatten : Tree → List Leaf × TDef
    | .leaf l => ([l], .leaf)
    | .node fz kvs =>
      let r := flattenKvs kvs
      (r.1, .node fz r.2)
  /-- flattens the children *in the order given*; `flatten` is applied to `sortTree`-ed input by `flattenS` -/
  def flattenKvs : List (Key × Tree) → List Leaf × List (Key × TDef)
    | [] => ([], [])
    | (k, t) :: r =>
      let a := flatten t
      let b := flattenKvs r
      (a.1 ++ b.1, (k, a.2) :: b.2)
end

mutual
  /-- keys sorted at every level -/
  def sortTree : Tree → Tree
    | .leaf l => .leaf l
    | .node fz kvs => .node fz (sortT (sortTreeKvs kvs))
  def sortTreeKvs : List (Key × Tree) → List (Key × Tree)
    | [] => []
    | (k, t) :: r => (k, sortTree t) :: sortTreeKvs r
end

/-- `jax.tree_util.tree_flatten(fd)` -/
def flattenS (t : Tree) : List Leaf × TDef := flatten (sortTree t)

mutual
  /-- `tree_unflatten`: consumes leaves left to right; `none` when there are too few -/
  def unflatten : TDef → List Leaf → Option (Tree × List Leaf)
    | .leaf, [] => none
    | .leaf, l :: ls => some (.leaf l, ls)
    | .node fz ds, ls =>
      match unflattenKvs ds ls with
      | some (kvs, rest) => some (.node fz kvs, rest)
      | none => none
  def unflattenKvs : List (Key × TDef) → List Leaf → Option (List (Key × Tree) × List Leaf)
    | [], ls => some ([], ls)
    | (k, d) :: r, ls =>
      match unflatten d ls with
      | none => none
      | some (t, ls1) =>
        match unflattenKvs r ls1 with
        | none => none
        | some (ts, ls2) => some ((k, t) :: ts, ls2)
end

/-! ### the `_hash` cache

`FrozenDict._hash` is a per-object memo: `None` until `__hash__` is first called, then the computed
value for ever.  It is modelled as a side table from FrozenDict addresses to hashes next to the world
(the slot is not reachable through any API, so it cannot alias anything). -/

structure HWorld where
  w : World
  cache : List (Addr × Nat)
  deriving Repr, Inhabited

def HWorld.init : HWorld := ⟨World.init, []⟩

inductive HOp where
  | base (op : Op)
  | hash (x : Nat)          -- `hash(roots[x])`
  deriving Repr

def cacheGet : List (Addr × Nat) → Addr → Option Nat
  | [], _ => none
  | (a, c) :: r, f => if a = f then some c else cacheGet r f

/-- what `__hash__` computes when the cache is empty: XOR over `items()` of `hash((k, v))` -/
def freshHash (H : HashFns) (h : Heap) (f : Addr) : Option Nat :=
  (absVal false (fuelOf h) h (.ref f)).bind (treeHash H)

/-- one step; the second component is the value returned by `hash` -/
def hstep (H : HashFns) (hw : HWorld) : HOp → Except Err (HWorld × Option Nat)
  | .base op =>
    match step hw.w op with
    | .ok w' => .ok (⟨w', hw.cache⟩, none)
    | .error e => .error e
  | .hash x =>
    match hw.w.roots[x]? with
    | some (.ref f) =>
      match hw.w.heap[f]? with
      | some (.frozen _) =>
        match cacheGet hw.cache f with
        | some c => .ok (hw, some c)                       -- `return self._hash`
        | none =>
          match freshHash H hw.w.heap f with
          | some c => .ok (⟨hw.w, (f, c) :: hw.cache⟩, some c)
          | none => .error .typeError                       -- unhashable leaf
      | some (.dict ..) => .error .typeError                -- dicts are unhashable
      | none => .error .dangling
    | some (.leaf l) =>
      match H.hl l with
      | some c => .ok (hw, some c)
      | none => .error .typeError
    | none => .error .badHandle

def hrun (H : HashFns) : HWorld → List HOp → HWorld
  | hw, [] => hw
  | hw, op :: ops =>
    match hstep H hw op with
    | .ok (hw', _) => hrun H hw' ops
    | .error _ => hrun H hw ops

/-- Loading a pickle in *another interpreter*: the heap (the unpickled objects) is what it is, but the
hash function is the loading process's own (`PYTHONHASHSEED`), and `__reduce__` = `FrozenDict(unfreeze())`
rebuilds through the constructor, which sets `_hash = None`: nothing of the old cache travels. -/
def HWorld.loadedElsewhere (hw : HWorld) : HWorld := ⟨hw.w, []⟩

/-- the behaviour this model does **not** have (kept for the counter-example): a `__reduce__` that
carries `_hash` along gives the rebuilt object `dst` the cache entry of `src`, which then also travels -/
def HWorld.carryCacheOrig (hw : HWorld) (src dst : Addr) : HWorld :=
  match cacheGet hw.cache src with
  | some c => ⟨hw.w, (dst, c) :: hw.cache⟩
  | none => hw

end Flax.Frozen
