/-
Python object identity for the NNX models: an explicit heap.

* `Addr = Nat`, `Heap = List Obj`; allocation appends, so an address is *fresh* for a heap exactly
  when it is `≥ heap.length`, and "shares nothing with" becomes an arithmetic fact about addresses.
* Only the objects that flax treats by identity live in the heap: graph nodes (`nnx.Object`
  subclasses, `Obj.node`) and `nnx.Variable`s (`Obj.var`).  `list` / `tuple` / `dict` / `None` are
  *values* (`PVal.seq`, `PVal.dict`, `PVal.none`) stored inside the attribute that holds them, exactly
  as `flax/nnx/graph.py` treats them: `_graph_flatten` looks only non-pytree nodes up in `ref_index`.
* Attribute maps (`vars(obj)`, `dict`) are association lists in insertion order; Python guarantees
  distinct keys, which is the predicate `keysNodup` (needed only where a theorem says so).

Used by C03 (Graph.lean) and later by C04 / C08.  Core Lean only (linked into compiled drivers).
-/

namespace Flax.Heap

abbrev Addr := Nat

/-- attribute / item key: a Python `int` (sequence positions, int dict keys) or `str` -/
inductive Key where
  | int (i : Int)
  | str (s : String)
  deriving DecidableEq, Repr, Inhabited

/-- the strict order Python's `sorted` uses on sibling keys.  Sibling keys are homogeneous in every
graph flax can flatten (`sorted` raises on `int < str`); the model orders ints before strs so that
the order is total. -/
def Key.lt : Key → Key → Bool
  | .int a, .int b => decide (a < b)
  | .int _, .str _ => true
  | .str _, .int _ => false
  | .str a, .str b => decide (a < b)

/-- a path from the root: the tuple of keys used by `FlatState` / `State` -/
abbrev Path := List Key

/-- Python tuple comparison on paths: lexicographic, a proper prefix comes first -/
def Path.lt : Path → Path → Bool
  | [], [] => false
  | [], _ :: _ => true
  | _ :: _, [] => false
  | a :: as, b :: bs => Key.lt a b || (decide (a = b) && Path.lt as bs)

/-- an opaque immutable payload (array contents, a Python scalar …): the harness interns concrete
values to integers, equal values ↔ equal ids -/
abbrev Data := Int

/-- a hashable static attribute value, as a canonical string -/
abbrev Static := String

/-- `Variable._var_metadata`: name → canonical string of the value, in insertion order -/
abbrev Meta := List (String × String)

/-- a Variable class, given by the names along its `__mro__` (own name first) -/
abbrev VType := List String

/-- values an attribute (or container slot) can hold -/
inductive PVal where
  | static (s : Static)                    -- any other hashable Python value
  | array (d : Data)                       -- `jax.Array` / `np.ndarray`: a leaf, by value
  | ref (a : Addr)                         -- a graph node or a Variable: by identity
  | seq (isTuple : Bool) (xs : List PVal)  -- `list` (false) / `tuple` (true): by value
  | dict (kvs : List (Key × PVal))         -- `dict`: by value
  | none                                   -- `None` (an empty pytree node for flax)
  deriving Repr, Inhabited

/-! decidable equality of `PVal` (the deriving handler does not cover nested inductives) -/
mutual
  def PVal.beq : PVal → PVal → Bool
    | .static a, .static b => decide (a = b)
    | .array a, .array b => decide (a = b)
    | .ref a, .ref b => decide (a = b)
    | .seq t xs, .seq u ys => decide (t = u) && PVal.beqList xs ys
    | .dict xs, .dict ys => PVal.beqKVs xs ys
    | .none, .none => true
    | _, _ => false
  def PVal.beqList : List PVal → List PVal → Bool
    | [], [] => true
    | x :: xs, y :: ys => PVal.beq x y && PVal.beqList xs ys
    | _, _ => false
  def PVal.beqKVs : List (Key × PVal) → List (Key × PVal) → Bool
    | [], [] => true
    | (k, x) :: xs, (l, y) :: ys => decide (k = l) && PVal.beq x y && PVal.beqKVs xs ys
    | _, _ => false
end

theorem PVal.beq_iff : ∀ (a b : PVal), PVal.beq a b = true ↔ a = b :=
  PVal.rec (motive_1 := fun a => ∀ b, PVal.beq a b = true ↔ a = b)
    (motive_2 := fun xs => ∀ ys, PVal.beqList xs ys = true ↔ xs = ys)
    (motive_3 := fun xs => ∀ ys, PVal.beqKVs xs ys = true ↔ xs = ys)
    (motive_4 := fun kv => ∀ l y, (decide (kv.1 = l) && PVal.beq kv.2 y) = true ↔ kv = (l, y))
    (fun s b => by cases b <;> simp [PVal.beq])
    (fun d b => by cases b <;> simp [PVal.beq])
    (fun a b => by cases b <;> simp [PVal.beq])
    (fun t xs ih b => by cases b <;> simp [PVal.beq, ih])
    (fun kvs ih b => by cases b <;> simp [PVal.beq, ih])
    (fun b => by cases b <;> simp [PVal.beq])
    (fun ys => by cases ys <;> simp [PVal.beqList])
    (fun x xs ihx ihxs ys => by cases ys <;> simp [PVal.beqList, ihx, ihxs])
    (fun ys => by cases ys <;> simp [PVal.beqKVs])
    (fun kv xs ihkv ihxs ys => by
      obtain ⟨k, x⟩ := kv
      cases ys with
      | nil => simp [PVal.beqKVs]
      | cons ly ys =>
        obtain ⟨l, y⟩ := ly
        simp only [PVal.beqKVs, Bool.and_eq_true, List.cons.injEq]
        rw [← ihxs ys, ← ihkv l y, Bool.and_eq_true])
    (fun k x ih l y => by simp [ih])

theorem PVal.beqList_iff : ∀ (xs ys : List PVal), PVal.beqList xs ys = true ↔ xs = ys := fun xs ys => by
  simpa [PVal.beq] using PVal.beq_iff (.seq true xs) (.seq true ys)

theorem PVal.beqKVs_iff : ∀ (xs ys : List (Key × PVal)), PVal.beqKVs xs ys = true ↔ xs = ys := fun xs ys => by
  simpa [PVal.beq] using PVal.beq_iff (.dict xs) (.dict ys)

instance : DecidableEq PVal := fun a b => decidable_of_iff _ (PVal.beq_iff a b)

/-- heap objects: the things with identity -/
inductive Obj where
  | node (cls : String) (attrs : List (Key × PVal))   -- `nnx.Object` instance: class name, `vars(obj)`
  | var (ty : VType) (value : Data) (md : Meta)     -- `nnx.Variable`: class, `raw_value`, `_var_metadata`
  deriving Repr, Inhabited, DecidableEq

abbrev Heap := List Obj

/-! ### allocation and writes -/

/-- allocate a new object; returns the new heap and the (fresh) address -/
def alloc (h : Heap) (o : Obj) : Heap × Addr := (h ++ [o], h.length)

/-- overwrite the object at `a` (no-op when `a` is not allocated) -/
def write (h : Heap) (a : Addr) (o : Obj) : Heap := h.set a o

theorem alloc_fresh (h : Heap) (o : Obj) : (alloc h o).2 = h.length ∧ (alloc h o).1.length = h.length + 1 := by
  simp [alloc]

theorem alloc_get_new (h : Heap) (o : Obj) : (alloc h o).1[(alloc h o).2]? = some o := by
  simp [alloc]

theorem alloc_get_old (h : Heap) (o : Obj) (a : Addr) (ha : a < h.length) : (alloc h o).1[a]? = h[a]? := by
  simp [alloc, List.getElem?_append_left ha]

theorem write_frame (h : Heap) (a b : Addr) (o : Obj) (hne : b ≠ a) : (write h a o)[b]? = h[b]? := by
  simp only [write, List.getElem?_set]
  split
  · next heq => exact absurd heq.symm hne
  · rfl

theorem write_length (h : Heap) (a : Addr) (o : Obj) : (write h a o).length = h.length := by
  simp [write]

theorem write_get (h : Heap) (a : Addr) (o : Obj) (ha : a < h.length) : (write h a o)[a]? = some o := by
  simp [write, ha]

/-- `h₁` is an initial segment of `h₂`: every object of `h₁` is still there, unchanged -/
def Extends (h₁ h₂ : Heap) : Prop := ∃ t, h₂ = h₁ ++ t

theorem Extends.refl (h : Heap) : Extends h h := ⟨[], by simp⟩

theorem Extends.trans {a b c : Heap} (h1 : Extends a b) (h2 : Extends b c) : Extends a c := by
  obtain ⟨t1, rfl⟩ := h1
  obtain ⟨t2, rfl⟩ := h2
  exact ⟨t1 ++ t2, by simp⟩

theorem Extends.length_le {a b : Heap} (h : Extends a b) : a.length ≤ b.length := by
  obtain ⟨t, rfl⟩ := h; simp

theorem Extends.get {a b : Heap} (h : Extends a b) (i : Addr) (hi : i < a.length) : b[i]? = a[i]? := by
  obtain ⟨t, rfl⟩ := h
  exact List.getElem?_append_left hi

theorem Extends.alloc (h : Heap) (o : Obj) : Extends h (alloc h o).1 := ⟨[o], rfl⟩

theorem Extends.write {h₁ h₂ : Heap} (e : Extends h₁ h₂) (a : Addr) (o : Obj) (ha : h₁.length ≤ a) :
    Extends h₁ (write h₂ a o) := by
  obtain ⟨t, rfl⟩ := e
  refine ⟨t.set (a - h₁.length) o, ?_⟩
  simp only [Heap.write]
  rw [List.set_append_right _ _ ha]

/-! ### sorting association lists by key (what `sorted(d.items())` does for distinct keys) -/

/-- insert before the first entry whose key is not smaller (stable) -/
def insertBy {κ α : Type} (lt : κ → κ → Bool) (k : κ) (v : α) : List (κ × α) → List (κ × α)
  | [] => [(k, v)]
  | (k', v') :: rest => if lt k' k then (k', v') :: insertBy lt k v rest else (k, v) :: (k', v') :: rest

/-- stable insertion sort by key -/
def sortBy {κ α : Type} (lt : κ → κ → Bool) : List (κ × α) → List (κ × α)
  | [] => []
  | (k, v) :: rest => insertBy lt k v (sortBy lt rest)

/-- `sorted(d.items())` -/
def sortKV {α : Type} (l : List (Key × α)) : List (Key × α) := sortBy Key.lt l

/-- `list(enumerate(xs))` -/
def enumFrom {α : Type} : Nat → List α → List (Key × α)
  | _, [] => []
  | n, x :: xs => (Key.int n, x) :: enumFrom (n + 1) xs

/-- the `(key, child)` sequence flax iterates for a pytree container (`None` has no children) -/
def PVal.children? : PVal → Option (List (Key × PVal))
  | .seq _ xs => some (enumFrom 0 xs)
  | .dict kvs => some (sortKV kvs)
  | .none => some []
  | _ => Option.none

/-- first value stored under `k` -/
def lookupKV {α : Type} (k : Key) : List (Key × α) → Option α
  | [] => Option.none
  | (k', v) :: rest => if k' = k then some v else lookupKV k rest

/-- remove every entry stored under `k` (`dict.pop(k)`; keys are distinct in a real dict) -/
def eraseKV {α : Type} (k : Key) (l : List (Key × α)) : List (Key × α) :=
  l.filter (fun kv => !decide (kv.1 = k))

/-- Python dicts and `vars(obj)` have distinct keys -/
def keysNodup {α : Type} (l : List (Key × α)) : Prop := (l.map (·.1)).Nodup

instance {α : Type} (l : List (Key × α)) : Decidable (keysNodup l) := by unfold keysNodup; infer_instance

/-! ### well-formedness: Python dicts (and `vars(obj)`) have pairwise distinct keys -/

mutual
  def PVal.wf : PVal → Bool
    | .seq _ xs => PVal.wfList xs
    | .dict kvs => decide (keysNodup kvs) && PVal.wfKVs kvs
    | _ => true
  def PVal.wfList : List PVal → Bool
    | [] => true
    | x :: xs => PVal.wf x && PVal.wfList xs
  def PVal.wfKVs : List (Key × PVal) → Bool
    | [] => true
    | (_, v) :: rest => PVal.wf v && PVal.wfKVs rest
end

def Obj.wf : Obj → Bool
  | .node _ attrs => decide (keysNodup attrs) && PVal.wfKVs attrs
  | .var _ _ _ => true

/-- every attribute map and dict in the heap has distinct keys -/
def Heap.wf (h : Heap) : Bool := h.all Obj.wf

/-! ### references occurring in a value (through containers, not through the heap); closed heaps -/

mutual
  def deepRefs : PVal → List Addr
    | .ref a => [a]
    | .seq _ xs => deepRefsL xs
    | .dict kvs => deepRefsKV kvs
    | _ => []
  def deepRefsL : List PVal → List Addr
    | [] => []
    | x :: xs => deepRefs x ++ deepRefsL xs
  def deepRefsKV : List (Key × PVal) → List Addr
    | [] => []
    | (_, v) :: r => deepRefs v ++ deepRefsKV r
end

/-- no dangling reference in the value -/
def ValClosed (h : Heap) (v : PVal) : Prop := ∀ b ∈ deepRefs v, b < h.length

/-- no dangling reference anywhere in the heap (always true of a real Python heap) -/
def HeapClosed (h : Heap) : Prop :=
  ∀ (a : Nat) cls attrs, h[a]? = some (.node cls attrs) → ∀ b ∈ deepRefsKV attrs, b < h.length

/-! ### following a path -/

/-- one step: the child of `v` under key `k` (graph nodes are looked up in the heap; a Variable has no
children) -/
def step (h : Heap) (v : PVal) (k : Key) : Option PVal :=
  match v with
  | .ref a =>
    match h[a]? with
    | some (.node _ attrs) => lookupKV k attrs
    | _ => Option.none
  | .seq _ xs => lookupKV k (enumFrom 0 xs)
  | .dict kvs => lookupKV k kvs
  | _ => Option.none

/-- the value reached from `v` along `p`, if every step exists -/
def resolve (h : Heap) : PVal → Path → Option PVal
  | v, [] => some v
  | v, k :: p =>
    match step h v k with
    | some v' => resolve h v' p
    | Option.none => Option.none

/-! ### rooted heap isomorphism

`φ` maps addresses of the first heap to addresses of the second.  Values correspond when they are equal
up to `φ` on references; attribute maps and dicts correspond as *maps* (compared after sorting by key,
insertion order is not part of the graph).  `Iso` is what "merge(split(g)) is isomorphic to g" means:
same node classes and static attributes, same Variable types / values / metadata, and — because `φ` is
injective — two paths reach one object on one side iff they do on the other (`Flax.C03.iso_alias_iff`). -/

mutual
  inductive ValRel (φ : Addr → Option Addr) : PVal → PVal → Prop where
    | static (s : Static) : ValRel φ (.static s) (.static s)
    | array (d : Data) : ValRel φ (.array d) (.array d)
    | none : ValRel φ .none .none
    | ref {a b : Addr} : φ a = some b → ValRel φ (.ref a) (.ref b)
    | seq {t : Bool} {xs ys : List PVal} : ValsRel φ xs ys → ValRel φ (.seq t xs) (.seq t ys)
    | dict {kvs kvs' : List (Key × PVal)} : KVsRel φ (sortKV kvs) (sortKV kvs') → ValRel φ (.dict kvs) (.dict kvs')
  inductive ValsRel (φ : Addr → Option Addr) : List PVal → List PVal → Prop where
    | nil : ValsRel φ [] []
    | cons {x y : PVal} {xs ys : List PVal} : ValRel φ x y → ValsRel φ xs ys → ValsRel φ (x :: xs) (y :: ys)
  inductive KVsRel (φ : Addr → Option Addr) : List (Key × PVal) → List (Key × PVal) → Prop where
    | nil : KVsRel φ [] []
    | cons {k : Key} {v w : PVal} {r r' : List (Key × PVal)} :
        ValRel φ v w → KVsRel φ r r' → KVsRel φ ((k, v) :: r) ((k, w) :: r')
end

inductive ObjRel (φ : Addr → Option Addr) : Obj → Obj → Prop where
  | node {cls : String} {attrs attrs' : List (Key × PVal)} :
      KVsRel φ (sortKV attrs) (sortKV attrs') → ObjRel φ (.node cls attrs) (.node cls attrs')
  | var (ty : VType) (v : Data) (md : Meta) : ObjRel φ (.var ty v md) (.var ty v md)

/-- `(h, r) ≅ (h', r')` via `φ` -/
structure Iso (h : Heap) (r : PVal) (h' : Heap) (r' : PVal) (φ : Addr → Option Addr) : Prop where
  root : ValRel φ r r'
  inj : ∀ a b c, φ a = some c → φ b = some c → a = b
  obj : ∀ a b, φ a = some b → ∃ o o', h[a]? = some o ∧ h'[b]? = some o' ∧ ObjRel φ o o'

end Flax.Heap
