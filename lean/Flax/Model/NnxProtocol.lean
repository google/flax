/-
Model of the NNX transform protocol of flax/nnx (property C04), on top of the explicit heap of
Heap.lean and the graph model of Graph.lean (C03).

  graph.update_context / split_context / merge_context     → the four steps `step1`, `pureRun` (2,3), `step4`
  graph.flatten(ref_index=…, ref_outer_index=…)            → `flattenRoots` + `stampWith` (NodeDef/VariableDef.outer_index)
  graph.unflatten(index_ref=…, outer_index_outer_ref=…)    → `unflattenO`, `unflattenAttrsO`, `unflattenRootsO`
  NodeDef.with_same_outer_index / with_no_outer_index      → `stampWith (fun i => some i)` / `stampWith (fun _ => none)`
  extract.to_tree / from_tree (one ref_index per call)     → `flattenRoots` / `unflattenRootsO` over the argument tuple
  transforms/compilation.py  jit_wrapper + JitFn           → `protoCall (raw := true)`, `JitCache`, `jitCached`
  transforms/general.py  split_inputs / merge_inputs       → `protoCall (raw := false)` (remat), `switchCall` (cond / switch)
  transforms/iteration.py  fori_loop / while_loop          → `foriCall`, `whileCall`
  graph._cached_partial + StaticCache                      → `cachedPartialCall`

Conventions
* the caller's heap `h` and the heap of the traced function are different `Heap` values: the inner merge (2)
  builds its objects in an empty heap.  Only pure data (graphdefs and leaves) crosses the boundary, which is
  exactly what `jax.jit` / `lax.cond` / `lax.while_loop` see (assumptions A-JIT, A-COND, A-WHILE: they are
  the identity / branch selection / iteration on such pure values and reject mismatched output structures).
* `outer_index` of the definition with index `i` is `ref_outer_index.get(node)` for the node registered
  under `i`; the model computes the graphdef with C03's `flattenVal` and stamps it afterwards
  (`stampWith (fun i => (idx[i]?).bind rmap)`), which is the same table.
* `ctx.split` → nested `State` → `ctx.merge` re-sorts the leaves by path; on the output of `flatten` that is the
  identity (C03 `leaves_sorted_distinct` / `merge_any_order`), so leaves travel in emission order.  `raw`
  distinguishes `ctx.flatten(with_paths=False)` (jit: raw Variable values) from `ctx.split` (VariableState leaves).
* function bodies are programs of the mutation DSL `Op` (reads, Variable updates, attribute set / delete /
  re-bind, new nodes and Variables, aliasing) over registers; they are run eagerly on the caller's heap
  (`runFn`) or on the inner heap.  Programs have no data-dependent control flow (a traced function cannot).
* payloads are `int32` scalars: `wrap32` is XLA's two's-complement wrap-around.

Core Lean only (linked into the compiled driver).
-/
import Flax.Model.Heap
import Flax.Model.Graph

namespace Flax.Nnx
open Flax.Heap Flax.Graph

inductive Err where
  | graph (e : Graph.Err)     -- an error of flatten / unflatten (see Graph.lean)
  | attrError                 -- AttributeError: getattr / delattr of a missing attribute
  | typeError                 -- an operation applied to the wrong kind of value
  | badReg                    -- model only: register out of range
  | arity                     -- model only: graphdef / leaf lists of different lengths
  | expectedVariable          -- ValueError('Expected a Variable type for …')
  | typeMismatch              -- ValueError('Expected a node of type … but got a node of type …')
  | structureMismatch         -- cond / switch branch outputs or a loop carry differ in structure
  | cacheMutated              -- cached_partial: final graphdef differs from the cached one
  | fuel                      -- model only: while_loop did not terminate within the budget
  deriving DecidableEq, Repr, Inhabited

def liftG {α : Type} : Except Graph.Err α → Except Err α
  | .ok a => .ok a
  | .error e => .error (.graph e)

/-! ### graphdefs with `outer_index` -/

/-- `GraphDef` with the `outer_index` fields of `NodeDef` and `VariableDef` -/
inductive ODef where
  | ref (ty : String) (idx : Nat)
  | var (ty : VType) (idx : Nat) (outer : Option Nat) (md : Meta)
  | node (kind : NKind) (idx : Option Nat) (outer : Option Nat) (attrs : List (Key × ODef))
  | static (s : Static)
  | array
  deriving Repr, Inhabited

mutual
  def ODef.beq : ODef → ODef → Bool
    | .ref t i, .ref u j => decide (t = u) && decide (i = j)
    | .var t i o m, .var u j p n => decide (t = u) && decide (i = j) && decide (o = p) && decide (m = n)
    | .node k i o as, .node l j p bs => decide (k = l) && decide (i = j) && decide (o = p) && ODef.beqAttrs as bs
    | .static s, .static t => decide (s = t)
    | .array, .array => true
    | _, _ => false
  def ODef.beqAttrs : List (Key × ODef) → List (Key × ODef) → Bool
    | [], [] => true
    | (k, x) :: xs, (l, y) :: ys => decide (k = l) && ODef.beq x y && ODef.beqAttrs xs ys
    | _, _ => false
end

theorem ODef.beq_iff : ∀ (a b : ODef), ODef.beq a b = true ↔ a = b :=
  ODef.rec (motive_1 := fun a => ∀ b, ODef.beq a b = true ↔ a = b)
    (motive_2 := fun xs => ∀ ys, ODef.beqAttrs xs ys = true ↔ xs = ys)
    (motive_3 := fun kv => ∀ l y, (decide (kv.1 = l) && ODef.beq kv.2 y) = true ↔ kv = (l, y))
    (fun t i b => by cases b <;> simp [ODef.beq])
    (fun t i o m b => by cases b <;> simp [ODef.beq, and_assoc])
    (fun k i o as ih b => by cases b <;> simp [ODef.beq, ih, and_assoc])
    (fun s b => by cases b <;> simp [ODef.beq])
    (fun b => by cases b <;> simp [ODef.beq])
    (fun ys => by cases ys <;> simp [ODef.beqAttrs])
    (fun kv xs ihkv ihxs ys => by
      obtain ⟨k, x⟩ := kv
      cases ys with
      | nil => simp [ODef.beqAttrs]
      | cons ly ys =>
        obtain ⟨l, y⟩ := ly
        simp only [ODef.beqAttrs, Bool.and_eq_true, List.cons.injEq]
        rw [← ihxs ys, ← ihkv l y, Bool.and_eq_true])
    (fun k x ih l y => by simp [ih])

theorem ODef.beqAttrs_iff : ∀ (xs ys : List (Key × ODef)), ODef.beqAttrs xs ys = true ↔ xs = ys := fun xs ys => by
  simpa [ODef.beq] using ODef.beq_iff (.node .dict none none xs) (.node .dict none none ys)

instance : DecidableEq ODef := fun a b => decidable_of_iff _ (ODef.beq_iff a b)

mutual
  /-- write the `outer_index` table `tbl` (index ↦ outer index) into a graphdef.  `fun _ => none` is
  `with_no_outer_index` (and what `flatten` emits without a `ref_outer_index`), `fun i => some i` is
  `with_same_outer_index`. -/
  def stampWith (tbl : Nat → Option Nat) : GDef → ODef
    | .ref ty i => .ref ty i
    | .var ty i md => .var ty i (tbl i) md
    | .node kind idx attrs => .node kind idx (idx.bind tbl) (stampAttrs tbl attrs)
    | .static s => .static s
    | .array => .array
  def stampAttrs (tbl : Nat → Option Nat) : List (Key × GDef) → List (Key × ODef)
    | [] => []
    | (k, g) :: rest => (k, stampWith tbl g) :: stampAttrs tbl rest
end

mutual
  /-- forget the `outer_index` fields -/
  def ODef.erase : ODef → GDef
    | .ref ty i => .ref ty i
    | .var ty i _ md => .var ty i md
    | .node kind idx _ attrs => .node kind idx (ODef.eraseAttrs attrs)
    | .static s => .static s
    | .array => .array
  def ODef.eraseAttrs : List (Key × ODef) → List (Key × GDef)
    | [] => []
    | (k, g) :: rest => (k, ODef.erase g) :: ODef.eraseAttrs rest
end

/-- `inner_ref_outer_index`: the inverse of the inner merge's `index_ref` (object ↦ its index) -/
def irInv (ir : IndexRef) (b : Addr) : Option Nat :=
  (List.range ir.length).find? (fun i => decide (irLookup i ir = some b))

/-- what `ctx.flatten(with_paths=False)` puts in the leaf list for a Variable: its raw value -/
def rawLeaf : Leaf → Leaf
  | .vstate _ v _ => .arr v
  | l => l

def convLeaves (raw : Bool) (fs : FlatState) : List Leaf :=
  fs.map (fun it => if raw then rawLeaf it.2 else it.2)

/-! ### unflatten with `outer_index_outer_ref` (step 4 re-uses the caller's objects) -/

mutual
  /-- `_graph_unflatten(nodedef, leaves, index_ref, outer_index_outer_ref = omap)` -/
  def unflattenO (omap : Nat → Option Addr) :
      ODef → List Leaf → Heap → IndexRef → Except Err (PVal × List Leaf × Heap × IndexRef)
    | .ref _ i, ls, H, ir =>
      match irLookup i ir with
      | some a => .ok (.ref a, ls, H, ir)
      | Option.none => .error (.graph .keyError)
    | .var ty i outer md, ls, H, ir =>
      match ls with
      | [] => .error (.graph .notEnoughLeaves)
      | l :: ls' =>
        match outer.bind omap with
        | some a =>
          -- the Variable exists outside: update it in place
          match H[a]? with
          | some (.var ty0 _ md0) =>
            let o' : Obj := match l with
              | .vstate _ v m => .var ty0 v m        -- update_from_state
              | .arr d => .var ty0 d md0             -- raw_value = value
            .ok (.ref a, ls', write H a o', (i, a) :: ir)
          | _ => .error .expectedVariable
        | Option.none => .ok (.ref H.length, ls', H ++ [makeVar ty md l], (i, H.length) :: ir)
    | .static s, ls, H, ir => .ok (.static s, ls, H, ir)
    | .array, ls, H, ir =>
      match ls with
      | [] => .error (.graph .notEnoughLeaves)
      | .arr d :: ls' => .ok (.array d, ls', H, ir)
      | .vstate _ _ _ :: _ => .error (.graph .leafKind)
    | .node (.obj cls) idx outer attrs, ls, H, ir =>
      match idx with
      | Option.none => .error (.graph .unsupported)
      | some i =>
        if (irLookup i ir).isSome then .error (.graph .indexUsed)
        else
          match outer.bind omap with
          | some a =>
            -- the node exists outside: `clear`, register, build the children, `init`.  Re-use is decided by PRESENCE of
            -- the outer index in `outer_index_outer_ref` (`nodedef.outer_index in outer_index_outer_ref`), never by the
            -- object's value: a caller object that is falsy (empty `__len__` container, `__bool__` False, `nnx.Rngs()`)
            -- is re-used like any other -- the heap model has no truthiness notion on purpose.
            match H[a]? with
            | some (.node cls0 _) =>
              if cls0 = cls then
                match unflattenAttrsO omap attrs ls (write H a (Obj.node cls [])) ((i, a) :: ir) with
                | .error e => .error e
                | .ok (children, ls', H', ir') => .ok (.ref a, ls', write H' a (Obj.node cls children), ir')
              else .error .typeMismatch
            | _ => .error .typeMismatch
          | Option.none =>
            match unflattenAttrsO omap attrs ls (H ++ [Obj.node cls []]) ((i, H.length) :: ir) with
            | .error e => .error e
            | .ok (children, ls', H', ir') => .ok (.ref H.length, ls', write H' H.length (Obj.node cls children), ir')
    | .node (.seq t) _ _ attrs, ls, H, ir =>
      match unflattenAttrsO omap attrs ls H ir with
      | .error e => .error e
      | .ok (children, ls', H', ir') => .ok (.seq t (children.map (·.2)), ls', H', ir')
    | .node .dict _ _ attrs, ls, H, ir =>
      match unflattenAttrsO omap attrs ls H ir with
      | .error e => .error e
      | .ok (children, ls', H', ir') => .ok (.dict children, ls', H', ir')
    | .node .none _ _ attrs, ls, H, ir =>
      match unflattenAttrsO omap attrs ls H ir with
      | .error e => .error e
      | .ok (_, ls', H', ir') => .ok (.none, ls', H', ir')
  def unflattenAttrsO (omap : Nat → Option Addr) :
      List (Key × ODef) → List Leaf → Heap → IndexRef → Except Err (List (Key × PVal) × List Leaf × Heap × IndexRef)
    | [], ls, H, ir => .ok ([], ls, H, ir)
    | (k, g) :: rest, ls, H, ir =>
      match unflattenO omap g ls H ir with
      | .error e => .error e
      | .ok (v, ls1, H1, ir1) =>
        match unflattenAttrsO omap rest ls1 H1 ir1 with
        | .error e => .error e
        | .ok (vs, ls2, H2, ir2) => .ok ((k, v) :: vs, ls2, H2, ir2)
end

/-! ### `extract.to_tree` / `from_tree`: a tuple of roots, ONE `ref_index` / `index_ref` -/

/-- `to_tree(args)`: every root is flattened with the same `ref_index` (that is what makes an object
reachable from two arguments one object inside) -/
def flattenRoots (h : Heap) : List PVal → RefIndex → Except Err (List GDef × List FlatState × RefIndex)
  | [], idx => .ok ([], [], idx)
  | v :: vs, idx =>
    match flattenVal (fuelFor h v) h [] v idx with
    | .error e => .error (.graph e)
    | .ok (gd, ls, idx1) =>
      match flattenRoots h vs idx1 with
      | .error e => .error e
      | .ok (gds, lss, idx2) => .ok (gd :: gds, ls :: lss, idx2)

/-- `from_tree(pure)`: every `NodeStates` is merged with the same `index_ref`; each must consume its leaves -/
def unflattenRootsO (omap : Nat → Option Addr) :
    List ODef → List (List Leaf) → Heap → IndexRef → Except Err (List PVal × Heap × IndexRef)
  | [], [], H, ir => .ok ([], H, ir)
  | gd :: gds, ls :: lss, H, ir =>
    match unflattenO omap gd ls H ir with
    | .error e => .error e
    | .ok (v, [], H1, ir1) =>
      match unflattenRootsO omap gds lss H1 ir1 with
      | .error e => .error e
      | .ok (vs, H2, ir2) => .ok (v :: vs, H2, ir2)
    | .ok (_, _ :: _, _, _) => .error (.graph .extraLeaves)
  | _, _, _, _ => .error .arity

/-! ### the mutation DSL -/

/-- XLA `int32` arithmetic -/
def wrap32 (x : Int) : Int := (x + 2147483648) % 4294967296 - 2147483648

/-- pure data expressions over registers that hold arrays -/
inductive DExpr where
  | const (c : Int)
  | reg (r : Nat)
  | add (a b : DExpr)
  | mul (a b : DExpr)
  | lt (a b : DExpr)          -- `(a < b).astype(int32)`
  deriving Repr, Inhabited

def DExpr.eval (env : List PVal) : DExpr → Except Err Int
  | .const c => .ok (wrap32 c)
  | .reg r =>
    match env[r]? with
    | some (.array d) => .ok d
    | some _ => .error .typeError
    | Option.none => .error .badReg
  | .add a b =>
    match a.eval env, b.eval env with
    | .ok x, .ok y => .ok (wrap32 (x + y))
    | .error e, _ => .error e
    | _, .error e => .error e
  | .mul a b =>
    match a.eval env, b.eval env with
    | .ok x, .ok y => .ok (wrap32 (x * y))
    | .error e, _ => .error e
    | _, .error e => .error e
  | .lt a b =>
    match a.eval env, b.eval env with
    | .ok x, .ok y => .ok (if x < y then 1 else 0)
    | .error e, _ => .error e
    | _, .error e => .error e

/-- one statement of a function body; results are appended to the register file -/
inductive Op where
  | getAttr (r : Nat) (k : Key)              -- push `getattr(regs[r], k)`
  | readVar (r : Nat)                        -- push `regs[r].value`
  | setVar (r : Nat) (e : DExpr)             -- `regs[r].value = e`
  | setAttr (r : Nat) (k : Key) (src : Nat)  -- `setattr(regs[r], k, regs[src])`: add / re-bind / alias
  | delAttr (r : Nat) (k : Key)              -- `delattr(regs[r], k)`
  | newNode (cls : String)                   -- push `Cls()`
  | newVar (ty : VType) (e : DExpr) (md : Meta)  -- push `VarType(e, **md)`
  | litStatic (s : Static)                   -- push a hashable Python constant
  | litNone                                  -- push `None`
  | data (e : DExpr)                         -- push the array `e`
  deriving Repr, Inhabited

/-- `setattr` on `vars(obj)`: an existing key keeps its slot, a new key is appended -/
def putKV (k : Key) (v : PVal) (l : List (Key × PVal)) : List (Key × PVal) :=
  if (lookupKV k l).isSome then setKV k v l else l ++ [(k, v)]

def runOp (h : Heap) (env : List PVal) : Op → Except Err (Heap × List PVal)
  | .getAttr r k =>
    match env[r]? with
    | Option.none => .error .badReg
    | some (.ref a) =>
      match h[a]? with
      | some (.node _ attrs) =>
        match lookupKV k attrs with
        | some v => .ok (h, env ++ [v])
        | Option.none => .error .attrError
      | _ => .error .typeError
    | some _ => .error .typeError
  | .readVar r =>
    match env[r]? with
    | Option.none => .error .badReg
    | some (.ref a) =>
      match h[a]? with
      | some (.var _ v _) => .ok (h, env ++ [.array v])
      | _ => .error .typeError
    | some _ => .error .typeError
  | .setVar r e =>
    match env[r]? with
    | Option.none => .error .badReg
    | some (.ref a) =>
      match h[a]? with
      | some (.var ty _ md) =>
        match e.eval env with
        | .ok d => .ok (write h a (.var ty d md), env)
        | .error er => .error er
      | _ => .error .typeError
    | some _ => .error .typeError
  | .setAttr r k src =>
    match env[r]?, env[src]? with
    | some (.ref a), some v =>
      match h[a]? with
      | some (.node cls attrs) => .ok (write h a (.node cls (putKV k v attrs)), env)
      | _ => .error .typeError
    | some _, some _ => .error .typeError
    | _, _ => .error .badReg
  | .delAttr r k =>
    match env[r]? with
    | Option.none => .error .badReg
    | some (.ref a) =>
      match h[a]? with
      | some (.node cls attrs) =>
        if (lookupKV k attrs).isSome then .ok (write h a (.node cls (eraseKV k attrs)), env)
        else .error .attrError
      | _ => .error .typeError
    | some _ => .error .typeError
  | .newNode cls => .ok (h ++ [Obj.node cls []], env ++ [.ref h.length])
  | .newVar ty e md =>
    match e.eval env with
    | .ok d => .ok (h ++ [Obj.var ty d md], env ++ [.ref h.length])
    | .error er => .error er
  | .litStatic s => .ok (h, env ++ [.static s])
  | .litNone => .ok (h, env ++ [.none])
  | .data e =>
    match e.eval env with
    | .ok d => .ok (h, env ++ [.array d])
    | .error er => .error er

def runOps : List Op → Heap → List PVal → Except Err (Heap × List PVal)
  | [], h, env => .ok (h, env)
  | op :: rest, h, env =>
    match runOp h env op with
    | .error e => .error e
    | .ok (h1, env1) => runOps rest h1 env1

/-- a function: its body and the registers it returns (a tuple) -/
structure Fn where
  body : List Op
  ret : List Nat
  deriving Repr, Inhabited

def getRegs (env : List PVal) : List Nat → Except Err (List PVal)
  | [] => .ok []
  | r :: rs =>
    match env[r]?, getRegs env rs with
    | some v, .ok vs => .ok (v :: vs)
    | Option.none, _ => .error .badReg
    | _, .error e => .error e

/-- call `f(*args)` as plain Python: the arguments are the first registers -/
def runFn (f : Fn) (h : Heap) (args : List PVal) : Except Err (List PVal × Heap) :=
  match runOps f.body h args with
  | .error e => .error e
  | .ok (h1, env1) =>
    match getRegs env1 f.ret with
    | .error e => .error e
    | .ok rets => .ok (rets, h1)

/-! ### the four-step protocol -/

/-- `extract.clear_non_graph_nodes` on one (flat) argument: arrays are not returned -/
def clearArg : PVal → PVal
  | .ref a => .ref a
  | _ => .none

/-- steps (2) inner merge, the body, (3) inner split: a function of pure values only.
`pre` are extra leading arguments that are not graph nodes (the loop counter of `fori_loop`);
`keepArgs` says whether the (cleared) arguments are returned in front of the result (jit, remat, cond, switch)
or only the result (loop bodies). -/
def pureRun (raw : Bool) (keepArgs : Bool) (f : Fn) (pre : List PVal) (gds : List GDef) (lss : List (List Leaf)) :
    Except Err (List ODef × List (List Leaf)) :=
  match unflattenRootsO (fun _ => Option.none) (gds.map (stampWith (fun _ => Option.none))) lss [] [] with
  | .error e => .error e
  | .ok (args', G, ir) =>
    match runFn f G (pre ++ args') with
    | .error e => .error e
    | .ok (rets, G') =>
      let roots := (if keepArgs then args'.map clearArg else []) ++ rets
      match flattenRoots G' roots [] with
      | .error e => .error e
      | .ok (gds3, fss3, idx3) =>
        .ok (gds3.map (stampWith (fun i => (idx3[i]?).bind (irInv ir))), fss3.map (convLeaves raw))

/-- step (1): the outer split -/
def step1 (raw : Bool) (h : Heap) (args : List PVal) : Except Err (List GDef × List (List Leaf) × RefIndex) :=
  match flattenRoots h args [] with
  | .error e => .error e
  | .ok (gds, fss, idx1) => .ok (gds, fss.map (convLeaves raw), idx1)

/-- step (4): the outer merge re-uses `outer_index_outer_ref[outer_index]` (the object registered under that
index by step (1)) and creates everything else -/
def step4 (h : Heap) (idx1 : RefIndex) (gdsO : List ODef) (lssO : List (List Leaf)) : Except Err (List PVal × Heap) :=
  match unflattenRootsO (fun i => idx1[i]?) gdsO lssO h [] with
  | .error e => .error e
  | .ok (roots, h4, _) => .ok (roots, h4)

/-- the whole call; returns ALL output roots (cleared arguments, then the results) and the caller's heap -/
def protoCall (raw : Bool) (f : Fn) (h : Heap) (args : List PVal) : Except Err (List PVal × Heap) :=
  match step1 raw h args with
  | .error e => .error e
  | .ok (gds, lss, idx1) =>
    match pureRun raw true f [] gds lss with
    | .error e => .error e
    | .ok (gdsO, lssO) => step4 h idx1 gdsO lssO

/-- `nnx.jit(f)(*args)` (first call, or a cache miss): the results and the caller's heap -/
def jitCall (f : Fn) (h : Heap) (args : List PVal) : Except Err (List PVal × Heap) :=
  match protoCall true f h args with
  | .error e => .error e
  | .ok (roots, h4) => .ok (roots.drop args.length, h4)

/-- `nnx.remat(f)(*args)`: `split_inputs(jax.checkpoint(merge_inputs(f)))`, A-REMAT: checkpoint is the identity -/
def rematCall (f : Fn) (h : Heap) (args : List PVal) : Except Err (List PVal × Heap) :=
  match protoCall false f h args with
  | .error e => .error e
  | .ok (roots, h4) => .ok (roots.drop args.length, h4)

/-! ### cond / switch -/

/-- trace every branch on the same pure input -/
def traceBranches (gds : List GDef) (lss : List (List Leaf)) :
    List Fn → Except Err (List (List ODef × List (List Leaf)))
  | [] => .ok []
  | f :: fs =>
    match pureRun false true f [] gds lss with
    | .error e => .error e
    | .ok o =>
      match traceBranches gds lss fs with
      | .error e => .error e
      | .ok os => .ok (o :: os)

/-- `nnx.switch(index, branches, *operands)`: all branches are traced (in order), their output structures
must coincide (A-COND), the clamped index selects the leaves -/
def switchCall (fs : List Fn) (index : Int) (h : Heap) (args : List PVal) : Except Err (List PVal × Heap) :=
  match step1 false h args with
  | .error e => .error e
  | .ok (gds, lss, idx1) =>
    match traceBranches gds lss fs with
    | .error e => .error e
    | .ok outs =>
      match outs with
      | [] => .error .badReg
      | (gdsO, _) :: _ =>
        if outs.all (fun o => decide (o.1 = gdsO)) then
          let k : Nat := if index < 0 then 0 else min index.toNat (outs.length - 1)
          match outs[k]? with
          | Option.none => .error .badReg
          | some (_, lssO) =>
            match step4 h idx1 gdsO lssO with
            | .error e => .error e
            | .ok (roots, h4) => .ok (roots.drop args.length, h4)
        else .error .structureMismatch

/-- `nnx.cond(pred, true_fun, false_fun, *operands)`; `lax.cond` traces `true_fun` first -/
def condCall (t f : Fn) (pred : Bool) (h : Heap) (args : List PVal) : Except Err (List PVal × Heap) :=
  switchCall [t, f] (if pred then 0 else 1) h args

/-! ### fori_loop / while_loop -/

/-- one application of the (traced) body to the carried pure value.  `sameGds` is the input structure with the
fake index mapping (`with_same_outer_index`); the body's output structure must be equal to it. -/
def bodyPure (f : Fn) (pre : List PVal) (gds : List GDef) (lss : List (List Leaf)) : Except Err (List (List Leaf)) :=
  match pureRun false false f pre gds lss with
  | .error e => .error e
  | .ok (gdsO, lssO) =>
    if gdsO = gds.map (stampWith (fun i => some i)) then .ok lssO else .error .structureMismatch

def foriIter (f : Fn) (gds : List GDef) : Nat → Int → List (List Leaf) → Except Err (List (List Leaf))
  | 0, _, lss => .ok lss
  | n + 1, i, lss =>
    match bodyPure f [.array (wrap32 i)] gds lss with
    | .error e => .error e
    | .ok lss1 => foriIter f gds n (i + 1) lss1

/-- `nnx.fori_loop(lower, lower + n, body, init_val)`: the body is traced once (also for `n = 0`), then iterated -/
def foriCall (f : Fn) (lower : Int) (n : Nat) (h : Heap) (vals : List PVal) : Except Err (List PVal × Heap) :=
  match step1 false h vals with
  | .error e => .error e
  | .ok (gds, lss, idx1) =>
    match bodyPure f [.array (wrap32 lower)] gds lss with
    | .error e => .error e
    | .ok _ =>
      match foriIter f gds n lower lss with
      | .error e => .error e
      | .ok lssN => step4 h idx1 (gds.map (stampWith (fun i => some i))) lssN

/-- `WhileLoopCondFn`: `from_tree` without a context (fresh objects), the predicate only reads -/
def condPure (c : Fn) (gds : List GDef) (lss : List (List Leaf)) : Except Err Bool :=
  match unflattenRootsO (fun _ => Option.none) (gds.map (stampWith (fun _ => Option.none))) lss [] [] with
  | .error e => .error e
  | .ok (args', G, _) =>
    match runFn c G args' with
    | .error e => .error e
    | .ok ([.array d], _) => .ok (decide (d ≠ 0))
    | .ok _ => .error .typeError

def whileIter (c f : Fn) (gds : List GDef) : Nat → List (List Leaf) → Except Err (List (List Leaf))
  | 0, _ => .error .fuel
  | fuel + 1, lss =>
    match condPure c gds lss with
    | .error e => .error e
    | .ok false => .ok lss
    | .ok true =>
      match bodyPure f [] gds lss with
      | .error e => .error e
      | .ok lss1 => whileIter c f gds fuel lss1

/-- `nnx.while_loop(cond_fun, body_fun, init_val)` (both functions are traced once, then iterated) -/
def whileCall (c f : Fn) (fuel : Nat) (h : Heap) (vals : List PVal) : Except Err (List PVal × Heap) :=
  match step1 false h vals with
  | .error e => .error e
  | .ok (gds, lss, idx1) =>
    match condPure c gds lss, bodyPure f [] gds lss with
    | .error e, _ => .error e
    | _, .error e => .error e
    | .ok _, .ok _ =>
      match whileIter c f gds fuel lss with
      | .error e => .error e
      | .ok lssN => step4 h idx1 (gds.map (stampWith (fun i => some i))) lssN

/-! ### the eager references for loops -/

/-- the unrolled Python loop `for i in range(lower, lower+n): val = body(i, val)` -/
def foriEager (f : Fn) : Nat → Int → Heap → List PVal → Except Err (List PVal × Heap)
  | 0, _, h, vals => .ok (vals, h)
  | n + 1, i, h, vals =>
    match runFn f h (PVal.array (wrap32 i) :: vals) with
    | .error e => .error e
    | .ok (vals1, h1) => foriEager f n (i + 1) h1 vals1

/-- `while cond(val): val = body(val)` -/
def whileEager (c f : Fn) : Nat → Heap → List PVal → Except Err (List PVal × Heap)
  | 0, _, _ => .error .fuel
  | fuel + 1, h, vals =>
    match runFn c h vals with
    | .error e => .error e
    | .ok ([.array d], h0) =>
      if d ≠ 0 then
        match runFn f h0 vals with
        | .error e => .error e
        | .ok (vals1, h1) => whileEager c f fuel h1 vals1
      else .ok (vals, h0)
    | .ok _ => .error .typeError

/-! ### the trace cache of `nnx.jit` -/

/-- what `jax.jit` keeps for one cache entry: the output structure found while tracing.  (The computation
itself is the body replayed on the new leaves: programs have no data-dependent control flow.) -/
structure Traced where
  key : List ODef                -- static part of the arguments: the input graphdefs (no outer_index)
  outDefs : List ODef            -- output graphdefs (with the outer_index stamps of the traced call)
  deriving Repr, Inhabited

structure JitCache where
  entries : List Traced
  traces : Nat                   -- how many times the Python body has run (a side-effect counter)
  deriving Repr, Inhabited

/-- one call of the SAME `nnx.jit`-wrapped function.  Miss: trace (`protoCall`), remember the output
structure.  Hit: the cached output structure is used with the leaves computed for this call. -/
def jitCached (f : Fn) (c : JitCache) (h : Heap) (args : List PVal) : Except Err (List PVal × Heap) × JitCache :=
  match step1 true h args with
  | .error e => (.error e, c)
  | .ok (gds, lss, idx1) =>
    match c.entries.find? (fun t => decide (t.key = gds.map (stampWith (fun _ => Option.none)))) with
    | some t =>
      match pureRun true true f [] gds lss with
      | .error e => (.error e, c)
      | .ok (_, lssO) =>
        match step4 h idx1 t.outDefs lssO with
        | .error e => (.error e, c)
        | .ok (roots, h4) => (.ok (roots.drop args.length, h4), c)
    | Option.none =>
      let c1 : JitCache := { c with traces := c.traces + 1 }
      match pureRun true true f [] gds lss with
      | .error e => (.error e, c1)          -- a failed trace is not cached
      | .ok (gdsO, lssO) =>
        let c2 : JitCache := { entries := c1.entries ++ [{ key := gds.map (stampWith (fun _ => Option.none)), outDefs := gdsO }], traces := c1.traces }
        match step4 h idx1 gdsO lssO with
        | .error e => (.error e, c2)
        | .ok (roots, h4) => (.ok (roots.drop args.length, h4), c2)

/-! ### cached_partial -/

/-- `nnx.cached_partial(jit(f), *cached_args)`: the graph nodes of the cached arguments are cloned once (the
clones hold the SAME Variable objects); every call runs `jit(f)` on the clones and demands that the final
graphdef of each cached node equals `final_graphdef = graphdef.with_same_outer_index()`.  The first `ncached`
arguments are the cached ones, the remaining ones are passed at every call.  The model keeps the observable part: the call is `jitCall` on the caller's heap where the only writes that reach the caller are
Variable updates; a structural change is `cacheMutated`. -/
def cachedPartialCall (f : Fn) (ncached : Nat) (h : Heap) (args : List PVal) : Except Err (List PVal × Heap) :=
  match step1 true h args with
  | .error e => .error e
  | .ok (gds, lss, idx1) =>
    match pureRun true true f [] gds lss with
    | .error e => .error e
    | .ok (gdsO, lssO) =>
      if gdsO.take ncached = (gds.take ncached).map (stampWith (fun i => some i)) then
        match step4 h idx1 gdsO lssO with
        | .error e => .error e
        | .ok (roots, h4) => .ok (roots.drop args.length, h4)
      else .error .cacheMutated

end Flax.Nnx
