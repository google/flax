/-
C06 — Lifted scan and vmap equal the explicit loop and the per-example stack.

Model: Flax/Model/LiftLoop.lean (axes_scan.scan, lift.scan, lift.vmap, lift.remat_scan transcribed).
Specification side: Flax/Proofs/LiftLoopSpec.lean (`loopSpec`, `loopCore`, `loopStep`: the explicit Python loop
over `jnp.take` slices, roles by first matching filter, `Key.split k n i` per index) and, for vmap,
Flax/Proofs/LiftLoopVmap.lean (`mapSpec`, `mapCall`: one call per index).

Named assumptions (DESIGN.md §5): A-SCAN (`laxScan`), A-VMAP (`jaxVmap`), A-RNG (`Key` is a free term
algebra), A-CONV (`Arr.take/stack/transpose`), A-REMAT (lift.remat = identity).  The constancy check of the
broadcast pass and jax.vmap's unbatchedness check enter by their verdict only.
-/
import Flax.Model.LiftLoop
import Flax.Proofs.LiftLoopAxes
import Flax.Proofs.LiftLoopArr
import Flax.Proofs.LiftLoopLeaf
import Flax.Proofs.LiftLoopSpec
import Flax.Proofs.LiftLoopScanMain
import Flax.Proofs.LiftLoopVmap
import Flax.Proofs.LiftLoopErrors
import Flax.Proofs.LiftLoopDict
import Flax.Proofs.LiftLoopRematFlat

namespace Flax.C06
open Flax.Filter Flax.LiftLoop

/-! `transpose_to_front` / `transpose_from_front` (axes_scan.py:93-121) -/

/-- **For every rank and every axis in `[-rank, rank)`** (Python negative-axis normalisation):
`transpose_to_front` puts the chosen axis first and keeps the others in order, and the two transposes are
mutually inverse — stated on an arbitrary list of per-axis data (shape, axis names, index tuples …). -/
theorem transpose_front_inverse {β : Type} (xs : List β) (ax : Int)
    (hlo : -(xs.length : Int) ≤ ax) (hhi : ax < xs.length) :
    ∃ (n : Nat) (h : n < xs.length), normAxis xs.length ax = some n ∧
      ((n : Int) = if ax < 0 then ax + xs.length else ax) ∧
      axesToFront ax xs = .ok (xs[n] :: xs.eraseIdx n) ∧
      (axesToFront ax xs >>= axesFromFront ax) = .ok xs ∧
      (axesFromFront ax xs >>= axesToFront ax) = .ok xs := by
  obtain ⟨n, hn⟩ := normAxis_isSome hlo hhi
  obtain ⟨hlt, hto⟩ := axesToFront_eq xs ax n hn
  exact ⟨n, hlt, hn, normAxis_val hn, hto, axes_front_inverse xs ax hlo hhi⟩

example : axesToFront (-2) ["b", "h", "w", "c"] = .ok ["w", "b", "h", "c"] ∧
    axesFromFront (-2) ["w", "b", "h", "c"] = .ok ["b", "h", "w", "c"] := ⟨rfl, rfl⟩

/-- outside `[-rank, rank)` the first transpose raises (np.delete's IndexError) -/
theorem transpose_to_front_out_of_range {β : Type} (xs : List β) (ax : Int) (h0 : ax ≠ 0)
    (h : ax < -(xs.length : Int) ∨ (xs.length : Int) ≤ ax) :
    axesToFront ax xs = .error .axisOutOfBounds :=
  axesToFront_of_none xs h0 (normAxis_eq_none_iff.2 h)

/-- on arrays: **slice `i` along the leading axis of the transposed array is slice `i` of the original
along the declared axis** — what iteration `i` of `lax.scan` is given -/
theorem transpose_front_slice {α : Type} [Inhabited α] (A F : Arr α) (ax : Int)
    (hF : A.toFront ax = .ok F) (i : Nat) : F.take 0 i = takeAt ax i A :=
  take_front_eq A F ax hF i

/-- on arrays: **stacking the per-iteration results along axis 0 and transposing from the front is stacking
along the declared (possibly negative) out axis** -/
theorem transpose_front_stack {α : Type} [Inhabited α] (sh : List Nat) (ls : List (Arr α)) (ax : Int) (n : Nat)
    (hn : normAxis (sh.length + 1) ax = some n) :
    stackFront ax sh ls = Arr.stack sh n ls ∨ ∃ e, Arr.stack sh 0 ls = .error e :=
  Or.inl (stackFront_eq_stack sh ls ax n hn)

/-- slice `i` of a stack along the declared axis is the `i`-th stacked value: an axis collection
holds one slice per iteration along its axis -/
theorem stack_slice {α : Type} [Inhabited α] [DecidableEq α] (sh : List Nat) (ls : List (Arr α)) (ax : Int)
    (S : Arr α) (hS : stackAt ax sh ls = .ok S) (hwf : ∀ y ∈ ls, Arr.WF y = true) (i : Nat) (hi : i < ls.length) :
    takeAt ax i S = .ok ls[i] :=
  takeAt_stackAt hS hwf i hi


/-- For every loop body (any function of the inner scope), every assignment of collections
to broadcast / carry / axis roles through arbitrary filters (first match wins), every axis, `In`/`Out`
restriction, length, direction, unroll factor, in/out axes tree, split flags, scope mutability and verdict of
the constancy check: `lift.scan` succeeds exactly when the explicit loop `loopSpec` does, with the same final
scope variables, final carry and stacked outputs.  (`loopSpec`: slice `i` of every axis collection along its
declared axis ↔ iteration `i`; broadcast collections initialised once and passed unchanged to every
iteration; carried collections and carry threaded in processing order; outputs stacked by index along the
declared out axes; split streams get `Key.split k n i`.)  Both values of `check_constancy_invariants` are
covered: `cfg.checkConst = false` selects `simple_scan_fn` in the model and `loopCoreSimple` in the loop — the
same iterations in the same direction, but the broadcast collections are inputs only (no one-time
initialisation, no constancy verdict) and `broadcast` out axes are refused. -/
theorem scan_eq_loop {α : Type} [Inhabited α] (cfg : ScanCfg) (verdict : Bool) (body : Body α)
    (scopeMut : LFilter) (outer : Vars α) (rngs : Rngs) (init : List (Arr α)) (args : List (Arr α)) :
    opt (liftScan cfg verdict body scopeMut outer rngs init args) =
      loopSpec cfg verdict body scopeMut outer rngs init args :=
  liftScan_opt cfg verdict body scopeMut outer rngs init args

/-! a concrete loop (reverse direction, a carried counter collection `K`, a per-iteration weight collection `P`
scanned along axis `-1`, one scanned argument), evaluated on both sides: the explicit loop (`loopCore`) and the
model's `axesScan` on the same groups return the same non-trivial result -/

def exScalar (v : Int) : Arr Int := Arr.ofFn [] (fun _ => v)
def exVec (l : List Int) : Arr Int := Arr.ofFn [l.length] (fun i => l.getD (i.getD 0 0) 0)

/-- `c ← c + w·x`, `n ← n + 1`, output the old carry -/
def exBody : Body Int := fun _ vars _ c xs =>
  match c, xs, (dget vars "K").bind (dget · "n"), (dget vars "P").bind (dget · "w") with
  | [c0], [x], some n, some w =>
    .ok (putVar vars "K" "n" (exScalar (n.getD [] + 1)),
         [exScalar (c0.getD [] + w.getD [] * x.getD [])], [exScalar (c0.getD [])])
  | _, _, _, _ => .error (.body "KeyError")

def exCfg : ScanCfg :=
  { bcast := .ff, carry := .name "K", axes := [⟨.name "P", -1, true, true⟩], splitRngs := [],
    inAxes := .uniform (some 0), outAxes := .uniform (some 0), length := none, reverse := true, unroll := 2,
    checkConst := true }

def exOuter : Vars Int := [("P", [("w", exVec [1, 10, 100])]), ("K", [("n", exScalar 0)])]

example :
    let r := loopCore exCfg true (.names ["K", "P"]) exBody exOuter [] [exScalar 0] [exVec [1, 2, 3]] [some 0] 3
    r.map (·.2.1.1) = some [("K", [("n", exScalar 3)])] ∧ r.map (·.2.1.2) = some [exScalar 321] ∧
      r.map (·.2.2.1) = some [exVec [320, 300, 0]] := by decide +kernel

example :
    let r := opt (axesScan true exCfg.length exCfg.reverse true false (exCfg.inAx.map (·.axis)) [some 0] exCfg.outAxes
      (exCfg.outAx.map (·.axis)) (scanned (.names ["K", "P"]) exCfg.outFs exBody)
      (roleGroup exOuter exCfg.inFs 0) (roleGroup exOuter exCfg.inFs 1, [exScalar 0])
      (axisGroups exOuter exCfg.inFs exCfg.inAx.length) [] [exVec [1, 2, 3]])
    r.map (·.2.1.1) = some [("K", [("n", exScalar 3)])] ∧ r.map (·.2.1.2) = some [exScalar 321] ∧
      r.map (·.2.2.1) = some [exVec [320, 300, 0]] := by decide +kernel

/-- non-vacuity for `check_constancy_invariants=False` (reverse direction, same loop as above) -/
example :
    let r := loopCoreSimple { exCfg with checkConst := false } (.names ["K", "P"]) exBody exOuter []
      [exScalar 0] [exVec [1, 2, 3]] [some 0] 3
    r.map (·.2.1.2) = some [exScalar 321] ∧ r.map (·.2.2.1) = some [exVec [320, 300, 0]] := by decide +kernel

/-- when the constancy check of the broadcast pass rejects the body (a broadcast collection or a
`broadcast` output depends on the carry or on scanned data), `lift.scan` never returns a value -/
theorem scan_rejects_broadcast_dependency {α : Type} [Inhabited α] (cfg : ScanCfg)
    (hcc : cfg.checkConst = true) (body : Body α) (scopeMut : LFilter) (outer : Vars α) (rngs : Rngs) (init : List (Arr α)) (args : List (Arr α)) :
    opt (liftScan cfg false body scopeMut outer rngs init args) = none := by
  rw [liftScan, liftScanCore_rejected cfg hcc]
  exact opt_bind_eq_none _ fun _ => rfl

/-- `unroll` never matters (A-SCAN: it is not even an input of `lax.scan`'s meaning) -/
theorem scan_unroll_irrelevant {α : Type} [Inhabited α] (cfg : ScanCfg) (u : Nat) (verdict : Bool)
    (body : Body α) (scopeMut : LFilter) (outer : Vars α) (rngs : Rngs) (init args : List (Arr α)) :
    liftScan { cfg with unroll := u } verdict body scopeMut outer rngs init args =
      liftScan cfg verdict body scopeMut outer rngs init args := rfl

/-- the iterations of the explicit loop, made explicit: the states form a chain — **iteration `p + 1` starts
from the carried collections and carry that iteration `p` produced**, every iteration keeps the carry
structure, and the output recorded for position `p` is tagged with the index processed there -/
theorem loop_carry_threaded {σ ω : Type} (step : σ → Nat → Option (σ × ω)) (same : σ → σ → Bool) :
    ∀ (order : List Nat) (s sf : σ) (recs : List (Nat × ω)), loopRun step same s order = some (sf, recs) →
    ∃ states : List σ, states.length = order.length + 1 ∧ states[0]? = some s ∧
      states[order.length]? = some sf ∧ recs.length = order.length ∧
      ∀ p (hp : p < order.length), ∃ s1 s2 y, states[p]? = some s1 ∧ states[p + 1]? = some s2 ∧
        step s1 order[p] = some (s2, y) ∧ same s1 s2 = true ∧ recs[p]? = some (order[p], y) :=
  fun order s sf recs h => runG_threaded step same order s sf recs (loopRun_eq_runG step same order s ▸ h)

/-- **either direction**: whatever the processing order, output `i` of the loop is the output of the iteration
that processed index `i` (for `reverse=True` the collected outputs are re-reversed) -/
theorem loop_outputs_by_index {ω : Type} (n : Nat) (recs : List (Nat × ω)) (outs : List ω)
    (h : byIndex n recs = some outs) :
    outs.length = n ∧ ∀ i (_ : i < n) (h2 : i < outs.length), recs.lookup i = some outs[i] := by
  have := mapO_eq_some h
  refine ⟨by simpa using this.1, ?_⟩
  intro i hi h2
  have := this.2 i (by simpa using hi) h2
  simpa using this

example : byIndex 3 [(2, "c"), (1, "b"), (0, "a")] = some ["a", "b", "c"] := by decide +kernel

/-! length inference (lift.py:969-986, 803-822) -/

/-- `d_length` is the explicit `length` if given, else the single size found on
the scanned arguments; two different sizes are an error whatever `length` says; no size and no `length` is an
error — exactly the four-way case split of the code, for every list of observed sizes. -/
theorem scan_length_inference (explicit : Option Nat) (sizes : List Nat) :
    (decideLength explicit sizes = .error .inconsistentLengths ↔ ∃ a ∈ sizes, ∃ b ∈ sizes, a ≠ b) ∧
    (decideLength explicit sizes = .error .lengthUnspecified ↔ explicit = none ∧ sizes = []) ∧
    (∀ n, decideLength explicit sizes = .ok n ↔
      (¬ (∃ a ∈ sizes, ∃ b ∈ sizes, a ≠ b)) ∧
      ((explicit = some n) ∨ (explicit = none ∧ n ∈ sizes))) := by
  refine ⟨decideLength_eq_error.trans ⟨fun h => ?_, fun h => Or.inl ⟨rfl, h⟩⟩,
    decideLength_eq_error.trans ⟨fun h => ?_, fun h => Or.inr ⟨rfl, h⟩⟩, fun n => decideLength_eq_ok⟩
  · rcases h with ⟨_, h⟩ | ⟨h, _⟩
    · exact h
    · cases h
  · rcases h with ⟨h, _⟩ | ⟨_, h⟩
    · cases h
    · exact h

example : decideLength none [3, 3, 3] = .ok 3 ∧ decideLength (some 5) [] = .ok 5 ∧
    decideLength (some 3) [3, 4] = .error .inconsistentLengths ∧
    decideLength none ([] : List Nat) = .error .lengthUnspecified := ⟨rfl, rfl, rfl, rfl⟩

/-- what lax.scan makes of it: with an explicit `length` every scanned leaf must have that size, otherwise
all must agree — and when both flax and lax.scan are content, the loop runs `d_length` iterations -/
theorem scan_iterations_eq_d_length {α : Type} [Inhabited α] (cfg : ScanCfg) (outer : Vars α) (rngs : Rngs)
    (inArgAxes : List (Option Int)) (args : List (Arr α)) (sizes : List Nat) (dLength : Nat)
    (dims : List Nat) (n : Nat)
    (hsizes : argSizes cfg.inAxes args = .ok sizes) (hdl : decideLength cfg.length sizes = .ok dLength)
    (hexp : cfg.inAxes.expand args.length = .ok inArgAxes)
    (hd : loopDims cfg outer rngs inArgAxes args dLength = some dims)
    (hj : jaxLength cfg.length dims = .ok n) : n = dLength ∧ ∀ d ∈ dims, d = n :=
  ⟨n_eq_dLength cfg outer rngs inArgAxes args sizes dLength dims n hsizes hdl hexp hd hj, jaxLength_all hj⟩


/-- Under A-RNG: take a stream `s` with key `k` whose first matching
`split_rngs` entry is number `g` with flag `sp`.  Then group `g` of the rngs handed to index `i` holds `s`
with `random.split(k, n)[i]` if `sp`, and with `k` itself otherwise; so a split stream gives pairwise
different keys to different indices and an unsplit stream the same key to all.  The second part ties this
to the implementation side: slicing row `i` out of the key arrays flax builds gives exactly these groups. -/
theorem rng_split_distinct_unsplit_equal (sr : List (LFilter × Bool)) (rngs : Rngs) (n : Nat)
    (g : Nat) (f : LFilter) (sp : Bool) (hg : sr[g]? = some (f, sp)) (s : String) (k : Key)
    (hm : (s, k) ∈ roleGroup rngs (sr.map (·.1)) g) :
    (∀ i, ∃ G, (iterRngGroups sr rngs n i)[g]? = some G ∧ (s, if sp then Key.split k n i else k) ∈ G) ∧
    (sp = true → ∀ i j, i ≠ j → Key.split k n i ≠ Key.split k n j) ∧
    (sp = false → ∀ i j, (if sp then Key.split k n i else k) = (if sp then Key.split k n j else k)) ∧
    (∀ i, i < n → mapE (RngG.at i) (splitGroups (groupDict rngs (sr.map (·.1))) (sr.map (·.2)) n) =
      .ok (iterRngGroups sr rngs n i)) := by
  have hlt : g < sr.length := by
    cases h : sr[g]? with
    | none => rw [h] at hg; cases hg
    | some v => exact (List.getElem?_eq_some_iff.1 h).1
  refine ⟨?_, ?_, ?_, ?_⟩
  · intro i
    refine ⟨(roleGroup rngs (sr.map (·.1)) g).map (fun sk => (sk.1, if sp then Key.split sk.2 n i else sk.2)), ?_, ?_⟩
    · simp only [iterRngGroups]
      rw [List.getElem?_map]
      have : ((List.range sr.length).zip sr)[g]? = some (g, (f, sp)) :=
        List.getElem?_zip_eq_some.2 ⟨List.getElem?_range hlt, hg⟩
      rw [this]
      rfl
    · exact List.mem_map.2 ⟨(s, k), hm, rfl⟩
  · intro _ i j hij h
    injection h with _ _ h
    exact hij h
  · intro h i j; simp [h]
  · intro i hi
    exact rngAt_splitGroups sr rngs n i hi

example : iterRngGroups [(.name "dropout", true), (.tt, false)]
    [("params", .seed "params"), ("dropout", .seed "dropout")] 3 1
    = [[("dropout", .split (.seed "dropout") 3 1)], [("params", .seed "params")]] := by decide +kernel



/-- For every mapped function, every assignment of collections to an axis or to `None`
through arbitrary filters (first match wins, `In`/`Out` restrictions), every in/out axes tree, `axis_size`,
split flags, scope mutability and verdict of jax's unbatchedness check: `lift.vmap` succeeds exactly when
`mapSpec` does, with the same results.  (`mapSpec`: index `i` sees slice `i` of every axis collection and
mapped argument along its declared axis and every `None`-axis collection whole; results are stacked along
the declared out axes, `None`-axis results are the shared value; split streams get `Key.split k n i`.) -/
theorem vmap_eq_map {α : Type} [Inhabited α] (cfg : VmapCfg) (verdict : Bool) (body : Body α)
    (scopeMut : LFilter) (outer : Vars α) (rngs : Rngs) (args : List (Arr α)) :
    opt (liftVmap cfg verdict body scopeMut outer rngs args) =
      mapSpec cfg verdict body scopeMut outer rngs args :=
  liftVmap_opt cfg verdict body scopeMut outer rngs args

/-- non-vacuity: two calls on the two slices of a mapped collection `P` (axis 0) with a shared collection `K` -/
def exVmapCfg : VmapCfg :=
  { axes := [⟨.name "P", some 0, true, true⟩, ⟨.name "K", none, true, true⟩], splitRngs := [(.tt, true)],
    inAxes := .uniform (some (-1)), outAxes := .uniform (some 0), axisSize := none }

/-- `y = w·x + a`, shared counter `n ← n + 1` -/
def exMapBody : Body Int := fun _ vars _ _ xs =>
  match xs, (dget vars "K").bind (dget · "n"), (dget vars "P").bind (dget · "w") with
  | [a, x], some n, some w =>
    .ok (putVar vars "K" "n" (exScalar (n.getD [] + 1)), [], [exScalar (w.getD [] * x.getD [] + a.getD [])])
  | _, _, _ => .error (.body "KeyError")

def exVmapCall (i : Nat) : Option (List (Arr Int) × List (Vars Int)) :=
  mapCall exVmapCfg (.names ["K", "P"]) exMapBody [("P", [("w", exVec [10, 100])]), ("K", [("n", exScalar 7)])]
    [("s", .seed "s")] [none, some (-1)] [exScalar 1, exVec [2, 3]] 2 i

example : (exVmapCall 0).map (·.1) = some [exScalar 21] := by decide +kernel
example : (exVmapCall 1).map (·.1) = some [exScalar 301] := by decide +kernel
example : (exVmapCall 0).map (fun x => x.2.getD 0 []) = some [("P", [("w", exScalar 10)])] := by decide +kernel
example : (exVmapCall 1).map (fun x => x.2.getD 0 []) = some [("P", [("w", exScalar 100)])] := by decide +kernel
example : (exVmapCall 1).map (fun x => x.2.getD 1 []) = some [("K", [("n", exScalar 8)])] := by decide +kernel

/-- `None`-axis collections are shared: every index is handed the very same group, and a `None`-axis result
group is the (unbatched) value itself, not a stack -/
theorem vmap_none_axis_shared {α : Type} [Inhabited α] (g : Vars α) (o0 : List (Vars α))
    (outs : List (List (Arr α) × List (Vars α))) (k : Nat) :
    (∀ i, groupTakeAt i (none, g) = .ok g) ∧ vmapV o0 outs (k, none) = .ok (o0.getD k []) :=
  ⟨fun _ => rfl, rfl⟩

/-- an axis collection is sliced per index: index `i` gets `jnp.take(leaf, i, axis)` of every leaf -/
theorem vmap_axis_sliced {α : Type} [Inhabited α] (g : Vars α) (ax : Int) (i : Nat) :
    groupTakeAt i (some ax, g) = Vars.mapE (takeAt ax i) g := rfl

/-- when flax's `axis_size` inference and jax.vmap's own check both pass, the number of calls is the size flax
used for splitting the rngs -/
theorem vmap_calls_eq_axis_size {α : Type} [Inhabited α] (cfg : VmapCfg) (outer : Vars α) (rngs : Rngs)
    (inArgAxes : List (Option Int)) (args : List (Arr α)) (sizes : List Nat) (dSize : Nat)
    (dims : List Nat) (n : Nat)
    (hsizes : vmapSizes (cfg.inAx.map (·.axis)) (roleGroups outer (cfg.inAx.map (·.filter))) cfg.inAxes args
      = .ok sizes)
    (hdl : decideLength cfg.axisSize sizes = .ok dSize)
    (hexp : cfg.inAxes.expand args.length = .ok inArgAxes)
    (hd : mapDims cfg outer rngs inArgAxes args dSize = some dims)
    (hj : jaxLength cfg.axisSize dims = .ok n) : n = dSize :=
  vmap_n_eq_dSize cfg outer rngs inArgAxes args sizes dSize dims n hsizes hdl hexp hd hj


/-- the groups `_partial_pack` hands to the transform are exactly the first-match role groups, and the
groups `repack_fn` hands back are the mutable collections sorted the same way — nothing is lost to the
"unmapped output variables" error, because a collection is mutable inside only if some out filter matches -/
theorem roles_first_match {α : Type} (fs : List LFilter) (d : Vars α) (m : LFilter) (vars' : Vars α) :
    groupDict d fs = (List.range fs.length).map (roleGroup d fs) ∧
    repack (innerMutable m fs) fs vars' =
      .ok ((List.range fs.length).map (roleGroup (vars'.filter (fun kv => inFilter (innerMutable m fs) kv.1)) fs)) ∧
    (∀ c, inFilter (innerMutable m fs) c = (inFilter m c && fs.any (fun f => inFilter f c))) :=
  ⟨groupDict_eq fs d, repack_eq m fs vars', in_innerMutable m fs⟩

example : groupDict [("params", 1), ("cache", 2), ("stats", 3)] [.name "cache", .deny (.name "params"), .tt]
    = [[("cache", 2)], [("stats", 3)], [("params", 1)]] := by decide +kernel


/-- `publish_results_fn` is the sequence of writes
`publishWrites`: one `put_variable` per variable of every MUTABLE collection of every out group, in order.
Read-only collections contribute nothing and do not affect their siblings in the same group: every variable of
every mutable collection of every group is among the writes; the last write to a `(collection, variable)` is
what the scope holds afterwards; what no write touches is unchanged. -/
theorem publish_writes_every_mutable_collection {α : Type} (m : LFilter) (outer : Vars α)
    (groups : List (Vars α)) :
    publish m outer groups = (publishWrites m groups).foldl (fun o w => putVar o w.1 w.2.1 w.2.2) outer ∧
    (∀ g ∈ groups, ∀ cc ∈ g, inFilter m cc.1 = true → ∀ nv ∈ cc.2,
      (cc.1, nv.1, nv.2) ∈ publishWrites m groups) ∧
    (∀ pre w post, publishWrites m groups = pre ++ w :: post →
      (∀ w' ∈ post, ¬ (w'.1 = w.1 ∧ w'.2.1 = w.2.1)) →
      getVar (publish m outer groups) w.1 w.2.1 = some w.2.2) ∧
    (∀ c n, (∀ w ∈ publishWrites m groups, ¬ (w.1 = c ∧ w.2.1 = n)) →
      getVar (publish m outer groups) c n = getVar outer c n) := by
  refine ⟨publish_eq_writes m outer groups, ?_, ?_, ?_⟩
  · intro g hg cc hcc hm nv hnv
    simp only [publishWrites, List.mem_flatMap]
    exact ⟨g, hg, cc, hcc, by simp only [hm, if_true]; exact List.mem_map.2 ⟨nv, hnv, rfl⟩⟩
  · intro pre w post hw hpost
    rw [publish_eq_writes, hw, List.foldl_append, List.foldl_cons, foldl_put_preserve _ _ post _ hpost]
    exact getVar_putVar_self _ _ _ _
  · intro c n h
    rw [publish_eq_writes]
    exact foldl_put_preserve c n _ _ h

/-- the defective variant seeded as C06_f: skip a whole out group as soon as one of its collections is
read-only -/
def publishGroupSkip {α : Type} (scopeMut : LFilter) (outer : Vars α) (groups : List (Vars α)) : Vars α :=
  groups.foldl (fun o g =>
    if g.all (fun cc => inFilter scopeMut cc.1) then
      g.foldl (fun o cc => cc.2.foldl (fun o nv => putVar o cc.1 nv.1 nv.2) o) o
    else o) outer

/-- closed counter-example: group `{stats (mutable), params (read-only)}` — `publish_results_fn` writes the new
`stats` value back, the group-level skip loses it -/
theorem publish_group_skip_loses_updates :
    let outer : Vars Int := [("params", [("w", exScalar 1)]), ("stats", [("n", exScalar 0)])]
    let group : Vars Int := [("stats", [("n", exScalar 5)]), ("params", [("w", exScalar 1)])]
    getVar (publish (.name "stats") outer [group]) "stats" "n" = some (exScalar 5) ∧
    getVar (publishGroupSkip (.name "stats") outer [group]) "stats" "n" = some (exScalar 0) := by
  decide +kernel

/-! the broadcast output of one call of the lifted body (lift.py:1022-1027) -/

/-- The broadcast output handed back to `axes_scan` is the body's broadcast
output followed by exactly those broadcast INPUT collections it lacks (the immutable ones, which `repack_fn`
does not return) — nothing the body produced is ever overwritten: a collection present in the body's output keeps
the body's value (with all its variables, including lazily created ones), an absent one gets the input's. -/
theorem broadcast_readd_only_missing {α : Type} (bIn bOut : Vars α) (hnd : (bIn.map (·.1)).Nodup) :
    reinject bIn bOut = bOut ++ bIn.filter (fun cc => (dget bOut cc.1).isNone) ∧
    (∀ k v, dget bOut k = some v → dget (reinject bIn bOut) k = some v) ∧
    (∀ k, dget bOut k = none → dget (reinject bIn bOut) k = dget bIn k) := by
  have heq := reinject_eq bIn bOut hnd
  refine ⟨heq, ?_, ?_⟩
  · intro k v hk
    rw [heq]; unfold dget at hk ⊢
    rw [List.lookup_append, hk]; rfl
  · intro k hk
    rw [heq]; unfold dget at hk ⊢
    rw [List.lookup_append, hk, Option.none_or, Assoc.lookup_filter_key (fun c => (List.lookup c bOut).isNone), hk]
    rfl

/-- the defective variant seeded as C06_g: `out_group.update(in_group)` -/
def reinjectUpdate {α : Type} (bIn bOut : Vars α) : Vars α := dupdate bOut bIn

/-- closed counter-example: the mutable broadcast collection `consts` holds `scale` on entry and the body lazily
creates `shift` in it; re-adding only what is missing keeps both variables, `update()` throws `shift` away -/
theorem broadcast_update_loses_lazy_init :
    let bIn : Vars Int := [("consts", [("scale", exScalar 2)])]
    let bOut : Vars Int := [("consts", [("scale", exScalar 2), ("shift", exScalar 7)])]
    getVar (reinject bIn bOut) "consts" "shift" = some (exScalar 7) ∧
    getVar (reinjectUpdate bIn bOut) "consts" "shift" = none := by
  decide +kernel

/-! `scan_eq_loop` / `vmap_eq_map` compare success and result.  The theorems below add the error side for the
errors flax itself raises: 'Inconsistent scan lengths' / 'Inconsistent batch axis sizes'
(`inconsistentLengths`), 'length / axis_size should be specified manually' (`lengthUnspecified`),
'broadcasted variable has a data dependency on the scan body' (`broadcastDependency`), 'unmapped output
variables' (`unmappedOutput`).  A fifth, `broadcastOutUnsupported`, is raised only with
`check_constancy_invariants=False`, which the error theorems leave out (`hcc`).  Every other error of the model is
*foreign* (`Err.foreign`): JAX's (axis out of range, transposition, lax.scan / jax.vmap size mismatch or nothing to
scan, carry structure, unbatched output expected), a structure check of the model, or the body's own (`.body tag`:
e.g. ModifyScopeVariableError when the body writes a collection that the inner mutability filter of
`roles_first_match` excludes).  Which foreign class is raised stays tied by the correspondence run only. -/

/-- **every error of `lift.scan`, classified** (bodies raise only their own errors): flax's length errors come
from `decideLength` on the sizes read off the arguments, before anything else; the broadcast-dependency error
is raised exactly when the constancy check fails after a broadcast pass that itself went through; anything
else is foreign -/
theorem scan_error_classes {α : Type} [Inhabited α] (cfg : ScanCfg) (hcc : cfg.checkConst = true)
    (verdict : Bool) (body : Body α) (hb : BodyForeign body) (m : LFilter) (outer : Vars α) (rngs : Rngs) (init args : List (Arr α)) (e : Err)
    (h : liftScan cfg verdict body m outer rngs init args = .error e) :
    (∃ sizes, argSizes cfg.inAxes args = .ok sizes ∧ decideLength cfg.length sizes = .error e ∧
        (e = .inconsistentLengths ∨ e = .lengthUnspecified)) ∨
    (e = .broadcastDependency ∧ verdict = false ∧
        ∃ r, liftScanCore cfg verdict true body m outer rngs init args = .ok r) ∨
    e.foreign = true :=
  liftScan_err cfg hcc verdict body hb m outer rngs init args e h

private theorem length_errors_iff {β : Type} {X : Except Err β} {L : Option Nat} {sizes : List Nat}
    (hfwd : ∀ e, decideLength L sizes = .error e → X = .error e)
    (hbwd : ∀ e, (e = .inconsistentLengths ∨ e = .lengthUnspecified) → X = .error e →
      decideLength L sizes = .error e) :
    (X = .error .inconsistentLengths ↔ ∃ a ∈ sizes, ∃ b ∈ sizes, a ≠ b) ∧
    (X = .error .lengthUnspecified ↔ L = none ∧ sizes = []) :=
  have hinf := scan_length_inference L sizes
  ⟨⟨fun h => hinf.1.1 (hbwd _ (Or.inl rfl) h), fun h => hfwd _ (hinf.1.2 h)⟩,
   ⟨fun h => hinf.2.1.1 (hbwd _ (Or.inr rfl) h), fun h => hfwd _ (hinf.2.1.2 h)⟩⟩

/-- **'Inconsistent scan lengths' / 'length should be specified manually', exactly**: `lift.scan` raises the
first iff the scanned arguments show two different sizes, the second iff they show none and no `length` is
given (whatever the body, the collections and the rngs are) -/
theorem scan_length_errors_iff {α : Type} [Inhabited α] (cfg : ScanCfg) (hcc : cfg.checkConst = true)
    (verdict : Bool) (body : Body α) (hb : BodyForeign body) (m : LFilter) (outer : Vars α) (rngs : Rngs) (init args : List (Arr α))
    (sizes : List Nat) (hs : argSizes cfg.inAxes args = .ok sizes) :
    (liftScan cfg verdict body m outer rngs init args = .error .inconsistentLengths ↔
      ∃ a ∈ sizes, ∃ b ∈ sizes, a ≠ b) ∧
    (liftScan cfg verdict body m outer rngs init args = .error .lengthUnspecified ↔
      cfg.length = none ∧ sizes = []) := by
  refine length_errors_iff ?_ ?_
  · intro e he
    unfold liftScan liftScanCore
    rw [hs]
    show (decideLength cfg.length sizes >>= _) = _
    rw [he]; rfl
  · intro e he h
    rcases liftScan_err cfg hcc verdict body hb m outer rngs init args e h with ⟨s', hs', hd, _⟩ | ⟨hbd, _⟩ | hf
    · rw [hs] at hs'; injection hs' with hs'; subst hs'; exact hd
    · rcases he with he | he <;> (rw [he] at hbd; cases hbd)
    · rcases he with he | he <;> (rw [he] at hf; cases hf)

/-- **the broadcast-dependency error, exactly**: raised iff the constancy check rejects (`verdict = false`)
and everything up to and including the broadcast pass succeeds -/
theorem scan_broadcast_dependency_iff {α : Type} [Inhabited α] (cfg : ScanCfg) (hcc : cfg.checkConst = true)
    (verdict : Bool) (body : Body α) (hb : BodyForeign body) (m : LFilter) (outer : Vars α) (rngs : Rngs) (init args : List (Arr α)) :
    liftScan cfg verdict body m outer rngs init args = .error .broadcastDependency ↔
      (verdict = false ∧ ∃ r, liftScanCore cfg verdict true body m outer rngs init args = .ok r) := by
  constructor
  · intro h
    rcases liftScan_err cfg hcc verdict body hb m outer rngs init args _ h with ⟨_, _, _, he⟩ | ⟨_, hv, hr⟩ | hf
    · rcases he with he | he <;> cases he
    · exact ⟨hv, hr⟩
    · cases hf
  · rintro ⟨hv, r, hr⟩
    subst hv
    exact liftScan_reject cfg hcc body m outer rngs init args r hr

/-- **'unmapped output variables' cannot come out of `lift.scan` or `lift.vmap`**: a collection is mutable in
the inner scope only if some out filter matches it -/
theorem unmapped_output_never {α : Type} [Inhabited α] (body : Body α) (hb : BodyForeign body) (m : LFilter)
    (outer : Vars α) (rngs : Rngs) (init args : List (Arr α)) (verdict : Bool) :
    (∀ cfg : ScanCfg, cfg.checkConst = true →
      liftScan cfg verdict body m outer rngs init args ≠ .error .unmappedOutput) ∧
    (∀ cfg : VmapCfg, liftVmap cfg verdict body m outer rngs args ≠ .error .unmappedOutput) := by
  constructor
  · intro cfg hcc h
    rcases liftScan_err cfg hcc verdict body hb m outer rngs init args _ h with ⟨_, _, _, he⟩ | ⟨he, _⟩ | hf
    · rcases he with he | he <;> cases he
    · cases he
    · cases hf
  · intro cfg h
    rcases liftVmap_err cfg verdict body hb m outer rngs args _ h with ⟨_, _, _, he⟩ | hf
    · rcases he with he | he <;> cases he
    · cases hf

/-- `find_axis_size` (lift.py:803-822): `lift.vmap` raises 'Inconsistent batch
axis sizes' iff the sizes read off the first leaf of every mapped group and off the mapped arguments show two
different values, and 'axis_size should be specified manually' iff they show none and no `axis_size` is given;
its other errors are foreign -/
theorem vmap_axis_size_inference {α : Type} [Inhabited α] (cfg : VmapCfg) (verdict : Bool) (body : Body α)
    (hb : BodyForeign body) (m : LFilter) (outer : Vars α) (rngs : Rngs) (args : List (Arr α))
    (sizes : List Nat)
    (hs : vmapSizes (cfg.inAx.map (·.axis)) (groupDict outer (cfg.inAx.map (·.filter))) cfg.inAxes args = .ok sizes) :
    (liftVmap cfg verdict body m outer rngs args = .error .inconsistentLengths ↔ ∃ a ∈ sizes, ∃ b ∈ sizes, a ≠ b) ∧
    (liftVmap cfg verdict body m outer rngs args = .error .lengthUnspecified ↔ cfg.axisSize = none ∧ sizes = []) ∧
    (∀ e, liftVmap cfg verdict body m outer rngs args = .error e →
      e = .inconsistentLengths ∨ e = .lengthUnspecified ∨ e.foreign = true) := by
  have hlen : (liftVmap cfg verdict body m outer rngs args = .error .inconsistentLengths ↔
        ∃ a ∈ sizes, ∃ b ∈ sizes, a ≠ b) ∧
      (liftVmap cfg verdict body m outer rngs args = .error .lengthUnspecified ↔ cfg.axisSize = none ∧ sizes = []) := by
    refine length_errors_iff ?_ ?_
    · intro e he
      unfold liftVmap
      simp only []
      rw [hs]
      show (decideLength cfg.axisSize sizes >>= _) = _
      rw [he]; rfl
    · intro e he h
      rcases liftVmap_err cfg verdict body hb m outer rngs args e h with ⟨s', hs', hd, _⟩ | hf
      · rw [hs] at hs'; injection hs' with hs'; subst hs'; exact hd
      · rcases he with he | he <;> (rw [he] at hf; cases hf)
  refine ⟨hlen.1, hlen.2, ?_⟩
  intro e h
  rcases liftVmap_err cfg verdict body hb m outer rngs args e h with ⟨_, _, _, he⟩ | hf
  · rcases he with he | he
    · exact Or.inl he
    · exact Or.inr (Or.inl he)
  · exact Or.inr (Or.inr hf)

/-- the sizes `find_axis_size` reads: one per mapped group with leaves (the first leaf in jax's sorted
flattening order, along the group's axis) and those of the mapped arguments -/
theorem vmap_sizes_read {α : Type} (iv : List (Option Int)) (groups : List (Vars α)) (t : AxesTree)
    (args : List (Arr α)) :
    vmapSizes iv groups t args =
      (do let l1 ← mapE groupSizeOpt (iv.zip groups); let l2 ← argSizes t args; pure (l1.filterMap id ++ l2)) ∧
    (∀ g : Vars α, groupSizeOpt (none, g) = .ok none) ∧
    (∀ ax (g : Vars α) a, firstLeaf g = some a → groupSizeOpt (some ax, g) = (shapeAt a ax).map some) :=
  ⟨rfl, fun _ => rfl, fun ax g a h => by simp [groupSizeOpt, h]⟩


/-- **nested loops = one flat loop** (the loop-combinator core of `remat_scan_eq_flat_loop`): a nest of threaded
loops with `lengths = [l₁, …, l_k]`, the body called at the full multi-index, is ONE threaded loop of
`∏ lengths` iterations over the multi-indices in row-major order (`allIdx lengths`, i.e. flat index
`((i₁·l₂)+i₂)·…`): same final carry, same outputs under the same multi-indices.  Needs the carry-structure
check to be reflexive and transitive (it is an equality of shapes). -/
theorem nested_loops_eq_flat_loop {σ ω : Type} (step : σ → Ix → Option (σ × ω)) (same : σ → σ → Bool)
    (hrefl : ∀ s, same s s = true) (htrans : ∀ a b c, same a b = true → same b c = true → same a c = true)
    (lengths : List Nat) (s : σ) :
    nestRun step same lengths [] s = runG step same s (allIdx lengths) ∧
    (allIdx lengths).length = lengths.foldr (· * ·) 1 := by
  refine ⟨?_, allIdx_length lengths⟩
  have := nestRun_eq_flat step same hrefl htrans lengths [] s
  simpa using this

example : allIdx [2, 3] = [[0, 0], [0, 1], [0, 2], [1, 0], [1, 1], [1, 2]] := by decide +kernel

/-- the carry-structure check of the model is reflexive and transitive, and each level of a nest is a
`loopRun`, which is `runG` at index type `Nat` -/
theorem same_struct_equiv {α : Type} :
    (∀ s : Vars α × List (Arr α), sameStruct s s = true) ∧
    (∀ a b c : Vars α × List (Arr α), sameStruct a b = true → sameStruct b c = true → sameStruct a c = true) ∧
    (∀ {σ ω : Type} (step : σ → Nat → Option (σ × ω)) (same : σ → σ → Bool) (order : List Nat) (s : σ),
      loopRun step same s order = runG step same s order) :=
  ⟨sameStruct_refl, sameStruct_trans, fun step same order s => loopRun_eq_runG step same order s⟩

/-- the key a split stream has at nesting depth `path.length`: every level of `remat_scan` splits the key it was
handed once more (`rng_split_distinct_unsplit_equal`, level by level) -/
def nestedKey : Key → List (Nat × Nat) → Key
  | k, [] => k
  | k, (l, i) :: rest => nestedKey (Key.split k l i) rest

/-- `random.split` is a constructor (A-RNG) -/
private theorem nestedKey_injective : ∀ (p p' : List (Nat × Nat)) (k k' : Key), p.length = p'.length →
    nestedKey k p = nestedKey k' p' → k = k' ∧ p = p'
  | [], [], _, _, _, h => ⟨h, rfl⟩
  | (l, i) :: qs, (l', i') :: qs', k, k', hl, h => by
    obtain ⟨hk, rfl⟩ := nestedKey_injective qs qs' _ _ (Nat.succ.inj hl) h
    cases hk
    exact ⟨rfl, rfl⟩

/-- **split streams under `remat_scan`**: the keys of two different multi-indices differ (A-RNG), for any
`lengths` -/
theorem remat_split_keys_distinct (k : Key) (lengths : List Nat) (idx idx' : Ix)
    (h1 : idx.length = lengths.length) (h2 : idx'.length = lengths.length) (hne : idx ≠ idx') :
    nestedKey k (lengths.zip idx) ≠ nestedKey k (lengths.zip idx') := by
  intro h
  have hp := (nestedKey_injective (lengths.zip idx) (lengths.zip idx') k k (by simp [h1, h2]) h).2
  apply hne
  have h3 := congrArg (fun p => p.map (·.2)) hp
  rwa [List.map_snd_zip (by omega), List.map_snd_zip (by omega)] at h3

/-- the key a stream has at nesting depth `path.length` when its `split_rngs` flag is `sp`: `rematScan` hands the
SAME `split_rngs` to every level (`RematCfg.scanCfg` does not depend on the level), so every level applies the
same flag -/
def nestedKeyFlag (sp : Bool) : Key → List (Nat × Nat) → Key
  | k, [] => k
  | k, (l, i) :: rest => nestedKeyFlag sp (if sp then Key.split k l i else k) rest

/-- **unsplit streams under `remat_scan`**: a stream declared unsplit keeps its key at EVERY nesting level — all
`∏ lengths` iterations get the very same key; a split one gets the nested split key of
`remat_split_keys_distinct`.  And the model threads `split_rngs` to all levels: the scan configuration of a
level is the same for every level but for its length. -/
theorem remat_unsplit_keys_equal (k : Key) (path path' : List (Nat × Nat)) (rc : RematCfg) (l l' : Nat) :
    nestedKeyFlag false k path = k ∧ nestedKeyFlag false k path = nestedKeyFlag false k path' ∧
    nestedKeyFlag true k path = nestedKey k path ∧
    (rc.scanCfg l).splitRngs = rc.splitRngs ∧ (rc.scanCfg l).splitRngs = (rc.scanCfg l').splitRngs := by
  have h1 : ∀ (p : List (Nat × Nat)) (k : Key), nestedKeyFlag false k p = k := by
    intro p
    induction p with
    | nil => intro k; rfl
    | cons q qs ih => intro k; obtain ⟨a, b⟩ := q; simp [nestedKeyFlag, ih]
  have h2 : ∀ (p : List (Nat × Nat)) (k : Key), nestedKeyFlag true k p = nestedKey k p := by
    intro p
    induction p with
    | nil => intro k; rfl
    | cons q qs ih => intro k; obtain ⟨a, b⟩ := q; simp [nestedKeyFlag, nestedKey, ih]
  exact ⟨h1 path k, by rw [h1, h1], h2 path k, rfl, rfl⟩

/-- one level of the nest hands the next level exactly these keys: group `g` of the rngs of index `i` holds every
stream of that group with `Key.split k l i` if the group's flag says split and with `k` itself otherwise -/
theorem remat_level_keys (sr : List (LFilter × Bool)) (rngs : Rngs) (l i : Nat) :
    iterRngGroups sr rngs l i = ((List.range sr.length).zip sr).map (fun p =>
      (roleGroup rngs (sr.map (·.1)) p.1).map (fun sk => (sk.1, nestedKeyFlag p.2.2 sk.2 [(l, i)]))) := by
  unfold iterRngGroups
  apply List.map_congr_left
  intro p _
  apply List.map_congr_left
  intro sk _
  cases p.2.2 <;> rfl

example : nestedKey (.seed "params") ([2, 3].zip [1, 2]) = .split (.split (.seed "params") 2 1) 3 2 := rfl


/-- **merge, then regroup by the same filters = identity**: `scope_fn` of one level merges the groups into the
inner scope, `group_collections` of the next level splits that scope by the same filters; when every key of
group `g` has `g` as its first matching filter and keys are distinct, the groups come back unchanged -/
theorem regroup_after_merge_identity {β : Type} (fs : List LFilter) (gs : List (List (String × β)))
    (hrole : ∀ j (hj : j < gs.length), ∀ kv ∈ gs[j], firstIdx fs kv.1 = some j)
    (hnd : (gs.flatten.map (·.1)).Nodup) :
    mergeGroups gs = gs.flatten ∧ ∀ g, roleGroup (mergeGroups gs) fs g = gs.getD g [] :=
  ⟨mergeGroups_flatten gs hnd, regroup_after_merge fs gs hrole hnd⟩

example : mergeGroups [[("params", 1)], [("cache", 2), ("stats", 3)]] = [("params", 1), ("cache", 2), ("stats", 3)] ∧
    roleGroup (mergeGroups [[("params", 1)], [("cache", 2), ("stats", 3)]]) [.name "params", .tt] 1
      = [("cache", 2), ("stats", 3)] := by decide +kernel

/-- **publish, then re-filter = identity** for a structure-preserving out group: if the out group `G` has exactly
the scope's collections with exactly their variable names in the same order (what the carry-structure check of
`lax.scan` enforces for carried collections), names are distinct and all its collections are mutable, then
`publish_results_fn` turns the scope into `G` itself — so filtering the mutable collections and regrouping them
one level up returns `G` -/
theorem publish_refilter_identity {α : Type} (m : LFilter) (V G : Vars α)
    (hs : V.map (fun cc => (cc.1, cc.2.map (·.1))) = G.map (fun cc => (cc.1, cc.2.map (·.1))))
    (hnd : (G.map (·.1)).Nodup) (hvn : ∀ cc ∈ G, (cc.2.map (·.1)).Nodup) (hm : ∀ cc ∈ G, inFilter m cc.1 = true) :
    publish m V [G] = G ∧ (publish m V [G]).filter (fun kv => inFilter m kv.1) = G := by
  have h := publish_same_structure m V G hs hnd hvn hm
  exact ⟨h, by rw [h]; exact List.filter_eq_self.2 hm⟩

example : publish (.name "stats") [("stats", [("n", exScalar 0), ("s", exScalar 1)])]
    [[("stats", [("n", exScalar 5), ("s", exScalar 6)])]] = [("stats", [("n", exScalar 5), ("s", exScalar 6)])] := by
  decide +kernel

/-- **nested stacking and nested slicing are inverse at the multi-index**: stacking per-inner-iteration values
along the axis, then the per-outer-iteration stacks along the axis again, and slicing twice gives the value of
iteration `(i₀, i₁)` back -/
theorem nested_stack_slice {α : Type} [Inhabited α] [DecidableEq α] (sh : List Nat) (ax : Int)
    (rows : List (List (Arr α))) (inner : List (Arr α)) (S : Arr α) (i0 i1 : Nat)
    (hin : mapE (fun row => stackAt ax sh row) rows = .ok inner)
    (hS : stackAt ax ((inner.head?.map (·.shape)).getD []) inner = .ok S)
    (hwf : ∀ row ∈ rows, ∀ y ∈ row, Arr.WF y = true)
    (h0 : i0 < rows.length) (h1 : i1 < (rows.getD i0 []).length) :
    ∃ R, takeAt ax i0 S = .ok R ∧ takeAt ax i1 R = .ok ((rows.getD i0 []).getD i1 default) := by
  obtain ⟨hlen, hrows⟩ := mapE_eq_ok hin
  have hi0 : i0 < inner.length := by omega
  have hrow := hrows i0 h0 hi0
  have hwfi : ∀ y ∈ inner, Arr.WF y = true := by
    intro y hy
    obtain ⟨k, hk, rfl⟩ := List.getElem_of_mem hy
    have := hrows k (by omega) hk
    obtain ⟨_, _, h⟩ := stackAt_eq_ok.1 this
    rw [(Arr.stack_eq_ok.1 h).2.2]
    exact Arr.wf_ofFn _ _
  refine ⟨inner[i0], stack_slice _ inner ax S hS hwfi i0 hi0, ?_⟩
  have hr : rows.getD i0 [] = rows[i0] := by simp [List.getD_eq_getElem?_getD, h0]
  rw [hr] at h1 ⊢
  have := stack_slice sh rows[i0] ax inner[i0] hrow (hwf _ (List.getElem_mem h0)) i1 h1
  rw [this]
  simp [List.getD_eq_getElem?_getD, h1]


/-- **`remat_scan_eq_flat_loop` for configurations without axis and without broadcast collections**
(`variable_axes = {}`, `variable_broadcast = False`; any `variable_carry`, any `split_rngs`, any `lengths` with
positive entries, any body).  The scope holds the carried collections (distinct collection and variable names).
Then `lift.remat_scan(body, lengths)` is ONE threaded loop of `∏ lengths` iterations over the multi-indices in
row-major order: iteration `idx` calls the body on the current carried collections and carry, with the
mutability filter of depth `len(lengths)` and the rng streams regrouped / split once per level along `idx`
(`rngsAt`); the carried collections of the body's result (its mutable carry-role collections) and its carry are
threaded, the carry-structure check applies at every step.  All the plumbing between the levels (merge and
regroup, publish and re-filter, the per-level broadcast pass) is proved to be the identity here. -/
theorem remat_scan_eq_flat_loop_carry_only {α : Type} [Inhabited α] (rc : RematCfg) (hax : rc.axes = [])
    (hb : rc.bcast = .ff) (body : Body α) (lengths : List Nat) (hne : lengths ≠ []) (hnz : ∀ l ∈ lengths, l ≠ 0)
    (m : LFilter) (V : Vars α) (hV : InvC rc V) (r : Rngs) (c xs : List (Arr α)) :
    opt (rematScan rc true body lengths m V r c xs) =
      (runG (flatStep rc body m r lengths) sameStruct (V, c) (allIdx lengths)).map
        (fun res => (res.1.1, res.1.2, [])) ∧
    (allIdx lengths).length = lengths.foldr (· * ·) 1 := by
  refine ⟨?_, allIdx_length lengths⟩
  rw [rematScan_opt, nested_eq_flat_carryOnly rc hax hb body m r lengths hne hnz V c hV]
  cases runG (flatStep rc body m r lengths) sameStruct (V, c) (allIdx lengths) <;> rfl

/-- the hypotheses are satisfiable: a scope with one carried counter collection -/
example : InvC (α := Int) { bcast := .ff, carry := .name "K", axes := [], splitRngs := [(.tt, true)] }
    [("K", [("n", exScalar 0)])] := by
  refine ⟨by decide, ?_, ?_⟩
  · intro cc hcc; simp at hcc; subst hcc; decide
  · intro cc hcc; simp at hcc; subst hcc; decide

/-- `remat_scan(body, lengths)` is the nest of explicit loops, one per entry of `lengths`, for every configuration.
That the nest is ONE loop of `∏ lengths` iterations is proved only without axis and broadcast collections
(`remat_scan_eq_flat_loop_carry_only`); with axis collections (slices of slices; results published in the body's
variable order), `In`/`Out`-restricted axes or broadcast collections (the broadcast pass runs at every level) the
flat loop is only compared by the correspondence run. -/
theorem remat_scan_eq_nested_loops_partial {α : Type} [Inhabited α] (rc : RematCfg) (verdict : Bool)
    (body : Body α) (lengths : List Nat) (m : LFilter) (v : Vars α) (r : Rngs) (c xs : List (Arr α)) :
    opt (rematScan rc verdict body lengths m v r c xs) =
      (nestedLoops rc verdict body lengths m v r c).map (fun x => (x.1, x.2, [])) :=
  rematScan_opt rc verdict body lengths m v r c xs

end Flax.C06
