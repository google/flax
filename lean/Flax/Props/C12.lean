/-
C12 — Feed-forward layers compute their documented formulas; Linen and NNX agree.

Theorems about `Flax/Model/Layers.lean`: the index / shape logic that is flax's own.  Element type `R` is
arbitrary wherever only `0 + *` occur (no ring law is used there, so those statements hold verbatim for
floating-point arithmetic); the statistics theorems are over `Rat`.
-/
import Flax.Model.Layers
import Flax.Proofs.Layers
import Flax.Proofs.LayersDense
import Flax.Proofs.LayersGroupNorm
import Flax.Proofs.LayersPool
import Flax.Proofs.LayersStats
import Flax.Proofs.LayersConv
import Flax.Proofs.LayersPad
import Flax.Proofs.LayersAccept

namespace Flax.C12
open Flax.Layers

/-- `Tensor.ofFn` (the form every model output is built with) returns the defining formula at every in-bounds
multi-index, for every shape: `indices` enumerates the shape in `ravel` order. -/
theorem tensor_ofFn_get {R : Type} [Zero R] (shape : List Nat) (f : List Nat → R) (idx : List Nat)
    (h : inBounds shape idx = true) : (Tensor.ofFn shape f).get idx = f idx := get_ofFn shape f h

example : inBounds [2, 3] [1, 2] = true := by decide

/-- flax reshapes `bs ++ rs` to `[prod bs] ++ rs`, applies the layer, and reshapes the
result `[prod bs] ++ os` back to `bs ++ os`.  For *any* per-example layer (its output row `q` is a function `f` of
input row `q` only) the wrapped layer returns, at batch multi-index `b`, `f` of the example at `b` — for every
number of batch dimensions, including none (`bs = []`, a batch of one is added and removed) and two or more. -/
theorem conv_batch_flatten_inert {R : Type} [Zero R] (nsp : Nat) (bs rs os : List Nat) (x : Tensor R)
    (hx : x.shape = bs ++ rs) (hrs : rs.length = nsp + 1)
    (layer : Tensor R → Tensor R) (f : (List Nat → R) → List Nat → R)
    (hshape : ∀ xf : Tensor R, xf.shape = prod bs :: rs → (layer xf).shape = prod bs :: os)
    (hper : ∀ (xf : Tensor R) (q : Nat) (o : List Nat), xf.shape = prod bs :: rs → q < prod bs →
      inBounds os o = true → (layer xf).get (q :: o) = f (fun r => xf.get (q :: r)) o)
    (b o : List Nat) (hb : inBounds bs b = true) (ho : inBounds os o = true) :
    (unflattenBatch bs (layer (flattenBatch nsp x).2)).get (b ++ o) = f (fun r => x.get (b ++ r)) o := by
  have hbl := inBounds_length hb
  have hxf : (x.reshape (prod bs :: rs)).shape = prod bs :: rs := rfl
  rw [flattenBatch_eq nsp x bs rs hx hrs, unflattenBatch_get _ bs os b (hshape _ hxf) hbl,
    hper _ _ o hxf (ravel_lt hb) ho]
  congr 1
  funext r
  exact reshape_flat_get x bs rs b hx hbl r

example : ∃ (layer : Tensor Int → Tensor Int) (f : (List Nat → Int) → List Nat → Int),
    (∀ xf : Tensor Int, xf.shape = prod [2, 2] :: [3, 1] → (layer xf).shape = prod [2, 2] :: [3, 1]) ∧
    (∀ (xf : Tensor Int) (q : Nat) (o : List Nat), xf.shape = prod [2, 2] :: [3, 1] → q < prod [2, 2] →
      inBounds [3, 1] o = true → (layer xf).get (q :: o) = f (fun r => xf.get (q :: r)) o) :=
  ⟨id, fun g o => g o, fun _ h => h, fun _ _ _ _ _ _ => rfl⟩

/-! ### padding amounts and output lengths (DESIGN §4 pad_index_maps, arithmetic part) -/

/-- CIRCULAR / REFLECT pre-padding adds exactly `k_d − 1` positions in total -/
theorem centre_pads_total (k d : Nat) : (centrePads k d).1 + (centrePads k d).2 = dilatedK k d - 1 :=
  centrePads_total k d

/-- the split is the documented one: `((k_d − 1) // 2, k_d // 2)`, left ≤ right ≤ left + 1 -/
theorem centre_pads_split (k d : Nat) :
    (centrePads k d).1 ≤ (centrePads k d).2 ∧ (centrePads k d).2 ≤ (centrePads k d).1 + 1 := by
  show (dilatedK k d - 1) / 2 ≤ dilatedK k d / 2 ∧ dilatedK k d / 2 ≤ (dilatedK k d - 1) / 2 + 1
  omega

/-- CAUSAL pads `d(k−1) = k_d − 1` on the left and nothing on the right -/
theorem causal_pad_eq (k d : Nat) : (causalPad k d).1 = dilatedK k d - 1 ∧ (causalPad k d).2 = 0 :=
  causalPad_eq k d

/-- output length after CIRCULAR / REFLECT pre-padding and a VALID window: `⌈n / s⌉`, for every `n ≥ 1`, kernel size,
dilation and stride -/
theorem circular_out_len (n k d s : Nat) (hn : 1 ≤ n) :
    outLen (n + (centrePads k d).1 + (centrePads k d).2) (dilatedK k d) s = (n - 1) / s + 1 :=
  outLen_pad_total n _ s _ _ hn (dilatedK_pos k d) (centrePads_total k d)

/-- stride 1: the output length is `n` (CIRCULAR, REFLECT and CAUSAL are "same size" paddings) -/
theorem circular_out_len_stride1 (n k d : Nat) (hn : 1 ≤ n) :
    outLen (n + (centrePads k d).1 + (centrePads k d).2) (dilatedK k d) 1 = n := by
  rw [circular_out_len n k d 1 hn, Nat.div_one]; omega

theorem causal_out_len (n k d s : Nat) (hn : 1 ≤ n) :
    outLen (n + (causalPad k d).1 + (causalPad k d).2) (dilatedK k d) s = (n - 1) / s + 1 := by
  exact outLen_pad_total n _ s _ _ hn (dilatedK_pos k d) (causalPad_total k d)

example : outLen (5 + (centrePads 3 2).1 + (centrePads 3 2).2) (dilatedK 3 2) 2 = 3 := by decide

/-- SAME (the `lax.padtype_to_pads` rule used by Conv and pooling): the output length is `⌈n / s⌉` for every window and stride -/
theorem same_pads_out_len (n w s : Nat) (hn : 1 ≤ n) (hw : 1 ≤ w) (hs : 1 ≤ s) :
    outLen (n + (samePads n w s).1 + (samePads n w s).2) w s = (n + s - 1) / s := by
  have hq : (n + s - 1) / s = (n - 1) / s + 1 := by rw [Nat.sub_add_comm hn, Nat.add_div_right _ hs]
  have hub := Nat.lt_mul_div_succ (n - 1) hs
  rw [Nat.mul_comm, Nat.add_one_mul] at hub
  rw [Nat.add_assoc, samePads_total, hq, Nat.add_sub_cancel]
  generalize (n - 1) / s = q at *
  -- when the subtraction in `samePads` truncates nothing is padded, and `w` is smaller than the slack of the last stride
  exact outLen_of_bounds _ w s q (by omega) (by omega)


/-- wrap padding is periodic: position `i` reads index `(i − lo) mod n`, always in range -/
theorem padSrc_wrap (n lo i : Nat) (hn : 0 < n) :
    ∃ j, padSrc .wrap n lo i = some j ∧ j < n ∧ (j : Int) = ((i : Int) - lo) % n := by
  have h0 : 0 ≤ ((i : Int) - lo) % n := Int.emod_nonneg _ (by omega)
  have h1 : ((i : Int) - lo) % n < n := Int.emod_lt_of_pos _ (by omega)
  refine ⟨_, padSrc_wrap_eq n lo i (Nat.ne_of_gt hn), ?_, Int.toNat_of_nonneg h0⟩
  exact (Int.toNat_lt h0).mpr h1

/-- the original data sit unchanged between the pads, in all three modes -/
theorem padSrc_inside (m : PadMode) (n lo j : Nat) (hj : j < n) : padSrc m n lo (lo + j) = some j := by
  have e0 : ((lo + j : Nat) : Int) - lo = j := by omega
  cases m with
  | zeros => rw [padSrc_zeros_eq, if_pos ⟨Nat.le_add_right _ _, Nat.add_lt_add_left hj _⟩, Nat.add_sub_cancel_left]
  | wrap =>
    rw [padSrc_wrap_eq n lo _ (by omega), e0, Int.emod_eq_of_lt (Int.natCast_nonneg j) (Int.ofNat_lt.mpr hj),
      Int.toNat_natCast]
  | reflect =>
    by_cases h1 : n = 1
    · rw [padSrc, if_neg (by omega), if_pos h1]
      congr 1
      omega
    · exact padSrc_reflect_of_dist n lo _ j 0 (by omega) (by omega) (.inl e0)

/-- zero padding: outside the data the value is the fill value -/
theorem padSrc_zeros_outside (n lo i : Nat) (h : i < lo ∨ lo + n ≤ i) : padSrc .zeros n lo i = none := by
  rw [padSrc_zeros_eq, if_neg (by omega)]

/-- reflect padding mirrors without repeating the edge: `t` steps left of the data reads index `t`, `t` steps right
of it reads `n − 1 − t` (for `t ≤ n − 1`, the range `jnp.pad` documents) -/
theorem padSrc_reflect_left (n lo t : Nat) (hn : 2 ≤ n) (ht : t ≤ n - 1) (hlo : t ≤ lo) :
    padSrc .reflect n lo (lo - t) = some t :=
  padSrc_reflect_of_dist n lo _ t 0 hn ht (.inr (by omega))

theorem padSrc_reflect_right (n lo t : Nat) (hn : 2 ≤ n) (ht : t ≤ n - 1) :
    padSrc .reflect n lo (lo + (n - 1) + t) = some (n - 1 - t) :=
  padSrc_reflect_of_dist n lo _ _ 1 hn (Nat.sub_le _ _) (.inr (by omega))

/-! ### CIRCULAR / REFLECT / CAUSAL pre-padding followed by VALID = the direct sum with an index map (§4 pad_index_maps) -/

section conv1
variable {R : Type} [Zero R] [Add R] [Mul R]

/-- CIRCULAR: wrap-pad by `((k_d−1)//2, k_d//2)` then VALID is the direct sum over the kernel taps of
`x[(o·s + t·d − lo) mod n]·K[t]` — for every length `n ≥ 1`, stride, dilation and kernel size -/
theorem circular_conv_formula (n s d k : Nat) (hn : 0 < n) (x K : Nat → R) (o : Nat) :
    circularConv1 n s d k x K o =
      sumOver (List.range k) (fun t => x ((((o * s + t * d : Nat) : Int) - ((dilatedK k d - 1) / 2 : Nat)) % n).toNat * K t) := by
  simp only [circularConv1, conv1, centrePads, pad1_wrap _ _ _ _ (Nat.ne_of_gt hn)]

/-- periodic boundary conditions: with stride 1 a cyclic shift of the input shifts the output cyclically -/
theorem circular_conv_equivariant (n d k r : Nat) (hn : 0 < n) (x K : Nat → R) (o : Nat) :
    circularConv1 n 1 d k (fun j => x ((j + r) % n)) K o = circularConv1 n 1 d k x K ((o + r) % n) := by
  rw [circular_conv_formula n 1 d k hn, circular_conv_formula n 1 d k hn]
  apply sumOver_congr
  intro t _
  congr 2
  rw [wrap_shift n hn]
  congr 1
  rw [Nat.mul_one, Nat.mul_one, Int.natCast_add ((o + r) % n), Int.natCast_mod, Int.add_sub_assoc, Int.emod_add_emod]
  congr 1
  omega

/-- REFLECT: same pads, reflected index -/
theorem reflect_conv_formula (n s d k : Nat) (x K : Nat → R) (o : Nat) :
    reflectConv1 n s d k x K o =
      sumOver (List.range k) (fun t => pad1 .reflect n ((dilatedK k d - 1) / 2) x (o * s + t * d) * K t) := by
  simp [reflectConv1, conv1, centrePads]

/-- CAUSAL: tap `t` of output `o` reads `x[o·s − (k−1−t)·d]`, or the zero fill when that is before the start -/
theorem causal_conv_formula (n s d k : Nat) (x K : Nat → R) (o : Nat) :
    causalConv1 n s d k x K o =
      sumOver (List.range k) (fun t =>
        (if d * (k - 1) ≤ o * s + t * d ∧ o * s + t * d < d * (k - 1) + n then x (o * s + t * d - d * (k - 1)) else 0) * K t) := by
  simp only [causalConv1, conv1, causalPad, pad1_zeros]

/-- causality: output `o` of a CAUSAL convolution depends only on inputs at positions `≤ o·s` -/
theorem causal_conv_depends_only_on_past (n s d k : Nat) (x x' K : Nat → R) (o : Nat)
    (h : ∀ j, j ≤ o * s → x j = x' j) : causalConv1 n s d k x K o = causalConv1 n s d k x' K o := by
  rw [causal_conv_formula, causal_conv_formula]
  apply sumOver_congr
  intro t ht
  have htk : t < k := by simpa using ht
  have hle : t * d ≤ (k - 1) * d := Nat.mul_le_mul_right d (by omega)
  have hcomm : d * (k - 1) = (k - 1) * d := Nat.mul_comm _ _
  split
  · rw [h _ (by omega)]
  · rfl

/-- arithmetic: the last tap `t = k − 1` of `causal_conv_formula` reads position `o·s` -/
theorem causal_conv_last_tap (s d k o : Nat) : o * s + (k - 1) * d - d * (k - 1) = o * s := by
  rw [Nat.mul_comm d]; omega

end conv1

example : circularConv1 4 1 1 3 (fun j => ([1, 2, 3, 4] : List Int).getD j 0) (fun t => ([1, 10, 100] : List Int).getD t 0) 0 = 214 := by
  decide

example : causalConv1 4 1 1 3 (fun j => ([1, 2, 3, 4] : List Int).getD j 0) (fun t => ([1, 10, 100] : List Int).getD t 0) 0 = 100 := by
  decide

section nd
variable {R : Type} [Zero R] [Add R] [Mul R]

omit [Add R] [Mul R] in
/-- `padTensor` (the model of `jnp.pad(x, pads, mode)`) reads, at every in-bounds position of the padded shape, the
source given by the per-axis `padSrc` maps (the fill value 0 if any axis falls in zero padding) — any rank -/
theorem padTensor_get (x : Tensor R) (pads : List (PadMode × Nat × Nat)) (idx : List Nat)
    (h : inBounds (List.zipWith (fun n (p : PadMode × Nat × Nat) => p.2.1 + n + p.2.2) x.shape pads) idx = true) :
    (padTensor x pads).get idx =
      match (List.zipWith (fun (np : Nat × (PadMode × Nat × Nat)) i => padSrc np.2.1 np.1 np.2.2.1 i) (x.shape.zip pads) idx).mapM id with
      | some s => x.get s
      | none => 0 :=
  padTensor_elem x pads idx h

omit [Add R] [Mul R] in
theorem padTensor_get_1d (x : Tensor R) (n lo hi i : Nat) (m : PadMode) (hx : x.shape = [n]) (hi' : i < lo + n + hi) :
    (padTensor x [(m, lo, hi)]).get [i] = pad1 m n lo (fun j => x.get [j]) i := by
  rw [padTensor_get]
  · simp only [hx, pad1]
    cases hsrc : padSrc m n lo i <;> simp [hsrc]
  · simp [hx, inBounds, hi']

/-- `convSpec` (the model of `lax.conv_general_dilated`, channels last) at output position `(bi, o, fi)`:
the direct sum over kernel offsets and the input channels of the feature group of `fi` — any number of spatial axes -/
theorem convSpec_get (g : ConvGeom) (x k : Tensor R) (bi fi : Nat) (o : List Nat) (ho : o.length = x.rank - 2)
    (hb : inBounds (x.shape.headD 0 :: convOutSpatial g ((x.shape.drop 1).take (x.rank - 2)) (k.shape.take (x.rank - 2))
            ++ [nth k.shape (x.rank - 2 + 1)]) (bi :: o ++ [fi]) = true) :
    (convSpec g x k).get (bi :: o ++ [fi]) =
      sumOver (indices (k.shape.take (x.rank - 2))) (fun kk =>
        match convSrc g ((x.shape.drop 1).take (x.rank - 2)) o kk with
        | none => 0
        | some src =>
          sumOver (List.range (nth k.shape (x.rank - 2))) (fun c =>
            x.get (bi :: src ++ [(if nth k.shape (x.rank - 2 + 1) / g.groups = 0 then 0
                                   else fi / (nth k.shape (x.rank - 2 + 1) / g.groups)) * nth k.shape (x.rank - 2) + c])
              * k.get (kk ++ [c, fi]))) := by
  -- the `match` here and the one in `convSpec_elem` are separate copies: they are compared case by case
  refine (convSpec_elem g x k bi fi o ho hb).trans (sumOver_congr _ _ _ fun kk _ => ?_)
  cases convSrc g ((x.shape.drop 1).take (x.rank - 2)) o kk <;> rfl

/-- hence `convSpec` is a per-example layer in the sense of `conv_batch_flatten_inert`: row `bi` of the output is a
function of row `bi` of the input only -/
theorem convSpec_per_example (g : ConvGeom) (x x' k : Tensor R) (bi fi : Nat) (o : List Nat)
    (hs : x.shape = x'.shape) (ho : o.length = x.rank - 2)
    (hb : inBounds (x.shape.headD 0 :: convOutSpatial g ((x.shape.drop 1).take (x.rank - 2)) (k.shape.take (x.rank - 2))
            ++ [nth k.shape (x.rank - 2 + 1)]) (bi :: o ++ [fi]) = true)
    (hrow : ∀ r, x.get (bi :: r) = x'.get (bi :: r)) :
    (convSpec g x k).get (bi :: o ++ [fi]) = (convSpec g x' k).get (bi :: o ++ [fi]) := by
  have hr : x.rank = x'.rank := by simp [Tensor.rank, hs]
  rw [convSpec_get g x k bi fi o ho hb, convSpec_get g x' k bi fi o (hr ▸ ho) (by rw [← hs, ← hr]; exact hb)]
  simp only [← hs, ← hr]
  apply sumOver_congr
  intro kk _
  cases convSrc g ((x.shape.drop 1).take (x.rank - 2)) o kk with
  | none => rfl
  | some src =>
    apply sumOver_congr
    intro c _
    simp only [List.cons_append] at *
    rw [hrow]

end nd

/-! ### normalisation statistics (§4 stats_formulas) -/

/-- the slow route is the documented pair `(E[x], E[(x − E[x])²])` -/
theorem stats_slow_formula (vs : List Rat) :
    (computeStats vs true false).mean = vs.sum / vs.length ∧
    (computeStats vs true false).var = (vs.map (fun v => (v - vs.sum / vs.length) * (v - vs.sum / vs.length))).sum / vs.length := by
  simp [computeStats_slow, ratMean]

/-- `use_fast_variance`: `max(0, E[x²] − E[x]²)` is the same pair — the ring identity, and the clip at 0 is inert in
exact arithmetic.  Holds for every non-empty reduction. -/
theorem var_fast_eq_slow (vs : List Rat) (h : vs ≠ []) : computeStats vs true true = computeStats vs true false := by
  rw [computeStats_fast, computeStats_slow, ← slow_var_eq vs h, max_eq_right (ratMean_sq_dev_nonneg vs _)]

example : computeStats [1, 2, 4] true true = ⟨7 / 3, 14 / 9⟩ := by decide +kernel

/-- the variance handed to `rsqrt(var + ε)` is never negative, whichever route and whether or not the mean is used -/
theorem var_nonneg (vs : List Rat) (useMean useFast : Bool) : 0 ≤ (computeStats vs useMean useFast).var := by
  cases useMean
  · simpa only [computeStats_rms, sub_zero] using ratMean_sq_dev_nonneg vs 0
  · cases useFast
    · exact ratMean_sq_dev_nonneg vs _
    · exact le_max_left _ _

/-- RMSNorm (`use_mean=False`): no centring, the "variance" is the mean square -/
theorem rms_stats (vs : List Rat) (useFast : Bool) :
    computeStats vs false useFast = ⟨0, (vs.map (fun v => v * v)).sum / vs.length⟩ := by
  simp [computeStats_rms, ratMean]

/-- masked statistics use the masked-in entries only: two inputs of the same shape that agree wherever the mask is
true have identical statistics and affine pieces at *every* position (LayerNorm, RMSNorm, InstanceNorm, BatchNorm
in training mode all go through `normPieces`) -/
theorem masked_stats_ignore_masked_out (x x' : Tensor Int) (hs : x.shape = x'.shape) (red feat : List Nat)
    (useMean useFast : Bool) (mask scale bias : Option (Tensor Int))
    (h : ∀ i, maskAt mask i = true → x.get i = x'.get i) :
    normPieces x red feat useMean useFast mask scale bias = normPieces x' red feat useMean useFast mask scale bias := by
  simp only [normPieces, ← hs]
  apply List.map_congr_left
  intro idx _
  have : ((reductionGroup x.shape red idx).filter (maskAt mask)).map (fun i => (x.get i : Rat))
      = ((reductionGroup x.shape red idx).filter (maskAt mask)).map (fun i => (x'.get i : Rat)) := by
    apply List.map_congr_left
    intro i hi
    rw [h i (List.mem_filter.mp hi).2]
  rw [this]

/-- negative axes count from the end: for `−rank ≤ a < rank` the canonical axis is `a mod rank`, a valid axis -/
theorem normAxis_sound (rank : Nat) (a : Int) (h1 : -(rank : Int) ≤ a) (h2 : a < rank) :
    normAxis rank a < rank ∧ ((normAxis rank a : Nat) : Int) = a % rank := by
  unfold normAxis
  by_cases ha : a < 0
  · rw [if_pos ha, ← Int.add_emod_right, Int.emod_eq_of_lt (by omega) (by omega)]
    omega
  · rw [if_neg ha, Int.emod_eq_of_lt (by omega) h2]
    omega

/-- `linear.py::_normalize_axes` (DenseGeneral / LinearGeneral `axis`, `batch_dims`): the result lists exactly the
canonical positions of the given axes, in increasing order, one per given axis — so the kernel's contraction
dimensions follow the *sorted* axes whatever order the user wrote them in -/
theorem normalize_axes_sound (ndim : Nat) (axes : List Int) :
    (normalizeAxes ndim axes).Pairwise (· ≤ ·) ∧
    (normalizeAxes ndim axes).length = axes.length ∧
    ∀ p, p ∈ normalizeAxes ndim axes ↔ ∃ a ∈ axes, normAxis ndim a = p := by
  refine ⟨sortNat_sorted _, by simp [normalizeAxes, length_sortNat], fun p => ?_⟩
  simp [normalizeAxes, mem_sortNat]

/-- `normalization.py::_canonicalize_axes` (reduction / feature axes of every norm layer): "deduplicated, sorted,
positive" — strictly increasing, and an axis is present iff one of the given (possibly negative, possibly repeated)
axes denotes it -/
theorem canon_axes_sound (rank : Nat) (axes : List Int) :
    (canonAxes rank axes).Pairwise (· < ·) ∧
    ∀ p, p ∈ canonAxes rank axes ↔ ∃ a ∈ axes, normAxis rank a = p := by
  obtain ⟨hs, -, hm⟩ := normalize_axes_sound rank axes
  exact ⟨dedupSorted_strict _ hs, fun p => (mem_dedupSorted p _).trans (hm p)⟩

example : canonAxes 4 [-1, 1, 3, -3] = [1, 3] := by decide

/-! ### BatchNorm running statistics (§4 batchnorm_ema_and_inference) -/

/-- inference mode never writes the running statistics -/
theorem batchNorm_inference_keeps_state (x : Tensor Int) (axis : Int) (useFast : Bool) (m : Rat)
    (mask scale bias : Option (Tensor Int)) (st : BNState) :
    (batchNorm x axis true useFast m mask scale bias st).2 = st := rfl

/-- inference mode normalises with the stored statistics only: the pieces do not depend on the values of the batch -/
theorem batchNorm_inference_ignores_batch (x x' : Tensor Int) (hs : x.shape = x'.shape) (axis : Int) (useFast useFast' : Bool)
    (m m' : Rat) (mask mask' scale bias : Option (Tensor Int)) (st : BNState) :
    (batchNorm x axis true useFast m mask scale bias st).1 = (batchNorm x' axis true useFast' m' mask' scale bias st).1 := by
  simp only [batchNorm, if_true, Tensor.rank, hs]

/-- training mode, the update of one defined statistic: `momentum·old + (1 − momentum)·new` -/
theorem ema_formula (m old new : Rat) : emaOpt m (some old) (some new) = some (m * old + (1 - m) * new) := rfl

theorem batchNorm_training_updates (x : Tensor Int) (axis : Int) (useFast : Bool) (m : Rat)
    (mask scale bias : Option (Tensor Int)) (st : BNState) :
    ∃ batch : Nat → Option Stats,
      (batchNorm x axis false useFast m mask scale bias st).2 =
        ⟨(List.range (nth x.shape ((canonAxes x.rank [axis]).headD 0))).map
            (fun f => emaOpt m (st.mean.getD f none) ((batch f).map (·.mean))),
         (List.range (nth x.shape ((canonAxes x.rank [axis]).headD 0))).map
            (fun f => emaOpt m (st.var.getD f none) ((batch f).map (·.var)))⟩ := by
  refine ⟨fun f =>
    ((normPieces x ((List.range x.rank).filter (fun i => !((canonAxes x.rank [axis]).contains i))) (canonAxes x.rank [axis])
        true useFast mask scale bias).getD
      (ravel x.shape ((List.range x.rank).map (fun i => if i = (canonAxes x.rank [axis]).headD 0 then f else 0))) ⟨none, 1, 0⟩).stats, ?_⟩
  simp only [batchNorm, Bool.false_eq_true, if_false]

/-- `Σ_i m^(t−i)·b_i` over the batches `b₁ … b_t` -/
def emaWeights (m : Rat) : List Rat → Rat
  | [] => 0
  | b :: bs => m ^ bs.length * b + emaWeights m bs

/-- a whole training history: after batches `b₁ … b_t` the running statistic is `m^t·ra₀ + (1 − m)·Σ m^(t−i)·b_i` -/
theorem ema_closed_form (m : Rat) (bs : List Rat) (ra : Rat) :
    bs.foldl (ema m) ra = m ^ bs.length * ra + (1 - m) * emaWeights m bs := by
  induction bs generalizing ra with
  | nil => simp [emaWeights]
  | cons b bs ih =>
    simp only [List.foldl_cons, ih, ema, emaWeights, List.length_cons]
    ring

example : [2, 4].foldl (ema (1 / 2)) 0 = 5 / 2 := by decide +kernel

/-! ### call-time flags: `use_running_average` / `deterministic` resolution -/

/-- NNX (`first_from`): a flag given at call time always wins — in particular an explicit `False` on a layer that is in
inference mode (constructed with `True`, or after `.eval()`) -/
theorem resolve_flag_call_wins (b : Bool) (attr : Option Bool) : resolveFlag (some b) attr = .ok b := rfl

/-- NNX without a call-time flag: the attribute decides, and with neither the layer refuses -/
theorem resolve_flag_falls_back (attr : Option Bool) :
    resolveFlag none attr = (match attr with | some b => .ok b | none => .error "NoFlag") := by
  cases attr <;> rfl

/-- the `call or attr` slip is not this function: called with `False` on an inference-mode layer it answers `True`
(running statistics used, no update) where `resolveFlag` answers `False`; on a layer without attribute `resolveFlagOr`
returns the call-time flag, and refuses when there is none -/
theorem resolve_flag_or_counterexample :
    resolveFlagOr (some false) (some true) = .ok true ∧ resolveFlag (some false) (some true) = .ok false ∧
    resolveFlagOr (some false) none = .ok false ∧ resolveFlagOr none none = .error "NoFlag" := by decide

/-- Linen (`merge_param`): exactly one of constructor attribute and call argument must be given -/
theorem merge_param_exactly_one (attr call : Option Bool) (b : Bool) :
    mergeParam attr call = .ok b ↔ (attr = none ∧ call = some b) ∨ (attr = some b ∧ call = none) := by
  cases attr <;> cases call <;> simp [mergeParam]

/-- where both APIs accept the configuration they resolve the flag identically -/
theorem merge_param_agrees_with_first_from (attr call : Option Bool) (b : Bool) (h : mergeParam attr call = .ok b) :
    resolveFlag call attr = .ok b := by
  rcases (merge_param_exactly_one attr call b).mp h with ⟨rfl, rfl⟩ | ⟨rfl, rfl⟩ <;> rfl

/-! ### Dropout (§4 dropout_branches) -/

theorem dropout_deterministic_identity (bern : Nat → Rat → List Nat → Tensor Bool) (key num den : Nat)
    (bd : List Int) (x : Tensor Rat) : dropoutLayer bern key num den true bd x = x := by
  rw [dropoutLayer, dropoutBranch_identity _ _ _ _ _ (.inr rfl)]

theorem dropout_rate_zero_identity (bern : Nat → Rat → List Nat → Tensor Bool) (key den : Nat) (det : Bool)
    (bd : List Int) (x : Tensor Rat) : dropoutLayer bern key 0 den det bd x = x := by
  rw [dropoutLayer, dropoutBranch_identity _ _ _ _ _ (.inl rfl)]

theorem dropout_rate_one_zero (bern : Nat → Rat → List Nat → Tensor Bool) (key den : Nat) (hden : den ≠ 0)
    (bd : List Int) (x : Tensor Rat) (idx : List Nat) (h : inBounds x.shape idx = true) :
    (dropoutLayer bern key den den false bd x).get idx = 0 := by
  rw [dropoutLayer, dropoutBranch_zeros _ _ _ hden]
  exact get_ofFn (R := Rat) _ _ h

/-- `0 < rate < 1`: `select(mask, x / (1 − rate), 0)` where the mask is the Bernoulli draw for the key, the keep
probability and the mask shape — none of which involves the data -/
theorem dropout_formula (bern : Nat → Rat → List Nat → Tensor Bool) (key num den : Nat) (h0 : num ≠ 0) (h1 : num < den)
    (bd : List Int) (x : Tensor Rat) (idx : List Nat) (h : inBounds x.shape idx = true) :
    ∃ (ms : List Nat), dropoutBranch num den false x.shape bd = .masked (den - num) den ms ∧
      (dropoutLayer bern key num den false bd x).get idx =
        if (bern key (((den - num : Nat) : Rat) / den) ms).getD (bcastIdx ms idx) false
        then x.get idx / (((den - num : Nat) : Rat) / den) else 0 := by
  have hm := dropoutBranch_masked num den x.shape bd h0 (Nat.ne_of_lt h1)
  refine ⟨_, hm, ?_⟩
  rw [dropoutLayer, hm]
  exact get_ofFn (R := Rat) _ _ h

theorem dropout_keep_prob (num den : Nat) (h1 : num ≤ den) (hden : den ≠ 0) :
    (((den - num : Nat) : Rat) / den) = 1 - (num : Rat) / den := by
  have : (den : Rat) ≠ 0 := by exact_mod_cast hden
  rw [Nat.cast_sub h1]
  field_simp

/-- which elements are dropped does not depend on the data: for two inputs of the same shape the dropped positions
coincide (an element is forced to 0 in one exactly when it is in the other) -/
theorem dropout_mask_independent_of_data (bern : Nat → Rat → List Nat → Tensor Bool) (key num den : Nat)
    (h0 : num ≠ 0) (h1 : num < den) (bd : List Int) (x x' : Tensor Rat) (hs : x.shape = x'.shape) (idx : List Nat)
    (h : inBounds x.shape idx = true) :
    ∃ keepIt : Bool,
      (dropoutLayer bern key num den false bd x).get idx = (if keepIt then x.get idx / (((den - num : Nat) : Rat) / den) else 0) ∧
      (dropoutLayer bern key num den false bd x').get idx = (if keepIt then x'.get idx / (((den - num : Nat) : Rat) / den) else 0) := by
  obtain ⟨ms, hb, e⟩ := dropout_formula bern key num den h0 h1 bd x idx h
  obtain ⟨ms', hb', e'⟩ := dropout_formula bern key num den h0 h1 bd x' idx (hs ▸ h)
  rw [← hs, hb] at hb'
  injection hb' with _ _ hms
  subst hms
  exact ⟨_, e, e'⟩

/-! ### Embed (§4 embed_lookup; `attend_is_transposed_product`) -/

section embed
variable {R : Type} [Zero R] [Add R] [Mul R]

omit [Add R] [Mul R] in
/-- `jnp.take` index rule: in range → itself, `−n ≤ i < 0` → `n + i`, anything else → fill (NaN) -/
theorem takeRow_spec (n : Nat) (i : Int) :
    (0 ≤ i ∧ i < n → takeRow n i = some i.toNat) ∧
    (-(n : Int) ≤ i ∧ i < 0 → takeRow n i = some (i + n).toNat ∧ (i + n).toNat < n) ∧
    (i < -(n : Int) ∨ (n : Int) ≤ i → takeRow n i = none) := by
  refine ⟨fun h => if_pos h, fun h => ⟨?_, by omega⟩, fun h => ?_⟩
  · rw [takeRow, if_neg (by omega), if_pos h]
  · rw [takeRow, if_neg (by omega), if_neg (by omega)]

omit [Add R] [Mul R] in
/-- the output is one row of `features` entries per index, in order -/
theorem embed_lookup_rows (table : Tensor R) (idx : List Int) :
    embedLookup table idx = idx.flatMap (embedRow table) ∧ ∀ i, (embedRow table i).length = nth table.shape 1 := by
  exact ⟨rfl, fun i => by simp [embedRow]⟩

omit [Add R] [Mul R] in
/-- entry `j` of the row for index `i` is `table[row, j]` with `row` given by the `take` rule; every entry is NaN
when the index is out of range; a single-row table is broadcast whatever the index -/
theorem embed_row_entry (table : Tensor R) (i : Int) (j : Nat) (hj : j < nth table.shape 1) :
    (embedRow table i)[j]? = some (if nth table.shape 0 = 1 then some (table.get [0, j])
                                   else (takeRow (nth table.shape 0) i).map (fun r => table.get [r, j])) := by
  simp [embedRow, hj]

/-- `attend`: `out[q…, v] = Σ_j query[q…, j] · embedding[v, j]` (product with the transposed table) -/
theorem attend_is_transposed_product (table query : Tensor R) (q : List Nat) (v : Nat)
    (hq : q.length = query.rank - 1)
    (hb : inBounds (query.shape.take (query.rank - 1) ++ [nth table.shape 0]) (q ++ [v]) = true) :
    (embedAttend table query).get (q ++ [v]) =
      sumOver (List.range (nth table.shape 1)) (fun j => query.get (q ++ [j]) * table.get [v, j]) := by
  simp only [embedAttend]
  rw [get_ofFn _ _ hb]
  simp [← hq]

end embed

/-- `padding='SAME'`: the fractionally strided convolution (input dilated by the stride, `_conv_transpose_padding`
pads, stride-1 window of the dilated kernel) has length `n·s` -/
theorem conv_transpose_out_len_same (n kd s : Nat) (hn : 1 ≤ n) (hk : 1 ≤ kd) (hs : 1 ≤ s) :
    outLen (((dilatedLen n s : Nat) : Int) + (transposePads kd s true).1 + (transposePads kd s true).2).toNat kd 1 = n * s :=
  transpose_outLen n kd s true hn hk hs

/-- `padding='VALID'` (also the first stage of CIRCULAR): length `n·s + max(k_d − s, 0)` -/
theorem conv_transpose_out_len_valid (n kd s : Nat) (hn : 1 ≤ n) (hk : 1 ≤ kd) (hs : 1 ≤ s) :
    outLen (((dilatedLen n s : Nat) : Int) + (transposePads kd s false).1 + (transposePads kd s false).2).toNat kd 1
      = n * s + (kd - s) :=
  transpose_outLen n kd s false hn hk hs

/-- CIRCULAR: the VALID result of length `l` is padded by `(−(l − P)) mod 2P` to an odd number of periods `P = n·s` -/
theorem wrap_sum_total_odd_periods (l P : Nat) (hP : 0 < P) :
    (((l : Int) + (-((l : Int) - P)) % (2 * P : Int)) % (2 * P : Int)) = P := by
  rw [Int.add_emod_emod]
  have : (l : Int) + -((l : Int) - P) = P := by ring
  rw [this]
  exact Int.emod_eq_of_lt (by omega) (by omega)

/-- CIRCULAR: the periods are summed: position `p` of the circular output collects every position `j·P + p` of the padded
array (left pad `⌊diff/2⌋` for a transposed kernel, `⌈diff/2⌉` otherwise), so the output length is the period -/
theorem wrap_sum_get {R : Type} [Zero R] [Add R] [Mul R] (y : Tensor R) (ax period : Nat) (tk : Bool) (hp : period ≠ 0)
    (idx : List Nat) (h : inBounds (y.shape.set ax period) idx = true) :
    (wrapSumAxis y ax period tk).shape = y.shape.set ax period ∧
    (wrapSumAxis y ax period tk).get idx =
      sumOver (List.range ((nth y.shape ax + ((-((nth y.shape ax : Nat) : Int) + period) % (2 * period : Int)).toNat) / period)) (fun j =>
        if (if tk then ((-((nth y.shape ax : Nat) : Int) + period) % (2 * period : Int)).toNat / 2
              else (((-((nth y.shape ax : Nat) : Int) + period) % (2 * period : Int)).toNat + 1) / 2) ≤ j * period + nth idx ax 0 ∧
            j * period + nth idx ax 0 <
              (if tk then ((-((nth y.shape ax : Nat) : Int) + period) % (2 * period : Int)).toNat / 2
                else (((-((nth y.shape ax : Nat) : Int) + period) % (2 * period : Int)).toNat + 1) / 2) + nth y.shape ax
        then y.get (idx.set ax (j * period + nth idx ax 0 -
              (if tk then ((-((nth y.shape ax : Nat) : Int) + period) % (2 * period : Int)).toNat / 2
                else (((-((nth y.shape ax : Nat) : Int) + period) % (2 * period : Int)).toNat + 1) / 2)))
        else 0) := by
  have e : (-(((nth y.shape ax : Nat) : Int) - period)) = (-((nth y.shape ax : Nat) : Int) + period) := by omega
  rw [wrapSumAxis, if_neg hp, e]
  exact ⟨rfl, get_ofFn _ _ h⟩

/-! ### the three repaired defects: the model is the repaired code, the code as found is kept as `…Orig` -/

/-- pooling with explicit padding pairs and two batch dimensions: the code as found built a padding list one entry
short (lax rejects it); the repaired code pads every batch dimension -/
theorem pool_explicit_padding_orig_counterexample :
    (poolGeomOrig [2, 1, 2, 1] [1] [] (.explicit [(1, 1)])).toBool = false ∧
    (poolGeom [2, 1, 2, 1] [1] [] (.explicit [(1, 1)])).toBool = true := by decide

/-- repaired: explicit padding pairs are accepted for every number of batch dimensions (none, one, several): the
geometry handed to `reduce_window` has one padding entry per axis -/
theorem pool_explicit_padding_accepted (shape window strides : List Nat) (ps : List (Nat × Nat))
    (hr : window.length + 1 ≤ shape.length) (hs : strides = [] ∨ strides.length = window.length)
    (hp : ps.length = window.length) :
    poolGeom shape window strides (.explicit ps) = .ok (poolGeomCore false shape window strides (.explicit ps)) := by
  refine (poolGeomGen_ok false shape window strides _ _).mpr ⟨⟨hr, ?_, fun _ h => by cases h; exact hp, ?_⟩, rfl⟩
  · split
    · exact List.length_replicate
    · next hne =>
      rcases hs with rfl | h
      · exact absurd rfl hne
      · exact h
  · simp only [poolGeomCore, poolPadSp, Bool.false_eq_true, if_false]
    rw [List.length_append, List.length_append, List.length_replicate, List.length_singleton, hp]
    split
    · rw [List.length_cons]; omega
    · omega

/-- `Embed` with a single row and a scalar index: the code as found broadcast the 2-D table and failed; repaired, it
returns the row -/
theorem embed_single_row_scalar_orig_counterexample :
    embedLookupOrig (⟨[1, 2], #[-4, -1]⟩ : Tensor Int) [] [0] = .error "Broadcast" ∧
    embedLookup (⟨[1, 2], #[-4, -1]⟩ : Tensor Int) [0] = [some (-4), some (-1)] := by decide

/-- NNX `GroupNorm` as found repeated the group statistics along axis 1 instead of the last axis: with statistics per
position (`reduction_axes = [-1]`) on a `2×3×4` input in 2 groups, element `(0,0,2)` (group 1) was normalised with
the statistics of group 0 of its own position. -/
theorem groupnorm_repeat_axis_orig_counterexample :
    let x : Tensor Int := ⟨[2, 3, 4], #[1, -2, 3, 0, 4, 4, -1, 2, 5, -3, 0, 1, 2, 2, -4, 1, 0, 3, 3, -2, 1, -1, 6, -5]⟩
    ((groupNormPieces x 2 (some [-1]) false none none none (some 1)).toOption.map (fun ps => (ps.map (·.stats)).getD 2 none))
      ≠ ((groupNormPieces x 2 (some [-1]) false none none none none).toOption.map (fun ps => (ps.map (·.stats)).getD 2 none)) := by
  decide +kernel

section groupnorm

/-- repaired (and Linen): repeating the statistics tensor `keep ++ [G]` along its *last* axis makes channel `ch` read
the statistics of its own group `ch / groupSize`, at every kept position -/
theorem groupnorm_repeat_last_axis {α : Type} (t : Tensor α) (keep : List Nat) (g gs : Nat) (d : α)
    (ht : t.shape = keep ++ [g]) (kidx : List Nat) (ch : Nat) (hk : inBounds keep kidx = true) (hch : ch < g * gs) :
    (repeatAxis t keep.length gs d).getD (kidx ++ [ch]) d = t.getD (kidx ++ [ch / gs]) d :=
  repeat_last_axis t keep g gs d ht kidx ch hk hch

/-- `GroupNorm` (Linen, and NNX as repaired).  For every input rank ≥ 1, every reduction-axis
specification (default or explicit, negative / repeated entries allowed) that the layer accepts, every group count
dividing the channels, mask and affine parameters: the piece at every index `idx` carries the statistics of exactly
one cell of the grouped tensor — the one at `idx`'s coordinates on the non-reduced leading axes and at the group
`idx[-1] / groupSize` of its channel (`groupStatsAt`: reduced over the leading reduction axes and the channels of that
group, masked-in entries only) — and the scale / bias of its channel.  This identifies the code's data movement
(statistics tensor `keep ++ [G]` → repeat → view with the statistics shape → broadcast) with the documented formula. -/
theorem group_norm_formula (x : Tensor Int) (numGroups : Nat) (redAxes : Option (List Int)) (useFast : Bool)
    (mask scale bias : Option (Tensor Int)) (ps : List NormPiece)
    (hok : groupNormPieces x numGroups redAxes useFast mask scale bias none = .ok ps) :
    ps = (indices x.shape).map (fun idx =>
      ⟨groupStatsAt x (nth x.shape (x.rank - 1) / numGroups) (groupNormRed x.rank redAxes).dropLast
          ((List.range (x.rank - 1)).filter (fun a => !((groupNormRed x.rank redAxes).dropLast.contains a))) useFast mask
          (((List.range (x.rank - 1)).filter (fun a => !((groupNormRed x.rank redAxes).dropLast.contains a))).map (fun a => nth idx a 0)
            ++ [nth idx (x.rank - 1) 0 / (nth x.shape (x.rank - 1) / numGroups)]),
       featureParam x.shape [x.rank - 1] scale 1 idx, featureParam x.shape [x.rank - 1] bias 0 idx⟩) := by
  obtain ⟨h0, h1, ⟨-, hmod⟩, -, rfl⟩ := (groupNormPieces_ok x numGroups redAxes useFast mask scale bias none ps).mp hok
  have hp : (groupNormRed x.rank redAxes).Pairwise (· < ·) := by
    cases redAxes <;> exact (canon_axes_sound _ _).1
  exact groupNormCore_formula x numGroups _ useFast mask scale bias (by omega) (Lists.pairwise_dropLast hp h1)
    (Nat.mul_div_cancel' (Nat.dvd_of_mod_eq_zero hmod))

example : (groupNormPieces (⟨[2, 3, 4], (List.range 24).map (fun i => (i : Int)) |>.toArray⟩ : Tensor Int) 2 (some [-1, 1]) true
    none none none none).toBool = true := by decide +kernel

end groupnorm

/-! ### the whole convolution layer, any number of spatial axes (§4 pad_index_maps) -/

section convlayer
variable {R : Type} [Zero R] [Add R] [Mul R]

/-- `Conv` / `nnx.Conv` (shared weights) as a whole: batch flatten → per-axis `jnp.pad` chosen by the padding mode →
`lax.conv_general_dilated` with the masked kernel → bias → batch unflatten.  Whenever the layer accepts the
configuration, for every number of spatial axes, every number of batch dimensions (none, one, several), every padding
mode, stride, input / kernel dilation, group count, mask and bias, the output element at batch multi-index `b`, spatial
position `o` and feature `fi` is the direct sum (`convElem`)

  `Σ_{kk ∈ kernel offsets} Σ_{ch < C/groups} xval(b, src(o, kk), grp·C/groups + ch) · (K·mask)[kk, ch, fi]  (+ bias[fi])`

where `src(o, kk)` is the product of per-axis index maps: on each axis the lax map `axisSrc` (stride, dilations,
explicit pads; `convSrc`) into the pre-padded axis followed by that axis' `jnp.pad` map `padSrc` (`padIdx`; wrap for
CIRCULAR, reflect for REFLECT, zero fill on the left for CAUSAL, identity otherwise), and `xval` is 0 in zero fill.
(factorisation: `conv_sources_per_axis`). -/
theorem conv_layer_formula (c : ConvCfg) (x k : Tensor R) (bias mask : Option (Tensor R)) (out : Tensor R)
    (hok : convLayer c x k bias mask = .ok out)
    (bs insp : List Nat) (cin : Nat)
    (hx : x.shape = bs ++ (insp ++ [cin])) (hinsp : insp.length = c.kernelSize.length)
    (hbias : ∀ bb, bias = some bb → bb.rank = 1)
    (hfeat : nth k.shape (c.kernelSize.length + 1) % c.groups = 0)
    (b o : List Nat) (fi : Nat) (hb : inBounds bs b = true) (ho : o.length = c.kernelSize.length)
    (hfi : fi < nth k.shape (c.kernelSize.length + 1))
    (hbound : inBounds out.shape (b ++ (o ++ [fi])) = true) :
    k.shape.take c.kernelSize.length = c.kernelSize ∧ nth k.shape c.kernelSize.length = cin / c.groups ∧
    out.get (b ++ (o ++ [fi])) =
      bias.elim (convElem c x (mulMaskCore k mask) insp b o fi)
        (fun bb => convElem c x (mulMaskCore k mask) insp b o fi + bb.get [fi]) := by
  obtain ⟨hc, rfl⟩ := (convLayer_ok c x k bias mask out).mp hok
  have hlast : nth x.shape (x.rank - 1) = cin := by
    simp [Tensor.rank, hx, nth, ← List.append_assoc]
  obtain ⟨-, hcin, hks, hcg⟩ := convCheck_ok c x k mask hc
  rw [hlast] at hcin hcg
  refine ⟨hks, hcg, convCore_get c x k bias mask bs insp cin hx hinsp hbias b o fi hb ho hbound ?_⟩
  intro ch hch
  rw [hcg] at hch ⊢
  exact group_channel_lt c.groups _ cin fi ch hfeat hcin hfi hch

omit [Zero R] [Add R] [Mul R] in
/-- the source multi-index is the product of per-axis maps: the lax map yields `p` exactly when each axis' `axisSrc` yields
`p[j]`, and the `jnp.pad` map yields `s` exactly when each axis' `padSrc` yields `s[j]` -/
theorem conv_sources_per_axis (g : ConvGeom) (sp' o kk p : List Nat) (insp : List Nat) (sp : List (PadMode × Nat × Nat)) (s : List Nat) :
    (convSrc g sp' o kk = some p ↔
      (List.range sp'.length).map (fun j => axisSrc (nth sp' j) (nth g.lhsDil j) (g.pads.getD j (0, 0)).1
        ((nth o j 0 : Int) * (nth g.strides j) + (nth kk j 0 : Int) * (nth g.rhsDil j))) = p.map some) ∧
    (padIdx insp sp p = some s ↔
      List.zipWith (fun (np : Nat × (PadMode × Nat × Nat)) i => padSrc np.2.1 np.1 np.2.2.1 i) (insp.zip sp) p = s.map some) :=
  ⟨mapM_id_some_iff _ _, mapM_id_some_iff _ _⟩

/-- what the padding mode decides (`convPlan`): CIRCULAR / REFLECT pre-pad every spatial axis by `((k_d−1)//2, k_d//2)` in wrap /
reflect mode and convolve VALID; CAUSAL zero-pads `d(k−1)` on the left; VALID / explicit pairs pre-pad nothing (SAME is not among the cases stated) -/
theorem conv_plan_modes (c : ConvCfg) (insp : List Nat) :
    (c.padding = .circular → convPlan c insp =
      ((List.range c.kernelSize.length).map (fun j => (PadMode.wrap, centrePads (nth c.kernelSize j) (nth c.kernelDil j))),
       List.replicate c.kernelSize.length (0, 0))) ∧
    (c.padding = .reflect → convPlan c insp =
      ((List.range c.kernelSize.length).map (fun j => (PadMode.reflect, centrePads (nth c.kernelSize j) (nth c.kernelDil j))),
       List.replicate c.kernelSize.length (0, 0))) ∧
    (c.padding = .causal → convPlan c insp =
      ((List.range c.kernelSize.length).map (fun j => (PadMode.zeros, causalPad (nth c.kernelSize j) (nth c.kernelDil j))),
       List.replicate c.kernelSize.length (0, 0))) ∧
    (c.padding = .valid → convPlan c insp =
      (List.replicate c.kernelSize.length (PadMode.zeros, 0, 0), List.replicate c.kernelSize.length (0, 0))) ∧
    (∀ ps, c.padding = .explicit ps → convPlan c insp = (List.replicate c.kernelSize.length (PadMode.zeros, 0, 0), ps)) := by
  exact ⟨fun h => by rw [convPlan, h], fun h => by rw [convPlan, h], fun h => by rw [convPlan, h],
    fun h => by rw [convPlan, h], fun _ h => by rw [convPlan, h]⟩

example : (convLayer ⟨[3], [2], .circular, [1], [2], 1⟩ (⟨[2, 1, 5, 1], #[1, 2, 3, 4, 5, 6, 7, 8, 9, 10]⟩ : Tensor Int)
    ⟨[3, 1, 1], #[1, 10, 100]⟩ (some ⟨[1], #[7]⟩) none).toBool = true := by decide

end convlayer

/-! ### pooling (`pool_is_window_reduction`, `avg_pool_divisor`, max/min ignore padding) -/

section pool
variable {R : Type} [Zero R] [Add R] [Mul R]

omit [Mul R] in
/-- sum pooling at output position `o` is the sum of the input over the in-range positions of the window placed at
`o·stride − pad` (padding contributes nothing) — any rank, any number of batch dimensions -/
theorem pool_is_window_reduction (x : Tensor R) (g : PoolGeom) (o : List Nat)
    (h : inBounds (poolOutShape x.shape g) o = true) :
    (sumPool x g).get o = sumOver (windowSrcs x.shape g o) x.get := by
  simp only [sumPool]
  exact get_ofFn _ _ h

/-- the geometry `pool` hands to `lax.reduce_window`, for every padding form: window and stride 1 on every batch axis and
on the feature axis, `(0,0)` padding there, and on the spatial axes no padding for `'VALID'`, the lax SAME rule for
`'SAME'`, the given `(lo, hi)` pairs for explicit padding (repaired code: for any number of batch dimensions) -/
theorem pool_geometry (shape window strides : List Nat) (pad : PoolPad) (r : Bool × List Nat × PoolGeom)
    (h : poolGeom shape window strides pad = .ok r) :
    let nb' := if shape.length - (window.length + 1) = 0 then 1 else shape.length - (window.length + 1)
    let strides' := if strides.isEmpty then List.replicate window.length 1 else strides
    let sp := ((if shape.length - (window.length + 1) = 0 then 1 :: shape else shape).drop nb').take window.length
    r.2.2.window = List.replicate nb' 1 ++ window ++ [1] ∧
    r.2.2.strides = List.replicate nb' 1 ++ strides' ++ [1] ∧
    r.2.2.pads = List.replicate nb' (0, 0) ++ poolPadSp pad sp window strides' ++ [(0, 0)] ∧
    poolPadSp .valid sp window strides' = List.replicate window.length (0, 0) ∧
    poolPadSp .same sp window strides' = (List.range window.length).map (fun j => samePads (nth sp j) (nth window j) (nth strides' j)) ∧
    ∀ ps, poolPadSp (.explicit ps) sp window strides' = ps := by
  obtain ⟨-, rfl⟩ := (poolGeomGen_ok false shape window strides pad r).mp h
  refine ⟨rfl, rfl, ?_, rfl, rfl, fun _ => rfl⟩
  cases pad <;> rfl

/-- pooling an all-ones array with the same geometry (what `avg_pool(count_include_pad=False)` divides by) counts
exactly the window positions that fall inside the data -/
theorem pooled_ones_counts_in_bounds (shape : List Nat) (g : PoolGeom) (o : List Nat) :
    pooledOnes shape g o = (windowSrcs shape g o).length := by
  simp only [pooledOnes, windowSrcs]
  rw [foldl_count]; simp

/-- Whatever the padding form (`'SAME'`, `'VALID'` or explicit `(lo, hi)` pairs) and the number of
batch dimensions: every output element is the sum over the in-bounds window positions, divided by the full window size
`prod(window)` when `count_include_pad=True` and by the number of in-bounds window positions when it is `False`. -/
theorem avg_pool_divisor (x : Tensor R) (window strides : List Nat) (pad : PoolPad) (cip : Bool)
    (outShape : List Nat) (parts : List (R × Nat))
    (hok : avgPoolParts x window strides pad cip = .ok (outShape, parts)) :
    ∃ single shape' g, poolGeom x.shape window strides pad = .ok (single, shape', g) ∧
      parts = (indices (poolOutShape shape' g)).map (fun o =>
        (sumOver (windowSrcs shape' g o) (x.reshape shape').get,
         if cip then prod window else (windowSrcs shape' g o).length)) := by
  obtain ⟨⟨single, shape', g⟩, hg, hok⟩ := bind_ok.mp hok
  refine ⟨single, shape', g, hg, ?_⟩
  obtain ⟨-, rfl⟩ := Prod.mk.inj (Except.ok.inj hok)
  show (indices (poolOutShape shape' g)).map _ = _
  apply List.map_congr_left
  intro o ho
  show ((sumPool (x.reshape shape') g).get o, if cip then prod window else pooledOnes shape' g o) = _
  -- the tensor is named: left as `_`, solving `?x.shape = shape'` unfolds `poolOutShape` on both sides
  rw [pool_is_window_reduction (x.reshape shape') g o (inBounds_of_mem_indices ho), pooled_ones_counts_in_bounds]
  rfl

theorem avg_pool_count_le_window (shape : List Nat) (g : PoolGeom) (o : List Nat) :
    (windowSrcs shape g o).length ≤ prod g.window := by
  refine (List.length_filterMap_le _ _).trans ?_
  rw [windowAll, List.length_map, indices_length]

/-- one axis, arithmetic only: a window entirely inside the data has all `w` positions in range -/
theorem window_interior_full (n w s lo o : Nat) (h1 : lo ≤ o * s) (h2 : o * s + w ≤ lo + n) :
    ((List.range w).filter (fun t => decide (lo ≤ o * s + t ∧ o * s + t < lo + n))).length = w := by
  have : (List.range w).filter (fun t => decide (lo ≤ o * s + t ∧ o * s + t < lo + n)) = List.range w := by
    apply List.filter_eq_self.mpr
    intro t ht
    have := List.mem_range.mp ht
    simp; omega
  rw [this]; simp

/-- `max_pool` / `min_pool` ignore padding: `lax.reduce_window` with init −inf / +inf lets every padded position carry
the identity of the reduction, so the result is the max / min over the in-bounds window positions only — and the init
value itself exactly when the window holds padding only -/
theorem extreme_pool_ignores_padding (isMax : Bool) (x : Tensor Int) (g : PoolGeom) (o : List Nat) :
    extremeAt isMax x g o =
      match (windowSrcs x.shape g o).map x.get with
      | [] => none
      | v :: rest => some (rest.foldl (fun a b => if isMax then max a b else min a b) v) := by
  simp only [extremeAt, windowSrcs, extFold_filter]
  cases hl : (windowAll x.shape g o).filterMap id with
  | nil => rfl
  | cons s rest =>
    simp only [List.foldl_cons, List.map_cons]
    have e : extCombine isMax none (some (x.get s)) = some (x.get s) := rfl
    rw [e, extFold_some]
    simp [List.foldl_map]

example : avgPoolParts (⟨[1, 3, 1], #[2, 4, 6]⟩ : Tensor Int) [2] [1] (.explicit [(1, 0)]) false
    = .ok ([1, 3, 1], [(2, 1), (6, 2), (10, 2)]) := by decide

example : extremePool true (⟨[1, 3, 1], #[-2, -4, -6]⟩ : Tensor Int) [2] [1] (.explicit [(2, 0)])
    = .ok ([1, 4, 1], [none, some (-2), some (-2), some (-4)]) := by decide

end pool

/-! ### Dense / Linear, DenseGeneral / LinearGeneral (`dense_general_formula`) -/

section dense
variable {R : Type} [Zero R] [Add R] [Mul R]

/-- `Dense` / `nnx.Linear`: for every input rank ≥ 1 and every leading multi-index,
`out[lead…, f] = Σ_j x[lead…, j]·K[j, f] (+ bias[f])` — the general `dot_general` specification instantiated with the
dimension numbers flax passes, followed by flax's bias reshape -/
theorem dense_formula (x k : Tensor R) (bias : Option (Tensor R)) (lead : List Nat) (f : Nat)
    (hr : 1 ≤ x.rank) (hk : k.rank = 2) (hin : nth x.shape (x.rank - 1) = nth k.shape 0)
    (hl : lead.length + 1 = x.rank) (hbias : ∀ b, bias = some b → b.rank = 1)
    (hb : inBounds ((List.range (x.rank - 1)).map (nth x.shape ·) ++ [nth k.shape 1]) (lead ++ [f]) = true) :
    ∃ y, dense x k bias = .ok y ∧
      y.get (lead ++ [f]) =
        match bias with
        | none => sumOver (List.range (nth x.shape (x.rank - 1))) (fun j => x.get (lead ++ [j]) * k.get [j, f])
        | some b => sumOver (List.range (nth x.shape (x.rank - 1))) (fun j => x.get (lead ++ [j]) * k.get [j, f]) + b.get [f] := by
  have h1 : ¬ (x.rank = 0 ∨ k.rank ≠ 2) := by omega
  have hshape := dotGeneral_last_shape x k hr hk
  rw [← hshape] at hb
  have hdg := dotGeneral_last_get x k lead f hk hl hb
  refine ⟨addBiasSuffix (dotGeneral x k [x.rank - 1] [0] [] []) bias, ?_, ?_⟩
  · simp [dense, h1, hin]
  · have hyr : (dotGeneral x k [x.rank - 1] [0] [] []).shape.length = lead.length + 1 := by
      rw [hshape, List.length_append, List.length_map, List.length_range, List.length_singleton]; omega
    rw [addBiasSuffix_get_last _ bias lead f hbias hyr hb, hdg]
    cases bias <;> rfl

/-- `DenseGeneral` / `nnx.LinearGeneral`.  For every input rank, every `axis` tuple (negative, unsorted
entries allowed; `ax` is its sorted canonical form), batch dimensions `0 … nb−1` and feature tuple: whenever the layer
accepts the configuration, the output at batch coordinates `bidx`, remaining input coordinates `r` and feature
coordinates `f` is

  `Σ_{a ∈ indices(shape at ax)} x[place bidx r a] · K[bidx ++ a ++ f]  (+ bias[bidx ++ f])`

where `place bidx r a = scatterIdx rank (zip (0…nb−1) bidx ++ zip ax a) r` is characterised by `place_assigned` and
`place_free` below: it carries `bidx` at the batch positions, `a` at the sorted contraction axes and `r`, in order, at
all other positions.  The bias (kernel-shaped `batch ++ features`) is the one reshaped to `expanded_batch_shape +
features` and broadcast by numpy's rule. -/
theorem dense_general_formula (axis batchDims : List Int) (nFeat : Nat) (x k : Tensor R) (bias : Option (Tensor R))
    (y : Tensor R) (hok : denseGeneral axis batchDims nFeat x k bias = .ok y)
    (nb : Nat) (bidx r f feats : List Nat)
    (hbd : normalizeAxes x.rank batchDims = List.range nb) (hbl : bidx.length = nb)
    (hr : r.length = ((List.range x.rank).filter
            (fun a => !((normalizeAxes x.rank axis).contains a) && !((List.range nb).contains a))).length)
    (hkr : k.rank = nb + (normalizeAxes x.rank axis).length + f.length)
    (hnb : nb ≤ x.rank) (hge : ∀ a ∈ normalizeAxes x.rank axis, nb ≤ a)
    (hfeats : k.shape.drop (nb + (normalizeAxes x.rank axis).length) = feats)
    (hbs : ∀ b, bias = some b → b.shape = (List.range nb).map (nth x.shape ·) ++ feats)
    (hbi : inBounds ((List.range nb).map (nth x.shape ·)) bidx = true) (hfi : inBounds feats f = true)
    (hb : inBounds y.shape (bidx ++ r ++ f) = true) :
    y.get (bidx ++ r ++ f) =
      match bias with
      | none =>
        sumOver (indices ((normalizeAxes x.rank axis).map (nth x.shape ·))) (fun a =>
          x.get (scatterIdx x.rank ((List.range nb).zip bidx ++ (normalizeAxes x.rank axis).zip a) r) * k.get (bidx ++ a ++ f))
      | some b =>
        sumOver (indices ((normalizeAxes x.rank axis).map (nth x.shape ·))) (fun a =>
          x.get (scatterIdx x.rank ((List.range nb).zip bidx ++ (normalizeAxes x.rank axis).zip a) r) * k.get (bidx ++ a ++ f))
        + b.get (bidx ++ f) := by
  obtain ⟨-, rfl⟩ := (denseGeneral_ok axis batchDims nFeat x k bias y).mp hok
  cases bias <;>
    exact denseGeneralCore_get axis batchDims x k _ nb bidx r f feats hbd hbl hr hkr hnb hge hfeats hbs hbi hfi hb

/-- accepted: a rank-3 input, `axis = (-1, 1)` written unsorted, one batch dimension, two feature dimensions, bias -/
example : (denseGeneral [-1, 1] [0] 2 (⟨[2, 2, 3], #[1, 2, 3, 4, 5, 6, 7, 8, 9, 10, 11, 12]⟩ : Tensor Int)
    ⟨[2, 2, 3, 1, 2], (List.replicate 24 1).toArray⟩ (some ⟨[2, 1, 2], #[1, 2, 3, 4]⟩)).toBool = true := by decide

/-- `DenseGeneral(batch_dims=(0,))` / `nnx.LinearGeneral(batch_axis={0: B})` with a per-batch kernel AND a per-batch bias on an
input `(B, T, D)` with a free axis `T` (neither batch nor contracted), the instance of `dense_general_formula` that the
bias reshape to `expanded_batch_shape + features` exists for: `out[b, t, f] = Σ_d x[b, t, d]·K[b, d, f] + bias[b, f]` —
the bias row is selected by the *batch* coordinate `b`, whatever `T` is (also when `T = B` or `T = 1`). -/
theorem dense_general_batch_formula (x k : Tensor R) (bias : Option (Tensor R)) (y : Tensor R)
    (B T D F : Nat) (hx : x.shape = [B, T, D]) (hk : k.shape = [B, D, F])
    (hbs : ∀ bb, bias = some bb → bb.shape = [B, F])
    (hok : denseGeneral [-1] [0] 1 x k bias = .ok y)
    (b t f : Nat) (hb : b < B) (ht : t < T) (hf : f < F) :
    y.get [b, t, f] =
      match bias with
      | none => sumOver (List.range D) (fun d => x.get [b, t, d] * k.get [b, d, f])
      | some bb => sumOver (List.range D) (fun d => x.get [b, t, d] * k.get [b, d, f]) + bb.get [b, f] := by
  have hr : x.rank = 3 := congrArg List.length hx
  have hkr : k.rank = 3 := congrArg List.length hk
  have hax : normalizeAxes x.rank [-1] = [2] := by rw [hr]; decide
  have hbd : normalizeAxes x.rank [0] = List.range 1 := by rw [hr]; decide
  have hshape : y.shape = [B, T, F] := by
    rw [← ((denseGeneral_ok [-1] [0] 1 x k bias y).mp hok).2, denseGeneralCore_shape]
    simp only [denseGeneralCore, dotGeneral, Tensor.ofFn, hr, hkr, hx, hk]
    rfl
  have hmain := dense_general_formula [-1] [0] 1 x k bias y hok 1 [b] [t] [f] [F] hbd rfl
    (by rw [hax, hr]; rfl) (by rw [hax, hkr]; rfl) (by rw [hr]; omega) (by rw [hax]; simp only [List.mem_singleton, forall_eq]; decide) (by rw [hax, hk]; rfl)
    (by intro bb hbb; rw [hbs bb hbb, hx]; rfl) (by rw [hx]; show (decide (b < B) && true) = true; simp only [hb, decide_true, Bool.and_self]) (by simp only [inBounds, hf, decide_true, Bool.and_self])
    (by rw [hshape]; simp [inBounds, hb, ht, hf])
  have hsc : ∀ d, scatterIdx x.rank ((List.range 1).zip [b] ++ (normalizeAxes x.rank [-1]).zip [d]) [t] = [b, t, d] := by
    intro d
    rw [hax, hr]
    rfl
  have hind : indices ((normalizeAxes x.rank [-1]).map (nth x.shape ·)) = (List.range D).map (fun d => [d]) := by
    rw [hax, hx]; exact indices_singleton D
  rw [hind] at hmain
  simp only [sumOver_map, hsc] at hmain
  cases bias <;> exact hmain

example : (denseGeneral [-1] [0] 1 (⟨[2, 2, 2], #[1, 2, 3, 4, 5, 6, 7, 8]⟩ : Tensor Int) ⟨[2, 2, 1], #[1, -1, 2, 3]⟩
    (some ⟨[2, 1], #[10, 20]⟩)).toBool = true := by decide

omit [Zero R] [Add R] [Mul R] in
/-- `place`: an assigned position carries its value (keys pairwise distinct — flax's batch and contraction axes are) -/
theorem place_assigned (n : Nat) (keys vals rest : List Nat) (hn : keys.Nodup) (hl : keys.length = vals.length)
    (j : Nat) (hj : j < keys.length) (hp : keys[j] < n) :
    (scatterIdx n (keys.zip vals) rest)[keys[j]]'(by simp [scatterIdx_length, hp]) = vals[j]'(by omega) := by
  rw [scatterIdx_getElem n _ _ _ hp]
  simp only [scatterAt, find_zip_nodup keys vals hn hl j hj (by omega)]

omit [Zero R] [Add R] [Mul R] in
/-- `place`: the positions that are not keys, in increasing order, carry `rest` -/
theorem place_free (n : Nat) (keys vals rest : List Nat) (hl : keys.length = vals.length)
    (hr : rest.length = ((List.range n).filter (fun p => !(keys.contains p))).length) :
    ((List.range n).filter (fun p => !(keys.contains p))).map (fun p => (scatterIdx n (keys.zip vals) rest).getD p 0) = rest := by
  refine Eq.trans (List.map_congr_left fun p hp => ?_) (scatterIdx_free_zip n keys vals rest hl hr)
  have hpn : p < n := List.mem_range.mp (List.mem_filter.mp hp).1
  have : (scatterIdx n (keys.zip vals) rest).getD p 0 = (scatterIdx n (keys.zip vals) rest)[p]'(by simp [scatterIdx_length, hpn]) := by
    simp [List.getD, scatterIdx_length, hpn]
  rw [this, scatterIdx_getElem n _ _ p hpn]

end dense

end Flax.C12
