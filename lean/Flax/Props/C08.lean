/-
C08 — NNX vmap / scan / grad match the loop, the stack and jax.grad of the functional form.

Model: Flax/Model/NnxLoop.lean (StateAxes.map_prefix, extract.check_consistent_aliasing, to_tree / from_tree with a
shared ref_index / index_ref, _vmap_split_fn / VmapFn / vmap, _scan_split_in/_out, _scan_merge_in/_out, ScanFn, scan,
_check_out_axes, _check_carry_same_references, DiffState / GradFn / _grad_general transcribed).
Specification side: Flax/Proofs/NnxLoopSpec.lean — the reference computation stated per *Variable* (`VarId`), with no
graphdefs, states, deques or merges: `vmapSpecN` (read out at `vmap_eq_per_index`) and `scanSpecN` (the Python loop, at
`scan_eq_loop_nnx`).

Named assumptions (DESIGN.md §5): A-VMAP (`jax.vmap` = one call per index, results stacked, `None` results unbatched —
the verdict of that check is an input), A-SCAN (`laxScanX`), A-CONV (`Arr.take/stack/toFront/fromFront`), A-AD (`AD`),
A-RNG (C09).  C04 refinement taken as a named hypothesis: the outer `from_tree` writes the returned states into the
caller's Variables by identity (`updateStore`).
-/
import Flax.Model.NnxLoop
import Flax.Proofs.NnxLoopVmapTop
import Flax.Proofs.NnxLoopReject
import Flax.Proofs.NnxLoopGrad
import Flax.Proofs.NnxLoopScanTop
import Flax.Proofs.NnxLoopVmapIff
import Flax.Proofs.NnxLoopScanComplete
import Flax.Proofs.LiftLoopAxes
import Flax.Proofs.LiftLoopArr
import Flax.Proofs.Filter
import Flax.Props.C09

namespace Flax.C08
open Flax.Filter Flax.NnxLoop
open Flax.LiftLoop (Arr takeAt stackAt normAxis)

/-- **`state_axes_first_match`.**  For every `StateAxes`, path and Variable: `map_prefix` returns the axis of the first
filter whose predicate holds (`firstMatch` is C14's index of the first matching predicate) and raises when none does. -/
theorem state_axes_first_match (sa : StateAxes) (p : Path) (x : VarInfo) :
    mapPrefix sa p x =
      match sa[firstMatch (sa.map (·.1)) p x]? with
      | some fa => .ok fa.2
      | none => .error .noAxisFound :=
  mapPrefix_eq sa p x

/-- the axis `map_prefix` answers is the one paired with the *first* matching filter: no earlier filter holds (C14
`firstMatch_spec`) -/
theorem state_axes_first_match_spec (sa : StateAxes) (p : Path) (x : VarInfo) (a : Ax)
    (h : mapPrefix sa p x = .ok a) :
    ∃ f, sa[firstMatch (sa.map (·.1)) p x]? = some (f, a) ∧ denote f p x = true ∧
      ∀ j, j < firstMatch (sa.map (·.1)) p x → ∀ g b, sa[j]? = some (g, b) → denote g p x = false := by
  obtain ⟨f, hs⟩ := mapPrefix_ok_iff.1 h
  have hsp := Flax.Filter.firstMatch_spec (sa.map (·.1)) p x
  exact ⟨f, hs, hsp.2 f (by rw [List.getElem?_map, hs]; rfl),
    fun j hj g b hg => hsp.1 j hj g (by rw [List.getElem?_map, hg]; rfl)⟩

/-- **Every Variable of an argument is routed to exactly one state**, the one of its first matching filter, whose
axis is what `map_prefix` answers for it (`ctx.split(x, *prefix.filters)` zipped with `prefix.axes`). -/
theorem state_axes_partition {α : Type} (p : Prefix) (flat : Flat α) (sts : List (State α))
    (h : splitFlat p flat = .ok sts) :
    sts.length = p.axes.length ∧
    (∀ x ∈ flat, ∃ s, sts[groupIdx p x.1 x.2.1]? = some s ∧ (x.1, x.2.2) ∈ s ∧
      axAt p x.1 x.2.1 = p.axes[groupIdx p x.1 x.2.1]?) ∧
    (∀ g s, sts[g]? = some s → ∀ pv ∈ s, ∃ x ∈ flat, pv = (x.1, x.2.2) ∧ groupIdx p x.1 x.2.1 = g) := by
  obtain ⟨hl, hmem, hlt⟩ := splitFlat_spec h
  refine ⟨hl, ?_, ?_⟩
  · intro x hx
    have hg := hlt x hx
    exact ⟨_, List.getElem?_eq_getElem hg, (hmem _ _ (List.getElem?_eq_getElem hg) _).2 ⟨x, hx, rfl, rfl⟩, rfl⟩
  · intro g s hs pv hpv
    exact (hmem g s hs pv).1 hpv

example : optX (mapPrefix [(.ofType "Param", .axis 0), (.pathContains "b", .bcast), (.everything, .carry)]
    ["m", "b"] ⟨["BatchStat", "Variable"], none⟩) = some .bcast := by decide +kernel
example : optX (mapPrefix [(.ofType "Param", .axis 0)] ["m", "b"] ⟨["BatchStat", "Variable"], none⟩) = none := by
  decide +kernel

/-- what `check_consistent_aliasing` decides: no Variable with two different prefixes -/
theorem consistent_iff_no_two_axes (np : NodePrefixes) :
    consistent np = true ↔ ∀ x ∈ np, ∀ y ∈ np, x.1 = y.1 → x.2 = y.2 :=
  consistent_iff np

/-- **`inconsistent_aliasing_rejected`** (vmap).  For all arguments, prefixes, functions: if every occurrence of every
Variable gets an axis but two occurrences of one Variable — in one argument under two paths, or in two arguments —
get different ones, `nnx.vmap` raises `InconsistentAliasing`, whatever the function: nothing is traced, nothing written. -/
theorem inconsistent_aliasing_rejected {α : Type} [Inhabited α] (inAxes outAxes : AxesSpec) (axisSize : Option Nat)
    (verdict : Bool) (args : List (Arg α)) (store : Store α) (ps : List Prefix) (npF : NodePrefixes)
    (hok : (inAxes.isBareStateAxes || inAxes.hasCarry || outAxes.hasCarry) = false)
    (hps : inAxes.expand args.length = .ok ps)
    (h : allPrefixes (ps.zip args) [] = .ok npF)
    (x y : VarId × Ax) (hx : x ∈ npF) (hy : y ∈ npF) (hid : x.1 = y.1) (hne : x.2 ≠ y.2)
    (hst : ∀ pa ∈ ps.zip args, ∀ es, pa.2 = .node es → ∀ e ∈ es, (store.lookup e.id).isSome) :
    ∀ body : Body α, nnxVmap inAxes outAxes axisSize verdict body args store = .error .inconsistentAliasing := by
  intro body
  have hnc : consistent npF = false := by
    cases hc : consistent npF with
    | false => rfl
    | true => exact absurd ((consistent_iff npF).1 hc x hx y hy hid) hne
  exact nnxVmap_inconsistent inAxes outAxes axisSize verdict body args store ps npF hok hps h hnc
    (owned_stored_of_all [] hst)

/-- whenever `to_tree` goes through, all occurrences of every Variable agree: it is then treated as one
object (one entry of the `index_ref`, one value seen by the function — `vmap_call_sees_slices`) -/
theorem accepted_aliasing_is_consistent {α : Type} (store : Store α) (pas : List (Prefix × Arg α))
    (pure : List (PureArg α)) (h : toTree store pas [] [] = .ok pure) :
    ∃ npF, allPrefixes pas [] = .ok npF ∧ ∀ x ∈ npF, ∀ y ∈ npF, x.1 = y.1 → x.2 = y.2 := by
  obtain ⟨npF, h1, h2⟩ := toTree_ok_consistent store pas [] [] pure rfl h
  exact ⟨npF, h1, (consistent_iff npF).1 h2⟩

def errOf {β : Type} (r : Except Err β) : Option Err :=
  match r with
  | .error e => some e
  | .ok _ => none

/-- non-vacuity: one Variable (id 7) under `x/v` and `y/v` of one argument, `PathContains('x') ↦ 0`, everything else
`None` -/
example : errOf (toTree (α := Int) [(7, ⟨[3], [([0], 1), ([1], 2), ([2], 3)]⟩)]
    [(.sa [(.pathContains "x", .axis 0), (.everything, .bcast)],
      .node [⟨["x", "v"], 7, ⟨["Param"], none⟩⟩, ⟨["y", "v"], 7, ⟨["Param"], none⟩⟩])] [] [])
    = some .inconsistentAliasing := by decide +kernel

/-- **What every index sees** (`to_tree` → per-state slicing → inner `from_tree`).  For every store, argument list
with Variables shared in any way, prefix per argument, index `i`: the traced function is called on exactly one value
per reachable Variable, in first-occurrence order — `take(value, i, axis)` if the first matching filter of its
argument's prefix gives an axis, the value itself if it gives `None` — and on the array arguments sliced likewise. -/
theorem vmap_call_sees_slices {α : Type} [Inhabited α] (store : Store α) (i : Nat) (pas : List (Prefix × Arg α))
    (pure sl : List (PureArg α)) (hwf : WFArgs pas) (ht : toTree store pas [] [] = .ok pure)
    (hs : mapX (sliceArg i) pure = .ok sl) :
    ∃ ins, mapX (sliceEntry store i) (ownedAll pas []) = .ok ins ∧ mergeAll sl [] = .ok ins ∧
      mapX (sliceArr i) (arrArgs pas) = .ok (arraysOf sl) := by
  obtain ⟨ins, h1, h2, h3⟩ := Flax.NnxLoop.vmap_call_sees_slices i (toTree_ok_iff.1 ht) hwf sl [] hs rfl
  exact ⟨ins, h1, by simpa using h2, h3⟩

/-- **`vmap_eq_per_index`.**  For every function, store, argument list (aliasing included), `in_axes` / `out_axes`
(single entries or tuples of ints, `None`, `StateAxes` of arbitrary filters), `axis_size` and verdict of jax's
unbatchedness check: whenever `nnx.vmap` returns, the per-index reference `vmapSpecN` is defined for `n ≥ 1` indices
— `n` being the size of *every* mapped Variable and mapped array argument along its axis, and `axis_size` if given —
and returns the same final store and the same results.  `vmapSpecN`: index `i` is `f` on the per-Variable slices;
afterwards every Variable with an axis holds `jnp.stack` of its per-index values along that axis, every `None`
Variable the shared (index-0) value; array results are stacked along their out axis (`None`: the unbatched value), fresh
graph nodes Variable by Variable under the out prefix's first matching filter.

Hypotheses: `hwf` — paths inside one graph node are distinct; `houts` — what a single trace guarantees about results
(`OutColWF`: the fresh nodes returned at one result position have the same Variables, and distinct paths). -/
theorem vmap_eq_per_index {α : Type} [Inhabited α] {inAxes outAxes : AxesSpec} {axisSize : Option Nat}
    {verdict : Bool} {body : Body α} {args : List (Arg α)} {store : Store α} {res : Store α × List (Out α)}
    (h : nnxVmap inAxes outAxes axisSize verdict body args store = .ok res)
    (hwf : ∀ ps, inAxes.expand args.length = .ok ps → WFArgs (ps.zip args))
    (houts : ∀ ps n calls, inAxes.expand args.length = .ok ps →
      mapX (vmapCall body store (ps.zip args)) (List.range n) = .ok calls →
      ∀ k col, column k (calls.map (·.2)) = .ok col → OutColWF col) :
    ∃ ps n, inAxes.expand args.length = .ok ps ∧ 0 < n ∧ verdict = true ∧
      inAxes.hasCarry = false ∧ outAxes.hasCarry = false ∧
      ((∀ ep ∈ ownedAll (ps.zip args) [], ∀ k, ep.2.at ep.1 = .ok (.axis k) →
          ∃ v, store.lookup ep.1.id = some v ∧ Flax.LiftLoop.dimAt k v = .ok n) ∧
        (∀ pa ∈ arrArgs (ps.zip args), ∀ k, pa.1 = .ax (.axis k) → Flax.LiftLoop.dimAt k pa.2 = .ok n) ∧
        (∀ m, axisSize = some m → m = n)) ∧
      vmapSpecN n outAxes body (ps.zip args) store = .ok res :=
  nnxVmap_sound h hwf houts

/-- **`to_tree` accepts exactly consistent aliasing.**  With a store holding every Variable: `to_tree` returns iff every
occurrence of every Variable gets an axis from its argument's prefix (`allPrefixes` defined: no `No axis found`) and
all occurrences of each Variable agree.  (→ is `accepted_aliasing_is_consistent`; ← : no spurious rejection.) -/
theorem to_tree_accepts_iff {α : Type} [Inhabited α] (store : Store α) (pas : List (Prefix × Arg α))
    (hst : ∀ pa ∈ pas, ∀ es, pa.2 = .node es → ∀ e ∈ es, (store.lookup e.id).isSome) :
    (∃ pure, toTree store pas [] [] = .ok pure) ↔
      ∃ npF, allPrefixes pas [] = .ok npF ∧ consistent npF = true :=
  toTree_accepts_iff store pas [] [] rfl (owned_stored_of_all [] hst)

/-- **No rejection before the calls.**  If the aliasing is consistent and, for index `i`, the reference values
(`sliceEntry` of every reachable Variable, `sliceArr` of every array argument) are defined, then `to_tree` and
jax.vmap's slicing succeed and the traced function *is* called at index `i` — on exactly those values.
(The stages after the calls: `vmap_accepts_iff`.) -/
theorem vmap_no_rejection_before_calls {α : Type} [Inhabited α] (store : Store α) (pas : List (Prefix × Arg α))
    (npF : NodePrefixes) (hwf : WFArgs pas) (h1 : allPrefixes pas [] = .ok npF) (h2 : consistent npF = true)
    (hst : ∀ pa ∈ pas, ∀ es, pa.2 = .node es → ∀ e ∈ es, (store.lookup e.id).isSome)
    (i : Nat) (ins : Store α) (arrs : List (Arr α))
    (hins : mapX (sliceEntry store i) (ownedAll pas []) = .ok ins)
    (harrs : mapX (sliceArr i) (arrArgs pas) = .ok arrs) :
    ∃ pure sl, toTree store pas [] [] = .ok pure ∧ mapX (sliceArg i) pure = .ok sl ∧
      mergeAll sl [] = .ok ins ∧ arraysOf sl = arrs := by
  obtain ⟨pure, hp⟩ := toTree_complete store pas [] [] npF h1 h2 (owned_stored_of_all [] hst)
  obtain ⟨sl, hsl, e2, e3⟩ := vmap_call_defined i (toTree_ok_iff.1 hp) hwf hins harrs [] rfl
  exact ⟨pure, sl, hp, hsl, by simpa using e2, e3⟩

/-- **`vmap_accepts_iff`** (`vmap_rejects_iff` read as acceptance).  For every function, store, arguments, axes,
`axis_size`, verdict: the model of `nnx.vmap` returns **iff** `VmapAccepts` (Proofs/NnxLoopVmapIff.lean): no `Carry` and
no bare `StateAxes` in the axes specifications (jax.vmap's own TypeError); a positive unbatchedness verdict; `in_axes`
matching the arguments; every occurrence of every Variable given an axis (`No axis found` otherwise) and all occurrences
of one Variable the same axis (`Inconsistent aliasing` otherwise); every mapped Variable and array argument of one size
`n` along its axis, `axis_size = n` if given and something mapped if not (jax's size complaints otherwise); and the
per-index reference `vmapSpecN n` defined — the function total on the per-Variable slices at every index and leaving
every Variable a value, `out_axes` matching the results (arity, an axis for every Variable of a fresh node, no
`StateAxes` on an array), `jnp.stack` accepting the per-index values.  Whenever it accepts it returns the reference's
result (`vmap_eq_per_index`).  `huni`: what a single trace guarantees (all indices return equally many results; `houts`
of `vmap_eq_per_index`). -/
theorem vmap_accepts_iff {α : Type} [Inhabited α] {inAxes outAxes : AxesSpec} {axisSize : Option Nat} {verdict : Bool}
    {body : Body α} {args : List (Arg α)} {store : Store α}
    (hwf : ∀ ps, inAxes.expand args.length = .ok ps → WFArgs (ps.zip args))
    (huni : ∀ ps n calls, inAxes.expand args.length = .ok ps →
      mapX (vmapCall body store (ps.zip args)) (List.range n) = .ok calls → TraceUniform calls) :
    (∃ res, nnxVmap inAxes outAxes axisSize verdict body args store = .ok res) ↔
      VmapAccepts inAxes outAxes axisSize verdict body args store :=
  nnxVmap_accepts_iff hwf huni

/-- **`vmap_rejects_iff`.**  The model of `nnx.vmap` raises **iff** one of the conditions of `VmapAccepts` fails. -/
theorem vmap_rejects_iff {α : Type} [Inhabited α] {inAxes outAxes : AxesSpec} {axisSize : Option Nat} {verdict : Bool}
    {body : Body α} {args : List (Arg α)} {store : Store α}
    (hwf : ∀ ps, inAxes.expand args.length = .ok ps → WFArgs (ps.zip args))
    (huni : ∀ ps n calls, inAxes.expand args.length = .ok ps →
      mapX (vmapCall body store (ps.zip args)) (List.range n) = .ok calls → TraceUniform calls) :
    (∃ e, nnxVmap inAxes outAxes axisSize verdict body args store = .error e) ↔
      ¬ VmapAccepts inAxes outAxes axisSize verdict body args store :=
  nnxVmap_rejects_iff hwf huni

/-- the converse on its own, with the hypotheses spelled out: a defined reference is never rejected -/
theorem vmap_no_spurious_rejection {α : Type} [Inhabited α] {inAxes outAxes : AxesSpec} {axisSize : Option Nat}
    {body : Body α} {args : List (Arg α)} {store : Store α} {ps : List Prefix} {npF : NodePrefixes} {n : Nat}
    {res : Store α × List (Out α)}
    (hok : (inAxes.isBareStateAxes || inAxes.hasCarry || outAxes.hasCarry) = false)
    (hps : inAxes.expand args.length = .ok ps) (hal : allPrefixes (ps.zip args) [] = .ok npF)
    (hcons : consistent npF = true) (hwf : WFArgs (ps.zip args))
    (hsz1 : ∀ ep ∈ ownedAll (ps.zip args) [], ∀ k, ep.2.at ep.1 = .ok (.axis k) →
      ∃ v, store.lookup ep.1.id = some v ∧ Flax.LiftLoop.dimAt k v = .ok n)
    (hsz2 : ∀ pa ∈ arrArgs (ps.zip args), ∀ k, pa.1 = .ax (.axis k) → Flax.LiftLoop.dimAt k pa.2 = .ok n)
    (hsz3 : ∀ m, axisSize = some m → m = n) (hsz4 : axisSize = none → HasMapped (ps.zip args) [])
    (hspec : vmapSpecN n outAxes body (ps.zip args) store = .ok res)
    (huni : ∀ calls, mapX (vmapCall body store (ps.zip args)) (List.range n) = .ok calls → TraceUniform calls) :
    ∃ res', nnxVmap inAxes outAxes axisSize true body args store = .ok res' :=
  nnxVmap_complete hok hps hal hcons hwf hsz1 hsz2 hsz3 hsz4 hspec huni

/-- state side of `vmap_eq_per_index` on its own: the caller's Variables end as `collectVal axis [per-index values]`,
written in first-occurrence order; Variables not reachable from the arguments are untouched (`writeAll` only sets) -/
theorem vmap_state_is_stack_of_updates {α : Type} [Inhabited α] (store0 : Store α) (pas : List (Prefix × Arg α))
    (pure : List (PureArg α)) (hwf : WFArgs pas) (ht : toTree store0 pas [] [] = .ok pure)
    (a0 : Store α) (arest : List (Store α)) (rows : List (List (List (State α))))
    (hrows : mapX (fun st => mapX (splitArgOut st) pure) (a0 :: arest) = .ok rows)
    (store store' : Store α) (hwb : vmapWriteBack rows pure store = .ok store') :
    ∃ vals, mapX (collectEntry (a0 :: arest)) (ownedAll pas []) = .ok vals ∧ store' = writeAll vals store :=
  vmap_write_back (toTree_ok_iff.1 ht) hwf a0 arest rows hrows store store' hwb

/-- the `None` case of `collectVal`: shared state is the (index-independent) value the calls left, not a stack -/
theorem vmap_none_is_shared {α : Type} [Inhabited α] (v0 : Arr α) (vs : List (Arr α)) :
    collectVal .bcast (v0 :: vs) = .ok v0 := rfl

/-- the axis case of `collectVal` is `jnp.stack` along the declared (possibly negative) axis, whose `i`-th slice is the value index
`i` left (C06 `stack_slice`): slicing on the way in and stacking on the way out are mutually inverse -/
theorem vmap_axis_is_stack {α : Type} [Inhabited α] [DecidableEq α] (k : Int) (v0 : Arr α) (vs : List (Arr α))
    (S : Arr α) (h : collectVal (.axis k) (v0 :: vs) = .ok S) (hwf : ∀ y ∈ v0 :: vs, Arr.WF y = true)
    (i : Nat) (hi : i < (v0 :: vs).length) : sliceVal i (.axis k) S = .ok (v0 :: vs)[i] := by
  simp only [collectVal] at h
  simp only [sliceVal, Flax.LiftLoop.takeAt_stackAt (liftL_ok.1 h) hwf i hi]
  rfl

/-! non-vacuity: one graph node with a Param mapped along axis 0 and a shared BatchStat, plus a mapped array;
`f(m, x): m.w += x; m.c += 1; return sum(m.w)` as a finite function -/

def exVec (l : List Int) : Arr Int := Arr.ofFn [l.length] (fun i => l.getD (i.getD 0 0) 0)
def exScalar (v : Int) : Arr Int := Arr.ofFn [] (fun _ => v)

def exArgs : List (Arg Int) :=
  [.node [⟨["c"], 1, ⟨["BatchStat", "Variable"], none⟩⟩, ⟨["w"], 0, ⟨["Param", "Variable"], none⟩⟩], .arr (exVec [5, 7])]

def exIn : AxesSpec := .perArg [.sa [(.ofType "Param", .axis 0), (.everything, .bcast)], .ax (.axis 0)]

def exStore : Store Int := [(0, exVec [10, 20]), (1, exScalar 3)]

def exBody : Body Int := fun st arrs =>
  match st, arrs with
  | [(1, c), (0, w)], [x] =>
    .ok ([(1, exScalar (c.getD [] + 1)), (0, exScalar (w.getD [] + x.getD []))], [.arr (exScalar (w.getD [] + x.getD []))])
  | _, _ => .error (.body "KeyError")

/-- observable part of a result: the store and the array results -/
def exView (r : Except Err (Store Int × List (Out Int))) : Option (Store Int × List (Option (Arr Int))) :=
  (optX r).map (fun x => (x.1, x.2.map (fun o => match o with | .arr a => some a | _ => none)))

example : exView (nnxVmap exIn (.uniform (.ax (.axis 0))) none true exBody exArgs exStore)
    = some ([(0, exVec [15, 27]), (1, exScalar 4)], [some (exVec [15, 27])]) := by decide +kernel

example : exView (vmapSpecN 2 (.uniform (.ax (.axis 0))) exBody
    ([Prefix.sa [(.ofType "Param", .axis 0), (.everything, .bcast)], .ax (.axis 0)].zip exArgs) exStore)
    = some ([(0, exVec [15, 27]), (1, exScalar 4)], [some (exVec [15, 27])]) := by decide +kernel

/-! both sides of `vmap_rejects_iff` are inhabited: the example call above is accepted; the same call is rejected with a
negative unbatchedness verdict, with a size mismatch (`axis_size = 3` against leaves of size 2), with `Carry` in
`in_axes`, and with an `out_axes` tuple of the wrong length -/
example : errOf (nnxVmap exIn (.uniform (.ax (.axis 0))) none false exBody exArgs exStore)
    = some .unbatchedOutExpected := by decide +kernel
example : errOf (nnxVmap exIn (.uniform (.ax (.axis 0))) (some 3) true exBody exArgs exStore)
    = some (.lax .leadingAxisMismatch) := by decide +kernel
example : errOf (nnxVmap (.perArg [.sa [(.everything, .carry)], .ax (.axis 0)]) (.uniform (.ax (.axis 0))) none true
    exBody exArgs exStore) = some .invalidAxes := by decide +kernel
example : errOf (nnxVmap exIn (.perArg [.ax (.axis 0), .ax (.axis 0)]) none true exBody exArgs exStore)
    = some .prefixArity := by decide +kernel

/-- **`scan_out_axes_rejected`.**  `_check_out_axes` lets an `out_axes` through exactly when no entry is `None` and no
`StateAxes` entry maps a filter to `None` or `Carry`; otherwise `nnx.scan(f, …)` raises (`Cannot broadcast output
state` / `Cannot carry output state`) when it is built — whatever `in_axes`, function, arguments. -/
theorem scan_out_axes_rejected (outAxes : AxesSpec) :
    (checkOutAxes outAxes = .ok () ↔
      match outAxes with
      | .uniform p => p.okOut
      | .perArg ps => ∀ p ∈ ps, p.okOut) ∧
    (∀ e, checkOutAxes outAxes = .error e → (e = .outAxesBroadcast ∨ e = .outAxesCarry) ∧
      ∀ {α : Type} [Inhabited α] (inAxes : AxesSpec) (length : Option Nat) (reverse : Bool) (nOuts : Nat)
        (body : Body α) (args : List (Arg α)) (store : Store α),
        nnxScan inAxes outAxes length reverse nOuts body args store = .error e) := by
  constructor
  · cases outAxes with
    | uniform p => exact prefix_outOk_iff p
    | perArg ps => exact prefixesOutOk_iff ps
  · intro e he
    constructor
    · cases outAxes with
      | uniform p => exact prefix_outOk_error he
      | perArg ps => exact prefixesOutOk_error he
    · intro α _ inAxes length reverse nOuts body args store
      simp [nnxScan, scanSetup, he]

example : checkOutAxes (.perArg [.ax .carry, .ax .bcast]) = .error .outAxesBroadcast := rfl
example : checkOutAxes (.perArg [.ax .carry, .sa [(.ofType "Param", .axis 0), (.everything, .carry)]])
    = .error .outAxesCarry := rfl
example : checkOutAxes (.perArg [.ax .carry, .sa [(.ofType "Param", .axis 0), (.everything, .axis 1)]]) = .ok () := rfl

/-- **carry references must be the same objects.**  `_check_carry_same_references` accepts exactly: no carry and
nothing returned for it; an array carry and an array returned; a graph-node carry and *that very argument* returned.
A fresh graph node, another argument, or an array where a node is carried raises `carryRefs`. -/
theorem scan_carry_refs_checked {α : Type} (ca : CarryArg) (o : Option (Out α)) :
    (∃ r, checkCarryRefs ca o = .ok r) ↔
      (ca = .none ∧ o = none) ∨ (ca = .array ∧ ∃ a, o = some (.arr a)) ∨ (∃ k, ca = .node k ∧ o = some (.argRef k)) := by
  constructor
  · rintro ⟨r, h⟩
    unfold checkCarryRefs at h
    split at h
    · exact Or.inl ⟨rfl, rfl⟩
    · exact Or.inr (Or.inl ⟨rfl, _, rfl⟩)
    · split at h
      · rename_i hk; subst hk; exact Or.inr (Or.inr ⟨_, rfl, rfl⟩)
      · cases h
    · cases h
  · rintro (⟨rfl, rfl⟩ | ⟨rfl, a, rfl⟩ | ⟨k, rfl, rfl⟩)
    · exact ⟨_, rfl⟩
    · exact ⟨_, rfl⟩
    · exact ⟨none, by simp only [checkCarryRefs, if_true]⟩

/-- `moveaxis(x, axis, 0)` before the loop and the leading-axis slice inside it give `take(x, i, axis)`; stacking along 0
and `moveaxis(x, 0, axis)` afterwards is stacking along `axis` — the two transposes are mutually inverse (C06
`transpose_front_inverse`, here on the leaves `nnx.scan` moves) -/
theorem scan_moveaxis_slice_stack {α : Type} [Inhabited α] (k : Int) :
    (∀ (a F : Arr α) (i : Nat), Arr.toFront k a = .ok F → F.take 0 i = takeAt k i a) ∧
    (∀ (sh : List Nat) (ls : List (Arr α)),
      Flax.LiftLoop.opt (Flax.LiftLoop.stackFront k sh ls) = Flax.LiftLoop.opt (stackAt k sh ls)) :=
  ⟨fun a F i h => Flax.LiftLoop.take_front_eq a F k h i, fun sh ls => Flax.LiftLoop.stackFront_opt k sh ls⟩

/-- **`moveaxis_inv`.**  The two `moveaxis` calls of `nnx.scan` are mutually inverse, for every rank and every axis in
`[-rank, rank)` — in particular axes `≥ 2` on rank `≥ 3` and negative axes, where `moveaxis(x, 0, k)` and
`moveaxis(x, k, 0)` differ.  Stated on what scan does with them: stack per-iteration values `ls` along 0 and
`moveaxis(·, 0, k)` (the way out: `stackFront`), then `moveaxis(·, k, 0)` (the way in: `toFront`) and take the leading
slice `i` — the result is `ls[i]` again; and the same array is `jnp.stack(ls, axis=k)`, whose slice `i` along `k` is
`ls[i]`.  (Axis arithmetic of the two permutations: C06 `transpose_front_inverse`.) -/
theorem moveaxis_inv {α : Type} [Inhabited α] [DecidableEq α] (k : Int) (sh : List Nat) (ls : List (Arr α))
    (S F : Arr α) (hout : Flax.LiftLoop.stackFront k sh ls = .ok S) (hin : Arr.toFront k S = .ok F)
    (hwf : ∀ y ∈ ls, Arr.WF y = true) (i : Nat) (hi : i < ls.length) :
    F.take 0 i = .ok ls[i] ∧ takeAt k i S = .ok ls[i] ∧ stackAt k sh ls = .ok S := by
  have hS : stackAt k sh ls = .ok S := Flax.LiftLoop.stackFront_eq_ok.1 hout
  have hslice : takeAt k i S = .ok ls[i] := Flax.LiftLoop.takeAt_stackAt hS hwf i hi
  exact ⟨by rw [Flax.LiftLoop.take_front_eq S F k hin i]; exact hslice, hslice, hS⟩

/-- the shape side of `moveaxis_inv`, both ways round, for every axis in `[-rank, rank)` (C06) -/
theorem moveaxis_inv_axes {β : Type} (xs : List β) (k : Int) (hlo : -(xs.length : Int) ≤ k) (hhi : k < xs.length) :
    (Flax.LiftLoop.axesToFront k xs >>= Flax.LiftLoop.axesFromFront k) = .ok xs ∧
    (Flax.LiftLoop.axesFromFront k xs >>= Flax.LiftLoop.axesToFront k) = .ok xs :=
  Flax.LiftLoop.axes_front_inverse xs k hlo hhi

/-! non-vacuity on rank 3: axis 2 and axis −1 (where the two directions of `moveaxis` differ), three iterations of
shape `[2, 1]` stacked to `[2, 1, 3]`; and the swapped direction (the seeded change) gives another array -/
def exRows : List (Arr Int) :=
  [Arr.ofFn [2, 1] (fun i => (i.getD 0 0 : Int)), Arr.ofFn [2, 1] (fun i => 10 + (i.getD 0 0 : Int)),
   Arr.ofFn [2, 1] (fun i => 20 + (i.getD 0 0 : Int))]

example : (Flax.LiftLoop.stackFront 2 [2, 1] exRows).toOption.map (·.shape) = some [2, 1, 3] := by decide +kernel
example : (Flax.LiftLoop.stackFront 2 [2, 1] exRows).toOption = (stackAt (-1) [2, 1] exRows).toOption := by decide +kernel
example : ((Flax.LiftLoop.stackFront 2 [2, 1] exRows >>= Arr.toFront 2) >>= (fun F => F.take 0 1)).toOption
    = exRows[1]? := by decide +kernel
example : ((Flax.LiftLoop.stackFront (-1) [2, 1] exRows >>= Arr.toFront (-1)) >>= (fun F => F.take 0 2)).toOption
    = exRows[2]? := by decide +kernel
/-- `moveaxis(x, 2, 0)` on the way out instead of `moveaxis(x, 0, 2)`: a different shape -/
example : ((Arr.stack [2, 1] 0 exRows) >>= Arr.toFront 2).toOption.map (·.shape) = some [1, 3, 2] := by decide +kernel

/-- **What every iteration sees** (`_scan_split_in` → `lax.scan` slice → `_scan_merge_in`, three routes, three deques
popped in argument order).  For every store, arguments with any aliasing, prefixes (ints, `None`, `Carry`, `StateAxes`),
iteration index `i`, values `cur` left by the iteration processed before and array carry `carr`: the traced function is
called on exactly one value per reachable Variable, in first-occurrence order — `take(original, i, axis)` for an axis,
the *original* value for `None` (broadcast state is shared and constant), `cur`'s value for `Carry` — and on the array
arguments sliced / carried / broadcast. -/
theorem scan_iteration_sees {α : Type} [Inhabited α] (store cur : Store α) (i : Nat) (carr : Option (Arr α))
    (pas : List (Prefix × Arg α)) (si : ScanIn α) (xs : List (SPure α))
    (parts : List (Option (List (State α) × List (State α))))
    (hwf : WFArgs pas) (hs : scanSplitIn store pas [] [] = .ok si) (hx : mapX (spureAt i) si.pure = .ok xs)
    (hp : mapX (scanSplitArgOut cur) si.pure = .ok parts) :
    ∃ ins arrs, mapX (scanEntryIn store cur i) (ownedAll pas []) = .ok ins ∧
      mapX (scanArrIn carr i) (arrArgs pas) = .ok arrs ∧
      scanMergeIn xs ((parts.filterMap id).map (·.2)) si.bcastDeque si.bcastArrays carr [] = .ok (ins, arrs) := by
  obtain ⟨pure, hS, hR⟩ := scanSplitIn_ok_iff.1 hs
  obtain ⟨ins, arrs, h1, h2, h3⟩ := Flax.NnxLoop.scan_iteration_sees cur i carr hS hR hwf xs parts [] hx hp rfl
  exact ⟨ins, arrs, h1, h2, by simpa using h3⟩

/-- **broadcast leaves are consumed first-in first-out.**  `_scan_split_in` appends the `in_axes=None` non-graph leaves to
`broadcast_arrays` in argument order and `_scan_merge_in` pops them from the *left*: with any number of broadcast
leaves — here two, `a` then `b`, around a scanned array — the traced function receives them in argument order, which is
what the reference `scanArrIn` says. -/
theorem scan_broadcast_leaves_fifo {α : Type} [Inhabited α] (a b x : Arr α) (k : Int) (carr : Option (Arr α)) :
    scanMergeIn [.hole, .arrX k x, .hole] [] [] [a, b] carr [] = .ok ([], [a, x, b]) ∧
    mapX (scanArrIn carr 0) [(.ax .bcast, a), (.ax .bcast, b)] = .ok [a, b] := by
  constructor <;> rfl

/-- closed counter-example for popping from the right (`broadcast_arrays.pop()`): two broadcast leaves of different
value would reach the function swapped — `[b, a]` is not what the reference hands over -/
theorem scan_broadcast_lifo_counterexample :
    let a : Arr Int := exScalar 1
    let b : Arr Int := exScalar 2
    let lifo : List (Arr Int) → List (Arr Int) := fun ba => [ba.getLastD a, ba.dropLast.getLastD a]
    lifo [a, b] = [b, a] ∧
    optX (mapX (scanArrIn (α := Int) none 0) [(.ax .bcast, a), (.ax .bcast, b)]) = some [a, b] ∧
    lifo [a, b] ≠ [a, b] := by decide +kernel

/-- **The scan of `ScanFn` is the reference loop, in either direction**: carry Variables and the array carry threaded
from the iteration processed before, axis Variables sliced at the index processed, broadcast Variables constant, the
same final array carry, the final carry deque being the carry route of what the last iteration left, and record `i` of
either side being the record of the iteration that processed index `i`. -/
theorem scan_loop_threads_carry {α : Type} [Inhabited α] {body : Body α} {ca : CarryArg} {cout : CarryPos}
    {outPs : List Prefix} {store : Store α} {pas : List (Prefix × Arg α)} {si : ScanIn α} (hwf : WFArgs pas)
    (hsi : scanSplitIn store pas [] [] = .ok si) {n : Nat} {reverse : Bool} {cfin : ScanCarry α} {ys : List (ScanY α)}
    (h : laxScanX n reverse (fun i => mapX (spureAt i) si.pure)
      (scanFn body ca cout outPs si.bcastDeque si.bcastArrays) sameCarry (initCarryArr si.pure, si.carryDeque)
      = .ok (cfin, ys)) :
    ∃ fin recs, laxScanX n reverse (fun i => .ok i) (scanStepSpec body ca cout outPs store pas) (fun _ _ => true)
        (initCarrySpec (arrArgs pas), store) = .ok (fin, recs) ∧
      CarryInv si.pure cfin fin ∧ All2 (YRel si.pure outPs) recs ys :=
  scan_loop_sim hwf hsi h

/-- **What `_scan_merge_out` writes back** (the positional bookkeeping: `vectorized_states.popleft()` once per integer
axis, stack along 0 + `moveaxis(x, 0, axis)`, `carry_states.popleft()` / `broadcast_states.popleft()` while walking
`prefix.axes`, for every graph-node argument in order).  Given the values the iterations left (index order), the values
the last processed iteration left and the original values: every reachable Variable is set, once, in first-occurrence
order, to `scanFinalEntry` — axis `k`: `jnp.stack` by index of its per-iteration values along `k`; `Carry`: what the last
iteration left; `None`: its original value (writes of the body to broadcast state are dropped: recorded finding). -/
theorem scan_state_is_loop_state {α : Type} [Inhabited α] (store0 : Store α) (pas : List (Prefix × Arg α))
    (si : ScanIn α) (hwf : WFArgs pas) (hs : scanSplitIn store0 pas [] [] = .ok si)
    (r0 : Store α) (rrest : List (Store α)) (fin : Store α)
    (partsRows : List (List (Option (List (State α) × List (State α)))))
    (partsF : List (Option (List (State α) × List (State α))))
    (hrows : mapX (fun st => mapX (scanSplitArgOut st) si.pure) (r0 :: rrest) = .ok partsRows)
    (hF : mapX (scanSplitArgOut fin) si.pure = .ok partsF) (store store' : Store α)
    (hwb : scanWriteBack (partsRows.map (fun parts => (parts.filterMap id).map (·.1))) si.pure
      ((partsF.filterMap id).map (·.2)) si.bcastDeque store = .ok store') :
    ∃ vals, mapX (scanFinalEntry store0 fin (r0 :: rrest)) (ownedAll pas []) = .ok vals ∧
      store' = writeAll vals store :=
  let ⟨_, hS, hR⟩ := scanSplitIn_ok_iff.1 hs
  scan_write_back hS hR hwf r0 rrest fin partsRows partsF hrows hF store store' hwb

/-- **`scan_eq_loop_nnx`.**  For every function, store, argument list (aliasing included), `in_axes` / `out_axes` (ints,
`None`, `Carry`, `StateAxes` of arbitrary filters; single entries or tuples), `length`, `reverse`: whenever `nnx.scan`
returns, the explicit Python loop `scanSpecN` (Proofs/NnxLoopSpec.lean) is defined for the same `n ≥ 1` iterations in
the same processing order and returns the same final store and the same results.  `scanSpecN`: iteration `i` is `f` on
`take(original, i, axis)` of every axis Variable, the original value of every `None` Variable and the value the
iteration processed before left in every `Carry` Variable (and the array carry it returned); afterwards every axis
Variable holds `jnp.stack` by index of what the iterations left along its axis, every carry Variable what the last
iteration left, every broadcast Variable its original value; array results are stacked by index along their out axes,
fresh graph nodes Variable by Variable under the out prefix, and the carry is put back among the results.

Hypotheses: `hwf` — paths inside one graph node are distinct; `houts` — what a single trace guarantees about results
(`OutColWF`, as for `vmap_eq_per_index`).  `n` is the size of *every* scanned Variable and scanned array argument along
its axis, and `length` if given. -/
theorem scan_eq_loop_nnx {α : Type} [Inhabited α] {inAxes outAxes : AxesSpec} {length : Option Nat}
    {reverse : Bool} {nOuts : Nat} {body : Body α} {args : List (Arg α)} {store : Store α}
    {res : Store α × List (Out α)}
    (h : nnxScan inAxes outAxes length reverse nOuts body args store = .ok res)
    (hwf : ∀ ps, inAxes.expand args.length = .ok ps → WFArgs (ps.zip args))
    (houts : ∀ ps n ca cout outPs fin recs, inAxes.expand args.length = .ok ps →
      laxScanX n reverse (fun i => .ok i) (scanStepSpec body ca cout outPs store (ps.zip args)) (fun _ _ => true)
        (initCarrySpec (arrArgs (ps.zip args)), store) = .ok (fin, recs) →
      ∀ k col, column k (recs.map (·.2)) = .ok col → OutColWF col) :
    ∃ cin cout ps ca outPs n,
      scanSetup inAxes outAxes = .ok (cin, cout) ∧ inAxes.expand args.length = .ok ps ∧
      carryArgOf cin args = .ok ca ∧ outPrefixes outAxes cout nOuts = .ok outPs ∧ 0 < n ∧
      ((∀ ep ∈ ownedAll (ps.zip args) [], ∀ k, ep.2.at ep.1 = .ok (.axis k) →
          ∃ v, store.lookup ep.1.id = some v ∧ Flax.LiftLoop.dimAt k v = .ok n) ∧
        (∀ pa ∈ arrArgs (ps.zip args), ∀ k, pa.1 = .ax (.axis k) → Flax.LiftLoop.dimAt k pa.2 = .ok n) ∧
        (∀ m, length = some m → m = n)) ∧
      scanSpecN n reverse ca cout outPs body (ps.zip args) store = .ok res :=
  nnxScan_sound h hwf houts

/-- the loop part of `scan_eq_loop_nnx` on its own: the set-up passed, and the scan of `ScanFn` is the reference loop
with related per-iteration records -/
theorem scan_loop_of_nnx_scan {α : Type} [Inhabited α] {inAxes outAxes : AxesSpec} {length : Option Nat}
    {reverse : Bool} {nOuts : Nat} {body : Body α} {args : List (Arg α)} {store : Store α}
    {res : Store α × List (Out α)}
    (h : nnxScan inAxes outAxes length reverse nOuts body args store = .ok res)
    (hwf : ∀ ps, inAxes.expand args.length = .ok ps → WFArgs (ps.zip args)) :
    ∃ cin cout ps si ca outPs n cfin ys fin recs outs,
      scanSetup inAxes outAxes = .ok (cin, cout) ∧ inAxes.expand args.length = .ok ps ∧
      scanSplitIn store (ps.zip args) [] [] = .ok si ∧ carryArgOf cin args = .ok ca ∧
      outPrefixes outAxes cout nOuts = .ok outPs ∧ 0 < n ∧
      laxScanX n reverse (fun i => .ok i) (scanStepSpec body ca cout outPs store (ps.zip args)) (fun _ _ => true)
        (initCarrySpec (arrArgs (ps.zip args)), store) = .ok (fin, recs) ∧
      CarryInv si.pure cfin fin ∧ All2 (YRel si.pure outPs) recs ys ∧
      scanWriteBack (ys.map (·.1)) si.pure cfin.2 si.bcastDeque store = .ok res.1 ∧
      (∃ y0 yt, ys = y0 :: yt ∧ mapX (scanOutAt (ys.map (·.2))) ((List.range y0.2.length).zip y0.2) = .ok outs) ∧
      insertCarry cout ca fin.1 outs = .ok res.2 ∧
      ∃ dims, scanDims si.pure = .ok dims ∧ Flax.LiftLoop.jaxLength length dims = .ok n :=
  nnxScan_loop h hwf

/-- **No rejection before the loop, and the calls are made.**  If every occurrence of every Variable gets an axis and all
occurrences of one Variable agree, the store holds every Variable, array arguments carry an int / `None` / `Carry`
prefix, every scanned Variable and array has size `n` along its axis, and `length` is `n` if given (something is scanned
if not): then `_scan_split_in` accepts, lax.scan's length check finds `n`, every index `i < n` can be sliced, and the
first processed iteration — and, by `scan_iteration_sees`, every later one, whatever carry the loop has reached — calls
the traced function on the Python loop's values.

What can still make `nnx.scan` reject, and is proved only in the soundness direction (`scan_eq_loop_nnx`): the set-up
checks of `scan_out_axes_rejected` / `Carry` placement (`scanSetup`, exact by definition); inside the loop the traced
function failing, `_check_carry_same_references` (`scan_carry_refs_checked`, exact), lax.scan's carry-structure check (a
carried Variable or the array carry changing shape), `out_axes` arity / a Variable of a fresh node without axis; after
the loop `jnp.stack` refusing per-iteration values of different shapes.  Each makes `scanSpecN` undefined as well, except
the carry-structure check, which the reference loop does not have (it is stricter than the Python loop). -/
theorem scan_no_rejection_before_loop {α : Type} [Inhabited α] (store : Store α) (pas : List (Prefix × Arg α))
    (npF : NodePrefixes) (n : Nat) (length : Option Nat) (hwf : WFArgs pas)
    (hal : allPrefixes pas [] = .ok npF) (hcons : consistent npF = true)
    (hst : ∀ ep ∈ ownedAll pas [], (store.lookup ep.1.id).isSome)
    (hsz : ∀ ep ∈ ownedAll pas [], ∀ k, ep.2.at ep.1 = .ok (.axis k) →
      ∃ v, store.lookup ep.1.id = some v ∧ Flax.LiftLoop.dimAt k v = .ok n)
    (harr : ∀ pa ∈ arrArgs pas, ScanArrOK n pa)
    (hl1 : ∀ m, length = some m → m = n) (hl2 : length = none → HasMapped pas []) :
    ∃ si dims, scanSplitIn store pas [] [] = .ok si ∧ scanDims si.pure = .ok dims ∧
      Flax.LiftLoop.jaxLength length dims = .ok n ∧
      ∀ i, i < n → ∀ carr, ∃ xs parts ins arrs, mapX (spureAt i) si.pure = .ok xs ∧
        mapX (scanSplitArgOut store) si.pure = .ok parts ∧
        mapX (scanEntryIn store store i) (ownedAll pas []) = .ok ins ∧
        mapX (scanArrIn carr i) (arrArgs pas) = .ok arrs ∧
        scanMergeIn xs ((parts.filterMap id).map (·.2)) si.bcastDeque si.bcastArrays carr [] = .ok (ins, arrs) :=
  Flax.NnxLoop.scan_no_rejection_before_loop store pas npF n length hwf hal hcons hst hsz harr hl1 hl2

/-- broadcast state is constant: the step function of the reference loop reads `None` Variables from the original
store only, whatever the previous iterations wrote (this is what the code does: `broadcast_deque_out =
PytreeDeque(broadcast_deque)`; writes of the body to broadcast state are dropped — recorded finding) -/
theorem scan_broadcast_reads_original {α : Type} [Inhabited α] (store cur cur' : Store α) (i : Nat) (id : VarId) :
    scanValIn store cur i .bcast id = scanValIn store cur' i .bcast id := rfl

/-- inconsistent aliasing is rejected by `nnx.scan` too: `_scan_split_in` runs the same check leaf by leaf, and only
if all occurrences of every Variable agree does it return -/
theorem scan_accepted_aliasing_is_consistent {α : Type} [Inhabited α] (store : Store α)
    (pas : List (Prefix × Arg α)) (si : ScanIn α) (h : scanSplitIn store pas [] [] = .ok si) :
    ∃ npF, allPrefixes pas [] = .ok npF ∧ ∀ x ∈ npF, ∀ y ∈ npF, x.1 = y.1 → x.2 = y.2 := by
  obtain ⟨pure, hS, _⟩ := scanSplitIn_ok_iff.1 h
  obtain ⟨npF, h1, h2⟩ := toTree_ok_consistent store pas [] [] pure rfl (toTree_ok_iff.2 hS)
  exact ⟨npF, h1, (consistent_iff npF).1 h2⟩

/-! non-vacuity: a scan over 2 steps, `c ← c + w` with `c` carried (BatchStat under `Carry`) and `w` scanned along
axis 0, reverse direction -/

def exScanArgs : List (Arg Int) :=
  [.node [⟨["c"], 1, ⟨["BatchStat", "Variable"], none⟩⟩, ⟨["w"], 0, ⟨["Param", "Variable"], none⟩⟩]]

def exScanIn : AxesSpec := .perArg [.sa [(.ofType "Param", .axis 0), (.everything, .carry)]]

def exScanBody : Body Int := fun st _ =>
  match st with
  | [(1, c), (0, w)] => .ok ([(1, exScalar (c.getD [] + w.getD [])), (0, w)], [.arr (exScalar (c.getD []))])
  | _ => .error (.body "KeyError")

example : exView (nnxScan exScanIn (.uniform (.ax (.axis 0))) none true 1 exScanBody exScanArgs exStore)
    = some ([(0, exVec [10, 20]), (1, exScalar 33)], [some (exVec [23, 3])]) := by decide +kernel

example : exView (scanSpecN 2 true .none .none [.ax (.axis 0)] exScanBody
    ([Prefix.sa [(.ofType "Param", .axis 0), (.everything, .carry)]].zip exScanArgs) exStore)
    = some ([(0, exVec [10, 20]), (1, exScalar 33)], [some (exVec [23, 3])]) := by decide +kernel

/-! non-vacuity with TWO broadcast leaves of different value next to a scanned array and a carried node:
`f(m, s, x, t): m.c += 10·s + t + x; return m.c` -/

def exScan2Args : List (Arg Int) :=
  [.node [⟨["c"], 1, ⟨["BatchStat", "Variable"], none⟩⟩], .arr (exScalar 1), .arr (exVec [5, 7]), .arr (exScalar 2)]

def exScan2Body : Body Int := fun st arrs =>
  match st, arrs with
  | [(1, c)], [s, x, t] =>
    .ok ([(1, exScalar (c.getD [] + 10 * s.getD [] + t.getD [] + x.getD []))],
         [.arr (exScalar (c.getD [] + 10 * s.getD [] + t.getD [] + x.getD []))])
  | _, _ => .error (.body "KeyError")

example : exView (nnxScan (.perArg [.ax .carry, .ax .bcast, .ax (.axis 0), .ax .bcast])
    (.perArg [.ax .carry, .ax (.axis 0)]) none false 1
    (fun st arrs => match exScan2Body st arrs with
      | .ok (st', outs) => .ok (st', Out.argRef 0 :: outs)
      | .error e => .error e) exScan2Args [(1, exScalar 3)])
    = some ([(1, exScalar 39)], [none, some (exVec [20, 39])]) := by decide +kernel

/-- **`grad_state_partition`, part 1: diff ⊎ nondiff.**  For `DiffState(i, f)` (a bare integer argnum is
`DiffState(i, nnx.Param)`): `ctx.split(value, f, ...)` puts exactly the Variables of the argument that `f` matches into
`diff` — the only state handed to jax as an argument — and all others into `nondiff`, which `GradFn` closes over;
nothing is lost or duplicated (every item is in exactly one of the two). -/
theorem grad_state_partition {α : Type} (f : NFilter) (flat : Flat α) :
    ∃ diff nondiff, splitStatesX [f, .everything] flat = .ok [diff, nondiff] ∧
      (∀ pv, pv ∈ diff ↔ ∃ x ∈ flat, pv = (x.1, x.2.2) ∧ denote f x.1 x.2.1 = true) ∧
      (∀ pv, pv ∈ nondiff ↔ ∃ x ∈ flat, pv = (x.1, x.2.2) ∧ denote f x.1 x.2.1 = false) ∧
      diff.length + nondiff.length = flat.length := by
  refine ⟨_, _, split_diff_nondiff f flat, ?_, ?_, ?_⟩
  · intro pv
    simp only [List.mem_map, List.mem_filter]
    constructor
    · rintro ⟨x, ⟨hx, hd⟩, rfl⟩; exact ⟨x, hx, rfl, hd⟩
    · rintro ⟨x, hx, rfl, hd⟩; exact ⟨x, ⟨hx, hd⟩, rfl⟩
  · intro pv
    simp only [List.mem_map, List.mem_filter, Bool.not_eq_eq_eq_not, Bool.not_true]
    constructor
    · rintro ⟨x, ⟨hx, hd⟩, rfl⟩; exact ⟨x, hx, rfl, hd⟩
    · rintro ⟨x, hx, rfl, hd⟩; exact ⟨x, ⟨hx, hd⟩, rfl⟩
  · simp only [List.length_map]
    induction flat with
    | nil => rfl
    | cons x xs ih =>
      simp only [List.filter_cons]
      cases denote f x.1 x.2.1 <;> simp <;> omega

/-- **part 2: one forward pass, gradients shaped like `diff`.**  Whenever `nnx.grad` / `nnx.value_and_grad` returns:
the value and the aux are those of *one* call of `GradFn` (merge `diff` with the closed-over `nondiff`, run `f`, split
again) at the original values; the caller's Variables are what that one call left — forward-pass side effects applied
once; and the gradient returned for each differentiated position has exactly the paths and shapes of its `diff` state
(resp. the shape of the array argument): unselected state is absent, selected state present.  That the numbers are the
derivative is assumption A-AD about `jax.value_and_grad` (label: partial). -/
theorem grad_value_aux_effects_once {α : Type} {ad : AD α} {argnums : List DiffArg} {hasAux : Bool} {body : Body α}
    {args : List (Arg α)} {store : Store α} {r : GradRes α}
    (h : nnxGrad ad argnums hasAux body args store = .ok r) :
    ∃ ifl pure nondiff dins ga,
      indexFilter argnums [] = .ok ifl ∧
      gradToTree store ((argFilters ifl args.length).zip args) [] [] = .ok (pure, nondiff) ∧
      dinOf pure (argnums.map (·.argnum)) = .ok dins ∧
      gradFn body hasAux nondiff pure = .ok (r.loss, ga) ∧
      r.aux = ga.aux ∧ gradWriteBack pure ga.argsOut store = .ok r.store ∧
      r.grads.map DIn.struct = dins.map DIn.struct :=
  nnxGrad_ok h

/-- **part 2b: the forward pass is run on the caller's values, whatever is selected.**  `diff` (handed to jax) and
`nondiff` (closed over by `GradFn`) are merged again inside: at the original values the traced function sees every
reachable Variable once, in first-occurrence order, with the value the caller's object holds. -/
theorem grad_forward_sees_caller_values {α : Type} [Inhabited α] (store : Store α)
    (pas : List (Option NFilter × Arg α)) (res : List (GPure α) × List (Option (State α)))
    (hwf : WFArgsG pas) (h : gradToTree store pas [] [] = .ok res) :
    ∃ ins, mapX (fun (e : Entry) => match store.getX e.id with
        | .ok v => Except.ok (e.id, v)
        | .error err => .error err) (ownedEntries pas []) = .ok ins ∧
      gradMergeAll res.1 res.2 [] = .ok ins := by
  obtain ⟨ins, h1, h2⟩ := Flax.NnxLoop.grad_forward_sees_caller_values store pas [] [] res [] hwf h rfl
  exact ⟨ins, h1, by simpa using h2⟩

/-- **part 3 (A-AD made explicit).**  The function handed to `jax.value_and_grad` is `GradFn` with the differentiated
leaves substituted; any function extensionally equal to it — in particular "the loss written as a function of the
selected Variables' values" — yields the same value, aux and gradients. -/
theorem grad_depends_on_extension_only {α β : Type} (ad : AD α) (f g : List (DIn α) → Except Err (Arr α × β))
    (x : List (DIn α)) (hfg : ∀ y, f y = g y) : ad.vag f x = ad.vag g x :=
  ad_extensional ad f g x hfg

/-- an argnum repeated in the first two entries is rejected before anything else happens -/
theorem grad_repeated_argnum_rejected {α : Type} (ad : AD α) (d1 d2 : DiffArg) (rest : List DiffArg) (hasAux : Bool)
    (body : Body α) (args : List (Arg α)) (store : Store α) (h : d1.argnum = d2.argnum) :
    nnxGrad ad (d1 :: d2 :: rest) hasAux body args store = .error .repeatedArgnum := by
  simp [nnxGrad, indexFilter, h, List.lookup]

/-- **`split_restore_no_replay`.**  `split_rngs` consumes exactly one draw of the stream before splitting and
`restore_rngs` restores the *post-draw* count: after the transform the stream resumes one draw later with its own key
(C09 `split_restore_resumes`); no key drawn by any lane inside the transform equals any key the original stream hands
out before or after (C09 `split_keys_fresh`); and different lanes / draws get different keys (C09 `split_lanes_distinct`). -/
theorem split_restore_no_replay (tag : String) (k : Flax.Rng.SymKey) (c : Nat) (shape : List Nat) :
    (∃ b s', Flax.Rng.Stream.splitOne { tag := tag, key := .scalar k, count := .scalar c } shape false = .ok (b, s') ∧
      Flax.Rng.restoreLoop [(tag, s')] [b] = [(tag, { tag := tag, key := .scalar k, count := .scalar (c + 1) })]) ∧
    (∀ idx t j, Flax.C09.laneKey k c shape idx t ≠ .foldIn k j) ∧
    (∀ idx₁ idx₂ t₁ t₂, idx₁ ≠ idx₂ ∨ t₁ ≠ t₂ →
      Flax.C09.laneKey k c shape idx₁ t₁ ≠ Flax.C09.laneKey k c shape idx₂ t₂) := by
  refine ⟨?_, ?_, ?_⟩
  · obtain ⟨b, s', h1, _, _, _, _, _, h7⟩ := Flax.C09.split_restore_resumes tag k c shape
    exact ⟨b, s', h1, h7⟩
  · intro idx t j; exact Flax.C09.split_keys_fresh k c shape idx t j
  · intro i1 i2 t1 t2 h; exact Flax.C09.split_lanes_distinct k c shape i1 i2 t1 t2 h

end Flax.C08
