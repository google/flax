/-
C13 — Attention and RNNs: stepwise equals whole-sequence; padding and masks are inert.
Property theorems over `Flax/Model/Seq.lean`.
-/
import Flax.Proofs.SeqCells
import Flax.Proofs.SeqAttn
import Flax.Proofs.SeqRnn
import Flax.Proofs.SeqND
import Flax.Proofs.SeqMask

namespace Flax.C13
open Flax.Seq

section Attn
variable {Q K V B S O X : Type}

/-- **Masked positions are inert** (whole-sequence form). If two key/value sequences (and biases) agree at every
position that the mask allows for a query, that query's output is the same. -/
theorem masked_positions_inert (cfg : AttnCfg Q K V B S O) (h : SeesOnlyVisible cfg) (q : Q)
    (kvs kvs' : List (K × V)) (hlen : kvs.length = kvs'.length) (bias bias' : Nat → B) (mask : Nat → Bool)
    (hkv : ∀ j, j < kvs.length → mask j = true → kvs[j]? = kvs'[j]? ∧ bias j = bias' j) :
    attnRow cfg q kvs bias mask = attnRow cfg q kvs' bias' mask := by
  apply attnRow_congr cfg h
  intro j hm
  by_cases hj : j < kvs.length
  · exact ⟨(hkv j hj hm).1, fun _ => (hkv j hj hm).2⟩
  · exact ⟨by rw [List.getElem?_eq_none (Nat.le_of_not_lt hj), List.getElem?_eq_none (hlen ▸ Nat.le_of_not_lt hj)],
      fun hj' => absurd hj' hj⟩

/-- the output at query position `i` is attention of query `i` alone over the keys/values with row `i` of
the bias and of the mask: no other query can influence it -/
theorem attn_whole_row (cfg : AttnCfg Q K V B S O) (qs : List Q) (kvs : List (K × V)) (bias : Nat → Nat → B)
    (mask : Nat → Nat → Bool) (i : Nat) :
    (attnWhole cfg qs kvs bias mask)[i]? = (qs[i]?).map fun q => attnRow cfg q kvs (bias i) (mask i) := by
  simpa [attnWhole] using getElem?_attnWholeFrom cfg kvs bias mask qs 0 i

theorem attn_whole_length (cfg : AttnCfg Q K V B S O) (qs : List Q) (kvs : List (K × V)) (bias : Nat → Nat → B)
    (mask : Nat → Nat → Bool) : (attnWhole cfg qs kvs bias mask).length = qs.length :=
  attnWholeFrom_length cfg kvs bias mask qs 0

/-- **Not-yet-written cache slots are inert**: whatever the `max_length` cache slots hold before decoding starts
(zeros as `init` leaves them, or any junk), feeding `T ≤ max_length` positions gives the outputs of the
whole-sequence run under `causal ∧ user mask` — the cache-validity mask `arange(max_length) <= cache_index` is
*combined* with the caller's mask, never replaced by it. -/
theorem decode_unwritten_slots_inert (cfg : AttnCfg Q K V B S O) (h : SeesOnlyVisible cfg) (bias : Nat → Nat → B)
    (user : Nat → Nat → Bool) (junk : List (K × V)) (steps : List (Q × (K × V))) (hL : steps.length ≤ junk.length) :
    decodeRun cfg bias user ⟨junk, 0⟩ steps =
      attnWhole cfg (steps.map Prod.fst) (steps.map Prod.snd) bias (causal user) := by
  simpa [attnWhole] using decodeRun_eq_attnWholeFrom cfg h bias user steps [] junk hL

/-- **Decode = causal.** Feeding a sequence of `T ≤ max_length` positions one at a time through the decode
cache (zero-initialised, any `max_length`, any per-step user mask and bias rows) produces exactly the outputs
of whole-sequence attention with `combine_masks(user, causal)`. -/
theorem decode_eq_causal (cfg : AttnCfg Q K V B S O) (h : SeesOnlyVisible cfg) (bias : Nat → Nat → B)
    (user : Nat → Nat → Bool) (zero : K × V) (L : Nat) (steps : List (Q × (K × V))) (hL : steps.length ≤ L) :
    decodeRun cfg bias user (Cache.init zero L) steps =
      attnWhole cfg (steps.map Prod.fst) (steps.map Prod.snd) bias (causal user) :=
  decode_unwritten_slots_inert cfg h bias user (List.replicate L zero) steps (by rwa [List.length_replicate])

/-- **Decode step `t` with a user mask = row `t` of the whole-sequence run under (causal ∧ user mask)**: the
output of the call made when `cache_index = t` is attention of query `t` over the keys/values fed so far *and
later* (`kvs` is the whole sequence), with mask `j ≤ t ∧ user t j` and bias row `t` — for padding masks, arbitrary
per-step masks and masks that already encode `≤ t` alike, from any initial cache content. -/
theorem decode_step_eq_row_with_mask (cfg : AttnCfg Q K V B S O) (h : SeesOnlyVisible cfg) (bias : Nat → Nat → B)
    (user : Nat → Nat → Bool) (junk : List (K × V)) (steps : List (Q × (K × V))) (hL : steps.length ≤ junk.length)
    (t : Nat) :
    (decodeRun cfg bias user ⟨junk, 0⟩ steps)[t]? =
      ((steps.map Prod.fst)[t]?).map fun q =>
        attnRow cfg q (steps.map Prod.snd) (bias t) (fun j => decide (j ≤ t) && user t j) := by
  rw [decode_unwritten_slots_inert cfg h bias user junk steps hL, attn_whole_row]
  rfl

/-- decode = causal without any assumption on softmax: at every step the list of allowed
(logit, value) pairs handed to the row function is that of row `t` of the causal whole-sequence computation -/
theorem decode_visible_eq_causal (score : Q → K → S) (addBias : S → B → S) (bias : Nat → Nat → B)
    (user : Nat → Nat → Bool) (zero : K × V) (L : Nat) (steps : List (Q × (K × V))) (hL : steps.length ≤ L) :
    decodeRun ⟨score, addBias, visible⟩ bias user (Cache.init zero L) steps =
      attnWhole ⟨score, addBias, visible⟩ (steps.map Prod.fst) (steps.map Prod.snd) bias (causal user) :=
  decode_eq_causal _ (fun _ _ hr => hr) bias user zero L steps hL

/-- decoding is incremental: the outputs of the first steps do not depend on what is fed afterwards -/
theorem decode_prefix (cfg : AttnCfg Q K V B S O) (bias : Nat → Nat → B) (user : Nat → Nat → Bool)
    (a b : List (Q × (K × V))) : ∀ c : Cache K V,
    (decodeRun cfg bias user c (a ++ b)).take a.length = decodeRun cfg bias user c a := by
  induction a with
  | nil => intro c; simp [decodeRun]
  | cons s a ih => intro c; obtain ⟨q, kv⟩ := s; simp [decodeRun, ih]

/-- **Self-attention: ignored positions are inert.** If two inputs differ only at positions `j` marked
`ignored`, and no non-ignored query is allowed to see an ignored position, then the outputs at all non-ignored
positions coincide (bias may differ at masked entries too). -/
theorem self_attention_inert (cfg : AttnCfg Q K V B S O) (h : SeesOnlyVisible cfg) (fq : X → Q) (fk : X → K)
    (fv : X → V) (xs xs' : List X) (hlen : xs.length = xs'.length) (ignored : Nat → Bool)
    (bias : Nat → Nat → B) (mask : Nat → Nat → Bool)
    (hx : ∀ j, ignored j = false → xs[j]? = xs'[j]?)
    (hm : ∀ i j, ignored i = false → ignored j = true → mask i j = false)
    (i : Nat) (hi : ignored i = false) :
    (selfAttn cfg fq fk fv xs bias mask)[i]? = (selfAttn cfg fq fk fv xs' bias mask)[i]? := by
  unfold selfAttn
  rw [attn_whole_row, attn_whole_row]
  have hq : xs[i]? = xs'[i]? := hx i hi
  simp only [List.getElem?_map, hq]
  cases hxi : xs'[i]? with
  | none => rfl
  | some x =>
    simp only [Option.map_some]
    congr 1
    apply masked_positions_inert cfg h
    · simp [hlen]
    · intro j _ hmj
      refine ⟨?_, rfl⟩
      cases hig : ignored j with
      | true => have := hm i j hi hig; simp [this] at hmj
      | false => simp [List.getElem?_map, hx j hig]

/-- **Positions after a causal position are inert** (whole-sequence form): under a causal mask (combined with
any user mask) the outputs at positions `< p` depend only on the inputs at positions `< p`. -/
theorem causal_future_inert (cfg : AttnCfg Q K V B S O) (h : SeesOnlyVisible cfg) (fq : X → Q) (fk : X → K)
    (fv : X → V) (xs xs' : List X) (hlen : xs.length = xs'.length) (bias : Nat → Nat → B)
    (user : Nat → Nat → Bool) (p : Nat) (hx : ∀ j, j < p → xs[j]? = xs'[j]?) (i : Nat) (hi : i < p) :
    (selfAttn cfg fq fk fv xs bias (causal user))[i]? = (selfAttn cfg fq fk fv xs' bias (causal user))[i]? := by
  apply self_attention_inert cfg h fq fk fv xs xs' hlen (fun j => decide (p ≤ j))
  · intro j hj; exact hx j (by simpa using hj)
  · intro i j hi hj; simp at hi hj; simp [causal]; intro _; omega
  · simpa using hi

/-- the allowed pairs of a row are exactly: for each allowed slot, in order, (score + bias, value) — the bias
enters before the mask, masked slots contribute neither their key, their bias nor their value -/
theorem visible_row_spec (score : Q → K → S) (addBias : S → B → S) (q : Q) (slots : List (Slot K V B)) :
    visible (rowOf score addBias q slots) =
      (slots.filter (·.allowed)).map fun s => (addBias (score q s.key) s.bias, s.val) := by
  induction slots with
  | nil => rfl
  | cons s slots ih =>
    rw [rowOf, List.map_cons, ← rowOf, List.filter_cons]
    cases hs : s.allowed
    · rw [if_neg Bool.false_ne_true, visible_cons_none, ih, if_neg Bool.false_ne_true]
    · rw [if_pos rfl, visible_cons_some, ih, if_pos rfl, List.map_cons]

/-- a softmax-free instance of the row function used in the examples: Σ score·value over the allowed pairs -/
def sumCfg : AttnCfg Int Int Int Int Int Int :=
  ⟨fun q k => q * k, fun s b => s + b, fun row => ((visible row).map fun p => p.1 * p.2).foldl (· + ·) 0⟩

/-- `sumCfg` satisfies the hypothesis of the attention theorems -/
theorem sumCfg_sees_only_visible : SeesOnlyVisible sumCfg := by
  intro r r' h; simp [sumCfg, h]

/-- the hypothesis is needed: a row function that also reads masked values is *not* inert -/
theorem masked_inert_needs_hypothesis :
    let leaky : AttnCfg Int Int Int Int Int Int := ⟨fun q k => q * k, fun s b => s + b, fun row => (row.map (·.2)).foldl (· + ·) 0⟩
    attnRow leaky 1 [(1, 1), (1, 5)] (fun _ => 0) (fun j => decide (j = 0)) ≠
      attnRow leaky 1 [(1, 1), (1, 7)] (fun _ => 0) (fun j => decide (j = 0)) := by
  decide +kernel

example : attnRow sumCfg 2 [(3, 10), (4, 100), (5, 1000)] (fun _ => 1) (fun j => decide (j ≠ 1)) = 7 * 10 + 11 * 1000 := by
  decide +kernel

-- masked_positions_inert: a concrete non-trivial instance of the hypotheses
example : attnRow sumCfg 2 [(3, 10), (4, 100), (5, 1000)] (fun _ => 1) (fun j => decide (j ≠ 1)) =
    attnRow sumCfg 2 [(3, 10), (-77, 12345), (5, 1000)] (fun j => if j = 1 then 99 else 1) (fun j => decide (j ≠ 1)) :=
  masked_positions_inert sumCfg sumCfg_sees_only_visible 2 [(3, 10), (4, 100), (5, 1000)]
    [(3, 10), (-77, 12345), (5, 1000)] rfl (fun _ => 1) (fun j => if j = 1 then 99 else 1) (fun j => decide (j ≠ 1))
    (fun j hj hm => match j, hj, hm with
      | 0, _, _ => ⟨rfl, rfl⟩
      | 1, _, hm => nomatch hm
      | 2, _, _ => ⟨rfl, rfl⟩
      | j + 3, hj, _ => absurd hj (by simp))

-- self_attention_inert: position 1 is ignored (masked for queries 0 and 2) and holds different inputs
example : (selfAttn sumCfg (fun x : Int => x + 1) (fun x => 2 * x) (fun x => x * x) [3, 4, 5] (fun _ _ => 0)
      (fun _ j => decide (j ≠ 1)))[2]? =
    (selfAttn sumCfg (fun x : Int => x + 1) (fun x => 2 * x) (fun x => x * x) [3, -1000, 5] (fun _ _ => 0)
      (fun _ j => decide (j ≠ 1)))[2]? :=
  self_attention_inert sumCfg sumCfg_sees_only_visible _ _ _ [3, 4, 5] [3, -1000, 5] rfl (fun j => decide (j = 1)) _ _
    (by intro j hj; have hj' : j ≠ 1 := by simpa using hj
        match j, hj' with
        | 0, _ => rfl
        | 2, _ => rfl
        | j + 3, _ => rfl)
    (by intro i j _ hj; simpa using hj) 2 (by decide)

-- decode_step_eq_row_with_mask: a key-padding mask [1,1,1,0] over 4 cache slots holding junk: step 0 sees slot 0 only
example : (decodeRun sumCfg (fun _ _ => 0) (fun _ j => decide (j < 3)) ⟨[(9, 9), (9, 9), (9, 9), (9, 9)], 0⟩
      [(1, (2, 3)), (4, (5, 6))])[0]? = some 6 ∧
    (decodeRun sumCfg (fun _ _ => 0) (fun _ j => decide (j < 3)) ⟨[(9, 9), (9, 9), (9, 9), (9, 9)], 0⟩
      [(1, (2, 3)), (4, (5, 6))])[1]? = some 144 := by decide +kernel

-- decode_eq_causal: three steps through a cache of max_length 4, user mask hiding position 0 from step 2
example : decodeRun sumCfg (fun _ _ => 0) (fun i j => !(decide (i = 2) && decide (j = 0))) (Cache.init (0, 0) 4)
      [(1, (2, 3)), (4, (5, 6)), (7, (8, 9))] = [6, 144, 714] ∧
    attnWhole sumCfg [1, 4, 7] [(2, 3), (5, 6), (8, 9)] (fun _ _ => 0)
      (causal fun i j => !(decide (i = 2) && decide (j = 0))) = [6, 144, 714] := by
  decide +kernel

section Weights
variable {W : Type}

/-- **the logits handed to softmax**: position `j` holds `(q / √d) · k_j + bias_j` where the mask allows it and
`finfo.min` elsewhere — scaling acts on the query, the bias is added before the mask and is discarded with the
logit at masked positions, softmax runs over the key axis, dropout comes last. In terms of `rowOf`: the
masked-logit row with `none ↦ finfo.min`. -/
theorem weights_row_spec (scaleQ : Q → Q) (dotp : Q → K → S) (addBias : S → B → S) (ops : SoftmaxOps S W V O)
    (dropout : List W → List W) (q : Q) (slots : List (Slot K V B)) :
    weightsRow scaleQ dotp addBias ops dropout q slots =
      dropout (ops.softmax ((rowOf (fun q k => dotp (scaleQ q) k) addBias q slots).map fun p => p.1.getD ops.bigNeg)) := by
  simp only [weightsRow, rowOf, List.map_map]
  congr 2
  apply List.map_congr_left
  intro s _
  cases hs : s.allowed <;> simp [hs]

/-- `dot_product_attention` (deterministic) = weighted sum of the values with exactly those weights -/
theorem attention_is_weighted_sum (scaleQ : Q → Q) (dotp : Q → K → S) (addBias : S → B → S) (ops : SoftmaxOps S W V O)
    (q : Q) (kvs : List (K × V)) (bias : Nat → B) (mask : Nat → Bool) :
    attnRow ⟨fun q k => dotp (scaleQ q) k, addBias, attendOf ops⟩ q kvs bias mask =
      ops.wsum ((weightsRow scaleQ dotp addBias ops id q (slotsFrom bias mask 0 kvs)).zip
        ((slotsFrom bias mask 0 kvs).map (·.val))) := by
  simp only [attnRow, attendOf, weights_row_spec, id]
  congr 2
  simp [rowOf]

/-- **A-SOFTMAX reduced to two primitive facts.** If (1) on a row of logits whose masked entries were replaced
by `finfo.min`, softmax gives weight `zero` to the masked positions and gives the allowed positions the weights
`sm` computes from the allowed logits alone, and (2) the weighted sum ignores terms of weight `zero`, then
softmax·V sees a row only through its allowed (logit, value) pairs — the hypothesis of every attention theorem
above. (For the real float softmax (1) holds on rows with at least one allowed entry: `exp(finfo.min - max)`
underflows to 0; a fully masked row gets uniform weights and is outside the property.) -/
theorem attend_sees_only_visible (score : Q → K → S) (addBias : S → B → S) (ops : SoftmaxOps S W V O) (zero : W)
    (sm : List S → List W) (hsm : ∀ l, (sm l).length = l.length)
    (h1 : ∀ row : List (Option S), ops.softmax (row.map (·.getD ops.bigNeg)) = scatter zero row (sm (row.filterMap id)))
    (h2 : ∀ (a b : List (W × V)) (v : V), ops.wsum (a ++ (zero, v) :: b) = ops.wsum (a ++ b)) :
    SeesOnlyVisible (⟨score, addBias, attendOf ops⟩ : AttnCfg Q K V B S O) := by
  intro r r' h
  show attendOf ops r = attendOf ops r'
  rw [attendOf_eq_wsum_visible ops zero sm hsm h1 h2, attendOf_eq_wsum_visible ops zero sm hsm h1 h2, h]

-- the two primitive facts are satisfiable together (weights = logits, `finfo.min` := 0, Σ w·v)
example : SeesOnlyVisible (⟨fun (q k : Nat) => q * k, fun s (b : Nat) => s + b,
    attendOf ⟨0, id, fun l => (l.map fun p : Nat × Nat => p.1 * p.2).sum⟩⟩ : AttnCfg Nat Nat Nat Nat Nat Nat) :=
  attend_sees_only_visible _ _ ⟨0, id, fun l => (l.map fun p : Nat × Nat => p.1 * p.2).sum⟩ 0 id (fun _ => rfl)
    (by
      intro row
      induction row with
      | nil => rfl
      | cons s r ih => cases s <;> simp_all [scatter])
    (by intro a b v; simp)

end Weights

end Attn

/-- `make_attention_mask` is the pairwise function applied to query element `i` and key element `j` -/
theorem make_attention_mask_spec (f : Int → Int → Int) (qs ks : List Int) (i j : Nat) :
    entry (makeAttentionMask f qs ks) i j = (qs[i]?).bind fun q => (ks[j]?).map fun k => f q k := by
  simp only [entry, makeAttentionMask, List.getElem?_map]
  cases qs[i]? <;> simp

/-- `make_causal_mask` allows exactly `j ≤ i` -/
theorem make_causal_mask_spec (n i j : Nat) (hi : i < n) (hj : j < n) :
    entry (makeCausalMask n) i j = some (if j ≤ i then 1 else 0) ∧
    allowedAt (makeCausalMask n) i j = decide (j ≤ i) := by
  have e : entry (makeCausalMask n) i j = some (if j ≤ i then 1 else 0) := by
    simp only [makeCausalMask, make_attention_mask_spec, arange, List.getElem?_map, List.getElem?_range hi,
      List.getElem?_range hj, Option.map_some, Option.bind_some, geI]
    simp
  refine ⟨e, ?_⟩
  simp only [allowedAt, e, Option.any_some, truthy]
  by_cases h : j ≤ i <;> simp [h]

theorem make_causal_mask_shape (n : Nat) :
    (makeCausalMask n).map List.length = List.replicate n n := by
  apply List.ext_getElem <;> simp [makeCausalMask, makeAttentionMask, arange]

/-- `combine_masks` returns `None` exactly when every argument is `None` -/
theorem combine_masks_none (ms : List (Option Mask)) :
    combineMasks ms = .ok none ↔ ∀ m ∈ ms, m = none :=
  combineMasks_eq_ok_none_iff.trans List.filterMap_eq_nil_iff

/-- `combine_masks` of the masks that are not `None` (same shapes) is their pointwise conjunction, with the
shape of the first; a single mask is returned unchanged. -/
theorem combine_masks_spec (ms : List (Option Mask)) (m : Mask) (rest : List Mask)
    (hp : ms.filterMap id = m :: rest) (hs : rest.all (sameShape m) = true) :
    ∃ r, combineMasks ms = .ok (some r) ∧ r.map List.length = m.map List.length ∧
      (rest = [] → r = m) ∧
      ∀ i j, allowedAt r i j = (m :: rest).all (allowedAt · i j) := by
  refine ⟨rest.foldl land m, ?_, map_length_foldl_land rest m hs, ?_, ?_⟩
  · rw [combineMasks_of_cons hp, if_pos hs]
  · intro h; subst h; rfl
  · intro i j; simp [allowedAt_foldl_land]

/-- masks of different shapes are rejected, not silently truncated -/
theorem combine_masks_shape_error (ms : List (Option Mask)) (m : Mask) (rest : List Mask)
    (hp : ms.filterMap id = m :: rest) (hs : rest.all (sameShape m) = false) :
    combineMasks ms = .error "MaskShape" := by
  rw [combineMasks_of_cons hp, hs]
  rfl

example : combineMasks [some (makeCausalMask 3), none, some [[1, 1, 0], [5, 1, 0], [1, 0, 7]]]
    = .ok (some [[1, 0, 0], [1, 1, 0], [1, 0, 1]]) := by rfl


section RNN
variable {α C X Y : Type}

/-- **`RNN` (scan) = the Python loop**: same final carry, same outputs. -/
theorem rnn_loop_eq_scan (cell : C → X → C × Y) (xs : List X) : ∀ c : C,
    pyLoop cell c xs = ((scanCell cell c xs).1, (scanCell cell c xs).2.map Prod.snd) := by
  induction xs with
  | nil => intro c; simp [pyLoop, scanCell]
  | cons x xs ih => intro c; simp [pyLoop, scanCell_cons, ih]

/-- **stepwise = whole-sequence**: running a prefix, keeping the carry, and continuing on the rest gives the
same carry and outputs as one run over the whole sequence (in particular one step at a time). -/
theorem rnn_stepwise (cell : C → X → C × Y) (a b : List X) : ∀ c : C,
    pyLoop cell c (a ++ b) =
      ((pyLoop cell (pyLoop cell c a).1 b).1, (pyLoop cell c a).2 ++ (pyLoop cell (pyLoop cell c a).1 b).2) := by
  induction a with
  | nil => intro c; simp [pyLoop]
  | cons x a ih => intro c; simp [pyLoop, ih]

theorem pyLoop_length (cell : C → X → C × Y) (xs : List X) : ∀ c : C, (pyLoop cell c xs).2.length = xs.length :=
  fun c => by rw [rnn_loop_eq_scan, List.length_map, scanCell_length]

theorem flip_length (len : Option Nat) (xs : List α) : (flipSeq len xs).length = xs.length := by
  cases len <;> simp [flipSeq]

/-- **`flip_sequences` re-indexes time exactly as follows**: position `t < len` reads position `len-1-t`
(reversal inside the valid length); a padding position `t ≥ len` reads the padding position
`T-1-(t-len)` (so padding stays at the end — the code reverses the padding block too, it is *not* the identity
there). Without `seq_lengths` it is plain reversal. -/
theorem flip_sequences_spec (xs : List α) (l t : Nat) (hl : l ≤ xs.length) (ht : t < xs.length) :
    (flipSeq (some l) xs)[t]? = (if t < l then xs[l - 1 - t]? else xs[xs.length - 1 - (t - l)]?) ∧
    (l ≤ t → l ≤ xs.length - 1 - (t - l) ∧ xs.length - 1 - (t - l) < xs.length) ∧
    (flipSeq none xs)[t]? = xs[xs.length - 1 - t]? := by
  refine ⟨?_, fun h => by omega, ?_⟩
  · rw [getElem?_flipSeq xs l t ht]
    by_cases h : t < l
    · rw [if_pos h, flipIdx_lt _ _ _ h hl]
    · rw [if_neg h, flipIdx_ge _ _ _ (Nat.le_of_not_lt h) ht]
      congr 1
      omega
  · simp only [flipSeq]
    rw [List.getElem?_reverse ht]

/-- closed form: the valid prefix reversed, followed by the padding block reversed -/
theorem flip_closed_form (xs : List α) (l : Nat) (hl : l ≤ xs.length) :
    flipSeq (some l) xs = (xs.take l).reverse ++ (xs.drop l).reverse :=
  flipSeq_some_eq xs l hl

/-- `flip_sequences` is an involution (so `keep_order` restores the original time order) -/
theorem flip_involution (xs : List α) (len : Option Nat) (hl : ∀ l, len = some l → l ≤ xs.length) :
    flipSeq len (flipSeq len xs) = xs := by
  cases len with
  | none => simp [flipSeq]
  | some l =>
    have hl := hl l rfl
    rw [flip_closed_form _ l (by rw [flip_length]; exact hl), take_flipSeq xs l hl, drop_flipSeq xs l hl,
      List.reverse_reverse, List.reverse_reverse, List.take_append_drop]

/-- the loop over the *valid* part of one row: left to right, or right to left when `reverse` -/
def validCore (cell : C → X → C × Y) (c0 : C) (xs : List X) (l : Nat) (reverse : Bool) : C × List Y :=
  pyLoop cell c0 (if reverse then (xs.take l).reverse else xs.take l)

/-- **What `RNN` computes on a padded row** (`1 ≤ seq_length ≤ T`, all flag combinations): the returned carry
is the carry of the loop over the valid inputs only (in reversed order when `reverse`), the outputs at the
valid positions `t < seq_length` are that loop's outputs — in processing order, or flipped back to input order
when `keep_order` — and the output keeps the full length `T`. -/
theorem rnn_valid_spec (cell : C → X → C × Y) (c0 : C) (xs : List X) (l : Nat) (h1 : 1 ≤ l) (h2 : l ≤ xs.length)
    (reverse keepOrder : Bool) :
    (rnnRow cell c0 xs (some l) reverse keepOrder).1 = some (validCore cell c0 xs l reverse).1 ∧
    (rnnRow cell c0 xs (some l) reverse keepOrder).2.take l =
      (if reverse && keepOrder then (validCore cell c0 xs l reverse).2.reverse
       else (validCore cell c0 xs l reverse).2) ∧
    (rnnRow cell c0 xs (some l) reverse keepOrder).2.length = xs.length := by
  have hx1len : (if reverse then flipSeq (some l) xs else xs).length = xs.length := by
    cases reverse <;> simp [flip_length]
  have hx1take : (if reverse then flipSeq (some l) xs else xs).take l =
      (if reverse then (xs.take l).reverse else xs.take l) := by
    cases reverse <;> simp [take_flipSeq xs l h2]
  have hys : ((scanCell cell c0 (if reverse then flipSeq (some l) xs else xs)).2.map Prod.snd).take l =
      (validCore cell c0 xs l reverse).2 := by
    rw [← List.map_take, scanCell_take, hx1take, validCore, rnn_loop_eq_scan]
  have hyslen : ((scanCell cell c0 (if reverse then flipSeq (some l) xs else xs)).2.map Prod.snd).length
      = xs.length := by simp [scanCell_length, hx1len]
  refine ⟨?_, ?_, ?_⟩
  · simp only [rnnRow]
    rw [selectLast_scanCell cell c0 _ l h1 (by rw [hx1len]; exact h2), hx1take, validCore, rnn_loop_eq_scan]
  · simp only [rnnRow]
    cases hrk : (reverse && keepOrder) with
    | false => simpa using hys
    | true =>
      simp only [↓reduceIte]
      rw [take_flipSeq _ l (by rw [hyslen]; exact h2), hys]
  · simp only [rnnRow]
    cases hrk : (reverse && keepOrder) <;> simp [flip_length, scanCell_length, hx1len]

/-- without `seq_lengths` the whole row is valid: plain loop, or loop over the reversed sequence; `keep_order`
flips the outputs back -/
theorem rnn_full_spec (cell : C → X → C × Y) (c0 : C) (xs : List X) (reverse keepOrder : Bool) :
    rnnRow cell c0 xs none reverse keepOrder =
      (some (pyLoop cell c0 (if reverse then xs.reverse else xs)).1,
       if reverse && keepOrder then (pyLoop cell c0 (if reverse then xs.reverse else xs)).2.reverse
       else (pyLoop cell c0 (if reverse then xs.reverse else xs)).2) := by
  simp only [rnnRow, rnn_loop_eq_scan]
  cases reverse <;> cases keepOrder <;> simp [flipSeq]

/-- **Padding is inert.** Two rows that agree on the first `seq_length` positions (whatever the padding holds)
give the same final carry and the same outputs at all valid positions, whatever `reverse` / `keep_order`. -/
theorem rnn_padding_inert (cell : C → X → C × Y) (c0 : C) (xs xs' : List X) (l : Nat) (h1 : 1 ≤ l)
    (h2 : l ≤ xs.length) (hlen : xs.length = xs'.length) (hx : xs.take l = xs'.take l)
    (reverse keepOrder : Bool) :
    (rnnRow cell c0 xs (some l) reverse keepOrder).1 = (rnnRow cell c0 xs' (some l) reverse keepOrder).1 ∧
    (rnnRow cell c0 xs (some l) reverse keepOrder).2.take l =
      (rnnRow cell c0 xs' (some l) reverse keepOrder).2.take l := by
  have a := rnn_valid_spec cell c0 xs l h1 h2 reverse keepOrder
  have b := rnn_valid_spec cell c0 xs' l h1 (by omega) reverse keepOrder
  have hc : validCore cell c0 xs l reverse = validCore cell c0 xs' l reverse := by simp [validCore, hx]
  rw [a.1, b.1, a.2.1, b.2.1, hc]
  exact ⟨rfl, rfl⟩

/-- the returned carry is a real carry (`_select_last_carry` never falls outside the stacked carries) and it is
the carry *after* position `seq_length - 1`, not after the padding -/
theorem rnn_carry_at_last_valid (cell : C → X → C × Y) (c0 : C) (xs : List X) (l : Nat) (h1 : 1 ≤ l)
    (h2 : l ≤ xs.length) :
    (rnnRow cell c0 xs (some l) false false).1 = some (pyLoop cell c0 (xs.take l)).1 := by
  simpa [validCore] using (rnn_valid_spec cell c0 xs l h1 h2 false false).1

/-- **Bidirectional = forward ⊕ reversed-with-keep-order**: at every valid position the output is the merge
of the forward loop's output and of the backward loop's output for the same input position; the carry is the
pair (forward carry after the last valid input, backward carry after the first input). -/
theorem bidirectional_spec {CF CB YF YB : Type} (cellF : CF → X → CF × YF) (cellB : CB → X → CB × YB)
    (merge : YF → YB → Y) (c0f : CF) (c0b : CB) (xs : List X) (l : Nat) (h1 : 1 ≤ l) (h2 : l ≤ xs.length) :
    (bidirRow cellF cellB merge c0f c0b xs (some l)).1 =
      (some (pyLoop cellF c0f (xs.take l)).1, some (pyLoop cellB c0b (xs.take l).reverse).1) ∧
    (bidirRow cellF cellB merge c0f c0b xs (some l)).2.take l =
      List.zipWith merge (pyLoop cellF c0f (xs.take l)).2 (pyLoop cellB c0b (xs.take l).reverse).2.reverse ∧
    (bidirRow cellF cellB merge c0f c0b xs (some l)).2.length = xs.length := by
  have f := rnn_valid_spec cellF c0f xs l h1 h2 false false
  have b := rnn_valid_spec cellB c0b xs l h1 h2 true true
  simp only [validCore] at f b
  refine ⟨?_, ?_, ?_⟩
  · simp only [bidirRow, f.1, b.1]; simp
  · simp only [bidirRow, List.take_zipWith, f.2.1, b.2.1]; simp
  · simp only [bidirRow, List.length_zipWith, f.2.2, b.2.2]; simp

/-- Bidirectional without `seq_lengths` -/
theorem bidirectional_full_spec {CF CB YF YB : Type} (cellF : CF → X → CF × YF) (cellB : CB → X → CB × YB)
    (merge : YF → YB → Y) (c0f : CF) (c0b : CB) (xs : List X) :
    bidirRow cellF cellB merge c0f c0b xs none =
      ((some (pyLoop cellF c0f xs).1, some (pyLoop cellB c0b xs.reverse).1),
       List.zipWith merge (pyLoop cellF c0f xs).2 (pyLoop cellB c0b xs.reverse).2.reverse) := by
  simp [bidirRow, rnn_full_spec]

/-- **flag resolution**: a call-time value wins over the constructor attribute; without one the attribute is used -/
theorem resolve_flag_spec (ctor v : Bool) : resolveFlag (some v) ctor = v ∧ resolveFlag none ctor = ctor := ⟨rfl, rfl⟩

/-- **Bidirectional uses one resolved `time_major` for both directions**: the result depends on the constructor
attribute and the call-time argument only through the resolved flag — in particular a call-time value that
disagrees with the constructor (either way) gives exactly what a layer constructed with that value gives, and both
the forward and the backward half are the `rnnBatch` runs with that same flag. -/
theorem bidirectional_time_major_resolved {CF CB YF YB : Type} (cellF : CF → X → CF × YF) (cellB : CB → X → CB × YB)
    (merge : YF → YB → Y) (ctor v : Bool) (T : Nat) (c0fs : List CF) (c0bs : List CB) (inputs : List (List X))
    (lens : Option (List Nat)) :
    bidirBatch cellF cellB merge ctor (some v) T c0fs c0bs inputs lens =
      bidirBatch cellF cellB merge v none T c0fs c0bs inputs lens ∧
    bidirBatch cellF cellB merge ctor (some v) T c0fs c0bs inputs lens =
      (do let f ← rnnBatch cellF v T c0fs inputs lens false false
          let b ← rnnBatch cellB v T c0bs inputs lens true true
          pure ((f.1, b.1), List.zipWith (List.zipWith merge) f.2 b.2)) := ⟨rfl, rfl⟩

/-- padding is inert for `Bidirectional` too -/
theorem bidirectional_padding_inert {CF CB YF YB : Type} (cellF : CF → X → CF × YF) (cellB : CB → X → CB × YB)
    (merge : YF → YB → Y) (c0f : CF) (c0b : CB) (xs xs' : List X) (l : Nat) (h1 : 1 ≤ l) (h2 : l ≤ xs.length)
    (hlen : xs.length = xs'.length) (hx : xs.take l = xs'.take l) :
    (bidirRow cellF cellB merge c0f c0b xs (some l)).1 = (bidirRow cellF cellB merge c0f c0b xs' (some l)).1 ∧
    (bidirRow cellF cellB merge c0f c0b xs (some l)).2.take l =
      (bidirRow cellF cellB merge c0f c0b xs' (some l)).2.take l := by
  have a := bidirectional_spec cellF cellB merge c0f c0b xs l h1 h2
  have b := bidirectional_spec cellF cellB merge c0f c0b xs' l h1 (by omega)
  rw [a.1, b.1, a.2.1, b.2.1, hx]
  exact ⟨rfl, rfl⟩

/-- **`time_major` only moves the time axis**: running on the `[time][batch]` layout gives the result of the
`[batch][time]` run with the outputs transposed back, and the same carries. -/
theorem time_major_spec (cell : C → X → C × Y) (T : Nat) (c0s : List C) (inputs : List (List X))
    (lens : Option (List Nat)) (reverse keepOrder : Bool) (h : isRect c0s.length T inputs = true) :
    rnnBatch cell true T c0s (transposeN T inputs) lens reverse keepOrder =
      (rnnBatch cell false T c0s inputs lens reverse keepOrder).map fun p => (p.1, transposeN T p.2) := by
  simp only [rnnBatch, isRect_transposeN h, h, transposeN_transposeN h, ↓reduceIte,
    Bool.false_eq_true, Bool.not_true, Bool.false_or]
  cases lens with
  | none => simp [Except.map]
  | some ls =>
    simp only []
    by_cases hc : ls.length = c0s.length
    · simp [hc, Except.map]
    · simp [hc, Except.map]

/-- **batch rows are independent**: in the `[batch][time]` layout, row `b` of the result is `RNN` applied to
row `b` alone with its own initial carry and its own `seq_lengths[b]` -/
theorem rnn_batch_row (cell : C → X → C × Y) (T : Nat) (c0s : List C) (inputs : List (List X))
    (lens : List Nat) (reverse keepOrder : Bool) (h : isRect c0s.length T inputs = true)
    (hl : lens.length = c0s.length) :
    ∃ carries outs, rnnBatch cell false T c0s inputs (some lens) reverse keepOrder = .ok (carries, outs) ∧
      carries.length = c0s.length ∧ outs.length = c0s.length ∧
      ∀ (b : Nat) (c0 : C) (xs : List X) (l : Nat), c0s[b]? = some c0 → inputs[b]? = some xs → lens[b]? = some l →
        carries[b]? = some (rnnRow cell c0 xs (some l) reverse keepOrder).1 ∧
        outs[b]? = some (rnnRow cell c0 xs (some l) reverse keepOrder).2 := by
  obtain ⟨hB, _⟩ := isRect_iff.mp h
  refine ⟨((zip3 (lens.map some) c0s inputs).map fun x => rnnRow cell x.2.1 x.2.2 x.1 reverse keepOrder).map Prod.fst,
    ((zip3 (lens.map some) c0s inputs).map fun x => rnnRow cell x.2.1 x.2.2 x.1 reverse keepOrder).map Prod.snd,
    ?_, ?_, ?_, ?_⟩
  · simp only [rnnBatch, h, hl, List.length_map, ne_eq, not_true_eq_false, decide_false, Bool.not_true,
      Bool.or_self, Bool.false_eq_true, ↓reduceIte]
  · simp [length_zip3, hl, hB]
  · simp [length_zip3, hl, hB]
  · intro b c0 xs l hc hx hlb
    simp only [List.getElem?_map, getElem?_zip3, hc, hx, hlb]
    simp

/-- lengths outside the documented domain `[1, T]` are outside the model -/
theorem select_last_domain (cs : List C) (l : Nat) : (selectLast cs l).isSome = true ↔ 1 ≤ l ∧ l ≤ cs.length := by
  unfold selectLast
  by_cases h : 1 ≤ l ∧ l ≤ cs.length
  · simp only [h, and_self, ↓reduceIte, iff_true]
    rw [List.getElem?_eq_getElem (by omega)]; rfl
  · simp [h]

/-- **repaired `_select_last_carry`, two batch axes**: entry `(i, j)` is `selectLast` of the carries of batch
element `(i, j)` alone -/
theorem select_last2_spec (cs : List (List (List C))) (lens : List (List Nat)) (i j : Nat) (row : List Nat) (l : Nat)
    (hr : lens[i]? = some row) (hl : row[j]? = some l)
    (hc : ∀ t, t < cs.length → ∃ c, ((cs[t]?).bind (·[i]?)).bind (·[j]?) = some c) :
    ((selectLast2 cs lens)[i]?).bind (·[j]?) =
      some (selectLast (cs.filterMap fun (step : List (List C)) => (step[i]?).bind (·[j]?)) l) := by
  -- every time step holds element `(i, j)`, so its carry series is the stacked carries read at `(i, j)`
  have hsome : ∀ step ∈ cs, ((step[i]?).bind (·[j]?)).isSome := by
    intro step hstep
    obtain ⟨t, ht, rfl⟩ := List.getElem_of_mem hstep
    obtain ⟨c, hc⟩ := hc t ht
    rw [List.getElem?_eq_getElem ht] at hc
    exact Option.isSome_iff_exists.mpr ⟨c, hc⟩
  simp only [selectLast2, List.getElem?_mapIdx, hr, hl, Option.map_some, Option.bind_some, selectLast,
    Lists.length_filterMap_of_isSome cs hsome, Lists.getElem?_filterMap_of_isSome cs hsome, Option.bind_assoc]

example : ((selectLast2 [[[111, 112], [121, 122]], [[211, 212], [221, 222]]] [[1, 2], [2, 1]])[0]?).bind (·[1]?)
    = some (selectLast [112, 212] 2) := by decide +kernel

/-- **finding (fixed in /repo): the shipped `_select_last_carry` is wrong for two batch axes.** For batch shape
`(2, 2)` it returns, per batch element, a *row* of carries read at the wrong batch index (so the returned carry
has shape `(2, 2, 2, …)` instead of `(2, 2, …)`); for batch shape `(2, 3)` the index arrays do not broadcast
and the call raises. The repaired function returns the carry after the last valid step of each element. -/
theorem select_last2_orig_wrong :
    let cs : List (List (List Int)) := [[[111, 112], [121, 122]], [[211, 212], [221, 222]]]
    selectLast2Orig cs [[1, 2], [2, 1]] = some [[some [111, 112], some [221, 222]], [some [211, 212], some [121, 122]]] ∧
    selectLast2 cs [[1, 2], [2, 1]] = [[some 111, some 212], [some 221, some 122]] ∧
    selectLast2Orig [[[1, 2, 3], [4, 5, 6]]] [[1, 1, 1], [1, 1, 1]] = none := by
  decide +kernel

end RNN

section NDim
variable {α : Type}

private theorem aux_bcast_length (s idx : List Nat) (h : idx.length = s.length) : (bcastIdx s idx).length = s.length := by
  simp [bcastIdx, h]

/-- **`flip_sequences` with `seq_lengths` on n-d arrays, both layouts**: batch element `is` reads, at time `t`, its own
time `flipIdx T (seq_lengths[is]) t` -/
theorem flip_nd_spec (inputs : ND α) (lens : ND Nat) (tm : Bool) (T : Nat) (fshape is fs : List Nat) (t : Nat)
    (hshape : inputs.shape = layout tm lens.shape T fshape)
    (his : InB is lens.shape) (ht : t < T) :
    (flipND inputs (some lens) lens.shape.length tm).get (layout tm is t fs) =
      inputs.get (layout tm is (flipIdx T (lens.get is) t) fs) := by
  cases tm with
  | true =>
    exact flipND_get inputs lens true T [] lens.shape [] is fs t rfl rfl (by rw [hshape]; rfl) InB.nil his ht
  | false =>
    have := flipND_get inputs lens false T lens.shape [] is [] fs t (List.append_nil _).symm rfl
      (by rw [hshape]; simp [layout]) his InB.nil ht
    simpa [layout] using this

/-- without `seq_lengths`: plain reversal of the time axis, in both layouts -/
theorem flip_nd_none_spec (inputs : ND α) (nb : Nat) (tm : Bool) (T : Nat) (bshape fshape is fs : List Nat) (t : Nat)
    (hshape : inputs.shape = layout tm bshape T fshape) (hnb : bshape.length = nb) (his : is.length = nb) :
    (flipND inputs none nb tm).get (layout tm is t fs) = inputs.get (layout tm is (T - 1 - t) fs) := by
  cases tm with
  | true => exact flipND_none_get inputs nb true T [] (is ++ fs) t rfl (by rw [hshape]; rfl)
  | false =>
    exact flipND_none_get inputs nb false T is fs t his.symm (by rw [hshape, his, ← hnb]; simp [layout])

/-- **the one-row model is what every batch element sees**: the time series of batch element `is` of
`flip_sequences(inputs, seq_lengths, …)` is `flipSeq` of that element's own series with its own length
`seq_lengths[is]` — any number of batch axes, both layouts, with or without lengths. -/
theorem flip_nd_row (inputs : ND α) (lens : Option (ND Nat)) (tm : Bool) (T : Nat) (bshape is : List Nat)
    (hshape : inputs.shape = layout tm bshape T []) (his : InB is bshape)
    (hl : ∀ l, lens = some l → l.shape = bshape) :
    rowND (flipND inputs lens bshape.length tm) tm is T =
      flipSeq (lens.map (·.get is)) (rowND inputs tm is T) := by
  have hrl := length_rowND inputs tm is T
  apply List.ext_getElem?
  intro t
  by_cases ht : t < T
  · rw [getElem?_rowND _ _ _ _ _ ht]
    cases lens with
    | none =>
      rw [Option.map_none, flipSeq, List.getElem?_reverse (hrl.symm ▸ ht), hrl,
        getElem?_rowND _ _ _ _ _ (show T - 1 - t < T by omega),
        flip_nd_none_spec inputs bshape.length tm T bshape [] is [] t hshape rfl his.length_eq]
    | some l =>
      obtain rfl := hl l rfl
      rw [Option.map_some, getElem?_flipSeq _ _ _ (hrl.symm ▸ ht), hrl,
        getElem?_rowND _ _ _ _ (flipIdx T (l.get is) t) (Nat.mod_lt _ (Nat.zero_lt_of_lt ht)),
        flip_nd_spec inputs l tm T [] is [] t hshape his ht]
  · rw [List.getElem?_eq_none (by rw [length_rowND]; omega),
      List.getElem?_eq_none (by rw [flip_length, hrl]; omega)]

/-- **repaired `_select_last_carry`, any number of batch axes**: batch element `is` gets the stacked carry of
its own series at its own `seq_lengths[is] - 1` -/
theorem select_last_nd_spec (x : ND α) (lens : ND Nat) (is fs : List Nat) (his : is.length = lens.shape.length) :
    (selectLastND x lens).get (is ++ fs) = x.get ((lens.get is - 1) :: (is ++ fs)) := by
  simp only [selectLastND, ← his, List.take_left', List.drop_left', ← List.getD_eq_getElem?_getD,
    Lists.map_getD_range]

private theorem selectLastND_get (x : ND α) (lens : ND Nat) (is : List Nat) (his : is.length = lens.shape.length) :
    (selectLastND x lens).get is = x.get ((lens.get is - 1) :: is) := by
  simpa using select_last_nd_spec x lens is [] his

-- flip_nd_spec, concretely: time-major [T=3, 2, 2] input holding 100·t + 10·i + j, lengths [[1, 3], [2, 1]]:
-- element (0, 1) (length 3) is reversed, element (1, 0) (length 2) swaps its first two steps, element (0, 0) keeps step 0
example :
    let inp : ND Nat := ⟨[3, 2, 2], fun idx => 100 * idx[0]! + 10 * idx[1]! + idx[2]!⟩
    let lens : ND Nat := ⟨[2, 2], fun is => [[1, 3], [2, 1]][is[0]!]![is[1]!]!⟩
    (flipND inp (some lens) 2 true).get [0, 0, 1] = 201 ∧ (flipND inp (some lens) 2 true).get [0, 1, 0] = 110 ∧
    (flipND inp (some lens) 2 true).get [0, 0, 0] = 0 ∧ (flipND inp (some lens) 2 true).get [2, 1, 0] = 210 ∧
    InB [0, 1] lens.shape := by
  refine ⟨by decide, by decide, by decide, by decide, ?_⟩
  exact InB.cons (by decide) (InB.cons (by decide) InB.nil)

/-- **`RNN` on any number of batch axes, both layouts = the one-row model applied to every batch element with
its own initial carry and its own `seq_lengths` entry.** For an input `[*batch, T]` (or `[T, *batch]` when
`time_major`), every flag combination, with or without lengths: the output series of batch element `is` and its
returned carry are exactly `rnnRow` of that element's input series. Together with `rnn_valid_spec` /
`rnn_padding_inert` this lifts every one-row theorem to arbitrary batch shapes and to `time_major`. -/
theorem rnn_nd_spec {C X Y : Type} (cell : C → X → C × Y) (c0 : ND C) (inputs : ND X) (lens : Option (ND Nat))
    (tm rev keep : Bool) (T : Nat) (bshape is : List Nat)
    (hshape : inputs.shape = layout tm bshape T []) (his : InB is bshape)
    (hl : ∀ l, lens = some l → l.shape = bshape) :
    rowND (rnnND cell c0 inputs lens bshape.length T tm rev keep).2 tm is T =
      (rnnRow cell (c0.get is) (rowND inputs tm is T) (lens.map (·.get is)) rev keep).2.map some ∧
    (rnnND cell c0 inputs lens bshape.length T tm rev keep).1.get is =
      (rnnRow cell (c0.get is) (rowND inputs tm is T) (lens.map (·.get is)) rev keep).1 := by
  have hisl := his.length_eq
  have hrl := length_rowND inputs tm is T
  -- flipping the array flips each batch element's series with its own length, so the scan `rnnND` runs for element `is`
  -- is the scan of `rnnRow` on that element's series; outputs and carries are then read back one element at a time
  have hx1 : rowND (if rev then flipND inputs lens bshape.length tm else inputs) tm is T =
      (if rev then flipSeq (lens.map (·.get is)) (rowND inputs tm is T) else rowND inputs tm is T) := by
    cases rev
    · rfl
    · simp only [↓reduceIte]; exact flip_nd_row inputs lens tm T bshape is hshape his hl
  have hx1len : (if rev then flipSeq (lens.map (·.get is)) (rowND inputs tm is T) else rowND inputs tm is T).length = T := by
    cases rev <;> simp [flip_length, hrl]
  refine ⟨?_, ?_⟩
  · have houts := rowND_of_series inputs.shape
      (fun is => (scanCell cell (c0.get is) (rowND (if rev then flipND inputs lens bshape.length tm else inputs) tm is T)).2)
      Prod.snd tm bshape.length is T hisl (by rw [scanCell_length, hx1]; exact hx1len)
    simp only [hx1] at houts
    simp only [rnnND, rnnRow_eq]
    cases hrk : (rev && keep) with
    | false => exact houts
    | true =>
      simp only [↓reduceIte]
      rw [flip_nd_row (⟨inputs.shape, _⟩ : ND (Option Y)) lens tm T bshape is hshape his hl, houts, flipSeq_map]
  · simp only [rnnND, rnnRow_eq]
    cases lens with
    | none =>
      simp only [Option.map_none] at hx1 ⊢
      rw [hx1]
    | some l =>
      simp only [Option.map_some] at hx1 hx1len ⊢
      rw [selectLastND_get _ _ _ (by rw [hl l rfl]; exact hisl)]
      simp only [List.tail_cons, List.headD_cons, hx1, selectLast, List.length_map, scanCell_length, hx1len,
        List.getElem?_map]

end NDim

section Cells
variable {R : Type} [Add R] [Mul R] [OfNat R 0]

/-- **OptimizedLSTMCell = LSTMCell** for the same parameters: concatenating the four kernels (and biases),
doing one matmul and splitting the result back gives exactly the four separate dense layers; the Linen summation
order (`dense_h + dense_i`) needs commutativity of `+` (true of IEEE addition), the NNX order needs nothing. -/
theorem lstm_optimized_eq (σ τ : R → R) (hFirst : Bool) (n : Nat) (p : LstmParams R)
    (hk : p.ii.length = n ∧ p.iF.length = n ∧ p.ig.length = n ∧ p.io.length = n ∧
          p.hi.length = n ∧ p.hf.length = n ∧ p.hg.length = n ∧ p.ho.length = n)
    (hb : p.bi.length = n ∧ p.bf.length = n ∧ p.bg.length = n ∧ p.bo.length = n)
    (hcomm : hFirst = true → ∀ a b : R, a + b = b + a) (carry : List R × List R) (x : List R) :
    lstmStepOpt σ τ hFirst n p carry x = lstmStep σ τ p carry x := by
  obtain ⟨k1, k2, k3, k4, k5, k6, k7, k8⟩ := hk
  obtain ⟨b1, b2, b3, b4⟩ := hb
  -- with the concatenations nested to the right the block lemmas peel one kernel at a time
  simp only [lstmStepOpt, lstmStep, List.append_assoc, dense_block_zero, dense_block_succ, dense_block_last,
    denseB_block_zero, denseB_block_succ, denseB_block_last, k1, k2, k3, k4, k5, k6, k7, k8, b1, b2, b3, b4,
    vadd_order hFirst hcomm]

example : lstmStepOpt (fun v : Int => v + 1) (fun v => 2 * v - 1) true 1
      ⟨[[1, -1]], [[0, 1]], [[1, 1]], [[-1, 0]], [[1]], [[-1]], [[0]], [[1]], [1], [0], [-1], [1]⟩ ([2], [-1]) [1, 2] =
    lstmStep (fun v : Int => v + 1) (fun v => 2 * v - 1)
      ⟨[[1, -1]], [[0, 1]], [[1, 1]], [[-1, 0]], [[1]], [[-1]], [[0]], [[1]], [1], [0], [-1], [1]⟩ ([2], [-1]) [1, 2] := by
  decide +kernel

/-! The documented recurrences, as the docstrings write them: `W x` is `dense W x`; `+`, `*` on vectors are element-wise.
The statements are over any scalar type with the stated laws (floats satisfy commutativity but not associativity, which
is why the float comparison in the harness carries a tolerance). -/

/-- LSTM docstring: `i = σ(W_ii x + W_hi h + b_hi)`, `f = σ(W_if x + W_hf h + b_hf)`, `g = tanh(W_ig x + W_hg h + b_hg)`,
`o = σ(W_io x + W_ho h + b_ho)`, `c' = f * c + i * g`, `h' = o * tanh(c')` -/
def lstmDoc (σ τ : R → R) (p : LstmParams R) (c h x : List R) : List R × List R :=
  let i := (vadd (vadd (dense p.ii x) (dense p.hi h)) p.bi).map σ
  let f := (vadd (vadd (dense p.iF x) (dense p.hf h)) p.bf).map σ
  let g := (vadd (vadd (dense p.ig x) (dense p.hg h)) p.bg).map τ
  let o := (vadd (vadd (dense p.io x) (dense p.ho h)) p.bo).map σ
  let c' := vadd (vmul f c) (vmul i g)
  (c', vmul o (c'.map τ))

/-- **LSTMCell follows its documented recurrence** (Linen and NNX share the body): the code adds the bias to the
hidden-state projection first (`Dense(use_bias=True)` on `h`), the docstring writes it last — equal by
associativity of `+`. New carry `(c', h')`, output `h'`. -/
theorem lstm_follows_doc (σ τ : R → R) (p : LstmParams R) (hassoc : ∀ a b c : R, a + b + c = a + (b + c))
    (c h x : List R) :
    lstmStep σ τ p (c, h) x = (lstmDoc σ τ p c h x, (lstmDoc σ τ p c h x).2) := by
  simp only [lstmStep, lstmDoc, denseB, vadd_assoc hassoc]

end Cells

section Cells2
variable {R : Type} [Add R] [Mul R] [Sub R] [OfNat R 0] [OfNat R 1]

/-- GRU docstring: `r = σ(W_ir x + b_ir + W_hr h)`, `z = σ(W_iz x + b_iz + W_hz h)`,
`n = tanh(W_in x + b_in + r * (W_hn h + b_hn))`, `h' = (1 - z) * n + z * h` (`b_hn` absent in NNX) -/
def gruDoc (σ τ : R → R) (p : GruParams R) (h x : List R) : List R :=
  let r := (vadd (vadd (dense p.ir x) p.bir) (dense p.hr h)).map σ
  let z := (vadd (vadd (dense p.iz x) p.biz) (dense p.hz h)).map σ
  let whn := match p.bhn with
    | some b => vadd (dense p.hn h) b
    | none => dense p.hn h
  let n := (vadd (vadd (dense p.iN x) p.biN) (vmul r whn)).map τ
  vadd (vmul (z.map (1 - ·)) n) (vmul z h)

/-- **Linen GRUCell follows its documented recurrence**, including where `b_hn` sits (inside the product with
`r`); no algebraic law is needed: the code is the formula. Carry and output are both `h'`. -/
theorem gru_follows_doc (σ τ : R → R) (p : GruParams R) (h x : List R) :
    gruStep σ τ p h x = (gruDoc σ τ p h x, gruDoc σ τ p h x) := by
  cases hb : p.bhn <;> simp [gruStep, gruDoc, denseB, denseO, hb]

/-- **nnx.GRUCell's layout** — one `3n`-wide input layer with bias, one `3n`-wide hidden layer *without* bias,
each split into `r, z, n` blocks — computes the documented recurrence with the three kernels concatenated in
the order `r, z, n` and **no `b_hn`** (the NNX docstring shows a `b_hn` that the cell does not have). -/
theorem gru_nnx_follows_doc (σ τ : R → R) (n : Nat) (p : GruParams R) (hnone : p.bhn = none)
    (hk : p.ir.length = n ∧ p.iz.length = n ∧ p.iN.length = n ∧ p.hr.length = n ∧ p.hz.length = n ∧ p.hn.length = n)
    (hb : p.bir.length = n ∧ p.biz.length = n ∧ p.biN.length = n) (h x : List R) :
    gruStepNnx σ τ n (p.ir ++ p.iz ++ p.iN) (p.bir ++ p.biz ++ p.biN) (p.hr ++ p.hz ++ p.hn) h x =
      (gruDoc σ τ p h x, gruDoc σ τ p h x) := by
  rw [gruStepNnx_eq_gruStep σ τ n p hnone hk hb, gru_follows_doc]

/-- SimpleCell docstring: `h' = tanh(W_i x + b_i + W_h h)`, with `residual`: `tanh(W_i x + b_i + W_h h + h)` -/
def simpleDoc (τ : R → R) (residual : Bool) (wi : List (List R)) (bi : List R) (wh : List (List R)) (h x : List R) :
    List R :=
  if residual then (vadd (vadd (vadd (dense wi x) bi) (dense wh h)) h).map τ
  else (vadd (vadd (dense wi x) bi) (dense wh h)).map τ

omit [Sub R] [OfNat R 1] in
/-- **SimpleCell follows its documented recurrence** (Linen and NNX share the body) -/
theorem simple_follows_doc (τ : R → R) (residual : Bool) (wi : List (List R)) (bi : List R) (wh : List (List R))
    (h x : List R) :
    simpleStep τ residual wi bi wh h x = (simpleDoc τ residual wi bi wh h x, simpleDoc τ residual wi bi wh h x) := by
  cases residual <;> simp [simpleStep, simpleDoc, denseB]

/-- MGU docstring: `f = σ(W_if x + b_if + W_hf h)`, `n = tanh(W_in x + b_in + f * (W_hn h + b_hn))`
(without `reset_gate`: `n = tanh(W_in x + b_in + W_hn h)`), `h' = (1 - f) * n + f * h` -/
def mguDoc (σ τ : R → R) (resetGate : Bool) (wxf : List (List R)) (bxf : List R) (whf : List (List R))
    (wxn : List (List R)) (bxn : List R) (whn : List (List R)) (bhn : List R) (h x : List R) : List R :=
  let f := (vadd (vadd (dense wxf x) bxf) (dense whf h)).map σ
  let n := if resetGate then (vadd (vadd (dense wxn x) bxn) (vmul f (vadd (dense whn h) bhn))).map τ
           else (vadd (vadd (dense wxn x) bxn) (dense whn h)).map τ
  vadd (vmul (f.map (1 - ·)) n) (vmul f h)

/-- **MGUCell follows its documented recurrence**: the code multiplies `(W_hn h + b_hn)` by `f` on the right
(`x *= f`), the docstring on the left — commutativity of `*`; the bias `b_hn` exists exactly when `reset_gate`. -/
theorem mgu_follows_doc (σ τ : R → R) (resetGate : Bool) (hcomm : ∀ a b : R, a * b = b * a)
    (wxf : List (List R)) (bxf : List R) (whf : List (List R)) (wxn : List (List R)) (bxn : List R)
    (whn : List (List R)) (bhn : List R) (h x : List R) :
    mguStep σ τ resetGate wxf bxf whf wxn bxn whn bhn h x =
      (mguDoc σ τ resetGate wxf bxf whf wxn bxn whn bhn h x, mguDoc σ τ resetGate wxf bxf whf wxn bxn whn bhn h x) := by
  cases resetGate
  · simp [mguStep, mguDoc, denseB]
  · simp only [mguStep, mguDoc, denseB, ↓reduceIte]
    rw [vmul_comm hcomm (vadd (dense whn h) bhn)]

end Cells2

/-- a concrete integer cell with a pair carry -/
def demoCell (c : Int × Int) (x : Int) : (Int × Int) × Int :=
  let c1 := (3 * c.1 + x) % 101
  let c2 := (c.2 + 2 * c1) % 101
  ((c1, c2), c1 + 2 * c2)

example : rnnRow demoCell (0, 0) [1, 2, 3, 40, 50] (some 3) false false
    = (some (18, 48), [5, 29, 114, 162, 213]) := by decide +kernel
example : rnnRow demoCell (0, 0) [1, 2, 3, -9, 77] (some 3) false false
    = (some (18, 48), [5, 29, 114, 119, 124]) := by decide +kernel
example : rnnRow demoCell (0, 0) [1, 2, 3, 40, 50] (some 3) true true
    = (some (34, 96), [226, 67, 15, 250, 245]) := by decide +kernel
example : (rnnRow demoCell (0, 0) [1, 2, 3, 40, 50] (some 3) true false).2.take 3 = [15, 67, 226] := by decide +kernel
example : flipSeq (some 2) [10, 20, 30, 40, 50] = [20, 10, 50, 40, 30] := by decide +kernel
example : flipSeq (some 5) [10, 20, 30, 40, 50] = [50, 40, 30, 20, 10] ∧
    flipSeq (none : Option Nat) [10, 20, 30] = [30, 20, 10] := by decide +kernel
example : bidirRow demoCell demoCell (fun a b => 1000 * a + b) (0, 0) (0, 0) [1, 2, 3, 40, 50] (some 3)
    = ((some (18, 48), some (34, 96)), [5226, 29067, 114015, 162250, 213245]) := by decide +kernel
example : rnnBatch demoCell true 3 [(0, 0), (1, 1)] [[1, 4], [2, 5], [3, 6]] (some [3, 2]) false false
    = .ok ([some (18, 48), some (26, 67)], [[5, 37], [29, 160], [114, 150]]) := by rfl
example : isRect 2 3 [[1, 2, 3], [4, 5, 6]] = true ∧ transposeN 3 [[1, 2, 3], [4, 5, 6]] = [[1, 4], [2, 5], [3, 6]] := by
  decide +kernel

end Flax.C13
