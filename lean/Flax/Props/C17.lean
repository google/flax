/-
C17 — Optimizer wrappers apply exactly the optax update; metrics ignore batching.
Models: Flax/Model/Optim.lean, Flax/Model/Metrics.lean.
  * `Tx` is an arbitrary optax transformation (A-OPTAX: a function `(grads, state, params) ↦
    (updates, state')` that may raise); every theorem quantifies over all of them, so "stateless,
    stateful, chained, with schedules" are all instances.
  * `manualStep` / `manualLoop` are the hand-written `tx.update` + `optax.apply_updates` loop.
  * the functional train states are Lean values: "returns a new instance and keeps the old one intact"
    is what a function on values does; the in-place `nnx.Optimizer` is modelled as object-state
    before ↦ (object-state after, exception raised).
-/
import Flax.Proofs.Optim
import Flax.Proofs.Metrics

namespace Flax.C17
open Flax.Optim Flax.Metrics
open Flax.Filter (VarInfo Path)

/-- the TrainState a hand-loop state corresponds to -/
def ofManual (fields : List (String × X)) (m : Manual (PT α) σ) : TrainState α σ X :=
  { step := m.step, params := m.params, optState := m.optState, fields := fields }

/-- `.replace(**kwargs)` touches exactly the named fields: names and order of the fields are kept, a
field named in `kwargs` takes the (first) given value, every other field is unchanged. -/
theorem replace_fields_exact (fields kwargs fs : List (String × X)) (h : replaceFields fields kwargs = .ok fs) :
    fs.map (·.1) = fields.map (·.1) ∧
    ∀ (i : Nat) (f : String × X), fields[i]? = some f →
      fs[i]? = some (f.1, match kwargs.find? (fun kv => decide (kv.1 = f.1)) with
                          | some kv => kv.2
                          | none => f.2) := by
  unfold replaceFields at h
  split at h
  · simp only [Except.ok.injEq] at h
    subst h
    refine ⟨?_, ?_⟩
    · simp only [List.map_map]
      apply List.map_congr_left
      intro f _
      simp only [Function.comp]
      split <;> rfl
    · intro i f hf
      simp only [List.getElem?_map, hf, Option.map_some]
      cases kwargs.find? (fun kv => decide (kv.1 = f.1)) <;> rfl
  · simp at h

theorem replace_fields_none (fields : List (String × X)) : replaceFields fields [] = .ok fields := by
  simp [replaceFields]

/-- an unknown keyword (or `step`/`params`/`opt_state`, which are not in `fields`) is rejected -/
theorem replace_fields_unknown (fields kwargs : List (String × X)) (kv : String × X) (hk : kv ∈ kwargs)
    (hn : kv.1 ∉ fields.map (·.1)) : replaceFields fields kwargs = .error .unknownField := by
  unfold replaceFields
  rw [if_neg]
  simp only [List.all_eq_true, List.any_eq_true, decide_eq_true_eq]
  intro hall
  obtain ⟨f, hf, he⟩ := hall kv hk
  exact hn (by simp only [List.mem_map]; exact ⟨f, hf, he⟩)

/-- Plain params: one `apply_gradients` call is one step of the hand-written
loop on `(params, opt_state, step)`: `params := apply_updates(params, updates)`,
`opt_state := new state`, `step + 1`; it raises exactly when the hand-written step raises (same
exception), otherwise only the fields named in `kwargs` differ from the old instance. -/
theorem trainstate_step [Add α] (w : Width) (owg : String) (tx : Tx (PT α) σ) (s : TrainState α σ X) (grads : PT α)
    (kwargs : List (String × X)) (hg : grads.hasKey owg = .ok false) :
    s.applyGradients w owg tx grads kwargs =
      match manualStep w tx PT.applyUpdates ⟨s.params, s.optState, s.step⟩ grads with
      | .error e => .error e
      | .ok m =>
        match replaceFields s.fields kwargs with
        | .error e => .error e
        | .ok fs => .ok (ofManual fs m) := by
  simp only [TrainState.applyGradients, hg, manualStep]
  cases tx.update grads s.optState s.params with
  | error e => rfl
  | ok us =>
    obtain ⟨u, s'⟩ := us
    simp only
    cases s.params.applyUpdates u with
    | error e => rfl
    | ok p' =>
      simp only
      cases replaceFields s.fields kwargs <;> rfl

/-- The OVERWRITE_WITH_GRADIENT branch of `apply_gradients`. When `grads` has the OWG key, only
`params['params']` goes through `tx` (with `grads['params']`), the new `params` is exactly
`{'params': apply_updates(...), OWG: grads[OWG]}`: the OWG subtree is replaced by its gradient and is
never seen by the optimizer. -/
theorem trainstate_step_owg [Add α] (w : Width) (owg : String) (tx : Tx (PT α) σ) (s : TrainState α σ X) (grads : PT α)
    (kwargs : List (String × X)) (gOpt gOwg pOpt : PT α)
    (hg : grads.hasKey owg = .ok true) (hgp : grads.get "params" = .ok gOpt) (hgo : grads.get owg = .ok gOwg)
    (hp : s.params.get "params" = .ok pOpt) :
    s.applyGradients w owg tx grads kwargs =
      match manualStep w tx PT.applyUpdates ⟨pOpt, s.optState, s.step⟩ gOpt with
      | .error e => .error e
      | .ok m =>
        match replaceFields s.fields kwargs with
        | .error e => .error e
        | .ok fs => .ok { step := m.step, params := .dict [("params", m.params), (owg, gOwg)],
                          optState := m.optState, fields := fs } := by
  simp only [TrainState.applyGradients, hg, hgp, hp, hgo, manualStep]
  cases tx.update gOpt s.optState pOpt with
  | error e => rfl
  | ok us =>
    obtain ⟨u, s'⟩ := us
    simp only
    cases pOpt.applyUpdates u with
    | error e => rfl
    | ok p' =>
      simp only
      cases replaceFields s.fields kwargs <;> rfl

/-- OWG branch, `grads['params']` missing: the lookup's exception (KeyError) is raised before anything is
computed. -/
theorem trainstate_step_owg_keyerror [Add α] (w : Width) (owg : String) (tx : Tx (PT α) σ) (s : TrainState α σ X) (grads : PT α)
    (kwargs : List (String × X)) (e : Optim.Err)
    (hg : grads.hasKey owg = .ok true) (hgp : grads.get "params" = .error e) :
    s.applyGradients w owg tx grads kwargs = .error e := by
  simp only [TrainState.applyGradients, hg, hgp]

/-- `TrainState.create`: step 0 and `opt_state = tx.init(params)` — of `params['params']` when the
OWG collection is present (it gets no optimizer state). -/
theorem trainstate_create (owg : String) (tx : Tx (PT α) σ) (params : PT α) (fields : List (String × X)) :
    (params.hasKey owg = .ok false →
      TrainState.create owg tx params fields = .ok (ofManual fields (manualInit tx params))) ∧
    (∀ pOpt, params.hasKey owg = .ok true → params.get "params" = .ok pOpt →
      TrainState.create owg tx params fields =
        .ok { step := 0, params := params, optState := tx.init pOpt, fields := fields }) := by
  constructor
  · intro h; simp [TrainState.create, h, ofManual, manualInit]
  · intro pOpt h hp; simp [TrainState.create, h, hp]

/-- `TrainState`: for every gradient history (plain params), `k`
calls of `apply_gradients` give exactly the hand-written loop's params / opt_state, `step + k`, the
other fields untouched; they raise exactly when (and what) the loop raises. -/
theorem trainstate_k_steps_eq_manual_loop [Add α] (w : Width) (owg : String) (tx : Tx (PT α) σ) (gs : List (PT α)) :
    ∀ (s : TrainState α σ X), (∀ g ∈ gs, g.hasKey owg = .ok false) →
    TrainState.run w owg tx s gs =
      match manualLoop w tx PT.applyUpdates ⟨s.params, s.optState, s.step⟩ gs with
      | .error e => .error e
      | .ok m => .ok (ofManual s.fields m) := by
  induction gs with
  | nil => intro s _; rfl
  | cons g gs ih =>
    intro s h
    have hg := h g (by simp)
    simp only [TrainState.run, manualLoop, trainstate_step w owg tx s g [] hg, replace_fields_none]
    cases manualStep w tx PT.applyUpdates ⟨s.params, s.optState, s.step⟩ g with
    | error e => rfl
    | ok m =>
      simp only
      exact ih (ofManual s.fields m) (fun g' hg' => h g' (by simp [hg']))

/-- OWG histories: when every gradient has the OWG form
`{'params': gp, OWG: go}`, `k ≥ 1` calls give the hand-written loop run on `params['params']` with
the `gp`s only, and the OWG collection equals the last `go`. -/
theorem trainstate_k_steps_owg [Add α] (w : Width) (owg : String) (tx : Tx (PT α) σ) (parts : List (PT α × PT α × PT α)) :
    ∀ (s : TrainState α σ X) (p0 : PT α), s.params.get "params" = .ok p0 →
    (∀ t ∈ parts, t.1.hasKey owg = .ok true ∧ t.1.get "params" = .ok t.2.1 ∧ t.1.get owg = .ok t.2.2) →
    TrainState.run w owg tx s (parts.map (·.1)) =
      match manualLoop w tx PT.applyUpdates ⟨p0, s.optState, s.step⟩ (parts.map (·.2.1)) with
      | .error e => .error e
      | .ok m => .ok { step := m.step,
                       params := match parts.getLast? with
                                 | none => s.params
                                 | some l => .dict [("params", m.params), (owg, l.2.2)],
                       optState := m.optState, fields := s.fields } := by
  induction parts with
  | nil => intro s p0 _ _; rfl
  | cons t ts ih =>
    intro s p0 hp h
    obtain ⟨h1, h2, h3⟩ := h t List.mem_cons_self
    simp only [List.map_cons, TrainState.run, manualLoop,
      trainstate_step_owg w owg tx s t.1 [] t.2.1 t.2.2 p0 h1 h2 h3 hp, replace_fields_none]
    cases manualStep w tx PT.applyUpdates ⟨p0, s.optState, s.step⟩ t.2.1 with
    | error e => rfl
    | ok m =>
      simp only
      rw [ih { step := m.step, params := .dict [("params", m.params), (owg, t.2.2)],
               optState := m.optState, fields := s.fields } m.params
            (by simp [PT.get]) (fun t' ht' => h t' (List.mem_cons_of_mem t ht'))]
      -- with no further gradient the loop stops at `m` and the OWG collection is `t`'s; otherwise the
      -- last gradient of `t :: ts` is the last of `ts`
      cases ts with
      | nil => rfl
      | cons t' ts' =>
        rw [List.getLast?_cons_cons]
        cases manualLoop w tx PT.applyUpdates ⟨m.params, m.optState, m.step⟩ ((t' :: ts').map (·.2.1)) with
        | error e => rfl
        | ok m' =>
          cases hgl : (t' :: ts').getLast? with
          | none => simp at hgl
          | some l => rfl

/-- `nnx.TrainState.apply_gradients` is one hand-written step on
`(params, opt_state, step)` for every pytree type `P` (a `State` in practice) and every `tx`. -/
theorem nnx_trainstate_step (w : Width) (tx : Tx P S) (applyUpd : P → P → Except Optim.Err P) (s : NTrainState P S X) (grads : P)
    (kwargs : List (String × X)) :
    s.applyGradients w tx applyUpd grads kwargs =
      match manualStep w tx applyUpd ⟨s.params, s.optState, s.step⟩ grads with
      | .error e => .error e
      | .ok m =>
        match replaceFields s.fields kwargs with
        | .error e => .error e
        | .ok fs => .ok { params := m.params, optState := m.optState, step := m.step, fields := fs } := by
  simp only [NTrainState.applyGradients, manualStep]
  cases tx.update grads s.optState s.params with
  | error e => rfl
  | ok us =>
    obtain ⟨u, s'⟩ := us
    simp only
    cases applyUpd s.params u with
    | error e => rfl
    | ok p' =>
      simp only
      cases replaceFields s.fields kwargs <;> rfl

/-- `k` calls on an `nnx.TrainState` are the hand-written loop, for every gradient history; `create` starts the
loop at `tx.init(params)` and the given step. -/
theorem nnx_trainstate_k_steps_eq_manual_loop (w : Width) (tx : Tx P S) (applyUpd : P → P → Except Optim.Err P) (gs : List P) :
    ∀ (s : NTrainState P S X),
    NTrainState.run w tx applyUpd s gs =
      match manualLoop w tx applyUpd ⟨s.params, s.optState, s.step⟩ gs with
      | .error e => .error e
      | .ok m => .ok { params := m.params, optState := m.optState, step := m.step, fields := s.fields } := by
  induction gs with
  | nil => intro s; rfl
  | cons g gs ih =>
    intro s
    simp only [NTrainState.run, manualLoop, nnx_trainstate_step, replace_fields_none]
    cases manualStep w tx applyUpd ⟨s.params, s.optState, s.step⟩ g with
    | error e => rfl
    | ok m => simp only; exact ih _

theorem nnx_trainstate_create (tx : Tx P S) (params : P) (step : Nat) (fields : List (String × X)) :
    let s := NTrainState.create tx params step fields
    s.params = params ∧ s.optState = (manualInit tx params).optState ∧ s.step = step ∧ s.fields = fields :=
  ⟨rfl, rfl, rfl, rfl⟩

/-- First half of the `nnx.Optimizer` step: `_opt_state_variables_to_state ∘ _wrap_optimizer_state = id` and
back: what optax is handed is exactly what it returned last time (VariableState ↔ OptVariable with
the source type/metadata restored, arrays ↔ OptArray). -/
theorem optimizer_wrap_unwrap (s : List (OptLeaf α)) (w : List (OptVar α)) :
    (s.map wrapLeaf).map unwrapLeaf = s ∧ (w.map unwrapLeaf).map wrapLeaf = w := by
  constructor
  · simp [List.map_map, Function.comp_def, unwrap_wrap]
  · simp [List.map_map, Function.comp_def, wrap_unwrap]

/-- `Optimizer(model, tx, wrt)` starts the hand-written loop: step 0, the params selected by `wrt`,
`tx.init` of exactly those. -/
theorem optimizer_create_abs (tx : NTx α) (sel : Path → VarInfo → Bool) (m : Model α) :
    (Optimizer.create tx sel m).abs sel = manualInit tx (stateOf sel m) ∧
    (Optimizer.create tx sel m).model = m := by
  simp [Optimizer.create, Optimizer.abs, manualInit, List.map_map, Function.comp_def, unwrap_wrap]

/-- For every model graph with pairwise distinct Variable paths, every `wrt`
predicate, every structure-preserving `tx` and every `grads`: if the hand-written step on
`(nnx.state(model, wrt), unwrapped opt_state, step)` succeeds with `m`, then `update` raises nothing
and afterwards
  * `nnx.state(model, wrt)` is `m.params` (= `apply_updates(params, updates)`),
  * the stored optimizer state unwraps to `m.optState`, and `step` is `step + 1` in the counter's own arithmetic (`incStep`),
  * every Variable keeps its path, type and metadata, every Variable **not** selected by `wrt` keeps
    its value, and the optimizer-state Variables keep their kinds (`Frame`). -/
theorem nnx_optimizer_step [Add α] (w : Width) (tx : NTx α) (sel : Path → VarInfo → Bool) (htx : ShapePreserving tx)
    (o : Optimizer α) (hwf : (paths o.model).Nodup) (g : NState α)
    (m : Manual (NState α) (List (OptLeaf α)))
    (hm : manualStep w tx applyUpdatesN (o.abs sel) g = .ok m) :
    ∃ o', o.update w tx sel g = (o', none) ∧
      stateOf sel o'.model = m.params ∧ o'.optState.map unwrapLeaf = m.optState ∧ o'.step = incStep w o.step ∧
      Frame sel o o' := by
  obtain ⟨o', h1, h2, h3⟩ := update_simulates w tx sel htx o hwf g m hm
  refine ⟨o', h1, ?_, ?_, ?_, h3⟩
  · simpa [Optimizer.abs] using congrArg Manual.params h2
  · simpa [Optimizer.abs] using congrArg Manual.optState h2
  · exact (congrArg Manual.step h2).trans (manualStep_step hm)

/-- when the hand-written step raises (inside `tx.update` or `apply_updates`), `update` raises the
same exception and **nothing** was mutated: step, model and optimizer state are as before. -/
theorem nnx_optimizer_error_atomic [Add α] (w : Width) (tx : NTx α) (sel : Path → VarInfo → Bool) (o : Optimizer α)
    (g : NState α) (e : Optim.Err) (hm : manualStep w tx applyUpdatesN (o.abs sel) g = .error e) :
    o.update w tx sel g = (o, some e) :=
  update_error_atomic w tx sel o g e hm

/-- `nnx.Optimizer`: for every gradient history, the sequence of
in-place `update` calls tracks the hand-written loop started at the Optimizer's abstraction: if the
loop succeeds, so do all calls, the final selected params / optimizer state / step are the loop's,
and the frame holds between the first and the last object state; if the loop raises, so does the
history of calls (same exception). -/
theorem optimizer_k_steps_eq_manual_loop [Add α] (w : Width) (tx : NTx α) (sel : Path → VarInfo → Bool)
    (htx : ShapePreserving tx) (gs : List (NState α)) :
    ∀ (o : Optimizer α), (paths o.model).Nodup →
    match manualLoop w tx applyUpdatesN (o.abs sel) gs with
    | .ok m => ∃ o', o.run w tx sel gs = (o', none) ∧ o'.abs sel = m ∧ Frame sel o o'
    | .error e => (o.run w tx sel gs).2 = some e := by
  induction gs with
  | nil => intro o _; exact ⟨o, rfl, rfl, Frame.refl sel o⟩
  | cons g gs ih =>
    intro o hwf
    simp only [manualLoop]
    cases hs : manualStep w tx applyUpdatesN (o.abs sel) g with
    | error e =>
      simp only [Optimizer.run, update_error_atomic w tx sel o g e hs]
    | ok m1 =>
      obtain ⟨o1, h1, h2, h3⟩ := update_simulates w tx sel htx o hwf g m1 hs
      have hwf1 : (paths o1.model).Nodup := by rw [h3.paths_eq]; exact hwf
      have := ih o1 hwf1
      rw [h2] at this
      simp only [Optimizer.run, h1]
      cases hl : manualLoop w tx applyUpdatesN m1 gs with
      | error e => simp only [hl] at this ⊢; exact this
      | ok m =>
        simp only [hl] at this ⊢
        obtain ⟨o', r1, r2, r3⟩ := this
        exact ⟨o', r1, r2, h3.trans r3⟩

/-- a history in which the hand-written loop raises: the calls before the failing one all succeed,
the failing call raises the loop's exception, and the object is left exactly in the state the
hand-written loop had reached before the failing step (nothing of the failing step is applied). -/
theorem optimizer_failed_history_stops_at_last_good_state [Add α] (w : Width) (tx : NTx α) (sel : Path → VarInfo → Bool)
    (htx : ShapePreserving tx) (gs : List (NState α)) :
    ∀ (o : Optimizer α), (paths o.model).Nodup → ∀ e, manualLoop w tx applyUpdatesN (o.abs sel) gs = .error e →
    ∃ pre g post m', gs = pre ++ g :: post ∧
      manualLoop w tx applyUpdatesN (o.abs sel) pre = .ok m' ∧
      manualStep w tx applyUpdatesN m' g = .error e ∧
      (o.run w tx sel pre).2 = none ∧ (o.run w tx sel pre).1.abs sel = m' ∧
      o.run w tx sel gs = ((o.run w tx sel pre).1, some e) := by
  induction gs with
  | nil => intro o _ e h; simp [manualLoop] at h
  | cons g gs ih =>
    intro o hwf e h
    simp only [manualLoop] at h
    cases hs : manualStep w tx applyUpdatesN (o.abs sel) g with
    | error e' =>
      simp only [hs, Except.error.injEq] at h
      subst h
      refine ⟨[], g, gs, o.abs sel, rfl, rfl, hs, rfl, rfl, ?_⟩
      simp only [Optimizer.run, update_error_atomic w tx sel o g e' hs]
    | ok m1 =>
      simp only [hs] at h
      obtain ⟨o1, h1, h2, h3⟩ := update_simulates w tx sel htx o hwf g m1 hs
      have hwf1 : (paths o1.model).Nodup := by rw [h3.paths_eq]; exact hwf
      rw [← h2] at h
      obtain ⟨pre, g', post, m', r1, r2, r3, r4, r5, r6⟩ := ih o1 hwf1 e h
      refine ⟨g :: pre, g', post, m', by simp [r1], ?_, r3, ?_, ?_, ?_⟩
      · simp only [manualLoop, hs]; rw [← h2]; exact r2
      · simp only [Optimizer.run, h1]; exact r4
      · simp only [Optimizer.run, h1]; exact r5
      · simp only [Optimizer.run, h1]; exact r6

/-- the part of the frame that needs **no** assumption on `tx`: for every transformation (well
behaved or not), every `wrt`, every history of `update` calls — including calls that raise, even
half-way through `_update_opt_state` — every Variable of the model keeps its path, type and
metadata, and every Variable not selected by `wrt` keeps its value. -/
theorem optimizer_unselected_never_touched [Add α] (w : Width) (tx : NTx α) (sel : Path → VarInfo → Bool)
    (gs : List (NState α)) (o : Optimizer α) (hwf : (paths o.model).Nodup) :
    ModelFrame sel o.model (o.run w tx sel gs).1.model :=
  run_model_frame w tx sel gs o hwf

/-- a transformation whose new state changes a leaf kind makes `_update_opt_state` raise TypeError
after `step` and the model were already updated (the error branch of `optimizer_update_variables`);
with matching structure (`updateOptState_ok`) it cannot raise. -/
theorem optimizer_update_opt_state_kind_errors (s : VarInfo) (v w : α) (i : VarInfo) :
    updateOptLeaf (.optVariable s v) (.arr w) = .error .typeError ∧
    updateOptLeaf (.optArray v) (.vstate i w) = .error .typeError ∧
    updateOptLeaf (.optVariable s v) (.vstate i w) = .ok (.optVariable s w) ∧
    updateOptLeaf (.optArray v) (.arr w) = .ok (.optArray w) :=
  ⟨rfl, rfl, rfl, rfl⟩

/-- A `w`-bit counter (int32 from `jnp.asarray(step)`, the uint32 of
`Optimizer.step`, an int8/uint8/int16 passed by the caller) goes to `(old + 1) mod 2^w` — at the top
of its range it wraps to the bottom, it does not stay; this is addition of one on `BitVec w`. A Python
`int` counter (Linen `TrainState` before any array is put there) goes to `old + 1`. -/
theorem step_increments_mod (w s : Nat) :
    incStep (some w) s = (s + 1) % 2 ^ w ∧
    incStep (some w) s = (BitVec.ofNat w s + 1).toNat ∧
    incStep (some w) (2 ^ w - 1) = 0 ∧
    incStep none s = s + 1 := by
  refine ⟨rfl, ?_, ?_, rfl⟩
  · simp [incStep, BitVec.toNat_add, BitVec.toNat_ofNat]
  · have : 0 < 2 ^ w := Nat.two_pow_pos w
    simp only [incStep]
    rw [Nat.sub_add_cancel this, Nat.mod_self]

/-- the no-overflow corollary (the natural-number reading of the other theorems): below the top of
the range the counter is literally `old + 1` -/
theorem step_no_overflow (w s : Nat) (h : s + 1 < 2 ^ w) : incStep (some w) s = s + 1 := by
  simp [incStep, Nat.mod_eq_of_lt h]

/-- every successful call of each of the three wrappers moves its counter by exactly one `incStep`
(all branches: plain and OWG, any kwargs); a raising `Optimizer.update` leaves it where it was or one
further (the latter only when `_update_opt_state` is what raised). -/
theorem wrappers_increment_step_by_one [Add α] (w : Width) :
    (∀ (owg : String) (tx : Tx (PT α) σ) (s s' : TrainState α σ X) (g : PT α) (kw : List (String × X)),
      s.applyGradients w owg tx g kw = .ok s' → s'.step = incStep w s.step) ∧
    (∀ (tx : Tx P S) (applyUpd : P → P → Except Optim.Err P) (s s' : NTrainState P S X) (g : P) (kw : List (String × X)),
      s.applyGradients w tx applyUpd g kw = .ok s' → s'.step = incStep w s.step) ∧
    (∀ (tx : NTx α) (sel : Path → VarInfo → Bool) (o : Optimizer α) (g : NState α),
      ((o.update w tx sel g).2 = none → (o.update w tx sel g).1.step = incStep w o.step) ∧
      ((o.update w tx sel g).1.step = o.step ∨ (o.update w tx sel g).1.step = incStep w o.step)) :=
  ⟨fun _ _ _ _ _ _ h => applyGradients_step h, fun _ _ _ _ _ _ h => nnx_applyGradients_step h,
   fun tx sel o g => update_step w tx sel o g⟩

/-- after `k` successful steps of the hand-written loop — hence, by the `k_steps` theorems, of each
wrapper — a `w`-bit counter holds `(start + k) mod 2^w`, a Python-int counter `start + k` -/
theorem k_steps_step_counter (tx : Tx P S) (applyUpd : P → P → Except Optim.Err P) (gs : List P) :
    ∀ (m m' : Manual P S),
    (∀ w : Nat, manualLoop (some w) tx applyUpd m gs = .ok m' → m'.step % 2 ^ w = (m.step + gs.length) % 2 ^ w) ∧
    (manualLoop none tx applyUpd m gs = .ok m' → m'.step = m.step + gs.length) := by
  intro m m'
  exact ⟨fun w h => manualLoop_step (some w) tx applyUpd gs m m' h, fun h => manualLoop_step none tx applyUpd gs m m' h⟩

/-- For every list of batches (scalars, arrays, empty arrays, in any
mixture), `Average` holds `(Σ of all values, number of values)` of the concatenated stream. -/
theorem average_batching_invariant (bs : List Batch) :
    avgRun AvgState.init bs =
      { total := sum (bs.flatMap Batch.values), count := (bs.flatMap Batch.values).length } := by
  rw [avgRun_values]
  simp only [AvgState.init, Nat.zero_add, Rat.zero_add]

/-- any two ways of splitting one value stream into `update` calls give the same state and the
same `compute()` -/
theorem average_partition_independent (bs bs' : List Batch)
    (h : bs.flatMap Batch.values = bs'.flatMap Batch.values) :
    avgRun AvgState.init bs = avgRun AvgState.init bs' ∧
    avgCompute (avgRun AvgState.init bs) = avgCompute (avgRun AvgState.init bs') := by
  rw [average_batching_invariant, average_batching_invariant, h]
  exact ⟨rfl, rfl⟩

/-- `Average.compute()` is the mean of everything seen (NaN, i.e. `none`, on the empty stream) -/
theorem average_compute_is_mean (bs : List Batch) :
    avgCompute (avgRun AvgState.init bs) =
      if bs.flatMap Batch.values = [] then none else some (mean (bs.flatMap Batch.values)) := by
  rw [average_batching_invariant]
  simp only [avgCompute, mean, List.length_eq_zero_iff]

/-- `reset` returns to the initial state whatever was seen before -/
theorem average_reset (s : AvgState) (bs : List Batch) :
    avgRun (avgReset s) bs = avgRun AvgState.init bs := rfl

/-- **Accuracy = Average of indicators**, multi-class: for every split of the examples into
`update(logits=…, labels=…)` calls (equal leading sizes, non-empty class axis) the state is
`(number of examples with argmax(logits) == label, number of examples)` of the whole stream. -/
theorem accuracy_batching_invariant (bs : List (List (List Rat) × List Int))
    (h : ∀ b ∈ bs, b.1.length = b.2.length ∧ ∀ r ∈ b.1, r ≠ []) :
    metricRun (.accuracy none "values" AvgState.init) (bs.map accKw) =
      .ok (.accuracy none "values"
        { total := sum (correct (bs.flatMap (·.1)) (bs.flatMap (·.2))),
          count := (bs.flatMap (·.2)).length }) :=
  accuracy_run_zipWith none accKw _ bs (fun b hb => (h b hb).1)
    (fun b hb s => accuracy_update_rows s b (h b hb).1 (h b hb).2)

/-- binary (`threshold`) variant: `(logits >= threshold) == (labels > 0)` -/
theorem accuracy_binary_batching_invariant (t : Rat) (bs : List (List Rat × List Int))
    (h : ∀ b ∈ bs, b.1.length = b.2.length) :
    metricRun (.accuracy (some t) "values" AvgState.init) (bs.map accKwBin) =
      .ok (.accuracy (some t) "values"
        { total := sum (correctBin t (bs.flatMap (·.1)) (bs.flatMap (·.2))),
          count := (bs.flatMap (·.2)).length }) :=
  accuracy_run_zipWith (some t) accKwBin _ bs h (fun b hb s => accuracy_update_flat t s b (h b hb))

/-- error branches of `Accuracy.update`: wrong `ndim` for the mode is a ValueError -/
theorem accuracy_ndim_errors (t : Rat) (rs : List (List Rat)) (xs : List Rat) (ls : List Int) :
    accuracyValues (some t) (.rows rs) ls = .error .valueError ∧
    accuracyValues none (.flat xs) ls = .error .valueError := ⟨rfl, rfl⟩

/-- For every list of non-empty batches (arrays or scalars), Welford
holds exactly `count = n`, `mean = Σx / n`, `m2 = Σ (x − mean)²` of the concatenated stream `xs`
(the pairwise-merge identity `m2' = m2_a + m2_b + δ² n_a n_b / n` is what makes the step go through:
`Flax.Metrics.merge_m2`). -/
theorem welford_batching_invariant (bs : List Batch) (hne : ∀ b ∈ bs, b.values ≠ []) :
    welfordRun WState.init bs =
      some { count := (bs.flatMap Batch.values).length,
             mean := mean (bs.flatMap Batch.values),
             m2 := sqDev (mean (bs.flatMap Batch.values)) (bs.flatMap Batch.values) } := by
  rw [← welfordOf_nil]
  exact welfordRun_of bs [] hne

/-- the Welford state, and so every statistic `compute()` derives from it, is independent of
how the stream was split -/
theorem welford_partition_independent (bs bs' : List Batch)
    (hne : ∀ b ∈ bs, b.values ≠ []) (hne' : ∀ b ∈ bs', b.values ≠ [])
    (h : bs.flatMap Batch.values = bs'.flatMap Batch.values) :
    welfordRun WState.init bs = welfordRun WState.init bs' := by
  rw [welford_batching_invariant bs hne, welford_batching_invariant bs' hne', h]

/-- `Welford.compute()`: `mean` is the stream mean and `m2 / count` is its population variance
(`standard_deviation` and `standard_error_of_mean` are `√variance` and `√variance / √count`). -/
theorem welford_compute_spec (bs : List Batch) (hne : ∀ b ∈ bs, b.values ≠ []) (s : WState)
    (hs : welfordRun WState.init bs = some s) :
    welfordCompute s =
      { mean := mean (bs.flatMap Batch.values),
        variance := if bs.flatMap Batch.values = [] then none else some (var (bs.flatMap Batch.values)),
        count := (bs.flatMap Batch.values).length } := by
  rw [welford_batching_invariant bs hne] at hs
  simp only [Option.some.injEq] at hs
  subst hs
  simp only [welfordCompute, var, List.length_eq_zero_iff]

/-- the excluded point: an empty array makes `values.mean()` NaN, which poisons the statistics until
`reset` (in the model: `none`, and `none` is absorbing for later updates) -/
theorem welford_empty_batch_poisons (s : WState) (an : String) (kw : Kwargs) (a : Arg) (hk : kw.get an = some a) :
    welfordUpdate s (.array []) = none ∧
    metricUpdate (.welford an none) kw = .ok (.welford an none) ∧
    metricReset (.welford an none) = .welford an (some WState.init) := by
  refine ⟨rfl, ?_, rfl⟩
  simp [metricUpdate, hk]

/-- **"since the last reset"**, Average: after any history of `update` and `reset` calls the state is
that of a fresh metric fed only the batches that came after the last `reset` — so by
`average_batching_invariant` it is `(Σ, n)` of exactly those values, however they were split. -/
theorem average_since_last_reset (calls : List Call) :
    avgCalls AvgState.init calls = avgRun AvgState.init (sinceReset calls) ∧
    avgCalls AvgState.init calls =
      { total := sum ((sinceReset calls).flatMap Batch.values),
        count := ((sinceReset calls).flatMap Batch.values).length } := by
  have h := avgCalls_sinceReset calls
  exact ⟨h, by rw [h, average_batching_invariant]⟩

/-- **"since the last reset"**, Welford (no hypothesis: a NaN-poisoned object is also repaired by
`reset`); with non-empty batches after the last reset the state is `(n, mean, Σ(x − mean)²)` of the
values seen since then. -/
theorem welford_since_last_reset (calls : List Call) :
    welfordCalls (some WState.init) calls = welfordRun WState.init (sinceReset calls) ∧
    ((∀ b ∈ sinceReset calls, b.values ≠ []) →
      welfordCalls (some WState.init) calls =
        some { count := ((sinceReset calls).flatMap Batch.values).length,
               mean := mean ((sinceReset calls).flatMap Batch.values),
               m2 := sqDev (mean ((sinceReset calls).flatMap Batch.values)) ((sinceReset calls).flatMap Batch.values) }) := by
  have h := welfordCalls_sinceReset calls
  exact ⟨h, fun hne => by rw [h, welford_batching_invariant _ hne]⟩

/-- A `MultiMetric` after any history of `update(**kwargs)` calls is,
member by member, what each member would be after the same calls on its own — and it succeeds
exactly when every member does; `compute()` is the dict of the members' `compute()`. -/
theorem multimetric_pointwise (ms ms' : Multi) (kws : List Kwargs) :
    (multiRun ms kws = .ok ms' ↔ Pointwise kws ms ms') ∧
    multiCompute ms' = ms'.map (fun e => (e.1, metricCompute e.2)) :=
  ⟨multiRun_pointwise kws ms ms', rfl⟩

/-- `reset` after any history = `reset` of the fresh metric: nothing of the history survives -/
theorem metric_reset_forgets (m m' : Metric) (kws : List Kwargs) (h : metricRun m kws = .ok m') :
    metricReset m' = metricReset m :=
  metricRun_reset kws m m' h

theorem multimetric_reset_forgets (ms ms' : Multi) (kws : List Kwargs) (h : multiRun ms kws = .ok ms') :
    multiReset ms' = multiReset ms :=
  multiReset_of_pointwise kws ms ms' ((multiRun_pointwise kws ms ms').mp h)

/-- a missing keyword argument is a TypeError (the `argname not in kwargs` branch) -/
theorem metric_missing_argument (an : String) (s : AvgState) (w : Option WState) (kw : Kwargs)
    (h : kw.get an = none) :
    metricUpdate (.average an s) kw = .error .typeError ∧
    metricUpdate (.welford an w) kw = .error .typeError := by
  simp [metricUpdate, h]

section Examples

deriving instance DecidableEq for Except

/-- a stateful transformation on nested dicts: updates = grads ("ascent"), state = call counter -/
def exTx : Tx (PT Int) Nat := { init := fun _ => 0, update := fun g s _ => .ok (g, s + 1) }

def exParams : PT Int := .dict [("b", .leaf 10), ("w", .leaf 1)]
def exGrads : PT Int := .dict [("b", .leaf (-1)), ("w", .leaf 5)]
def exState : TrainState Int Nat Int := { step := 0, params := exParams, optState := 0, fields := [("apply_fn", 1), ("tag", 0)] }

-- `replace_fields_exact` / `replace_fields_unknown`
example : replaceFields [("apply_fn", (1 : Int)), ("tag", 0)] [("tag", 5)] = .ok [("apply_fn", 1), ("tag", 5)] := by decide +kernel
example : replaceFields [("apply_fn", (1 : Int)), ("tag", 0)] [("step", 5)] = .error .unknownField := by decide +kernel

-- `trainstate_step`: the hypothesis holds for an ordinary gradient tree, and the call computes p + g
example : exGrads.hasKey "_overwrite_with_gradient" = .ok false := by decide +kernel
example : (exState.applyGradients none "_overwrite_with_gradient" exTx exGrads [("tag", 7)]).toOption.map
    (fun s => (s.step, s.params.get "w" |>.toOption.map (fun t => match t with | .leaf a => a | _ => 0), s.optState, s.fields)) =
    some (1, some 6, 1, [("apply_fn", 1), ("tag", 7)]) := by decide +kernel

-- `trainstate_step_owg` / `trainstate_k_steps_owg`: an OWG-shaped gradient
def exOwgGrads : PT Int := .dict [("_overwrite_with_gradient", .dict [("s", .leaf 7)]), ("params", exGrads)]
def exOwgState : TrainState Int Nat Int :=
  { step := 0, params := .dict [("_overwrite_with_gradient", .dict [("s", .leaf 3)]), ("params", exParams)], optState := 0, fields := [] }

example : exOwgGrads.hasKey "_overwrite_with_gradient" = .ok true := by decide +kernel
example : (exOwgGrads.get "params").toOption.isSome ∧ (exOwgGrads.get "_overwrite_with_gradient").toOption.isSome ∧
    (exOwgState.params.get "params").toOption.isSome := by decide +kernel
example : (exOwgState.applyGradients none "_overwrite_with_gradient" exTx exOwgGrads []).toOption.map
    (fun s => (s.step, s.optState,
      (s.params.get "_overwrite_with_gradient").toOption.bind (fun t => (t.get "s").toOption.map (fun t => match t with | .leaf a => a | _ => 0)),
      (s.params.get "params").toOption.bind (fun t => (t.get "b").toOption.map (fun t => match t with | .leaf a => a | _ => 0)))) =
    some (1, 1, some 7, some 9) := by decide +kernel
-- missing `grads['params']`: KeyError (hypothesis of `trainstate_step_owg_keyerror`)
example : (PT.dict [("_overwrite_with_gradient", PT.leaf (1 : Int))]).get "params" = .error .keyError := by
  simp [PT.get]

/-- NNX: a structure-preserving stateful transformation (one trace-like leaf per param + a counter) -/
def exBump : OptLeaf Int → OptLeaf Int
  | .vstate i v => .vstate i (v + 1)
  | .arr c => .arr (c + 1)

def exNTx : NTx Int :=
  { init := fun p => p.map (fun e => OptLeaf.vstate e.2.info 0) ++ [.arr 0],
    update := fun g s _ => .ok (g, s.map exBump) }

example : ShapePreserving exNTx := by
  intro g s p u s' h
  simp only [exNTx, Except.ok.injEq, Prod.mk.injEq] at h
  obtain ⟨_, rfl⟩ := h
  simp only [List.map_map]
  apply List.map_congr_left
  intro l _
  cases l <;> rfl

def exParam : VarInfo := { types := ["Param", "Variable"], tag := none }
def exStat : VarInfo := { types := ["BatchStat", "Variable"], tag := some "x" }
def exSel : Path → VarInfo → Bool := fun _ i => decide ("Param" ∈ i.types)
def exModel : Model Int := [⟨["b"], exStat, 10⟩, ⟨["k"], exParam, 3⟩, ⟨["sub", "w"], exParam, 1⟩]
def exOpt : Optimizer Int := Optimizer.create exNTx exSel exModel
def exNGrads : NState Int := [(["k"], ⟨exParam, -1⟩), (["sub", "w"], ⟨exParam, 5⟩)]

example : (paths exOpt.model).Nodup := by decide +kernel
-- the hand-written step succeeds (hypothesis `hm` of `nnx_optimizer_step`) …
example : manualStep (some 32) exNTx applyUpdatesN (exOpt.abs exSel) exNGrads =
    .ok { params := [(["k"], ⟨exParam, 2⟩), (["sub", "w"], ⟨exParam, 6⟩)],
          optState := [.vstate exParam 1, .vstate exParam 1, .arr 1], step := 1 } := by decide +kernel
-- … and the in-place update does what the theorem says: BatchStat `b` untouched, step 1, no exception
example : exOpt.update (some 32) exNTx exSel exNGrads =
    ({ step := 1, model := [⟨["b"], exStat, 10⟩, ⟨["k"], exParam, 2⟩, ⟨["sub", "w"], exParam, 6⟩],
       optState := [.optVariable exParam 1, .optVariable exParam 1, .optArray 1] }, none) := by decide +kernel
-- the counter at the top of its range wraps (hypothesis-free instance of `step_increments_mod`), and `step_no_overflow` has instances
example : incStep (some 32) 4294967295 = 0 ∧ incStep (some 8) 255 = 0 ∧ incStep (some 32) 2147483647 = 2147483648 ∧ (12345 : Nat) + 1 < 2 ^ 32 := by decide +kernel
example : (({ exOpt with step := 4294967295 } : Optimizer Int).update (some 32) exNTx exSel exNGrads).1.step = 0 := by decide +kernel
-- two steps (`optimizer_k_steps_eq_manual_loop`)
example : (exOpt.run (some 32) exNTx exSel [exNGrads, exNGrads]).1.step = 2 ∧ (exOpt.run (some 32) exNTx exSel [exNGrads, exNGrads]).2 = none := by decide +kernel
-- a structurally wrong gradient: the hand-written step raises, `nnx_optimizer_error_atomic` applies
example : manualStep (some 32) exNTx applyUpdatesN (exOpt.abs exSel) [(["k"], ⟨exParam, -1⟩)] = .error .structureMismatch := by decide +kernel
example : exOpt.update (some 32) exNTx exSel [(["k"], ⟨exParam, -1⟩)] = (exOpt, some .structureMismatch) := by decide +kernel
-- a history whose second step fails (hypothesis of `optimizer_failed_history_stops_at_last_good_state`)
example : manualLoop (some 32) exNTx applyUpdatesN (exOpt.abs exSel) [exNGrads, [(["k"], ⟨exParam, -1⟩)]] = .error .structureMismatch := by decide +kernel
example : (exOpt.run (some 32) exNTx exSel [exNGrads, [(["k"], ⟨exParam, -1⟩)]]).1.step = 1 := by decide +kernel

def exBatches : List Batch := [.array [1, 2, 3, 4], .scalar 3, .array [1, 2, 3, 5]]

example : ∀ b ∈ exBatches, b.values ≠ [] := by decide
example : welfordRun WState.init exBatches = some { count := 9, mean := 8 / 3, m2 := 14 } := by decide +kernel
example : welfordRun WState.init [.scalar 1, .array [2, 3, 4, 3, 1, 2, 3], .scalar 5] = welfordRun WState.init exBatches := by decide +kernel
example : avgRun AvgState.init (exBatches ++ [.array []]) = { total := 24, count := 9 } := by decide +kernel

def exAccBatches : List (List (List Rat) × List Int) := [([[1, 2], [3, 0]], [1, 1]), ([[0, 0]], [0])]
example : ∀ b ∈ exAccBatches, b.1.length = b.2.length ∧ ∀ r ∈ b.1, r ≠ [] := by decide
example : metricRun (.accuracy none "values" AvgState.init) (exAccBatches.map accKw) =
    .ok (.accuracy none "values" { total := 2, count := 3 }) := by decide +kernel
example : ∀ b ∈ ([([1, 0], [1, 0]), ([1 / 2], [2])] : List (List Rat × List Int)), b.1.length = b.2.length := by decide

def exMulti : Multi := [("loss", .average "values" AvgState.init), ("stats", .welford "values" (some WState.init))]
def exKws : List Kwargs := [[("values", .num (.array [1, 3]))], [("values", .num (.scalar 5))]]
-- hypothesis of `multimetric_reset_forgets` / `metric_reset_forgets`, and a satisfiable `Pointwise`
example : multiRun exMulti exKws =
    .ok [("loss", .average "values" { total := 9, count := 3 }), ("stats", .welford "values" (some { count := 3, mean := 3, m2 := 8 }))] := by
  decide +kernel
example : sinceReset [.update (.scalar 1), .reset, .update (.array [2, 4]), .update (.scalar 3)] = [.array [2, 4], .scalar 3] := by decide +kernel
example : ∀ b ∈ sinceReset [.update (.array []), .reset, .update (.array [2, 4]), .update (.scalar 3)], b.values ≠ [] := by decide
example : metricUpdate (.average "loss" AvgState.init) [("values", .num (.scalar 1))] = .error .typeError := by decide +kernel
-- an `Accuracy` built with a non-default argname always raises (it calls `Average.update(values=…)`)
example : metricUpdate (.accuracy none "acc" AvgState.init) (accKw ([[1, 2]], [1])) = .error .typeError := by decide +kernel

end Examples

end Flax.C17
