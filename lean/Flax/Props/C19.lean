/-
C19 — Partition metadata stays aligned with array axes through boxing and transforms.
Property theorems over `Flax/Model/Axes.lean`.
-/
import Flax.Proofs.Axes
import Flax.Proofs.AxesRules

namespace Flax.C19
open Flax.Axes

/-- **`remove_axis(k) ∘ add_axis(k) = id`** for every names tuple and every index the array side can
use, negative ones included: `−(len+1) ≤ k ≤ len`. (Repaired `add_axis`; see `orig_add_remove_not_inverse`.) -/
theorem add_remove_inverse (names : Names) (k : Int) (nm : Name)
    (h1 : -((names.length : Int) + 1) ≤ k) (h2 : k ≤ names.length) :
    removeAxis k nm (addAxis k nm names) = .ok names := by
  obtain ⟨j, hj⟩ := exists_normIdx_succ h1 h2
  rw [addAxis_eq_insertAt _ _ _ _ hj, removeAxis_insertAt _ _ _ _ hj]

/-- **`add_axis(k) ∘ remove_axis(k) = id`** whenever `remove_axis` succeeds (for every `k`). -/
theorem remove_add_inverse (names ns' : Names) (k : Int) (nm : Name)
    (h : removeAxis k nm names = .ok ns') : addAxis k nm ns' = names :=
  addAxis_of_removeAxis h

/-- `remove_axis` never removes a wrong entry silently: it succeeds exactly when the (normalised)
position exists and holds the partition name, and then removes exactly that entry. -/
theorem remove_axis_spec (names : Names) (k : Int) (nm : Name) :
    (∀ ns', removeAxis k nm names = .ok ns' ↔
        ∃ j, normIdx names.length k = some j ∧ names[j]? = some nm ∧ ns' = names.eraseIdx j) ∧
    (removeAxis k nm names = .error .indexError ↔ normIdx names.length k = none) ∧
    (removeAxis k nm names = .error .assertion ↔
        ∃ j, normIdx names.length k = some j ∧ names[j]? ≠ some nm) := by
  refine ⟨fun ns' => removeAxis_eq_ok_iff, ?_⟩
  unfold removeAxis
  cases normIdx names.length k with
  | none => simp
  | some j => by_cases hn : names[j]? = some nm <;> simp [hn]

/-- The shipped `add_axis` (finding F3) put a negative index one position too early: stacking on the
last axis named the middle one, and the matching `remove_axis(-1)` then failed its assertion. -/
theorem orig_add_remove_not_inverse :
    addAxisOrig (-1) (some "L") [some "in", some "out"] = [some "in", some "L", some "out"] ∧
    removeAxis (-1) (some "L") (addAxisOrig (-1) (some "L") [some "in", some "out"]) = .error .assertion ∧
    addAxis (-1) (some "L") [some "in", some "out"] = [some "in", some "out", some "L"] := by
  decide +kernel

/-- `addAxisOrig`, the shipped definition, agrees with the repaired one on non-negative indices
(and on the one negative index that clamps to the front). -/
theorem orig_add_axis_partial (names : Names) (k : Int) (nm : Name)
    (h : 0 ≤ k ∨ k = -((names.length : Int) + 1)) : addAxisOrig k nm names = addAxis k nm names := by
  rcases h with h | h
  · have : ¬ k < 0 := by omega
    simp [addAxisOrig, addAxis, this]
  · -- both insert at the front
    have hn : normIdx (names.length + 1) k = some 0 :=
      normIdx_eq_some_iff.mpr ⟨by omega, .inr (by omega)⟩
    have hk : k < 0 := by omega
    have h0 : (k + names.length).toNat = 0 := by omega
    rw [addAxis_eq_insertAt _ _ _ _ hn, addAxisOrig, padTo_of_le _ _ (by omega), pyInsert, insertPos,
      if_pos hk, h0]

/-- the legacy `scan_with_axes` / `vmap_with_axes` bookkeeping agrees with `Partitioned.add_axis`
wherever the array side accepts the axis, so everything below holds for it too -/
theorem legacy_eq_add_axis (names : Names) (k : Int) (nm : Name)
    (h1 : -((names.length : Int) + 1) ≤ k) (h2 : k ≤ names.length) :
    addAxisLegacy k nm names = addAxis k nm names ∧
    removeAxisLegacy k nm (addAxisLegacy k nm names) = .ok names := by
  obtain ⟨j, hj⟩ := exists_normIdx_succ h1 h2
  rw [addAxisLegacy_eq_insertAt _ _ _ _ hj, addAxis_eq_insertAt _ _ _ _ hj]
  exact ⟨rfl, removeAxisLegacy_insertAt _ _ _ _ hj⟩

/-- the shipped legacy bookkeeping had the same defect -/
theorem orig_legacy_misplaces_negative :
    addAxisLegacyOrig (-1) (some "L") [some "in", some "out"] = [some "in", some "L", some "out"] ∧
    addAxisLegacy (-1) (some "L") [some "in", some "out"] = [some "in", some "out", some "L"] := by
  decide +kernel

example : removeAxis (-2) (some "L") (addAxis (-2) (some "L") [some "in", none]) = .ok [some "in", none] := by decide +kernel
example : removeAxis 1 (some "L") [some "a", some "L", some "b"] = .ok [some "a", some "b"] ∧
    addAxis 1 (some "L") [some "a", some "b"] = [some "a", some "L", some "b"] := by decide +kernel


/-- the array side accepts exactly the indices `−(rank+1) ≤ k ≤ rank` for a new axis -/
theorem stack_accepts_iff {δ : Type} (k : Int) (d : δ) (dims : List δ) :
    (stackAt k d dims).isSome ↔ (-((dims.length : Int) + 1) ≤ k ∧ k ≤ dims.length) := by
  rw [stackAt, Option.isSome_map, normIdx_isSome_iff]
  omega

/-- **Stacking keeps names and dimensions aligned, for every axis position the array side accepts**
(negative ones included): if there is one name per dimension, then after a transform stacks the
variable along axis `k` the new partition name sits exactly where the new dimension sits, every other
name still labels its own dimension (`zip` is preserved), and there is again one name per dimension. -/
theorem aligned_after_stack {δ : Type} (names : Names) (dims : List δ) (k : Int) (nm : Name) (d : δ)
    (hal : names.length = dims.length)
    (hk1 : -((dims.length : Int) + 1) ≤ k) (hk2 : k ≤ dims.length) :
    ∃ j, j ≤ dims.length ∧
      stackAt k d dims = some (insertAt dims j d) ∧
      addAxis k nm names = insertAt names j nm ∧
      (addAxis k nm names).length = (insertAt dims j d).length ∧
      (addAxis k nm names).zip (insertAt dims j d) = insertAt (names.zip dims) j (nm, d) ∧
      (addAxis k nm names)[j]? = some nm ∧ (insertAt dims j d)[j]? = some d := by
  obtain ⟨j, hj⟩ := exists_normIdx_succ hk1 hk2
  have hjle := le_of_normIdx_succ hj
  refine ⟨j, hjle, by rw [stackAt, hj]; rfl, ?_⟩
  rw [addAxis_eq_insertAt names k nm j (hal ▸ hj)]
  exact ⟨rfl, by rw [length_insertAt, length_insertAt, hal], zip_insertAt _ _ _ _ _ hal,
    getElem?_insertAt_self _ _ _ (hal ▸ hjle), getElem?_insertAt_self _ _ _ hjle⟩

/-- **Slicing removes the partition name together with its dimension.** Whenever `remove_axis`
succeeds on names aligned with the array, the array side slices the very same position, the names
that remain keep labelling their own dimensions, and alignment is preserved. -/
theorem aligned_after_slice {δ : Type} (names ns' : Names) (dims : List δ) (k : Int) (nm : Name)
    (hal : names.length = dims.length) (h : removeAxis k nm names = .ok ns') :
    ∃ j, names[j]? = some nm ∧ ns' = names.eraseIdx j ∧
      sliceAt k dims = some (dims.eraseIdx j) ∧
      ns'.length = (dims.eraseIdx j).length ∧
      ns'.zip (dims.eraseIdx j) = (names.zip dims).eraseIdx j := by
  obtain ⟨j, hj, hn, rfl⟩ := removeAxis_eq_ok_iff.mp h
  refine ⟨j, hn, rfl, ?_, ?_, Lists.zip_eraseIdx _ _ _⟩
  · rw [sliceAt, ← hal, hj]; rfl
  · rw [List.length_eraseIdx, List.length_eraseIdx, hal]

/-- **The padding loop**: a names tuple *shorter* than the rank (unnamed trailing dimensions) is padded
with `None` so that, for every non-negative axis, the partition name still lands on the new dimension
and every named dimension keeps its name. (`effName` reads a missing entry as `None`.) -/
theorem short_names_stack (names : Names) (k : Int) (nm : Name) (hk : 0 ≤ k) (i : Nat) :
    effName (addAxis k nm names) i
      = if i < k.toNat then effName names i else if i = k.toNat then nm else effName names (i - 1) := by
  rw [addAxis_of_nonneg _ _ _ hk, effName_insertAt _ _ _ (toNat_le_length_padTo names k)]
  simp only [effName_padTo]

example : addAxis 3 (some "L") [some "in"] = [some "in", none, none, some "L"] := by decide +kernel

/-- `unbox (replace_boxed b v) = v`, for every nesting of boxes -/
theorem unbox_replaceBoxed {α : Type} (b : Box α) (v : α) : (b.replaceBoxed v).unbox = v :=
  Box.unbox_replaceBoxed b v

/-- the axis names of every box layer, outermost first -/
def allNames {α : Type} : Box α → List Names
  | .raw _ => []
  | .boxed ns inner => ns :: allNames inner

/-- replacing the boxed value never touches any layer's names -/
theorem replaceBoxed_names {α : Type} (b : Box α) (v : α) :
    allNames (b.replaceBoxed v) = allNames b ∧ (b.replaceBoxed v).names? = b.names? := by
  induction b with
  | raw _ => exact ⟨rfl, rfl⟩
  | boxed ns inner ih => exact ⟨by simp [Box.replaceBoxed, allNames, ih.1], rfl⟩

/-- the `Variable.value` setter: the stored value afterwards unboxes to what was assigned and carries
the same names on every layer (the box is never lost, never duplicated) -/
theorem setValue_spec {α : Type} (cur : Box α) (v : α) :
    (cur.setValue v).unbox = v ∧ allNames (cur.setValue v) = allNames cur := by
  cases cur with
  | raw _ => exact ⟨rfl, rfl⟩
  | boxed ns inner => exact ⟨Box.unbox_setValue _ _, (replaceBoxed_names (.boxed ns inner) v).1⟩

/-- metadata updates never touch the value -/
theorem axis_updates_keep_value {α : Type} (b b' : Box α) (k : Int) (p : Option Name) :
    (b.addAxis k p = .ok b' → b'.unbox = b.unbox) ∧ (b.removeAxis k p = .ok b' → b'.unbox = b.unbox) := by
  cases b with
  | raw v =>
    constructor <;> (intro h; simp [Box.addAxis, Box.removeAxis] at h; subst h; rfl)
  | boxed ns inner =>
    cases p with
    | none => constructor <;> (intro h; simp [Box.addAxis, Box.removeAxis] at h)
    | some nm =>
      constructor
      · intro h; simp [Box.addAxis] at h; subst h; rfl
      · intro h
        simp only [Box.removeAxis] at h
        cases hr : Axes.removeAxis k nm ns with
        | error e => simp [hr, Except.map] at h
        | ok ns' => simp [hr, Except.map] at h; subst h; rfl

/-- a boxed leaf without `partition_name` in `metadata_params` is rejected, not silently left misaligned -/
theorem missing_partition_name_rejected {α : Type} (ns : Names) (inner : Box α) (k : Int) :
    (Box.boxed ns inner).addAxis k none = .error .unspecified ∧
    (Box.boxed ns inner).removeAxis k none = .error .unspecified := ⟨rfl, rfl⟩

/-- one name per dimension on the outermost box (raw leaves are trivially aligned) -/
def Aligned {δ : Type} (b : VarBox δ) : Prop :=
  ∀ ns, b.names? = some ns → ns.length = b.unbox.length

/-- every level's axis is one the array side accepts at the rank it meets (rank grows by one per level) -/
def levelsInRange {δ : Type} : List (Level δ) → Nat → Prop
  | [], _ => True
  | l :: ls, r => (-((r : Int) + 1) ≤ l.axis ∧ l.axis ≤ r) ∧ levelsInRange ls (r + 1)

/-- **One transform level, way out**: the array gains dimension `l.size` at the normalised position
`j`, the outermost names gain `l.pname` at the same `j`, and alignment is preserved. -/
theorem outBox_aligned {δ : Type} (l : Level δ) (b b' : VarBox δ) (hal : Aligned b)
    (h : outBox l b = .ok b') :
    Aligned b' ∧ ∃ j, j ≤ b.unbox.length ∧ b'.unbox = insertAt b.unbox j l.size ∧
      (∀ ns, b.names? = some ns → b'.names? = some (insertAt ns j l.pname)) ∧
      (b.names? = none → b'.names? = none) := by
  obtain ⟨j, hj, rfl⟩ := outBox_eq_ok_iff.mp h
  have hjle := le_of_normIdx_succ hj
  have hins : ∀ ns, b.names? = some ns → (stacked l j b).names? = some (insertAt ns j l.pname) := by
    intro ns hns
    rw [names?_stacked, hns, Option.map_some, addAxis_eq_insertAt _ _ _ j (by rw [hal ns hns]; exact hj)]
  refine ⟨?_, j, hjle, unbox_stacked l j b, hins, fun h0 => by rw [names?_stacked, h0]; rfl⟩
  intro ns' hns'
  cases hb : b.names? with
  | none => rw [names?_stacked, hb] at hns'; cases hns'
  | some ns =>
    rw [hins ns hb] at hns'
    cases hns'
    rw [unbox_stacked, length_insertAt, length_insertAt, hal ns hb]

/-- **One transform level, there and back**: what the body sees on the way in is exactly the variable
that went out — same names, same dimensions. -/
theorem inBox_outBox {δ : Type} (l : Level δ) (b b' : VarBox δ) (hal : Aligned b)
    (h : outBox l b = .ok b') : inBox l b' = .ok b := by
  obtain ⟨j, hj, rfl⟩ := outBox_eq_ok_iff.mp h
  have hjle := le_of_normIdx_succ hj
  cases b with
  | raw v =>
    simp only [Box.unbox] at hj hjle
    simp only [stacked, inBox_raw, length_insertAt, hj, eraseIdx_insertAt _ _ _ hjle]
  | boxed ns inner =>
    have hlen : ns.length = inner.unbox.length := hal ns rfl
    simp only [Box.unbox] at hj hjle
    simp only [stacked, inBox_boxed, addAxis_eq_insertAt ns _ _ j (hlen ▸ hj),
      removeAxis_insertAt ns _ _ j (hlen ▸ hj), Box.unbox_replaceBoxed, length_insertAt, hj,
      eraseIdx_insertAt _ _ _ hjle, Box.replaceBoxed_replaceBoxed, Box.replaceBoxed_unbox]

/-- **Arbitrary nesting of scan and vmap** (any depth, any order, any axis at each level): if `init`
through the stack of transforms succeeds, the stacked variable has one name per dimension, and
applying the transformed module hands the innermost body exactly the original variable — names and
dimensions — after peeling the levels off outermost first. -/
theorem nested_transforms_aligned {δ : Type} (ls : List (Level δ)) (b b' : VarBox δ)
    (hal : Aligned b) (h : initThrough ls b = .ok b') :
    Aligned b' ∧ applyIn ls b' = .ok b := by
  induction ls generalizing b with
  | nil => simp [initThrough] at h; subst h; exact ⟨hal, rfl⟩
  | cons l ls ih =>
    obtain ⟨b1, h1, h2⟩ := initThrough_cons_ok_iff.mp h
    obtain ⟨hal', hap⟩ := ih b1 (outBox_aligned l b b1 hal h1).1 h2
    exact ⟨hal', applyIn_cons_ok_iff.mpr ⟨b1, hap, inBox_outBox l b b1 hal h1⟩⟩

/-- **One transform level, way in, on any aligned variable** (not only one produced by `init`):
when `remove_axis` succeeds the array side slices the same position `j`, the entry removed there was the
partition name, and what the body receives is again aligned. -/
theorem inBox_aligned {δ : Type} (l : Level δ) (b b' : VarBox δ) (hal : Aligned b)
    (h : inBox l b = .ok b') :
    Aligned b' ∧ ∃ j, j < b.unbox.length ∧ b'.unbox = b.unbox.eraseIdx j ∧
      (∀ ns, b.names? = some ns → ns[j]? = some l.pname ∧ b'.names? = some (ns.eraseIdx j)) ∧
      (b.names? = none → b'.names? = none) := by
  cases b with
  | raw v =>
    obtain ⟨j, hj, rfl⟩ := inBox_raw_eq_ok_iff.mp h
    exact ⟨nofun, j, lt_of_normIdx hj, rfl, nofun, fun _ => rfl⟩
  | boxed ns inner =>
    have hlen : ns.length = inner.unbox.length := hal ns rfl
    obtain ⟨ns', j, hr, hj, rfl⟩ := inBox_boxed_eq_ok_iff.mp h
    -- names and array have the same length, so both sides normalise the axis to the same `j`
    obtain ⟨j', hj', hn, rfl⟩ := removeAxis_eq_ok_iff.mp hr
    obtain rfl : j' = j := Option.some.inj ((hlen ▸ hj').symm.trans hj)
    refine ⟨?_, j', lt_of_normIdx hj, Box.unbox_replaceBoxed _ _, ?_, nofun⟩
    · intro ns'' hns''
      cases hns''
      simp only [Box.unbox, Box.unbox_replaceBoxed, List.length_eraseIdx, hlen]
    · intro ns'' hns''
      cases hns''
      exact ⟨hn, rfl⟩

/-- **Slicing through any nesting keeps alignment**: whatever aligned variable the transformed module
is applied to (not only one that `init` produced), if peeling the levels off succeeds, the innermost
body receives an aligned variable. -/
theorem applyIn_aligned {δ : Type} (ls : List (Level δ)) (b b' : VarBox δ) (hal : Aligned b)
    (h : applyIn ls b = .ok b') : Aligned b' := by
  induction ls generalizing b' with
  | nil => simp [applyIn] at h; subst h; exact hal
  | cons l ls ih =>
    obtain ⟨b1, h1, h2⟩ := applyIn_cons_ok_iff.mp h
    exact (inBox_aligned l b1 b' (ih b1 h1) h2).1

/-- **Mutable variables keep their names across an apply**: slice an aligned variable through the
levels, let the body assign any new value (`Variable.value = v`), stack the result back out — the
names that come out are exactly the names that went in (every partition name returns to the
position it was taken from), and the result is aligned again. -/
theorem apply_restack_names {δ : Type} (ls : List (Level δ)) (b b0 b2 : VarBox δ) (v : List δ)
    (hal : Aligned b) (hin : applyIn ls b = .ok b0) (hv : v.length = b0.unbox.length)
    (hout : initThrough ls (b0.setValue v) = .ok b2) :
    b2.names? = b.names? ∧ Aligned b2 := by
  induction ls generalizing b0 b2 v with
  | nil =>
    simp [applyIn] at hin; subst hin
    simp [initThrough] at hout; subst hout
    refine ⟨Box.names?_setValue _ _, fun ns hns => ?_⟩
    rw [Box.names?_setValue] at hns
    rw [Box.unbox_setValue, hv]
    exact hal ns hns
  | cons l ls ih =>
    obtain ⟨b1, h1, hin1⟩ := applyIn_cons_ok_iff.mp hin
    obtain ⟨b1', h2, hout1⟩ := initThrough_cons_ok_iff.mp hout
    obtain ⟨_, j, hjlt, hu0, _⟩ := inBox_aligned l b1 b0 (applyIn_aligned ls b b1 hal h1) hin1
    obtain ⟨v', hv', rfl⟩ := outBox_setValue_of_inBox v hin1 h2
    refine ih b1 b2 v' h1 ?_ hout1
    rw [hv', hv, hu0, List.length_eraseIdx_of_lt hjlt]
    omega

/-- names and dimensions travel through a transform as *pairs* -/
def stackPairs {δ : Type} (l : Level δ) (ps : List (Name × δ)) : Option (List (Name × δ)) :=
  (normIdx (ps.length + 1) l.axis).map (fun j => insertAt ps j (l.pname, l.size))

/-- `stackPairs` level after level, innermost first -/
def initPairs {δ : Type} : List (Level δ) → List (Name × δ) → Option (List (Name × δ))
  | [], ps => some ps
  | l :: ls, ps => (stackPairs l ps).bind (initPairs ls)

/-- **Right order through any nesting**: zipping the final names with the final dimensions gives the
original (name, dimension) pairs with each level's (partition name, mapped size) pair inserted at that
level's axis — so every name labels the dimension it was declared for, whatever the nesting. -/
theorem init_pairs {δ : Type} (ls : List (Level δ)) (ns : Names) (inner : VarBox δ) (b' : VarBox δ)
    (hal : ns.length = inner.unbox.length) (h : initThrough ls (.boxed ns inner) = .ok b') :
    ∃ ns', b'.names? = some ns' ∧ ns'.length = b'.unbox.length ∧
      initPairs ls (ns.zip inner.unbox) = some (ns'.zip b'.unbox) := by
  induction ls generalizing ns inner with
  | nil =>
    simp [initThrough] at h; subst h
    exact ⟨ns, rfl, hal, rfl⟩
  | cons l ls ih =>
    obtain ⟨b1, h1, h2⟩ := initThrough_cons_ok_iff.mp h
    obtain ⟨j, hj, rfl⟩ := outBox_eq_ok_iff.mp h1
    simp only [Box.unbox] at hj
    have ha := addAxis_eq_insertAt ns l.axis l.pname j (hal ▸ hj)
    obtain ⟨ns', hn', hl', hp'⟩ := ih (addAxis l.axis l.pname ns)
      (inner.replaceBoxed (insertAt inner.unbox j l.size))
      (by rw [ha, Box.unbox_replaceBoxed, length_insertAt, length_insertAt, hal]) h2
    refine ⟨ns', hn', hl', ?_⟩
    rw [← hp', Box.unbox_replaceBoxed, ha, zip_insertAt _ _ _ _ _ hal]
    simp [initPairs, stackPairs, hal, hj]

/-- `init` through the transforms succeeds exactly when every level's axis is in the range the array
side accepts at that depth; metadata never makes it fail (given a partition name). -/
theorem initThrough_ok_iff {δ : Type} (ls : List (Level δ)) (b : VarBox δ) :
    (∃ b', initThrough ls b = .ok b') ↔ levelsInRange ls b.unbox.length := by
  induction ls generalizing b with
  | nil => simp [initThrough, levelsInRange]
  | cons l ls ih =>
    have hr := normIdx_succ_isSome_iff (n := b.unbox.length) (k := l.axis)
    simp only [initThrough, levelsInRange, outBox_eq]
    cases hj : normIdx (b.unbox.length + 1) l.axis with
    | none => rw [hj] at hr; simp [Except.bind, ← hr]
    | some j => rw [hj] at hr; simp [Except.bind, ih, ← hr]

/-- **Boxed variables compute like their raw arrays (init)**: the array that comes out of a stack of
transforms is the same whether or not the variable is boxed, and boxing never makes `init` fail. -/
theorem boxed_computes_like_raw_init {δ : Type} (ls : List (Level δ)) (b : VarBox δ) :
    (∀ b', initThrough ls b = .ok b' → initThrough ls (.raw b.unbox) = .ok (.raw b'.unbox)) ∧
    (∀ v', initThrough ls (.raw b.unbox) = .ok (.raw v') → ∃ b', initThrough ls b = .ok b' ∧ b'.unbox = v') := by
  rw [initThrough_raw_unbox]
  cases initThrough ls b with
  | error e => exact ⟨fun _ h => (by cases h), fun _ h => (by cases h)⟩
  | ok b0 => exact ⟨fun b' h => by cases h; rfl, fun v' h => ⟨b0, rfl, by simpa [Except.map] using h⟩⟩

/-- **Boxed variables compute like their raw arrays (apply)**: whenever slicing the boxed variable succeeds, the array the body
receives is the one the raw run receives. -/
theorem boxed_computes_like_raw_apply {δ : Type} (ls : List (Level δ)) (b b' : VarBox δ)
    (h : applyIn ls b = .ok b') : applyIn ls (.raw b.unbox) = .ok (.raw b'.unbox) := by
  induction ls generalizing b' with
  | nil => simp [applyIn] at h; subst h; rfl
  | cons l ls ih =>
    obtain ⟨b1, h1, h2⟩ := applyIn_cons_ok_iff.mp h
    exact applyIn_cons_ok_iff.mpr ⟨_, ih b1 h1, inBox_raw_unbox h2⟩

/-- scan inside vmap, spelled out (vmap inside scan is the same statement with the two levels swapped):
the inner level's name goes in first, at its axis of the unstacked variable; the outer level's name
goes in second, at its axis of the already stacked one. -/
theorem two_level_aligned {δ : Type} (inner outer : Level δ) (ns : Names) (dims : List δ) (b' : VarBox δ)
    (hal : ns.length = dims.length)
    (h : initThrough [inner, outer] (.boxed ns (.raw dims)) = .ok b') :
    ∃ ji jo, ji ≤ dims.length ∧ jo ≤ dims.length + 1 ∧
      b' = .boxed (insertAt (insertAt ns ji inner.pname) jo outer.pname)
             (.raw (insertAt (insertAt dims ji inner.size) jo outer.size)) := by
  obtain ⟨b1, h1, h⟩ := initThrough_cons_ok_iff.mp h
  obtain ⟨b2, h2, h⟩ := initThrough_cons_ok_iff.mp h
  obtain rfl : b2 = b' := by simpa [initThrough] using h
  obtain ⟨ji, hji, rfl⟩ := outBox_eq_ok_iff.mp h1
  obtain ⟨jo, hjo, rfl⟩ := outBox_eq_ok_iff.mp h2
  simp only [unbox_stacked, Box.unbox, length_insertAt] at hji hjo
  have ha1 := addAxis_eq_insertAt ns inner.axis inner.pname ji (hal ▸ hji)
  have ha2 := addAxis_eq_insertAt (insertAt ns ji inner.pname) outer.axis outer.pname jo
    (by rw [length_insertAt, hal]; exact hjo)
  refine ⟨ji, jo, le_of_normIdx_succ hji, le_of_normIdx_succ hjo, ?_⟩
  simp [stacked, Box.replaceBoxed, Box.unbox, ha1, ha2]

-- scan (axis 1, "S", 4 steps) inside vmap (axis −1, "V", 2 lanes) over a (3, 5) kernel
example : initThrough [⟨1, some "S", 4⟩, ⟨-1, some "V", 2⟩] (.boxed [some "in", some "out"] (.raw [3, 5]))
    = .ok (.boxed [some "in", some "S", some "out", some "V"] (.raw [3, 4, 5, 2])) := by decide +kernel
-- vmap (axis 0) inside scan (axis 2)
example : initThrough [⟨0, some "V", 2⟩, ⟨2, some "S", 4⟩] (.boxed [some "in", some "out"] (.raw [3, 5]))
    = .ok (.boxed [some "V", some "in", some "S", some "out"] (.raw [2, 3, 4, 5])) := by decide +kernel
example : applyIn [⟨1, some "S", 4⟩, ⟨-1, some "V", 2⟩]
      (.boxed [some "in", some "S", some "out", some "V"] (.raw [3, 4, 5, 2]))
    = .ok (.boxed [some "in", some "out"] (.raw [3, 5])) := by decide +kernel
example : levelsInRange [(⟨1, some "S", 4⟩ : Level Nat), ⟨-1, some "V", 2⟩] 2 := by
  simp [levelsInRange]


/-- Linen `get_partition_spec`: a boxed leaf gives exactly its (outermost) names, an unboxed array
the replicated spec `P()`, anything else `None` -/
theorem partition_spec_exact {α : Type} (isArray : α → Bool) (ns : Names) (inner : Box α) (v : α) :
    (Box.boxed ns inner).partitionSpec isArray = some ns ∧
    (Box.raw v).partitionSpec isArray = (if isArray v then some [] else none) := ⟨rfl, rfl⟩

/-- after any stack of transforms the spec read off the stacked variable has one entry per
dimension of the stacked array, in the order `init_pairs` describes -/
theorem partition_spec_after_init {δ : Type} (ls : List (Level δ)) (ns : Names) (inner : VarBox δ)
    (b' : VarBox δ) (hal : ns.length = inner.unbox.length)
    (h : initThrough ls (.boxed ns inner) = .ok b') :
    ∃ spec, b'.partitionSpec (fun _ => true) = some spec ∧ spec.length = b'.unbox.length ∧
      initPairs ls (ns.zip inner.unbox) = some (spec.zip b'.unbox) := by
  obtain ⟨ns', hn, hl, hp⟩ := init_pairs ls ns inner b' hal h
  refine ⟨ns', ?_, hl, hp⟩
  cases b' with
  | raw v => simp [Box.names?] at hn
  | boxed ns'' inner' => simp [Box.names?] at hn; subst hn; rfl

/-- NNX `get_partition_spec` (no logical rules in scope): a non-empty `sharding` is returned as is, a
Variable without one (or with an empty one) is replicated when its value is an array -/
theorem nnx_partition_spec_exact (n : Name) (ns : Names) (isArray : Bool) :
    nnxPartitionSpec (some (n :: ns)) isArray = some (n :: ns) ∧
    nnxPartitionSpec none isArray = (if isArray then some [] else none) ∧
    nnxPartitionSpec (some []) isArray = (if isArray then some [] else none) := ⟨rfl, rfl, rfl⟩

/-- the NNX sharding tuple goes through `add_axis` / `remove_axis` exactly like Linen names: the two
are inverse on every accepted index, and a Variable without sharding metadata is left alone -/
theorem nnx_add_remove_inverse (sharding : Option Names) (k : Int) (nm : Name)
    (h : ∀ ns, sharding = some ns → -((ns.length : Int) + 1) ≤ k ∧ k ≤ ns.length) :
    nnxRemoveAxis k nm (nnxAddAxis k nm sharding) = .ok sharding := by
  cases sharding with
  | none => rfl
  | some ns =>
    obtain ⟨h1, h2⟩ := h ns rfl
    simp [nnxAddAxis, nnxRemoveAxis, add_remove_inverse ns k nm h1 h2, Except.map]

/-- **The `NNXMeta` box obeys the same alignment law as `Partitioned`**: for every sharding tuple with
one entry per dimension and every axis the array side accepts, the partition name lands on the new
dimension and every other entry keeps labelling its own dimension. -/
theorem nnxmeta_aligned_after_stack {δ : Type} (ns : Names) (dims : List δ) (k : Int) (nm : Name) (d : δ)
    (hal : ns.length = dims.length)
    (hk1 : -((dims.length : Int) + 1) ≤ k) (hk2 : k ≤ dims.length) :
    ∃ j ns', nnxMetaAddAxis k (some nm) (some ns) = .ok (some ns') ∧
      stackAt k d dims = some (insertAt dims j d) ∧
      ns'.length = (insertAt dims j d).length ∧
      ns'.zip (insertAt dims j d) = insertAt (ns.zip dims) j (nm, d) ∧
      ns'[j]? = some nm ∧ (insertAt dims j d)[j]? = some d := by
  obtain ⟨j, _, hs, _, hl, hz, hn, hd⟩ := aligned_after_stack ns dims k nm d hal hk1 hk2
  exact ⟨j, addAxis k nm ns, rfl, hs, hl, hz, hn, hd⟩

/-- add and remove are inverse on the bridge box for every accepted index; a box without a
`sharding` entry passes through both untouched (even without a partition name); an annotated box
without a partition name is rejected -/
theorem nnxmeta_add_remove_inverse (sharding : Option Names) (k : Int) (nm : Name)
    (h : ∀ ns, sharding = some ns → -((ns.length : Int) + 1) ≤ k ∧ k ≤ ns.length) :
    (nnxMetaAddAxis k (some nm) sharding).bind (nnxMetaRemoveAxis k (some nm)) = .ok sharding ∧
    (∀ p, nnxMetaAddAxis k p none = .ok none ∧ nnxMetaRemoveAxis k p none = .ok none) ∧
    (∀ ns, nnxMetaAddAxis k none (some ns) = .error .unspecified ∧
           nnxMetaRemoveAxis k none (some ns) = .error .unspecified) := by
  refine ⟨?_, fun p => ⟨rfl, rfl⟩, fun ns => ⟨rfl, rfl⟩⟩
  cases sharding with
  | none => rfl
  | some ns =>
    obtain ⟨h1, h2⟩ := h ns rfl
    simp [nnxMetaAddAxis, nnxMetaRemoveAxis, Except.bind, add_remove_inverse ns k nm h1 h2, Except.map]

/-- the shipped `NNXMeta.add_axis` was a no-op (finding F37): stacking a (3, 3) kernel on axis 0 left the sharding at two entries for a
rank-3 value, so `'in'` labelled the stacked axis -/
theorem orig_nnxmeta_noop_misaligned :
    nnxMetaAddAxisOrig 0 (some (some "layers")) (some [some "in", some "out"]) = .ok (some [some "in", some "out"]) ∧
    stackAt 0 4 [3, 3] = some [4, 3, 3] ∧
    nnxMetaAddAxis 0 (some (some "layers")) (some [some "in", some "out"])
      = .ok (some [some "layers", some "in", some "out"]) := by decide +kernel

example : nnxMetaRemoveAxis (-1) (some (some "L")) (some [some "in", some "out", some "L"])
    = .ok (some [some "in", some "out"]) := by decide +kernel

/-- what each filter's state should become: an int-axis filter's state is updated with that axis,
broadcast and carry states are untouched -/
def routed {σ : Type} (f : Int → σ → σ) (layout : List (AxisSpec × σ)) : List σ :=
  layout.map (fun p => match p.1 with | .ax k => f k p.2 | _ => p.2)

/-- **vmap / pmap**: with one state per filter, every filter order (broadcast first, int first,
several int groups) gives each state exactly its own filter's axis. -/
theorem state_axes_vmap_routing {σ : Type} (f : Int → σ → σ) (layout : List (AxisSpec × σ)) :
    updateStatesVmap f (layout.map Prod.fst) (layout.map Prod.snd) = routed f layout := by
  induction layout with
  | nil => rfl
  | cons p ps ih =>
    simp only [updateStatesVmap, routed, List.map_cons, List.zipWith_cons_cons] at ih ⊢
    exact congrArg _ ih

/-- **scan** (repaired): `NodeStates` holds only the vectorized states, and each of them is updated
with the axis of its *own* filter, whatever broadcast / carry filters are listed before, between or
after the int filters. -/
theorem state_axes_scan_routing {σ : Type} (f : Int → σ → σ) (layout : List (AxisSpec × σ)) :
    updateStatesScan f (layout.map Prod.fst) (vectorizedStates layout)
      = vectorizedStates (layout.map (fun p => (p.1, match p.1 with | .ax k => f k p.2 | _ => p.2))) := by
  have key : ∀ (layout : List (AxisSpec × σ)),
      List.zipWith (fun k s => f k s) ((layout.map Prod.fst).filterMap AxisSpec.int?) (vectorizedStates layout)
        = vectorizedStates (layout.map (fun p => (p.1, match p.1 with | .ax k => f k p.2 | _ => p.2))) ∧
      ((layout.map Prod.fst).filterMap AxisSpec.int?).length = (vectorizedStates layout).length := by
    intro layout
    induction layout with
    | nil => exact ⟨rfl, rfl⟩
    | cons p ps ih =>
      -- `filterMap` on a cons cell computes, so each case is the induction hypothesis up to unfolding
      obtain ⟨a, s⟩ := p
      cases a with
      | bcast => exact ih
      | carry => exact ih
      | ax k => exact ⟨congrArg (f k s :: ·) ih.1, congrArg (· + 1) ih.2⟩
  obtain ⟨h1, h2⟩ := key layout
  unfold updateStatesScan
  simp only
  rw [h1, h2, List.drop_length, List.append_nil]

/-- the shipped pairing (finding F39): with a broadcast filter listed before the int filter the vectorized state
is paired with the broadcast entry and never updated (inside `nnx.scan` the Param kept `'layers'`) -/
theorem orig_state_axes_scan_misroutes :
    updateStatesScanOrig (fun k (s : Names) => addAxis k (some "layers") s)
        [.bcast, .ax 1] (vectorizedStates [(.bcast, [some "cn"]), (.ax 1, [some "in", some "out"])])
      = [[some "in", some "out"]] ∧
    updateStatesScan (fun k (s : Names) => addAxis k (some "layers") s)
        [.bcast, .ax 1] (vectorizedStates [(.bcast, [some "cn"]), (.ax 1, [some "in", some "out"])])
      = [[some "in", some "layers", some "out"]] := by decide +kernel

example : updateStatesScan (fun k (s : Names) => addAxis k (some "L") s) [.carry, .ax 0, .bcast, .ax (-1)]
    (vectorizedStates [(.carry, [some "h"]), (.ax 0, [some "a"]), (.bcast, [some "c"]), (.ax (-1), [some "b"])])
    = [[some "L", some "a"], [some "b", some "L"]] := by decide +kernel

/-- one entry per dimension: the result has exactly as many entries as there are names -/
theorem mesh_axes_length (names : Names) (rules : List Rule) (res : List MeshVal)
    (h : logicalToMesh names rules = .ok res) : res.length = names.length := by
  rw [logicalToMesh_eq_ok h]
  simp [runRules_length, initSlots]

/-- duplicate logical names are rejected rather than resolved arbitrarily -/
theorem mesh_axes_duplicate_names_rejected (names : Names) (rules : List Rule)
    (h : ¬ (names.filterMap id).Nodup) : logicalToMesh names rules = .error .valueError := by
  simp [logicalToMesh, logicalToMeshRaw, hasDupName, h, Except.map]

/-- **No mesh axis is ever used for two dimensions of the same array** — for every names tuple and
every ordered rule list (no side condition on the rules: tuples of mesh axes, repeated rules,
`None` rules, rules for absent names are all allowed). -/
theorem mesh_axes_no_duplicate (names : Names) (rules : List Rule) (res : List MeshVal)
    (h : logicalToMesh names rules = .ok res) (p q : Nat) (hpq : p ≠ q) (mp mq : MeshVal)
    (hp : res[p]? = some mp) (hq : res[q]? = some mq) (a : String) :
    ¬ (a ∈ mp.leaves ∧ a ∈ mq.leaves) :=
  fun ⟨ha, hb⟩ =>
    runRules_disjoint names rules _ (initSlots_disjoint names) p q a hpq
      (mem_slotLeaves_of_logicalToMesh h hp ha) (mem_slotLeaves_of_logicalToMesh h hq hb)

/-- **Rule priority.** For a names tuple without duplicates, the dimension named `s` receives mesh
value `m` exactly when `m` belongs to the *first* rule for `s` (in list order) whose mesh axes were all
still unused at the moment that rule was processed; every earlier rule for `s` was blocked by a mesh
axis already in use. (`stateBefore … i` is `result` after the first `i` rules; a `None` rule has no
mesh axes, is never blocked, and pins the dimension to `None`.) -/
theorem mesh_axes_priority (names : Names) (rules : List Rule) (res : List Slot) (p : Nat) (s : String)
    (h : logicalToMeshRaw names rules = .ok res) (hp : firstIdx names (some s) = some p) (m : MeshVal) :
    res[p]? = some (.val m) ↔
      ∃ i r, rules[i]? = some r ∧ r.name = some s ∧ r.mesh = m ∧
        meshFree m (stateBefore names (initSlots names) rules i) = true ∧
        ∀ j r', j < i → rules[j]? = some r' → r'.name = some s →
          meshFree r'.mesh (stateBefore names (initSlots names) rules j) = false := by
  obtain rfl := logicalToMeshRaw_eq_ok h
  have hfate := runRules_get_of_unassigned names rules (initSlots names) p (some s) hp
    (initSlots_get names p s (firstIdx_eq_some hp))
  constructor
  · intro hm
    rcases hfate with ⟨i, r, ⟨hi, hn, hfree, hprev⟩, hfin⟩ | ⟨_, hfin⟩
    · rw [hfin] at hm
      cases hm
      exact ⟨i, r, hi, hn, rfl, hfree, hprev⟩
    · rw [hfin] at hm; cases hm
  · rintro ⟨i, r, hi, hn, rfl, hfree, hprev⟩
    rcases hfate with ⟨i', r', hff, hfin⟩ | ⟨hall, _⟩
    · rw [hfin, FirstFree.unique ⟨hi, hn, hfree, hprev⟩ hff]
    · rw [hall i r hi hn] at hfree; cases hfree

/-- the dimension named `s` stays unassigned (`None` in the final spec) exactly when *every*
rule for `s` was blocked by a mesh axis already in use at the moment it was processed (in
particular when there is no rule for `s`). -/
theorem mesh_axes_unassigned_iff (names : Names) (rules : List Rule) (res : List Slot) (p : Nat) (s : String)
    (h : logicalToMeshRaw names rules = .ok res) (hp : firstIdx names (some s) = some p) :
    res[p]? = some Slot.unassigned ↔
      ∀ i r, rules[i]? = some r → r.name = some s →
        meshFree r.mesh (stateBefore names (initSlots names) rules i) = false := by
  obtain rfl := logicalToMeshRaw_eq_ok h
  rcases runRules_get_of_unassigned names rules (initSlots names) p (some s) hp
      (initSlots_get names p s (firstIdx_eq_some hp)) with
    ⟨i, r, ⟨hi, hn, hfree, _⟩, hfin⟩ | ⟨hall, hfin⟩
  · rw [hfin]
    exact ⟨fun h => (by cases h), fun hall => (by rw [hall i r hi hn] at hfree; cases hfree)⟩
  · exact ⟨fun _ => hall, fun _ => hfin⟩

/-- without duplicate names, `firstIdx` finds every named dimension at its own position, so
`mesh_axes_priority` speaks about every named dimension -/
theorem firstIdx_of_nodup (names : Names) (p : Nat) (s : String) (hnd : (names.filterMap id).Nodup)
    (h : names[p]? = some (some s)) : firstIdx names (some s) = some p := by
  induction names generalizing p with
  | nil => simp at h
  | cons n ns ih =>
    cases p with
    | zero => simp at h; simp [firstIdx, h]
    | succ p =>
      simp only [List.getElem?_cons_succ] at h
      have hmem : s ∈ ns.filterMap id := by
        rw [List.mem_filterMap]; exact ⟨some s, List.mem_of_getElem? h, rfl⟩
      cases n with
      | none =>
        simp only [List.filterMap_cons, id] at hnd
        simp [firstIdx, ih p hnd h]
      | some t =>
        simp only [List.filterMap_cons, id, List.nodup_cons] at hnd
        have hne : t ≠ s := by intro he; subst he; exact hnd.1 hmem
        simp [firstIdx, hne, ih p hnd.2 h]

/-- dimensions whose name is `None` stay `None`, and a dimension that received a value received it
from a rule for its own name -/
theorem mesh_axes_sound (names : Names) (rules : List Rule) (res : List Slot)
    (h : logicalToMeshRaw names rules = .ok res) (p : Nat) :
    (names[p]? = some none → res[p]? = some (.val .none)) ∧
    (∀ s m, firstIdx names (some s) = some p → res[p]? = some (.val m) →
        ∃ r ∈ rules, r.name = some s ∧ r.mesh = m) := by
  constructor
  · intro hn
    obtain rfl := logicalToMeshRaw_eq_ok h
    -- a `None` position starts out holding a value, so no rule can overwrite it
    exact runRules_get_of_val names rules _ p .none (by simp [initSlots, List.getElem?_map, hn])
  · intro s m hp hm
    obtain ⟨i, r, hi, hn, hmm, _, _⟩ := (mesh_axes_priority names rules res p s h hp m).mp hm
    exact ⟨r, List.mem_of_getElem? hi, hn, hmm⟩

-- the docstring example of `logical_to_mesh_axes`
example : logicalToMesh [some "batch", some "length", some "heads", some "features"]
    [⟨some "batch", .one "X"⟩, ⟨some "features", .one "X"⟩, ⟨some "heads", .one "Y"⟩, ⟨some "batch", .one "Z"⟩]
    = .ok [.one "X", .none, .one "Y", .none] := by decide +kernel
-- a tuple rule blocked by an earlier assignment, then a `None` rule pinning the dimension
example : logicalToMesh [some "a", some "b", none]
    [⟨some "a", .one "X"⟩, ⟨some "b", .many ["X", "Y"]⟩, ⟨some "b", .none⟩, ⟨some "b", .one "Z"⟩]
    = .ok [.one "X", .none, .none] := by decide +kernel
example : firstIdx [some "a", none, some "b"] (some "b") = some 2 := by decide +kernel

/-- **End to end**: stack an aligned boxed variable through any nesting of transforms, read its
partition spec, resolve it with any rule list — the mesh spec has exactly one entry per dimension of
the stacked array (and, by `mesh_axes_no_duplicate`, never the same mesh axis twice). -/
theorem end_to_end_mesh_spec {δ : Type} (ls : List (Level δ)) (ns : Names) (inner : VarBox δ) (b' : VarBox δ)
    (rules : List Rule) (hal : ns.length = inner.unbox.length)
    (h : initThrough ls (.boxed ns inner) = .ok b') :
    ∃ spec, b'.partitionSpec (fun _ => true) = some spec ∧
      ∀ res, logicalToMesh spec rules = .ok res → res.length = b'.unbox.length := by
  obtain ⟨spec, hs, hl, _⟩ := partition_spec_after_init ls ns inner b' hal h
  exact ⟨spec, hs, fun res hr => by rw [mesh_axes_length spec rules res hr, hl]⟩

example : logicalToMesh [some "in", some "layers", some "out"]
    [⟨some "layers", .none⟩, ⟨some "in", .one "X"⟩, ⟨some "out", .many ["Y", "Z"]⟩]
    = .ok [.one "X", .none, .many ["Y", "Z"]] := by decide +kernel

/-- `to_nnx_metadata` (repaired) leaves the source box exactly as it was and hands the names over
under the key `sharding` -/
theorem to_nnx_source_intact (self : PyDict) (c : Call) (h : toNnxMetadata self = some c) :
    c.self = self ∧ (∃ v, self.lookup "names" = some v ∧ fromNnxNames c.ret = some v) := by
  unfold toNnxMetadata dictPop at h
  cases hl : self.lookup "names" with
  | none => simp [hl] at h
  | some v =>
    simp only [hl, Option.map_some, Option.some.injEq] at h
    subst h
    exact ⟨rfl, v, rfl, lookup_dictSet_self _ _ _⟩

/-- the shipped `to_nnx_metadata` (`metadata = vars(self)`, finding F4) strips `names` from the box it converts -/
theorem orig_to_nnx_mutates_source :
    ∃ c, toNnxMetadataOrig [("value", .other "array"), ("names", .names [some "in", some "out"]), ("mesh", .other "None")] = some c ∧
      c.self.lookup "names" = none ∧
      (toNnxMetadata [("value", .other "array"), ("names", .names [some "in", some "out"]), ("mesh", .other "None")]).map
        (fun c => c.self.lookup "names") = some (some (.names [some "in", some "out"])) := by
  refine ⟨_, rfl, by decide +kernel, by decide +kernel⟩


-- remove_add_inverse / aligned_after_slice: a successful removal at a negative index
example : removeAxis (-2) (some "S") [some "in", some "S", some "out"] = .ok [some "in", some "out"] ∧
    sliceAt (-2) [3, 4, 5] = some [3, 5] := by decide +kernel
-- remove_axis_spec: the two error branches are reachable
example : removeAxis 3 (some "S") [some "in", some "S", some "out"] = .error .indexError ∧
    removeAxis 0 (some "S") [some "in", some "S", some "out"] = .error .assertion := by decide +kernel
-- stack_accepts_iff: both sides of the range
example : stackAt (-4) 9 [3, 5] = none ∧ stackAt 3 9 [3, 5] = none ∧ stackAt (-3) 9 [3, 5] = some [9, 3, 5] ∧
    stackAt 2 9 [3, 5] = some [3, 5, 9] := by decide +kernel
-- Aligned / levelsInRange / init succeeding for a three-level nesting with mixed signs
example : initThrough [⟨-1, some "A", 2⟩, ⟨0, some "B", 4⟩, ⟨-3, some "C", 6⟩] (.boxed [some "in"] (.raw [3]))
    = .ok (.boxed [some "B", some "C", some "in", some "A"] (.raw [4, 6, 3, 2])) := by decide +kernel
-- an out-of-range level is rejected by the array side, whatever the names
example : initThrough [⟨3, some "A", 2⟩] (.boxed [some "in", some "out"] (.raw [3, 5])) = .error .axisError := by decide +kernel
-- nested boxes: only the outermost names move, the value is replaced at the bottom
example : initThrough [⟨0, some "L", 2⟩] (.boxed [some "a"] (.boxed [some "x"] (.raw [3])))
    = .ok (.boxed [some "L", some "a"] (.boxed [some "x"] (.raw [2, 3]))) := by decide +kernel
-- init_pairs on the same instance as `two_level_aligned`'s example
example : initPairs [(⟨1, some "S", 4⟩ : Level Nat), ⟨-1, some "V", 2⟩] [(some "in", 3), (some "out", 5)]
    = some [(some "in", 3), (some "S", 4), (some "out", 5), (some "V", 2)] := by decide +kernel
-- setValue on a nested box and on a raw value
example : (Box.boxed [some "a"] (.boxed [some "x"] (.raw [3]))).setValue [7]
    = .boxed [some "a"] (.boxed [some "x"] (.raw [7])) ∧ (Box.raw [3]).setValue [7] = .raw [7] := by decide +kernel
-- nnx_add_remove_inverse hypotheses
example : nnxRemoveAxis (-1) (some "L") (nnxAddAxis (-1) (some "L") (some [some "in", some "out"]))
    = .ok (some [some "in", some "out"]) ∧ nnxAddAxis (-1) (some "L") none = none := by decide +kernel
-- firstIdx_of_nodup / mesh_axes_priority hypotheses
example : ([some "a", none, some "b", none] : Names).filterMap id = ["a", "b"] ∧
    firstIdx [some "a", none, some "b", none] (some "b") = some 2 := by decide +kernel
-- duplicate names are an error
example : logicalToMesh [some "a", some "a"] [] = .error .valueError := by decide +kernel
-- to_nnx_source_intact hypothesis
example : (toNnxMetadata [("value", .other "array"), ("names", .names [some "in"]), ("mesh", .other "None")]).isSome = true := by
  decide +kernel

-- apply_restack_names / inBox_aligned / applyIn_aligned: slice, assign, stack back
example : applyIn [(⟨1, some "S", 4⟩ : Level Nat)] (.boxed [some "in", some "S", some "out"] (.raw [3, 4, 5]))
      = .ok (.boxed [some "in", some "out"] (.raw [3, 5])) ∧
    initThrough [(⟨1, some "S", 4⟩ : Level Nat)] ((Box.boxed [some "in", some "out"] (.raw [3, 5])).setValue [3, 5])
      = .ok (.boxed [some "in", some "S", some "out"] (.raw [3, 4, 5])) := by decide +kernel
-- a misaligned input is caught on the way in instead of being sliced at the wrong place
example : applyIn [(⟨-1, some "S", 4⟩ : Level Nat)] (.boxed [some "in", some "S", some "out"] (.raw [3, 5, 4]))
      = .error .assertion := by decide +kernel

end Flax.C19
