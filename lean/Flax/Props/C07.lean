/-
C07 — Lifted vjp / jvp / grad / value_and_grad / custom_vjp equal JAX autodiff of the pure apply function.
(partial: automatic differentiation itself is JAX's and enters as the abstract structure `AD`, assumption A-AD.)

What is flax's, and proved here about the model `Flax/Model/LiftAD.lean` (+ `pack` from `Flax/Model/Lift.lean`;
the transforms as `pack` and A-AD as a comparison: `Flax/Proofs/LiftAD.lean`):
the function handed to `jax.vjp / jax.jvp` *is* the pure apply function of the selected collections and the inputs,
everything else being closed over; cotangents come back for exactly the selected collections and the inputs; the
forward pass's side effects are published exactly once and equal those of the plain call; `has_aux` and
`value_and_grad` plumbing; `custom_vjp` leaves the forward value alone.
-/
import Flax.Proofs.LiftAD
import Flax.Proofs.ModScopes

namespace Flax.C07
open Flax.Filter Flax.Lift Flax.LiftAD

/-- `fn` run on a fresh root scope holding `variables` — what `module.apply(variables, *x, mutable=m, rngs=r)`
executes (collections in `readOnly` are the ones passed as FrozenDict) -/
def applyPure (attrs : List (String × Int)) (f : Fn) (variables : Vars) (m : LFilter) (readOnly : List String)
    (r : Rngs) (ctr : Counters) (x : List Int) : Except Err (Out × ScopeSt) :=
  runFn attrs f x ⟨variables, m, readOnly, r, ctr⟩

/-- For every body, scope, filters, `has_aux` flag: the function `lift.vjp` hands to
`jax.vjp` is, at *every* point `(V_sel, x)` (not only the primal one), the pure apply function of the variables
`V_sel ∪ V_rest` and the inputs `x`, followed by `repack`: the selected collections are an argument, all other
collections (`V_rest`, fixed by the scope) are closed over.  Its mutability is the scope's, restricted to the
`variables` filter. -/
theorem vjp_closure_is_pure_apply (vjpF varF rngF : LFilter) (hasAux : Bool) (nY : Nat) (attrs : List (String × Int))
    (f : Fn) (s : ScopeSt) (ctr : Counters) (vsel : Vars) (x : List Int) :
    vjpClosure attrs f hasAux nY (partialPack [vjpF, varF] [varF] [rngF] s) (restGroup s vjpF varF) ctr (vsel, x) =
      match applyPure attrs f (vsel ++ restGroup s vjpF varF)
          (intersect (intersect s.mutable (unionAll [varF])) .tt)
          (frozenNames (groupBy s.vars [vjpF, varF]) [varF]) (groupBy s.rngs [rngF]).flatten ctr x with
      | .error e => .error e
      | .ok (y, s') =>
        match repack [varF] s' with
        | .error e => .error e
        | .ok out => .ok ((splitAux hasAux nY y.vals).1, (splitAux hasAux nY y.vals).2, out, s'.counters) := by
  simp only [vjpClosure, runInner, partialPack, scopeFn, applyPure, List.flatten_cons, List.flatten_nil,
    List.append_nil]
  cases runFn attrs f x _ with
  | error e => rfl
  | ok r =>
    obtain ⟨y, s'⟩ := r
    simp only
    cases repack [varF] s' <;> rfl

/-- `lift.vjp` *is* `jax.vjp` of that closure at `(selected collections of the scope, primals)` followed by one
`publish`; and (A-AD, automatic in Lean) any function with the same extension gives the same result — in
particular the user-level `lambda V_sel, x: module.apply({**V_rest, **V_sel}, x)`. -/
theorem vjp_is_ad_of_pure_apply (ad : AD) (vjpF varF rngF : LFilter) (hasAux : Bool) (nY : Nat)
    (attrs : List (String × Int)) (f : Fn) (args : List Int) (s : ScopeSt)
    (g : DIn → Except Err (DOut × DAux))
    (hg : ∀ x, g x = vjpClosure attrs f hasAux nY (partialPack [vjpF, varF] [varF] [rngF] s) (restGroup s vjpF varF) s.counters x) :
    liftVjp ad vjpF varF rngF hasAux nY attrs f args s =
      match ad.vjp g (selGroup s vjpF, args) with
      | .error e => .error e
      | .ok (y, bwd, (aux, out, ctr')) =>
        match publish { s with counters := ctr' } out with
        | .error e => .error e
        | .ok s' => .ok (⟨y, bwd, if hasAux then some aux else none⟩, s') := by
  cases (funext hg : g = vjpClosure attrs f hasAux nY (partialPack [vjpF, varF] [varF] [rngF] s)
    (restGroup s vjpF varF) s.counters)
  simp only [liftVjp_eq_pack, pack]
  cases ad.vjp _ (selGroup s vjpF, args) <;> rfl

/-- **gradient key set = selected collections.** Whatever cotangent is fed to the returned `bwd`, the variable
cotangent has an entry for exactly the scope's collections matched by `vjp_variables` (with exactly their variable
names) — no entry exists for any other collection — and one cotangent per primal input. -/
theorem vjp_grad_keys (ad : AD) (vjpF varF rngF : LFilter) (hasAux : Bool) (nY : Nat) (attrs : List (String × Int))
    (f : Fn) (args : List Int) (s s' : ScopeSt) (r : VjpRes)
    (h : liftVjp ad vjpF varF rngF hasAux nY attrs f args s = .ok (r, s')) (ct : DOut) :
    (r.bwd ct).1.map (fun kv => (kv.1, keys kv.2)) = (selGroup s vjpF).map (fun kv => (kv.1, keys kv.2)) ∧
    keys (r.bwd ct).1 = (keys s.vars).filter (fun c => inFilter vjpF c) ∧
    (r.bwd ct).2.length = args.length := by
  rw [vjp_is_ad_of_pure_apply ad vjpF varF rngF hasAux nY attrs f args s _ (fun _ => rfl)] at h
  cases hv : ad.vjp (vjpClosure attrs f hasAux nY (partialPack [vjpF, varF] [varF] [rngF] s) (restGroup s vjpF varF) s.counters)
      (selGroup s vjpF, args) with
  | error e => simp [hv] at h
  | ok q =>
    obtain ⟨y, bwd, aux, out, ctr'⟩ := q
    simp only [hv] at h
    cases hp : publish { s with counters := ctr' } out with
    | error e => simp [hp] at h
    | ok s2 =>
      simp only [hp, Except.ok.injEq, Prod.mk.injEq] at h
      obtain ⟨hr, _⟩ := h
      subst hr
      have hs := ad.vjp_shape _ _ _ _ _ ct hv
      refine ⟨hs.1, ?_, hs.2⟩
      have := congrArg (List.map Prod.fst) hs.1
      simp only [List.map_map, Function.comp_def] at this
      simp only [keys]
      rw [this]
      exact keys_filter_key (fun c => inFilter vjpF c) s.vars

/-- **forward_effects_published_once** (with **has_aux_plumbing** and the primal-output clause).  If the `variables`
filters cover what the body touches and writes, then `nn.vjp` returns the plain call's output (split into `y` and
`aux` exactly as `has_aux` says, nothing swapped), fails exactly when and how the plain call fails, and leaves every
collection, and the rng counters, exactly as *one* plain execution of the body leaves them (a counter incremented in
the body is incremented once). -/
theorem forward_effects_published_once (ad : AD) (vjpF varF rngF : LFilter) (hasAux : Bool) (nY : Nat)
    (attrs : List (String × Int)) (f : Fn) (args : List Int) (s : ScopeSt) (hwf : VarsWF s.vars) (hfz : s.FrozenOk)
    (hin : ∀ c, c ∈ cols f.body → (inFilter vjpF c || inFilter varF c) = true)
    (hout : ∀ c, c ∈ wcols f.body → inFilter s.mutable c = true → inFilter varF c = true)
    (hrng : ∀ r, r ∈ rngDeps f.body → (alookup r s.rngs).isSome = true → inFilter rngF r = true) :
    match runFn attrs f args s, liftVjp ad vjpF varF rngF hasAux nY attrs f args s with
    | .ok (y, s1), .ok (r, s2) =>
        r.y = (splitAux hasAux nY y.vals).1 ∧ r.aux = (if hasAux then some (splitAux hasAux nY y.vals).2 else none) ∧
        SameVars s1.vars s2.vars ∧ s1.counters = s2.counters
    | .error e, .error e' => e = e'
    | _, _ => False := by
  rw [liftVjp_eq_pack]
  refine (pack_agree (Q := fun (y : Out) (r : VjpRes) => r.y = (splitAux hasAux nY y.vals).1 ∧
      r.aux = if hasAux then some (splitAux hasAux nY y.vals).2 else none) [vjpF, varF] [varF] [rngF] .tt attrs f args s
    hwf hfz (by intro c hc; simpa [anyMatch] using hin c hc)
    (by intro c hc hm; simp [anyMatch, hout c hc hm, inFilter])
    (by intro r hr hs; simp [anyMatch, hrng r hr hs]) ?_).elim ?_ (fun _ _ _ => rfl)
  · -- by A-AD what `jax.vjp` returns for the closure is the closure's value, i.e. this call of `runInner`
    simp only [varGroups_two]
    refine (closure_rel (ad.vjp_rel (vjpClosure attrs f hasAux nY (partialPack [vjpF, varF] [varF] [rngF] s)
      (restGroup s vjpF varF) s.counters) (selGroup s vjpF, args)) rfl).elim ?_ (fun _ _ _ => rfl)
    rintro ⟨y, out, c⟩ ⟨y', bwd, aux, out', c'⟩ _ _ ⟨h1, h2⟩
    cases h1; cases h2
    exact ⟨⟨rfl, rfl⟩, rfl⟩
  · rintro ⟨y, s1⟩ ⟨r, s2⟩ _ _ ⟨⟨hy, haux⟩, hv, hc, _⟩
    exact ⟨hy, haux, hv, hc⟩

/-- Without `has_aux` nothing is split off and no aux is returned; with
it, `aux` is what the function returned after its first `nY` values -/
theorem has_aux_plumbing (vals : List Int) (nY : Nat) :
    splitAux false nY vals = (vals, []) ∧
    (splitAux true nY vals).1 ++ (splitAux true nY vals).2 = vals ∧ ((splitAux true nY vals).1).length = min nY vals.length := by
  simp [splitAux]

/-- `lift.jvp` differentiates exactly the collections that have a *non-empty*
tangent dict: a collection whose tangent dict is empty (or absent) is not in the differentiated group (it is
closed over like every other variable), so the primal and tangent trees given to `jax.jvp` have the same keys. -/
theorem jvp_empty_tangent_dropped (vt : Vars) (c : String) :
    (inFilter (jvpTarget vt) c = true ↔ ∃ coll, (c, coll) ∈ vt ∧ coll ≠ []) ∧
    (∀ s : ScopeSt, c ∈ keys (selGroup s (jvpTarget vt)) ↔ (c ∈ keys s.vars ∧ inFilter (jvpTarget vt) c = true)) := by
  constructor
  · simp only [jvpTarget, inFilter, jvpTangents, decide_eq_true_eq, keys, List.mem_map, List.mem_filter]
    constructor
    · rintro ⟨x, ⟨hx, hne⟩, rfl⟩
      exact ⟨x.2, hx, by simpa using hne⟩
    · rintro ⟨coll, hm, hne⟩
      exact ⟨(c, coll), ⟨hm, by simpa using hne⟩, rfl⟩
  · intro s
    rw [selGroup, keys_filter_key (fun c => inFilter (jvpTarget vt) c)]
    simp [List.mem_filter]

/-- `lift.jvp` *is* `jax.jvp` of the closure `lift.vjp` builds (no aux), at `(collections of the scope that have a
non-empty tangent, primals)` in the direction `(filtered variable tangents, tangents)`, followed by one `publish`.
`jax.jvp` accepts the pair when the filtered tangents name collections of the scope (documented requirement of
`variable_tangents`). -/
theorem jvp_groups (ad : AD) (vt : Vars) (varF rngF : LFilter) (attrs : List (String × Int)) (f : Fn)
    (args tangents : List Int) (s : ScopeSt) :
    liftJvp ad vt varF rngF attrs f args tangents s =
      match ad.jvp (vjpClosure attrs f false 0 (partialPack [jvpTarget vt, varF] [varF] [rngF] s)
          (restGroup s (jvpTarget vt) varF) s.counters) (selGroup s (jvpTarget vt), args) (jvpTangents vt, tangents) with
      | .error e => .error e
      | .ok (y, ty, (_, out, ctr')) =>
        match publish { s with counters := ctr' } out with
        | .error e => .error e
        | .ok s' => .ok ((y, ty), s') := by
  simp only [liftJvp_eq_pack, pack]
  cases ad.jvp _ (selGroup s (jvpTarget vt), args) (jvpTangents vt, tangents) <;> rfl

/-- `nn.jvp`: the primal output is the plain call's, and the forward pass's side effects are published exactly once
(same hypotheses as for `nn.vjp`, the differentiated collections being those with a non-empty tangent) -/
theorem jvp_forward_effects_published_once (ad : AD) (vt : Vars) (varF rngF : LFilter)
    (attrs : List (String × Int)) (f : Fn) (args tangents : List Int) (s : ScopeSt) (hwf : VarsWF s.vars) (hfz : s.FrozenOk)
    (hin : ∀ c, c ∈ cols f.body → (inFilter (jvpTarget vt) c || inFilter varF c) = true)
    (hout : ∀ c, c ∈ wcols f.body → inFilter s.mutable c = true → inFilter varF c = true)
    (hrng : ∀ r, r ∈ rngDeps f.body → (alookup r s.rngs).isSome = true → inFilter rngF r = true) :
    match runFn attrs f args s, liftJvp ad vt varF rngF attrs f args tangents s with
    | .ok (y, s1), .ok (r, s2) => r.1 = y.vals ∧ SameVars s1.vars s2.vars ∧ s1.counters = s2.counters
    | .error e, .error e' => e = e'
    | _, _ => False := by
  rw [liftJvp_eq_pack]
  refine (pack_agree (Q := fun (y : Out) (r : List Int × List Int) => r.1 = y.vals) [jvpTarget vt, varF] [varF] [rngF] .tt
    attrs f args s hwf hfz (by intro c hc; simpa [anyMatch] using hin c hc)
    (by intro c hc hm; simp [anyMatch, hout c hc hm, inFilter])
    (by intro r hr hs; simp [anyMatch, hrng r hr hs]) ?_).elim ?_ (fun _ _ _ => rfl)
  · simp only [varGroups_two]
    refine (closure_rel (ad.jvp_rel (vjpClosure attrs f false 0 (partialPack [jvpTarget vt, varF] [varF] [rngF] s)
      (restGroup s (jvpTarget vt) varF) s.counters) (selGroup s (jvpTarget vt), args) (jvpTangents vt, tangents))
      rfl).elim ?_ (fun _ _ _ => rfl)
    rintro ⟨y, out, c⟩ ⟨y', ty, aux, out', c'⟩ _ _ ⟨h1, h2⟩
    cases h1; cases h2
    exact ⟨rfl, rfl⟩
  · rintro ⟨y, s1⟩ ⟨r, s2⟩ _ _ ⟨hy, hv, hc, _⟩
    exact ⟨hy, hv, hc⟩

/-- `nn.value_and_grad` / `nn.grad` differentiate with respect to the inputs only:
the function handed to `jax.vjp` takes no variable argument (all lifted collections are closed over), and the
result carries exactly one gradient per primal input. -/
theorem value_and_grad_inputs_only (ad : AD) (varF rngF : LFilter) (hasAux : Bool) (nY : Nat)
    (attrs : List (String × Int)) (f : Fn) (args : List Int) (s s' : ScopeSt) (r : VagRes)
    (h : liftValueAndGrad ad varF rngF hasAux nY attrs f args s = .ok (r, s')) :
    r.grads.length = args.length ∧ (hasAux = false → r.aux = none) := by
  obtain ⟨out, ctr, hin, _⟩ := pack_eq_ok.mp (liftValueAndGrad_eq_pack .. ▸ h)
  cases hv : ad.vjp (vagClosure attrs f hasAux nY (partialPack [varF] [varF] [rngF] s) s.counters) ([], args) with
  | error e => simp [hv] at hin
  | ok q =>
    obtain ⟨y, bwd, aux, out', ctr'⟩ := q
    simp only [hv, Except.ok.injEq, Prod.mk.injEq] at hin
    obtain ⟨rfl, _⟩ := hin
    exact ⟨(ad.vjp_shape _ _ _ _ _ _ hv).2, fun hf => by simp [hf]⟩

/-- `nn.value_and_grad` / `nn.grad`: value and aux are the plain call's, the forward pass's side effects are published
exactly once -/
theorem vag_forward_effects_published_once (ad : AD) (varF rngF : LFilter) (hasAux : Bool) (nY : Nat)
    (attrs : List (String × Int)) (f : Fn) (args : List Int) (s : ScopeSt) (hwf : VarsWF s.vars) (hfz : s.FrozenOk)
    (hin : ∀ c, c ∈ cols f.body → inFilter varF c = true)
    (hrng : ∀ r, r ∈ rngDeps f.body → (alookup r s.rngs).isSome = true → inFilter rngF r = true) :
    match runFn attrs f args s, liftValueAndGrad ad varF rngF hasAux nY attrs f args s with
    | .ok (y, s1), .ok (r, s2) =>
        r.y = (splitAux hasAux nY y.vals).1 ∧ r.aux = (if hasAux then some (splitAux hasAux nY y.vals).2 else none) ∧
        SameVars s1.vars s2.vars ∧ s1.counters = s2.counters
    | .error e, .error e' => e = e'
    | _, _ => False := by
  rw [liftValueAndGrad_eq_pack]
  refine (pack_agree (Q := fun (y : Out) (r : VagRes) => r.y = (splitAux hasAux nY y.vals).1 ∧
      r.aux = if hasAux then some (splitAux hasAux nY y.vals).2 else none) [varF] [varF] [rngF] .tt attrs f args s hwf hfz
    (by intro c hc; simp [anyMatch, hin c hc])
    (by intro c hc _; simp [anyMatch, hin c (wcols_sub_cols _ c hc), inFilter])
    (by intro r hr hs; simp [anyMatch, hrng r hr hs]) ?_).elim ?_ (fun _ _ _ => rfl)
  · refine (closure_rel (ad.vjp_rel (vagClosure attrs f hasAux nY (partialPack [varF] [varF] [rngF] s) s.counters)
      ([], args)) rfl).elim ?_ (fun _ _ _ => rfl)
    rintro ⟨y, out, c⟩ ⟨y', bwd, aux, out', c'⟩ _ _ ⟨h1, h2⟩
    cases h1; cases h2
    exact ⟨⟨rfl, rfl⟩, rfl⟩
  · rintro ⟨y, s1⟩ ⟨r, s2⟩ _ _ ⟨⟨hy, haux⟩, hv, hc, _⟩
    exact ⟨hy, haux, hv, hc⟩

/-- Outside differentiation `nn.custom_vjp(fn, forward_fn, backward_fn)` computes
`fn`: for *every* forward rule, residual encoding and backward rule the call equals the identity-lifted `fn`
(`pack` with groups `(grad_vars, True)`), which needs no covering hypothesis — every collection and stream is
lifted — hence it agrees with the plain call of `fn` on every scope. -/
theorem custom_vjp_forward_value {ρ : Type} (gradF : LFilter) (attrs : List (String × Int)) (fn fwdFn : Fn) (nY : Nat)
    (mkRes : List Int → ρ) (bwdFn : ρ → DOut → DIn) (args : List Int) (s : ScopeSt)
    (hwf : VarsWF s.vars) (hfz : s.FrozenOk) :
    liftCustomVjp gradF attrs fn fwdFn nY mkRes bwdFn args s = liftId [gradF, .tt] [gradF, .tt] [.tt] .tt attrs fn args s ∧
    Agree (runFn attrs fn args s) (liftCustomVjp gradF attrs fn fwdFn nY mkRes bwdFn args s) := by
  refine ⟨liftCustomVjp_eq_liftId .., ?_⟩
  rw [liftCustomVjp_eq_liftId]
  apply liftId_agree
  · exact hwf
  · exact hfz
  · intro c _; simp [anyMatch, inFilter]
  · intro c _ _; simp [anyMatch, inFilter]
  · intro r _ _; simp [anyMatch, inFilter]

/-- the backward rule is used by, and only by, differentiation: `call` never looks at `fwd`/`bwd`; `vjp` returns
`bwd` applied to the forward rule's residual as the pullback -/
theorem custom_vjp_rule_only_under_ad {ρ β : Type} (cv : CustomVjp ρ β) (x : DIn) :
    cv.call x = cv.f x ∧
    (∀ y res, cv.fwd x = .ok (y, res) → cv.vjp x = .ok (y, cv.bwd res)) := by
  refine ⟨rfl, ?_⟩
  intro y res h
  simp [CustomVjp.vjp, h]

/-- `lift.vjp` over a module that holds other bound modules returns one
variable-cotangent dict per collected scope, in `get_module_scopes` order (`_bwd_wrapper` unflattens with the scope
list's treedef).  Position `k` of that list belongs to the `k`-th owner, and `set_module_scopes` gives that same owner
the inner scope made from its own scope — for every module tree, field order, nesting and sharing.  So the `k`-th
cotangent dict is the cotangent of the variables of the module that is bound to the `k`-th scope inside the lifted
function. -/
theorem multi_scope_cotangent_positions (ord : List (String × Flax.ModScopes.Node) → List (String × Flax.ModScopes.Node))
    (m : Flax.ModScopes.Node) (ρ : Nat → Nat) (k : Nat) (o : Flax.ModScopes.Owner)
    (h : (Flax.ModScopes.getOwners ord m)[k]? = some o) :
    (Flax.ModScopes.setAssign ord m ((Flax.ModScopes.getOwners ord m).map (fun o => ρ o.scope))).1[k]? =
      some (o, some (ρ o.scope)) ∧
    (Flax.ModScopes.setAssign ord m ((Flax.ModScopes.getOwners ord m).map (fun o => ρ o.scope))).2 = true := by
  rw [Flax.ModScopes.setAssign_getOwners]
  simp [h]

example : (Flax.ModScopes.getOwners Flax.ModScopes.sortKeys
    (.mod 0 (some 9) [("pair_other", .mod 1 (some 4) [])]))[0]? = some (.m 1 4) := by decide +kernel

/-- `y = w·x² + b·z + n·w`, `n += 1`, aux `2w` -/
def exFn : Fn :=
  { body := .seq (.get "params" "w") (.seq (.get "consts" "b") (.seq (.get "stats" "n")
      (.put "stats" "n" (.add (.reg 2) (.lit 1)))))
    ret := [.add (.add (.mul (.reg 0) (.mul (.arg 0) (.arg 0))) (.mul (.reg 1) (.arg 1))) (.mul (.reg 2) (.reg 0)),
            .mul (.lit 2) (.reg 0)] }

def exScope : ScopeSt :=
  { vars := [("params", [("w", 3)]), ("consts", [("b", 5)]), ("stats", [("n", 2)])]
    mutable := .name "stats", frozen := [], rngs := [], counters := [] }

-- the hypotheses of `forward_effects_published_once` hold for `vjp_variables='params'`, `variables=True`
example : match runFn [] exFn [2, 7] exScope, liftVjp zeroAD (.name "params") .tt .tt true 1 [] exFn [2, 7] exScope with
    | .ok (y, s1), .ok (r, s2) =>
        r.y = (splitAux true 1 y.vals).1 ∧ r.aux = (if true then some (splitAux true 1 y.vals).2 else none) ∧
        SameVars s1.vars s2.vars ∧ s1.counters = s2.counters
    | .error e, .error e' => e = e'
    | _, _ => False :=
  forward_effects_published_once zeroAD (.name "params") .tt .tt true 1 [] exFn [2, 7] exScope (by decide +kernel)
    (by intro c hc; simp [exScope] at hc) (by decide +kernel) (by decide +kernel) (by decide +kernel)

-- the plain run is a genuine success: y = 53, aux = 6, the counter goes from 2 to 3
example : (runFn [] exFn [2, 7] exScope).toOption.map (fun r => (r.1.vals, getVar r.2.vars "stats" "n")) =
    some ([53, 6], some 3) := by decide +kernel

-- the formal derivative (third voice): d y / d w = x² + n = 6, d y / d x = 2wx = 12, d y / d z = b = 5
example : (jvpApply [] exFn [2, 7] [0, 0] exScope [("params", [("w", 1)])]).toOption.map (fun r => r.1.head?) =
    some (some (53, 6)) := by decide +kernel
example : (jvpApply [] exFn [2, 7] [1, 0] exScope []).toOption.map (fun r => r.1.head?) = some (some (53, 12)) := by
  decide +kernel
example : (jvpApply [] exFn [2, 7] [0, 1] exScope []).toOption.map (fun r => r.1.head?) = some (some (53, 5)) := by
  decide +kernel

-- an empty tangent collection is dropped from the differentiated group
example : inFilter (jvpTarget [("params", [("w", 1)]), ("consts", [])]) "consts" = false ∧
    inFilter (jvpTarget [("params", [("w", 1)]), ("consts", [])]) "params" = true := by decide +kernel

end Flax.C07
