/-
C18 — Linen <-> NNX bridge wrappers behave like the module they wrap.

Over `Flax/Model/Bridge.lean`; lemmas in `Flax/Proofs/Bridge*.lean`.
`leafAtF d p` is the leaf of the nested dict `d` at path `p`; `Equiv a b` (same leaf at every path) is
equality of Python dicts up to empty sub-dicts. `VarsOk r V` / `AttrsOk r A` are the well-formedness
conditions the generator's valid stream satisfies.
-/
import Flax.Proofs.BridgeToNNX
import Flax.Proofs.BridgeToLinen
import Flax.Proofs.BridgeRng
import Flax.Proofs.BridgeExample

namespace Flax.C18
open Flax.Bridge

variable {α ι ο μ : Type}

/-- **`Equiv` is equality of the flattened dicts as finite maps**: two dicts with distinct keys have the
same leaf at every path exactly when `flatten_mapping` gives the same set of `(path, leaf)` items for
both (each path once; a Python dict compares equal regardless of insertion order). -/
theorem equiv_iff_same_flat_dict (a b : Forest α) (ha : WFF a) (hb : WFF b) :
    Equiv a b ↔ (flattenF a).Perm (flattenF b) := by
  have nd : ∀ (f : Forest α), WFF f → (flattenF f).Nodup := fun f hf =>
    nodup_of_map Prod.fst _ (flattenF_nodup f hf)
  rw [List.perm_ext_iff_of_nodup (nd a ha) (nd b hb)]
  constructor
  · intro h pb
    rw [show pb = (pb.1, pb.2) from rfl, flattenF_mem a ha, flattenF_mem b hb, h pb.1]
  · intro h q
    apply Option.ext
    intro x
    rw [← flattenF_mem a ha, ← flattenF_mem b hb]
    exact h (q, x)

/-- **variables → attributes → variables is the identity** (collection-major Linen variables through
`linen_vars_to_nnx_attrs` and back through `nnx_attrs_to_linen_vars`), for every variables dict that
satisfies `VarsOk` and every one-to-one registry. Unknown collection names are registered on the way
(the registry only grows and stays one-to-one). Moreover every attribute leaf is a Variable of the type
registered for the collection it came from, holds the same array, and carries the axis names of a
`Partitioned` box as its `sharding` metadata. -/
theorem vars_attrs_inverse (r : Reg) (hi : r.Inj) (hb : r.Bounded) (V : Forest (LBox α)) (hV : VarsOk r V) :
    ∃ r' A V', linenVarsToNnxAttrs r V = .ok (r', A) ∧ nnxAttrsToLinenVars r' A = .ok V' ∧
      Equiv V' V ∧ WFF V' ∧ NoEmptyF V' ∧ WFF A ∧
      r'.Inj ∧ (∀ e ∈ r.cache, e ∈ r'.cache) ∧
      (∀ q v, leafAtF A q = some v →
        ∃ c x, leafAtF V (c :: q) = some x ∧ r'.typeOf c = some v.vtype ∧ v.value = x.value ∧
          (∀ n, x.names? = some n → Meta.get? v.md "sharding" = some n)) := by
  obtain ⟨r', A, V', h1, h2, hg, hA, hE, heq, hplace⟩ := vars_attrs_vars r hi hb V hV
  exact ⟨r', A, V', h1, h2, heq, hE.wf, hE.ne, hA.wf, hg.inj, hg.sub, hplace⟩

/-- **attributes → variables → attributes is the identity**, for every attribute tree of Variables that
`to_nnx_var` can produce whose types are registered; the registry is left as it was, and every Linen leaf
sits in the collection named after its Variable's type. -/
theorem attrs_vars_inverse (r : Reg) (hi : r.Inj) (hb : r.Bounded) (A : Forest (NVar α)) (hA : AttrsOk r A) :
    ∃ V A', nnxAttrsToLinenVars r A = .ok V ∧ linenVarsToNnxAttrs r V = .ok (r, A') ∧ Equiv A' A ∧
      WFF A' ∧ WFF V ∧ NoEmptyF V ∧
      (∀ c q x, leafAtF V (c :: q) = some x →
        ∃ v, leafAtF A q = some v ∧ r.nameOf v.vtype = some c ∧ v.value = x.value) := by
  obtain ⟨V, A', h1, h2, h3, h4, h5, h6, h7⟩ := attrs_vars_attrs r hi hb A hA
  exact ⟨V, A', h1, h2, h6, h5, h3.wf, h4, h7⟩

/-- the `VarsOk` guard is not decoration: a variable `x` in `params` and a variable `x` in `batch_stats` of
the same module end up in one attribute, and the later collection (sorted order) silently wins -/
theorem name_clash_loses_a_variable :
    let r : Reg := ⟨[("params", .user 0 "Param"), ("batch_stats", .user 1 "BatchStat")], 0⟩
    let V : Forest (LBox Nat) := [("params", .node [("x", .leaf (.plain 1))]),
                                   ("batch_stats", .node [("x", .leaf (.plain 2))])]
    (linenVarsToNnxAttrs r V).toOption.map (fun p => leafAtF p.2 ["x"])
      = some (some ⟨.user 0 "Param", 1, []⟩) := by
  decide +kernel

/-- **the name ↔ type registry is a bijection** in every state reachable from a one-to-one registry by
any history of `variable_type_from_name`, `variable_name_from_type` and `register_variable_name` calls
(with any flags, failing calls included) in which no call mentions a class that does not exist yet and
no class is registered under a second name. -/
theorem registry_bijection (r0 : Reg) (h0 : r0.Inj) (hb0 : r0.Bounded) (ops : List RegOp)
    (hg : Guarded r0 ops) :
    (∀ n t, (r0.run ops).typeOf n = some t → (r0.run ops).nameOf t = some n) ∧
    (∀ t n, (r0.run ops).nameOf t = some n → (r0.run ops).typeOf n = some t) :=
  have hi := (Reg.run_inj ops r0 h0 hb0 hg).1
  ⟨fun n t => Reg.nameOf_of_typeOf _ hi n t, fun t n => Reg.typeOf_of_nameOf _ hi n t⟩

/-- flax's own initial registry -/
def builtinReg : Reg :=
  ⟨[("params", .user 0 "Param"), ("batch_stats", .user 1 "BatchStat"), ("cache", .user 2 "Cache"),
    ("intermediates", .user 3 "Intermediate"), ("perturbations", .user 4 "Perturbation")], 0⟩

theorem builtinReg_ok : builtinReg.Inj ∧ builtinReg.Bounded := by
  refine ⟨⟨by decide +kernel, by decide +kernel⟩, ?_⟩
  intro e he s n hs
  simp only [builtinReg, List.mem_cons, List.not_mem_nil, or_false] at he
  rcases he with rfl | rfl | rfl | rfl | rfl <;> cases hs

/-- a history the guard accepts: a new collection name, a user class registered by its `__name__`, an
explicit registration, a failing duplicate registration, an overwrite, a failing look-up -/
example : Guarded builtinReg
    [.typeFromName "counter" true, .nameFromType (.user 9 "Counter") true,
     .register "losses" (.user 10 "Loss") false, .register "params" (.user 11 "P2") false,
     .register "losses" (.user 12 "Loss2") true, .typeFromName "nope" false] := by
  have user : ∀ (r : Reg) (n : String) (i : Nat) (nm : String) (ow : Bool),
      (∀ e ∈ r.cache, e.2 = VType.user i nm → e.1 = n) → (RegOp.register n (.user i nm) ow).Guard r :=
    fun r n i nm ow h => ⟨fun s n' hs => (by cases hs), fun n' hm => h (n', _) hm rfl⟩
  simp only [Guarded]
  refine ⟨trivial, fun s n h => (by cases h), ?_, ?_, ?_, trivial, trivial⟩
  · exact user _ _ _ _ _ (by decide)
  · exact user _ _ _ _ _ (by decide)
  · exact user _ _ _ _ _ (by decide)

/-- the guard is needed, and `register_variable_name` does not enforce it: registering `Param` under a
second name is accepted, after which the collection `alias` converts to `Param` Variables that convert
back into the collection `params` -/
theorem register_alias_breaks_bijection :
    ∃ r, builtinReg.register "alias" (.user 0 "Param") false = .ok r ∧
      r.typeOf "alias" = some (.user 0 "Param") ∧ r.nameOf (.user 0 "Param") = some "params" := by
  exact ⟨_, rfl, by decide, by decide⟩

/-- **`to_nnx_var` asks the registry as it is now, for every collection name**: the Variable made for a
leaf of collection `col` has the type the current registry gives `col` (standard names are not special),
in particular the type a caller has just put there with `register_variable_name(col, T, overwrite=True)`;
an unknown name is registered on the way and afterwards names the Variable's type. -/
theorem to_nnx_var_uses_registry (r : Reg) (col : String) (x : LBox α) (r' : Reg) (v : NVar α)
    (h : toNnxVar r col x = .ok (r', v)) :
    r'.typeOf col = some v.vtype ∧
    (∀ t, r.typeOf col = some t → v.vtype = t ∧ r' = r) ∧
    (∀ (r0 : Reg) (t : VType) (ow : Bool), r0.register col t ow = .ok r → v.vtype = t) := by
  simp only [toNnxVar, bind_ok, pure, Except.pure, Except.ok.injEq, Prod.mk.injEq] at h
  obtain ⟨⟨r1, t1⟩, htf, v1, hconv, rfl, rfl⟩ := h
  have hv : v1.vtype = t1 := toNnxVarWith_vtype hconv
  have hcur : ∀ t, r.typeOf col = some t → t1 = t ∧ r1 = r := by
    intro t ht
    rw [Reg.typeFromName_of_typeOf r col true t ht] at htf
    cases htf; exact ⟨rfl, rfl⟩
  rw [hv]
  exact ⟨Reg.typeFromName_typeOf htf, hcur, fun r0 t ow hreg => (hcur t (Reg.register_typeOf hreg)).1⟩

/-- re-pointing a standard name: after `register_variable_name('cache', KVCache, overwrite=True)` a leaf
of collection `cache` becomes a `KVCache` Variable, and the name ↔ type round trip holds for it -/
example : ∃ r, builtinReg.register "cache" (.user 30 "KVCache") true = .ok r ∧
    ((toNnxVar r "cache" (LBox.plain (7 : Nat))).toOption.map fun p => (p.2.vtype, p.1.nameOf p.2.vtype))
      = some (.user 30 "KVCache", some "cache") := ⟨_, rfl, by decide +kernel⟩

/-- **box round trip**: `to_linen_var(to_nnx_var(col, x)) = x` for plain arrays, `Partitioned`,
`LogicallyPartitioned`, `NNXMeta` and generic metadata boxes; the Variable has the collection's type and
the same array; axis names become the `sharding` metadata. -/
theorem box_roundtrip (t : VType) (x : LBox α) (h : x.Ok t) :
    ∃ v, toNnxVarWith t x = .ok v ∧ v.vtype = t ∧ v.value = x.value ∧ toLinenVar v = .ok x ∧
      (∀ n, x.names? = some n → Meta.get? v.md "sharding" = some n) := by
  obtain ⟨v, h1, h2, h3, h4, h5, _⟩ := box_roundtrip_aux t x h
  exact ⟨v, h1, h2, h3, h4, h5⟩

/-- the converse: `to_nnx_var(col, to_linen_var(v)) = v` for every Variable `to_nnx_var` can produce -/
theorem var_roundtrip (v : NVar α) (h : v.Canon) :
    ∃ x, toLinenVar v = .ok x ∧ x.Ok v.vtype ∧ toNnxVarWith v.vtype x = .ok v :=
  var_roundtrip_aux v h

example : (LBox.partitioned (7 : Nat) (.names [some "a", none]) .none).Ok (.user 0 "Param") := trivial
example : (LBox.nnxMeta (.user 0 "Param") (7 : Nat) [("tag", .str "x")]).Ok (.user 0 "Param") := by
  refine ⟨rfl, by decide, by decide⟩
example : (⟨.user 0 "Param", (7 : Nat), [("tagx", .str "zz"), ("linen_meta_type", .cls "MyBox")]⟩ : NVar Nat).Canon :=
  Or.inr (Or.inr (Or.inr (Or.inr ⟨"MyBox", [("tagx", .str "zz")], rfl, by decide, by decide, by decide⟩)))

/-- the excluded `NNXMeta` boxes are really excluded: blank metadata comes back as a plain array -/
theorem nnxmeta_blank_not_roundtrip :
    (toNnxVarWith (.user 0 "Param") (LBox.nnxMeta (.user 0 "Param") (7 : Nat) [])).toOption.bind
      (fun v => (toLinenVar v).toOption) = some (.plain 7) := by decide +kernel

/-- the repaired `to_nnx_metadata` (finding F4: `dict(vars(self))`) leaves the caller's box as it was -/
theorem to_nnx_metadata_frame (o : BoxObj α) : (toNnxMetadata o).2 = o := rfl

/-- the shipped `Partitioned.to_nnx_metadata` popped `names` out of the caller's box -/
theorem orig_to_nnx_metadata_mutates :
    let o : BoxObj Nat := ⟨7, [("names", .names [some "a"]), ("mesh", .none)]⟩
    Meta.get? (toNnxMetadataOrig o).2.attrs "names" = none ∧
    (toNnxMetadataOrig o).1 = (toNnxMetadata o).1 := by decide +kernel

/-- the shipped `to_linen_var` could not give back a generic metadata box at all (`linen_meta_type` was
passed to the box constructor): every such Variable was rejected (finding F23) -/
theorem orig_generic_box_rejected (t : VType) (c : String) (v : α) (fields : Meta)
    (h : (LBox.box c v fields).Ok t) :
    ∃ w, toNnxVarWith t (.box c v fields) = .ok w ∧ toLinenVarOrig w = .error .badBox := by
  obtain ⟨h1, h2, h3⟩ := h
  refine ⟨⟨t, v, fields ++ [("linen_meta_type", .cls c)]⟩, rfl, ?_⟩
  simp only [toLinenVarOrig, Meta.get?_append_self fields _ (.cls c) h3]
  simp [h1, h2]

/-- **`_recursive_merge`: later wins per leaf, every other leaf is kept** — for all dicts whose leaf
paths do not nest properly -/
theorem recursive_merge_per_leaf (a b : Forest α) (ha : WFF a) (hb : WFF b) (hc : Compat a b) :
    ∃ g, recursiveMerge a b = .ok g ∧ WFF g ∧
      (∀ q x, leafAtF b q = some x → leafAtF g q = some x) ∧
      (∀ q, leafAtF b q = none → leafAtF g q = leafAtF a q) := by
  obtain ⟨g, h1, h2, h3, _⟩ := recursiveMerge_spec a b ha hb hc
  exact ⟨g, h1, h3, fun q x h => by rw [h2, h]; rfl, fun q h => by rw [h2, h]; rfl⟩

/-- **the updates of a `mutable` call are merged into the wrapper leaf by leaf**: every updated leaf is
stored (as a Variable of the type registered for its collection, same array, converting back to the
update), every leaf the update does not mention keeps its Variable -/
theorem merge_updates_per_leaf (s : ToNNX α) (hi : s.reg.Inj) (hb : s.reg.Bounded) (hw : WFF s.attrs)
    (U : Forest (LBox α)) (hU : VarsOk s.reg U)
    (hc : ∀ q q', leafAtF s.attrs q ≠ none → (∃ c, leafAtF U (c :: q') ≠ none) →
      (q <+: q' ∨ q' <+: q) → q = q') :
    ∃ s', s.absorb U = .ok s' ∧ WFF s'.attrs ∧ s'.rngs = s.rngs ∧ s'.reg.Inj ∧
      (∀ c q x, leafAtF U (c :: q) = some x →
        ∃ v, leafAtF s'.attrs q = some v ∧ s'.reg.typeOf c = some v.vtype ∧ v.value = x.value ∧
          toLinenVar v = .ok x) ∧
      (∀ q, (∀ c, leafAtF U (c :: q) = none) → leafAtF s'.attrs q = leafAtF s.attrs q) := by
  obtain ⟨r', u, g, habs, hr, hAu, hUu, hplace, hwg, hleafg⟩ := absorb_spec s hi hb hw U hU hc
  refine ⟨_, habs, hwg, rfl, hr.inj, ?_, ?_⟩
  · intro c q x hx
    obtain ⟨v, hl, hn, hxv⟩ := (expose_eq_some_iff r' _ c q x).mp (hUu _ ▸ hx)
    refine ⟨v, ?_, Reg.typeOf_of_nameOf r' hr.inj c _ hn, toLinenVar_value (hAu.canon q v hl) hxv, hxv⟩
    show leafAtF g q = some v
    rw [hleafg q, hl]; rfl
  · intro q hq
    show leafAtF g q = leafAtF s.attrs q
    rw [hleafg q]
    cases hu : leafAtF u q with
    | none => rfl
    | some v =>
      obtain ⟨c, x, hx, _⟩ := hplace q v hu
      rw [hq c] at hx; cases hx

/-- the wrapper of finding F13's report: `Net → Block → (Dense, BatchNorm)` after `lazy_init` -/
def f13State : ToNNX Nat :=
  { attrs := [("Block_0", .node [("BatchNorm_0", .node [("bias", .leaf ⟨.user 0 "Param", 0, []⟩),
                                                         ("mean", .leaf ⟨.user 1 "BatchStat", 0, []⟩),
                                                         ("scale", .leaf ⟨.user 0 "Param", 1, []⟩),
                                                         ("var", .leaf ⟨.user 1 "BatchStat", 1, []⟩)]),
                                  ("Dense_0", .node [("kernel", .leaf ⟨.user 0 "Param", 5, []⟩)])])],
    reg := builtinReg, rngs := ⟨[], 0⟩ }

/-- the updates of one call with `mutable=['batch_stats']` -/
def f13Updates : Forest (LBox Nat) :=
  [("batch_stats", .node [("Block_0", .node [("BatchNorm_0", .node [("mean", .leaf (.plain 3)),
                                                                     ("var", .leaf (.plain 4))])])])]

/-- **finding F13**: the shipped shallow `original_tree | value` dropped `scale` and `bias` of a
BatchNorm nested two levels deep; the repaired merge keeps them and stores the new statistics -/
theorem shallow_merge_loses_leaves :
    ((f13State.absorbOrig f13Updates).toOption.map fun s =>
        (leafAtF s.attrs ["Block_0", "BatchNorm_0", "scale"], leafAtF s.attrs ["Block_0", "BatchNorm_0", "mean"]))
      = some (none, some ⟨.user 1 "BatchStat", 3, []⟩) ∧
    ((f13State.absorb f13Updates).toOption.map fun s =>
        (leafAtF s.attrs ["Block_0", "BatchNorm_0", "scale"], leafAtF s.attrs ["Block_0", "BatchNorm_0", "mean"],
         leafAtF s.attrs ["Block_0", "Dense_0", "kernel"]))
      = some (some ⟨.user 0 "Param", 1, []⟩, some ⟨.user 1 "BatchStat", 3, []⟩, some ⟨.user 0 "Param", 5, []⟩) := by
  decide +kernel

/-- **a call returns what `apply` returns on the variables the wrapper holds** (with the keys drawn from
the wrapper's `rngs`), whatever the module -/
theorem tonnx_call_output (m : LinenMod α ι ο μ) (s : ToNNX α) (mu : Option μ) (x : ι) (o : ο) (s' : ToNNX α)
    (h : s.call m mu x = .ok (o, s')) :
    ∃ V U, s.heldVars = .ok V ∧ m.apply V s.rngs.draw.1 mu x = .ok (o, U) ∧ s'.rngs = s.rngs.draw.2 ∧
      (mu = none → s'.attrs = s.attrs) := by
  obtain ⟨V, U, hV, happ, hset⟩ := (ToNNX.call_ok m s mu x o s').mp h
  refine ⟨V, U, hV, happ, ToNNX.settle_rngs _ _ mu U hset, ?_⟩
  rintro rfl
  cases hset; rfl

/-- **which `Rngs` the keys come from**: a call that is handed a non-empty `rngs=` draws the keys for
`apply` from *that* object — one key per stream, the object's counters advance by one, every key carries its
identity — and leaves the wrapper's own streams untouched; a call without (or with an empty) `rngs=` draws
from the wrapper's own `rngs`, which advance, and is the same as `ToNNX.call`. -/
theorem tonnx_call_uses_given_rngs (m : LinenMod α ι ο μ) (s : ToNNX α) (given : Option Rngs) (mu : Option μ) (x : ι)
    (o : ο) (s' : ToNNX α) (given' : Option Rngs) (h : s.callR m given mu x = .ok (o, s', given')) :
    (∀ g, given = some g → g.streams ≠ [] →
      ∃ V U, s.heldVars = .ok V ∧ m.apply V g.draw.1 mu x = .ok (o, U) ∧ given' = some g.draw.2 ∧
        s'.rngs = s.rngs ∧ ∀ e ∈ g.draw.1, e.2.src = g.src) ∧
    ((given = none ∨ ∃ g, given = some g ∧ g.streams = []) →
      ∃ V U, s.heldVars = .ok V ∧ m.apply V s.rngs.draw.1 mu x = .ok (o, U) ∧ given' = given ∧
        s'.rngs = s.rngs.draw.2 ∧ s.call m mu x = .ok (o, s')) := by
  refine ⟨?_, ?_⟩
  · intro g hg hne
    subst hg
    have hc : chooseRngs (some g) = true := by
      simp only [chooseRngs, Bool.not_eq_true', List.isEmpty_eq_false_iff]; exact hne
    obtain ⟨V, U, hV, happ, hset, hg'⟩ := (ToNNX.callR_given m s g mu x o s' given' hc).mp h
    refine ⟨V, U, hV, happ, hg', ToNNX.settle_rngs _ _ mu U hset, ?_⟩
    intro e he
    simp only [Rngs.draw, List.mem_map] at he
    obtain ⟨nc, _, rfl⟩ := he; rfl
  · intro hg
    have hc : chooseRngs given = false := by
      rcases hg with rfl | ⟨g, rfl, hge⟩
      · rfl
      · simp [chooseRngs, hge]
    obtain ⟨hcall, hg'⟩ := (ToNNX.callR_own m s given mu x o s' given' hc).mp h
    obtain ⟨V, U, hV, happ, hset⟩ := (ToNNX.call_ok m s mu x o s').mp hcall
    exact ⟨V, U, hV, happ, hg', ToNNX.settle_rngs _ _ mu U hset, hcall⟩

/-- **`lazy_init`** returns `init`'s output; afterwards the wrapper is in step with a caller who keeps
`init`'s variables, and every collection is stored under the Variable type registered for it (same
array, axis names as `sharding`) -/
theorem tonnx_lazy_init (m : LinenMod α ι ο μ) (hm : ModOk m) (s : ToNNX α) (hi : s.reg.Inj) (hb : s.reg.Bounded)
    (hempty : s.attrs = []) (x : ι) (o : ο) (V : Forest (LBox α))
    (hinit : m.init (renameDefault s.rngs.draw.1) x = .ok (o, V)) :
    ∃ s', s.lazyInit m x = .ok (o, s') ∧ Sim s' { vars := V, rngs := s.rngs.draw.2 } ∧
      (∀ q v, leafAtF s'.attrs q = some v →
        ∃ c b, leafAtF V (c :: q) = some b ∧ s'.reg.typeOf c = some v.vtype ∧ v.value = b.value ∧
          (∀ n, b.names? = some n → Meta.get? v.md "sharding" = some n)) := by
  exact lazyInit_sim m hm s hi hb hempty x o V hinit

/-- **ToNNX refines Linen, for every module and every sequence of calls**: started in step (`Sim`, as
`lazy_init` leaves them), the wrapper returns on every history of calls — `mutable` on or off per call —
exactly the outputs a Linen user gets who applies the module to variables he keeps himself and merges
the returned updates into them leaf by leaf; and they are in step again afterwards, so the wrapper holds
(up to dict order) the variables the Linen user holds. -/
theorem tonnx_refines_linen (m : LinenMod α ι ο μ) (hm : ModOk m) (hist : List (Option μ × ι))
    (s : ToNNX α) (ref : LinenRef α) (hsim : Sim s ref) (outs : List ο) (ref' : LinenRef α)
    (h : runRef m ref hist = .ok (outs, ref')) :
    ∃ s', runWrapper m s hist = .ok (outs, s') ∧ Sim s' ref' :=
  run_sim m hm hist s ref hsim outs ref' h

/-- non-vacuity of the refinement: the toy module (`y = w·x + c`, the counter `c` goes up on `mutable`
calls) satisfies `ModOk`; `lazy_init` of an empty wrapper puts it in step with a Linen user, and
the theorem then applies to a history with `mutable` on, off, on -/
example : ∃ s, Sim s ⟨toyVars 2 0, (⟨[("params", 0)], 0⟩ : Rngs).draw.2⟩ ∧
    ∃ s', runWrapper toyMod s [(some (), 3), (none, 4), (some (), 5)] = .ok ([6, 9, 11], s') := by
  have hreg := builtinReg_ok
  obtain ⟨s, _, hsim, _⟩ := tonnx_lazy_init toyMod toyMod_ok ⟨[], builtinReg, ⟨[("params", 0)], 0⟩⟩ hreg.1 hreg.2 rfl
    1 2 (toyVars 2 0) rfl
  refine ⟨s, hsim, ?_⟩
  obtain ⟨ref', href⟩ := exists_ok_of_fst (runRef toyMod ⟨toyVars 2 0, (⟨[("params", 0)], 0⟩ : Rngs).draw.2⟩
    [(some (), 3), (none, 4), (some (), 5)]) [6, 9, 11] (by decide +kernel)
  obtain ⟨s', hs', _⟩ := tonnx_refines_linen toyMod toyMod_ok _ s _ hsim _ ref' href
  exact ⟨s', hs'⟩

example : VarsOk builtinReg (toyVars 2 0) ∧ AttrsOk builtinReg f13State.attrs := by
  exact ⟨toyVars_ok _ 2 0,
    attrsOk_of_blank _ _ (by simp [f13State, WFF, Tree.WF, dkeys]) (by decide +kernel)⟩

/-- **what `ToLinen` exposes**: `_update_variables` puts every Variable of the NNX state at its own path
under the collection named after its type, converted with `to_linen_var` (same array), and only into
mutable collections; nothing else is put. The registry is untouched when the types are registered. -/
theorem tolinen_exposes_by_type (r : Reg) (isMutable : String → Bool) (S : Forest (NVar α)) (hS : AttrsOk r S) :
    ∃ U, encodeState r isMutable S = .ok (r, U) ∧ WFF U ∧
      ∀ c q x, leafAtF U (c :: q) = some x ↔
        (isMutable c = true ∧ ∃ v, leafAtF S q = some v ∧ r.nameOf v.vtype = some c ∧ toLinenVar v = .ok x) := by
  obtain ⟨U, h1, h2, _, h4⟩ := encodeState_spec r isMutable S hS.wf hS.leaves
  exact ⟨U, h1, h2, fun c q x => by rw [h4, Option.filter_eq_some_iff, expose_eq_some_iff]; exact and_comm⟩

/-- **exact type, not a base**: `_update_variables` sorts the state's Variable types most-derived-first
(`sort_variable_types`) and splits by first match; over every class hierarchy in which a proper base
class has a strictly shorter MRO, every Variable falls into the bucket of its *own* type — so a Variable of
a sub-class `S` of `T` is exposed under the collection named after `S` and never under `T`'s, whichever of
the two collections is mutable — and the bucketed `_update_variables` is `encodeState`, to which
`tolinen_exposes_by_type` applies. -/
theorem tolinen_exposes_by_exact_type (h : Hier) (hh : HierOk h) (r : Reg) (isMutable : String → Bool)
    (S : Forest (NVar α)) :
    (∀ q v, leafAtF S q = some v →
      bucketOf h (sortVariableTypes h (typesOf S)) v.vtype = some v.vtype) ∧
    encodeStateTyped h r isMutable S = encodeState r isMutable S := by
  refine ⟨?_, encodeStateTyped_eq h hh r isMutable S⟩
  intro q v hl
  exact bucket_exact h hh _ _ (mem_typesOf S (q, v) (flattenF_complete S q v hl))

/-- a hierarchy `BatchStat ⊃ SubStat ⊃ SubSubStat` satisfies the hypothesis; sorted ascending instead
(the order a careless edit would produce) the sub-class Variable lands in the base bucket -/
example :
    let bs := VType.user 1 "BatchStat"; let s := VType.user 20 "SubStat"; let ss := VType.user 21 "SubSubStat"
    let h : Hier := ⟨fun t => if t = ss then [ss, s, bs] else if t = s then [s, bs] else [t]⟩
    HierOk h ∧ bucketOf h (sortVariableTypes h [bs, ss, s]) ss = some ss ∧ bucketOf h [bs, s, ss] ss = some bs := by
  intro bs s ss h
  refine ⟨hierOk_of_table h [ss, s] ?_ (by decide +kernel), by decide +kernel, by decide +kernel⟩
  intro t ht
  simp only [List.mem_cons, List.not_mem_nil, or_false, not_or] at ht
  simp only [h, ht.1, ht.2, ↓reduceIte]

/-- **`sort_variable_types` puts every strict sub-type before its super-types**: with the key "number of
Variable classes anywhere in the MRO" (a proper base has strictly fewer), no class in the sorted list is
preceded by one of its proper bases — whatever else (plain mixins, in any position of the bases) the MRO
contains, since only the Variable classes are counted. -/
theorem sort_types_subtype_first (h : Hier) (hh : HierOk h) (types : List VType) :
    (sortVariableTypes h types).Pairwise fun a b => ¬ (h.isSub b a = true ∧ b ≠ a) := by
  refine List.Pairwise.imp ?_ (sortVariableTypes_spec h types).1
  intro a b hle ⟨hsub, hne⟩
  simp only [Hier.isSub, decide_eq_true_eq] at hsub
  have := hh.shorter b a hsub (fun e => hne e.symm)
  omega

/-- the key of a careless edit — count only the *leading run* of Variable classes in the MRO — is wrong
for `class Calib(Tagged, nnx.Param)` (MRO: Calib, Tagged, Param, Variable): Calib counts 1, Param 2, Param
sorts first and its filter takes the Calib Variables; with the real key Calib keeps its own bucket -/
example :
    let var := VType.user 40 "Variable"; let param := VType.user 0 "Param"; let calib := VType.user 41 "Calib"
    let h : Hier := ⟨fun t => if t = calib then [calib, param, var] else if t = param then [param, var] else [t]⟩
    let leadingRun : Hier := ⟨fun t => if t = calib then [calib] else if t = param then [param, var] else [t]⟩
    bucketOf h (sortVariableTypes h [param, calib]) calib = some calib ∧
    bucketOf h (sortVariableTypes leadingRun [param, calib]) calib = some param := by
  decide +kernel

/-- **state → Linen collections → state is the identity**: the state `ToLinen`'s apply path rebuilds from
the collections `_update_variables` wrote (all collections mutable) has the Variables of the original
state at the same paths; no type is named `nnx` (that collection holds the graph definition). -/
theorem tolinen_state_roundtrip (r : Reg) (hi : r.Inj) (hb : r.Bounded) (S : Forest (NVar α)) (hS : AttrsOk r S)
    (hnn : ∀ q v, leafAtF S q = some v → r.nameOf v.vtype ≠ some "nnx") :
    ∃ V S', encodeState r (fun _ => true) S = .ok (r, V) ∧ decodeVars r V = .ok (r, S') ∧ Equiv S' S := by
  obtain ⟨V, hV, hE⟩ := encodeState_exposes r S hS
  obtain ⟨S', hdec, _, heq⟩ := decode_of_exposes r hi hb V S hS hnn hE
  exact ⟨V, S', hV, hdec, heq⟩

/-- **an `apply` returns what the NNX module returns on the state rebuilt from the caller's collections**,
merged with the graph definition read from the `nnx` collection and reseeded with the keys Linen's
`make_rng` derives from the rngs of *this* apply call at the wrapper's scope; the new graph definition is
written back exactly when `nnx` is mutable -/
theorem tolinen_apply_output {γ : Type} (m : NnxMod α ι ο γ) (r : Reg) (path : Path) (lv : LinenVars α γ)
    (rngs : Keys) (isMutable : String → Bool) (x : ι) (o : ο) (r2 : Reg) (g? : Option γ) (upd : Forest (LBox α))
    (h : toLinenApply m r path lv rngs isMutable x = .ok (o, r2, g?, upd)) :
    ∃ g r1 S g' S', lv.gdef = some g ∧ decodeVars r lv.vars = .ok (r1, S) ∧
      m.call g (m.reseed S (linenRngsDict path rngs)) x = .ok (o, g', S') ∧
      encodeState r1 isMutable S' = .ok (r2, upd) ∧ g? = (if isMutable "nnx" then some g' else none) := by
  exact (toLinenApply_ok m r path lv rngs isMutable x o r2 g? upd).mp h

/-- **`init` of a ToLinen module** returns what the freshly constructed NNX module returns and leaves the
caller holding the graph definition and collections that expose the constructed state (`LSim`) -/
theorem tolinen_init {γ : Type} (m : NnxMod α ι ο γ) (r : Reg) (hi : r.Inj) (hb : r.Bounded) (path : Path)
    (rngs : Keys) (x : ι) (g : γ) (S : Forest (NVar α))
    (hc : m.construct (linenRngsDict path rngs) = .ok (g, S)) (hS : AttrsOk r S) (hnn : NoNnx r S)
    (o : ο) (g' : γ) (S' : Forest (NVar α)) (hcall : m.call g S x = .ok (o, g', S')) :
    ∃ lv, toLinenInit m r path rngs x = .ok (o, r, lv) ∧ LSim r lv ⟨g, S⟩ :=
  linit_sim m r hi hb path rngs x g S hc hS hnn o g' S' hcall

/-- **ToLinen refines NNX, for every module and every sequence of calls**: started in step (`LSim`, as `init`
leaves them), a Linen caller who applies the wrapper with per-call rngs and `mutable` filters and folds the
returned collections back into his variables leaf by leaf gets, on every history, exactly the outputs of
an NNX user who holds the module itself, reseeds it with the same derived keys, calls it, and keeps the new
values of the Variables whose collection was mutable (and the new graph definition when `nnx` was); they
are in step again afterwards: the caller's collections expose the user's state, each Variable under the
collection named after its exact type (`tolinen_exposes_by_exact_type`), and hold his graph definition. -/
theorem tolinen_refines_nnx {γ : Type} (m : NnxMod α ι ο γ) (hm : NModOk m) (r : Reg) (path : Path)
    (hist : List (LCall ι)) (lv : LinenVars α γ) (u : NnxUser α γ) (hsim : LSim r lv u)
    (outs : List ο) (u' : NnxUser α γ) (h : runNnxUser m r path u hist = .ok (outs, u')) :
    ∃ lv', runLinenCaller m r path lv hist = .ok (outs, lv') ∧ LSim r lv' u' :=
  lrun_sim m hm r path hist lv u hsim outs u' h

/-- non-vacuity: the toy NNX module (`y = w·x + c`, every call bumps `c` and the graph definition)
satisfies `NModOk`; `init` puts a caller in step, and the theorem applies to a history in which
`batch_stats` and `nnx` are mutable in turn -/
example : ∃ lv lv', LSim builtinReg lv ⟨0, toyNState⟩ ∧
    runLinenCaller toyN builtinReg [] lv
      [([], fun c => c == "batch_stats", 3), ([], fun _ => false, 4), ([], fun _ => true, 5)] = .ok ([6, 9, 11], lv') := by
  have hreg := builtinReg_ok
  have hS : AttrsOk builtinReg toyNState :=
    attrsOk_of_blank _ _ (by simp [toyNState, WFF, Tree.WF, dkeys]) (by decide +kernel)
  have hnn : NoNnx builtinReg toyNState := noNnx_of_flat _ _ (by decide +kernel)
  obtain ⟨lv, _, hsim⟩ := tolinen_init toyN builtinReg hreg.1 hreg.2 [] [] 1 0 _ rfl hS hnn 2 1 _ rfl
  obtain ⟨u', href⟩ := exists_ok_of_fst (runNnxUser toyN builtinReg [] ⟨0, toyNState⟩
    [([], fun c => c == "batch_stats", 3), ([], fun _ => false, 4), ([], fun _ => true, 5)]) [6, 9, 11]
    (by decide +kernel)
  obtain ⟨lv', hlv', _⟩ := tolinen_refines_nnx toyN toyN_ok builtinReg [] _ lv _ hsim _ u' href
  exact ⟨lv, lv', hsim, hlv'⟩

/-- **ToLinen: no stale keys.** Whatever keys and counters the module's streams carried (from
construction or from an earlier call), after `apply`'s reseed the `j`-th key a stream named in the Linen
rngs hands out is `fold_in(make_rng-key of this apply's rngs at the wrapper's scope, j)`: a function of
the rngs passed to *this* call, the scope path and `j` only. Streams not named keep going. -/
theorem tolinen_reseed_fresh (ss : List (String × RngStream)) (path : Path) (rngs : Keys) (n : String) (s : RngStream)
    (hs : (n, s) ∈ ss) :
    (∀ k, (rngs.find? fun e => e.1 = n) = some (n, k) →
      ∃ s', (n, s') ∈ reseedStreams ss (linenRngsDict path rngs) ∧
        ∀ m, drawN s' m = (List.range m).map fun j => KeyT.fold (.linen (.base k) path 0) j) ∧
    ((rngs.find? fun e => e.1 = n) = none → (n, s) ∈ reseedStreams ss (linenRngsDict path rngs)) := by
  refine ⟨?_, ?_⟩
  · intro k hk
    refine ⟨⟨.linen (.base k) path 0, 0⟩, ?_, ?_⟩
    · simp only [reseedStreams, List.mem_map]
      refine ⟨(n, s), hs, ?_⟩
      simp only [find?_linenRngsDict, hk, Option.map_some]
    · intro m; rw [drawN_eq]; simp
  · intro hk
    simp only [reseedStreams, List.mem_map]
    exact ⟨(n, s), hs, by simp only [find?_linenRngsDict, hk, Option.map_none]⟩

/-- **ToLinen called several times inside one Linen `init`/`apply`**: the scope's `make_rng` counters are
state threaded through the calls of the instance, so (from fresh counters) the `k`-th call reseeds stream
`n` with `make_rng` key number `k` at the wrapper's scope, and nothing folded from the key of one call is
folded from the key of another (what is drawn from a key: `tolinen_reseed_fresh`). -/
theorem tolinen_repeated_calls_fresh_keys (path : Path) (rngs : Keys) (hn : (rngs.map Prod.fst).Nodup) (m : Nat) :
    callKeyDicts path rngs m [] =
      ((List.range m).map fun k => rngs.map fun e => (e.1, KeyT.linen (.base e.2) path k)) ∧
    (∀ (k k' : Nat) (key : Key) (j j' : Nat), k ≠ k' →
      KeyT.fold (.linen (.base key) path k) j ≠ KeyT.fold (.linen (.base key) path k') j') := by
  refine ⟨?_, ?_⟩
  · have := callKeyDicts_spec path rngs m [] 0 (by intro n _; rfl)
    simpa using this
  · intro k k' key j j' hk h
    injection h with h1 _
    injection h1 with _ _ h3
    exact hk h3

example : callKeyDicts ["inner"] [("dropout", ⟨"dropout", 0, 9⟩)] 3 []
    = [[("dropout", .linen (.base ⟨"dropout", 0, 9⟩) ["inner"] 0)], [("dropout", .linen (.base ⟨"dropout", 0, 9⟩) ["inner"] 1)],
       [("dropout", .linen (.base ⟨"dropout", 0, 9⟩) ["inner"] 2)]] := by decide +kernel

/-- **ToNNX: keys are never reused.** The `i`-th draw from the wrapper's `rngs` (one per `lazy_init` or
call) hands stream `n` the key `(n, c + i)`; with distinct stream names, two different calls never give
the wrapped module a key in common. -/
theorem tonnx_keys_never_reused (r : Rngs) (hn : (r.streams.map Prod.fst).Nodup) (i j : Nat) (hij : i ≠ j) :
    (r.after i).draw.1 = (r.streams.map fun nc => (nc.1, (⟨nc.1, nc.2 + i, r.src⟩ : Key))) ∧
    ∀ e ∈ (r.after i).draw.1, ∀ e' ∈ (r.after j).draw.1, e.2 ≠ e'.2 := by
  have hd : ∀ i, (r.after i).draw.1 = (r.streams.map fun nc => (nc.1, (⟨nc.1, nc.2 + i, r.src⟩ : Key))) := by
    intro i; simp [Rngs.draw, Rngs.after_eq, List.map_map, Function.comp_def]
  refine ⟨hd i, ?_⟩
  intro e he e' he' heq
  rw [hd i] at he; rw [hd j] at he'
  obtain ⟨a, ha, rfl⟩ := List.mem_map.mp he
  obtain ⟨b, hb, rfl⟩ := List.mem_map.mp he'
  simp only [Key.mk.injEq] at heq
  have hab : a = b := Assoc.eq_of_nodup_map hn ha hb heq.1
  subst hab
  omega

example : (⟨[("params", 0), ("dropout", 3)], 7⟩ : Rngs).after 2 |>.draw.1
    = [("params", ⟨"params", 2, 7⟩), ("dropout", ⟨"dropout", 5, 7⟩)] := by decide +kernel

/-- **`NNXMeta.add_axis` keeps the `sharding` annotation aligned with the stacked value**: for every
annotation — the empty tuple of a rank-0 Variable included — and every index a transform can pass
(`-(rank+1) ≤ index ≤ rank`), the new tuple has exactly one more entry, the axis name sits at the new
axis, and `remove_axis` with the same arguments gives the old tuple back. -/
theorem nnxmeta_axis_aligned (ns : List (Option String)) (index : Int) (axis : String)
    (h : AxisIndexOk ns.length index) :
    (insertAxis ns index axis).length = ns.length + 1 ∧
    (insertAxis ns index axis)[addIndex ns.length index]? = some (some axis) ∧
    removeAxis (insertAxis ns index axis) index axis = .ok ns := by
  have hk := addIndex_le ns.length index h
  rw [insertAxis_eq ns index axis h]
  refine ⟨List.length_insertIdx_of_le_length hk _, by rw [List.getElem?_insertIdx_self, if_pos hk], ?_⟩
  rw [← insertAxis_eq ns index axis h]
  exact removeAxis_insertAxis ns index axis h

/-- on the box's metadata: an annotated Variable (whatever the tuple, `()` too) gets the new tuple and
everything else is kept; a Variable without a `sharding` annotation stays unannotated -/
theorem nnxmeta_add_axis_meta (md : Meta) (index : Int) (axis : String) :
    (∀ ns, Meta.get? md "sharding" = some (.names ns) →
      nnxMetaAddAxis md index axis = setAssoc md "sharding" (.names (insertAxis ns index axis))) ∧
    (Meta.get? md "sharding" = none → nnxMetaAddAxis md index axis = md ∧ nnxMetaRemoveAxis md index axis = .ok md) := by
  refine ⟨fun ns h => by simp [nnxMetaAddAxis, h], fun h => by simp [nnxMetaAddAxis, nnxMetaRemoveAxis, h]⟩

/-- the rank-0 case: inserting at 0 (or at -1) into the empty annotation, which is not skipped; a rank-1
`(None,)`; the same on the box's metadata -/
example : AxisIndexOk 0 0 ∧ insertAxis [] 0 "layers" = [some "layers"] ∧ insertAxis [] (-1) "layers" = [some "layers"] ∧
    insertAxis [none] 0 "layers" = [some "layers", none] ∧
    nnxMetaAddAxis [("sharding", .names [])] 0 "layers" = [("sharding", .names [some "layers"])] ∧
    (nnxMetaRemoveAxis [("sharding", .names [some "layers"])] 0 "layers").toOption = some [("sharding", .names [])] ∧
    nnxMetaAddAxis [("tag", .str "s")] 0 "layers" = [("tag", .str "s")] := by
  refine ⟨⟨by decide, by decide⟩, by decide, by decide, by decide, by decide, by decide, by decide⟩

end Flax.C18
