/-
C09 — Random keys are deterministic, position-addressed and never reused.
Property theorems over `Flax/Model/Rng.lean`.
Keys are symbolic terms: threefry `fold_in`/`split` and SHA-1 are free constructors (assumption A-RNG);
what is proved is about SHA-1 *preimages* and key terms.
-/
import Flax.Proofs.RngLinen
import Flax.Proofs.RngLinenDraws
import Flax.Proofs.RngTickets
import Flax.Proofs.RngJit
import Flax.Proofs.RngAlias
import Flax.Proofs.RngNnxSplit
import Flax.Proofs.RngNnxHist

namespace Flax.C09
open Flax.Rng

def NulFree (bs : List UInt8) : Prop := (0 : UInt8) ∉ bs

/-- **With the separator** the preimage determines the list of chunks, for NUL-free chunks. -/
theorem encode_chunks_injective_with_separator (d₁ d₂ : List Datum)
    (h₁ : ∀ d ∈ d₁, NulFree (datumBytes d)) (h₂ : ∀ d ∈ d₂, NulFree (datumBytes d))
    (h : encodeSuffix true d₁ = encodeSuffix true d₂) : d₁.map datumBytes = d₂.map datumBytes :=
  encodeSuffix_true_chunks_inj d₁ d₂ h₁ h₂ h

/-- **With the separator**, suffixes of the shape `make_rng` produces (scope path, then call count) are
encoded injectively: different paths or different counts give different SHA-1 preimages.  Hypotheses:
scope names contain no NUL character and the count's big-endian bytes contain no zero byte (true for every
count below 256, see `count_bytes_nulfree`); `separator_not_injective_beyond_65536` shows the second one is
needed. -/
theorem encode_injective_with_separator (π₁ π₂ : List String) (j₁ j₂ : Nat)
    (hπ₁ : ∀ n ∈ π₁, NulFree (strBytes n)) (hπ₂ : ∀ n ∈ π₂, NulFree (strBytes n))
    (hj₁ : NulFree (natBytes j₁)) (hj₂ : NulFree (natBytes j₂))
    (h : encodeSuffix true (suffixOf π₁ j₁) = encodeSuffix true (suffixOf π₂ j₂)) : π₁ = π₂ ∧ j₁ = j₂ :=
  encodeSuffix_true_inj π₁ π₂ j₁ j₂ hπ₁ hπ₂ hj₁ hj₂ h

/-- every count from 1 to 255 is one non-zero byte -/
theorem count_bytes_nulfree (j : Nat) (h1 : 1 ≤ j) (h2 : j < 256) : NulFree (natBytes j) :=
  natBytes_small_nulfree j h1 h2

/-- **Without the separator** different paths can have the same preimage: `("ab","c")` and `("a","bc")`. -/
theorem encode_collides_without_separator :
    encodeSuffix false (suffixOf ["ab", "c"] 1) = encodeSuffix false (suffixOf ["a", "bc"] 1) := by decide +kernel

/-- the same pair is separated by the flag -/
theorem separator_separates_witness :
    encodeSuffix true (suffixOf ["ab", "c"] 1) ≠ encodeSuffix true (suffixOf ["a", "bc"] 1) := by decide +kernel

/-- The excluded point of `encode_injective_with_separator`: the 65537-th draw in scope `a` and the first
draw in its child named `"\x01"` have the same preimage even with the separator (the count's bytes
`01 00 01` contain a zero byte). -/
theorem separator_not_injective_beyond_65536 :
    encodeSuffix true (suffixOf ["a"] 65537) = encodeSuffix true (suffixOf ["a", "\x01"] 1) := by decide +kernel

/-- both settings: at one scope path, different counts have different preimages -/
theorem encode_distinct_counts (sep : Bool) (π : List String) (j₁ j₂ : Nat)
    (h : encodeSuffix sep (suffixOf π j₁) = encodeSuffix sep (suffixOf π j₂)) : j₁ = j₂ := by
  simp only [suffixOf, encodeSuffix_append] at h
  exact natBytes_injective (encodeSuffix_singleton_inj sep (List.append_cancel_left h))

/-- both settings: sibling scopes (same parent, different names) have different preimages at equal counts -/
theorem encode_distinct_sibling_names (sep : Bool) (π : List String) (a b : String) (j : Nat)
    (h : encodeSuffix sep (suffixOf (π ++ [a]) j) = encodeSuffix sep (suffixOf (π ++ [b]) j)) : a = b := by
  simp only [suffixOf, List.map_append, List.map_cons, List.map_nil, List.append_assoc, encodeSuffix_append] at h
  exact strBytes_injective (encodeSuffix_singleton_inj sep (List.append_cancel_right (List.append_cancel_left h)))

/-! `runTop cfg seeds p` runs the module program `p` (module tree + call sequence) on the transcription of
`Scope.push` / `Scope.make_rng` with by-reference counter dictionaries; `p.draws []` lists its draws, `effOf` resolves the
`'params'` fallback, `countPos … (take i)` counts the earlier draws at the same (scope path, stream after fallback). -/

/-- **Position function.**  For every module program without `nn.jit`, every set of seeds and both flag
settings: the `i`-th key handed out is `fold_in_static(seed of the stream after fallback, scope path ++ [n])`
where `n` is the 1-based rank of the draw among the draws at the same scope path and stream after fallback.
It depends on nothing else in the program. -/
theorem linen_key_is_function_of_position (cfg : Cfg) (seeds : List (String × SymKey)) (p : Prog) (hjf : p.jitFree)
    (ks : List SymKey) (h : runTop cfg seeds p = .ok ks) :
    ks.length = (p.draws []).length ∧
    ∀ (i : Nat) (hi : i < (p.draws []).length), ∃ s' k,
      effOf cfg seeds ((p.draws [])[i]).2 = some (s', k) ∧
      ks[i]? = some (keyAt cfg.sep k ((p.draws [])[i]).1
                      (countPos cfg seeds ((p.draws [])[i]).1 s' ((p.draws []).take i) + 1)) := by
  obtain ⟨c', hs⟩ := runTop_ok cfg seeds p (Or.inl hjf) ks h
  rw [specProg_jitFree cfg seeds p hjf] at hs
  obtain ⟨hlen, _, hkeys⟩ := specRun_closed _ _ cfg seeds _ _ _ _ hs
  refine ⟨hlen, ?_⟩
  intro i hi
  obtain ⟨s', k, he, hk⟩ := hkeys i hi
  exact ⟨s', k, he, by simpa [linenOut] using hk⟩

/-- A run fails exactly when some draw asks for a stream that is neither supplied nor backed by the fallback
stream, and then with `InvalidRngError`. -/
theorem linen_missing_stream_rejected (cfg : Cfg) (seeds : List (String × SymKey)) (p : Prog) (hjf : p.jitFree) (e : Err) :
    runTop cfg seeds p = .error e ↔ (e = .invalidRng ∧ ∃ d ∈ p.draws [], effOf cfg seeds d.2 = none) := by
  rw [runTop_spec cfg seeds p hjf, map_error]
  exact specRun_error_iff _ _ cfg seeds (p.draws []) (fun _ _ => 0) e

/-- **Unrelated edits are inert.**  Two arbitrary programs with arbitrary seed sets: if draw `i` of the first and
draw `j` of the second sit at the same scope path, resolve to the same stream with the same seed key, and have the
same rank there, they receive the same key — whatever else differs (siblings added, removed or reordered, other
streams, other scopes, variables).  "Unrelated" is thereby made precise: an edit is unrelated to a draw iff it
does not change the draw's rank at its (scope path, stream after fallback). -/
theorem unrelated_edits_inert (cfg : Cfg) (seedsP seedsQ : List (String × SymKey)) (p q : Prog)
    (hp : p.jitFree) (hq : q.jitFree) (ksP ksQ : List SymKey)
    (hP : runTop cfg seedsP p = .ok ksP) (hQ : runTop cfg seedsQ q = .ok ksQ)
    (i j : Nat) (hi : i < (p.draws []).length) (hj : j < (q.draws []).length)
    (π : Path) (s' : String) (k : SymKey)
    (hπi : ((p.draws [])[i]).1 = π) (hπj : ((q.draws [])[j]).1 = π)
    (hsi : effOf cfg seedsP ((p.draws [])[i]).2 = some (s', k))
    (hsj : effOf cfg seedsQ ((q.draws [])[j]).2 = some (s', k))
    (hrank : countPos cfg seedsP π s' ((p.draws []).take i) = countPos cfg seedsQ π s' ((q.draws []).take j)) :
    ksP[i]? = ksQ[j]? := by
  obtain ⟨_, hkP⟩ := linen_key_is_function_of_position cfg seedsP p hp ksP hP
  obtain ⟨_, hkQ⟩ := linen_key_is_function_of_position cfg seedsQ q hq ksQ hQ
  obtain ⟨s1, k1, he1, h1⟩ := hkP i hi
  obtain ⟨s2, k2, he2, h2⟩ := hkQ j hj
  rw [hsi] at he1
  rw [hsj] at he2
  simp only [Option.some.injEq, Prod.mk.injEq] at he1 he2
  obtain ⟨rfl, rfl⟩ := he1
  obtain ⟨rfl, rfl⟩ := he2
  rw [h1, h2, hπi, hπj, hrank]

/-- **Fallback.**  A draw from a stream that was not supplied behaves exactly like a draw from the fallback
stream (`'params'`): same seed *and* same counter, so rewriting every such request changes no key. -/
theorem fallback_params (cfg : Cfg) (seeds : List (String × SymKey)) (p : Prog) (hjf : p.jitFree) :
    runTop cfg seeds (p.mapStreams (fun s => if (find? s seeds).isSome then s else cfg.fallback)) = runTop cfg seeds p := by
  rw [runTop_specProg cfg seeds p (Or.inl hjf), runTop_specProg cfg seeds _ (Or.inl (Prog.jitFree_mapStreams _ p hjf)),
    specProg_mapStreams]
  intro s
  simp only [effOf]
  cases h : find? s seeds with
  | some k => simp [h]
  | none =>
    simp only [Option.isSome_none, Bool.false_eq_true, if_false]
    cases find? cfg.fallback seeds <;> rfl

/-- both flag settings: different counts at one position give different keys -/
theorem distinct_counts (sep : Bool) (k : SymKey) (π : Path) (j₁ j₂ : Nat) (h : j₁ ≠ j₂) :
    keyAt sep k π j₁ ≠ keyAt sep k π j₂ :=
  fun he => h (encode_distinct_counts sep π j₁ j₂ (keyAt_inj.mp he).2)

/-- both flag settings: different seed keys give different keys, whatever the positions -/
theorem distinct_seeds (sep : Bool) (k₁ k₂ : SymKey) (π₁ π₂ : Path) (j₁ j₂ : Nat) (h : k₁ ≠ k₂) :
    keyAt sep k₁ π₁ j₁ ≠ keyAt sep k₂ π₂ j₂ :=
  fun he => h (keyAt_inj.mp he).1

/-- both flag settings: sibling scopes with different names give different keys at equal counts -/
theorem distinct_sibling_names (sep : Bool) (k : SymKey) (π : Path) (a b : String) (j : Nat) (h : a ≠ b) :
    keyAt sep k (π ++ [a]) j ≠ keyAt sep k (π ++ [b]) j :=
  fun he => h (encode_distinct_sibling_names sep π a b j (keyAt_inj.mp he).2)

/-- with the separator: any two different scope paths give different keys (NUL-free names, counts < 256) -/
theorem distinct_paths (k : SymKey) (π₁ π₂ : Path) (j₁ j₂ : Nat)
    (hπ₁ : ∀ n ∈ π₁, NulFree (strBytes n)) (hπ₂ : ∀ n ∈ π₂, NulFree (strBytes n))
    (hj₁ : 1 ≤ j₁ ∧ j₁ < 256) (hj₂ : 1 ≤ j₂ ∧ j₂ < 256) (h : π₁ ≠ π₂) :
    keyAt true k π₁ j₁ ≠ keyAt true k π₂ j₂ :=
  fun he => h (encode_injective_with_separator π₁ π₂ j₁ j₂ hπ₁ hπ₂
    (count_bytes_nulfree j₁ hj₁.1 hj₁.2) (count_bytes_nulfree j₂ hj₂.1 hj₂.2) (keyAt_inj.mp he).2).1

/-- without the separator the same is false: two different paths, one key -/
theorem distinct_paths_fails_without_separator (k : SymKey) :
    keyAt false k ["ab", "c"] 1 = keyAt false k ["a", "bc"] 1 :=
  keyAt_inj.mpr ⟨rfl, encode_collides_without_separator⟩

/-- **No reuse within a run (separator on).**  For every `jit`-free module program whose scope names are NUL-free,
with fewer than 256 draws, and seed keys that differ between streams: no two draws of the run return the same key. -/
theorem no_reuse_within_run (cfg : Cfg) (hsep : cfg.sep = true) (seeds : List (String × SymKey)) (p : Prog)
    (hjf : p.jitFree) (ks : List SymKey) (h : runTop cfg seeds p = .ok ks)
    (hnames : ∀ d ∈ p.draws [], ∀ n ∈ d.1, NulFree (strBytes n))
    (hsmall : (p.draws []).length < 256)
    (hseeds : (seeds.map (·.2)).Nodup)
    (i j : Nat) (hij : i < j) (hj : j < ks.length) : ks[i]? ≠ ks[j]? := by
  obtain ⟨hlen, hk⟩ := linen_key_is_function_of_position cfg seeds p hjf ks h
  refine keys_distinct_of_positions cfg seeds hseeds (p.draws []) ks hk ?_ i j hij (hlen ▸ hj)
  intro d hd e he a b ha1 ha2 hb1 hb2 henc
  rw [hsep] at henc
  exact encode_injective_with_separator d.1 e.1 a b (hnames d hd) (hnames e he)
    (count_bytes_nulfree a ha1 (Nat.lt_of_le_of_lt ha2 hsmall)) (count_bytes_nulfree b hb1 (Nat.lt_of_le_of_lt hb2 hsmall)) henc

/-- **No reuse within a run (separator off)** holds under the extra hypothesis the property states for the weaker
guarantee: the scope paths that draw have pairwise different byte concatenations. -/
theorem no_reuse_within_run_without_separator (cfg : Cfg) (hsep : cfg.sep = false) (seeds : List (String × SymKey))
    (p : Prog) (hjf : p.jitFree) (ks : List SymKey) (h : runTop cfg seeds p = .ok ks)
    (hconcat : ∀ d ∈ p.draws [], ∀ e ∈ p.draws [], concatB (d.1.map strBytes) = concatB (e.1.map strBytes) → d.1 = e.1)
    (hsmall : (p.draws []).length < 256)
    (hseeds : (seeds.map (·.2)).Nodup)
    (i j : Nat) (hij : i < j) (hj : j < ks.length) : ks[i]? ≠ ks[j]? := by
  obtain ⟨hlen, hk⟩ := linen_key_is_function_of_position cfg seeds p hjf ks h
  refine keys_distinct_of_positions cfg seeds hseeds (p.draws []) ks hk ?_ i j hij (hlen ▸ hj)
  intro d hd e he a b ha1 ha2 hb1 hb2 henc
  -- without the separator the preimage is the concatenation of the names followed by the single byte of the count
  rw [hsep, encodeSuffix_false, encodeSuffix_false, map_datumBytes_suffixOf, map_datumBytes_suffixOf,
    concatB_append, concatB_append, natBytes_small a ha1 (Nat.lt_of_le_of_lt ha2 hsmall),
    natBytes_small b hb1 (Nat.lt_of_le_of_lt hb2 hsmall)] at henc
  obtain ⟨hcc, hbyte⟩ := List.append_singleton_inj.mp (henc : _ ++ [UInt8.ofNat a] = _ ++ [UInt8.ofNat b])
  refine ⟨hconcat d hd e he hcc, ?_⟩
  have := congrArg UInt8.toNat hbyte
  rw [UInt8.toNat_ofNat', UInt8.toNat_ofNat', Nat.mod_eq_of_lt (Nat.lt_of_le_of_lt ha2 hsmall),
    Nat.mod_eq_of_lt (Nat.lt_of_le_of_lt hb2 hsmall)] at this
  exact this

/-- **Stream keys.**  `n` successive calls of a stream with key `k` and count `c` return
`fold_in(k, c), fold_in(k, c+1), …` and leave the count at `c + n`. -/
theorem nnx_stream_keys (tag : String) (k : SymKey) (c n : Nat) :
    Stream.callN { tag := tag, key := .scalar k, count := .scalar c } n =
      .ok ((List.range n).map (fun i => SymKey.foldIn k (c + i)),
           { tag := tag, key := .scalar k, count := .scalar (c + n) }) :=
  Stream.callN_scalar tag k n c

/-- distinct call counts or distinct stream keys give distinct keys -/
theorem nnx_distinct (k₁ k₂ : SymKey) (j₁ j₂ : Nat) (h : k₁ ≠ k₂ ∨ j₁ ≠ j₂) :
    SymKey.foldIn k₁ j₁ ≠ SymKey.foldIn k₂ j₂ := by
  intro he
  simp only [SymKey.foldIn.injEq] at he
  rcases h with h | h
  · exact h he.1
  · exact h he.2

/-- **Position function for `Rngs`.**  For every interleaving of calls on `Rngs(**seeds)`: the `i`-th call returns
`fold_in(key of the stream that answers, number of earlier calls answered by that stream)`; the call sequence
fails exactly when a name has neither its own stream nor the fallback stream (`'default'`).  Streams are
independent: calls answered by other streams, and streams that are added or removed without changing which stream
answers, change nothing. -/
theorem nnx_key_is_function_of_position (fb : String) (seeds : List (String × SymKey)) (names : List String) :
    (∀ e, Rngs.calls fb (Rngs.mk' seeds) names = .error e →
        e = .noStream ∧ ∃ x ∈ names, resolveOf fb seeds x = none) ∧
    (∀ ks r', Rngs.calls fb (Rngs.mk' seeds) names = .ok (ks, r') →
        ks.length = names.length ∧
        ∀ (i : Nat) (hi : i < names.length), ∃ n' k, resolveOf fb seeds (names[i]) = some (n', k) ∧
          ks[i]? = some (.foldIn k (countStream fb seeds n' (names.take i)))) := by
  obtain ⟨h1, h2⟩ := calls_closed fb seeds names (Rngs.mk' seeds) (fun _ => 0) (nrep_init seeds)
  refine ⟨h1, ?_⟩
  intro ks r' h
  obtain ⟨hlen, _, hk⟩ := h2 ks r' h
  refine ⟨hlen, ?_⟩
  intro i hi
  obtain ⟨n', k, hr, hki⟩ := hk i hi
  exact ⟨n', k, hr, by simpa using hki⟩

/-- **Fallback.**  A name without a stream of its own is answered by the fallback stream: same key, same counter. -/
theorem fallback_default (fb : String) (r : Rngs) (name : String)
    (hmissing : find? name r.streams = none) (hfb : (find? fb r.streams).isSome) :
    r.call fb name = r.call fb fb := by
  unfold Rngs.call Rngs.resolve
  simp [hmissing, hfb]

/-- without the fallback stream the call is rejected -/
theorem fallback_default_missing (fb : String) (r : Rngs) (name : String)
    (hmissing : find? name r.streams = none) (hfb : find? fb r.streams = none) :
    r.call fb name = .error .noStream := by
  unfold Rngs.call Rngs.resolve
  simp [hmissing, hfb]
  rfl

/-- **Split, then restore, resumes the stream.**  `split_rngs` on a stream `(k, c)` consumes exactly one key
(`fold_in(k, c)`), hands its `split` to the lanes with zeroed counters, and backs up `(k, c + 1)`: restoring yields
the original stream one draw later. -/
theorem split_restore_resumes (tag : String) (k : SymKey) (c : Nat) (shape : List Nat) :
    ∃ b s', Stream.splitOne { tag := tag, key := .scalar k, count := .scalar c } shape false = .ok (b, s') ∧
      s'.key = .batched (.foldIn k c) shape ∧ s'.count = .batched shape 0 ∧
      b.stream = tag ∧ b.key = .scalar k ∧ b.count = .scalar (c + 1) ∧
      restoreLoop [(tag, s')] [b] = [(tag, { tag := tag, key := .scalar k, count := .scalar (c + 1) })] := by
  refine ⟨_, _, rfl, rfl, rfl, rfl, rfl, rfl, ?_⟩
  simp [restoreLoop, find?_cons, Flax.Rng.set]

/-- what a lane sees after `split_rngs`: a scalar stream keyed by its own split key, counting from 0 -/
theorem lane_stream_keys (tag : String) (k : SymKey) (c : Nat) (shape idx : List Nat) (n : Nat) :
    Stream.callN (({ tag := tag, key := .batched (.foldIn k c) shape, count := .batched shape 0 } : Stream).lane idx) n =
      .ok ((List.range n).map (fun t => laneKey k c shape idx t),
           { tag := tag, key := .scalar (.split (.foldIn k c) shape idx), count := .scalar (0 + n) }) := by
  simp only [Stream.lane, laneKey]
  have := Stream.callN_scalar tag (.split (.foldIn k c) shape idx) n 0
  simpa using this

/-- **No replay.**  No key drawn inside the transform equals a past or future key of the original stream. -/
theorem split_keys_fresh (k : SymKey) (c : Nat) (shape idx : List Nat) (t j : Nat) :
    laneKey k c shape idx t ≠ .foldIn k j :=
  laneKey_ne_foldIn k c shape idx t j

/-- different lanes or different call counts give different keys -/
theorem split_lanes_distinct (k : SymKey) (c : Nat) (shape idx₁ idx₂ : List Nat) (t₁ t₂ : Nat)
    (h : idx₁ ≠ idx₂ ∨ t₁ ≠ t₂) : laneKey k c shape idx₁ t₁ ≠ laneKey k c shape idx₂ t₂ := by
  intro he
  simp only [laneKey, SymKey.foldIn.injEq, SymKey.split.injEq, true_and] at he
  rcases h with h | h
  · exact h he.1
  · exact h he.2

/-- the resumed stream (counts `c + 1 + t`) repeats neither a key from before the split (counts `< c`) nor the key the split
consumed (count `c`) -/
theorem resumed_keys_fresh (k : SymKey) (c t j : Nat) (hj : j ≤ c) : SymKey.foldIn k (c + 1 + t) ≠ .foldIn k j := by
  intro he
  simp only [SymKey.foldIn.injEq, true_and] at he
  omega

/-- two successive splits of the same stream hand different keys to their lanes (the first split consumed a count) -/
theorem successive_splits_distinct (k : SymKey) (c : Nat) (shape₁ shape₂ idx₁ idx₂ : List Nat) (t₁ t₂ : Nat) :
    laneKey k c shape₁ idx₁ t₁ ≠ laneKey k (c + 1) shape₂ idx₂ t₂ := by
  intro he
  simp only [laneKey, SymKey.foldIn.injEq, SymKey.split.injEq] at he
  omega

/-- **Split then restore on a whole `Rngs`** — the loops of `split_rngs` (over the streams selected by `only=`) and of
`restore_rngs` (over the backups), for every set of streams with distinct names, every counter state, every filter and
shape: afterwards every stream is scalar again with its own key; the selected streams are exactly one draw further, the
others untouched. -/
theorem split_restore_resumes_rngs (seeds : List (String × SymKey)) (hnd : (seeds.map (·.1)).Nodup) (c : String → Nat)
    (only : Option (List String)) (shape : List Nat) (bk : List (List Backup)) :
    ∃ r1, Rngs.split { streams := streamsOf seeds c, backups := bk } only shape false = .ok (bk.length, r1) ∧
      ∃ r2, r1.restore bk.length = .ok r2 ∧
        NRep seeds r2 (fun n => c n + if selectedBy only n then 1 else 0) := by
  refine ⟨_, split_streamsOf seeds c only shape bk, _, restore_ok _ _ (backupsOf only seeds c) (by simp), fun n => ?_⟩
  simp only [find?_restore_backupsOf only c n seeds hnd, find?_splitStreams]
  cases selectedBy only n <;> cases find? n seeds <;> simp

/-- **`only=` filter: unselected streams are completely untouched by `split_rngs` and by `restore_rngs`.**  For every set of streams
with distinct names, every counter state, filter and shape: the split leaves each unselected stream exactly as it was; and for
*any* state `streams'` the streams are in when the split is restored (unselected streams may have been drawn from inside the
window), the restore leaves each unselected stream exactly as it is then (no draw is rewound and replayed), while each
selected stream gets its original key back with count `c + 1`. -/
theorem split_restore_unselected_untouched (seeds : List (String × SymKey)) (hnd : (seeds.map (·.1)).Nodup) (c : String → Nat)
    (only : Option (List String)) (shape : List Nat) (bk : List (List Backup)) :
    ∃ r1, Rngs.split { streams := streamsOf seeds c, backups := bk } only shape false = .ok (bk.length, r1) ∧
      (∀ n, selectedBy only n = false → find? n r1.streams = find? n (streamsOf seeds c)) ∧
      ∀ (streams' : List (String × Stream)) (bk' : List (List Backup)),
        ∃ r2, Rngs.restore { streams := streams', backups := r1.backups ++ bk' } bk.length = .ok r2 ∧
          (∀ n, selectedBy only n = false → find? n r2.streams = find? n streams') ∧
          (∀ n k s, selectedBy only n = true → find? n seeds = some k → find? n streams' = some s →
            find? n r2.streams = some { s with key := .scalar k, count := .scalar (c n + 1) }) := by
  refine ⟨_, split_streamsOf seeds c only shape bk, ?_,
    fun streams' bk' => ⟨_, restore_ok _ _ (backupsOf only seeds c) (by simp), ?_, ?_⟩⟩
  · intro n hs
    simp only [find?_splitStreams, find?_streamsOf, hs, Bool.false_eq_true, if_false]
  · intro n hs
    simp only [find?_restore_backupsOf only c n seeds hnd, hs, Bool.false_eq_true, if_false]
  · intro n k s hs hk hf
    simp only [find?_restore_backupsOf only c n seeds hnd, hs, if_true, hk, hf, Option.map_some]

/-- **Counter-example for a `split_rngs` that also backs up the streams it does not split** (not the shipped code): `Rngs(0, params=1)`,
split only `params`, draw from `default` inside the window, restore, draw from `default` again.  Shipped code: counts 0 then 1.
Backup-everything variant: the restore rewinds `default` to count 0 and the same key is handed out twice. -/
theorem split_backing_up_unselected_replays :
    let r0 := Rngs.mk' [("default", SymKey.seed 0), ("params", SymKey.seed 1)]
    let dflt (c : Nat) : Stream := { tag := "default", key := .scalar (.seed 0), count := .scalar c }
    (nrun "default" r0 [.split (some ["params"]) [2] false, .call "default", .restore 0, .call "default"]).map
        (fun o => match o with | .key k => some k | _ => none)
      = [none, some (.foldIn (.seed 0) 0), none, some (.foldIn (.seed 0) 1)] ∧
    (∃ bs st1, splitLoopBackupAll (some ["params"]) [2] false r0.streams = .ok (bs, st1) ∧
      find? "default" st1 = some (dflt 0) ∧
      -- the draw inside the window advanced `default` to count 1; restoring the variant's backups rewinds it to 0
      find? "default" (restoreLoop (set "default" (dflt 1) st1) bs) = some (dflt 0)) ∧
    (dflt 0).call.map (·.1) = .ok (.foldIn (.seed 0) 0) := by
  refine ⟨rfl, ⟨_, _, rfl, rfl, rfl⟩, rfl⟩

/-- **No replay along any history of a stream.**  Take any sequence of `stream()` calls, `split_rngs`, vmapped bodies in
which every lane draws, and `restore_rngs` — any number of rounds, any shapes, starting at any count — that the code accepts
(a split stream cannot be called or split outside `vmap`; `restore` needs an open split): all keys handed out, at top level
and in all lanes of all rounds, are pairwise different. -/
theorem nnx_no_replay_along_history (tag : String) (k : SymKey) (c : Nat) (ops : List SOp) (outs : List SymKey)
    (h : srun (stateOf tag k (.top c)) ops = .ok outs) : outs.Nodup :=
  (srun_nodup tag k ops (.top c) outs h).1

/-- **Reseed restarts.**  After `reseed(rngs, tag=k')` the stream has key `k'` and count 0, whatever it was before. -/
theorem reseed_restarts (name tag : String) (k k' : SymKey) (c : Nat) (newKeys : List (String × SymKey))
    (h : find? tag newKeys = some k') :
    reseedLoop newKeys [(name, { tag := tag, key := .scalar k, count := .scalar c })] =
      .ok [(name, { tag := tag, key := .scalar k', count := .scalar 0 })] := by
  simp [reseedLoop, h]
  rfl

/-- a stream reseeded to `k'` hands out the keys of a fresh `Rngs(tag=k')` -/
theorem reseed_then_calls (tag : String) (k' : SymKey) (n : Nat) :
    Stream.callN { tag := tag, key := .scalar k', count := .scalar 0 } n =
      .ok ((List.range n).map (fun i => SymKey.foldIn k' i), { tag := tag, key := .scalar k', count := .scalar n }) := by
  have := Stream.callN_scalar tag k' n 0
  simpa using this

/-- a stream that is not named keeps key and count -/
theorem reseed_other_untouched (name : String) (s : Stream) (newKeys : List (String × SymKey))
    (h : find? s.tag newKeys = none) : reseedLoop newKeys [(name, s)] = .ok [(name, s)] := by
  simp [reseedLoop, h]
  rfl

/-- a split stream cannot be reseeded -/
theorem reseed_split_rejected (name tag : String) (k k' : SymKey) (shape : List Nat) (cv : CountVal)
    (newKeys : List (String × SymKey)) (h : find? tag newKeys = some k') :
    reseedLoop newKeys [(name, { tag := tag, key := .batched k shape, count := cv })] = .error .nonScalarReseed :=
  reseedLoop_cons_of_split newKeys name _ [] ⟨by rw [h]; rfl, k, shape, rfl⟩

/-- **Reseed resets every stream carrying a requested name, regardless of multiplicity.**  A node may hold any number of distinct
`RngStream` objects with the same name (sub-modules built with their own `Rngs`); `iter_graph` lists each object once.  If no
requested stream is split, `reseed` succeeds and *every* object whose name is in the map gets the requested key and count 0, and
every other object is untouched (`reseedOne`). -/
theorem reseed_resets_every_named_stream {ι : Type} (newKeys : List (String × SymKey)) (objs : List (ι × Stream))
    (h : ∀ p ∈ objs, ¬ NamedSplit newKeys p.2) :
    reseedLoop newKeys objs = .ok (objs.map (fun p => (p.1, reseedOne newKeys p.2))) ∧
    (∀ p ∈ objs, ∀ k, find? p.2.tag newKeys = some k →
      reseedOne newKeys p.2 = { p.2 with key := .scalar k, count := .scalar 0 }) ∧
    (∀ p ∈ objs, find? p.2.tag newKeys = none → reseedOne newKeys p.2 = p.2) := by
  refine ⟨reseedLoop_ok newKeys objs h, ?_, ?_⟩
  · intro p _ k hk; simp [reseedOne, hk]
  · intro p _ hk; simp [reseedOne, hk]

/-- `reseed` is rejected as soon as one requested stream (any of the objects with that name) is split -/
theorem reseed_rejects_named_split_stream {ι : Type} (newKeys : List (String × SymKey)) (objs : List (ι × Stream))
    (h : ∃ p ∈ objs, NamedSplit newKeys p.2) : reseedLoop newKeys objs = .error .nonScalarReseed :=
  reseedLoop_error newKeys objs h

/-- after a reseed, every object with a requested name — reached through any attribute — draws `fold_in(new key, 0), …` -/
theorem reseed_then_calls_every_object {ι : Type} (newKeys : List (String × SymKey)) (objs : List (ι × Stream))
    (p : ι × Stream) (hp : p ∈ objs) (k : SymKey)
    (hk : find? p.2.tag newKeys = some k) (n : Nat) :
    (p.1, reseedOne newKeys p.2) ∈ (objs.map (fun q => (q.1, reseedOne newKeys q.2))) ∧
    Stream.callN (reseedOne newKeys p.2) n =
      .ok ((List.range n).map (fun i => SymKey.foldIn k i), { tag := p.2.tag, key := .scalar k, count := .scalar n }) := by
  refine ⟨List.mem_map_of_mem hp, ?_⟩
  have : reseedOne newKeys p.2 = { tag := p.2.tag, key := .scalar k, count := .scalar 0 } := by simp [reseedOne, hk]
  rw [this]
  exact reseed_then_calls p.2.tag k n

/-- **Counter-example for a `reseed` that consumes each name once** (not the shipped code): two objects named `dropout`; only the
first in traversal order is reset, the second keeps its old key and count. -/
theorem reseed_once_per_name_misses_second_stream :
    let objs : List (Nat × Stream) :=
      [(0, { tag := "dropout", key := .scalar (.seed 1), count := .scalar 2 }),
       (1, { tag := "dropout", key := .scalar (.seed 2), count := .scalar 3 })]
    reseedLoop [("dropout", SymKey.seed 9)] objs =
      .ok [(0, { tag := "dropout", key := .scalar (.seed 9), count := .scalar 0 }),
           (1, { tag := "dropout", key := .scalar (.seed 9), count := .scalar 0 })] ∧
    reseedPopLoop [("dropout", SymKey.seed 9)] objs =
      .ok [(0, { tag := "dropout", key := .scalar (.seed 9), count := .scalar 0 }),
           (1, { tag := "dropout", key := .scalar (.seed 2), count := .scalar 3 })] := by
  exact ⟨rfl, rfl⟩

/-- `nnx.fork` is pure and splits the stream key itself (no draw): its lanes' keys differ from every key of
the stream it was forked from -/
theorem fork_keys_fresh (k : SymKey) (shape idx : List Nat) (t j : Nat) :
    SymKey.foldIn (.split k shape idx) t ≠ .foldIn k j := by
  intro he
  simp only [SymKey.foldIn.injEq] at he
  have := congrArg SymKey.size he.1
  simp [SymKey.size] at this

/-- `Scope.rewound()` keeps the counters (the next draw continues), `rewound(rewind_rngs=True)` restarts them (the next
draw *replays* the first key — the documented meaning of the flag), and a child that is pushed again under the same
name continues its counters. -/
theorem rewound_and_reentry_witness :
    lrun { sep := true, fallback := "params" } (linit [("params", .seed 0)])
      [.push 0 "A", .rng 1 "params", .rng 1 "params",   -- scope 1 = root/A: counts 1, 2
       .rewound 1 false, .rng 2 "params",                 -- rewound(): count 3
       .rewound 1 true, .rng 3 "params",                  -- rewound(rewind_rngs=True): count 1 again
       .push 0 "A", .rng 4 "params"]                      -- re-entered child: count 4
    = [.scope 1, .key (keyAt true (.seed 0) ["A"] 1), .key (keyAt true (.seed 0) ["A"] 2),
       .scope 2, .key (keyAt true (.seed 0) ["A"] 3),
       .scope 3, .key (keyAt true (.seed 0) ["A"] 1),
       .scope 4, .key (keyAt true (.seed 0) ["A"] 4)] := by rfl

/-- `nn.jit`: the jit-ted method first draws one key from *every* stream of its scope (`fork_rngs`), uses them as new
bases with an empty suffix, and shares the counters with the enclosing scope. -/
theorem jit_fork_witness :
    runTop { sep := false, fallback := "params" } [("params", .seed 0), ("dropout", .seed 1)]
      (.sub "A" (.jit (.draw "dropout" (.draw "dropout" .done)) (.draw "dropout" .done)) .done)
    = .ok [keyAt false (keyAt false (.seed 1) ["A"] 1) [] 2,
           keyAt false (keyAt false (.seed 1) ["A"] 1) [] 3,
           keyAt false (.seed 1) ["A"] 4] := by decide +kernel

/-- **Counters are path-addressed, `nn.jit` included.**  For *every* module program — child calls, re-entered children,
jit-ted methods nested in any way — and every seed set with distinct stream names: the machine with by-reference counter
dictionaries (`push` looks the child's dictionary up in its parent's, `fork_rngs` draws once from every stream and the
jit-ted scope shares the counters) returns exactly the keys of the reference semantics `specProg` (one pre-incremented
counter per (scope path, stream after fallback); on `jit` every base `b` becomes `keyAt sep b rel (count + 1)`).  So a key
depends on the seeds, the stream, and the logical position only. -/
theorem linen_counters_are_path_addressed (cfg : Cfg) (seeds : List (String × SymKey)) (hnd : (seeds.map (·.1)).Nodup)
    (p : Prog) : runTop cfg seeds p = (specProg cfg p seeds [] [] (fun _ _ => 0)).map (·.1) :=
  runTop_specProg cfg seeds p (Or.inr hnd)

/-- **No reuse within a run, `nn.jit` included.**  For every module program — child calls, re-entered children, jit-ted
methods nested in any way — with the separator on, NUL-free scope names, fewer than 256 draws-plus-jit-ted-calls
(`p.size`, which bounds every counter), and user seeds that are distinct key atoms under distinct stream names: all keys
handed out in the run are pairwise different.
Fork-specific hypothesis: the seeds are atoms (`SymKey.seed i`), i.e. no user seed is itself a `fold_in` of another. -/
theorem no_reuse_within_run_jit (cfg : Cfg) (hsep : cfg.sep = true) (seeds : List (String × SymKey))
    (hatoms : ∀ s k, find? s seeds = some k → ∃ i, k = .seed i)
    (hstreams : (seeds.map (·.1)).Nodup) (hseeds : (seeds.map (·.2)).Nodup)
    (p : Prog) (hnames : ∀ n ∈ p.names, NulFree (strBytes n)) (hsize : p.size < 256)
    (ks : List SymKey) (h : runTop cfg seeds p = .ok ks) : ks.Nodup := by
  obtain ⟨c', hs⟩ := runTop_ok cfg seeds p (Or.inr hstreams) ks h
  exact specProg_nodup cfg hsep seeds hatoms hstreams hseeds p hnames hsize ks c' hs

/-- **Position function, `nn.jit` included.**  For every module program (nested jit-ted methods allowed; a jit-ted body is assumed to
make the same draws whenever it runs, i.e. its draw count does not depend on input shapes) under the hypotheses of
`no_reuse_within_run_jit`: list *all* counter requests of the run in execution order, `reqsN` — each user draw (handed out) and, for
each jit-ted call, one request per stream (`fork_rngs`, not handed out) — as (scope path, stream after fallback).  Then the keys
handed out correspond one-to-one, in order, to the handed-out requests; the `i`-th key `x` satisfies `Tk seeds x (π, s, j)`:
`x = fold_in_static(b, names since b was installed ++ [j])` where the base `b` descends from the seed of `s` through the enclosing
jit-ted calls (`Base`), the scope path is `π`, and **`j` is one plus the number of earlier requests at the same (π, s)**;
`Tk.functional` says the key in turn determines (π, s, j). -/
theorem linen_key_count_is_rank_with_jit (cfg : Cfg) (hsep : cfg.sep = true) (seeds : List (String × SymKey))
    (hatoms : ∀ s k, find? s seeds = some k → ∃ i, k = .seed i) (hstreams : (seeds.map (·.1)).Nodup)
    (p : Prog) (hnames : ∀ n ∈ p.names, NulFree (strBytes n)) (hsize : p.size < 256)
    (ks : List SymKey) (h : runTop cfg seeds p = .ok ks) :
    ∃ kts : List (SymKey × Ticket), kts.map (·.1) = ks ∧ (∀ q ∈ kts, Tk seeds q.1 q.2) ∧
      kts.map (·.2) = assignH (fun _ _ => 0) (reqsN cfg (seeds.map (·.1)) p []) ∧
      ∀ t ∈ kts.map (·.2), ∃ pre post, reqsN cfg (seeds.map (·.1)) p [] = pre ++ (t.1, t.2.1, true) :: post ∧
        t.2.2 = cntR t.1 t.2.1 pre + 1 := by
  obtain ⟨c', hs⟩ := runTop_ok cfg seeds p (Or.inr hstreams) ks h
  obtain ⟨kts, h1, h2, h3⟩ := specProg_top_tickets cfg hsep seeds hatoms hstreams p hnames hsize ks c' hs
  refine ⟨kts, h1, h2, h3, ?_⟩
  intro t ht
  rw [h3] at ht
  obtain ⟨pre, post, hl, hj⟩ := (assignH_closed _ _ t).mp ht
  exact ⟨pre, post, hl, by simpa using hj⟩

/-- **The replay on a jit cache hit preserves aliasing.**  Counter dicts are heap objects; a child scope bound before the
call (`h.walk a p = some b`: the dict reached from the scope's dict `a` through the nested keys `p` *is* the object `b` the
child holds) still is the object in its parent's entry after `_restore_rng_counters` has written `old + delta` with the
in-place `set_from_dict`, and reading through the child's own reference gives the replayed count — exactly what running
the body would have left. -/
theorem replay_preserves_aliasing (h : CHeap) (hc : Canon h) (a : CRef) (ha : (find? a h.cells).isSome)
    (body : List (List String × String)) (p : List String) (b : CRef) (hbound : h.walk a p = some b) :
    (h.hitCall a (deltaOf body)).walk a p = some b ∧
    ∀ s, (h.hitCall a (deltaOf body)).read b s = (h.runBody a body).read b s := by
  obtain ⟨k1, r1⟩ := hitCall_spec h hc a ha body
  obtain ⟨_, r2⟩ := runBody_spec a body h hc ha
  exact ⟨walk_mono _ _ k1.links p a b hbound, fun s => by rw [r1, r2]⟩

/-- **A rerun equals the first run**, over any call history: the first call of a jit-ted function traces (its body runs),
every later call is a cache hit (in-place replay of the cached delta).  After any number of calls
every counter, read through any reference, is what actually running the body every time would have produced, and every
previously bound child scope is still aliased with its parent's entry. -/
theorem rerun_equals_first_run (h : CHeap) (hc : Canon h) (a : CRef) (ha : (find? a h.cells).isSome)
    (body : List (List String × String)) (n : Nat) :
    (∀ b t, (jitCalls a body n (h.runBody a body)).read b t = (runCalls a body (n + 1) h).read b t) ∧
    (∀ p b, h.walk a p = some b → (jitCalls a body n (h.runBody a body)).walk a p = some b) := by
  obtain ⟨k1, r1⟩ := runBody_spec a body h hc ha
  obtain ⟨k2, r2⟩ := jitCalls_spec a body n _ k1.canon k1.has
  obtain ⟨_, r3⟩ := runCalls_spec a body (n + 1) h hc ha
  refine ⟨?_, ?_⟩
  · intro b t
    rw [r2, r1, r3, Nat.add_mul]; omega
  · intro p b hw
    exact walk_mono _ _ (k1.trans k2).links p a b hw

/-- **The counter heap simulates the executable scope machine** (abstraction: both states are read as the table of counts
`(scope path, stream) ↦ n`; `Rep` for the `Store` the driver runs, `HeapRep` for the heap of dict objects).  Step commutation for
`Scope.push`: neither side changes the table, and the heap's new dict object sits at the address the `Store` scope refers to. -/
theorem heap_push_commutes (B : List (String × SymKey)) (rel π : Path) (n : String) (st : Store) (h : CHeap) (c : Counts)
    (hrep : Rep B st c) (hc : Canon h) (ha : (find? ((0 : Nat), π) h.cells).isSome) (hh : HeapRep h c) :
    Rep B (push (scopeG B rel π) n st).2 c ∧ (push (scopeG B rel π) n st).1 = scopeG B (rel ++ [n]) (π ++ [n]) ∧
    HeapRep (h.pushC ((0 : Nat), π) n).1 c ∧ (h.pushC ((0 : Nat), π) n).2 = ((0 : Nat), π ++ [n]) ∧
    Canon (h.pushC ((0 : Nat), π) n).1 := by
  obtain ⟨st', hp, hr, _, _⟩ := push_scopeG B rel π n st c hrep
  obtain ⟨e, c1, _, _, _, r1⟩ := pushC_spec h hc ((0 : Nat), π) ha n
  refine ⟨by rw [hp]; exact hr, by rw [hp], ?_, e, c1⟩
  intro π' s
  rw [r1]; exact hh π' s

/-- step commutation for `Scope.make_rng`: both sides bump the same entry of the table (and the `Store` side returns the key) -/
theorem heap_draw_commutes (cfg : Cfg) (B : List (String × SymKey)) (rel π : Path) (s : String) (st : Store) (h : CHeap)
    (c : Counts) (hrep : Rep B st c) (hhas : (find? ((0 : Nat), π) st.dicts).isSome)
    (hc : Canon h) (ha : (find? ((0 : Nat), π) h.cells).isSome) (hh : HeapRep h c)
    (s' : String) (k : SymKey) (he : effOf cfg B s = some (s', k)) :
    ∃ st', makeRng cfg (scopeG B rel π) s st = .ok (keyAt cfg.sep k rel (c π s' + 1), st') ∧ Rep B st' (bump c π s') ∧
      HeapRep (h.applyAt ((0 : Nat), π) [] s' (· + 1)) (bump c π s') := by
  obtain ⟨st', h1, h2, _⟩ := makeRng_scopeG cfg B rel π s st c hrep hhas s' k he
  refine ⟨st', h1, h2, ?_⟩
  obtain ⟨_, r⟩ := applyAt_spec h hc ((0 : Nat), π) ha [] s' (· + 1)
  intro π' t
  rw [r, hh π' t]
  simp only [List.append_nil, bump, Prod.mk.injEq, true_and]

/-- **A jit-ted call on the executable model vs. a cache hit on the heap.**  Run any `jit`-free body at scope `π` on the `Store` machine
(the traced call).  On a heap representing the same table, running that body, *or replaying its cached delta in place* (the cache-hit
branch of `_restore_rng_counters`), ends in a heap representing the table the `Store` run ends in; and every scope bound before is
still aliased.  This is what makes `replay_preserves_aliasing` and `rerun_equals_first_run` statements about the counts — hence the
keys — of the model the driver executes. -/
theorem jit_call_simulated_by_heap_replay (cfg : Cfg) (B : List (String × SymKey)) (hnd : (B.map (·.1)).Nodup)
    (rel π : Path) (st : Store) (c : Counts) (hrep : Rep B st c) (hhas : (find? ((0 : Nat), π) st.dicts).isSome)
    (h : CHeap) (hc : Canon h) (ha : (find? ((0 : Nat), π) h.cells).isSome) (hh : HeapRep h c)
    (p : Prog) (hjf : p.jitFree) (ks : List SymKey) (st' : Store)
    (hrun : runProg cfg p (scopeG B rel π) st = .ok (ks, st')) :
    ∃ c', Rep B st' c' ∧
      HeapRep (h.runBody ((0 : Nat), π) (bodyOf cfg B p)) c' ∧
      HeapRep (h.hitCall ((0 : Nat), π) (deltaOf (bodyOf cfg B p))) c' ∧
      (∀ q b, h.walk ((0 : Nat), π) q = some b →
        (h.hitCall ((0 : Nat), π) (deltaOf (bodyOf cfg B p))).walk ((0 : Nat), π) q = some b) :=
  store_run_simulated_by_heap_replay cfg B rel π st c hrep hhas h hc ha hh p hjf ks st' hrun

/-- **Counter-example for the `dict.update` variant** (not the shipped code): child `k` is bound, the traced call draws once in
it (count 1); on the next call a replay by `rng_counters.update(updates)` puts a *new* dict object into the parent's entry:
the bound child still reads 1 instead of 2 (its next key repeats the previous one) and is no longer the object its parent
refers to.  The in-place replay gives 2 and keeps the object. -/
theorem replay_by_dict_update_breaks_aliasing :
    let a : CRef := (0, [])
    let body : List (List String × String) := [(["k"], "d")]
    let h1 := ((CHeap.init.pushC a "k").1).runBody a body
    h1.walk a ["k"] = some (0, ["k"]) ∧ h1.read (0, ["k"]) "d" = 1 ∧
    (h1.hitCall a (deltaOf body)).read (0, ["k"]) "d" = 2 ∧ (h1.hitCall a (deltaOf body)).walk a ["k"] = some (0, ["k"]) ∧
    (h1.hitCallUpdate a (deltaOf body)).read (0, ["k"]) "d" = 1 ∧
    (h1.hitCallUpdate a (deltaOf body)).walk a ["k"] = some (1, ["k"]) ∧
    (h1.hitCallUpdate a (deltaOf body)).readVia a ["k"] "d" = 2 := by decide +kernel

/-- **`pack` gives every kept scope its own counter dict.**  For every list of scopes lifted together (any duplicates, any
ancestor/descendant pairs, any order): each scope that survives `_dedup_scopes` is paired with *its own* `rng_counters`, so the inner
scope built for it is the same scope as far as keys go (same streams, same path, same counter dict) and runs any body as the
un-lifted scope would: one counter per scope, shared by reference inside and outside the lift. -/
theorem pack_gives_each_kept_scope_its_own_counters (scopes : List Scope) :
    (packCounters scopes).map (·.1) = dedupScopes scopes ∧
    (∀ q ∈ packCounters scopes, q.2 = q.1.cref ∧ innerScope q.1 q.2 = q.1) ∧
    (∀ q ∈ packCounters scopes, ∀ (cfg : Cfg) (p : Prog) (st : Store),
      runProg cfg p (innerScope q.1 q.2) st = runProg cfg p q.1 st) := by
  have h2 : ∀ q ∈ packCounters scopes, q.2 = q.1.cref ∧ innerScope q.1 q.2 = q.1 := by
    intro q hq
    simp only [packCounters, List.mem_map] at hq
    obtain ⟨s, _, rfl⟩ := hq
    exact ⟨rfl, rfl⟩
  refine ⟨by simp [packCounters, List.map_map, Function.comp_def], h2, ?_⟩
  intro q hq cfg p st
  rw [(h2 q hq).2]

/-- **Counter-example for collecting the counters before deduplication** (not the shipped code): a transformed module (path `[]`) owning
an attribute sub-module `inner`; the scopes arrive as `[inner, outer]`, `_dedup_scopes` keeps `[outer]`, and zipping it with the
counters of the *original* list hands `outer` the dict of `inner`.  After one draw outside the lift (count 1 in `outer`'s own dict) the
draw inside the lift starts again from the untouched dict of `inner`: the same (path, count), the same key. -/
theorem pack_counters_before_dedup_replays :
    let cfg : Cfg := { sep := true, fallback := "params" }
    let seeds : List (String × SymKey) := [("dropout", .seed 0)]
    let outer := (bindRoot seeds).1
    let r := push outer "inner" (bindRoot seeds).2
    let inner := r.1
    -- shipped: outer keeps its own dict; the variant hands it the child's
    packCounters [inner, outer] = [(outer, ((0 : Nat), []))] ∧
    packCountersBeforeDedup [inner, outer] = [(outer, ((0 : Nat), ["inner"]))] ∧
    -- one draw outside the lift, then one inside it
    (∃ k st1, makeRng cfg outer "dropout" r.2 = .ok (k, st1) ∧
      (makeRng cfg (innerScope outer ((0 : Nat), ["inner"])) "dropout" st1).map (·.1) = .ok k ∧
      (makeRng cfg (innerScope outer ((0 : Nat), [])) "dropout" st1).map (·.1) = .ok (keyAt true (.seed 0) [] 2)) := by
  refine ⟨by decide, by decide, ⟨_, _, rfl, rfl, rfl⟩⟩

/-- **What `nn.jit`'s static cache key must contain.**  The jit-ted body is traced with the counters it finds and the counts are baked
into the trace.  If two counter tables agree on the module's scope `π0` *and on every descendant scope* (`AgreeBelow`: this is
`scope.rng_counters`, which `_fingerprint_recursive` puts into the key), then any `jit`-free body hands out the same keys (or fails
the same way) from both, and the tables still agree afterwards. -/
theorem jit_cache_key_with_descendant_counters_is_sound (cfg : Cfg) (π0 : Path) (p : Prog) (hjf : p.jitFree)
    (B : List (String × SymKey)) (rel : Path) (c1 c2 : Counts) (h : AgreeBelow π0 c1 c2) :
    (∀ e, specProg cfg p B rel π0 c1 = .error e → specProg cfg p B rel π0 c2 = .error e) ∧
    (∀ ks d1, specProg cfg p B rel π0 c1 = .ok (ks, d1) →
      ∃ d2, specProg cfg p B rel π0 c2 = .ok (ks, d2) ∧ AgreeBelow π0 d1 d2) :=
  (specProg_agree cfg π0 p B rel π0 c1 c2 h (List.prefix_refl π0)).elim

/-- **Counter-example for a key that holds only the scope's own counters**: the two tables agree on the jit-ted scope `[]` itself but
the child `k` has drawn once in the second; the body (one draw in `k`) hands out different keys, so reusing the first trace for the
second entry returns the key of a different position. -/
theorem jit_cache_key_with_own_counters_only_is_unsound :
    let cfg : Cfg := { sep := true, fallback := "params" }
    let B : List (String × SymKey) := [("noise", .seed 1)]
    let body : Prog := .sub "k" (.draw "noise" .done) .done
    let c1 : Counts := fun _ _ => 0
    let c2 : Counts := bump c1 ["k"] "noise"
    (∀ s, c1 [] s = c2 [] s) ∧
    (specProg cfg body B [] [] c1).map (·.1) = .ok [keyAt true (.seed 1) ["k"] 1] ∧
    (specProg cfg body B [] [] c2).map (·.1) = .ok [keyAt true (.seed 1) ["k"] 2] := by
  refine ⟨by intro s; simp [bump], rfl, rfl⟩

/-- **`nn.jit` counters (repaired `lift.jit`, finding F11).**  With one delta cache per transformed function, every call
of every jit-ted function, in every process history (any interleaving of functions, fingerprints and counter values, traced
or served from jax's cache), leaves the counter exactly where running the body would: `c + d fn`. -/
theorem jit_delta_cache_sound (d : Nat → Nat) (calls : List (Nat × Nat × Nat)) :
    jitRun false d { traced := [], deltas := [] } calls = calls.map (fun x => x.2.2 + d x.1) :=
  jitRun_sound d calls _ (jitInv_empty d)

/-- **F11 as shipped** (one cache keyed by the fingerprint only): function 0 makes 1 draw, function 1 makes 3; after
function 0 ran once at fingerprint 7, function 1 at the same fingerprint leaves the counter at `c + 1` instead of
`c + 3`, so every later key of the scope differs from a fresh process. -/
theorem jit_delta_cache_shared_unsound :
    jitRun true (fun fn => if fn = 0 then 1 else 3) { traced := [], deltas := [] } [(0, 7, 1), (1, 7, 1)] = [2, 2] ∧
    jitRun true (fun fn => if fn = 0 then 1 else 3) { traced := [], deltas := [] } [(1, 7, 1)] = [4] := by decide +kernel

/-! The hypotheses of the theorems above have non-trivial instances. -/

section examples

private def cfg1 : Cfg := { sep := true, fallback := "params" }
private def cfg0 : Cfg := { sep := false, fallback := "params" }
private def seeds0 : List (String × SymKey) := [("params", .seed 0), ("dropout", .seed 1)]
/-- two levels, the adversarial names, a fallback draw (`x`), a re-used stream -/
private def p0 : Prog :=
  .sub "ab" (.sub "c" (.draw "dropout" .done) (.draw "x" .done))
    (.sub "a" (.sub "bc" (.draw "dropout" .done) .done) (.draw "params" (.draw "dropout" .done)))
/-- the same with an extra sibling, an extra stream and a different order -/
private def q0 : Prog :=
  .sub "zz" (.draw "noise" .done)
    (.sub "a" (.sub "bc" (.draw "dropout" .done) .done)
      (.sub "ab" (.sub "c" (.draw "dropout" .done) (.draw "x" .done)) (.draw "params" (.draw "dropout" .done))))
private def seeds1 : List (String × SymKey) := [("noise", .seed 7), ("dropout", .seed 1), ("params", .seed 0)]

example : p0.jitFree := by simp [p0, Prog.jitFree]
example : q0.jitFree := by simp [q0, Prog.jitFree]
example : ∃ ks, runTop cfg1 seeds0 p0 = .ok ks ∧ ks.length = 5 := exists_ok_of_decide (by decide +kernel)
example : ∃ ks, runTop cfg1 seeds1 q0 = .ok ks ∧ ks.length = 6 := exists_ok_of_decide (by decide +kernel)
/-- hypotheses of `no_reuse_within_run` -/
example : ∀ d ∈ p0.draws [], ∀ n ∈ d.1, NulFree (strBytes n) := by unfold NulFree; decide +kernel
example : (seeds0.map (·.2)).Nodup := by decide
example : (p0.draws []).length < 256 := by decide
/-- the conclusion of `no_reuse_within_run` on that instance, and its failure without the separator (the run
contains the paths `ab/c` and `a/bc`): draws 0 and 2 collide when the flag is off -/
example : ∃ ks, runTop cfg1 seeds0 p0 = .ok ks ∧ ks.Nodup := exists_ok_of_decide (by decide +kernel)
example : ∃ ks, runTop cfg0 seeds0 p0 = .ok ks ∧ ks[0]? = ks[2]? := exists_ok_of_decide (by decide +kernel)
/-- hypothesis of `no_reuse_within_run_without_separator` holds for a program without colliding concatenations -/
example : ∀ d ∈ (Prog.sub "ab" (.draw "x" .done) (.sub "c" (.draw "x" .done) (.draw "x" .done))).draws [],
    ∀ e ∈ (Prog.sub "ab" (.draw "x" .done) (.sub "c" (.draw "x" .done) (.draw "x" .done))).draws [],
      concatB (d.1.map strBytes) = concatB (e.1.map strBytes) → d.1 = e.1 := by decide +kernel
/-- `unrelated_edits_inert` instance: draw 0 of `p0` and draw 2 of `q0` (scope `ab/c`, stream `dropout`, rank 1) -/
example : ((p0.draws [])[0]!).1 = ["ab", "c"] ∧ ((q0.draws [])[2]!).1 = ["ab", "c"] ∧
    effOf cfg1 seeds0 ((p0.draws [])[0]!).2 = some ("dropout", .seed 1) ∧
    effOf cfg1 seeds1 ((q0.draws [])[2]!).2 = some ("dropout", .seed 1) ∧
    countPos cfg1 seeds0 ["ab", "c"] "dropout" ((p0.draws []).take 0) =
      countPos cfg1 seeds1 ["ab", "c"] "dropout" ((q0.draws []).take 2) := by decide +kernel
/-- `linen_missing_stream_rejected`: without `params` the fallback draw `x` is rejected -/
example : runTop cfg1 [("dropout", .seed 1)] p0 = .error .invalidRng := by decide +kernel
/-- `encode_injective_with_separator` hypotheses -/
example : (∀ n ∈ ["ab", "c"], NulFree (strBytes n)) ∧ NulFree (natBytes 200) := by unfold NulFree; decide +kernel
/-- NNX: `Rngs(0, params=1)`: `dropout` falls back to `default` and shares its counter -/
example : (Rngs.calls "default" (Rngs.mk' [("default", .seed 0), ("params", .seed 1)]) ["params", "dropout", "default", "params"]).map (·.1)
    = .ok [.foldIn (.seed 1) 0, .foldIn (.seed 0) 0, .foldIn (.seed 0) 1, .foldIn (.seed 1) 1] := by decide +kernel
/-- NNX: a whole split / vmapped draws / restore / call history on the model -/
example : nrun "default" (Rngs.mk' [("default", .seed 0), ("params", .seed 1)])
      [.call "params", .split (some ["params"]) [2] false, .lanes [2] ["params", "zz"], .restore 0, .call "params"]
    = [.key (.foldIn (.seed 1) 0), .backup 0,
       .lanes [[laneKey (.seed 1) 1 [2] [0] 0, .foldIn (.seed 0) 0], [laneKey (.seed 1) 1 [2] [1] 0, .foldIn (.seed 0) 0]],
       .unit, .key (.foldIn (.seed 1) 2)] := by rfl

/-- `linen_counters_are_path_addressed`: hypothesis, on a program with a nested jit-ted method -/
example : (seeds0.map (·.1)).Nodup := by decide +kernel
example : ∃ ks, runTop cfg1 seeds0 (.sub "A" (.jit (.draw "x" (.sub "k" (.jit (.draw "dropout" .done) .done) .done))
    (.draw "dropout" .done)) (.draw "params" .done)) = .ok ks ∧ ks.length = 4 ∧ ks.Nodup := exists_ok_of_decide (by decide +kernel)
/-- `no_reuse_within_run_jit`: hypotheses on a program with nested jit-ted methods and a re-entered child -/
example : (∀ s k, find? s seeds0 = some k → ∃ i, k = SymKey.seed i) := by
  intro s k h
  have hm : k ∈ [SymKey.seed 0, SymKey.seed 1] := find?_some_mem s k seeds0 h
  simp only [List.mem_cons, List.mem_nil_iff, or_false] at hm
  rcases hm with rfl | rfl
  · exact ⟨0, rfl⟩
  · exact ⟨1, rfl⟩
example : let p : Prog := .sub "A" (.jit (.draw "x" (.sub "k" (.jit (.draw "dropout" .done) .done) .done))
      (.sub "k" (.draw "dropout" .done) (.draw "dropout" .done))) (.draw "params" .done)
    (∀ n ∈ p.names, NulFree (strBytes n)) ∧ p.size < 256 := by unfold NulFree; decide +kernel
/-- `replay_preserves_aliasing` / `rerun_equals_first_run`: the initial heap with a bound child satisfies the hypotheses -/
example : Canon (CHeap.init.pushC (0, []) "k").1 ∧ (find? ((0, []) : CRef) (CHeap.init.pushC (0, []) "k").1.cells).isSome ∧
    (CHeap.init.pushC (0, []) "k").1.walk (0, []) ["k"] = some (0, ["k"]) :=
  ⟨(pushC_spec CHeap.init canon_init (0, []) (by decide) "k").2.1, by decide, by decide⟩
/-- `reseed_resets_every_named_stream`: hypothesis on a node with two `dropout` objects and one `params` object -/
example : ∀ p ∈ ([(0, { tag := "dropout", key := .scalar (.seed 1), count := .scalar 2 }),
      (1, { tag := "params", key := .scalar (.seed 0), count := .scalar 1 }),
      (2, { tag := "dropout", key := .scalar (.seed 2), count := .scalar 3 })] : List (Nat × Stream)),
    ¬ NamedSplit [("dropout", SymKey.seed 9)] p.2 := by
  intro p hp hns
  obtain ⟨_, k, shape, hk⟩ := hns
  simp only [List.mem_cons, List.mem_nil_iff, or_false] at hp
  rcases hp with rfl | rfl | rfl <;> simp at hk
/-- `split_restore_unselected_untouched`: the filter really leaves a stream out -/
example : selectedBy (some ["params"]) "default" = false ∧ selectedBy (some ["params"]) "params" = true ∧
    selectedBy none "default" = true := by decide +kernel
/-- `linen_key_count_is_rank_with_jit`: the request list of a program with a jit-ted call (two streams ⇒ two fork requests) -/
example : reqsN cfg1 ["params", "dropout"] (.sub "A" (.jit (.draw "x" .done) (.draw "dropout" .done)) .done) [] =
    [(["A"], "params", false), (["A"], "dropout", false), (["A"], "params", true), (["A"], "dropout", true)] := by decide +kernel
/-- `pack_gives_each_kept_scope_its_own_counters`: a non-trivial scope list (a duplicate, and a descendant before its ancestor) -/
example : let outer := (bindRoot seeds0).1
    let inner := (push outer "inner" (bindRoot seeds0).2).1
    (dedupScopes [inner, outer, inner, outer]).length = 1 ∧ (packCounters [inner, outer, inner, outer]).length = 1 := by decide +kernel
/-- `jit_cache_key_with_descendant_counters_is_sound`: two different tables that agree below `["m"]` -/
example : AgreeBelow ["m"] (fun _ _ => 0) (bump (fun _ _ => 0) ["other"] "noise") := by
  intro π' s hp
  simp only [bump]
  have : ¬ (π' = ["other"]) := by
    intro e; subst e
    simp at hp
  simp [this]
/-- `jit_call_simulated_by_heap_replay`: the initial states (`bind` root / the heap with one root dict) satisfy the hypotheses -/
example : Rep seeds0 (bindRoot seeds0).2 (fun _ _ => 0) ∧ HeapRep CHeap.init (fun _ _ => 0) ∧ Canon CHeap.init ∧
    (find? (((0 : Nat), []) : CRef) CHeap.init.cells).isSome ∧ (find? (((0 : Nat), []) : CRef) (bindRoot seeds0).2.dicts).isSome :=
  ⟨rep_init seeds0, heapRep_init, canon_init, by decide, by decide⟩
/-- `nnx_no_replay_along_history`: an accepted history with two split rounds (1-D and 2-D), 13 keys -/
example : ∃ outs, srun (stateOf "params" (.seed 0) (.top 0))
    [.call, .split [2], .lanes 2, .lanes 1, .restore, .call, .split [2, 2], .lanes 1, .restore, .call] = .ok outs ∧
    outs.length = 13 := exists_ok_of_decide (by decide +kernel)
/-- histories the code rejects: calling a split stream outside vmap, restoring twice -/
example : srun (stateOf "params" (.seed 0) (.top 0)) [.split [2], .call] = .error .batchedKey := rfl
example : srun (stateOf "params" (.seed 0) (.top 0)) [.split [2], .restore, .restore] = .error .badHandle := rfl
/-- `split_restore_resumes_rngs`: hypothesis -/
example : (([("default", .seed 0), ("params", .seed 1)] : List (String × SymKey)).map (·.1)).Nodup := by decide +kernel

end examples

end Flax.C09
