/-
C01 — Linen init/apply are pure functions with an explicit mutability contract.

Theorems over `Flax.Model.Scope` / `Flax.Model.ModuleTree`, for every module program (`SProg`), every
`mutable` filter, every input variable dict, every argument, every naming style, with or without
`capture_intermediates`, and every amount of evaluator fuel.
-/
import Flax.Proofs.ScopeLemmas
import Flax.Proofs.ObsSim
import Flax.Proofs.ListLemmas
import Flax.Proofs.Filter

namespace Flax.C01
open Flax.Filter (LFilter inFilter)
open Flax.Scope Flax.ModuleTree Flax.ScopeLemmas
open Flax.ObsSim (quiet)

/-! ## clause: the inputs stay identical -/

/-- **No write ever lands in a dict object of the caller**, whatever the program does and whether
the call returns or raises: the ghost flag that every write into a caller-owned collection would
set is still `false` when `apply` ends.  (`_unfreeze_variables` copies exactly the collections that
`put_variable` lets through.) -/
theorem apply_input_frame (cfg : Cfg) (fuel : Nat) (p : SProg) (m : LFilter) (V : Vars) (rngs : List String)
    (x : Int) : (ModuleTree.apply cfg fuel p m V rngs x).final.dirty = false := by
  have f := apply_frame cfg fuel p m V rngs x
  rw [f.dirty (owned_bind _ V rngs)]
  rfl

/-- What the caller finds at path `q` of the variables it passed in, after the call: a collection the
scope merely borrowed *is* the caller's object, so its content is whatever the scope's store holds
at the end; every other collection was copied, the caller still has its own. -/
def callerLookup (V : Vars) (o : Outcome) (q : Path) : Option Val :=
  match q with
  | c :: _ => if borrowed o.final c then lookupP q o.final.vars else lookupP q V.vars
  | [] => lookupP q V.vars

/-- **The variables passed in are unchanged after `apply`** (returning or raising): at every path
the caller reads what it read before. -/
theorem inputs_unchanged (cfg : Cfg) (fuel : Nat) (p : SProg) (m : LFilter) (V : Vars) (rngs : List String)
    (x : Int) (q : Path) :
    callerLookup V (ModuleTree.apply cfg fuel p m V rngs x) q = lookupP q V.vars := by
  have f := apply_frame cfg fuel p m V rngs x
  cases q with
  | nil => rfl
  | cons c rest =>
    simp only [callerLookup]
    split
    · rename_i hb
      rcases f.cols_new _ (borrowed_iff.mp hb) with h1 | h1
      · exact f.imm c rest (mem_bind_cols.mp h1).2.symm
      · cases h1.2
    · rfl

/-- **Init has nothing to protect and still never marks anything**: same statement for `init`. -/
theorem init_input_frame (cfg : Cfg) (fuel : Nat) (p : SProg) (m : LFilter) (rngs : List String) (x : Int) :
    (ModuleTree.init cfg fuel p m rngs x).final.dirty = false :=
  apply_input_frame cfg fuel p m Vars.empty rngs x

/-! ## clause: only the collections selected by `mutable` can change -/

/-- **Only mutable collections change**: in the scope's final store every collection not selected by
`mutable` holds, at every path, exactly what was passed in — for a returning and for a raising call. -/
theorem only_mutable_change (cfg : Cfg) (fuel : Nat) (p : SProg) (m : LFilter) (V : Vars) (rngs : List String)
    (x : Int) (c : String) (rest : Path) (h : inFilter (effMutable cfg m) c = false) :
    lookupP (c :: rest) (ModuleTree.apply cfg fuel p m V rngs x).final.vars = lookupP (c :: rest) V.vars :=
  (apply_frame cfg fuel p m V rngs x).imm c rest h

/-- the bound filter never changes during a call (child scopes share the root's `mutable`) -/
theorem mutable_constant (cfg : Cfg) (fuel : Nat) (p : SProg) (m : LFilter) (V : Vars) (rngs : List String)
    (x : Int) : (ModuleTree.apply cfg fuel p m V rngs x).final.mutable = effMutable cfg m :=
  (apply_frame cfg fuel p m V rngs x).mutable_eq

/-- **No collection outside `mutable` is ever created** by a call. -/
theorem no_immutable_collection_created (cfg : Cfg) (fuel : Nat) (p : SProg) (m : LFilter) (V : Vars)
    (rngs : List String) (x : Int) (c : String × Bool)
    (hc : c ∈ (ModuleTree.apply cfg fuel p m V rngs x).final.cols)
    (h : inFilter (effMutable cfg m) c.1 = false) : c.1 ∈ V.cols := by
  rcases (apply_frame cfg fuel p m V rngs x).cols_new c hc with h1 | h1
  · exact (mem_bind_cols.mp h1).1
  · rw [show inFilter (effMutable cfg m) c.1 = true from h1.1] at h
    cases h

/-! ## clause: the new values are returned — every existing collection matching `mutable`, no other -/

/-- **Returned keys are exact.** When `apply` returns `(y, R)`:
1. every collection that was passed in and matches `mutable` is a key of `R`;
2. every key of `R` matches `mutable` (no other collection is returned);
3. every leaf of `R` sits in a collection matching `mutable`;
4. for a collection matching `mutable`, `R` holds at every path exactly the scope's final value
   (the new values are *returned*, the inputs being untouched by `inputs_unchanged`). -/
theorem returned_keys_exact (cfg : Cfg) (fuel : Nat) (p : SProg) (m : LFilter) (V : Vars) (rngs : List String)
    (x : Int) (y : Int) (R : Vars)
    (h : (ModuleTree.apply cfg fuel p m V rngs x).result = .ok (y, R)) :
    (∀ c ∈ V.cols, inFilter (effMutable cfg m) c = true → c ∈ R.cols) ∧
    (∀ c ∈ R.cols, inFilter (effMutable cfg m) c = true) ∧
    (∀ kv ∈ R.vars, ∃ c rest, kv.1 = c :: rest ∧ inFilter (effMutable cfg m) c = true) ∧
    (∀ c rest, inFilter (effMutable cfg m) c = true →
      lookupP (c :: rest) R.vars = lookupP (c :: rest) (ModuleTree.apply cfg fuel p m V rngs x).final.vars) := by
  have f := apply_frame cfg fuel p m V rngs x
  have hm := f.mutable_eq
  simp only [Scope.bind] at hm
  have hR : R = mutableVariables (ModuleTree.apply cfg fuel p m V rngs x).final := by
    obtain ⟨hbs, s2, hrun, rfl⟩ := apply_ok_iff.mp h
    rw [apply_final, hbs, hrun]; rfl
  subst hR
  refine ⟨?_, ?_, ?_, ?_⟩
  · intro c hc hmc
    have := f.cols_old (c, inFilter (effMutable cfg m) c) (mem_bind_cols.mpr ⟨hc, rfl⟩)
    simp only [mutableVariables, List.mem_map, List.mem_filter]
    exact ⟨(c, inFilter (effMutable cfg m) c), ⟨this, by rw [hm]; exact hmc⟩, rfl⟩
  · intro c hc
    simp only [mutableVariables, List.mem_map, List.mem_filter] at hc
    obtain ⟨e, ⟨_, he⟩, rfl⟩ := hc
    rw [← hm]; exact he
  · intro kv hkv
    rw [mutableVariables_vars, List.mem_filter] at hkv
    obtain ⟨_, hh⟩ := hkv
    unfold headMutable at hh
    split at hh
    · rename_i c rest heq
      exact ⟨c, rest, heq, by rw [← hm]; exact hh⟩
    · exact absurd hh (by simp)
  · intro c rest hmc
    rw [lookupP_mutableVariables, if_pos (by rw [← hmc, ← hm]; rfl)]

/-- with `mutable=False` and no `capture_intermediates` nothing is returned (`Module.apply` then returns the bare
output) -/
theorem immutable_apply_returns_nothing (cfg : Cfg) (hcap : cfg.capture = false) (fuel : Nat) (p : SProg)
    (V : Vars) (rngs : List String) (x : Int) (y : Int) (R : Vars)
    (h : (ModuleTree.apply cfg fuel p .ff V rngs x).result = .ok (y, R)) : R.cols = [] ∧ R.vars = [] := by
  have hk := returned_keys_exact cfg fuel p .ff V rngs x y R h
  have hff : ∀ c, inFilter (effMutable cfg .ff) c = false := by
    intro c; rw [effMutable_quiet hcap]; rfl
  constructor
  · cases hc : R.cols with
    | nil => rfl
    | cons c rest =>
      have := hk.2.1 c (by rw [hc]; exact List.mem_cons_self)
      rw [hff] at this; exact absurd this (by simp)
  · cases hv : R.vars with
    | nil => rfl
    | cons kv rest =>
      obtain ⟨c, _, _, hc⟩ := hk.2.2.1 kv (by rw [hv]; exact List.mem_cons_self)
      rw [hff] at hc; exact absurd hc (by simp)

/-! ## clause: a write to any other collection raises instead of taking effect -/

/-- `put_variable` on a collection outside `mutable` raises `ModifyScopeVariableError` and leaves
the store as it was. -/
theorem immutable_put_raises (π : Path) (col n : String) (v : Val) (s : Store)
    (h : inFilter s.mutable col = false) : putVar π col n v s = (.error .modifyImmutable, s) :=
  putVar_immutable h

/-- **Program level**: a `put` statement into an immutable collection (a leaf write, or a dict-valued
write over a submodule's subtree), anywhere, in any module body,
raises and leaves the store unchanged. -/
theorem immutable_write_raises (cfg : Cfg) (fuel : Nat) (π : Path) (x : Int) (l : Local) (s : Store)
    (col : String) (rel : Path) (n : String) (e : Expr) (v : Int) (he : evalE x l.env e = .ok v)
    (h : inFilter s.mutable col = false) :
    eval cfg (fuel + 1) (.put col rel n e) π x l s = (.error .modifyImmutable, s) := by
  conv => lhs; whnf
  simp only [he, immutable_put_raises (π ++ rel) col n _ s h]

/-- declaring a variable that does not exist in an immutable collection raises
(`ScopeCollectionNotFound` when the whole collection is empty, `ScopeVariableNotFoundError`
otherwise) and creates nothing; only a name clash can pre-empt it. -/
theorem immutable_variable_init_raises (π : Path) (col n : String) (iv : Val) (r : Res) (s : Store)
    (h : inFilter s.mutable col = false) (habs : hasVar s π col n = false) :
    ∃ e, scopeVariable π col n iv r s = (.error e, s) ∧
      (e = .nameInUse ∨ e = .collectionNotFound ∨ e = .variableNotFound) := by
  cases hr : reserve r n (some col) with
  | error err => exact ⟨err, scopeVariable_iff.mpr (.clash hr), .inl (reserve_err_iff.mp hr).2⟩
  | ok r1 => exact ⟨_, scopeVariable_iff.mpr (.missing hr habs h), by cases colEmpty s col <;> simp⟩

/-- a parameter that is missing while `'params'` is immutable raises (`ScopeCollectionNotFound` /
`ScopeParamNotFoundError`) — it is never initialised — and nothing is written. -/
theorem immutable_param_init_raises (π : Path) (n : String) (shape : List Nat) (init : Int) (r : Res) (s : Store)
    (h : inFilter s.mutable "params" = false) (habs : getVar s π "params" n = none) :
    ∃ e, scopeParam π n shape init r s = (.error e, s) ∧
      (e = .nameInUse ∨ e = .collectionNotFound ∨ e = .paramNotFound) := by
  cases hr : reserve r n (some "params") with
  | error err => exact ⟨err, scopeParam_iff.mpr (.clash hr), .inl (reserve_err_iff.mp hr).2⟩
  | ok r1 => exact ⟨_, scopeParam_iff.mpr (.missing hr habs h), by cases colEmpty s "params" <;> simp⟩

/-- `Module.sow` into an immutable collection is a no-op that does not raise. -/
theorem immutable_sow_noop (π : Path) (col n : String) (e : Int) (r : Res) (s : Store)
    (h : inFilter s.mutable col = false) : moduleSow π col n e r s = (.ok r, s) :=
  moduleSow_ok_iff.mpr (.inl ⟨h, rfl, rfl⟩)

/-- `Module.perturb` with the perturbation collection neither mutable nor passed in is the identity. -/
theorem perturb_absent_identity (π : Path) (col n : String) (e : Int) (r : Res) (s : Store)
    (h : inFilter s.mutable col = false) (habs : hasCol s col = false) :
    modulePerturb π col n e r s = (.ok (e, r), s) :=
  modulePerturb_ok_iff.mpr ⟨.inr ⟨by rw [show isMutable s col = false from h]; rfl, rfl, rfl⟩, .inr ⟨habs, rfl⟩⟩

/-! ## clause: repeating the call returns the same outputs -/

/-- the variable dict the caller holds after a call: its own container, read through `callerLookup` -/
def callerVars (V : Vars) (o : Outcome) : Vars :=
  { cols := V.cols, vars := V.vars.filterMap (fun kv => (callerLookup V o kv.1).map (fun v => (kv.1, v))) }

/-- **Repeating the call returns the same outputs.**  After a first call — returned or raised — the
caller holds exactly the variable dict it passed (no key of which is duplicated), so the second call
is the same function applied to the same arguments. -/
theorem apply_deterministic (cfg : Cfg) (fuel : Nat) (p : SProg) (m : LFilter) (V : Vars) (rngs : List String)
    (x : Int) (hV : (V.vars.map (·.1)).Nodup) :
    callerVars V (ModuleTree.apply cfg fuel p m V rngs x) = V ∧
    (ModuleTree.apply cfg fuel p m (callerVars V (ModuleTree.apply cfg fuel p m V rngs x)) rngs x).result
      = (ModuleTree.apply cfg fuel p m V rngs x).result := by
  have hcv : callerVars V (ModuleTree.apply cfg fuel p m V rngs x) = V := by
    unfold callerVars
    have : V.vars.filterMap (fun kv =>
        (callerLookup V (ModuleTree.apply cfg fuel p m V rngs x) kv.1).map (fun v => (kv.1, v))) = V.vars := by
      refine (Lists.filterMap_congr fun kv hkv => ?_).trans List.filterMap_some
      rw [inputs_unchanged, lookupP_eq_lookup, Assoc.lookup_of_mem hV hkv]
      rfl
    rw [this]
  exact ⟨hcv, by rw [hcv]⟩

/-! ## clause: observation features never change the primary output -/

open Flax.ObsSim in
/-- the collections a run observes into: what the program sows into, plus `'intermediates'` under
`capture_intermediates` -/
def obsCols (cfg : Cfg) (p : SProg) : List String :=
  (if cfg.capture then ["intermediates"] else []) ++ sowCols p

/-- the observation collections are used for nothing else (no `param`, `variable`, `get`, `put`,
`perturb` touches them): "the program never reads a collection it sows into" -/
def ObsSafe (cfg : Cfg) (p : SProg) : Prop := ∀ c ∈ otherCols p, c ∉ obsCols cfg p

instance (cfg : Cfg) (p : SProg) : Decidable (ObsSafe cfg p) := by unfold ObsSafe; exact inferInstance

open Flax.ObsSim in
private theorem sim_bind (cfg : Cfg) (p : SProg) (m : LFilter) (V : Vars) (rngs : List String) :
    Sim (obsCols cfg p) (Scope.bind (effMutable cfg m) V rngs) (Scope.bind (effMutable (quiet cfg) m) V rngs) := by
  rw [effMutable_quiet (cfg := quiet cfg) rfl]
  have hmut : ∀ c, c ∉ obsCols cfg p → inFilter m c = inFilter (effMutable cfg m) c := by
    intro c hc
    unfold effMutable
    by_cases hcap : cfg.capture = true
    · simp only [hcap, if_true, Flax.Filter.inFilter_setOps.1, inFilter]
      have : c ≠ "intermediates" := by
        intro heq; apply hc; simp [obsCols, hcap, heq]
      simp [this]
    · rw [if_neg hcap]
  exact ⟨rfl, hmut, fun _ _ _ => rfl, fun c _ => Bool.eq_iff_iff.mpr (hasCol_bind.trans hasCol_bind.symm),
    fun _ _ _ => rfl⟩

open Flax.ObsSim in
/-- **Observers never change the primary output.**  For a program `p` whose observation collections are
used for nothing else, in a Linen style, with any `mutable` filter, with or without `capture_intermediates`:
if the call returns `(y, R)`, then `p` with every `sow` of its body and its children deleted (a nested apply is
left as it is) and `capture_intermediates` off returns the same `y`, and its returned variables agree with `R`
at every path outside the observation collections. -/
theorem observe_noninterference (cfg : Cfg) (hst : cfg.style ≠ .core) (fuel : Nat) (p : SProg) (m : LFilter)
    (V : Vars) (rngs : List String) (x : Int) (hsafe : ObsSafe cfg p) (y : Int) (R : Vars)
    (h : (ModuleTree.apply cfg fuel p m V rngs x).result = .ok (y, R)) :
    ∃ R', (ModuleTree.apply (quiet cfg) fuel (eraseSow p) m V rngs x).result = .ok (y, R') ∧
      ∀ c rest, c ∉ obsCols cfg p → lookupP (c :: rest) R'.vars = lookupP (c :: rest) R.vars := by
  have hcov : Covers (obsCols cfg p) p :=
    ⟨fun c hc => by simp [obsCols, hc], hsafe⟩
  have hcap : cfg.capture = true → "intermediates" ∈ obsCols cfg p := by
    intro hc; simp [obsCols, hc]
  obtain ⟨hbs, s3, hrun, rfl⟩ := apply_ok_iff.mp h
  obtain ⟨l2, s2, l3, hev, hf, rfl⟩ := runTop_ok_iff.mp hrun
  obtain ⟨l2', t2, e1, hl2, hs2⟩ := eval_sim hst hcap fuel p [] x {} {} l2 _ _ s2 hcov
    (LocalSim.empty _) (sim_bind cfg p m V rngs) hev
  obtain ⟨f1, hl3, hs3⟩ := finishCall_left hcap hl2 hs2 hf
  refine ⟨mutableVariables t2,
    apply_ok_iff.mpr ⟨hbs, t2, runTop_ok_iff.mpr ⟨l2', t2, l2', e1, f1, hl3.out_eq.symm⟩, rfl⟩, ?_⟩
  intro c rest hc
  rw [lookupP_mutableVariables, lookupP_mutableVariables,
    show headMutable t2.mutable (c :: rest) = headMutable s3.mutable (c :: rest) from hs3.mut_eq c hc]
  split
  · exact hs3.vars_eq c rest hc
  · rfl

/-- a program that reads the collection it sows into -/
def readsOwnSow : SProg :=
  .seq (.sow "inter" "h" (.const 5)) <| .seq (.get "inter" "h") <| .ret (.loc 0)

/-- the hypothesis `ObsSafe` is needed: `readsOwnSow` returns a different value once the `sow` is removed
(run on the real code by the harness too) -/
theorem obs_safe_needed :
    ¬ ObsSafe {} readsOwnSow ∧
    (ModuleTree.apply {} 10 readsOwnSow .tt Vars.empty [] 0).result.toOption.map (·.1) = some 5 ∧
    (ModuleTree.apply {} 10 (eraseSow readsOwnSow) .tt Vars.empty [] 0).result.toOption.map (·.1) = some 0 := by
  decide +kernel

/-! ## nested applies: `capture_intermediates` is dynamically scoped -/

/-- **A nested apply is isolated from the enclosing capture setting.**  A module body that runs
`Sub().apply(V, e, mutable=m, capture_intermediates=False)` gets the same output and the same returned
state — hence the same locals, and the enclosing store untouched — whether the enclosing
`apply`/`init` was started with `capture_intermediates` on or off: module-level `apply` pushes its own
setting (also `False`) for the duration of the call. -/
theorem nested_apply_capture_isolated (cfg : Cfg) (b : Bool) (fuel : Nat) (body : SProg) (m : LFilter) (V : Vars)
    (a : Expr) (π : Path) (x : Int) (l : Local) (s : Store) :
    eval { cfg with capture := b } (fuel + 1) (.nested body m V a) π x l s
      = eval cfg (fuel + 1) (.nested body m V a) π x l s := rfl

/-- the nested call leaves the enclosing scope's store alone, whatever happens inside it -/
theorem nested_apply_store_untouched (cfg : Cfg) (fuel : Nat) (body : SProg) (m : LFilter) (V : Vars) (a : Expr)
    (π : Path) (x : Int) (l : Local) (s : Store) :
    (eval cfg (fuel + 1) (.nested body m V a) π x l s).2 = s := by
  conv => lhs; arg 1; whnf
  split
  · rfl
  · split
    · rfl
    · split <;> rfl

/-- why the push of `False` matters: evaluated under an inherited `capture := true`, the same inner apply
with `mutable=True` returns an extra `'intermediates'` collection -/
theorem inherited_capture_would_leak :
    ((ModuleTree.apply { capture := false } 10 (.ret .arg) .tt Vars.empty ["params"] 3).result.toOption.map (·.2.cols)) = some [] ∧
    ((ModuleTree.apply { capture := true } 10 (.ret .arg) .tt Vars.empty ["params"] 3).result.toOption.map (·.2.cols))
      = some ["intermediates"] := by decide +kernel

/-- a dict-valued write over a submodule's subtree, two levels above a counter that is then updated
again (re-called child): the later update is what `apply` returns — 10 restored, then 11 -/
def restoreDemo : SProg :=
  .seq (.child "C" (some "c")
    (.seq (.child "G" (some "g")
      (.seq (.var "state" "count" [] (.const 0)) <|
       .seq (.put "state" [] "count" (.add (.loc 0) (.const 1))) <|
       .seq (.get "state" "count") <| .ret (.loc 1))) <|
     .seq (.call 0 .arg none) <| .ret (.loc 0))) <|
  .seq (.call 0 .arg none) <|
  .seq (.put "state" ["c", "g"] "count" (.const 10)) <|
  .seq (.call 0 .arg none) <| .ret (.loc 1)

/-! ## scope objects that leak out of the call (`Scope.temporary` / `invalidate` / `_check_valid`) -/

/-- **A leaked root scope is dead.**  After `apply`/`init` returned, the root `Scope` object that was
handed to the function is invalidated: whatever is tried on it changes nothing, and every operation
that goes through `_check_valid` — `put_variable`, `push`, `rewound`, and `variable`/`param` as soon as
they would have to create something — raises `InvalidScopeError`. -/
theorem leaked_scope_invalid (h : Handle) (hinv : h.invalid = true) (r : Res) (s : Store) :
    (∀ op, (leakedOp h r op s).2 = s) ∧
    (∀ col n v, leakedOp h r (.put col n v) s = (.error .invalidScope, s)) ∧
    (∀ name, leakedOp h r (.push name) s = (.error .invalidScope, s)) ∧
    leakedOp h r .rewound s = (.error .invalidScope, s) ∧
    (∀ col n iv, nameReserved r n (some col) = false → hasVar s h.path col n = false →
      inFilter s.mutable col = true → leakedOp h r (.var col n iv) s = (.error .invalidScope, s)) ∧
    (∀ n shape init, nameReserved r n (some "params") = false → getVar s h.path "params" n = none →
      inFilter s.mutable "params" = true → "params" ∈ s.rngs →
      (leakedOp h r (.param n shape init) s).1 = .error .invalidScope) := by
  have dead : ∀ {α : Type} (op : Op α) (s' : Store), checked h op s' = (.error .invalidScope, s') :=
    fun op s' => by simp [checked, hinv]
  refine ⟨?_, ?_, ?_, ?_, ?_, ?_⟩
  · intro op
    rcases leakedOp_effect h r op s with e | ⟨hv, _⟩
    · exact e
    · rw [hinv] at hv; cases hv
  · intro col n v; simp only [leakedOp, hPut, dead]
  · intro name; simp only [leakedOp, dead]
  · simp only [leakedOp, dead]
  · intro col n iv hfree habs hm
    simp [leakedOp, reserve, hfree, habs, isMutable, hm, hPut, dead]
  · intro n shape init hfree habs hm hrng
    simp [leakedOp, reserve, hfree, habs, isMutable, hm, hrng, dead]

/-- the handle that stands for the root scope after `temporary()` exited carries `_invalid = True` -/
theorem leaked_root_is_invalid : Handle.leakedRoot.invalid = true := rfl

/-- **No leaked scope can reach the caller's variables.**  The code invalidates the *root* scope object
only; a child `Scope` (from `push`/`rewound`, or the `scope` of a submodule) that user code kept stays
usable.  Still, after `apply`, any sequence of operations through any leaked scope object — valid or
not, succeeding or raising — writes into no dict of the caller and leaves every collection outside
`mutable` reading exactly as passed in. -/
theorem leaked_scope_cannot_touch_inputs (cfg : Cfg) (fuel : Nat) (p : SProg) (m : LFilter) (V : Vars)
    (rngs : List String) (x : Int) (h : Handle) (r : Res) (ops : List LeakOp) :
    (leakedOps h r ops (ModuleTree.apply cfg fuel p m V rngs x).final).dirty = false ∧
    ∀ c rest, inFilter (effMutable cfg m) c = false →
      lookupP (c :: rest) (leakedOps h r ops (ModuleTree.apply cfg fuel p m V rngs x).final).vars
        = lookupP (c :: rest) V.vars := by
  have f := (apply_frame cfg fuel p m V rngs x).trans (leakedOps_frame h r ops _)
  exact ⟨by rw [f.dirty (owned_bind _ V rngs)]; rfl, fun c rest hc => f.imm c rest hc⟩

/-- the behaviour of the code as it is: a leaked *child* scope is not invalidated and can still update
the (temporary, scope-owned) tree of a mutable collection after the call has returned -/
theorem leaked_child_still_writes :
    let o := ModuleTree.apply {} 50 restoreDemo (.name "state")
      ⟨["state"], [(["state", "c", "g", "count"], .tensor [] [0])]⟩ [] 1
    leakedOp (Handle.leakedChild ["c", "g"]) [] (.put "state" "count" (.tensor [] [99])) o.final
      = (.ok (), { o.final with vars := [(["state", "c", "g", "count"], .tensor [] [99])] }) ∧
    leakedOp Handle.leakedRoot [] (.put "state" "count" (.tensor [] [99])) o.final = (.error .invalidScope, o.final) := by
  decide +kernel

/-- **More fuel never changes a result.** Every theorem above holds for every amount of fuel; a run
that did not stop with the explicit out-of-fuel error is reproduced exactly by any larger amount, so
the outcomes the drivers compute (with far more fuel than any program needs) are the outcomes of
every sufficient fuel. -/
theorem more_fuel_same_result (cfg : Cfg) (fuel : Nat) (p : SProg) (π : Path) (x : Int) (l : Local) (s : Store)
    (h : (eval cfg fuel p π x l s).1 ≠ .error .fuel) :
    eval cfg (fuel + 1) p π x l s = eval cfg fuel p π x l s :=
  eval_fuel_mono fuel cfg p π x l s h

/-- `Top`: param w[2]=3; child A (auto-named) holding a counter in 'stats' and sowing its input;
called twice; a second child with an explicit name. -/
def demo : SProg :=
  .seq (.param "w" [.lit 2] 3) <|
  .seq (.child "A" none
    (.seq (.var "stats" "cnt" [] (.const 0)) <|
     .seq (.put "stats" [] "cnt" (.add (.loc 0) (.const 1))) <|
     .seq (.sow "inter" "h" .arg) <|
     .ret (.mul .arg (.const 2)))) <|
  .seq (.call 0 (.loc 0) none) <|
  .seq (.call 0 (.loc 1) none) <|
  .seq (.child "A" (some "foo") (.seq (.param "b" [] 1) (.ret (.add .arg (.loc 0))))) <|
  .seq (.call 1 (.loc 2) none) <|
  .ret (.loc 3)

def demoCfg : Cfg := {}

def demoInit : Outcome := ModuleTree.init demoCfg 100 demo initDefault ["params"] 5

def demoV : Vars :=
  { cols := ["params", "stats", "inter"],
    vars := [(["params", "w"], .tensor [2] [3, 3]), (["stats", "A_0", "cnt"], .tensor [] [2]),
             (["inter", "A_0", "h"], .tup [([], [6]), ([], [12])]), (["params", "foo", "b"], .tensor [] [1])] }

example : demoInit.result = .ok (25, demoV) := by decide +kernel

example : (ModuleTree.apply demoCfg 100 demo (.name "stats") demoV [] 5).result
    = .ok (25, { cols := ["stats"], vars := [(["stats", "A_0", "cnt"], .tensor [] [4])] }) := by decide +kernel

example : (ModuleTree.apply demoCfg 100 demo .ff demoV [] 5).result = .error .modifyImmutable ∧
    (ModuleTree.apply demoCfg 100 demo .ff demoV [] 5).final.vars = demoV.vars := by decide +kernel

/-- hypotheses of `immutable_write_raises` are satisfiable -/
example : eval demoCfg 1 (.put "stats" [] "cnt" (.const 1)) ["A_0"] 0 {} (Scope.bind .ff demoV [])
    = (.error .modifyImmutable, Scope.bind .ff demoV []) := by decide +kernel

/-- hypotheses of `immutable_param_init_raises`: a missing parameter under `mutable=False` -/
example : (scopeParam [] "nope" [2] 1 [] (Scope.bind .ff demoV [])).1 = .error .paramNotFound := by decide +kernel

/-- hypothesis of `more_fuel_same_result`: the demo run does not run out of fuel with 100 units -/
example : (eval demoCfg 100 demo [] 5 {} (Scope.bind initDefault Vars.empty ["params"])).1 ≠ .error .fuel := by
  decide +kernel

/-- `observe_noninterference` instance: `demo` is observation-safe, and without its `sow` it returns the same 25 -/
example : ObsSafe demoCfg demo ∧
    (ModuleTree.init (quiet demoCfg) 100 (eraseSow demo) initDefault ["params"] 5).result.toOption.map (·.1) = some 25 := by
  decide +kernel

example : (ModuleTree.apply {} 50 restoreDemo (.name "state")
      ⟨["state"], [(["state", "c", "g", "count"], .tensor [] [0])]⟩ [] 1).result
    = .ok (11, ⟨["state"], [(["state", "c", "g", "count"], .tensor [] [11])]⟩) := by decide +kernel

/-- `apply_input_frame` / `returned_keys_exact` on an EMPTY mutable collection (`{'stats': {}}` placeholder before the
first stateful step): `_unfreeze_variables` copies it like any other selected collection, so
the variable created during the call lands in the scope's copy — returned, not written into the caller's dict -/
example :
    let o := ModuleTree.apply {} 10 (.seq (.var "stats" "cnt" [] (.const 0)) (.seq (.put "stats" [] "cnt" (.add (.loc 0) (.const 1))) (.ret (.loc 0))))
      (.name "stats") ⟨["stats"], []⟩ [] 7
    o.result = .ok (0, ⟨["stats"], [(["stats", "cnt"], .tensor [] [1])]⟩) ∧ o.final.dirty = false ∧
      o.final.cols = [("stats", true)] ∧ callerLookup ⟨["stats"], []⟩ o ["stats", "cnt"] = none := by
  decide +kernel

/-- hypotheses of `perturb_absent_identity` -/
example : modulePerturb [] "perturbations" "p" 7 [] (Scope.bind .ff demoV []) = (.ok (7, []), Scope.bind .ff demoV []) := by
  decide +kernel

end Flax.C01
