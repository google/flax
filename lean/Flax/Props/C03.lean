/-
C03 — NNX split/merge round-trips any object graph, preserving sharing and cycles.

Hypotheses used
* `Heap.wf h`, `root.wf`: every `vars(obj)` / `dict` has pairwise distinct keys (a fact about Python dicts).
  Taken wherever paths must be distinct (sortedness, merge, `state`, first paths, `pop` beyond
  `pop_removes_selected`); `roundtrip_iso` takes neither, only that `flatten` returned.
* `flatten … = .ok …`, `pop … = .ok …`, `update … = .ok …`: the call returned (budget, no dangling address, no error).
* `HeapClosed`, `ValClosed`, `isRootable`: for totality only.  `PathIndep`: the filters do not look at the path.
-/
import Flax.Model.Heap
import Flax.Model.Graph
import Flax.Proofs.GraphOrder
import Flax.Proofs.GraphFlatten
import Flax.Proofs.GraphIso
import Flax.Proofs.GraphPaths
import Flax.Proofs.GraphSplit
import Flax.Proofs.GraphUpdate
import Flax.Proofs.GraphUpdateFrame
import Flax.Proofs.GraphPop
import Flax.Proofs.GraphPopIndep
import Flax.Proofs.GraphTotal
import Flax.Proofs.GraphFirst
import Flax.Proofs.GraphPopAny
import Flax.Proofs.GraphPopOrder
import Flax.Proofs.GraphPytree
import Flax.Proofs.GraphUpdateValues

namespace Flax.C03
open Flax.Heap Flax.Graph
open Flax.Filter (NFilter)

/-- the address map of a round trip: the object `flatten` registered under index `i` ↦ the object `unflatten`
created for index `i` -/
abbrev addrMap (idx : RefIndex) (ir : IndexRef) : Addr → Option Addr := phi idx ir

/-- **unflatten ∘ flatten rebuilds an isomorphic rooted heap, out of fresh objects only.**
For every heap (any aliasing, cycles, self references) and every root on which `flatten` succeeds: `unflatten`
succeeds on its output, the old heap is an initial segment of the new one (g is untouched), every rebuilt object is
new (`≥ h.length`), and the rebuilt graph is isomorphic to the original via the injective map `addrMap idx ir`: same
classes, static attributes, array leaves, Variable types / values / metadata; references correspond. -/
theorem roundtrip_iso (h : Heap) (root : PVal) (gd : GDef) (ls : FlatState) (idx : RefIndex)
    (hf : flatten h root = .ok (gd, ls, idx)) :
    ∃ root' h' ir, unflatten gd (ls.map (·.2)) h = .ok (root', h', ir) ∧
      Extends h h' ∧
      (∀ (a b : Nat), addrMap idx ir a = some b → h.length ≤ b ∧ b < h'.length) ∧
      Iso h root h' root' (addrMap idx ir) := by
  obtain ⟨hroot, hf⟩ := flatten_ok hf
  obtain ⟨v', H', ir', hu, g', p', hr⟩ :=
    (sim h h.length (fuelFor h root)).1 [] root [] gd ls idx hf h [] [] (Good.nil _ _) (Nat.le_refl _)
  simp only [List.append_nil] at hu
  obtain ⟨hs, ha⟩ := flattenVal_gdef hf hroot
  refine ⟨v', H', ir', unflatten_of_def hs ha hu, p'.ext, fun a b hab => phi_lt g' hab,
    ⟨hr, fun a b c h1 h2 => phi_inj g'.inj h1 h2, ?_⟩⟩
  intro a b hab
  obtain ⟨o, o', b', ho, hphi, hH, hrel⟩ := p'.obj a (phi_mem hab) (by simp)
  have : b' = b := Option.some.inj (hphi.symm.trans hab)
  subst this
  exact ⟨o, o', ho, hH, hrel⟩

/-- isomorphic rooted heaps resolve every attribute path alike: both fail, or both succeed with
corresponding values -/
theorem iso_resolve {h h' : Heap} {r r' : PVal} {φ : Addr → Option Addr} (iso : Iso h r h' r' φ) (p : Path) :
    (resolve h r p = Option.none ∧ resolve h' r' p = Option.none) ∨
      ∃ v v', resolve h r p = some v ∧ resolve h' r' p = some v' ∧ ValRel φ v v' :=
  Nnx.resolveM_corr (Nnx.iso_toM iso) p iso.root

/-- **sharing is preserved, in both directions**: two paths reach the same object after the round trip
exactly when they did before (shared references and cycles included) -/
theorem iso_alias_iff {h h' : Heap} {r r' : PVal} {φ : Addr → Option Addr} (iso : Iso h r h' r' φ) (p q : Path)
    (a b : Addr) (hp : resolve h r p = some (.ref a)) (hq : resolve h r q = some (.ref b)) :
    ∃ a' b', resolve h' r' p = some (.ref a') ∧ resolve h' r' q = some (.ref b') ∧ (a = b ↔ a' = b') := by
  obtain ⟨a', b', e2, f2, _, hiff⟩ := (Nnx.iso_toM iso).resolve_pair hp hq
  exact ⟨a', b', e2, f2, hiff⟩

/-- a path that reaches an object on the rebuilt side reaches its preimage on the original side -/
theorem iso_alias_back {h h' : Heap} {r r' : PVal} {φ : Addr → Option Addr} (iso : Iso h r h' r' φ) (p : Path)
    (a' : Addr) (hp : resolve h' r' p = some (.ref a')) : ∃ a, resolve h r p = some (.ref a) ∧ φ a = some a' := by
  rcases iso_resolve iso p with ⟨_, e⟩ | ⟨v, v', e1, e2, hv⟩
  · rw [hp] at e; cases e
  rw [hp] at e2; cases e2
  cases hv with
  | ref ha => exact ⟨_, e1, ha⟩

/-! ## generic pytree containers (NamedTuple, OrderedDict, registered dataclasses): `_flatten_pytree` /
`_unflatten_pytree` as `pyFlatten` / `pyUnflatten`, the small model of Proofs/GraphPytree.lean -/

/-- **unflatten ∘ flatten is the identity on a generic pytree node for every declared order** (3-cycles included):
each child comes back under its own field -/
theorem pytree_unflatten_flatten_id {α : Type} (decl : List (Key × α)) (hn : keysNodup decl) :
    pyUnflatten (pyFlatten decl).1 (pyFlatten decl).2 = decl :=
  Flax.Graph.pytree_unflatten_flatten_id decl hn

/-- applying the permutation in the inverse direction is wrong on a 3-cycle: `Affine(weight, bias, child)` -/
theorem pytree_inverse_permutation_wrong :
    let decl : List (Key × Nat) := [(.str "weight", 1), (.str "bias", 2), (.str "child", 3)]
    pyUnflatten (pyFlatten decl).1 (pyFlatten decl).2 = decl ∧
    pyUnflattenInv (pyFlatten decl).1 (pyFlatten decl).2 ≠ decl := by
  decide

example : keysNodup ([(.str "weight", 1), (.str "bias", 2), (.str "child", 3)] : List (Key × Nat)) := by decide +kernel

/-- the paths emitted by `flatten` are strictly increasing in the order `sorted` uses (hence pairwise
distinct) -/
theorem leaves_sorted_distinct (h : Heap) (root : PVal) (hw : Heap.wf h = true) (hr : root.wf = true)
    (gd : GDef) (ls : FlatState) (idx : RefIndex) (hf : flatten h root = .ok (gd, ls, idx)) :
    SSorted Path.lt ls := by
  exact ((flatten_sorted_aux h hw _).1 [] root [] gd ls idx hr (flatten_ok hf).2).1

/-- **merge in any order, of any partition**: whatever way the leaves are distributed over states and
whatever the order of the states, `_merge_to_flat_state` returns the leaves in emission order -/
theorem merge_any_order (h : Heap) (root : PVal) (hw : Heap.wf h = true) (hr : root.wf = true)
    (gd : GDef) (ls : FlatState) (idx : RefIndex) (hf : flatten h root = .ok (gd, ls, idx))
    (states : List FlatState) (hp : states.flatten.Perm ls) :
    mergeFlat states = .ok (ls.map (·.2)) :=
  mergeFlat_of_perm hp (leaves_sorted_distinct h root hw hr gd ls idx hf)

/-- every leaf lands in the state of the first filter that matches it and in no other: bucket `i` of
`_split_state` holds exactly the leaves whose first matching predicate is `i` (`i = n`: none matched) -/
theorem split_first_match_partition (preds : List NFilter) (fs : FlatState) (i : Nat) (it : Path × Leaf) :
    it ∈ (splitFlat preds fs).getD i [] ↔ (it ∈ fs ∧ bucketOf preds it = i) :=
  mem_splitFlat preds fs i it

/-- nothing is lost and nothing duplicated: the buckets together are a permutation of the leaves -/
theorem split_perm (preds : List NFilter) (fs : FlatState) : (splitFlat preds fs).flatten.Perm fs :=
  splitFlat_perm preds fs

/-- the states returned by `nnx.split` are a partition (up to order) of the leaves of `flatten`, and
state `i` is the first-match bucket `i` -/
theorem split_states (h : Heap) (root : PVal) (filters : List NFilter) (gd : GDef) (states : List FlatState)
    (hs : split h root filters = .ok (gd, states)) :
    ∃ ls idx, flatten h root = .ok (gd, ls, idx) ∧ states.flatten.Perm ls ∧
      (filters ≠ [] → states.length = filters.length ∧
        ∀ i, i < filters.length → ∀ it, it ∈ states.getD i [] ↔ (it ∈ ls ∧ bucketOf filters it = i)) := by
  obtain ⟨ls, idx, hf, ⟨rfl, rfl⟩ | ⟨hne, hse⟩⟩ := split_ok hs
  · exact ⟨ls, idx, hf, by simp, fun hne => absurd rfl hne⟩
  · obtain ⟨hlast, rfl⟩ := splitExhaustive_ok hse
    refine ⟨ls, idx, hf, take_flatten_of_last_empty filters ls hlast, fun _ => ⟨length_take_splitFlat filters ls, ?_⟩⟩
    intro i hi it
    rw [getD_take_splitFlat filters ls hi, List.mem_filter, beq_iff_eq]

/-- **merge(split(g)) ≅ g for every tuple of filters and every argument order of the states** -/
theorem split_merge_iso (h : Heap) (root : PVal) (hw : Heap.wf h = true) (hr : root.wf = true)
    (filters : List NFilter) (gd : GDef) (states : List FlatState)
    (hs : split h root filters = .ok (gd, states)) (states' : List FlatState) (hp : states'.Perm states) :
    ∃ root' h' ir idx, merge gd states' h = .ok (root', h', ir) ∧
      Extends h h' ∧
      (∀ (a b : Nat), addrMap idx ir a = some b → h.length ≤ b ∧ b < h'.length) ∧
      Iso h root h' root' (addrMap idx ir) := by
  obtain ⟨ls, idx, hf, hperm, _⟩ := split_states h root filters gd states hs
  obtain ⟨root', h', ir, hu, hext, hfresh, hiso⟩ := roundtrip_iso h root gd ls idx hf
  have hm : mergeFlat states' = .ok (ls.map (·.2)) :=
    merge_any_order h root hw hr gd ls idx hf states' ((List.Perm.flatten hp).trans hperm)
  exact ⟨root', h', ir, idx, by simp [merge, hm, hu], hext, hfresh, hiso⟩

/-- `split` has no heap output at all (the model of `flatten` cannot write).  And after `merge(split(g))` — any
filters, any argument order — every object of `g` is exactly as before. -/
theorem flatten_frame (h : Heap) (root : PVal) (hw : Heap.wf h = true) (hr : root.wf = true)
    (filters : List NFilter) (gd : GDef) (states : List FlatState)
    (hs : split h root filters = .ok (gd, states)) (states' : List FlatState) (hp : states'.Perm states)
    (root' : PVal) (h' : Heap) (ir : IndexRef) (hm : merge gd states' h = .ok (root', h', ir)) :
    ∀ (a : Nat), a < h.length → h'[a]? = h[a]? := by
  obtain ⟨r2, h2, ir2, _, hm2, hext, _, _⟩ := split_merge_iso h root hw hr filters gd states hs states' hp
  rw [hm2] at hm
  simp at hm
  obtain ⟨_, rfl, _⟩ := hm
  exact fun a ha => hext.get a ha

/-- **clone shares nothing mutable with the original and is isomorphic to it**: every graph node and Variable of
the clone is new, the original heap an unchanged initial segment -/
theorem clone_disjoint (h : Heap) (root : PVal) (hw : Heap.wf h = true) (hr : root.wf = true)
    (root' : PVal) (h' : Heap) (ir : IndexRef) (hc : clone h root = .ok (root', h', ir)) :
    ∃ idx, Extends h h' ∧ (∀ (a b : Nat), addrMap idx ir a = some b → h.length ≤ b ∧ b < h'.length) ∧
      Iso h root h' root' (addrMap idx ir) := by
  unfold clone at hc
  split at hc
  · cases hc
  · next gd states hs =>
    obtain ⟨r2, h2, ir2, idx, hm, hext, hfresh, hiso⟩ :=
      split_merge_iso h root hw hr [] gd states hs states (List.Perm.refl _)
    rw [hm] at hc
    simp at hc
    obtain ⟨rfl, rfl, rfl⟩ := hc
    exact ⟨idx, hext, hfresh, hiso⟩

/-! ## the hypotheses are always satisfiable: flatten is total -/

/-- **`flatten` succeeds on every closed heap** (no dangling address — always true of real Python objects), for any
aliasing and any cycles: the budget `fuelFor` suffices because a node is registered before its attributes are visited. -/
theorem flatten_total (h : Heap) (root : PVal) (hc : HeapClosed h) (hr : ValClosed h root)
    (hroot : isRootable root = true) : ∃ gd ls idx, flatten h root = .ok (gd, ls, idx) :=
  Flax.Graph.flatten_total h root hc hr hroot

/-- **`clone` (= merge ∘ split) never fails on a well-formed closed heap**, and what it returns is an
isomorphic copy made of fresh objects -/
theorem clone_total (h : Heap) (root : PVal) (hc : HeapClosed h) (hr : ValClosed h root)
    (hroot : isRootable root = true) (hw : Heap.wf h = true) (hrw : root.wf = true) :
    ∃ root' h' ir idx, clone h root = .ok (root', h', ir) ∧ Extends h h' ∧
      (∀ (a b : Nat), addrMap idx ir a = some b → h.length ≤ b ∧ b < h'.length) ∧
      Iso h root h' root' (addrMap idx ir) := by
  obtain ⟨gd, ls, idx, hf⟩ := flatten_total h root hc hr hroot
  have hs : split h root [] = .ok (gd, [ls]) := by simp [split, hf]
  obtain ⟨root', h', ir, idx', hm, hext, hfresh, hiso⟩ :=
    split_merge_iso h root hw hrw [] gd [ls] hs [ls] (List.Perm.refl _)
  exact ⟨root', h', ir, idx', by simp [clone, hs, hm], hext, hfresh, hiso⟩

/-- `nnx.state(node)` (no filter): the leaves are strictly sorted by path; every Variable leaf sits at a path that
resolves to a Variable of exactly that type / value / metadata; no Variable is listed twice; every reachable one is
listed; array leaves sit at paths resolving to that array. -/
theorem state_once_sorted (h : Heap) (root : PVal) (hw : Heap.wf h = true) (hr : root.wf = true)
    (fs : FlatState) (hs : state h root [] = .ok [fs]) :
    SSorted Path.lt fs ∧
    (∀ p ty val md, (p, Leaf.vstate ty val md) ∈ fs → ∃ a, resolve h root p = some (.ref a) ∧ h[a]? = some (.var ty val md)) ∧
    (∀ p q ty val md ty' val' md' a, (p, Leaf.vstate ty val md) ∈ fs → (q, Leaf.vstate ty' val' md') ∈ fs →
        resolve h root p = some (.ref a) → resolve h root q = some (.ref a) → p = q) ∧
    (∀ q a ty val md, resolve h root q = some (.ref a) → h[a]? = some (.var ty val md) →
        ∃ p, (p, Leaf.vstate ty val md) ∈ fs ∧ resolve h root p = some (.ref a)) ∧
    (∀ p d, (p, Leaf.arr d) ∈ fs → resolve h root p = some (.array d)) := by
  obtain ⟨gd, idx, hf⟩ := state_nil_ok hs
  obtain ⟨root', h', ir, _, _, _, hiso⟩ := roundtrip_iso h root gd fs idx hf
  obtain ⟨hvar, honce, hhas, harr⟩ := flatten_leaves h root hw hr gd fs idx hf
  refine ⟨leaves_sorted_distinct h root hw hr gd fs idx hf, hvar, honce, ?_, harr⟩
  intro q a ty val md hq hv
  -- reachable objects are exactly the registered ones: the isomorphism is defined on them
  obtain ⟨a', _, ha'⟩ := (Nnx.iso_toM hiso).resolve_ref hq
  exact hhas a (phi_mem ha') ty val md hv

/-- `m.w = m.v = Param(5, tag='x')` -/
def exHeapU : Heap := [.node "A" [(.str "w", .ref 1), (.str "v", .ref 1)], .var ["Param"] 5 [("tag", "s:x")]]

/-! "Under its first path": `trace h root` (Proofs/GraphFirst.lean) is the DFS of `flatten` made explicit, with its
*encounters* `(a, path)` and its *registrations* (the encounters at which `a` entered `ref_index`). -/

/-- **every Variable leaf of `flatten` (hence of `split` and `state`) sits at the path by which the DFS first
reached its Variable**: the explicit DFS ends with the same `ref_index`, which lists its registrations in order; every
encounter `(a, q)` is real (`q` resolves to `a`); every registration happened at the first encounter of its address;
each Variable leaf `(p, ·)` resolves to a Variable whose first encounter is `p`. -/
theorem flatten_first_path (h : Heap) (root : PVal) (hw : Heap.wf h = true) (hr : root.wf = true)
    (gd : GDef) (ls : FlatState) (idx : RefIndex) (hf : flatten h root = .ok (gd, ls, idx)) :
    ∃ enc reg, trace h root = .ok (enc, reg, idx) ∧ reg.map (·.1) = idx ∧
      (∀ e ∈ enc, resolve h root e.2 = some (.ref e.1)) ∧
      (∀ e ∈ reg, firstOcc e.1 enc = some e.2) ∧
      ∀ p ty val md, (p, Leaf.vstate ty val md) ∈ ls →
        ∃ a, resolve h root p = some (.ref a) ∧ h[a]? = some (.var ty val md) ∧ firstOcc a enc = some p :=
  flatten_first h root hw hr gd ls idx hf

/-- `nnx.state(node)` lists every Variable under its first path -/
theorem state_first_path (h : Heap) (root : PVal) (hw : Heap.wf h = true) (hr : root.wf = true)
    (fs : FlatState) (hs : state h root [] = .ok [fs]) :
    ∃ enc reg idx, trace h root = .ok (enc, reg, idx) ∧
      ∀ p ty val md, (p, Leaf.vstate ty val md) ∈ fs →
        ∃ a, resolve h root p = some (.ref a) ∧ h[a]? = some (.var ty val md) ∧ firstOcc a enc = some p := by
  obtain ⟨gd, idx, hf⟩ := state_nil_ok hs
  obtain ⟨enc, reg, ht, _, _, _, hl⟩ := flatten_first h root hw hr gd fs idx hf
  exact ⟨enc, reg, idx, ht, hl⟩

/-- the states of `nnx.split` (any filters) list every Variable under its first path -/
theorem split_first_path (h : Heap) (root : PVal) (hw : Heap.wf h = true) (hr : root.wf = true)
    (filters : List NFilter) (gd : GDef) (states : List FlatState) (hs : split h root filters = .ok (gd, states)) :
    ∃ enc reg idx, trace h root = .ok (enc, reg, idx) ∧
      ∀ st ∈ states, ∀ p ty val md, (p, Leaf.vstate ty val md) ∈ st →
        ∃ a, resolve h root p = some (.ref a) ∧ h[a]? = some (.var ty val md) ∧ firstOcc a enc = some p := by
  obtain ⟨ls, idx, hf, hperm, _⟩ := split_states h root filters gd states hs
  obtain ⟨enc, reg, ht, _, _, _, hl⟩ := flatten_first h root hw hr gd ls idx hf
  refine ⟨enc, reg, idx, ht, ?_⟩
  intro st hst p ty val md hm
  exact hl p ty val md (hperm.mem_iff.mp (List.mem_flatten.mpr ⟨st, hst, hm⟩))

/-- `nnx.state(node, *filters)`: state `i` holds exactly the leaves whose first matching filter is `i`;
leaves matched by no filter are dropped; each state keeps the sorted emission order -/
theorem state_filtered (h : Heap) (root : PVal) (filters : List NFilter) (hne : filters ≠ []) (sts : List FlatState)
    (hs : state h root filters = .ok sts) :
    ∃ gd ls idx, flatten h root = .ok (gd, ls, idx) ∧ sts.length = filters.length ∧
      ∀ i, i < filters.length → sts.getD i [] = ls.filter (fun it => bucketOf filters it == i) := by
  obtain ⟨gd, ls, idx, hf, ⟨e, _⟩ | ⟨_, rfl⟩⟩ := state_ok hs
  · exact absurd e hne
  · exact ⟨gd, ls, idx, hf, length_take_splitFlat filters ls, fun i hi => getD_take_splitFlat filters ls hi⟩

/-- **`update` keeps object identity**: for every state tree, `update` allocates nothing and every address still
holds the same object up to mutable payloads — a Variable keeps its class, a graph node its class, its attribute
names in order and every attribute value except array leaves; so every reference (every alias) is as before. -/
theorem update_identity (h : Heap) (root : PVal) (s : STree) (h' : Heap) (hu : update h root s = .ok h') :
    SameShape h h' :=
  updateVal_shape s h root h' hu

/-- **`update` writes nothing but what the state addresses**: an object that no leaf path of the state
(and no parent of a leaf path — the owner of an array attribute) leads to is left exactly as it was -/
theorem update_frame (h : Heap) (root : PVal) (s : STree) (h' : Heap) (hu : update h root s = .ok h') (a : Nat)
    (hun : Untouched a h root (leafPaths s)) : h'[a]? = h[a]? :=
  updateVal_frame s h root h' hu a hun

/-- **the Variable at a state path takes the new value and metadata, in place**: for any path `p` that reaches a
Variable, updating with the state that has a single `VariableState` leaf at `p` rewrites exactly that Variable
object, keeping its address and class -/
theorem update_sets_path (h : Heap) (root : PVal) (p : Path) (a : Addr) (ty : VType) (val : Data) (md : Meta)
    (ty' : VType) (val' : Data) (md' : Meta)
    (hr : resolve h root p = some (.ref a)) (hg : h[a]? = some (.var ty val md)) :
    update h root (chain p (.vstate ty' val' md')) = .ok (write h a (.var ty val' md')) :=
  update_chain h ty' val' md' p root a ty val md hr hg

/-- **`update` with an arbitrary state — last write wins**: every Variable `a` ends up as the result of applying,
in the order `_graph_update_dynamic` visits them, exactly the leaves of the state whose path reaches `a` (a
`VariableState` leaf sets value and metadata, a raw leaf the value only), and is unchanged when none does -/
theorem update_values (h : Heap) (root : PVal) (s : STree) (h' : Heap) (hu : update h root s = .ok h')
    (a : Nat) (o : Obj) (ho : h[a]? = some o) (hv : isVarObj o = true) :
    h'[a]? = some (applyAll o (hits h root a (leavesOf s))) :=
  updateVal_values s h root h' hu a o ho hv

/-- two leaves aliasing one Variable (`m.w` and `m.v` are the same `Param`): the later one wins -/
example : (update exHeapU (.ref 0) (.node [(.str "w", .leaf (.vstate ["Param"] 7 [])), (.str "v", .leaf (.arr 9))])).toOption =
    some [.node "A" [(.str "w", .ref 1), (.str "v", .ref 1)], .var ["Param"] 9 []] := by decide +kernel

/-- **a raw leaf at the path of an array attribute rewrites exactly that attribute and nothing else**: for any
path `p` reaching a graph node `a0` whose attribute `k` holds an array, updating with the single raw leaf `d` at
`p ++ [k]` yields `setAttr h a0 k (array d)`, and the other conjuncts (`setAttr_spec`, `lookupKV_setKV`, `setKV_keys`)
say what that is: every other object untouched, `a0` keeps class, keys and every other value; slot `k` holds `d`. -/
theorem update_sets_array (h : Heap) (root : PVal) (p : Path) (k : Key) (a0 : Addr) (cls : String)
    (attrs : List (Key × PVal)) (d0 d : Data)
    (hr : resolve h root p = some (.ref a0)) (hg : h[a0]? = some (.node cls attrs))
    (hl : lookupKV k attrs = some (.array d0)) :
    update h root (chain (p ++ [k]) (.arr d)) = .ok (setAttr h a0 k (.array d)) ∧
    (setAttr h a0 k (.array d)).length = h.length ∧
    (setAttr h a0 k (.array d))[a0]? = some (.node cls (setKV k (.array d) attrs)) ∧
    (∀ (b : Nat), b ≠ a0 → (setAttr h a0 k (.array d))[b]? = h[b]?) ∧
    (setKV k (PVal.array d) attrs).map (·.1) = attrs.map (·.1) ∧
    ∀ k', lookupKV k' (setKV k (PVal.array d) attrs) = if k' = k then some (.array d) else lookupKV k' attrs := by
  obtain ⟨s1, s2, s3⟩ := setAttr_spec k (.array d) hg
  refine ⟨update_array_chain h k d p root a0 cls attrs d0 hr hg hl, s1, s2, s3, setKV_keys k _ attrs, ?_⟩
  intro k'
  rw [lookupKV_setKV]
  by_cases e : k' = k
  · simp [e, hl]
  · simp [e]

/-- a Variable addressed by a one-leaf state takes the new value and metadata, in place -/
example : (update exHeapU (.ref 0) (.node [(.str "w", .leaf (.vstate ["Param"] 7 []))])).toOption =
    some [.node "A" [(.str "w", .ref 1), (.str "v", .ref 1)], .var ["Param"] 7 []] := by decide +kernel

/-- **after `pop`, none of the selected Variables is reachable from the node** — for every heap, every root and
every tuple of filters that do not look at the path (types, tags, their Any / All / Not combinations:
`pathIndep_of_pathFree`).  And `pop` only removes attributes (`PShape`): nothing is allocated, Variables are
untouched, nodes keep their class.  This is about the *repaired* `_graph_pop` (finding F12). -/
theorem pop_removes_selected (preds : List NFilter) (hPI : PathIndep preds) (h : Heap) (root : PVal)
    (h' : Heap) (outs : List FlatState) (hp : pop true h root preds = .ok (h', outs)) :
    PShape h h' ∧ ∀ (p : Path) (b : Addr), resolve h' root p = some (.ref b) → ¬ sel preds h' b :=
  pop_clean_paths hPI h root h' outs hp

/-- **pop removes exactly the selected Variables** (`PopExact`, whose fields say it clause by clause): each is
returned once, even when shared, in the state of its first matching filter; all reachable ones are returned and none
is reachable afterwards; nothing but references to them is removed. -/
theorem pop_exact (preds : List NFilter) (hPI : PathIndep preds) (h : Heap) (root : PVal)
    (hw : Heap.wf h = true) (hrw : root.wf = true) (h' : Heap) (outs : List FlatState)
    (hp : pop true h root preds = .ok (h', outs)) : PopExact preds h root h' outs :=
  pop_exact_aux hPI h root hw hrw h' outs hp

/-- **`pop` returns each Variable — shared or not — under the path by which the DFS of `flatten` first
reaches it** (the same first path `state` and `split` use) -/
theorem pop_first_path (preds : List NFilter) (hPI : PathIndep preds) (h : Heap) (root : PVal)
    (hw : Heap.wf h = true) (hrw : root.wf = true) (h' : Heap) (outs : List FlatState)
    (hp : pop true h root preds = .ok (h', outs))
    (gd : GDef) (ls : FlatState) (idx : RefIndex) (hf : flatten h root = .ok (gd, ls, idx)) :
    ∃ enc reg, trace h root = .ok (enc, reg, idx) ∧
      ∀ i, ∀ it ∈ outs.getD i [], ∃ b, resolve h root it.1 = some (.ref b) ∧ firstOcc b enc = some it.1 :=
  Flax.Graph.pop_first_path hPI h root hw hrw h' outs hp gd ls idx hf

/-- **`pop` with arbitrary filters, path-dependent ones (PathContains / PathIn) included** (`PopAny`).
For such filters "selected" is a property of the *encounter* `(path, Variable)`, not of the Variable:
the Variable is popped at the first encounter where some predicate matches — the returned entry carries that path,
in the state of the first filter matching that pair —, never twice; only attributes are removed, each a reference to
a returned Variable.  Not true here (and not claimed): a reference met *before* the matching encounter is kept
(`pop_path_filter_keeps_earlier_alias`), so the Variable can stay reachable; one met *after* it is removed even
though no filter matches there (`pop_path_filter_removes_later_alias`). -/
theorem pop_any_filters (preds : List NFilter) (h : Heap) (root : PVal) (hw : Heap.wf h = true) (hrw : root.wf = true)
    (h' : Heap) (outs : List FlatState) (hp : pop true h root preds = .ok (h', outs)) : PopAny preds h root h' outs :=
  pop_any_aux h root hw hrw h' outs hp

/-- **`pop` with arbitrary filters, in DFS order** (`PopOrdered`).  `enc` is the encounter sequence of the
DFS of `flatten` (`trace`), which is also the order in which `_graph_pop` meets references; an encounter
`(b, q)` *matches* when some filter holds for the Variable `b` at path `q` (`encMatches`).  Every returned entry sits
at the FIRST matching encounter of its Variable (`firstM`); every Variable with a matching encounter is returned; the
reference of every encounter at or after a match no longer resolves to the Variable afterwards, also where no filter
matches.  (Earlier references are kept, so "unreachable afterwards" is exactly `pop_exact`'s path-independent case.) -/
theorem pop_first_match (preds : List NFilter) (h : Heap) (root : PVal) (hw : Heap.wf h = true) (hrw : root.wf = true)
    (h' : Heap) (outs : List FlatState) (hp : pop true h root preds = .ok (h', outs))
    (gd : GDef) (ls : FlatState) (idx : RefIndex) (hf : flatten h root = .ok (gd, ls, idx)) :
    ∃ enc reg, trace h root = .ok (enc, reg, idx) ∧ (∀ e ∈ enc, resolve h root e.2 = some (.ref e.1)) ∧
      PopOrdered preds h root h' outs enc :=
  pop_ordered_aux h root hw hrw h' outs hp gd ls idx hf

/-- three aliases `a`, `b`, `c` of one Variable, filter `PathContains('b')`: the encounters are
`a`, `b`, `c`; the first matching one is `b`; `a` is kept, `b` and `c` are removed -/
example :
    let h : Heap := [.node "M" [(.str "a", .ref 1), (.str "b", .ref 1), (.str "c", .ref 1)], .var ["Param"] 1 []]
    (trace h (.ref 0)).toOption.map (·.1) = some [(0, []), (1, [.str "a"]), (1, [.str "b"]), (1, [.str "c"])] ∧
    firstM [.pathContains "$b"] h [(0, []), (1, [.str "a"]), (1, [.str "b"]), (1, [.str "c"])] 1 = some [.str "b"] ∧
    (pop true h (.ref 0) [.pathContains "$b"]).toOption =
      some ([.node "M" [(.str "a", .ref 1)], .var ["Param"] 1 []], [[([.str "b"], .vstate ["Param"] 1 [])]]) := by
  decide +kernel

/-- `m.a = m.b = v`, `pop(m, PathContains('b'))`: no match at the first encounter `('a',)`, popped at
`('b',)`; the earlier alias `a` stays -/
theorem pop_path_filter_keeps_earlier_alias :
    (pop true [.node "M" [(.str "a", .ref 1), (.str "b", .ref 1)], .var ["Param"] 1 []] (.ref 0) [.pathContains "$b"]).toOption =
      some ([.node "M" [(.str "a", .ref 1)], .var ["Param"] 1 []], [[([.str "b"], .vstate ["Param"] 1 [])]]) := by decide +kernel

/-- `pop(m, PathContains('a'))`: popped at `('a',)`; the later alias `b` is removed too although the
filter does not match `('b',)` -/
theorem pop_path_filter_removes_later_alias :
    (pop true [.node "M" [(.str "a", .ref 1), (.str "b", .ref 1)], .var ["Param"] 1 []] (.ref 0) [.pathContains "$a"]).toOption =
      some ([.node "M" [], .var ["Param"] 1 []], [[([.str "a"], .vstate ["Param"] 1 [])]]) := by decide +kernel

/-- the filters of `nnx.pop(m, nnx.Intermediate, nnx.Any(nnx.Cache, 'x'), nnx.Not(nnx.Param))` are of the covered kind -/
example : PathIndep [.ofType "Intermediate", .any [.ofType "Cache", .withTag "x"], .not (.ofType "Param")] :=
  pathIndep_of_pathFree _ (by decide)

/-- the shipped `_graph_pop` violates `pop_removes_selected`: after popping `Intermediate` from
`m.a = m.b = Intermediate(..)` the path `('b',)` still reaches the selected Variable (finding F12) -/
theorem pop_orig_violates :
    let h : Heap := [.node "M" [(.str "a", .ref 1), (.str "b", .ref 1)], .var ["Intermediate"] 1 []]
    ∃ h' outs, pop false h (.ref 0) [.ofType "Intermediate"] = .ok (h', outs) ∧
      resolve h' (.ref 0) [.str "b"] = some (.ref 1) ∧ sel [.ofType "Intermediate"] h' 1 := by
  refine ⟨[.node "M" [(.str "b", .ref 1)], .var ["Intermediate"] 1 []], [[([.str "a"], .vstate ["Intermediate"] 1 [])]], ?_, ?_, ?_⟩
  · rfl
  · decide +kernel
  · exact ⟨["Intermediate"], 1, [], by decide +kernel, by decide +kernel⟩

/-- with `m.a = m.b = Intermediate(..)`, the shipped definition removes only `a`: `b` still references
the popped Variable -/
theorem pop_orig_leaves_shared_reference :
    let h : Heap := [.node "M" [(.str "a", .ref 1), (.str "b", .ref 1)], .var ["Intermediate"] 1 []]
    (pop false h (.ref 0) [.ofType "Intermediate"]).toOption.map (fun r => r.1[0]?) =
      some (some (.node "M" [(.str "b", .ref 1)])) := by
  decide +kernel

/-- on the same graph the repaired definition removes both `a` and `b` -/
theorem pop_fixed_removes_shared_reference :
    let h : Heap := [.node "M" [(.str "a", .ref 1), (.str "b", .ref 1)], .var ["Intermediate"] 1 []]
    (pop true h (.ref 0) [.ofType "Intermediate"]).toOption.map (fun r => r.1[0]?) =
      some (some (.node "M" [])) := by
  decide +kernel

/-- `m.self = m`, `m.child.parent = m`, one `Param` shared by `m.w`, `m.child.w` and `m.xs[0]`, a dict
inside a list, an array attribute -/
def exHeap : Heap :=
  [ .node "A" [(.str "self", .ref 0), (.str "child", .ref 1), (.str "w", .ref 2),
               (.str "xs", .seq false [.ref 2, .static "i:3", .none, .dict [(.str "k", .array 4)]])],
    .node "B" [(.str "parent", .ref 0), (.str "w", .ref 2), (.str "arr", .array 9)],
    .var ["Param", "Variable"] 5 [("tag", "s:x")] ]

example : Heap.wf exHeap = true ∧ (PVal.ref 0).wf = true := by decide +kernel

example : HeapClosed exHeap ∧ ValClosed exHeap (.ref 0) := by decide +kernel

example : (flatten exHeap (.ref 0)).toOption.map (fun r => (r.2.1.map (·.1), r.2.2)) =
    some ([[.str "child", .str "arr"], [.str "child", .str "w"], [.str "xs", .int 3, .str "k"]], [0, 1, 2]) := by
  decide +kernel

example : (clone exHeap (.ref 0)).toOption.map (fun r => (r.1, r.2.1.length)) = some (.ref 3, 6) := by decide +kernel

example : (split exHeap (.ref 0) [.ofType "Param", .everything]).toOption.map (fun r => r.2.map (·.map (·.1))) =
    some [[[.str "child", .str "w"]], [[.str "child", .str "arr"], [.str "xs", .int 3, .str "k"]]] := by
  decide +kernel

example : (state exHeap (.ref 0) []).toOption.map (·.map (·.map (·.1))) =
    some [[[.str "child", .str "arr"], [.str "child", .str "w"], [.str "xs", .int 3, .str "k"]]] := by decide +kernel

/-- a cycle `m.child.parent = m` and one `Intermediate` shared by `m.i`, `m.child.i` and `m.child.j` -/
def exHeapP : Heap :=
  [ .node "A" [(.str "child", .ref 1), (.str "i", .ref 2), (.str "w", .ref 3)],
    .node "B" [(.str "parent", .ref 0), (.str "j", .ref 2), (.str "i", .ref 2)],
    .var ["Intermediate", "Variable"] 5 [],
    .var ["Param", "Variable"] 7 [] ]

example : Heap.wf exHeapP = true := by decide +kernel

/-- `pop_exact`'s hypothesis holds here; all three references to the shared Variable are removed, it is
returned once, under `('child', 'i')` -/
example : (pop true exHeapP (.ref 0) [.ofType "Intermediate"]).toOption =
    some ([ .node "A" [(.str "child", .ref 1), (.str "w", .ref 3)], .node "B" [(.str "parent", .ref 0)],
            .var ["Intermediate", "Variable"] 5 [], .var ["Param", "Variable"] 7 [] ],
          [[([.str "child", .str "i"], .vstate ["Intermediate", "Variable"] 5 [])]]) := by decide +kernel

/-- `m.child.arr = array(9)` rewritten through the path `('child', 'arr')` -/
example : (update exHeap (.ref 0) (chain [.str "child", .str "arr"] (.arr 11))).toOption.map (·[1]?) =
    some (some (.node "B" [(.str "parent", .ref 0), (.str "w", .ref 2), (.str "arr", .array 11)])) := by decide +kernel

end Flax.C03
