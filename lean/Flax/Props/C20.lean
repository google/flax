/-
C20 — Host-side data helpers preserve values and order for any batch size and schedule.
-/
import Flax.Proofs.PrefetchRefine
import Flax.Proofs.PrefetchGen
import Flax.Proofs.HostDataScan
import Flax.Proofs.HostDataBatch
import Flax.Proofs.ListLemmas
import Flax.Proofs.Except

namespace Flax.C20
open Flax.Prefetch

section Lts
variable {α ε : Type}

/-- Trace conformance against the source (`rem` = items not yet delivered): an item must be the next
source item; `StopIteration` may come at any time (after `close()`); an exception must be the
source's own and may only be seen once every item has been delivered. -/
def wellFormed (ending : Ending ε) : List α → List (Obs α ε) → Prop
  | _, [] => True
  | rem, .item a :: os => rem.head? = some a ∧ wellFormed ending rem.tail os
  | rem, .stop :: os => wellFormed ending rem os
  | rem, .exc e :: os => rem = [] ∧ ending = .raises e ∧ wellFormed ending rem os

private theorem wellFormed_of_trace {ending : Ending ε} {strict : Prop} {r r' : List α} {tr : List (Obs α ε)}
    (h : Trace ending strict r tr r') : wellFormed ending r tr := by
  induction h with
  | nil => trivial
  | cons h1 _ ih =>
    cases h1 with
    | item => exact ⟨rfl, ih⟩
    | ending => cases ending <;> first | exact ih | exact ⟨rfl, rfl, ih⟩
    | closed => exact ih

/-- **Safety with `close()`, for either constructor ordering.**  For every schedule, `close()` calls at
arbitrary points included: the delivered items are a prefix of the source (none invented,
duplicated, reordered or skipped), and an exception is the source's own, seen only after all items.
(The original ordering can lose the exception: `prefetch_iterator_orig_loses_exception`.) -/
theorem prefetch_iterator_close_safety (v : Variant) (items : List α) (ending : Ending ε) (bs : Nat)
    (sched : List Label) (s : St α ε) (h : run v bs ending sched (init items) = some s) :
    wellFormed ending items s.out ∧ ∃ k, itemsOf s.out = items.take k := by
  have ht := (run_refines (strict := False) nofun h).trace
  exact ⟨wellFormed_of_trace ht, (itemsOf s.out).length, by rw [← ht.items, List.take_left']; rfl⟩

/-- **All schedules (safety).**  Repaired `PrefetchIterator`, any source (`items`, then `StopIteration`
or an exception, at any position including the first), any `buffer_size`, every interleaving of
constructor, producer and `next` steps (no `close()`): what `next` has produced so far is a prefix of the
source's items, in order, each once, followed only by the source's own ending, and the ending is
seen only after *all* items. -/
theorem prefetch_iterator_all_schedules (items : List α) (ending : Ending ε) (bs : Nat)
    (sched : List Label) (hnc : Label.close ∉ sched) (s : St α ε)
    (h : run .fixed bs ending sched (init items) = some s) :
    ∃ k m, k ≤ items.length ∧
      s.out = (items.take k).map Obs.item ++ List.replicate m ending.obs ∧
      (0 < m → k = items.length) := by
  exact (run_refines (strict := True) (fun _ => ⟨rfl, hnc⟩) h).trace.strict

/-- Corollary, the case of finding F5: the source raises on its **first** `next()`.  Under every
interleaving without `close()` the consumer sees nothing but that exception. -/
theorem prefetch_iterator_exception_on_first_item (e : ε) (bs : Nat) (sched : List Label)
    (hnc : Label.close ∉ sched) (s : St α ε)
    (h : run .fixed bs (.raises e) sched (init []) = some s) :
    ∃ m, s.out = List.replicate m (Obs.exc e) := by
  obtain ⟨k, m, _, hout, _⟩ := prefetch_iterator_all_schedules [] (.raises e) bs sched hnc s h
  exact ⟨m, by simpa [Ending.obs] using hout⟩

/-- **No deadlock.**  With `buffer_size ≥ 1`, in every state reachable under any interleaving without
`close()` some thread can move (and after the end `next` keeps answering). -/
theorem prefetch_iterator_no_deadlock (items : List α) (ending : Ending ε) (bs : Nat) (hbs : 1 ≤ bs)
    (sched : List Label) (hnc : Label.close ∉ sched) (s : St α ε)
    (h : run .fixed bs ending sched (init items) = some s) :
    ∃ l, l ≠ Label.close ∧ (step .fixed bs ending l s).isSome = true := by
  exact (run_refines (strict := True) (fun _ => ⟨rfl, hnc⟩) h).enabled .fixed hbs

/-- **Everything is delivered under every interleaving without `close()`.**  After `4·n + 6` steps
the consumer has received all `n` items, in order, and then only the source's ending, at least once.
Together with `prefetch_iterator_no_deadlock` (a run can always be extended) this is total
correctness: every maximal interleaving delivers exactly the source. -/
theorem prefetch_iterator_delivers_everything (items : List α) (ending : Ending ε) (bs : Nat)
    (sched : List Label) (hnc : Label.close ∉ sched) (s : St α ε)
    (h : run .fixed bs ending sched (init items) = some s)
    (hlen : 4 * items.length + 6 ≤ sched.length) :
    ∃ m, 1 ≤ m ∧ s.out = items.map Obs.item ++ List.replicate m ending.obs := by
  obtain ⟨k, m, hk, hout, hm⟩ := prefetch_iterator_all_schedules items ending bs sched hnc s h
  -- `4n + 6` steps exceed the initial potential `3n + 5` by more than the `k ≤ n` items delivered
  have hb := run_potential .fixed bs ending sched hnc _ _ h
  have hl : s.out.length = k + m := by
    rw [hout, List.length_append, List.length_map, List.length_take, List.length_replicate, Nat.min_eq_left hk]
  have hm1 : 1 ≤ m := by
    rw [hl] at hb
    have : sched.length ≤ (3 + 3 * items.length + 2) + (k + m) :=
      Nat.le_trans (Nat.le_add_right _ _) (Nat.le_trans (Nat.le_add_right _ _) hb)
    omega
  cases hm hm1
  exact ⟨m, hm1, by simpa using hout⟩

private theorem orig_fill (v : Variant) (bs : Nat) (ending : Ending ε) (err : Option (Ending ε))
    (out : List (Obs α ε)) :
    ∀ (items buf : List α), buf.length + items.length < bs →
      run v bs ending ((List.replicate items.length ()).flatMap (fun _ => [Label.fetch, Label.put]))
          ⟨2, items, .fetch, buf, true, err, out⟩
        = some ⟨2, [], .fetch, buf ++ items, true, err, out⟩ := by
  intro items
  induction items with
  | nil => intro buf _; simp
  | cons x xs ih =>
    intro buf hlt
    simp only [List.length_cons] at hlt
    have hp : prodPred bs (⟨2, xs, .haveItem x, buf ++ [x], true, err, out⟩ : St α ε) = true := by
      simp [prodPred]; omega
    simp only [List.length_cons, List.replicate_succ, List.flatMap_cons, List.cons_append, List.nil_append,
      run, step]
    simpa [hp, afterWait] using ih (buf ++ [x]) (by simp; omega)

private theorem orig_drain (v : Variant) (bs : Nat) (ending : Ending ε) (err : Option (Ending ε)) :
    ∀ (items : List α) (out : List (Obs α ε)),
      run v bs ending (List.replicate items.length Label.next) ⟨3, [], .done, items, false, err, out⟩
        = some ⟨3, [], .done, [], false, err, out ++ items.map Obs.item⟩ := by
  intro items
  induction items with
  | nil => intro out; simp
  | cons x xs ih =>
    intro out
    simp only [List.length_cons, List.replicate_succ, run, step]
    simp [ih]

/-- the schedule on which the original ordering loses the source's exception: the producer runs until
it has stored the exception *before* the constructor executes its trailing `self._error = None` -/
def origSchedule (n : Nat) : List Label :=
  [.ctor, .ctor] ++ (List.replicate n ()).flatMap (fun _ => [Label.fetch, Label.put])
    ++ [.fetch, .fail, .ctor] ++ List.replicate n .next ++ [.next]

/-- **Finding F5 (fixed by the `fix:` commit), in general form.**  With `start()` before
`_error = None` in the constructor, for *every* source that raises `e` after fewer items than
`buffer_size` (in particular on its first `next()`, for every `buffer_size ≥ 1`) there is an
interleaving without `close()` on which the consumer receives the items and then a clean
`StopIteration`: the exception is lost. -/
theorem prefetch_iterator_orig_loses_exception (items : List α) (e : ε) (bs : Nat)
    (hlt : items.length < bs) :
    ∃ s, run .orig bs (.raises e) (origSchedule items.length) (init items) = some s ∧
      s.out = items.map Obs.item ++ [Obs.stop] ∧ Label.close ∉ origSchedule items.length := by
  refine ⟨⟨3, [], .done, [], false, none, items.map Obs.item ++ [Obs.stop]⟩, ?_, rfl, by simp [origSchedule]⟩
  have h1 : run .orig bs (.raises e) [.ctor, .ctor] (init items)
      = some ⟨2, items, .fetch, [], true, none, []⟩ := rfl
  have h2 := orig_fill (α := α) .orig bs (.raises e) none [] items [] (by simpa using hlt)
  have h3 : run .orig bs (.raises e) [.fetch, .fail, .ctor] (⟨2, [], .fetch, [] ++ items, true, none, []⟩ : St α ε)
      = some ⟨3, [], .done, items, false, none, []⟩ := rfl
  have h4 := orig_drain (α := α) .orig bs (.raises e) none items []
  have h5 : run .orig bs (.raises e) [.next] (⟨3, [], .done, [], false, none, [] ++ items.map Obs.item⟩ : St α ε)
      = some ⟨3, [], .done, [], false, none, items.map Obs.item ++ [Obs.stop]⟩ := rfl
  simp only [origSchedule, run_append, h1, h2, h3, h4, h5, Option.bind_some]

/-- Finding F5 on its smallest instance, by evaluation: the source raises on its first `next()`,
`buffer_size = 1`, schedule `start; next raises; store error; _error := None; consumer`. -/
theorem prefetch_iterator_orig_counterexample :
    (run .orig 1 (.raises 7) [.ctor, .ctor, .fetch, .fail, .ctor, .next] (init ([] : List Nat))).map (·.out)
      = some [Obs.stop] := by decide

/-- the repaired ordering delivers the exception on the same schedule -/
theorem prefetch_iterator_fixed_same_schedule :
    (run .fixed 1 (.raises 7) [.ctor, .ctor, .fetch, .fail, .ctor, .next] (init ([] : List Nat))).map (·.out)
      = some [Obs.exc 7] := by decide

/-- **Finding F5b (fixed by the second `fix:` commit).**  Before it, `__next__` tested the
truth value of the stored exception: a source exception whose instance is falsy was replaced by a
clean `StopIteration`; the repaired tail (`is not None`, the one the transition system uses)
re-raises every stored exception. -/
theorem next_tail_orig_drops_falsy_exception (e : ε) :
    nextTailOrig (α := α) (fun _ => false) (some (.raises e)) = Obs.stop ∧
    nextTail (α := α) (some (.raises e)) = Obs.exc e ∧
    (∀ (s s' : St α ε) (bs : Nat) (ending : Ending ε) (v : Variant), s.ctor = 3 → s.buffer = [] → s.active = false →
      step v bs ending .next s = some s' → s'.out = s.out ++ [nextTail s.error]) := by
  refine ⟨rfl, rfl, ?_⟩
  intro s s' bs ending v hc hb ha h
  cases Step.of_step h with
  | nextItem _ hb' => rw [hb] at hb'; cases hb'
  | nextEnd => rfl

/-- **Why `_active` must be cleared under the lock.**  If the exception handler executes
`self._active = False` before entering `with self._cond:`, the consumer can run between the two
writes: it finds the iterator inactive, the buffer empty and no error yet, and reports a clean
`StopIteration`; the exception only shows on a later `next()`.  (The handler as it is, one critical
section, is the `fail` step.) -/
theorem prefetch_iterator_unlocked_active_counterexample :
    (runUnlockedActive 1 (.raises 7) [.ctor, .ctor, .ctor, .fetch, .fail, .next, .fail, .next]
        ⟨init ([] : List Nat), none⟩).map (·.s.out)
      = some [Obs.stop, Obs.exc 7] := by decide

/-- `buffer_size = 0` is an excluded point, not covered by `prefetch_iterator_no_deadlock`: after the
first item the producer waits for `len(buffer) < 0` and the consumer for an item — nothing but
`close()` can move. -/
theorem prefetch_iterator_buffer0_deadlocks :
    (run .fixed 0 (Ending.stop (ε := Nat)) [.ctor, .ctor, .ctor, .fetch, .put, .next] (init [1, 2])).map
        (fun s => (s.out, enabled .fixed 0 (Ending.stop (ε := Nat)) s))
      = some ([Obs.item 1], [Label.close]) := by decide

example : (run .fixed 1 (.raises 9) [.ctor, .ctor, .fetch, .ctor, .put, .next, .wake, .fetch, .put, .next,
      .wake, .fetch, .fail, .next, .next] (init [1, 2])).map (·.out)
    = some [Obs.item 1, Obs.item 2, Obs.exc 9, Obs.exc 9] := by decide

example : (run .fixed 2 (Ending.stop (ε := Nat)) [.ctor, .ctor, .fetch, .put, .fetch, .put, .ctor, .next, .wake,
      .fetch, .fail, .next, .next] (init [1, 2])).map (·.out)
    = some [Obs.item 1, Obs.item 2, Obs.stop] := by decide

-- a schedule of length 4·n+6 (n = 1) as required by `prefetch_iterator_delivers_everything`
example : (run .fixed 1 (.raises 9) [.ctor, .ctor, .ctor, .fetch, .put, .next, .wake, .fetch, .fail, .next]
      (init [5])).map (·.out) = some [Obs.item 5, Obs.exc 9] := by decide

-- `close()` in the middle: a prefix, then `StopIteration`, then (the producer still held a fetched
-- item) one more item — allowed by `wellFormed`; "then stop" is claimed only without `close()`
example : (run .fixed 1 (.raises 9) [.ctor, .ctor, .ctor, .fetch, .close, .next, .put, .next, .next]
      (init [5, 6])).map (·.out) = some [Obs.stop, Obs.item 5, Obs.stop] := by decide

example : wellFormed (Ending.raises 9) [5, 6] [Obs.stop, Obs.item 5, Obs.stop] := by simp [wellFormed]
example : ¬ wellFormed (Ending.raises 9) [5, 6] [Obs.item 5, Obs.exc 9] := by simp [wellFormed]
example : ¬ wellFormed (Ending.raises 9) [5, 6] [Obs.item 6] := by simp [wellFormed]

end Lts

section Ptd
variable {α ε : Type}

/-- **prefetch_to_device, order.**  For every source length and every buffer `size ≥ 1`, `k` calls of
`next` on the generator produce exactly the first `k` of: the source's items in order, each once,
then `StopIteration` for ever. -/
theorem prefetch_to_device_order (items : List α) (size : Nat) (hs : 1 ≤ size) (k : Nat) :
    genRun size (Ending.stop (ε := ε)) k (genInit items) = firstK (items.map Obs.item) k := by
  rw [← firstK_stop]
  exact genRun_eq size .stop k false [] items (by simpa using hs)

/-- **prefetch_to_device delivers all.**  For any item type `α` (the statement is parametric, so no
value, `None` or falsy or equal to its neighbour, can act as an end-of-stream sentinel), every
source and every `size ≥ 1`: the first `n + k` calls of `next` give exactly the `n` source items, in
order, each once, and then `k` times `StopIteration`. -/
theorem prefetch_to_device_delivers_all (items : List α) (size : Nat) (hs : 1 ≤ size) (k : Nat) :
    genRun size (Ending.stop (ε := ε)) (items.length + k) (genInit items)
      = items.map Obs.item ++ List.replicate k Obs.stop := by
  rw [prefetch_to_device_order items size hs, firstK]
  have h : (items.map (Obs.item (ε := ε))).length = items.length := by simp
  rw [← h, List.take_length_add_append, List.take_replicate]
  congr 2; omega

/-- **prefetch_to_device with a raising source** (the code as it is: a generator).  The exception
surfaces at the `next` that pulled it from the source: the consumer gets the first `n + 1 - size`
items, then the exception, then `StopIteration`; the `min (size-1) n` items already buffered are
dropped. -/
theorem prefetch_to_device_exception (items : List α) (e : ε) (size : Nat) (hs : 1 ≤ size) (k : Nat) :
    genRun size (Ending.raises e) k (genInit items)
      = firstK (((items.take (items.length + 1 - size)).map Obs.item) ++ [Obs.exc e]) k := by
  exact genRun_eq size (.raises e) k false [] items (by simpa using hs)

/-- with `size = 1` the exception clause of the property holds for `prefetch_to_device` too -/
theorem prefetch_to_device_exception_size1 (items : List α) (e : ε) (k : Nat) :
    genRun 1 (Ending.raises e) k (genInit items) = firstK ((items.map Obs.item) ++ [Obs.exc e]) k := by
  have := prefetch_to_device_exception items e 1 (by omega) k
  simpa using this

/-- `size = 0` is an excluded point: the generator yields nothing, whatever the source holds. -/
theorem prefetch_to_device_size0 (items : List α) (ending : Ending ε) (k : Nat) :
    genRun 0 ending k (genInit items) = List.replicate k Obs.stop := by
  cases k with
  | zero => rfl
  | succ k => simp [genRun, genNext, genInit, enqueue, genRun_finished, List.replicate_succ]

example : genRun 2 (Ending.stop (ε := Nat)) 5 (genInit [1, 2, 3]) = [.item 1, .item 2, .item 3, .stop, .stop] := by decide
example : genRun 2 (Ending.raises 9) 5 (genInit [1, 2, 3]) = [.item 1, .item 2, .exc 9, .stop, .stop] := by decide
example : genRun 1 (Ending.raises 9) 5 (genInit [1, 2, 3]) = [.item 1, .item 2, .item 3, .exc 9, .stop] := by decide
-- a source whose second item is the distinguished "nothing" value: delivered like any other item
example : genRun 2 (Ending.stop (ε := Nat)) 4 (genInit [some 1, none, some 3])
    = [.item (some 1), .item none, .item (some 3), .stop] := by decide
example : genRun 1 (Ending.stop (ε := Nat)) 4 (genInit [(none : Option Nat), none, none])
    = [.item none, .item none, .item none, .stop] := by decide
example : firstK [Obs.item 1, Obs.exc 9] 4 = [Obs.item 1, Obs.exc 9, Obs.stop, (Obs.stop : Obs Nat Nat)] := by decide

end Ptd

section Host
open Flax.HostData
variable {α β γ : Type}

private theorem chunks_map (f : α → β) : ∀ (d db : Nat) (xs : List α),
    (chunks d db xs).map (fun c => c.map f) = chunks d db (xs.map f) := by
  intro d
  induction d with
  | zero => intro db xs; simp [chunks]
  | succ d ih => intro db xs; simp [chunks, ih, List.map_take, List.map_drop]

/-- **What `wrapped` receives.**  For every batch size `b` (also 0), device count `d ≥ 1` and
`min_device_batch` (`0` = `None`): padding succeeds (the reshape is always legal), the result has
exactly `d` device rows of `db = max ⌈b/d⌉ min_device_batch` examples each, and read device-major it
is the original batch followed only by zero rows. -/
theorem pad_shape (z : α) (d mdb : Nat) (hd : 1 ≤ d) (xs : List α) :
    ∃ p, pad z d mdb xs.length xs = some p ∧ p.length = d ∧
      (∀ c ∈ p, c.length = paddedDb d mdb xs.length) ∧ mdb ≤ paddedDb d mdb xs.length ∧
      p.flatten = xs ++ List.replicate (d * paddedDb d mdb xs.length - xs.length) z := by
  obtain ⟨hp, hle⟩ := pad_eq z d mdb _ hd xs rfl
  refine ⟨_, hp, chunks_length _ _ _, chunks_each _ _ _ (by simp; omega),
    Nat.le_max_right _ _, ?_⟩
  rw [chunks_flatten, List.take_of_length_le (by simp; omega)]

/-- **pad_shard_unpad is the identity around a per-example function.**  For every batch size
(divisible by the device count or not), every `d ≥ 1`, every `min_device_batch` and every
per-example `f`: un-padding the result of `f` on the padded, sharded batch gives exactly `f` on the
original batch. -/
theorem pad_unpad_identity (z : α) (f : α → β) (d mdb : Nat) (hd : 1 ≤ d) (xs : List α) :
    padShardUnpad z f d mdb xs = some (xs.map f) := by
  obtain ⟨p, hp, _, _, _, hflat⟩ := pad_shape z d mdb hd xs
  simp only [padShardUnpad, hp, Option.map_some, unpad]
  congr 1
  have : (p.map (fun c => c.map f)).flatten = (p.flatten).map f := by
    simp [List.map_flatten]
  rw [this, hflat, List.map_append, List.take_left' (by simp)]

/-- `pad_shard_unpad` is the identity around a per-example function of two leaves of different row
types (a pytree of inputs); nested pairs give any finite pytree. -/
theorem pad_unpad_identity_two_leaves (za : α) (zb : β) (f : α → β → γ) (d mdb : Nat) (hd : 1 ≤ d)
    (xs : List α) (ys : List β) (hlen : xs.length = ys.length) :
    padShardUnpad2 za zb f d mdb xs ys = some (List.zipWith f xs ys) := by
  obtain ⟨hp, hle⟩ := pad_eq za d mdb _ hd xs rfl
  have hq := (pad_eq zb d mdb _ hd ys hlen.symm).1
  have hbs : batchSize [xs.length, ys.length] = some xs.length := by simp [batchSize, hlen]
  simp only [padShardUnpad2, hbs, hp, hq, unpad]
  congr 1
  rw [chunks_zipWith, chunks_flatten, List.zipWith_append hlen, List.take_take, Nat.min_eq_left hle]
  exact List.take_left' (by simp [List.length_zipWith]; omega)

theorem pad_rejects_inconsistent_batch (za : α) (zb : β) (f : α → β → γ) (d mdb : Nat)
    (xs : List α) (ys : List β) (hlen : xs.length ≠ ys.length) :
    padShardUnpad2 za zb f d mdb xs ys = none := by
  have : ¬ (ys.length = xs.length) := fun h => hlen h.symm
  simp [padShardUnpad2, batchSize, this]

example : pad (0 : Nat) 2 4 5 [1, 2, 3, 4, 5] = some [[1, 2, 3, 4], [5, 0, 0, 0]] := by decide
example : padShardUnpad (0 : Nat) (· * 2) 3 0 [1, 2, 3, 4, 5] = some [2, 4, 6, 8, 10] := by decide
example : paddedDb 3 0 5 = 2 ∧ paddedDb 2 4 5 = 4 ∧ paddedDb 4 0 8 = 2 := by decide

/-- `unreplicate ∘ replicate = id` for every device count `d ≥ 1` -/
theorem unreplicate_replicate (d : Nat) (hd : 1 ≤ d) (x : α) : unreplicate (replicate d x) = some x := by
  obtain ⟨k, rfl⟩ : ∃ k, d = k + 1 := ⟨d - 1, by omega⟩
  simp [unreplicate, replicate, List.replicate_succ]

/-- `shard` is the reshape `(d, b/d, …)`: defined exactly when `d ∣ b` (for `b, d ≥ 1`), and then it
is `d` consecutive chunks of `b/d` rows whose concatenation is the batch. -/
theorem shard_spec (d : Nat) (hd : 1 ≤ d) (xs : List α) (hb : 1 ≤ xs.length) :
    (xs.length % d = 0 → ∃ p, shard d xs = some p ∧ p.length = d ∧ (∀ c ∈ p, c.length = xs.length / d) ∧ p.flatten = xs) ∧
    (xs.length % d ≠ 0 → shard d xs = none) := by
  constructor
  · intro h
    have hmul : xs.length = d * (xs.length / d) := by
      have := Nat.div_add_mod xs.length d; omega
    refine ⟨chunks d (xs.length / d) xs, ?_, chunks_length _ _ _, chunks_each _ _ _ hmul, ?_⟩
    · have h0 : d ≠ 0 := by omega
      have hne : xs ≠ [] := by intro hx; simp [hx] at hb
      simp [shard, h0, hne, h]
    · rw [chunks_flatten, ← hmul, List.take_length]
  · intro h
    simp [shard, h]

/-- `stack_forest` stacks leaf-wise: leaf `p` of the result, position `i`, is leaf `p` of tree `i`
(for a non-empty forest of trees with the same number of leaves). -/
theorem stack_forest_spec (t : List α) (ts : List (List α)) (h : ∀ u ∈ ts, u.length = t.length) :
    ∃ r, stackForest (t :: ts) = some r ∧ r.length = t.length ∧
      ∀ (p i : Nat), p < t.length →
        (r[p]?.bind (fun (row : List α) => row[i]?)) = ((t :: ts)[i]?.bind (fun (u : List α) => u[p]?)) := by
  have hall : ts.all (fun u => decide (u.length = t.length)) = true := by
    simpa [List.all_eq_true] using h
  refine ⟨(List.range t.length).map (fun p => (t :: ts).filterMap (fun u => u[p]?)), ?_, by simp, ?_⟩
  · simp only [stackForest, hall, if_true]
  intro p i hp
  simp only [List.getElem?_map, List.getElem?_range hp, Option.map_some, Option.bind_some]
  refine Lists.getElem?_filterMap_of_isSome (t :: ts) ?_ i
  intro u hu
  have hlen : u.length = t.length := by
    rcases List.mem_cons.mp hu with rfl | hu
    · rfl
    · exact h u hu
  rw [List.getElem?_eq_getElem (by rw [hlen]; exact hp)]; rfl

theorem stack_forest_rejects_mismatch (t : List α) (ts : List (List α)) (u : List α) (hu : u ∈ ts)
    (hne : u.length ≠ t.length) : stackForest (t :: ts) = none := by
  have : ¬ (ts.all (fun u => decide (u.length = t.length)) = true) := by
    simp only [List.all_eq_true, decide_eq_true_eq]; intro h; exact hne (h u hu)
  simp [stackForest, this]

/-- `get_metrics` on metrics replicated over `d ≥ 1` devices is `stack_forest` of the metrics -/
theorem get_metrics_spec (d : Nat) (hd : 1 ≤ d) (steps : List (List α)) :
    getMetrics (steps.map (fun tree => tree.map (replicate d))) = stackForest steps := by
  have h1 (tree : List α) : (tree.map (replicate d)).mapM unreplicate = some tree := by
    rw [mapM_map_eq_some (h := id) tree fun x _ => unreplicate_replicate d hd x, List.map_id]
  rw [getMetrics, mapM_map_eq_some (h := id) steps fun tree _ => h1 tree, List.map_id]

/-- `onehot` is the indicator: entry `(j, c)` is `on` iff `labels[j] = c`, for `c < num_classes`;
labels outside `[0, num_classes)` give an all-`off` row. -/
theorem onehot_indicator (labels : List Int) (n : Nat) (on off : β) (j c : Nat) (hc : c < n) :
    ((onehot labels n on off)[j]?.bind (fun (row : List β) => row[c]?)) = labels[j]?.map (fun l => if l = Int.ofNat c then on else off) := by
  simp only [onehot, List.getElem?_map]
  cases labels[j]? with
  | none => simp
  | some l => simp [List.getElem?_range hc]

/-- Every element of `onehot` **is** `on` or `off` (the model is parametric in the value type, so no
arithmetic is performed on the two values: `0 / -inf` masks and label-smoothing constants come out
as given). -/
theorem onehot_values_exact (labels : List Int) (n : Nat) (on off : β) :
    ∀ row ∈ onehot labels n on off, ∀ v ∈ row, v = on ∨ v = off := by
  intro row hrow v hv
  simp only [onehot, List.mem_map] at hrow
  obtain ⟨l, _, rfl⟩ := hrow
  simp only [List.mem_map] at hv
  obtain ⟨c, _, rfl⟩ := hv
  split
  · exact Or.inl rfl
  · exact Or.inr rfl

theorem onehot_shape (labels : List Int) (n : Nat) (on off : β) :
    (onehot labels n on off).length = labels.length ∧ ∀ row ∈ onehot labels n on off, row.length = n := by
  constructor
  · simp [onehot]
  · intro row h; simp only [onehot, List.mem_map] at h; obtain ⟨l, _, rfl⟩ := h; simp

example : onehot [0, 2, -1, 5] 3 (1 : Nat) 0 = [[1, 0, 0], [0, 0, 1], [0, 0, 0], [0, 0, 0]] := by decide
example : stackForest [[1, 2], [3, 4], [5, 6]] = some [[1, 3, 5], [2, 4, 6]] := by decide
example : shard 2 [1, 2, 3, 4] = some [[1, 2], [3, 4]] ∧ shard 3 [1, 2, 3, 4] = none := by decide

end Host

section Scan
open Flax.HostData
variable {α β γ : Type}

/-- **`_invert_perm` is the inverse permutation**, for every permutation of `0 .. n-1`:
`inv[perm[k]] = k`, `perm[inv[m]] = m`, and `inv` is a permutation again. -/
theorem invert_perm_inverse (perm : List Nat) (hp : IsPerm perm) :
    (invertPerm perm).length = perm.length ∧ IsPerm (invertPerm perm) ∧
    (∀ k (hk : k < perm.length), (invertPerm perm)[perm[k]]? = some k) ∧
    (∀ m, m < perm.length → ∃ k, (invertPerm perm)[m]? = some k ∧ perm[k]? = some m) := by
  refine ⟨invertPerm_length perm hp, invertPerm_isPerm perm hp, invertPerm_left perm hp, ?_⟩
  intro m hm
  obtain ⟨k, _, h1, h2⟩ := invertPerm_right perm hp m hm
  exact ⟨k, h1, h2⟩

/-- **The permutation `axis + delete(arange(ndim), axis)` is a permutation of `0 .. ndim-1`** for every
tuple of distinct in-range axes, in any order: the scanned axes first (in the given order), then
the remaining axes in increasing order. -/
theorem scan_perm_is_permutation (axis : List Nat) (ndim : Nat) (h : ValidAxes axis ndim) :
    IsPerm (scanPerm axis ndim) ∧ (scanPerm axis ndim).length = ndim ∧
    scanPerm axis ndim = axis ++ restAxes axis ndim :=
  ⟨scanPerm_isPerm axis ndim h, scanPerm_length axis ndim h, rfl⟩

/-- **`transpose_out ∘ transpose_in = id`** on every array and for every valid axis tuple: same
shape, same element at every index. -/
theorem transpose_out_in_id (axis : List Nat) (x : Arr α) (h : ValidAxes axis x.shape.length) :
    (transposeOut axis (transposeIn axis x)).shape = x.shape ∧
    ∀ idx, idx.length = x.shape.length → (transposeOut axis (transposeIn axis x)).get idx = x.get idx :=
  ⟨transposeOut_transposeIn_shape axis x h, transposeOut_transposeIn_get axis x h⟩

/-- **`_scan_nd` is the nested loop**: scanning the `k+1` leading axes visits the multi-indices in
row-major (`itertools.product`) order threading the carry, and stacks the outputs:
`ys[m ++ r] = y_m[r]`. (`lax.scan` itself is assumption A-SCAN, rendered by `scan1`.) -/
theorem scan_nd_eq_nested_fold (body : γ → Arr α → γ × Arr β) (k : Nat) (init : γ) (x : Arr α)
    (hr : k + 1 ≤ x.shape.length) :
    (scanNd body k init x).1
        = (runLoop (fun c m => body c (x.sliceAt m)) (allIdx (x.shape.take (k + 1))) init).1 ∧
    (∀ m y, (m, y) ∈ (runLoop (fun c m => body c (x.sliceAt m)) (allIdx (x.shape.take (k + 1))) init).2 →
      ∀ r, (scanNd body k init x).2.get (m ++ r) = y.get r) ∧
    (scanNd body k init x).2.shape
        = x.shape.take (k + 1) ++ (body init (x.sliceAt (List.replicate (k + 1) 0))).2.shape :=
  by rw [scanNd_eq_scanAx]
     exact ⟨(scanAx_runLoop body (k + 1) init x hr).1, (scanAx_runLoop body (k + 1) init x hr).2,
       scanAx_shape body (k + 1) init x hr⟩

/-- the index into an array of rank `n` that is `m` on the scanned axes and `r` on the other axes -/
def fullIdx (axis : List Nat) (n : Nat) (m r : List Nat) : List Nat := srcIdx n (scanPerm axis n) (m ++ r)

/-- `xs[…, m_j at axis_j, …]` with the scanned axes removed: what one iteration of the nested Python
loop hands to the body (`keepdims=False`) -/
def sliceAxes (x : Arr α) (axis m : List Nat) : Arr α :=
  { shape := gather (restAxes axis x.shape.length) x.shape,
    get := fun r => x.get (fullIdx axis x.shape.length m r) }

/-- `fullIdx` really is "`m` on the scanned axes": position `axis[j]` holds `m[j]`. -/
theorem fullIdx_on_axis (axis : List Nat) (n : Nat) (h : ValidAxes axis n) (m r : List Nat)
    (hm : m.length = axis.length) (j : Nat) (hj : j < axis.length) :
    (fullIdx axis n m r)[axis[j]]? = some (m.getD j 0) := by
  have hq : (scanPerm axis n)[j]? = some axis[j] := by
    rw [scanPerm_eq, List.getElem?_append_left hj, List.getElem?_eq_getElem hj]
  rw [fullIdx, srcIdx_getElem? (scanPerm_isPerm axis n h).nodup hq (h.lt _ (List.getElem_mem _)),
    List.getD_eq_getElem?_getD, List.getD_eq_getElem?_getD, List.getElem?_append_left (by omega)]

/-- Position `rest[i]` of `fullIdx` (the `i`-th non-scanned axis) holds `r[i]`. -/
theorem fullIdx_on_rest (axis : List Nat) (n : Nat) (h : ValidAxes axis n) (m r : List Nat)
    (hm : m.length = axis.length) (i : Nat) (hi : i < (restAxes axis n).length) :
    (fullIdx axis n m r)[(restAxes axis n)[i]]? = some (r.getD i 0) := by
  have hq : (scanPerm axis n)[axis.length + i]? = some (restAxes axis n)[i] := by
    rw [scanPerm_eq, List.getElem?_append_right (Nat.le_add_right _ _), Nat.add_sub_cancel_left,
      List.getElem?_eq_getElem hi]
  have hlt : (restAxes axis n)[i] < n := List.mem_range.mp (List.mem_filter.mp (List.getElem_mem hi)).1
  rw [fullIdx, srcIdx_getElem? (scanPerm_isPerm axis n h).nodup hq hlt, List.getD_eq_getElem?_getD,
    List.getD_eq_getElem?_getD, List.getElem?_append_right (by omega), hm, Nat.add_sub_cancel_left]

private theorem sliceAt_transposeIn (xs : Arr α) (axis m : List Nat) (hm : m.length = axis.length) :
    (transposeIn axis xs).sliceAt m = sliceAxes xs axis m := by
  have hshape : (transposeIn axis xs).shape = gather axis xs.shape ++ gather (restAxes axis xs.shape.length) xs.shape := by
    rw [transposeIn_shape, scanPerm_eq, gather_append]
  simp only [Arr.sliceAt, sliceAxes, hshape]
  congr 1
  rw [List.drop_left' (by rw [gather_length]; exact hm.symm)]

/-- **scan_in_dim equals the nested Python loop over the chosen axes** (`keepdims=False`), for
every array, every non-empty tuple of distinct axes *in any order*, every body and initial carry:

* the final carry is the carry of `for m in itertools.product(*[range(xs.shape[a]) for a in axis]):
  c, y = body(c, xs[m on the axes])`;
* the scanned axes return to their positions `axis` in the result, whose rank `n'` is
  `len(axis) + rank(y)`: `ys[idx] = y_m[idx on the other axes]` with `m = idx on the scanned axes`
  (provided the axes fit into that rank — NumPy raises otherwise);
* the result's shape, read through the same permutation, is the scanned extents followed by `y.shape`. -/
theorem scan_in_dim_eq_nested_loop_nokeep (body : γ → Arr α → γ × Arr β) (init : γ) (xs : Arr α)
    (axis : List Nat) (hne : axis ≠ []) (hv : ValidAxes axis xs.shape.length) :
    (scanInDim body init xs axis false).1
        = (runLoop (fun c m => body c (sliceAxes xs axis m)) (allIdx (gather axis xs.shape)) init).1 ∧
    ∀ n', n' = axis.length + (body init (sliceAxes xs axis (List.replicate axis.length 0))).2.shape.length →
      ValidAxes axis n' →
      (∀ m y, (m, y) ∈ (runLoop (fun c m => body c (sliceAxes xs axis m)) (allIdx (gather axis xs.shape)) init).2 →
        ∀ idx, idx.length = n' → gather axis idx = m →
          (scanInDim body init xs axis false).2.get idx = y.get (gather (restAxes axis n') idx)) ∧
      gather (scanPerm axis n') (scanInDim body init xs axis false).2.shape
        = gather axis xs.shape ++ (body init (sliceAxes xs axis (List.replicate axis.length 0))).2.shape := by
  have hkn : axis.length ≤ (transposeIn axis xs).shape.length := by
    rw [transposeIn_rank axis xs hv]; exact axis_length_le axis _ hv
  have htake : (transposeIn axis xs).shape.take axis.length = gather axis xs.shape := by
    rw [transposeIn_shape, scanPerm_eq, gather_append, List.take_left' (gather_length ..)]
  -- on the indices visited, the leading slices of the transposed array are the slices of `xs`
  have hcongr : ∀ c, runLoop (fun c m => body c ((transposeIn axis xs).sliceAt m)) (allIdx (gather axis xs.shape)) c
      = runLoop (fun c m => body c (sliceAxes xs axis m)) (allIdx (gather axis xs.shape)) c := by
    apply runLoop_congr
    intro m hm c
    rw [sliceAt_transposeIn xs axis m (by rw [allIdx_length _ m hm, gather_length])]
  obtain ⟨hc, hy⟩ := scanAx_runLoop body axis.length init (transposeIn axis xs) hkn
  have hsh := scanAx_shape body axis.length init (transposeIn axis xs) hkn
  rw [htake, hcongr] at hc hy
  rw [htake, sliceAt_transposeIn xs axis _ (List.length_replicate ..)] at hsh
  rw [scanInDim_false body init xs axis hne]
  refine ⟨hc, ?_⟩
  intro n' hn' hv'
  have hylen : (scanAx body axis.length init (transposeIn axis xs)).2.shape.length = n' := by
    rw [hsh, List.length_append, gather_length, hn']
  refine ⟨?_, ?_⟩
  · intro m y hmy idx hidx hgm
    show (transposeOut axis _).get idx = _
    rw [transposeOut_get axis _ n' hylen hv', hgm]
    exact hy m y hmy _
  · show gather (scanPerm axis n') (transposeOut axis _).shape = _
    rw [transposeOut_shape axis _ n' hylen hv', hsh]

-- a concrete array, a cyclic axis order, a body whose carry depends on the visiting order
example : ValidAxes [2, 0] 3 := ⟨by decide, by decide⟩
example : IsPerm [2, 0, 1] := ⟨by decide, by decide, by decide⟩
example : invertPerm [2, 0, 1] = [1, 2, 0] ∧ scanPerm [2, 0] 3 = [2, 0, 1] ∧ restAxes [2, 0] 3 = [1] := by decide
example : fullIdx [2, 0] 3 [7, 8] [9] = [8, 9, 7] := by decide
example :
    let xs : Arr Nat := Arr.ofFlat [2, 3, 2] #[0, 1, 2, 3, 4, 5, 6, 7, 8, 9, 10, 11]
    let body : Nat → Arr Nat → Nat × Arr Nat := fun c x => (c * 3 + x.get [0] + 1, { shape := x.shape, get := fun i => x.get i + c })
    let r := scanInDim body 0 xs [2, 0] false
    (r.1, r.2.shape, r.2.toFlat) = (104, [2, 3, 2], [0, 11, 2, 13, 4, 15, 7, 39, 9, 41, 11, 43]) := by decide +kernel

/-- what the body receives with `keepdims=True`: the slice with the scanned axes kept as size-1 axes
(`x.reshape((1,)*k + x.shape)` followed by `transpose_out`) -/
def sliceAxesKeep (x : Arr α) (axis m : List Nat) : Arr α :=
  transposeOut axis ((sliceAxes x axis m).addLeadingOnes axis.length)

/-- what happens to the body's output with `keepdims=True`: `transpose_in`, then the `k` leading
(size-1) axes are reshaped away -/
def unkeep (axis : List Nat) (y : Arr β) : Arr β := (transposeIn axis y).dropLeading axis.length

/-- one iteration of the nested Python loop, for either value of `keepdims` -/
def loopStep (body : γ → Arr α → γ × Arr β) (xs : Arr α) (axis : List Nat) (keepdims : Bool) :
    γ → List Nat → γ × Arr β :=
  fun c m =>
    if keepdims then ((body c (sliceAxesKeep xs axis m)).1, unkeep axis (body c (sliceAxesKeep xs axis m)).2)
    else body c (sliceAxes xs axis m)

/-- `sliceAxesKeep` is the slice `xs[…, m_j : m_j+1, …]`: extent 1 on the scanned axes, the original
extents elsewhere; it reads `xs` at `m` on the scanned axes and at `idx` on the others. -/
theorem slice_keep_spec (x : Arr α) (axis m : List Nat) (hv : ValidAxes axis x.shape.length) :
    gather (scanPerm axis x.shape.length) (sliceAxesKeep x axis m).shape
        = List.replicate axis.length 1 ++ gather (restAxes axis x.shape.length) x.shape ∧
    ∀ idx, (sliceAxesKeep x axis m).get idx
        = x.get (fullIdx axis x.shape.length m (gather (restAxes axis x.shape.length) idx)) := by
  have hrank : ((sliceAxes x axis m).addLeadingOnes axis.length).shape.length = x.shape.length := by
    simp only [Arr.addLeadingOnes, sliceAxes, List.length_append, List.length_replicate, gather_length]
    exact length_add_restAxes_length axis _ hv
  refine ⟨transposeOut_shape axis _ _ hrank hv, ?_⟩
  intro idx
  show (transposeOut axis _).get idx = _
  rw [transposeOut_get axis _ _ hrank hv]
  show (sliceAxes x axis m).get ((gather axis idx ++ gather (restAxes axis x.shape.length) idx).drop axis.length) = _
  rw [List.drop_left' (by rw [gather_length])]
  rfl

/-- `unkeep` reads the body's output at index 0 on the (size-1) scanned axes -/
theorem unkeep_spec (axis : List Nat) (y : Arr β) :
    (unkeep axis y).shape = (gather (scanPerm axis y.shape.length) y.shape).drop axis.length ∧
    ∀ r, (unkeep axis y).get r = y.get (fullIdx axis y.shape.length (List.replicate axis.length 0) r) :=
  ⟨rfl, fun _ => rfl⟩

/-- **scan_in_dim equals the nested Python loop for both values of `keepdims`.**  The statement of
`scan_in_dim_eq_nested_loop_nokeep` with the loop body `loopStep`: for `keepdims=True` the body sees
`xs[…, m_j:m_j+1, …]` (`slice_keep_spec`) and its output is read at 0 on the kept axes
(`unkeep_spec`). -/
theorem scan_in_dim_eq_nested_loop (body : γ → Arr α → γ × Arr β) (init : γ) (xs : Arr α)
    (axis : List Nat) (keepdims : Bool) (hne : axis ≠ []) (hv : ValidAxes axis xs.shape.length) :
    (scanInDim body init xs axis keepdims).1
        = (runLoop (loopStep body xs axis keepdims) (allIdx (gather axis xs.shape)) init).1 ∧
    ∀ n', n' = axis.length + (loopStep body xs axis keepdims init (List.replicate axis.length 0)).2.shape.length →
      ValidAxes axis n' →
      (∀ m y, (m, y) ∈ (runLoop (loopStep body xs axis keepdims) (allIdx (gather axis xs.shape)) init).2 →
        ∀ idx, idx.length = n' → gather axis idx = m →
          (scanInDim body init xs axis keepdims).2.get idx = y.get (gather (restAxes axis n') idx)) ∧
      gather (scanPerm axis n') (scanInDim body init xs axis keepdims).2.shape
        = gather axis xs.shape ++ (loopStep body xs axis keepdims init (List.replicate axis.length 0)).2.shape := by
  cases keepdims with
  | false => exact scan_in_dim_eq_nested_loop_nokeep body init xs axis hne hv
  | true =>
    rw [scanInDim_true]
    exact scan_in_dim_eq_nested_loop_nokeep _ init xs axis hne hv

example :
    let xs : Arr Nat := Arr.ofFlat [2, 3, 2] #[0, 1, 2, 3, 4, 5, 6, 7, 8, 9, 10, 11]
    (sliceAxesKeep xs [2, 0] [1, 1]).shape = [1, 3, 1] ∧ (sliceAxesKeep xs [2, 0] [1, 1]).toFlat = [7, 9, 11] ∧
    (sliceAxes xs [2, 0] [1, 1]).shape = [3] ∧ (sliceAxes xs [2, 0] [1, 1]).toFlat = [7, 9, 11] := by decide +kernel

/-! ### negative axis entries (NumPy semantics `-k ≡ rank-k`)

`scan_in_dim` hands `axis` on as it is; `np.delete`, `transpose` and the negative list indexing in
`_invert_perm` each normalise on their own, and `scanInDimI` transcribes that.  It is the `Nat` model
on the normalised axes, so the theorems above apply with `axis.map (normAxis rank)`. -/

/-- **`_invert_perm` with negative entries**: writing `perm_inv[j] = i` with Python's negative
indexing is `_invert_perm` of the normalised permutation, hence the true inverse whenever the
normalised entries form a permutation. -/
theorem invert_perm_negative_entries (perm : List Int) :
    invertPermI perm = invertPerm (perm.map (normAxis perm.length)) ∧
    (IsPerm (perm.map (normAxis perm.length)) →
      ∀ k (hk : k < perm.length), (invertPermI perm)[normAxis perm.length perm[k]]? = some k) := by
  refine ⟨invertPermI_eq perm, ?_⟩
  intro hp k hk
  rw [invertPermI_eq]
  have := invertPerm_left _ hp k (by simpa using hk)
  simpa using this

/-- the permutation `axis + delete(arange(ndim), axis)` with negative axes, normalised, is the
permutation of the normalised axes; its `_invert_perm` is the inverse of that permutation -/
theorem scan_perm_negative_axes (axis : List Int) (ndim : Nat) :
    (scanPermI axis ndim).map (normAxis ndim) = scanPerm (axis.map (normAxis ndim)) ndim ∧
    (ValidAxes (axis.map (normAxis ndim)) ndim →
      invertPermI (scanPermI axis ndim) = invertPerm (scanPerm (axis.map (normAxis ndim)) ndim)) := by
  refine ⟨scanPermI_norm axis ndim, ?_⟩
  intro h
  rw [invertPermI_eq, scanPermI_length, scanPerm_length _ _ h, scanPermI_norm]

/-- **scan_in_dim with negative / mixed axis entries, `keepdims=False`**: the code as it is equals
the model on the normalised axes (so `scan_in_dim_eq_nested_loop` applies), whenever these are
distinct axes of `xs` and the result has the rank of `xs` (`transpose_out` normalises against the
rank of the result). -/
theorem scan_in_dim_negative_axes (body : γ → Arr α → γ × Arr β) (init : γ) (xs : Arr α)
    (axis : List Int) (hne : axis ≠ [])
    (hv : ValidAxes (axis.map (normAxis xs.shape.length)) xs.shape.length)
    (hrank : axis.length + (body init (sliceAxes xs (axis.map (normAxis xs.shape.length))
        (List.replicate axis.length 0))).2.shape.length = xs.shape.length) :
    scanInDimI body init xs axis false
      = scanInDim body init xs (axis.map (normAxis xs.shape.length)) false := by
  have hne' : axis.map (normAxis xs.shape.length) ≠ [] := by simpa using hne
  have hkn := axis_length_le _ _ hv
  rw [scanInDimI_false body init xs axis hne, scanInDim_false body init xs _ hne', List.length_map]
  rw [List.length_map] at hkn
  refine scanAx_negative_axes body body init xs axis _ rfl _ hv hkn (fun _ _ _ => rfl) ?_
  rw [sliceAt_transposeIn xs _ _ (by simp)]
  exact hrank

/-- **scan_in_dim with negative axis entries, `keepdims=True`**, for bodies that keep the rank (as `keepdims` requires). -/
theorem scan_in_dim_negative_axes_keepdims (body : γ → Arr α → γ × Arr β) (init : γ) (xs : Arr α)
    (axis : List Int) (hne : axis ≠ [])
    (hv : ValidAxes (axis.map (normAxis xs.shape.length)) xs.shape.length)
    (hbody : ∀ c s, s.shape.length = xs.shape.length → (body c s).2.shape.length = xs.shape.length) :
    scanInDimI body init xs axis true
      = scanInDim body init xs (axis.map (normAxis xs.shape.length)) true := by
  have hkn : axis.length ≤ xs.shape.length := by simpa using axis_length_le _ _ hv
  have hpl := scanPerm_length _ _ hv
  rw [scanInDimI_true, scanInDim_true, scanInDimI_false _ init xs axis hne,
    scanInDim_false _ init xs _ (by simpa using hne), List.length_map]
  generalize hA : axis.map (normAxis xs.shape.length) = A at hv hpl ⊢
  have hr : ∀ s : Arr α, s.shape.length + axis.length = xs.shape.length →
      (s.addLeadingOnes axis.length).shape.length = xs.shape.length ∧
      (transposeOut A (s.addLeadingOnes axis.length)).shape.length = xs.shape.length := by
    intro s hs
    have h1 : (s.addLeadingOnes axis.length).shape.length = xs.shape.length := by
      simp only [Arr.addLeadingOnes, List.length_append, List.length_replicate]
      exact (Nat.add_comm _ _).trans hs
    exact ⟨h1, by rw [transposeOut_rank _ _ (by rw [h1]; exact hv), h1]⟩
  refine scanAx_negative_axes _ _ init xs axis A hA _ hv hkn ?_ ?_
  · -- on arrays of the rank of `xs` the transposes with negative entries are the transposes by `A`
    intro c s hs
    subst hA
    show (_, _) = (_, _)
    rw [transposeOutI_eq axis _ _ (hr s hs).1 hv, transposeInI_eq, hbody c _ (hr s hs).2]
  · have hs0 : ((transposeIn A xs).sliceAt (List.replicate axis.length 0)).shape.length + axis.length
        = xs.shape.length := by
      simp only [Arr.sliceAt, List.length_drop, List.length_replicate, transposeIn_rank A xs hv]
      exact Nat.sub_add_cancel hkn
    have hy := hbody init _ (hr _ hs0).2
    show axis.length + ((gather (scanPerm A _) _).drop axis.length).length = _
    rw [List.length_drop, gather_length, hy, hpl]
    exact Nat.add_sub_of_le hkn

-- axis (-1, 0) of a rank-3 array is the valid axis tuple (2, 0)
example : [(-1 : Int), 0].map (normAxis 3) = [2, 0] ∧ ValidAxes ([(-1 : Int), 0].map (normAxis 3)) 3 :=
  ⟨by decide, ⟨by decide, by decide⟩⟩
example : invertPermI [-1, 0, 1] = [1, 2, 0] ∧ scanPermI [-1, 0] 3 = [-1, 0, 1] := by decide
example :
    let xs : Arr Nat := Arr.ofFlat [2, 3, 2] #[0, 1, 2, 3, 4, 5, 6, 7, 8, 9, 10, 11]
    let body : Nat → Arr Nat → Nat × Arr Nat := fun c x => (c * 3 + x.get [0] + 1, { shape := x.shape, get := fun i => x.get i + c })
    let r := scanInDimI body 0 xs [-1, 0] false
    (r.1, r.2.shape, r.2.toFlat) = (104, [2, 3, 2], [0, 11, 2, 13, 4, 15, 7, 39, 9, 41, 11, 43]) := by decide +kernel

end Scan

end Flax.C20
