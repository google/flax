/- C14 — Filters form a Boolean algebra; grouping by filters is a first-match partition. -/
import Flax.Proofs.Filter

namespace Flax.C14
open Flax.Filter Flax.Filter.LFilter

/-- `union_filters` selects exactly `a or b`, for all filters of any nesting and every name. -/
theorem in_union (a b : LFilter) (c : String) :
    inFilter (union a b) c = (inFilter a c || inFilter b c) :=
  inFilter_setOps.1 a b c

/-- `subtract_filters` selects exactly `a and not b`. -/
theorem in_subtract (a b : LFilter) (c : String) :
    inFilter (subtract a b) c = (inFilter a c && !(inFilter b c)) :=
  inFilter_setOps.2.1 a b c

/-- `intersect_filters` selects exactly `a and b`. -/
theorem in_intersect (a b : LFilter) (c : String) :
    inFilter (intersect a b) c = (inFilter a c && inFilter b c) :=
  inFilter_setOps.2.2 a b c

/-- the Boolean-algebra laws at the level of membership, with `DenyList` as complement — for filters
of every form and nesting depth and every collection name -/
theorem boolean_algebra_laws (a b c : LFilter) (n : String) :
    inFilter (union a b) n = inFilter (union b a) n ∧
    inFilter (intersect a b) n = inFilter (intersect b a) n ∧
    inFilter (union (union a b) c) n = inFilter (union a (union b c)) n ∧
    inFilter (intersect (intersect a b) c) n = inFilter (intersect a (intersect b c)) n ∧
    inFilter (union a (intersect a b)) n = inFilter a n ∧
    inFilter (intersect a (union a b)) n = inFilter a n ∧
    inFilter (intersect a (union b c)) n = inFilter (union (intersect a b) (intersect a c)) n ∧
    inFilter (union a (intersect b c)) n = inFilter (intersect (union a b) (union a c)) n ∧
    inFilter (deny (union a b)) n = inFilter (intersect (deny a) (deny b)) n ∧
    inFilter (deny (intersect a b)) n = inFilter (union (deny a) (deny b)) n ∧
    inFilter (deny (deny a)) n = inFilter a n ∧
    inFilter (subtract a b) n = inFilter (intersect a (deny b)) n ∧
    inFilter (union a (deny a)) n = true ∧
    inFilter (intersect a (deny a)) n = false ∧
    inFilter (union a ff) n = inFilter a n ∧
    inFilter (intersect a tt) n = inFilter a n := by
  simp only [in_union, in_intersect, in_subtract, inFilter]
  generalize inFilter a n = x
  generalize inFilter b n = y
  generalize inFilter c n = z
  revert x y z
  decide

theorem fresh_not_mem (xs : List String) : fresh xs ∉ xs :=
  not_mem_fresh xs

/-- **A filter is reported empty exactly when no collection name can match it** — for every filter of
every nesting depth that does not mention the reserved probe name. This is about the *repaired*
`is_filter_empty` (fix commit for finding F1). -/
theorem empty_iff (f : LFilter) (h : mentions f stub = false) :
    isFilterEmpty f = true ↔ ∀ c, inFilter f c = false :=
  (isFilterEmpty_iff f h).1

/-- the definition as shipped violates `empty_iff`: `DenyList(DenyList('a'))`
is reported empty although it matches `'a'` (finding F1; `subtract_filters(True, DenyList('a'))`
produces exactly this filter). -/
theorem orig_empty_iff_false :
    isFilterEmptyOrig (deny (deny (name "a"))) = true ∧
    inFilter (deny (deny (name "a"))) "a" = true ∧
    subtract tt (deny (name "a")) = deny (deny (name "a")) :=
  ⟨by decide +kernel, by decide +kernel, subtract.eq_2 _ nofun⟩

/-- `isFilterEmptyOrig`, the shipped definition, is correct up to one level of `DenyList`. -/
theorem orig_empty_iff_partial (f : LFilter) (h : mentions f stub = false) (hd : depth f ≤ 1) :
    isFilterEmptyOrig f = true ↔ ∀ c, inFilter f c = false := by
  rw [isFilterEmptyOrig_eq_of_depth_le_one hd]; exact empty_iff f h

/-- the guard of `empty_iff` is real: a filter that mentions the probe name is mis-reported -/
theorem stub_guard_needed :
    isFilterEmpty (deny (name stub)) = true ∧ inFilter (deny (name stub)) "params" = true := by
  decide +kernel

example : mentions (deny (deny (names ["a", "b"]))) stub = false ∧
    isFilterEmpty (deny (deny (names ["a", "b"]))) = false := by decide +kernel

/-- every collection lands in the group of the first filter that matches it and in no other;
unmatched collections land in none. Stated for every key list and every filter list. -/
theorem group_first_match (fs : List LFilter) : ∀ (cols : List String) (i : Nat) (c : String),
    c ∈ (groupCollections cols fs).getD i [] ↔ (c ∈ cols ∧ firstIdx fs c = some i) := by
  intro cols i c
  rw [groupCollections_getD, List.mem_filter, beq_iff_eq]

/-- one output group per filter -/
theorem group_length (fs : List LFilter) : ∀ cols, (groupCollections cols fs).length = fs.length := by
  induction fs with
  | nil => intro cols; rfl
  | cons f fs ih => intro cols; simp [groupCollections, ih]

/-- groups keep the multiplicity and order of `xs.keys()`: each group is a sublist of the keys, so
with distinct keys nothing is duplicated inside a group either -/
theorem group_sublist (fs : List LFilter) : ∀ (cols : List String) (i : Nat),
    ((groupCollections cols fs).getD i []).Sublist cols := by
  intro cols i
  rw [groupCollections_getD]
  exact List.filter_sublist

/-- two different groups are disjoint -/
theorem group_disjoint (fs : List LFilter) (cols : List String) (i j : Nat) (hij : i ≠ j) (c : String) :
    ¬ (c ∈ (groupCollections cols fs).getD i [] ∧ c ∈ (groupCollections cols fs).getD j []) := by
  rw [group_first_match, group_first_match]
  rintro ⟨⟨_, h1⟩, ⟨_, h2⟩⟩
  rw [h1] at h2
  exact hij (Option.some.inj h2)

example : groupCollections ["params", "cache", "stats"] [name "cache", deny (name "params"), tt]
    = [["cache"], ["stats"], ["params"]] := by decide +kernel

theorem nnx_any (fs : List NFilter) (p : Path) (x : VarInfo) :
    denote (.any fs) p x = fs.any (fun f => denote f p x) :=
  denoteAny_eq_any fs p x

theorem nnx_all (fs : List NFilter) (p : Path) (x : VarInfo) :
    denote (.allOf fs) p x = fs.all (fun f => denote f p x) :=
  denoteAll_eq_all fs p x

theorem nnx_not (f : NFilter) (p : Path) (x : VarInfo) : denote (.not f) p x = !(denote f p x) :=
  rfl

theorem nnx_top_bot (p : Path) (x : VarInfo) :
    denote .everything p x = true ∧ denote .nothing p x = false := ⟨rfl, rfl⟩

theorem firstMatch_le (preds : List NFilter) (p : Path) (x : VarInfo) :
    firstMatch preds p x ≤ preds.length :=
  firstMatch_le_length preds p x

/-- the index chosen by `_split_state` is the first predicate that holds: it holds there (when the
index is a real predicate) and no earlier predicate holds -/
theorem firstMatch_spec (preds : List NFilter) (p : Path) (x : VarInfo) :
    (∀ j, j < firstMatch preds p x → ∀ f, preds[j]? = some f → denote f p x = false) ∧
    (∀ f, preds[firstMatch preds p x]? = some f → denote f p x = true) :=
  Flax.Filter.firstMatch_spec preds p x

/-- **first-match partition, nothing lost, nothing duplicated**: every item of the flat state occurs in
exactly the bucket of its first matching predicate (bucket `n` collects the unmatched), and in no other -/
theorem nnx_split_partition (preds : List NFilter) (items : List (Path × VarInfo)) (i : Nat)
    (it : Path × VarInfo) :
    it ∈ (splitStates preds items).getD i [] ↔ (it ∈ items ∧ firstMatch preds it.1 it.2 = i) := by
  rw [splitStates_getD, List.mem_filter, beq_iff_eq]

/-- every bucket keeps the order of the input state (it is a sublist of it) -/
theorem nnx_split_bucket_sublist (preds : List NFilter) (items : List (Path × VarInfo)) (i : Nat) :
    ((splitStates preds items).getD i []).Sublist items := by
  rw [splitStates_getD]
  exact List.filter_sublist

/-- multiplicities are preserved: the buckets' sizes add up to the number of items -/
theorem nnx_split_count (preds : List NFilter) (items : List (Path × VarInfo)) :
    ((splitStates preds items).map List.length).sum = items.length :=
  splitStates_length_sum preds items

/-- `...`/`True` may only be followed by `...`/`True` -/
theorem ellipsis_must_be_last (es : List Bool) :
    ellipsisOk es = true ↔ ∀ i j, i < j → j < es.length → es[i]? = some true → es[j]? = some true := by
  rw [ellipsisOk_iff_pairwise, List.pairwise_iff_getElem]
  constructor
  · intro h i j hij hj hi
    have hi' : i < es.length := by omega
    rw [List.getElem?_eq_getElem hi', Option.some.injEq] at hi
    rw [List.getElem?_eq_getElem hj, h i j hi' hj hij hi]
  · intro h i j hi hj hij hti
    have := h i j hij hj (by rw [List.getElem?_eq_getElem hi, hti])
    rwa [List.getElem?_eq_getElem hj, Option.some.injEq] at this

example : splitStates [.ofType "Param", .any [.withTag "x", .pathContains "bias"]]
    [(["a", "kernel"], ⟨["Param", "Variable"], none⟩), (["a", "bias"], ⟨["BatchStat", "Variable"], none⟩),
     (["b"], ⟨["Cache"], some "y"⟩)]
    = [[(["a", "kernel"], ⟨["Param", "Variable"], none⟩)],
       [(["a", "bias"], ⟨["BatchStat", "Variable"], none⟩)],
       [(["b"], ⟨["Cache"], some "y"⟩)]] := by decide +kernel

mutual
  /-- `to_predicate(f)` denotes the predicate combination `f` stands for, at every nesting depth -/
  theorem literal_denote : ∀ (f : SFilter) (p : Path) (x : VarInfo),
      denote (toPredicate f) p x = sdenote f p x
    | .str _, _, _ => rfl
    | .type _, _, _ => rfl
    | .bool true, _, _ => rfl
    | .bool false, _, _ => rfl
    | .ellipsis, _, _ => rfl
    | .none_, _, _ => rfl
    | .seq fs, p, x => literal_denote_any fs p x
    | .any fs, p, x => literal_denote_any fs p x
    | .allOf fs, p, x => literal_denote_all fs p x
    | .not f, p, x => congrArg (!·) (literal_denote f p x)
    | .pred _, _, _ => rfl
  theorem literal_denote_any : ∀ (fs : List SFilter) (p : Path) (x : VarInfo),
      denoteAny (toPredicates fs) p x = sdenoteAny fs p x
    | [], _, _ => rfl
    | f :: fs, p, x => by
        show (denote (toPredicate f) p x || denoteAny (toPredicates fs) p x) = _
        rw [literal_denote f p x, literal_denote_any fs p x]; rfl
  theorem literal_denote_all : ∀ (fs : List SFilter) (p : Path) (x : VarInfo),
      denoteAll (toPredicates fs) p x = sdenoteAll fs p x
    | [], _, _ => rfl
    | f :: fs, p, x => by
        show (denote (toPredicate f) p x && denoteAll (toPredicates fs) p x) = _
        rw [literal_denote f p x, literal_denote_all fs p x]; rfl
end

/-- a list / tuple / `Any` matches iff some member matches, `All` iff every member matches -/
theorem literal_seq_any_all (fs : List SFilter) (p : Path) (x : VarInfo) :
    sdenote (.seq fs) p x = fs.any (fun f => sdenote f p x) ∧
    sdenote (.any fs) p x = fs.any (fun f => sdenote f p x) ∧
    sdenote (.allOf fs) p x = fs.all (fun f => sdenote f p x) :=
  ⟨sdenoteAny_eq_any fs p x, sdenoteAny_eq_any fs p x, sdenoteAll_eq_all fs p x⟩

/-- nested sequences flatten: `(a, (b, c))` denotes the same predicate as `(a, b, c)` -/
theorem literal_nested_seq_flatten (pre inner post : List SFilter) (p : Path) (x : VarInfo) :
    denote (toPredicate (.seq (pre ++ .seq inner :: post))) p x
      = denote (toPredicate (.seq (pre ++ inner ++ post))) p x := by
  simp only [literal_denote, (literal_seq_any_all _ p x).1, List.any_append, List.any_cons, Bool.or_assoc]

theorem toPredicates_length (fs : List SFilter) : (toPredicates fs).length = fs.length := by
  rw [toPredicates_eq_map, List.length_map]

theorem toPredicates_get (fs : List SFilter) (i : Nat) :
    (toPredicates fs)[i]? = (fs[i]?).map toPredicate := by
  rw [toPredicates_eq_map, List.getElem?_map]

/-- `...` and `True` match everything -/
theorem catchAll_matches (f : SFilter) (h : isCatchAll f = true) (p : Path) (x : VarInfo) :
    denote (toPredicate f) p x = true := by
  unfold isCatchAll at h
  split at h
  · rfl
  · rfl
  · cases h

/-- the bucket chosen for an item by a split on literal filters, in terms of what the literals stand for:
no earlier filter matches, the chosen one does, and the extra last bucket means none matches -/
theorem literal_firstMatch_spec (fs : List SFilter) (p : Path) (x : VarInfo) :
    (∀ j, j < firstMatch (toPredicates fs) p x → ∀ f, fs[j]? = some f → sdenote f p x = false) ∧
    (∀ f, fs[firstMatch (toPredicates fs) p x]? = some f → sdenote f p x = true) ∧
    (firstMatch (toPredicates fs) p x = fs.length → ∀ f ∈ fs, sdenote f p x = false) := by
  have hs := firstMatch_spec (toPredicates fs) p x
  have hget : ∀ j f, fs[j]? = some f → (toPredicates fs)[j]? = some (toPredicate f) :=
    fun j f hf => by rw [toPredicates_get, hf]; rfl
  have hbefore : ∀ j, j < firstMatch (toPredicates fs) p x → ∀ f, fs[j]? = some f →
      sdenote f p x = false :=
    fun j hj f hf => literal_denote f p x ▸ hs.1 j hj _ (hget j f hf)
  refine ⟨hbefore, fun f hf => literal_denote f p x ▸ hs.2 _ (hget _ f hf), fun hlen f hf => ?_⟩
  obtain ⟨j, hj, rfl⟩ := List.getElem_of_mem hf
  exact hbefore j (by omega) _ (List.getElem?_eq_getElem hj)

/-- **the first catch-all takes everything that is left**: when the filter list is `pre ++ [c] ++ post` with
`c` one of `...` / `True`, no item goes to a bucket after `c` — neither to the later catch-alls nor to the
bucket of the unmatched (so `split` never raises "non-exhaustive" and `post`'s groups are empty) -/
theorem first_catchAll_takes_rest (pre post : List SFilter) (c : SFilter) (hc : isCatchAll c = true)
    (p : Path) (x : VarInfo) :
    firstMatch (toPredicates (pre ++ c :: post)) p x ≤ pre.length := by
  refine firstMatch_le_of_holds (f := toPredicate c) ?_ (catchAll_matches c hc p x)
  rw [toPredicates_get, List.getElem?_append_right (Nat.le_refl _), Nat.sub_self]
  rfl

theorem later_buckets_empty (pre post : List SFilter) (c : SFilter) (hc : isCatchAll c = true)
    (items : List (Path × VarInfo)) (i : Nat) (hi : pre.length < i) :
    (splitStates (toPredicates (pre ++ c :: post)) items).getD i [] = [] := by
  apply List.eq_nil_iff_forall_not_mem.mpr
  intro it hit
  have := (nnx_split_partition _ items i it).mp hit
  have hle := first_catchAll_takes_rest pre post c hc it.1 it.2
  omega

/-- `filters_to_predicates` rejects exactly the lists in which a `...`/`True` is followed by something else -/
theorem filtersToPredicates_rejects_iff (fs : List SFilter) :
    filtersToPredicates fs = Option.none ↔
      ∃ i j, i < j ∧ j < fs.length ∧ (fs[i]?.map isCatchAll) = some true ∧ (fs[j]?.map isCatchAll) ≠ some true := by
  rw [filtersToPredicates_eq_none, ellipsis_must_be_last]
  simp only [List.length_map, List.getElem?_map, Classical.not_forall, exists_prop, ne_eq]

example : filtersToPredicates [.type "Param", .ellipsis, .bool true] ≠ Option.none ∧
    filtersToPredicates [.ellipsis, .type "Param"] = Option.none := by decide +kernel

example : splitLiteral [.type "Param", .ellipsis, .ellipsis]
    [(["a"], ⟨["Param"], none⟩), (["b"], ⟨["Cache"], none⟩), (["c"], ⟨["BatchStat"], some "x"⟩)]
    = some [[(["a"], ⟨["Param"], none⟩)],
            [(["b"], ⟨["Cache"], none⟩), (["c"], ⟨["BatchStat"], some "x"⟩)], [], []] := by decide +kernel

example : sdenote (.seq [.str "x", .seq [.type "Param", .not (.bool true)]]) ["a"] ⟨["Param"], none⟩ = true := by
  decide +kernel

end Flax.C14
