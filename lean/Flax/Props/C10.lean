/-
C10 — State-dict / msgpack serialization round-trips exactly and rejects mismatches. Models: `Flax/Model/Serial.lean`
(flax's own logic), `Flax/Model/Msgpack.lean` (the wire format), `Flax/Model/SerialHeap.lean` (the in-place passes).

`Tree` = the supported pytrees, `STree` = state dicts, `Leaf` = (dtype name, shape,
C-order bytes) for arrays and exact bit patterns for scalars, so an equation between trees *is*
"same structure and container types, leaves identical in dtype, shape and bytes".
`t.sub p` / `s.sub p` navigate by key path (dict key, field name, decimal list index).
`localCheck path tn sn` is the error the pair (target node, state node) raises by itself:
missing dict key, different list length, different field names, state that is not a dict.
-/
import Flax.Proofs.SerialSizes
import Flax.Proofs.SerialRestore
import Flax.Proofs.MsgpackRobust
import Flax.Proofs.SerialHeapValue

namespace Flax.C10
open Flax.Serial Flax.Msgpack Flax.SerialHeap

/-! ## `from_state_dict(t, to_state_dict(t)) == t` -/

/-- **State-dict round trip**, for every pytree whose dict keys / field names are distinct (which
Python guarantees): same containers, same classes, same leaves. This is about the *repaired*
`_restore_namedtuple` (fix commit for the name/fields/values finding). -/
theorem statedict_roundtrip (t : Tree) (h : t.wf = true) :
    fromStateDict t (toStateDict t) = .ok t :=
  rt_tree true t ["."] h (by intro h; cases h)

/-- what was true of the code as shipped: the round trip holds when no namedtuple has exactly the
field names `name`, `fields`, `values` -/
theorem statedict_roundtrip_orig_partial (t : Tree) (h : t.wf = true) (hl : t.noLegacyNames = true) :
    fromStateDictOrig t (toStateDict t) = .ok t :=
  rt_tree false t ["."] h (fun _ => hl)

/-- the shipped `_restore_namedtuple` violates the round trip: `NT(name=1, fields=2, values=3)` is
taken for the pre-2022 encoding and fails; the repaired one restores it -/
theorem orig_roundtrip_fails :
    let t := Tree.named "NT" [("name", .leaf (.int 1)), ("fields", .leaf (.int 2)), ("values", .leaf (.int 3))]
    t.wf = true ∧ fromStateDictOrig t (toStateDict t) = .error .legacy ∧
      fromStateDict t (toStateDict t) = .ok t := by
  refine ⟨by decide, ?_, statedict_roundtrip _ (by decide)⟩
  simp [fromStateDictOrig, toStateDict, toSDFields, fromSDG, namedState, sameKeySet, subsetKeys, keys,
    legacyKeys, legacyConvert, lookup, pyLen]

/-! ## restoring matches entries by key, keeps the target's shape, rejects mismatches -/

/-- **Restore is by key, never by position, and invents nothing**: after a successful restore, the
result holds at every leaf position of the target (addressed by its key path) exactly the state
entry found under the *same key path*. -/
theorem restore_by_key (t : Tree) (s : STree) (t' : Tree)
    (hw : t.wf = true) (hs : s.wf = true) (hnl : s.noLegacy = true)
    (h : fromStateDict t s = .ok t') (p : Path) (v : Leaf) (hp : t.sub p = some (.leaf v)) :
    ∃ sv, s.sub p = some sv ∧ t'.sub p = some (ofState sv) := by
  obtain ⟨sn, tn', h1, h2, _, _, h5⟩ := path_ok true p ["."] t s t' hw hs hnl h _ hp
  exact ⟨sn, h1, by rw [h2, h5 v rfl]⟩

/-- **Container types are preserved**: at every key path of the target the result has a node of the
same container type, class, keys / field names (in the target's order) and length. -/
theorem restore_same_shape (t : Tree) (s : STree) (t' : Tree)
    (hw : t.wf = true) (hs : s.wf = true) (hnl : s.noLegacy = true)
    (h : fromStateDict t s = .ok t') (p : Path) (tn : Tree) (hp : t.sub p = some tn) :
    ∃ tn', t'.sub p = some tn' ∧ sameNode tn tn' := by
  obtain ⟨_, tn', _, h2, _, h4, _⟩ := path_ok true p ["."] t s t' hw hs hnl h _ hp
  exact ⟨tn', h2, h4⟩

/-- **The error names the path of a real mismatch**: when restore fails, the error it raises is the
one raised by some pair (target node, state node) under a common key path `p`, and the path carried
by the error (for the five `ValueError`s) is `./p`. -/
theorem restore_error_names_mismatch (t : Tree) (s : STree) (e : Err)
    (hw : t.wf = true) (hs : s.wf = true) (hnl : s.noLegacy = true)
    (h : fromStateDict t s = .error e) :
    ∃ p tn sn, t.sub p = some tn ∧ s.sub p = some sn ∧ localCheck ("." :: p) tn sn = some e :=
  path_err true ["."] t s e hw hs hnl h

/-- **Every mismatch is rejected**: if under some common key path the target node and the state
node do not fit (`localCheck` gives an error), restore raises an error. -/
theorem restore_rejects (t : Tree) (s : STree)
    (hw : t.wf = true) (hs : s.wf = true) (hnl : s.noLegacy = true)
    (p : Path) (tn : Tree) (sn : STree) (e : Err)
    (ht : t.sub p = some tn) (hsn : s.sub p = some sn) (hm : localCheck ("." :: p) tn sn = some e) :
    ∃ e', fromStateDict t s = .error e' := by
  cases hr : fromStateDict t s with
  | error e' => exact ⟨e', rfl⟩
  | ok t' =>
    obtain ⟨sn', _, h1, _, h3, _⟩ := path_ok true p ["."] t s t' hw hs hnl hr _ ht
    rw [hsn] at h1
    cases h1
    rw [List.singleton_append, hm] at h3
    cases h3

/-- restore succeeds **iff** no common node mismatches -/
theorem restore_ok_iff (t : Tree) (s : STree)
    (hw : t.wf = true) (hs : s.wf = true) (hnl : s.noLegacy = true) :
    (∃ t', fromStateDict t s = .ok t') ↔
      ∀ p tn sn, t.sub p = some tn → s.sub p = some sn → localCheck ("." :: p) tn sn = none := by
  constructor
  · rintro ⟨t', h⟩ p tn sn ht hsn
    cases hc : localCheck ("." :: p) tn sn with
    | none => rfl
    | some e =>
      obtain ⟨e', he'⟩ := restore_rejects t s hw hs hnl p tn sn e ht hsn hc
      rw [h] at he'; cases he'
  · intro hall
    cases hr : fromStateDict t s with
    | ok t' => exact ⟨t', rfl⟩
    | error e =>
      obtain ⟨p, tn, sn, h1, h2, h3⟩ := restore_error_names_mismatch t s e hw hs hnl hr
      rw [hall p tn sn h1 h2] at h3
      cases h3

/-! ### what `localCheck` says, clause by clause of the property -/

/-- a target dict key missing from the saved state is a mismatch naming the path; surplus keys of
the saved state are not -/
theorem mismatch_dict (path : Path) (kvs : List (String × Tree)) (skvs : List (String × STree)) :
    localCheck path (.dict kvs) (.dict skvs) =
      if ∀ k ∈ keys kvs, k ∈ keys skvs then none else some (.missingKeys path) := by
  simp only [localCheck, ← subsetKeys_iff]

/-- a list of different length is a mismatch naming the path -/
theorem mismatch_list_length (path : Path) (xs : List Tree) (skvs : List (String × STree))
    (h : skvs.length ≠ xs.length) :
    localCheck path (.list xs) (.dict skvs) = some (.sizeMismatch path) ∧
    localCheck path (.tuple xs) (.dict skvs) = some (.sizeMismatch path) := by
  simp [localCheck, pyLen, h]

/-- differing namedtuple field names (as sets) are a mismatch naming the path -/
theorem mismatch_namedtuple (path : Path) (cls : String) (fs : List (String × Tree))
    (skvs : List (String × STree)) :
    localCheck path (.named cls fs) (.dict skvs) =
      if (∀ k ∈ keys skvs, k ∈ keys fs) ∧ (∀ k ∈ keys fs, k ∈ keys skvs) then none
      else some (.fieldNames path) := by
  simp only [localCheck, sameKeySet, Bool.and_eq_true, subsetKeys_iff]

/-- a dataclass field missing from the state, or a state key that is no field, is a mismatch
naming the path -/
theorem mismatch_dataclass (path : Path) (cls : String) (fs : List (String × Tree)) (aux : Nat)
    (skvs : List (String × STree)) :
    (localCheck path (.struct cls fs aux) (.dict skvs) = none ↔
      (∀ k ∈ keys fs, k ∈ keys skvs) ∧ (∀ k ∈ keys skvs, k ∈ keys fs)) := by
  simp only [localCheck]
  cases hm : firstMissing (keys fs) (keys skvs) with
  | some k =>
    have : ¬ ∀ k ∈ keys fs, k ∈ keys skvs := fun h => by rw [(firstMissing_none_iff _ _).mpr h] at hm; cases hm
    simp [this]
  | none =>
    have h1 := (firstMissing_none_iff _ _).mp hm
    cases hs : subsetKeys (keys skvs) (keys fs) with
    | true =>
      simp only [↓reduceIte, true_iff]
      exact ⟨h1, (subsetKeys_iff _ _).mp hs⟩
    | false =>
      have : ¬ ∀ k ∈ keys skvs, k ∈ keys fs := fun h => by
        rw [(subsetKeys_iff _ _).mpr h] at hs; cases hs
      simp [this]

/-- **a surplus key is never silently dropped by a dataclass restore**. In `Tree.struct cls fs aux`,
`fs` are the *data* (pytree-node) fields only and the
static `pytree_node=False` fields live in `aux`. A saved state with any key outside `fs`, in particular
one named like a static field of the same class (a `TrainState` state dict carrying `tx`), or with a
data field missing, makes `from_state_dict` raise. -/
theorem dataclass_key_set_must_match (cls : String) (fs : List (String × Tree)) (aux : Nat)
    (skvs : List (String × STree)) (hw : (Tree.struct cls fs aux).wf = true)
    (hs : (STree.dict skvs).wf = true) (hnl : (STree.dict skvs).noLegacy = true)
    (hdiff : (∃ k, k ∈ keys skvs ∧ k ∉ keys fs) ∨ (∃ k, k ∈ keys fs ∧ k ∉ keys skvs)) :
    ∃ e, fromStateDict (.struct cls fs aux) (.dict skvs) = .error e := by
  cases hc : localCheck ["."] (.struct cls fs aux) (.dict skvs) with
  | some e =>
    exact restore_rejects _ _ hw hs hnl [] (.struct cls fs aux) (.dict skvs) e rfl rfl hc
  | none =>
    have := (mismatch_dataclass ["."] cls fs aux skvs).mp hc
    rcases hdiff with ⟨k, h1, h2⟩ | ⟨k, h1, h2⟩
    · exact absurd (this.2 k h1) h2
    · exact absurd (this.1 k h1) h2

/-- a surplus state key, every field being present: the node's own error is the dataclass handler's
unknown-fields `ValueError`, naming the path -/
theorem dataclass_surplus_key_error (path : Path) (cls : String) (fs : List (String × Tree)) (aux : Nat)
    (skvs : List (String × STree)) (k : String) (hk : k ∈ keys skvs) (hnk : k ∉ keys fs)
    (hall : ∀ f ∈ keys fs, f ∈ keys skvs) :
    localCheck path (.struct cls fs aux) (.dict skvs) = some (.unknownFields path) := by
  have hm : firstMissing (keys fs) (keys skvs) = none := (firstMissing_none_iff _ _).mpr hall
  have hs : subsetKeys (keys skvs) (keys fs) = false := by
    cases h : subsetKeys (keys skvs) (keys fs) with
    | false => rfl
    | true => exact absurd ((subsetKeys_iff _ _).mp h k hk) hnk
  simp [localCheck, hm, hs]

/-- the pre-2022 namedtuple encoding `{'name', 'fields', 'values'}` is converted to the current one
and then restored like any other state (only for targets whose own fields are not these three) -/
theorem legacy_restore (g : Bool) (path : Path) (cls : String) (fs : List (String × Tree))
    (skvs conv : List (String × STree))
    (h1 : sameKeySet (keys skvs) legacyKeys = true) (h2 : sameKeySet (keys fs) legacyKeys = false)
    (h3 : legacyConvert skvs = .ok conv) (h4 : sameKeySet (keys conv) legacyKeys = false) :
    fromSDG g path (.named cls fs) (.dict skvs) = fromSDG g path (.named cls fs) (.dict conv) := by
  rw [fromSDG_named g path cls fs ((namedState_legacy g h1 h2).trans h3),
    fromSDG_named g path cls fs (namedState_noLegacy g (keys fs) conv h4)]

/-- what the legacy branch computes on a well-formed legacy encoding
`{'name': …, 'fields': {'0': f0, '1': f1, …}, 'values': {'0': v0, '1': v1, …}}`: the current-format
state `{f0: v0, f1: v1, …}` — entries are paired by index key, then restored by field name -/
theorem legacy_encoding_converted (name : STree) (names : List String) (vals : List STree)
    (hlen : names.length = vals.length) (hnd : names.Nodup) :
    legacyConvert [("name", name),
        ("fields", .dict (enumL 0 (names.map (fun nm => STree.leaf (.str nm))))),
        ("values", .dict (enumL 0 vals))] = .ok (names.zip vals) := by
  have h := legacyLoop_eq names vals hlen names.length 0 [] (by omega)
  rw [List.drop_zero, ← mkDict, mkDict_nodup _ (by rw [keys, List.map_fst_zip (by omega)]; exact hnd)] at h
  have e1 : ("name" : String) ≠ "fields" := by simp
  have e2 : ("name" : String) ≠ "values" := by simp
  have e3 : ("fields" : String) ≠ "values" := by simp
  simp [legacyConvert, lookup, e1, e2, e3, pyLen, length_enumL, h]

/-! ## chunking of large arrays -/

/-- **`_unchunk ∘ _chunk` is the identity for every threshold** `T` (in bytes, from 0 upward), anywhere in a state
dict that does not use the reserved key -/
theorem chunk_unchunk (T : Nat) (isz : String → Nat) (s : STree)
    (hnm : s.noMarker = true) (hok : s.arraysOk isz) :
    unchunkLeaves (chunkLeaves T isz s) = .ok s :=
  unchunk_chunk_tree T isz s hnm hok

/-- arrays of at most `T` bytes are left untouched (the threshold counts bytes, not elements) -/
theorem small_arrays_untouched (T : Nat) (isz : String → Nat) (a : NdArray)
    (h : prod a.shape * isz a.dtype ≤ T) :
    chunkLeaves T isz (.leaf (.ndarray a)) = .leaf (.ndarray a) := by
  have : oversize T isz a = false := by simp [oversize]; omega
  simp [chunkLeaves, this]

/-- arrays of more than `T` bytes are replaced by the chunk dict -/
theorem large_arrays_chunked (T : Nat) (isz : String → Nat) (a : NdArray)
    (h : T < prod a.shape * isz a.dtype) :
    chunkLeaves T isz (.leaf (.ndarray a)) = chunk T isz a := by
  have : oversize T isz a = true := by simp [oversize]; omega
  simp [chunkLeaves, this]

/-- chunking achieves its purpose: no piece of a chunked array is longer than
`max(1, T // itemsize)` elements, i.e. `max(T, itemsize)` bytes -/
theorem chunk_pieces_bounded (T : Nat) (isz : String → Nat) (a : NdArray) (hz : 1 ≤ isz a.dtype) :
    ∀ p ∈ splitEvery (max 1 (T / isz a.dtype) * isz a.dtype) a.data.length a.data,
      p.length ≤ max T (isz a.dtype) := by
  have hbound : max 1 (T / isz a.dtype) * isz a.dtype ≤ max T (isz a.dtype) := by
    rcases Nat.le_total 1 (T / isz a.dtype) with h | h
    · rw [Nat.max_eq_right h]
      exact Nat.le_trans (Nat.div_mul_le_self T _) (Nat.le_max_left _ _)
    · rw [Nat.max_eq_left h, Nat.one_mul]
      exact Nat.le_max_right _ _
  intro p hp
  exact Nat.le_trans (length_piece _ _ _ p hp).1 hbound

/-! ## msgpack itself -/

/-- **`unpackb(packb(v)) == v`** for every value within the format's limits (ints in `[-2^63, 2^64)`,
lengths below `2^32`, ext codes 0..127), of any nesting -/
theorem msgpack_roundtrip (v : MVal) (h : v.WF) : unpack (pack v) = some v :=
  unpack_pack v h

/-- **trailing garbage is rejected** (`msgpack.unpackb` raises `ExtraData`): an encoding followed by at
least one more byte does not decode -/
theorem msgpack_rejects_trailing (v : MVal) (h : v.WF) (g : Bytes) (hg : g ≠ []) :
    unpack (pack v ++ g) = none :=
  unpack_append (unpack_pack v h) hg

/-- **truncated input is rejected** (`msgpack.unpackb`: "incomplete input"): no proper prefix of an
encoding decodes -/
theorem msgpack_rejects_truncated (v : MVal) (h : v.WF) (p q : Bytes) (hpq : pack v = p ++ q) (hq : q ≠ []) :
    unpack p = none :=
  unpack_truncated v h p q hpq hq

/-- the decoder reads only a prefix of its input: bytes behind a decoded value are handed back
untouched — on *arbitrary* input, not only on encodings -/
theorem msgpack_decoder_reads_prefix (fuel : Nat) (bs x : Bytes) (w : MVal) (r : Bytes)
    (h : unpackF fuel bs = some (w, r)) : unpackF fuel (bs ++ x) = some (w, r ++ x) :=
  sim_unpackF 0 fuel bs w r h

/-- the recursion budget is not observable: once the decoder succeeds, any larger budget gives the same result -/
theorem msgpack_fuel_irrelevant (fuel d : Nat) (bs : Bytes) (r : MVal × Bytes)
    (h : unpackF fuel bs = some r) : unpackF (fuel + d) bs = some r := by
  have := sim_unpackF (x := []) d fuel bs r.1 r.2 h
  rwa [List.append_nil, List.append_nil] at this

/-- different values have different encodings -/
theorem msgpack_pack_injective (v w : MVal) (hv : v.WF) (hw : w.WF) (h : pack v = pack w) : v = w :=
  (pack_prefix_free hv hw (congrArg (· ++ []) h)).1

/-- the encoding is self-delimiting: a packed value followed by anything is read back with exactly
the rest left over -/
theorem msgpack_prefix (v : MVal) (h : v.WF) (fuel : Nat) (rest : Bytes) (hf : v.depth ≤ fuel) :
    unpackF fuel (pack v ++ rest) = some (v, rest) :=
  rt_val v fuel rest h hf

/-- the packer emits bytes: every number in its output is `< 256` when the payloads handed to it are
byte strings (so the `Nat`-as-byte representation of the model loses nothing) -/
theorem msgpack_emits_bytes (v : MVal) (h : v.payloadOK) : ∀ b ∈ pack v, b < 256 :=
  pack_bytes_lt v h

/-- `_ndarray_from_bytes(_ndarray_to_bytes(a)) == a`: dtype name, shape and bytes -/
theorem ndarray_ext_roundtrip (a : NdArray) (h : a.packable) : ndFromBytes (ndToBytes a) = some a :=
  ndFromBytes_ndToBytes a h

/-! ## `from_bytes(t, to_bytes(t)) == t`, for every chunk threshold -/

/-- `msgpack_restore(msgpack_serialize(state)) == state`, for a state without the reserved key, with consistent
arrays, that fits msgpack's limits once chunked -/
theorem msgpack_restore_serialize (T : Nat) (isz : String → Nat) (s : STree)
    (hnm : s.noMarker = true) (hok : s.arraysOk isz) (hp : (chunkLeaves T isz s).packable) :
    msgpackRestore (msgpackSerialize T isz s) = .ok s :=
  restore_serialize T isz s hnm hok hp

/-- **`from_bytes(target, to_bytes(saved))` is `from_state_dict(target, to_state_dict(saved))`** for
*any* target, at every threshold. The theorems on restoring by key and rejecting mismatches apply to it with
`s = toStateDict saved`, whose `wf` follows from `saved.wf`; `s.noLegacy` remains a hypothesis. -/
theorem from_bytes_is_restore (T : Nat) (isz : String → Nat) (saved target : Tree)
    (hnm : saved.noMarker = true) (hok : saved.arraysOk isz)
    (hp : (chunkLeaves T isz (toStateDict saved)).packable) :
    fromBytes target (toBytes T isz saved) = fromStateDict target (toStateDict saved) :=
  fromBytes_toBytes T isz saved target hnm hok hp

/-- **Bytes round trip**: for every pytree with distinct keys that does not use the reserved chunk
key, whose arrays satisfy NumPy's size invariant, and whose chunked state dict fits msgpack's limits,
at every threshold `T`. -/
theorem bytes_roundtrip (T : Nat) (isz : String → Nat) (t : Tree)
    (hw : t.wf = true) (hnm : t.noMarker = true) (hok : t.arraysOk isz)
    (hp : (chunkLeaves T isz (toStateDict t)).packable) :
    fromBytes t (toBytes T isz t) = .ok t := by
  rw [from_bytes_is_restore T isz t t hnm hok hp]
  exact statedict_roundtrip t hw

/-- **`WFSizes` is enough**: a tree satisfying this decidable (`Bool`) predicate (distinct keys, no reserved key, sizes
and ints within the limits listed in `Proofs/SerialSizes.lean`) has a chunked state dict within msgpack's limits, at
every threshold, whatever the item sizes. -/
theorem wf_tree_packable (T : Nat) (isz : String → Nat) (t : Tree) (h : WFSizes t = true) :
    (chunkLeaves T isz (toStateDict t)).packable := by
  obtain ⟨hw, _, hs⟩ := (wfSizes_iff t).mp h
  have := stateDict_ok t hw hs
  exact packable_chunkLeaves T isz _ this.1 this.2

/-- **Bytes round trip over a decidable tree predicate**: `from_bytes(t, to_bytes(t)) == t` for every
`WFSizes` tree whose arrays satisfy NumPy's size invariant, at every threshold. -/
theorem bytes_roundtrip_sizes (T : Nat) (isz : String → Nat) (t : Tree)
    (h : WFSizes t = true) (hok : t.arraysOk isz) :
    fromBytes t (toBytes T isz t) = .ok t :=
  have ⟨hw, hnm, _⟩ := (wfSizes_iff t).mp h
  bytes_roundtrip T isz t hw hnm hok (wf_tree_packable T isz t h)

/-- `from_bytes_is_restore` for every `WFSizes` tree -/
theorem from_bytes_is_restore_sizes (T : Nat) (isz : String → Nat) (saved target : Tree)
    (h : WFSizes saved = true) (hok : saved.arraysOk isz) :
    fromBytes target (toBytes T isz saved) = fromStateDict target (toStateDict saved) :=
  from_bytes_is_restore T isz saved target ((wfSizes_iff saved).mp h).2.1 hok (wf_tree_packable T isz saved h)

/-- `from_bytes` rejects a saved state followed by trailing bytes -/
theorem from_bytes_rejects_trailing (T : Nat) (isz : String → Nat) (saved target : Tree)
    (h : WFSizes saved = true) (g : Bytes) (hg : g ≠ []) :
    fromBytes target (toBytes T isz saved ++ g) = .error .badBytes :=
  fromBytes_of_unpack_none target (msgpack_rejects_trailing _ (ofM_toM _ (wf_tree_packable T isz saved h)).2 g hg)

/-- `from_bytes` rejects a truncated saved state -/
theorem from_bytes_rejects_truncated (T : Nat) (isz : String → Nat) (saved target : Tree)
    (h : WFSizes saved = true) (p q : Bytes) (hpq : toBytes T isz saved = p ++ q) (hq : q ≠ []) :
    fromBytes target p = .error .badBytes :=
  fromBytes_of_unpack_none target (msgpack_rejects_truncated _ (ofM_toM _ (wf_tree_packable T isz saved h)).2 p q hpq hq)

/-- **The result does not depend on the chunk threshold** used when saving -/
theorem result_independent_of_threshold (T₁ T₂ : Nat) (isz : String → Nat) (t : Tree)
    (hw : t.wf = true) (hnm : t.noMarker = true) (hok : t.arraysOk isz)
    (hp₁ : (chunkLeaves T₁ isz (toStateDict t)).packable)
    (hp₂ : (chunkLeaves T₂ isz (toStateDict t)).packable) :
    fromBytes t (toBytes T₁ isz t) = fromBytes t (toBytes T₂ isz t) :=
  fromBytes_threshold T₁ T₂ isz t t hnm hok hp₁ hp₂

/-! ## serialising does not modify the input (heap level)

Python's dicts are the only objects serialization.py ever writes to (`d[k] = …` in
`_np_convert_in_place` and `_chunk_array_leaves_in_place`), so the heap holds dict objects;
addresses are indices, allocation is append. `h₀` is the heap before the call and contains, among
anything else, every dict of the caller's pytree. -/

/-- **`to_state_dict` writes nothing**: it only allocates, and returns either an unregistered leaf as it is or a
dict allocated by the call. -/
theorem to_state_dict_frame (h₀ : Heap) (t : Tree) :
    (∃ ext, (toStateDictH h₀ t).1 = h₀ ++ ext) ∧ RootOK h₀.length (toStateDictH h₀ t).1 (toStateDictH h₀ t).2 := by
  have g := allocSTree_fresh (toStateDict t) h₀
  exact ⟨List.prefix_iff_exists_eq_append.mp g.isPrefix, g.root⟩

/-- **`to_bytes` does not modify its input**: every dict object written by the in-place conversion and
chunking passes was allocated by this very call, and every object that existed before is unchanged. -/
theorem to_bytes_frame (isJax : Leaf → Bool) (toNp : Leaf → Leaf) (T : Nat) (isz : String → Nat)
    (fuel : Nat) (h₀ : Heap) (t : Tree) :
    (∀ a ∈ (toBytesH isJax toNp T isz fuel h₀ t).writes, h₀.length ≤ a) ∧
    (∀ a, a < h₀.length → (toBytesH isJax toNp T isz fuel h₀ t).heap[a]? = h₀[a]?) := by
  exact passes_frame isJax toNp T isz fuel (allocSTree_fresh (toStateDict t) h₀)

/-- **`msgpack_serialize(pytree)` (`in_place=False`) does not modify its input**, for any heap and any
root value: the passes run on the copy. -/
theorem msgpack_serialize_frame (isJax : Leaf → Bool) (toNp : Leaf → Leaf) (T : Nat) (isz : String → Nat)
    (fuel : Nat) (h₀ : Heap) (v : HVal) (o : Out)
    (h : msgpackSerializeH isJax toNp T isz fuel false h₀ v = some o) :
    (∀ a ∈ o.writes, h₀.length ≤ a) ∧ (∀ a, a < h₀.length → o.heap[a]? = h₀[a]?) := by
  simp only [msgpackSerializeH, Bool.false_eq_true, ↓reduceIte] at h
  cases hcp : copyH fuel h₀ v with
  | none => simp [hcp] at h
  | some p =>
    obtain ⟨h1, v1⟩ := p
    simp only [hcp, Option.some.injEq] at h
    subst h
    exact passes_frame isJax toNp T isz fuel (copyH_spec fuel h₀ v h₀.length h1 v1 (Nat.le_refl _) (closed_base h₀) hcp)

/-- **an in-place pass computes the pure function**: run on a state dict that has just been built out
of fresh dict objects, with any recursion budget above the nesting depth, the heap a pass leaves
behind reads back as `mapLeaves step` of the state dict — for every `step`, heap, and state dict with distinct keys. -/
theorem in_place_pass_refines (step : Leaf → Option STree) (h₀ : Heap) (s : STree) (fuel rfuel : Nat)
    (hw : s.wf = true) (hf : sdepth s < fuel) (hr : sdepth (mapLeaves step s) < rfuel) :
    readBack rfuel (inPlace step fuel (allocSTree h₀ s).1 (allocSTree h₀ s).2).heap
      (inPlace step fuel (allocSTree h₀ s).1 (allocSTree h₀ s).2).val = some (mapLeaves step s) :=
  inPlace_fresh step h₀ s fuel hw hf rfuel hr

/-- **`_chunk_array_leaves_in_place` is `chunkLeaves`** (heap pass = pure function) -/
theorem chunk_pass_refines (T : Nat) (isz : String → Nat) (h₀ : Heap) (s : STree) (fuel rfuel : Nat)
    (hw : s.wf = true) (hf : sdepth s < fuel) (hr : sdepth (chunkLeaves T isz s) < rfuel) :
    readBack rfuel (inPlace (chunkStep T isz) fuel (allocSTree h₀ s).1 (allocSTree h₀ s).2).heap
      (inPlace (chunkStep T isz) fuel (allocSTree h₀ s).1 (allocSTree h₀ s).2).val
      = some (chunkLeaves T isz s) := by
  rw [← mapLeaves_chunkStep] at hr ⊢
  exact in_place_pass_refines _ h₀ s fuel rfuel hw hf hr

/-- **what `to_bytes` hands to `packb`**: after `_np_convert_in_place` and
`_chunk_array_leaves_in_place` on the freshly built state dict, the heap value reads back as
`chunkLeaves T` of the state dict with its JAX leaves converted. -/
theorem to_bytes_passes_refine (isJax : Leaf → Bool) (toNp : Leaf → Leaf) (T : Nat) (isz : String → Nat)
    (h₀ : Heap) (t : Tree) (fuel rfuel : Nat) (hw : t.wf = true) (hf : sdepth (toStateDict t) < fuel)
    (hr : sdepth (chunkLeaves T isz (mapLeaves (npStep isJax toNp) (toStateDict t))) < rfuel) :
    readBack rfuel (toBytesH isJax toNp T isz fuel h₀ t).heap (toBytesH isJax toNp T isz fuel h₀ t).val
      = some (chunkLeaves T isz (mapLeaves (npStep isJax toNp) (toStateDict t))) :=
  passes_fresh isJax toNp T isz h₀ (toStateDict t) fuel (wf_toStateDict t hw) hf rfuel hr

/-- with no JAX leaf the conversion pass is the identity: exactly `chunkLeaves T (to_state_dict t)` -/
theorem to_bytes_passes_refine_numpy (toNp : Leaf → Leaf) (T : Nat) (isz : String → Nat)
    (h₀ : Heap) (t : Tree) (fuel rfuel : Nat) (hw : t.wf = true) (hf : sdepth (toStateDict t) < fuel)
    (hr : sdepth (chunkLeaves T isz (toStateDict t)) < rfuel) :
    readBack rfuel (toBytesH (fun _ => false) toNp T isz fuel h₀ t).heap
        (toBytesH (fun _ => false) toNp T isz fuel h₀ t).val
      = some (chunkLeaves T isz (toStateDict t)) := by
  have hid : mapLeaves (npStep (fun _ => false) toNp) (toStateDict t) = toStateDict t :=
    mapLeaves_id _ (by intro v; simp [npStep]) _
  have := to_bytes_passes_refine (fun _ => false) toNp T isz h₀ t fuel rfuel hw hf (by rw [hid]; exact hr)
  rw [hid] at this
  exact this

/-- the flag matters (and the two frame theorems are not vacuous): with `in_place=True` a caller's
dict holding an oversize array is written to — its entry is replaced by the chunk dict -/
theorem in_place_true_modifies_input :
    let h₀ : Heap := [[("w", .leaf (.ndarray { dtype := "float32", shape := [2], data := [1, 2, 3, 4, 5, 6, 7, 8] }))]]
    ∃ o, msgpackSerializeH (fun _ => false) id 5 (fun _ => 4) 3 true h₀ (.ref 0) = some o ∧
      o.writes = [0] ∧ o.heap[0]? ≠ h₀[0]? := by
  refine ⟨_, rfl, by decide, by decide⟩

/-! a concrete tree meets every hypothesis, with chunking active -/

def exArr : NdArray := { dtype := "float32", shape := [2, 3], data := List.replicate 24 7 }

def exT : Tree :=
  .dict [("params", .fdict [("w", .leaf (.ndarray exArr)), ("b", .leaf (.float 0))]),
         ("opt", .tuple [.named "Adam" [("count", .leaf (.int 3)), ("mu", .list [.leaf .none])],
                         .struct "S" [("step", .leaf (.npscalar "int32" [1, 0, 0, 0]))] 7])]

def exIsz : String → Nat := fun _ => 4

example : WFSizes exT = true := by decide +kernel
example : exT.wf = true := by decide +kernel
example : exT.noMarker = true := by decide +kernel
example : exT.noLegacyNames = true := by decide +kernel
example : exT.arraysOk exIsz := by
  simp [exT, Tree.arraysOk, taokFields, taokList, NdArray.ok, exArr, exIsz, prod]
/-- threshold 5 bytes: the 24-byte array is split into 6 one-element chunks -/
example : (chunkLeaves 5 exIsz (toStateDict exT)).packable :=
  wf_tree_packable 5 exIsz exT (by decide +kernel)
example : (toStateDict exT).wf = true ∧ (toStateDict exT).noLegacy = true ∧ (toStateDict exT).noMarker = true := by
  decide +kernel
example : oversize 5 exIsz exArr = true ∧ oversize 24 exIsz exArr = false := by decide +kernel
example : (MVal.map [(.str [97], .arr [.int (-33), .f64 0, .ext 1 [1, 2, 3]]), (.bin [], .nil)]).WF := by
  simp [MVal.WF, WFPairs, WFList]
example : localCheck ["."] (.dict [("a", .leaf .none), ("b", .leaf .none)]) (.dict [("a", .leaf .none)])
    = some (.missingKeys ["."]) := by decide +kernel

/-- instance of `to_bytes_passes_refine_numpy` with the write set: at threshold 5 the array at `params/w` is replaced
in its freshly allocated dict -/
example :
    readBack 10 (toBytesH (fun _ => false) id 5 exIsz 10 [] exT).heap
        (toBytesH (fun _ => false) id 5 exIsz 10 [] exT).val
      = some (chunkLeaves 5 exIsz (toStateDict exT)) ∧
    (toBytesH (fun _ => false) id 5 exIsz 10 [] exT).writes = [0] :=
  ⟨rfl, rfl⟩

end Flax.C10
