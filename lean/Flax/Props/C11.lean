/-
C11 — Checkpoint directory survives crashes; retention and step ordering are exact.

Property theorems over `Flax/Model/Ckpt.lean`.  A save is a sequence of atomic file-system steps; `crashed cfg d k`
is the directory after a crash that let exactly `k` of them happen (every `k : Nat`; `k` beyond the last step is the
completed save; a torn write is the state between `create` and `writeAll`).  That names are listed in the order of
their step values is assumption A-NAT; for integer steps it is proved of the character-level model
`Model/NatSort.lean`, for printed floats up to A-FLOAT (`float()` orders literals as their decimal values).
`f10_*` are defects fixed in /repo; `orbax_overwrite_*` and `natural_sort_sign_prefix_misorders` are the known
findings F15 and F6.
-/
import Flax.Model.Ckpt
import Flax.Proofs.Ckpt
import Flax.Proofs.CkptAsync
import Flax.Proofs.NatSort

namespace Flax.C11
open Flax.Ckpt

theorem inv_empty : Inv Dir.empty := ⟨Files.sorted_nil, fun _ h => by cases h⟩

/-- `latest_checkpoint` returns a listed checkpoint whose step value bounds every listed step. -/
theorem latest_is_max_value {d : Dir} (hS : d.ckpts.Sorted) {e : Int × Content} (hl : latest d = some e) :
    e.1 ∈ listing d ∧ ∀ x ∈ listing d, x ≤ e.1 := by
  refine ⟨Files.fst_mem_steps (List.mem_of_getLast? hl), ?_⟩
  intro x hx
  obtain ⟨e', he', rfl⟩ := Files.mem_steps.mp hx
  exact Files.getLast_max hS hl e' he'

theorem latest_none_iff (d : Dir) : latest d = none ↔ listing d = [] := by
  simp [latest, listing, Files.steps, List.getLast?_eq_none_iff]

/-- a listed step that bounds all listed steps is the one `latest_checkpoint` returns -/
theorem latest_of_max {d : Dir} (hS : d.ckpts.Sorted) {e : Int × Content} (he : e ∈ d.ckpts)
    (hmax : ∀ x ∈ listing d, x ≤ e.1) : latest d = some e :=
  Files.getLast_of_max hS he (fun x hx => hmax x.1 (Files.fst_mem_steps hx))

example : latest { ckpts := [(-3, .complete 1), (2, .complete 2), (10, .complete 3)] } = some (10, .complete 3) := by
  decide

/-- legacy back-end: without `overwrite` the save raises `InvalidCheckpointError` exactly when a listed step is
at or above the new one (the existing step itself, or any newer one). -/
theorem legacy_rejects_iff {cfg : Cfg} (d : Dir) (hb : cfg.backend = .legacy) (ho : cfg.overwrite = false) :
    save cfg d = .error .invalidCheckpoint ↔ ∃ x ∈ listing d, cfg.step ≤ x := by
  rw [save_error_iff, check_legacy d hb ho]
  split <;> simp [*]

/-- Orbax back-end: without `overwrite` the save raises exactly when the step exists. -/
theorem orbax_rejects_iff {cfg : Cfg} (d : Dir) (hb : cfg.backend = .orbax) (ho : cfg.overwrite = false) :
    save cfg d = .error .destinationExists ↔ cfg.step ∈ listing d := by
  rw [save_error_iff, check_orbax d hb ho]
  split <;> simp [*]

theorem overwrite_never_raises {cfg : Cfg} (d : Dir) (ho : cfg.overwrite = true) : ∃ d', save cfg d = .ok d' :=
  save_ok_of_check (check_overwrite d ho)

/-- a save that raises has performed no file-system step: whatever the crash point, the directory is the one
before the call -/
theorem no_overwrite_raises_and_frame {cfg : Cfg} {d : Dir} {e : Err} (h : save cfg d = .error e) :
    ∀ k, crashed cfg d k = d :=
  crashed_err (save_error_iff.mp h)

example : save { backend := .legacy, step := 3, payload := 9, keep := 2, everyN := 0, overwrite := false }
    { ckpts := [(3, .complete 1), (5, .complete 2)] } = .error .invalidCheckpoint := by rfl
example : save { backend := .legacy, step := 4, payload := 9, keep := 2, everyN := 0, overwrite := false }
    { ckpts := [(3, .complete 1), (5, .complete 2)] } = .error .invalidCheckpoint := by rfl
example : save { backend := .orbax, step := 4, payload := 9, keep := 3, everyN := 0, overwrite := false }
    { ckpts := [(3, .complete 1), (5, .complete 2)] } =
    .ok { ckpts := [(3, .complete 1), (4, .complete 9), (5, .complete 2)] } := by rfl

/-- `checkpoint_files[index(path)+1:]` / `[:index+1]` on an ascending list are the elements above / up to `s` -/
theorem newerOf_eq_drop {l : List Int} (hl : Asc l) {s : Int} (hs : s ∈ l) :
    l.filter (fun x => decide (s < x)) = l.drop (l.idxOf s + 1) ∧
    l.filter (fun x => decide (x ≤ s)) = l.take (l.idxOf s + 1) := by
  -- `l = A ++ s :: B` with `A` below and `B` above `s`
  obtain ⟨A, B, rfl⟩ := List.append_of_mem hs
  obtain ⟨_, hB, hAB⟩ := List.pairwise_append.mp hl
  have hA : ∀ a ∈ A, a < s := fun a ha => hAB a ha s List.mem_cons_self
  have hB : ∀ b ∈ B, s < b := (List.pairwise_cons.mp hB).1
  have hidx : (A ++ s :: B).idxOf s = A.length := by
    rw [List.idxOf_append, if_neg (fun h => Int.lt_irrefl s (hA s h)), List.idxOf_cons_self, Nat.zero_add]
  rw [hidx, List.filter_append, List.filter_append, List.drop_length_add_append, List.take_length_add_append]
  constructor
  · rw [List.filter_eq_nil_iff.mpr (fun a ha h => Int.lt_asymm (hA a ha) (of_decide_eq_true h)),
      List.filter_cons_of_neg (p := fun x => decide (s < x)) (fun h => Int.lt_irrefl s (of_decide_eq_true h)),
      List.filter_eq_self.mpr (fun b hb => decide_eq_true (hB b hb))]
    rfl
  · rw [List.filter_eq_self.mpr (fun a ha => decide_eq_true (Int.le_of_lt (hA a ha))),
      List.filter_cons_of_pos (p := fun x => decide (x ≤ s)) (decide_eq_true (Int.le_refl s)),
      List.filter_eq_nil_iff.mpr (fun b hb h => Int.not_le.mpr (hB b hb) (of_decide_eq_true h))]
    rfl

/-- The listing after a completed save is `policy keep every_n overwrite step (listing before)`, on both back-ends. -/
theorem policy_after_save {cfg : Cfg} {d d' : Dir} (hS : d.ckpts.Sorted) (h : save cfg d = .ok d') :
    listing d' = policy cfg.keep cfg.everyN cfg.overwrite cfg.step (listing d) ∧ d'.ckpts.Sorted := by
  have hck := save_ok_ckpts hS h
  refine ⟨?_, ?_⟩
  · unfold listing
    rw [hck, Files.steps_delAll, Files.steps_put]
    exact filter_removals_eq_policy ((Files.sorted_iff_steps _).mp hS) _ _ _ _
  · rw [hck]
    exact Files.sorted_delAll _ (Files.sorted_put _ _ hS)

/-- a completed save keeps the invariant -/
theorem save_preserves_inv {cfg : Cfg} {d d' : Dir} (hI : Inv d) (h : save cfg d = .ok d') : Inv d' := by
  refine ⟨(policy_after_save hI.sorted h).2, fun e he => ?_⟩
  rcases save_ok_mem hI.sorted h e he with h1 | ⟨h1, _⟩
  · rw [h1]; exact Content.noConfusion
  · exact hI.complete e h1

/-- retention with `overwrite`: nothing above the saved step survives -/
theorem policy_overwrite_removes_newer (keep : Nat) (n : Int) (s : Int) (before : List Int) :
    ∀ x ∈ policy keep n true s before, x ≤ s := by
  intro x hx
  rw [policy_eq_keptOf] at hx
  have hs := self_mem_insertStep s before
  have := (keptOf_sublist _ _ _).subset hx
  rw [uptoOf_of_mem hs] at this
  simpa using (List.mem_filter.mp this).2

/-- retention invents nothing: what is listed afterwards was listed before or is the new step -/
theorem policy_subset (keep : Nat) (n : Int) (ovw : Bool) (s : Int) (before : List Int) :
    ∀ x ∈ policy keep n ovw s before, x = s ∨ x ∈ before := by
  intro x hx
  rw [policy_eq_keptOf] at hx
  exact (mem_insertStep s before x).mp (uptoOf_subset x ((keptOf_sublist _ _ _).subset hx))

/-- retention keeps the `keep` newest candidates.  A candidate (old step or the new one; not above
`s` when `overwrite`) that has fewer than `keep` candidates above it is listed afterwards.  In particular,
without `overwrite`, steps newer than the saved one are never removed for being newer. -/
theorem policy_keeps_newest {before : List Int} (hb : Asc before) (keep : Nat) (n : Int) (ovw : Bool) (s x : Int)
    (hx : x ∈ uptoOf ovw s (insertStep s before))
    (hfew : ((uptoOf ovw s (insertStep s before)).filter (fun y => decide (x < y))).length < keep) :
    x ∈ policy keep n ovw s before := by
  rw [policy_eq_keptOf]
  have hU : Asc (uptoOf ovw s (insertStep s before)) := uptoOf_asc (asc_insertStep s hb)
  rw [mem_keptOf hU]
  refine ⟨hx, ?_⟩
  intro hr
  obtain ⟨_, hlen, hx'⟩ := mem_oldOf.mp (greedyRemove_subset _ _ _ x hr)
  generalize uptoOf ovw s (insertStep s before) = U at *
  -- the `keep` last candidates all lie above `x`
  have hsub : (U.drop (U.length - keep)).Sublist (U.filter (fun y => decide (x < y))) := by
    have h1 : (U.drop (U.length - keep)).filter (fun y => decide (x < y)) = U.drop (U.length - keep) :=
      List.filter_eq_self.mpr (fun y hy => decide_eq_true (asc_take_lt_drop hU _ hx' hy))
    rw [← h1]
    exact List.Sublist.filter _ (List.drop_sublist _ _)
  have := hsub.length_le
  rw [List.length_drop, Nat.sub_sub_self (Nat.le_of_lt hlen)] at this
  exact Nat.lt_irrefl _ (Nat.lt_of_le_of_lt this hfew)

/-- the shape of the every-n recurrence: what it keeps is non-zero and spaced by at least `n` -/
def Gapped (n : Int) : Option Int → List Int → Prop
  | _, [] => True
  | none, x :: xs => x ≠ 0 ∧ Gapped n (some x) xs
  | some l, x :: xs => x ≠ 0 ∧ n ≤ x - l ∧ Gapped n (some x) xs

/-- `keep_every_n_steps`: `greedyKeep` is the `last_kept` recurrence that `policy` runs over the candidates below the
`keep` newest; each one it retains is non-zero and at least `n` above the one retained before; with `n = 0` (None) none. -/
theorem greedyKeep_gapped (n : Int) (last : Option Int) (xs : List Int) :
    Gapped n last (greedyKeep n last xs) ∧ (n = 0 → greedyKeep n last xs = []) := by
  fun_induction greedyKeep n last xs with
  | case1 last => cases last <;> exact ⟨trivial, fun _ => rfl⟩
  | case2 last a r hc ih =>
    simp only [keepCond, Bool.and_eq_true, decide_eq_true_eq] at hc
    refine ⟨?_, fun h0 => absurd h0 hc.1.1⟩
    cases last with
    | none => exact ⟨hc.1.2, ih.1⟩
    | some l => exact ⟨hc.1.2, of_decide_eq_true hc.2, ih.1⟩
  | case3 last a r hc ih => exact ih

/-- what the `last_kept` recurrence drops (`greedyRemove`) fails its test against the last step retained before it -/
theorem greedyRemove_reason (n : Int) (last : Option Int) (xs : List Int) :
    ∀ x ∈ greedyRemove n last xs, n = 0 ∨ x = 0 ∨
      ∃ l, (l ∈ greedyKeep n last xs ∨ last = some l) ∧ x - l < n := by
  fun_induction greedyRemove n last xs with
  | case1 => intro x hx; cases hx
  | case2 last a r hc ih =>
    intro x hx
    rw [greedyKeep, if_pos hc]
    rcases ih x hx with h | h | ⟨l, hl, hlt⟩
    · exact Or.inl h
    · exact Or.inr (Or.inl h)
    · refine Or.inr (Or.inr ⟨l, Or.inl ?_, hlt⟩)
      rcases hl with hl | hl
      · exact List.mem_cons_of_mem _ hl
      · cases hl; exact List.mem_cons_self
  | case3 last a r hc ih =>
    intro x hx
    rw [greedyKeep, if_neg hc]
    rcases List.mem_cons.mp hx with e | e
    · subst e
      by_cases h0 : n = 0
      · exact Or.inl h0
      by_cases hx0 : x = 0
      · exact Or.inr (Or.inl hx0)
      cases last with
      | none => simp [keepCond, h0, hx0] at hc
      | some l =>
        refine Or.inr (Or.inr ⟨l, Or.inr rfl, ?_⟩)
        simp [keepCond, h0, hx0] at hc
        omega
    · exact ih x e

example : policy 2 0 false 6 [3, 4] = [4, 6] := by decide +kernel
example : policy 2 5 false 22 [1, 3, 7, 9, 12, 21] = [1, 7, 12, 21, 22] := by decide +kernel
example : policy 1 3 false 9 [0, 2, 4, 5, 8] = [2, 5, 8, 9] := by decide +kernel   -- step 0 is never retained by every-n
example : policy 3 0 true 5 [3, 4, 5, 6, 7] = [3, 4, 5] := by decide +kernel
example : policy 0 0 false 5 [3, 4] = [3, 4, 5] := by decide +kernel           -- `keep = 0`: Python `xs[:-0]` removes nothing


/-- One completed save: the saved step restores to the new payload, every other retained step restores to
what it restored to before. -/
theorem restore_after_save {cfg : Cfg} {d d' : Dir} (hS : d.ckpts.Sorted) (h : save cfg d = .ok d') :
    (cfg.step ∈ listing d' → restoreStep d' cfg.step = .ok cfg.payload) ∧
    (∀ x ∈ listing d', x ≠ cfg.step → restoreStep d' x = restoreStep d x) := by
  have hS' := (policy_after_save hS h).2
  have hmem := save_ok_mem hS h
  constructor
  · intro hs
    obtain ⟨⟨x, c⟩, he, rfl⟩ := Files.mem_steps.mp hs
    rcases hmem _ he with h1 | ⟨_, h1⟩
    · cases h1; exact restoreStep_of_mem hS' he
    · exact absurd rfl h1
  · intro x hx hne
    obtain ⟨⟨x, c⟩, he, rfl⟩ := Files.mem_steps.mp hx
    rcases hmem _ he with h1 | ⟨h1, _⟩
    · cases h1; exact absurd rfl hne
    · rw [restoreStep_of_mem hS' he, restoreStep_of_mem hS h1]

/-- payload of the last successful save at each step, along a history -/
def savedAt : List Cfg → Dir → (Int → Option Nat) → (Int → Option Nat)
  | [], _, m => m
  | c :: cs, d, m =>
    match save c d with
    | .ok d' => savedAt cs d' (fun x => if x = c.step then some c.payload else m x)
    | .error _ => savedAt cs d m

/-- Every history of save calls (calls that raise included):
each step listed at the end restores to the payload of the last successful save at that step. -/
theorem restore_returns_saved (hist : List Cfg) :
    ∀ (d0 : Dir) (m0 : Int → Option Nat), Inv d0 →
      (∀ x ∈ listing d0, ∃ p, m0 x = some p ∧ restoreStep d0 x = .ok p) →
      ∀ x ∈ listing (runHistory hist d0),
        ∃ p, savedAt hist d0 m0 x = some p ∧ restoreStep (runHistory hist d0) x = .ok p := by
  induction hist with
  | nil => intro d0 m0 _ h0 x hx; exact h0 x hx
  | cons c cs ih =>
    intro d0 m0 hI h0
    simp only [runHistory, savedAt]
    cases hs : save c d0 with
    | error e => exact ih d0 m0 hI h0
    | ok d' =>
      simp only
      apply ih d' _ (save_preserves_inv hI hs)
      intro x hx
      have hr := restore_after_save hI.sorted hs
      by_cases hxs : x = c.step
      · subst hxs
        exact ⟨c.payload, by simp, hr.1 hx⟩
      · have hxb : x ∈ listing d0 := by
          have := (policy_after_save hI.sorted hs).1
          rw [this] at hx
          rcases policy_subset _ _ _ _ _ x hx with e | e
          · exact absurd e hxs
          · exact e
        obtain ⟨p, hp1, hp2⟩ := h0 x hxb
        exact ⟨p, by simp [hxs, hp1], by rw [hr.2 x hx hxs]; exact hp2⟩

/-- `restore_returns_saved` from the empty directory, where its hypotheses hold outright -/
theorem restore_returns_saved_from_empty (hist : List Cfg) :
    ∀ x ∈ listing (runHistory hist Dir.empty),
      ∃ p, savedAt hist Dir.empty (fun _ => none) x = some p ∧
        restoreStep (runHistory hist Dir.empty) x = .ok p :=
  restore_returns_saved hist Dir.empty _ inv_empty (fun x hx => by simp [listing, Dir.empty, Files.steps] at hx)

/-- every directory a history of save calls produces satisfies the invariant (a call that raises changes nothing) -/
theorem history_inv (hist : List Cfg) : ∀ d0, Inv d0 → Inv (runHistory hist d0) := by
  induction hist with
  | nil => intro d0 h; exact h
  | cons c cs ih =>
    intro d0 hI
    simp only [runHistory]
    cases hs : save c d0 with
    | error e => exact ih d0 hI
    | ok d' => exact ih d' (save_preserves_inv hI hs)

/-- **Legacy back-end.** From a directory satisfying the invariant, for every configuration and every number `k` of
file-system steps performed before the crash:
the crashed directory again satisfies the invariant — every listed name is a complete checkpoint (temporary names
are never listed, by `listing`) — and its latest checkpoint is the previous latest or the new one. -/
theorem crash_safe_legacy {cfg : Cfg} {d : Dir} (hI : Inv d) (hb : cfg.backend = .legacy) (k : Nat) :
    Inv (crashed cfg d k) ∧
    (latest (crashed cfg d k) = latest d ∨
      latest (crashed cfg d k) = some (cfg.step, .complete cfg.payload)) := by
  rcases crashed_spec hI.sorted (fun h => by rw [hb] at h; cases h) k with h | ⟨_, hS, hl, _, hmem⟩
  · exact ⟨⟨h ▸ hI.sorted, h ▸ hI.complete⟩, Or.inl (congrArg List.getLast? h)⟩
  · refine ⟨⟨hS, fun e he => ?_⟩, hl⟩
    rcases hmem e he with h | ⟨h, _⟩ | ⟨h, _⟩
    · rw [h]; exact Content.noConfusion
    · exact hI.complete e h
    · rw [hb] at h; cases h

/-- **Orbax back-end**, when nothing at or above the saved step has to be deleted in place
(`overwrite=False`, or nothing listed at or above the step): for every crash point the latest checkpoint is the
previous latest or the new one, complete; a listed directory can be half deleted (a non-atomic `rmtree` of an
old checkpoint) only strictly below the latest. -/
theorem crash_safe_orbax {cfg : Cfg} {d : Dir} (hI : Inv d) (_hb : cfg.backend = .orbax)
    (hf : InPlaceFree cfg d) (k : Nat) :
    (crashed cfg d k).ckpts.Sorted ∧
    (latest (crashed cfg d k) = latest d ∨
      latest (crashed cfg d k) = some (cfg.step, .complete cfg.payload)) ∧
    (∀ e ∈ (crashed cfg d k).ckpts, e.2 = .torn → ∃ m, latest (crashed cfg d k) = some m ∧ e.1 < m.1) := by
  rcases crashed_spec hI.sorted (fun _ => hf) k with h | ⟨_, hS, hl, _, hmem⟩
  · exact ⟨h ▸ hI.sorted, Or.inl (congrArg List.getLast? h), fun e he ht => absurd ht (hI.complete e (h ▸ he))⟩
  · refine ⟨hS, hl, fun e he ht => ?_⟩
    rcases hmem e he with h | ⟨h, _⟩ | ⟨_, _, h⟩
    · rw [h] at ht; cases ht
    · exact absurd ht (hI.complete e h)
    · exact h

/-- both back-ends: after any crash `restore_checkpoint` finds the previous latest or the new
checkpoint, never a partial or temporary file -/
theorem crash_safe {cfg : Cfg} {d : Dir} (hI : Inv d) (hf : cfg.backend = .orbax → InPlaceFree cfg d) (k : Nat) :
    restoreLatest (crashed cfg d k) = restoreLatest d ∨
    restoreLatest (crashed cfg d k) = .ok (some cfg.payload) := by
  have hl : latest (crashed cfg d k) = latest d ∨
      latest (crashed cfg d k) = some (cfg.step, .complete cfg.payload) := by
    cases hb : cfg.backend with
    | legacy => exact (crash_safe_legacy hI hb k).2
    | orbax => exact (crash_safe_orbax hI hb (hf hb) k).2.1
  rcases hl with h | h
  · left; simp [restoreLatest, h]
  · right; simp [restoreLatest, h]

/-- `restore_checkpoint` on a directory satisfying the invariant never meets a partial file -/
theorem restore_complete {d : Dir} (hI : Inv d) : ∃ r, restoreLatest d = .ok r := by
  unfold restoreLatest
  cases hl : latest d with
  | none => exact ⟨none, rfl⟩
  | some e =>
    obtain ⟨x, c⟩ := e
    cases c with
    | complete p => exact ⟨some p, rfl⟩
    | torn => exact absurd rfl (hI.complete _ (List.mem_of_getLast? hl))

theorem reachable_inv {d : Dir} (h : Reachable d) : Inv d := by
  induction h with
  | empty => exact inv_empty
  | saved _ hs ih => exact save_preserves_inv ih hs
  | crashedLegacy k _ hb ih => exact (crash_safe_legacy ih hb k).1

/-- crash safety over every reachable directory × every next save × every crash point -/
theorem crash_safe_reachable {d : Dir} (h : Reachable d) (cfg : Cfg)
    (hf : cfg.backend = .orbax → InPlaceFree cfg d) (k : Nat) :
    (restoreLatest (crashed cfg d k) = restoreLatest d ∨
      restoreLatest (crashed cfg d k) = .ok (some cfg.payload)) ∧
    ∃ r, restoreLatest (crashed cfg d k) = .ok r := by
  have hI := reachable_inv h
  have h1 := crash_safe hI hf k
  refine ⟨h1, ?_⟩
  obtain ⟨r, hr⟩ := restore_complete hI
  rcases h1 with h2 | h2
  · exact ⟨r, by rw [h2, hr]⟩
  · exact ⟨_, h2⟩


/-- A step above everything listed saves normally, on either back-end, from any directory in natural_sort order
(in particular from every crashed directory): no error, the listing is what the policy promises, and the new
checkpoint is the latest and restores to its payload. -/
theorem save_later_step {cfg : Cfg} {d : Dir} (hS : d.ckpts.Sorted) (htop : ∀ x ∈ listing d, x < cfg.step) :
    ∃ d', save cfg d = .ok d' ∧
      listing d' = policy cfg.keep cfg.everyN cfg.overwrite cfg.step (listing d) ∧ d'.ckpts.Sorted ∧
      latest d' = some (cfg.step, .complete cfg.payload) ∧ restoreLatest d' = .ok (some cfg.payload) := by
  obtain ⟨d', hd'⟩ := save_ok_of_check (check_of_top (cfg := cfg) htop)
  have hpol := policy_after_save hS hd'
  have hmem : (cfg.step, Content.complete cfg.payload) ∈ d'.ckpts := by
    rw [save_ok_ckpts hS hd']
    exact Files.mem_delAll.mpr ⟨(Files.mem_put_of_sorted hS _).mpr (Or.inl rfl), put_top_not_removed hS _
      (fun x hx => htop x.1 (Files.fst_mem_steps hx)) _ _ _⟩
  have hlat : latest d' = some (cfg.step, .complete cfg.payload) := by
    apply latest_of_max hpol.2 hmem
    intro x hx
    rw [hpol.1] at hx
    rcases policy_subset _ _ _ _ _ x hx with e | e
    · exact Int.le_of_eq e
    · exact Int.le_of_lt (htop x e)
  exact ⟨d', hd', hpol.1, hpol.2, hlat, by simp [restoreLatest, hlat]⟩

/-- Retrying the interrupted call (legacy back-end): it succeeds, unless the crash came after the commit — then
the step is already there with the new payload and, without `overwrite`, the retry raises
`InvalidCheckpointError`. -/
theorem retry_after_crash_legacy {cfg : Cfg} {d d1 : Dir} (hI : Inv d) (hb : cfg.backend = .legacy)
    (hfirst : save cfg d = .ok d1) (k : Nat) :
    (∃ d'', save cfg (crashed cfg d k) = .ok d'') ∨
    (cfg.overwrite = false ∧ restoreStep (crashed cfg d k) cfg.step = .ok cfg.payload ∧
      save cfg (crashed cfg d k) = .error .invalidCheckpoint) := by
  cases ho : cfg.overwrite with
  | true => exact Or.inl (overwrite_never_raises _ ho)
  | false =>
    have hnot : ¬ ∃ x ∈ listing d, cfg.step ≤ x := by
      intro h
      have := (legacy_rejects_iff d hb ho).mpr h
      rw [this] at hfirst; cases hfirst
    rcases crashed_spec hI.sorted (fun h => by rw [hb] at h; cases h) k with h | ⟨_, hSd, _, hnew, _⟩
    · exact Or.inl (save_ok_of_check (by rw [check_legacy _ hb ho, listing, h]; exact if_neg hnot))
    · right
      have hmem := hnew (fun x hx => Int.not_le.mp
        (fun hle => hnot ⟨x.1, Files.fst_mem_steps hx, hle⟩))
      refine ⟨rfl, restoreStep_of_mem hSd hmem, (legacy_rejects_iff _ hb ho).mpr ?_⟩
      exact ⟨cfg.step, Files.fst_mem_steps hmem, Int.le_refl _⟩

/-- Retrying the interrupted call (**Orbax back-end**, under A-ORBAX: the step sequence of `prepare`/`commit`): the
retry succeeds, unless the commit rename had happened (`k` past the last step of `prepare`) and the step is still
listed — then, without `overwrite`, Orbax refuses the existing destination; listed there is the new checkpoint,
complete, or (if retention had begun to delete this very step, older than the `keep` newest) a half-deleted directory
strictly below the latest.  No `InPlaceFree` hypothesis: with `overwrite` the retry never raises, without it nothing
is deleted in place. -/
theorem retry_after_crash_orbax {cfg : Cfg} {d d1 : Dir} (hI : Inv d) (hb : cfg.backend = .orbax)
    (hfirst : save cfg d = .ok d1) (k : Nat) :
    (∃ d'', save cfg (crashed cfg d k) = .ok d'') ∨
    (cfg.overwrite = false ∧ (prepare cfg d).length < k ∧
      save cfg (crashed cfg d k) = .error .destinationExists ∧
      (restoreStep (crashed cfg d k) cfg.step = .ok cfg.payload ∨
        (restoreStep (crashed cfg d k) cfg.step = .error .corrupt ∧
          ∃ m, latest (crashed cfg d k) = some m ∧ cfg.step < m.1))) := by
  cases ho : cfg.overwrite with
  | true => exact Or.inl (overwrite_never_raises _ ho)
  | false =>
    have hf : InPlaceFree cfg d := by intro h; rw [ho] at h; cases h.1
    have hnot : cfg.step ∉ listing d := by
      intro h
      have := (orbax_rejects_iff d hb ho).mpr h
      rw [this] at hfirst; cases hfirst
    by_cases hin : cfg.step ∈ listing (crashed cfg d k)
    · rcases crashed_spec hI.sorted (fun _ => hf) k with h | ⟨hk, hS, _, _, hmem⟩
      · rw [listing, h] at hin; exact absurd hin hnot
      · right
        refine ⟨rfl, hk, (orbax_rejects_iff _ hb ho).mpr hin, ?_⟩
        obtain ⟨⟨x, cnt⟩, he, rfl⟩ := Files.mem_steps.mp hin
        have hr := restoreStep_of_mem hS he
        -- an entry at the saved step is the new checkpoint (the step was not listed before) or half deleted
        rcases hmem _ he with h | ⟨_, h⟩ | ⟨_, ht, hm⟩
        · cases h; exact Or.inl hr
        · exact absurd rfl h
        · cases ht; exact Or.inr ⟨hr, hm⟩
    · exact Or.inl (save_ok_of_check (by rw [check_orbax _ hb ho, if_neg hin]))

/-- both outcomes of `retry_after_crash_orbax` occur -/
example : ∃ d'', save { backend := .orbax, step := 5, payload := 5, keep := 2, everyN := 0, overwrite := false }
    (crashed { backend := .orbax, step := 5, payload := 5, keep := 2, everyN := 0, overwrite := false }
      { ckpts := [(3, .complete 3), (4, .complete 4)] } 2) = .ok d'' := ⟨_, rfl⟩
example : save { backend := .orbax, step := 5, payload := 5, keep := 2, everyN := 0, overwrite := false }
    (crashed { backend := .orbax, step := 5, payload := 5, keep := 2, everyN := 0, overwrite := false }
      { ckpts := [(3, .complete 3), (4, .complete 4)] } 4) = .error .destinationExists := rfl

/-- **crash, then continue** (legacy back-end): from any reachable directory, after a crash at any point of
any save, any later step saves normally and re-establishes the retention policy; the result is again reachable,
so this can be repeated for ever. -/
theorem crash_then_continue {d : Dir} (h : Reachable d) {cfg : Cfg} (hb : cfg.backend = .legacy) (k : Nat)
    (cfg2 : Cfg) (hlater : ∀ x ∈ listing (crashed cfg d k), x < cfg2.step) :
    ∃ d'', save cfg2 (crashed cfg d k) = .ok d'' ∧ Reachable d'' ∧ Inv d'' ∧
      listing d'' = policy cfg2.keep cfg2.everyN cfg2.overwrite cfg2.step (listing (crashed cfg d k)) ∧
      restoreLatest d'' = .ok (some cfg2.payload) := by
  have hr : Reachable (crashed cfg d k) := Reachable.crashedLegacy k h hb
  have hI := reachable_inv hr
  obtain ⟨d'', h1, h2, _, _, h5⟩ := save_later_step (cfg := cfg2) hI.sorted hlater
  exact ⟨d'', h1, Reachable.saved hr h1, save_preserves_inv hI h1, h2, h5⟩

/-- after an interrupted Orbax save (nothing deleted in place) a later step saves normally, the listing is the
policy's, and the new checkpoint is the latest, complete -/
theorem crash_then_continue_orbax {d : Dir} (hI : Inv d) {cfg : Cfg} (hb : cfg.backend = .orbax)
    (hf : InPlaceFree cfg d) (k : Nat) (cfg2 : Cfg) (hlater : ∀ x ∈ listing (crashed cfg d k), x < cfg2.step) :
    ∃ d'', save cfg2 (crashed cfg d k) = .ok d'' ∧
      listing d'' = policy cfg2.keep cfg2.everyN cfg2.overwrite cfg2.step (listing (crashed cfg d k)) ∧
      latest d'' = some (cfg2.step, .complete cfg2.payload) ∧
      restoreLatest d'' = .ok (some cfg2.payload) := by
  obtain ⟨d'', h1, h2, _, h4, h5⟩ :=
    save_later_step (cfg := cfg2) (crash_safe_orbax hI hb hf k).1 hlater
  exact ⟨d'', h1, h2, h4, h5⟩

def exCfg (s : Int) (p : Nat) : Cfg :=
  { backend := .legacy, step := s, payload := p, keep := 2, everyN := 0, overwrite := false }

/-- saves of steps 3 and 4, then a save of step 5 that dies inside the write of the temp file: reachable, and the
crashed directory still lists 3 and 4 while holding a partial temp file -/
example : Reachable (crashed (exCfg 5 5) { ckpts := [(3, .complete 3), (4, .complete 4)] } 2) :=
  Reachable.crashedLegacy 2
    (Reachable.saved (d := { ckpts := [(3, .complete 3)] }) (cfg := exCfg 4 4)
      (Reachable.saved (d := Dir.empty) (cfg := exCfg 3 3) Reachable.empty rfl) rfl) rfl

example : crashed (exCfg 5 5) { ckpts := [(3, .complete 3), (4, .complete 4)] } 2 =
    { ckpts := [(3, .complete 3), (4, .complete 4)], tmp := some .torn } := by decide +kernel

example : crashed (exCfg 5 5) { ckpts := [(3, .complete 3), (4, .complete 4)] } 4 =
    { ckpts := [(3, .complete 3), (4, .complete 4), (5, .complete 5)] } := by decide +kernel

example : save (exCfg 5 5) { ckpts := [(3, .complete 3), (4, .complete 4)], tmp := some .torn } =
    .ok { ckpts := [(4, .complete 4), (5, .complete 5)] } := by rfl


private theorem aux_save_of_steps (c : Cfg) (d : Dir) :
    save c d = match saveSteps c d with
      | .error e => .error e
      | .ok st => .ok (run st d) := rfl

/-- For every schedule of the caller and the worker (one pending task; the caller blocks in
`wait_previous_save` while a save is pending): once everything is done, the directory and the errors seen by the
caller are those of the same saves performed synchronously. -/
theorem async_eq_sync (sched : List Move) (d : Dir) (q : List Cfg)
    (hdone : (aexec true sched (ainit d q)).done = true) :
    (aexec true sched (ainit d q)).dir = runHistory q d ∧
    (aexec true sched (ainit d q)).errs = historyErrs q d := by
  -- what is still to happen (`finish`) is the same in every state of the schedule; at the end nothing is
  have h := finish_aexec sched (ainit d q)
  rw [finish_of_done hdone, finish_ainit] at h
  exact Prod.mk.inj h

/-- a schedule that interleaves and finishes -/
example : (aexec true [.caller, .worker, .caller, .worker, .worker, .worker, .caller, .worker, .worker, .worker,
    .worker, .worker] (ainit Dir.empty [exCfg 1 1, exCfg 2 2])).done = true := by decide +kernel

/-- the wait is what makes it true: without it, two saves of the same step both pass the overwrite check, where the
synchronous execution raises on the second (in the model the second commit then replaces the first; flax's `io.rename`
without `overwrite` would raise `AlreadyExistsError` in the worker) -/
theorem async_without_wait_differs :
    ∃ sched q, (aexec false sched (ainit Dir.empty q)).done = true ∧
      (aexec false sched (ainit Dir.empty q)).dir ≠ runHistory q Dir.empty :=
  ⟨[.caller, .caller, .worker, .worker, .worker, .worker, .worker, .worker, .worker, .worker, .worker],
   [exCfg 1 1, exCfg 1 2], by decide +kernel, by decide +kernel⟩

/-- At every moment of every schedule of asynchronous legacy saves the directory is one a crash could have left
(it is `Reachable`): a reader running concurrently with the worker — `latest_checkpoint`, `restore_checkpoint` —
finds complete checkpoints only. -/
theorem async_reader_safe (sched : List Move) (d : Dir) (q : List Cfg) (hd : Reachable d)
    (hq : ∀ c ∈ q, c.backend = .legacy) :
    Reachable (aexec true sched (ainit d q)).dir ∧ Inv (aexec true sched (ainit d q)).dir := by
  have := aexec_dir sched hd hq
  exact ⟨this, reachable_inv this⟩

/-- finding F10 (repaired in /repo): the shipped `_remove_invalid_ckpts` counted the temporary directory of an
interrupted Orbax save; with steps 3, 4 saved and a leftover of step 5, saving step 6 with `keep=2` left a
single checkpoint.  The repaired definition keeps two. -/
theorem f10_orig_counts_temp :
    (saveOrig { backend := .orbax, step := 6, payload := 6, keep := 2, everyN := 0, overwrite := false }
      { ckpts := [(3, .complete 3), (4, .complete 4)], otmps := [(5, .torn)] }).map listing = .ok [6] ∧
    (save { backend := .orbax, step := 6, payload := 6, keep := 2, everyN := 0, overwrite := false }
      { ckpts := [(3, .complete 3), (4, .complete 4)], otmps := [(5, .torn)] }).map listing = .ok [4, 6] :=
  ⟨rfl, rfl⟩

/-- finding F10, second half: the shipped `_check_overwrite_error` rejected a step that was never committed -/
theorem f10_orig_rejects_uncommitted_step :
    saveOrig { backend := .legacy, step := 5, payload := 5, keep := 2, everyN := 0, overwrite := false }
      { ckpts := [(3, .complete 3), (4, .complete 4)], otmps := [(5, .torn)] } = .error .invalidCheckpoint ∧
    (save { backend := .legacy, step := 5, payload := 5, keep := 2, everyN := 0, overwrite := false }
      { ckpts := [(3, .complete 3), (4, .complete 4)], otmps := [(5, .torn)] }).map listing = .ok [4, 5] :=
  ⟨rfl, rfl⟩

/-- finding F15 (known, not repaired): the hypothesis `InPlaceFree` of `crash_safe_orbax` cannot be dropped.
Orbax's `save(force=True)` deletes the destination before writing: overwriting the only checkpoint and dying
before the rename leaves no checkpoint at all. -/
theorem orbax_overwrite_crash_loses_latest :
    latest (crashed { backend := .orbax, step := 15, payload := 2, keep := 1, everyN := 0, overwrite := true }
      { ckpts := [(15, .complete 1)] } 3) = none := by decide +kernel

/-- finding F15, second half: `_remove_invalid_ckpts` deletes newer directories in place: dying inside the `rmtree` of the newest one
leaves a half-deleted latest checkpoint. -/
theorem orbax_overwrite_newer_crash_corrupts_latest :
    latest (crashed { backend := .orbax, step := 5, payload := 9, keep := 2, everyN := 0, overwrite := true }
      { ckpts := [(5, .complete 1), (7, .complete 2)] } 6) = some (7, .torn) := by decide +kernel

/-- the same history on the legacy back-end is safe (files are replaced and unlinked atomically) -/
example : latest (crashed { backend := .legacy, step := 5, payload := 9, keep := 2, everyN := 0, overwrite := true }
      { ckpts := [(5, .complete 1), (7, .complete 2)] } 4) = some (7, .complete 2) := by decide +kernel

/-- non-vacuity of `InPlaceFree` with `overwrite=True` -/
example : InPlaceFree { backend := .orbax, step := 9, payload := 9, keep := 2, everyN := 0, overwrite := true }
    { ckpts := [(5, .complete 1), (7, .complete 2)] } := by
  intro h
  obtain ⟨_, x, hx, hle⟩ := h
  simp [listing, Files.steps] at hx
  simp only at hle
  rcases hx with rfl | rfl <;> omega

/-! ## step values may be scaled: the model's integers stand for any rational step values -/

private theorem aux_keepCond_scale (D : Int) (hD : 0 < D) (n : Int) (last : Option Int) (x : Int) :
    keepCond (n * D) (last.map (· * D)) (x * D) = keepCond n last x := by
  have h0 : ∀ a : Int, a * D ≠ 0 ↔ a ≠ 0 := fun a =>
    not_congr (Int.mul_eq_zero.trans (or_iff_left (Int.ne_of_gt hD)))
  unfold keepCond
  rw [decide_eq_decide.mpr (h0 n), decide_eq_decide.mpr (h0 x)]
  cases last with
  | none => rfl
  | some l =>
    simp only [Option.map_some]
    rw [← Int.sub_mul, decide_eq_decide.mpr (Int.mul_le_mul_right hD)]

theorem greedyKeep_scale (D : Int) (hD : 0 < D) (n : Int) (last : Option Int) (xs : List Int) :
    greedyKeep (n * D) (last.map (· * D)) (xs.map (· * D)) = (greedyKeep n last xs).map (· * D) :=
  greedyKeep_map (· * D) (aux_keepCond_scale D hD n) last xs

/-- The policy commutes with scaling every step value and `keep_every_n_steps` by a positive factor: only the
order of the step values, whether one is zero, and whether a difference reaches `n` matter.  (The harness maps the
rational step values of a history to integers by their common denominator.) -/
theorem policy_scale (D : Int) (hD : 0 < D) (keep : Nat) (n : Int) (ovw : Bool) (s : Int) (before : List Int) :
    policy keep (n * D) ovw (s * D) (before.map (· * D)) = (policy keep n ovw s before).map (· * D) :=
  policy_map (· * D) (fun _ _ h => Int.mul_lt_mul_of_pos_right h hD) (aux_keepCond_scale D hD n) keep ovw s before

example : policy 2 (3 * 4) false (9 * 4) ([2, 4, 5, 8].map (· * 4)) = (policy 2 3 false 9 [2, 4, 5, 8]).map (· * 4) := by
  decide +kernel


/-! ## the hypotheses of the theorems above are satisfiable by non-trivial instances -/

example : Inv { ckpts := [(5, .complete 1), (7, .complete 2)], tmp := some .torn, otmps := [(8, .torn)] } :=
  ⟨by simp [Files.Sorted], by intro e he; simp at he; rcases he with rfl | rfl <;> simp⟩

-- `crash_safe_orbax`: an Orbax save of a new latest step into a directory with a leftover temp dir
example : InPlaceFree { backend := .orbax, step := 8, payload := 3, keep := 1, everyN := 0, overwrite := false }
    { ckpts := [(5, .complete 1), (7, .complete 2)], otmps := [(8, .torn)] } := by
  intro h; simp at h

-- the conclusion of `crash_safe_orbax` is about real torn states: dying inside the rmtree of an old checkpoint
example : crashed { backend := .orbax, step := 8, payload := 3, keep := 1, everyN := 0, overwrite := false }
    { ckpts := [(5, .complete 1), (7, .complete 2)], otmps := [(8, .torn)] } 6 =
    { ckpts := [(5, .torn), (7, .complete 2), (8, .complete 3)] } := by decide +kernel

-- `save_later_step` / `crash_then_continue`
example : ∀ x ∈ listing { ckpts := [(5, .complete 1), (7, .complete 2)], tmp := some .torn }, x < (exCfg 9 9).step := by
  intro x hx; simp [listing, Files.steps] at hx; rcases hx with rfl | rfl <;> simp [exCfg]

-- `retry_after_crash_legacy`: both outcomes occur
example : ∃ d'', save (exCfg 5 5) (crashed (exCfg 5 5) { ckpts := [(3, .complete 3), (4, .complete 4)] } 3) = .ok d'' :=
  ⟨_, rfl⟩
example : save (exCfg 5 5) (crashed (exCfg 5 5) { ckpts := [(3, .complete 3), (4, .complete 4)] } 4) =
    .error .invalidCheckpoint := rfl

-- `policy_keeps_newest`
example : (8 : Int) ∈ uptoOf false 9 (insertStep 9 [2, 4, 5, 8]) ∧
    ((uptoOf false 9 (insertStep 9 [2, 4, 5, 8])).filter (fun y => decide ((8 : Int) < y))).length < 2 := by decide +kernel

-- `async_reader_safe`
example : Reachable Dir.empty ∧ ∀ c ∈ [exCfg 1 1, exCfg 2 2], c.backend = .legacy :=
  ⟨Reachable.empty, by intro c hc; simp at hc; rcases hc with rfl | rfl <;> rfl⟩


/-! ## natural_sort orders printed integer steps by value (the part of A-NAT that is flax's own code)

Character-level model `Flax/Model/NatSort.lean` of `SIGNED_FLOAT_RE.split`, `maybe_num` and `sorted(key=…)`.
Guard: the last character of what precedes the printed step (directory, separator and prefix together) is *inert*:
not a digit, not `+`/`-`, not `.`, not `e`/`E`.  Nothing is required of the earlier characters (temp-dir names with
digits, dots, signs are fine).  Steps are Python ints, printed by `str`. -/

open Flax.NatSort in
/-- the key of `<anything ending in an inert character><number>`, for any `l` the regex takes as one whole number
(`FullMatch`: every printed int and float): a part independent of the number, then the number as one token and an
empty text -/
theorem natural_sort_key_of_number_name (Q : List Char) (c : Char) (hc : Inert c) :
    ∃ K A, ∀ l, FullMatch l →
      natKey (Q ++ [c] ++ l) = K ++ [KElem.str A, KElem.num (decOf l), KElem.str []] := by
  obtain ⟨toks, A, h⟩ := tokens_after_inert Q hc
  exact ⟨toks.map keyOfTok, A ++ [c], fun l hl => by rw [natKey, h, scan_fullMatch hl, List.map_append]; rfl⟩

open Flax.NatSort in
theorem natural_sort_compares_numbers_by_value (Q : List Char) (c : Char) (hc : Inert c) {a b : List Char}
    (ha : FullMatch a) (hb : FullMatch b) :
    keyCmp (natKey (Q ++ [c] ++ a)) (natKey (Q ++ [c] ++ b)) = decCmp (decOf a) (decOf b) := by
  obtain ⟨K, A, h⟩ := natural_sort_key_of_number_name Q c hc
  rw [h a ha, h b hb, keyCmp_append_left]
  simp only [keyCmp, elemCmp, strCmp_self]
  cases decCmp (decOf a) (decOf b) <;> rfl

open Flax.NatSort in
theorem natural_sort_key_of_step_name (Q : List Char) (c : Char) (hc : Inert c) :
    ∃ K A, ∀ n : Int,
      natKey (stepName (Q ++ [c]) n) = K ++ [KElem.str A, KElem.num (decOf (showInt n)), KElem.str []] := by
  obtain ⟨K, A, h⟩ := natural_sort_key_of_number_name Q c hc
  exact ⟨K, A, fun n => h _ (fullMatch_showInt n)⟩

open Flax.NatSort in
theorem natural_sort_compares_by_value (Q : List Char) (c : Char) (hc : Inert c) (a b : Int) :
    keyCmp (natKey (stepName (Q ++ [c]) a)) (natKey (stepName (Q ++ [c]) b)) = compare a b := by
  have ha := decOf_showInt a
  have hb := decOf_showInt b
  exact (natural_sort_compares_numbers_by_value Q c hc (fullMatch_showInt a) (fullMatch_showInt b)).trans
    (by rw [decCmp, if_pos (ha.1.trans hb.1.symm), ha.2, hb.2])

open Flax.NatSort in
/-- `natural_sort` of any list of such names (any order, repetitions allowed) is the list sorted by step value -/
theorem natural_sort_orders_by_value (Q : List Char) (c : Char) (hc : Inert c) (ns : List Int) :
    natSort (ns.map (stepName (Q ++ [c]))) = (sortBy intLe ns).map (stepName (Q ++ [c])) ∧
    (sortBy intLe ns).Pairwise (· ≤ ·) ∧ (∀ x, x ∈ sortBy intLe ns ↔ x ∈ ns) := by
  obtain ⟨h1, h2, h3⟩ := natSort_of_key (stepName (Q ++ [c])) id ns
    (fun a _ b _ => natural_sort_compares_by_value Q c hc a b)
  exact ⟨h1, h2, fun _ => h3.mem_iff⟩

open Flax.NatSort in
/-- `latest_checkpoint` (the last name of the natural_sort) is the name of the numerically largest step -/
theorem natural_sort_latest_is_max (Q : List Char) (c : Char) (hc : Inert c) (ns : List Int) (hne : ns ≠ []) :
    ∃ m ∈ ns, (∀ x ∈ ns, x ≤ m) ∧
      (natSort (ns.map (stepName (Q ++ [c])))).getLast? = some (stepName (Q ++ [c]) m) :=
  natSort_last_of_key (stepName (Q ++ [c])) id ns hne (fun a _ b _ => natural_sort_compares_by_value Q c hc a b)

open Flax.NatSort in
/-- `<prefix>tmp` (any non-empty suffix free of number characters) sorts after every numbered name of the same prefix:
this is what `_check_overwrite_error` relies on when it pops a trailing temp file -/
theorem natural_sort_tmp_sorts_last (Q : List Char) (c : Char) (hc : Inert c) (T : List Char) (hT : ∀ x ∈ T, Inert x)
    (hne : T ≠ []) (n : Int) :
    keyCmp (natKey (stepName (Q ++ [c]) n)) (natKey (Q ++ [c] ++ T)) = .lt := by
  obtain ⟨toks, A, h⟩ := tokens_after_inert Q hc
  rw [stepName, natKey, natKey, h, h, scan_fullMatch (fullMatch_showInt n), scan_inert T hT, List.map_append,
    List.map_append, keyCmp_append_left]
  -- the text before the number is a proper prefix of the text that goes on with `T`
  obtain ⟨x, r, rfl⟩ := List.exists_cons_of_ne_nil hne
  have hlt : strCmp (A ++ [c]) (A ++ [c] ++ x :: r) = .lt := strCmp_proper_prefix _ x r
  simp only [List.map_cons, List.map_nil, keyOfTok, keyCmp, elemCmp, hlt]

open Flax.NatSort in
example : ∀ x ∈ "tmp".toList, Inert x := by
  rw [String.toList_ofList]
  unfold Inert
  decide

open Flax.NatSort in
/-- **The two models composed.**  The directory model keeps the final names ascending by step value; this is exactly what
`natural_sort` returns for their printed names, in whatever order `listdir` hands them over (`ns`), and the last of
them is the name of `latest`.  (Integer steps; guard on the character before the number as above.) -/
theorem listing_is_natural_sort (Q : List Char) (c : Char) (hc : Inert c) {d : Dir} (hS : d.ckpts.Sorted)
    (ns : List Int) (hp : ns.Perm (listing d)) :
    natSort (ns.map (stepName (Q ++ [c]))) = (listing d).map (stepName (Q ++ [c])) ∧
    (natSort (ns.map (stepName (Q ++ [c])))).getLast? = (latest d).map (fun e => stepName (Q ++ [c]) e.1) := by
  obtain ⟨h1, h2, h3⟩ := natural_sort_orders_by_value Q c hc ns
  have hasc : Asc (listing d) := (Files.sorted_iff_steps _).mp hS
  have hnd : (sortBy intLe ns).Nodup :=
    (sortBy_perm intLe ns).nodup_iff.mpr (hp.nodup_iff.mpr (asc_nodup hasc))
  have hasc2 : Asc (sortBy intLe ns) :=
    List.Pairwise.imp (fun {a b} (h : a ≤ b ∧ a ≠ b) => Int.lt_iff_le_and_ne.mpr h) (List.Pairwise.and h2 hnd)
  have heq : sortBy intLe ns = listing d :=
    asc_ext hasc2 hasc (fun x => (h3 x).trans hp.mem_iff)
  rw [h1, heq]
  refine ⟨rfl, ?_⟩
  simp only [listing, Files.steps, latest, List.getLast?_map, Option.map_map]
  rfl

open Flax.NatSort in
/-- the guard is met by the usual prefixes (here the last character of `checkpoint_`, of a path separator, of a letter) -/
example : Inert '_' ∧ Inert '/' ∧ Inert 't' ∧ Inert 'l' := by
  unfold Inert
  decide

open Flax.NatSort in
example : natSort ["/tmp/a1.5-x/checkpoint_10".toList, "/tmp/a1.5-x/checkpoint_-3".toList, "/tmp/a1.5-x/checkpoint_9".toList] =
    ["/tmp/a1.5-x/checkpoint_-3".toList, "/tmp/a1.5-x/checkpoint_9".toList, "/tmp/a1.5-x/checkpoint_10".toList] := by
  -- the kernel would decode each literal from its UTF-8 bytes; `toList_ofList` hands it the characters
  repeat rw [String.toList_ofList]
  decide +kernel

open Flax.NatSort in
/-- finding F6 (known, not repaired) as a statement about the tokeniser: with a prefix ending in `-` the sign is
read into the number, `ckpt-10` has the key `["ckpt", -10, ""]`, sorts *before* `ckpt-5`, and the latest of steps 5 and 10
is step 5.  The guard of the theorems above cannot be dropped; the same happens for `.`, a digit, and `e` after a digit. -/
theorem natural_sort_sign_prefix_misorders :
    tokens "ckpt-10".toList = [Tok.text "ckpt".toList, Tok.num "-10".toList, Tok.text []] ∧
    natSort ["ckpt-5".toList, "ckpt-10".toList] = ["ckpt-10".toList, "ckpt-5".toList] ∧
    (natSort ["ckpt-5".toList, "ckpt-10".toList]).getLast? = some "ckpt-5".toList := by
  repeat rw [String.toList_ofList]
  decide +kernel

open Flax.NatSort in
example : natSort ["v.5".toList, "v.10".toList] = ["v.10".toList, "v.5".toList] := by        -- `.10` < `.5`
  repeat rw [String.toList_ofList]
  decide +kernel
open Flax.NatSort in
example : natSort ["v25".toList, "v210".toList, "v23".toList] = ["v23".toList, "v25".toList, "v210".toList] := by  -- prefix `v2`, steps 5, 10, 3
  repeat rw [String.toList_ofList]
  decide +kernel
open Flax.NatSort in
example : natSort ["r2e3".toList, "r2e10".toList, "r2e-1".toList] = ["r2e-1".toList, "r2e3".toList, "r2e10".toList] := by  -- read as 2e3, 2e10, 2e-1: happens to agree; but
  repeat rw [String.toList_ofList]
  decide +kernel
open Flax.NatSort in
example : natSort ["r2e3".toList, "r2e-4".toList] = ["r2e-4".toList, "r2e3".toList] ∧
    tokens "r2e3".toList = [Tok.text "r".toList, Tok.num "2e3".toList, Tok.text []] := by  -- the step is not a token of its own
  repeat rw [String.toList_ofList]
  decide +kernel


/-! ## natural_sort on printed floats and exponent notation; `_checkpoint_path_step`

Here the step may be any printed number `[-+]?digits(.digits*)?([eE][-+]?digits)?` (`IsNumLit`: what `str(int)` and
`repr(float)` print for finite values), valued exactly as the decimal `± m · 10^e` it denotes (`decOf`).  What is left
of assumption A-NAT for such steps is only that Python's `float()` orders these literals as their decimal values do
(A-FLOAT).  The guard on the prefix is unchanged: its last character is inert; it may contain digits. -/

open Flax.NatSort in
theorem printed_number_is_one_token {l : List Char} (h : IsNumLit l) : FullMatch l := fullMatch_of_isNumLit h

open Flax.NatSort in
/-- `decCmp` is the order of the values: for any common exponent `E0` below both it compares the integers
`value · 10^(-E0)` -/
theorem decCmp_is_value_order (a b : Dec) (hclose : (a.e - b.e).natAbs ≤ 4096) {E0 : Int}
    (ha : E0 ≤ a.e) (hb : E0 ≤ b.e) : decCmp a b = compare (a.scaled E0) (b.scaled E0) :=
  decCmp_eq_compare_scaled a b hclose ha hb

/-- the value of a printed number times `10^(-E0)` -/
def valAt (E0 : Int) (l : List Char) : Int := (NatSort.decOf l).scaled E0

open Flax.NatSort in
private theorem aux_cmp_numbers (Q : List Char) (c : Char) (hc : Inert c) (E0 : Int)
    (ls : List (List Char)) (hfm : ∀ l ∈ ls, FullMatch l)
    (hlo : ∀ l ∈ ls, E0 ≤ (decOf l).e) (hhi : ∀ l ∈ ls, (decOf l).e ≤ E0 + 4096) :
    ∀ a ∈ ls, ∀ b ∈ ls, keyCmp (natKey (Q ++ [c] ++ a)) (natKey (Q ++ [c] ++ b)) =
      compare (valAt E0 a) (valAt E0 b) := by
  intro a ha b hb
  have hcl : ((decOf a).e - (decOf b).e).natAbs ≤ 4096 := by
    have := hlo a ha; have := hlo b hb; have := hhi a ha; have := hhi b hb; omega
  rw [natural_sort_compares_numbers_by_value Q c hc (hfm a ha) (hfm b hb),
    decCmp_eq_compare_scaled _ _ hcl (hlo a ha) (hlo b hb)]
  rfl

open Flax.NatSort in
/-- `natural_sort` of any list of names `<…inert char><printed number>` (ints, floats, exponent notation mixed; any
order; repetitions and equal values allowed) is the stable sort by decimal value; the result is ascending by value
and a permutation.  `E0` is any exponent below all of them, within 4096 of all of them (doubles: within 700). -/
theorem natural_sort_orders_numbers_by_value (Q : List Char) (c : Char) (hc : Inert c) (E0 : Int)
    (ls : List (List Char)) (hfm : ∀ l ∈ ls, FullMatch l)
    (hlo : ∀ l ∈ ls, E0 ≤ (decOf l).e) (hhi : ∀ l ∈ ls, (decOf l).e ≤ E0 + 4096) :
    natSort (ls.map (fun l => Q ++ [c] ++ l)) = (sortBy (keyLe (valAt E0)) ls).map (fun l => Q ++ [c] ++ l) ∧
    (sortBy (keyLe (valAt E0)) ls).Pairwise (fun x y => valAt E0 x ≤ valAt E0 y) ∧
    (sortBy (keyLe (valAt E0)) ls).Perm ls :=
  natSort_of_key _ _ ls (aux_cmp_numbers Q c hc E0 ls hfm hlo hhi)

open Flax.NatSort in
/-- `latest_checkpoint` on printed numbers: the last name of the natural sort names a step of largest value -/
theorem natural_sort_latest_is_max_number (Q : List Char) (c : Char) (hc : Inert c) (E0 : Int)
    (ls : List (List Char)) (hne : ls ≠ []) (hfm : ∀ l ∈ ls, FullMatch l)
    (hlo : ∀ l ∈ ls, E0 ≤ (decOf l).e) (hhi : ∀ l ∈ ls, (decOf l).e ≤ E0 + 4096) :
    ∃ m ∈ ls, (∀ x ∈ ls, valAt E0 x ≤ valAt E0 m) ∧
      (natSort (ls.map (fun l => Q ++ [c] ++ l))).getLast? = some (Q ++ [c] ++ m) :=
  natSort_last_of_key _ _ ls hne (aux_cmp_numbers Q c hc E0 ls hfm hlo hhi)

open Flax.NatSort in
/-- what Python prints for finite floats is in the class -/
example : IsNumLit "-2.5e+16".toList :=
  ⟨['-'], ['2'], ['.', '5'], ['e', '+', '1', '6'], String.toList_ofList, Or.inr (Or.inr rfl), List.cons_ne_nil _ _,
    by unfold AllDigits; decide,
    Or.inr ⟨['5'], rfl, by unfold AllDigits; decide⟩,
    Or.inr ⟨'e', ['+'], ['1', '6'], rfl, by decide, Or.inr (Or.inl rfl), List.cons_ne_nil _ _,
      by unfold AllDigits; decide⟩⟩

open Flax.NatSort in
example : FullMatch "1e-05".toList ∧ FullMatch "100000.0".toList ∧ FullMatch "0.5".toList ∧ FullMatch "-7".toList ∧
    FullMatch "3e+20".toList ∧ FullMatch "5.".toList := by
  repeat rw [String.toList_ofList]
  simp only [FullMatch]; decide +kernel

open Flax.NatSort in
example : decOf "1e-05".toList = { neg := false, m := 1, e := -5 } ∧
    decOf "-2.5e+16".toList = { neg := true, m := 25, e := 15 } ∧
    decOf "100000.0".toList = { neg := false, m := 1000000, e := -1 } := by
  repeat rw [String.toList_ofList]
  decide +kernel

open Flax.NatSort in
example : natSort ["ck_1e-05".toList, "ck_-2.5e+16".toList, "ck_0.5".toList, "ck_3".toList, "ck_1e+16".toList, "ck_-1.0".toList] =
    ["ck_-2.5e+16".toList, "ck_-1.0".toList, "ck_1e-05".toList, "ck_0.5".toList, "ck_3".toList, "ck_1e+16".toList] := by
  repeat rw [String.toList_ofList]
  decide +kernel

open Flax.NatSort in
/-- **`_checkpoint_path_step`.**  The step the retention code reads off a path is the LAST number of the whole path:
for a name `<anything ending in an inert character><printed number>` — digits in the directory or in the prefix
(`run2_`, `/tmp/tmp81x/ckpt_`) notwithstanding — it is the printed step. -/
theorem checkpoint_path_step_is_the_step (Q : List Char) (c : Char) (hc : Inert c) {l : List Char}
    (hl : FullMatch l) : pathStep (Q ++ [c] ++ l) = some (decOf l) := by
  obtain ⟨toks, A, h⟩ := tokens_after_inert Q hc
  rw [pathStep, pathStepTok, h, scan_fullMatch hl, lastNum_append_num]
  rfl

open Flax.NatSort in
theorem checkpoint_path_step_of_int (Q : List Char) (c : Char) (hc : Inert c) (n : Int) :
    ∃ d, pathStep (stepName (Q ++ [c]) n) = some d ∧ d.e = 0 ∧ d.signed = n := by
  refine ⟨decOf (showInt n), ?_, (decOf_showInt n).1, (decOf_showInt n).2⟩
  exact checkpoint_path_step_is_the_step Q c hc (fullMatch_showInt n)

/-- the variant "first number of the name" (seeded change C11_e) -/
def firstNum : List NatSort.Tok → Option (List Char)
  | [] => none
  | .num s :: _ => some s
  | .text _ :: r => firstNum r

open Flax.NatSort in
/-- closed counter-example: with the prefix `run2_`, the step of `run2_7` is 7 (last number, as coded); the first
number is the 2 of the prefix — every checkpoint would read as step 2 and `keep_every_n_steps` would retain nothing
after the first -/
theorem checkpoint_path_step_first_number_differs :
    pathStepTok "run2_7".toList = some "7".toList ∧ firstNum (tokens "run2_7".toList) = some "2".toList ∧
    pathStepTok "/tmp/a1.5-x/run2_7".toList = some "7".toList := by
  repeat rw [String.toList_ofList]
  decide +kernel

open Flax.NatSort in
/-- natural_sort is sound for a prefix that holds a number (`run2_`: the last character `_` is inert) -/
example : natSort ["run2_10".toList, "run2_9".toList, "run2_-1".toList] =
    ["run2_-1".toList, "run2_9".toList, "run2_10".toList] := by
  repeat rw [String.toList_ofList]
  decide +kernel

end Flax.C11
