/-
C02 — The variable tree mirrors the module tree; init, apply and shape-only init agree.

Theorems over `Flax.Model.Scope` / `Flax.Model.ModuleTree`, for every module program (`SProg`: any
nesting depth, explicit and automatic names, children called several times), every naming style,
every `mutable` filter and every amount of evaluator fuel.
-/
import Flax.Proofs.ScopeLemmas
import Flax.Proofs.Stable
import Flax.Proofs.PathSim
import Flax.Proofs.ShapeSim
import Flax.Proofs.KeysSim
import Flax.Proofs.ArgFree
import Flax.Proofs.CloneCache

namespace Flax.C02
open Flax.Filter (LFilter inFilter)
open Flax.Scope Flax.ModuleTree Flax.ScopeLemmas

/-! ## clause: each submodule's variables sit under the submodule's name -/

/-- `q` lies inside the subtree of the scope at `π`: `q = col :: π ++ rest` -/
def inScope (π : Path) (q : Path) : Prop := ∃ c rest, q = c :: (π ++ rest)

private def PLocal (π : Path) (s s' : Store) : Prop :=
  ∀ q, ¬ inScope π q → lookupP q s'.vars = lookupP q s.vars

private theorem plocal_step : StepRel PLocal where
  refl := fun _ _ _ _ => rfl
  trans := fun _ _ _ _ h1 h2 q hq => by rw [h2 q hq, h1 q hq]
  put := by
    intro π col n v s q hq
    rcases putVar_vars π col n v s with h | ⟨_, h⟩ <;> rw [h]
    exact lookupP_upsert_ne _ _ _ _ (fun heq => hq ⟨col, [n], heq⟩)
  bump := fun _ _ _ _ _ => rfl
  child := by
    intro π nm s s' h q hq
    apply h q
    intro ⟨c, rest, hh⟩
    exact hq ⟨c, nm :: rest, by rw [hh]; simp⟩

/-- **Paths mirror the module tree.**  Whatever a module body does when it runs at module path `π`
— declaring, writing, sowing, calling children any number of times, returning or raising — it only
touches variables at paths `col :: π ++ rest`: every other path of every collection reads exactly
as before.  In particular two sibling submodules can never see or overwrite each other's state. -/
theorem paths_mirror (cfg : Cfg) (fuel : Nat) (p : SProg) (π : Path) (x : Int) (l : Local) (s : Store)
    (q : Path) (hq : ¬ inScope π q) :
    lookupP q (eval cfg fuel p π x l s).2.vars = lookupP q s.vars :=
  eval_rel plocal_step cfg fuel p π x l s q hq

/-- **A child's variables sit under the child's name**: calling child slot `k` of a module at `π`
changes nothing outside `col :: π ++ [name of k] ++ rest`. -/
theorem child_writes_under_its_name (cfg : Cfg) (fuel : Nat) (π : Path) (x : Int) (l : Local) (s : Store)
    (slot : Nat) (a : Expr) (w : Option Nat) (k : Kid) (hk : l.kids[slot]? = some k) (q : Path)
    (hq : ¬ inScope (π ++ [k.name]) q) :
    lookupP q (eval cfg (fuel + 1) (.call slot a w) π x l s).2.vars = lookupP q s.vars :=
  eval_call_rel plocal_step (eval_rel plocal_step cfg fuel) hk q hq

/-- **A parameter is stored exactly at `params :: π ++ [n]`** (and read back from there). -/
theorem param_stored_at_its_path (π : Path) (n : String) (shape : List Nat) (init : Int) (r r1 : Res)
    (s s1 : Store) (v : Val) (h : scopeParam π n shape init r s = (.ok (v, r1), s1)) :
    lookupP ("params" :: (π ++ [n])) s1.vars = some v :=
  scopeParam_stored h

/-- **A declared variable is stored at `col :: π ++ [n]`.** -/
theorem variable_stored_at_its_path (π : Path) (col n : String) (iv : Val) (r r1 : Res) (s s1 : Store)
    (h : scopeVariable π col n iv r s = (.ok r1, s1)) : (lookupP (col :: (π ++ [n])) s1.vars).isSome = true :=
  scopeVariable_present h

/-! ## clause: never creates, drops or renames a variable -/

/-- **No variable is ever dropped**: every path that holds a variable when `apply` starts still
holds one in the scope's final store (for every program, filter and outcome). -/
theorem apply_never_drops (cfg : Cfg) (fuel : Nat) (p : SProg) (m : LFilter) (V : Vars) (rngs : List String)
    (x : Int) (q : Path) (hq : (lookupP q V.vars).isSome = true) :
    (lookupP q (ModuleTree.apply cfg fuel p m V rngs x).final.vars).isSome = true :=
  apply_rel keysIn_step cfg fuel p m V rngs x q hq

/-! ## clause: a missing or wrongly-shaped parameter raises instead of being re-initialised -/

/-- the error a missing parameter produces, depending on whether the whole collection is missing -/
def missingParamErr (s : Store) : Err := if colEmpty s "params" then .collectionNotFound else .paramNotFound

/-- **Missing parameter.**  With `'params'` not mutable, asking for a parameter that is not in the
variables raises `ScopeParamNotFoundError` (`ScopeCollectionNotFound` when the collection is empty);
nothing is initialised or written.  (A name clash is detected first.) -/
theorem missing_param_raises (π : Path) (n : String) (shape : List Nat) (init : Int) (r : Res) (s : Store)
    (himm : inFilter s.mutable "params" = false) (habs : getVar s π "params" n = none)
    (hfree : nameReserved r n (some "params") = false) :
    scopeParam π n shape init r s = (.error (missingParamErr s), s) :=
  scopeParam_iff.mpr (.missing (reserve_ok_iff.mpr ⟨hfree, rfl⟩) habs himm)

/-- **Wrongly-shaped parameter.**  A stored value whose (first) leaf has another shape than the one
the module declares raises `ScopeParamShapeError` — whether or not `'params'` is mutable — and the
stored value is left alone. -/
theorem misshaped_param_raises (π : Path) (n : String) (shape sh : List Nat) (d : List Int) (init : Int)
    (r : Res) (s : Store) (hv : getVar s π "params" n = some (.tensor sh d)) (hsh : sh ≠ shape)
    (hfree : nameReserved r n (some "params") = false) :
    scopeParam π n shape init r s = (.error .paramShape, s) :=
  scopeParam_iff.mpr (.misshaped (reserve_ok_iff.mpr ⟨hfree, rfl⟩) hv hsh)

/-- **Never a silent re-initialisation.**  While `'params'` is immutable (the default of `apply`),
no program, however it is nested, performs a single parameter initialisation: the counter of
`make_rng('params')` draws made through `param` is the same when the call ends — returning or raising. -/
theorem immutable_never_initialises (cfg : Cfg) (fuel : Nat) (p : SProg) (m : LFilter) (V : Vars)
    (rngs : List String) (x : Int) (himm : inFilter (effMutable cfg m) "params" = false) :
    (ModuleTree.apply cfg fuel p m V rngs x).final.inits = 0 :=
  (apply_frame cfg fuel p m V rngs x).inits_imm himm

/-- **Program level**: a `param` statement for a parameter that is absent under immutable `'params'`,
or that is stored with another shape, makes the body raise exactly that error, with the store untouched. -/
theorem missing_or_misshaped_raises (cfg : Cfg) (fuel : Nat) (π : Path) (x : Int) (l : Local) (s : Store)
    (n : String) (shape : List Dim) (init : Int)
    (hfree : nameReserved l.res n (some "params") = false) :
    (inFilter s.mutable "params" = false → getVar s π "params" n = none →
      eval cfg (fuel + 1) (.param n shape init) π x l s = (.error (missingParamErr s), s)) ∧
    (∀ sh d, getVar s π "params" n = some (.tensor sh d) → sh ≠ resolveDims shape →
      eval cfg (fuel + 1) (.param n shape init) π x l s = (.error .paramShape, s)) := by
  constructor
  · intro himm habs
    conv => lhs; whnf
    simp only [missing_param_raises π n (resolveDims shape) init l.res s himm habs hfree]
  · intro sh d hv hsh
    conv => lhs; whnf
    simp only [misshaped_param_raises π n (resolveDims shape) sh d init l.res s hv hsh hfree]

/-! ## clause: a name clash raises instead of silently sharing or overwriting state -/

/-- what a declaration statement reserves: `(name, None)` for a submodule, `(name, col)` for a variable -/
def declares : SProg → String → Option String → Prop
  | .child _ (some nm) _, n, co => nm = n ∧ co = none
  | .var c nm _ _, n, co => nm = n ∧ co = some c
  | .param nm _ _, n, co => nm = n ∧ co = some "params"
  | _, _, _ => False

/-- two reservations of one name clash unless they are variables of different collections -/
def clashes (co co' : Option String) : Prop := co = none ∨ co' = none ∨ co = co'

private theorem declares_reserve {cfg : Cfg} {fuel : Nat} {A : SProg} {n : String} {co : Option String}
    (hA : declares A n co) {π : Path} {x : Int} {l l1 : Local} {s s1 : Store}
    (h : eval cfg fuel A π x l s = (.ok l1, s1)) : reserve l.res n co = .ok l1.res := by
  cases fuel with
  | zero => rw [eval_zero] at h; cases h
  | succ fuel =>
    cases A with
    | child cls name body =>
      cases name with
      | none => exact hA.elim
      | some nm =>
        obtain ⟨rfl, rfl⟩ := hA
        obtain ⟨_, _, r, hn, hr, rfl, _⟩ := eval_child_ok.mp h
        cases hn
        exact hr
    | var c nm shape init =>
      obtain ⟨rfl, rfl⟩ := hA
      obtain ⟨_, r, _, _, hp, _, rfl⟩ := eval_var_ok.mp h
      exact (scopeVariable_ok_iff.mp hp).1
    | param nm shape init =>
      obtain ⟨rfl, rfl⟩ := hA
      obtain ⟨_, r, hp, rfl⟩ := eval_param_ok.mp h
      exact (scopeParam_ok_iff.mp hp).1
    | _ => exact hA.elim

/-- **Name clashes raise.**  In one module body, after a declaration `A` of name `n` (a submodule, a
variable or a parameter) and any statements `Q` in between, a second declaration `B` of the same
name that clashes with it — submodule/submodule, submodule/variable, variable/submodule, or two
variables of one collection — can never complete: the body does not return (which error it raises is
`name_clash_error`, for a second named child). -/
theorem name_clash_raises (cfg : Cfg) (fuel : Nat) (A Q B : SProg) (n : String) (co co' : Option String)
    (hA : declares A n co) (hB : declares B n co') (hc : clashes co co')
    (π : Path) (x : Int) (l l1 : Local) (s s1 : Store) :
    eval cfg fuel (.seq A (.seq Q B)) π x l s ≠ (.ok l1, s1) := by
  intro h
  cases fuel with
  | zero => rw [eval_zero] at h; cases h
  | succ f1 =>
    obtain ⟨lA, sA, hA1, hQB⟩ := eval_seq_ok.mp h
    cases f1 with
    | zero => rw [eval_zero] at hQB; cases hQB
    | succ f2 =>
      obtain ⟨lQ, sQ, hQ1, hB1⟩ := eval_seq_ok.mp hQB
      have hmem : (n, co) ∈ lQ.res :=
        eval_res_mono cfg f2 Q π x lA lQ sA sQ hQ1 _ (reserve_res (declares_reserve hA hA1) ▸ List.mem_cons_self)
      have := (reserve_ok_iff.mp (declares_reserve hB hB1)).1
      rw [nameReserved_of_mem hmem hc] at this
      cases this

/-- a named child whose name is reserved already raises `NameInUseError` and leaves the store alone -/
theorem name_clash_error (cfg : Cfg) (fuel : Nat) (cls : String) (nm : String) (body : SProg) (π : Path) (x : Int)
    (l : Local) (s : Store) (co : Option String) (hm : (nm, co) ∈ l.res) :
    eval cfg (fuel + 1) (.child cls (some nm) body) π x l s = (.error .nameInUse, s) := by
  have := nameReserved_of_mem (co' := none) hm (Or.inr (Or.inl rfl))
  conv => lhs; whnf
  simp only [reserve_err_iff.mpr ⟨this, rfl⟩]

/-- **Two variables of different collections may share a name**: a reservation `(n, col)` does not
block `(n, col')` for `col' ≠ col`. -/
theorem different_collections_share_name (r : Res) (n col col' : String) (hne : col' ≠ col)
    (hr : ∀ e ∈ r, e.1 = n → e.2 = some col) : nameReserved r n (some col') = false := by
  rw [Bool.eq_false_iff]
  intro h
  obtain ⟨co, hm, hc⟩ := nameReserved_iff.mp h
  cases hr _ hm rfl
  rcases hc with h1 | h1 | h1
  · cases h1
  · cases h1
  · exact hne (Option.some.inj h1).symm

/-! ## clause: init's variables are exactly what apply consumes -/

open Flax.Stable in
/-- **Init and apply agree.**  For a program that declares parameters and variables and calls
submodules (no `put`/`sow`/`perturb`, and no `get_variable` that could observe a not-yet-created
variable — `declOnly`), without `capture_intermediates`: if `init` returns `(y, V)` then `apply` on
`V`, with *any* `mutable` filter and any RNGs (none needed), returns the same `y`; it performs no
initialisation; and the scope's final store is exactly the one bound from `V` — nothing created,
dropped or renamed.  (`V` must pass `apply`'s `{'params': {'params': …}}` guard, see
`toplevel_params_name_rejected`.) -/
theorem init_apply_agree (cfg : Cfg) (hcap : cfg.capture = false) (fuel : Nat) (p : SProg)
    (hp : declOnly p = true) (m : LFilter) (rngs : List String) (x y : Int) (V : Vars)
    (hinit : (ModuleTree.init cfg fuel p m rngs x).result = .ok (y, V))
    (hbs : badStructure V = false) (m2 : LFilter) (rngs2 : List String) :
    (ModuleTree.apply cfg fuel p m2 V rngs2 x).result = .ok (y, mutableVariables (Scope.bind m2 V rngs2)) ∧
    (ModuleTree.apply cfg fuel p m2 V rngs2 x).final = Scope.bind m2 V rngs2 :=
  init_apply_agree_aux cfg hcap fuel p hp m rngs x y V hinit hbs m2 rngs2

/-- **Apply never creates, drops or renames a variable** — for *every* program, stateful ones
included (counters, running statistics, sow, perturb, children called repeatedly), in the Linen
styles.  If `init` (with filter `m`) returned `V`, then applying on `V` with any argument, any RNGs
and any filter `m2` that selects no collection `m` did not select, the scope's final store — whether
the call returns or raises — has a variable at exactly the paths where `V` has one.  (`m := True`
makes the side condition vacuous; that it is needed: `keeps_tree_filter_needed`.) -/
theorem apply_keeps_tree (cfg : Cfg) (hst : cfg.style ≠ .core) (fuel : Nat) (p : SProg) (m : LFilter)
    (rngs : List String) (x y : Int) (V : Vars)
    (hinit : (ModuleTree.init cfg fuel p m rngs x).result = .ok (y, V))
    (m2 : LFilter) (rngs2 : List String) (x2 : Int)
    (hle : ∀ c, inFilter (effMutable cfg m2) c = true → inFilter (effMutable cfg m) c = true) (q : Path) :
    (lookupP q (ModuleTree.apply cfg fuel p m2 V rngs2 x2).final.vars).isSome = (lookupP q V.vars).isSome :=
  Flax.KeysSim.apply_keeps_tree_aux cfg hst fuel p m rngs x y V hinit m2 rngs2 x2 hle q

/-- the side condition of `apply_keeps_tree` is needed: `init` with the default filter leaves a sown
`'intermediates'` value out, `apply(mutable=True)` creates it -/
theorem keeps_tree_filter_needed :
    ∃ y V, (ModuleTree.init {} 5 (.seq (.sow "intermediates" "h" .arg) (.ret .arg)) initDefault ["params"] 1).result
        = .ok (y, V) ∧ lookupP ["intermediates", "h"] V.vars = none ∧
      (lookupP ["intermediates", "h"]
        (ModuleTree.apply {} 5 (.seq (.sow "intermediates" "h" .arg) (.ret .arg)) .tt V [] 1).final.vars).isSome = true := by
  refine ⟨1, ⟨[], []⟩, ?_, ?_, ?_⟩ <;> decide +kernel

/-- the guard is needed: a top-level parameter called `'params'` initialises fine and is then
rejected by `apply` (`ApplyScopeInvalidVariablesStructureError`) -/
theorem toplevel_params_name_rejected :
    ∃ y V, (ModuleTree.init {} 5 (.seq (.param "params" [] 3) (.ret (.loc 0))) initDefault ["params"] 0).result
        = .ok (y, V) ∧
      (ModuleTree.apply {} 5 (.seq (.param "params" [] 3) (.ret (.loc 0))) .ff V [] 0).result
        = .error .invalidStructure := by
  refine ⟨3, ⟨["params"], [(["params", "params"], .tensor [] [3])]⟩, ?_, ?_⟩ <;> decide +kernel

/-! ## clause: a submodule applied on its own subtree computes what it computes inside its parent -/

open Flax.PathSim in
/-- **Submodules are compositional.**  Let a module body run at path `π'` inside a parent, from
store `s`, and return.  Run the *same* body as a top-level module from any store `t` that is `s`'s
subtree at `π'` re-rooted (`Reroot π' s t`: same filter and RNG streams, and `t` reads at
`col :: rest` what `s` reads at `col :: π' ++ rest`).  Then the standalone run returns the same
locals — in particular the same output — and ends in the re-rooted subtree of the parent's final
store. -/
theorem submodule_compositional (cfg : Cfg) (fuel : Nat) (body : SProg) (π' : Path) (x : Int) (l l1 : Local)
    (s s1 t : Store) (hrel : Reroot π' s t)
    (h : eval cfg fuel body π' x l s = (.ok l1, s1)) :
    ∃ t1, eval cfg fuel body [] x l t = (.ok l1, t1) ∧ Reroot π' s1 t1 := by
  have := eval_reroot cfg π' fuel body [] x l l1 s t s1 hrel (by simpa using h)
  simpa using this

open Flax.PathSim in
/-- the variables a user extracts for a submodule (`{col: V[col][n₁]…[nₖ]}`) are a re-rooting -/
theorem restrict_is_reroot (π' : Path) (m : LFilter) (V : Vars) (hV : HeadsIn V) (rngs : List String) :
    Reroot π' (Scope.bind m V rngs) (Scope.bind m (restrict π' V) rngs) :=
  reroot_bind π' m V hV rngs

/-! ## clause: bind / unbind of any submodule -/

open Flax.PathSim in
/-- **`unbind(bind(m, V))` gives back `m` and `V`.**  Binding a module to variables and unbinding it
returns the same module (same body; unbound; name reset to `None`, which for a top-level module it already
was) and variables with the same collections that read, at every path, exactly like `V`. -/
theorem unbind_bind (m : Mod) (V : Vars) (rngs : List String) :
    ∃ V', (m.bind V rngs).unbind = some ({ body := m.body, name := none, bound := none }, V') ∧
      V'.cols = V.cols ∧ ∀ c rest, lookupP (c :: rest) V'.vars = lookupP (c :: rest) V.vars := by
  refine ⟨scopeVariables [] (Scope.bind .ff V rngs), rfl, ?_, ?_⟩
  · simp [scopeVariables, restrict, Scope.bind, List.map_map, Function.comp_def]
  · intro c rest
    have := lookupP_restrict [] c rest V.vars
    simpa [scopeVariables, restrict, Scope.bind] using this

open Flax.PathSim in
/-- **A bound submodule's variables are exactly `V↾path`.**  For a module bound at path `π` over store `s`
and its child `k`: unbinding the child returns the child's body (names reset) and variables that read at
`col :: rest` what the parent's store reads at `col :: π ++ [k.name] ++ rest`; the collections handed out
are those in which the child has a variable. -/
theorem bound_submodule_variables (m : Mod) (π : Path) (s : Store) (hb : m.bound = some (π, s)) (k : Kid) :
    ∃ Vk, (m.child k).unbind = some ({ body := k.body, name := none, bound := none }, Vk) ∧
      (∀ c rest, lookupP (c :: rest) Vk.vars = lookupP (c :: ((π ++ [k.name]) ++ rest)) s.vars) ∧
      (∀ c ∈ Vk.cols, ∃ kv ∈ Vk.vars, kv.1.head? = some c) := by
  refine ⟨scopeVariables (π ++ [k.name]) s, by simp [Mod.child, Mod.unbind, hb], ?_, ?_⟩
  · intro c rest
    exact lookupP_restrict (π ++ [k.name]) c rest s.vars
  · intro c hc
    exact (mem_scopeVariables_cols.mp hc).2.resolve_left (by simp)

open Flax.PathSim in
/-- **Unbind, then apply = the bound call.**  If the body of a submodule, run at its path `π'` inside
the parent's store `s` (every leaf of which sits in a collection of `s`), returns locals `l1`, then
the same body run as a top-level module over the variables `unbind()` hands out for that submodule — bound
with the same filter and RNG streams — returns the same locals (same output) and ends in the re-rooted
subtree of the parent's final store. -/
theorem unbind_then_apply (cfg : Cfg) (fuel : Nat) (body : SProg) (π' : Path) (x : Int) (l l1 : Local)
    (s s1 : Store) (hs : StoreHeadsIn s) (h : eval cfg fuel body π' x l s = (.ok l1, s1)) :
    ∃ t1, eval cfg fuel body [] x l (Scope.bind s.mutable (scopeVariables π' s) s.rngs) = (.ok l1, t1) ∧
      Reroot π' s1 t1 :=
  submodule_compositional cfg fuel body π' x l l1 s s1 _ (reroot_scopeVariables π' s hs) h

/-! ## clause: submodules shared between parents stay shared (the deep clone `init`/`apply`/`bind` run on) -/

open Flax.CloneCache in
/-- **Sharing survives the deep clone.**  `Module.clone(_deep_clone=True)` visits the module-valued positions of
all dataclass fields (at any depth, in lists and dicts) with one id-keyed cache.  For any number of fields,
in any order, with the references anywhere: after the clone two positions hold the same instance exactly
when they did before, and every instance is a new object (`_id ≥ fresh`). -/
theorem clone_preserves_sharing (fields : List (List Nat)) (fresh : Nat) :
    (deepClone fields fresh).map List.length = fields.map List.length ∧
    (deepClone fields fresh).flatten.length = fields.flatten.length ∧
    (∀ a b (ha : a < fields.flatten.length) (hb : b < fields.flatten.length)
        (ha' : a < (deepClone fields fresh).flatten.length) (hb' : b < (deepClone fields fresh).flatten.length),
      ((deepClone fields fresh).flatten[a] = (deepClone fields fresh).flatten[b] ↔
        fields.flatten[a] = fields.flatten[b])) ∧
    (∀ a (ha' : a < (deepClone fields fresh).flatten.length), fresh ≤ (deepClone fields fresh).flatten[a]) :=
  ⟨(cloneFields_flatten fields [] fresh).2, deepClone_positions fields fresh⟩

open Flax.CloneCache in
/-- what goes wrong when the cache is not the one shared object: cloning the first field with a private
cache (the rest with another) turns one table referenced from two sibling fields into two instances -/
theorem private_cache_breaks_sharing :
    deepClone [[7], [7]] 100 = [[100], [100]] ∧
    ((cloneRefs [7] [] 100).1, (cloneRefs [7] [] (cloneRefs [7] [] 100).2.2).1) = ([100], [101]) := by
  decide

/-! ## clause: shape-only initialisation (tied to `lazy_init`/`eval_shape`/`jit` by correspondence only) -/

open Flax.ShapeSim in
/-- **Shapes do not depend on values.**  `Module.lazy_init`, `jax.eval_shape(init)` and `jax.jit(init)` run the
module under JAX tracing, which this model does not contain; what is proved is flax's own part: which variables a
module program creates, under which names, with which shapes, and whether it raises, does not depend on the
*values* of the argument or of the stored arrays.  Two inits with different arguments succeed together and return
trees that are equal once every array entry is replaced by 0.  The agreement of the real entry points with
concrete `init` is checked by the harness. -/
theorem lazy_init_shapes_partial (cfg : Cfg) (fuel : Nat) (p : SProg) (m : LFilter) (rngs : List String)
    (x x' y : Int) (V : Vars) (h : (ModuleTree.init cfg fuel p m rngs x).result = .ok (y, V)) :
    ∃ y' V', (ModuleTree.init cfg fuel p m rngs x').result = .ok (y', V') ∧ Vars.abstract V' = Vars.abstract V :=
  init_shapes cfg fuel p m rngs x x' y V h

/-- **What `lazy_init` needs, as far as flax decides it.**  `partial_eval.lazy_init` marks every
`ShapeDtypeStruct` argument *unknown*, partially evaluates `init`, and raises `LazyInitError` unless every
returned variable is *known*, i.e. computed without the unknown arguments.  For a program in which nothing
that is stored depends on the call argument (`argFree`), the variables `init` returns are literally the same
for every argument.  (That JAX's partial evaluator classifies such outputs as known is JAX; checked on the
implementation: `lazy_init` returns concrete `init`'s values on these programs.) -/
theorem lazy_init_values (cfg : Cfg) (hcap : cfg.capture = false) (fuel : Nat) (p : SProg) (hp : argFree p = true)
    (m : LFilter) (rngs : List String) (x x' y : Int) (V : Vars)
    (h : (ModuleTree.init cfg fuel p m rngs x).result = .ok (y, V)) :
    ∃ y', (ModuleTree.init cfg fuel p m rngs x').result = .ok (y', V) :=
  Flax.ArgFree.init_argfree cfg hcap fuel p hp m rngs x x' y V h

/-- **Shape-only init agrees with init, for every filter.**  With the *same* `mutable` filter `m`, an init with any
other argument value `x'` succeeds exactly like the concrete one and returns the same collections, paths and shapes —
and, when nothing stored depends on the argument, literally the same variables: the shape-only entry points called
with the caller's filter agree with concrete `init` called with that filter, whichever collections it selects. -/
theorem lazy_init_eq_init_shape (cfg : Cfg) (fuel : Nat) (p : SProg) (m : LFilter) (rngs : List String)
    (x x' y : Int) (V : Vars) (h : (ModuleTree.init cfg fuel p m rngs x).result = .ok (y, V)) :
    (∃ y' V', (ModuleTree.init cfg fuel p m rngs x').result = .ok (y', V') ∧ Vars.abstract V' = Vars.abstract V) ∧
    (cfg.capture = false → argFree p = true → ∃ y', (ModuleTree.init cfg fuel p m rngs x').result = .ok (y', V)) :=
  ⟨lazy_init_shapes_partial cfg fuel p m rngs x x' y V h,
   fun hcap hp => lazy_init_values cfg hcap fuel p hp m rngs x x' y V h⟩

/-- a filter that leaves a collection out makes the model's `init` skip the sow into it: the returned tree differs
between filters, which is why the shape-only entry points must be given the caller's filter -/
theorem init_depends_on_filter :
    ((ModuleTree.init {} 5 (.seq (.sow "losses" "l" (.const 2)) (.ret .arg)) (.deny (.names ["intermediates", "losses"])) ["params"] 1).result.toOption.map (·.2.cols)) = some [] ∧
    ((ModuleTree.init {} 5 (.seq (.sow "losses" "l" (.const 2)) (.ret .arg)) initDefault ["params"] 1).result.toOption.map (·.2.cols)) = some ["losses"] := by
  decide +kernel

/-- `argFree` is needed: a variable initialised from the argument differs between arguments -/
theorem arg_free_needed :
    argFree (.var "stats" "v" [] .arg) = false ∧
    (ModuleTree.init {} 5 (.var "stats" "v" [] .arg) .tt [] 1).result.toOption.map (·.2.vars)
      ≠ (ModuleTree.init {} 5 (.var "stats" "v" [] .arg) .tt [] 2).result.toOption.map (·.2.vars) := by
  decide +kernel

/-- a nested program: auto-named and explicitly named children, a child called twice -/
def demo : SProg :=
  .seq (.param "w" [.lit 2] 3) <|
  .seq (.child "A" none (.seq (.param "k" [.lit 3] 1) (.seq (.var "stats" "m" [2] (.const 2)) (.ret (.add (.loc 0) (.mul .arg (.loc 1))))))) <|
  .seq (.child "A" none (.seq (.child "B" (some "inner") (.seq (.param "b" [] 4) (.ret (.loc 0)))) (.seq (.call 0 .arg none) (.ret (.loc 0))))) <|
  .seq (.call 0 (.loc 0) none) <|
  .seq (.call 0 (.loc 1) none) <|
  .seq (.call 1 (.loc 2) none) <|
  .ret (.add (.loc 2) (.loc 3))

def demoV : Vars :=
  { cols := ["params", "stats"],
    vars := [(["params", "w"], .tensor [2] [3, 3]), (["params", "A_0", "k"], .tensor [3] [1, 1, 1]),
             (["stats", "A_0", "m"], .tensor [2] [2, 2]), (["params", "A_1", "inner", "b"], .tensor [] [4])] }

example : declOnly demo = true := by decide

example : argFree demo = true := by decide

example : (ModuleTree.init {} 50 demo initDefault ["params"] 1).result = .ok (115, demoV) := by decide +kernel

/-- `init_apply_agree` instance: apply with `mutable=False`, no RNGs -/
example : (ModuleTree.apply {} 50 demo .ff demoV [] 1).result = .ok (115, ⟨[], []⟩) := by decide +kernel

/-- a per-feature scale whose parameter shape follows the argument's last axis, used on two widths -/
def scaleTwice (w1 w2 : Nat) : SProg :=
  .seq (.child "Scale" none (.seq (.param "scale" [.argLast] 1) (.ret (.mul .arg (.loc 0))))) <|
  .seq (.call 0 .arg (some w1)) <| .seq (.call 0 .arg (some w2)) <| .ret (.add (.loc 0) (.loc 1))

/-- same width twice: plain sharing -/
example : (ModuleTree.init {} 20 (scaleTwice 4 4) .tt ["params"] 2).result
    = .ok (16, ⟨["params"], [(["params", "Scale_0", "scale"], .tensor [4] [1, 1, 1, 1])]⟩) := by decide +kernel

/-- **A wrongly-shaped parameter raises during `init` too**: the second use asks for shape `(1,)` of a
parameter created with shape `(4,)` a moment ago (cf. `misshaped_param_raises`) -/
theorem init_rejects_second_shape :
    (ModuleTree.init {} 20 (scaleTwice 4 1) .tt ["params"] 2).result = .error .paramShape := by decide +kernel

/-- a stateful program (counter, sow, child called twice) for `apply_keeps_tree` -/
def statefulDemo : SProg :=
  .seq (.child "A" none
    (.seq (.var "stats" "cnt" [] (.const 0)) <|
     .seq (.put "stats" [] "cnt" (.add (.loc 0) (.const 1))) <|
     .seq (.sow "inter" "h" .arg) <|
     .ret (.add .arg (.loc 0)))) <|
  .seq (.call 0 .arg none) <| .seq (.call 0 (.loc 0) none) <| .ret (.loc 1)

def statefulV : Vars :=
  { cols := ["stats", "inter"],
    vars := [(["stats", "A_0", "cnt"], .tensor [] [2]), (["inter", "A_0", "h"], .tup [([], [3]), ([], [3])])] }

/-- hypothesis of `apply_keeps_tree`: init with `mutable=True` returns the whole tree -/
example : (ModuleTree.init {} 50 statefulDemo .tt ["params"] 3).result = .ok (4, statefulV) := by decide +kernel

/-- `apply_keeps_tree` instance: an apply that changes counter and sown tuple keeps the two paths -/
example : ((ModuleTree.apply {} 50 statefulDemo .tt statefulV [] 3).final.vars.map (·.1)) =
    [["stats", "A_0", "cnt"], ["inter", "A_0", "h"]] := by decide +kernel

/-- `bound_submodule_variables` instance: unbinding child `A_0` of `demo` bound to `demoV` -/
example : ((Mod.bind { body := demo } demoV []).child ⟨"A_0", .skip⟩).unbind.map (·.2) =
    some ⟨["params", "stats"], [(["params", "k"], .tensor [3] [1, 1, 1]), (["stats", "m"], .tensor [2] [2, 2])]⟩ := by
  decide +kernel

/-- hypothesis of `unbind_then_apply`: stores bound from a dict-of-dicts have every leaf in a collection -/
example : Flax.PathSim.StoreHeadsIn (Scope.bind .ff demoV []) :=
  Flax.PathSim.storeHeadsIn_bind .ff demoV (by
    intro kv hkv c r hc
    simp only [demoV, List.mem_cons, List.not_mem_nil, or_false] at hkv
    rcases hkv with rfl | rfl | rfl | rfl <;> (simp only [List.cons.injEq] at hc; simp [demoV, ← hc.1])) []

/-- hypotheses of `name_clash_raises`: two children named `foo` with something in between -/
example : (eval {} 10 (.seq (.child "A" (some "foo") .skip) (.seq (.bind (.const 1)) (.child "B" (some "foo") .skip)))
    [] 0 {} (Scope.bind .tt Vars.empty ["params"])).1 = .error .nameInUse := by decide +kernel

/-- a submodule and a variable of the same name clash -/
example : (eval {} 10 (.seq (.child "A" (some "foo") .skip) (.seq .skip (.var "stats" "foo" [] (.const 0))))
    [] 0 {} (Scope.bind .tt Vars.empty ["params"])).1 = .error .nameInUse := by decide +kernel

/-- three steps: a name used in collection A, then (legally) in B, then again in B — the reservations keep the
whole set of collections of a name, so the third declaration raises -/
example : (eval {} 10 (.seq (.var "stats" "v" [] (.const 1)) (.seq (.var "cache" "v" [] (.const 2)) (.var "cache" "v" [3] (.const 5))))
    [] 0 {} (Scope.bind .tt Vars.empty ["params"])).1 = .error .nameInUse := by decide +kernel

/-- two variables of different collections may share a name -/
example : ((eval {} 10 (.seq (.var "cache" "v" [] (.const 1)) (.seq .skip (.var "stats" "v" [] (.const 2))))
    [] 0 {} (Scope.bind .tt Vars.empty ["params"])).1.toOption.map (·.env)) = some [1, 2] := by decide +kernel

/-- hypotheses of `missing_param_raises` / `misshaped_param_raises` -/
example : scopeParam ["A_0"] "nope" [3] 1 [] (Scope.bind .ff demoV []) = (.error .paramNotFound, Scope.bind .ff demoV []) := by
  decide +kernel

example : scopeParam ["A_0"] "k" [4] 1 [] (Scope.bind .tt demoV ["params"])
    = (.error .paramShape, Scope.bind .tt demoV ["params"]) := by decide +kernel

/-- `submodule_compositional` instance: child `A_0` applied on its own subtree returns what it
returns inside the parent (second call, argument 13 → 1·3 + 13·4 = 55) -/
example : ((eval {} 20 (.seq (.param "k" [.lit 3] 1) (.seq (.var "stats" "m" [2] (.const 2)) (.ret (.add (.loc 0) (.mul .arg (.loc 1))))))
      [] 13 {} (Scope.bind .ff (restrict ["A_0"] demoV) [])).1.toOption.map (·.out)) = some 55 ∧
    ((eval {} 20 (.seq (.param "k" [.lit 3] 1) (.seq (.var "stats" "m" [2] (.const 2)) (.ret (.add (.loc 0) (.mul .arg (.loc 1))))))
      ["A_0"] 13 {} (Scope.bind .ff demoV [])).1.toOption.map (·.out)) = some 55 := by decide +kernel

end Flax.C02
