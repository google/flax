/-
C16 — Flatten/unflatten of nested dicts and NNX State conversions are mutual inverses.
-/
import Flax.Model.Traverse
import Flax.Proofs.Traverse
import Flax.Proofs.TraverseUnflatten
import Flax.Proofs.TraverseSep
import Flax.Model.State
import Flax.Proofs.State
import Flax.Proofs.DictEq

set_option linter.unusedSectionVars false

namespace Flax.C16
open Flax.Traverse

variable {κ α : Type} [DecidableEq κ]

/-- **Round trip, general form.** For every well-formed nested dict, every `is_leaf` that is false at the root, both
settings of `keep_empty_nodes` and every key encoding `key` (`_key`) that `unkey` inverts on the paths that occur,
`unflatten (flatten t)` is the normal form `normKvs` of `t`: `t` itself with `keep_empty_nodes` (`norm_keep`); without
it the dicts that flatten to nothing vanish (for `is_leaf=None` that is `prune`). -/
theorem unflattenWith_flattenWith {ρ : Type} [DecidableEq ρ] (key : Path κ → ρ) (unkey : ρ → Except Err (Path κ))
    (keep : Bool) (isLeaf : Path κ → Tree κ α → Bool) (kvs : List (κ × Tree κ α))
    (hwf : WF (.dict kvs)) (hroot : isLeaf [] (.dict kvs) = false)
    (hinv : ∀ pv ∈ flatT keep isLeaf (.dict kvs) [], unkey (key pv.1) = .ok pv.1) :
    (flattenWith key keep isLeaf (.dict kvs) >>= unflattenWith unkey) = .ok (.dict (normKvs keep isLeaf kvs)) := by
  rw [flatT_root keep isLeaf kvs hroot] at hinv
  -- prefix-free paths are distinct, and stay so under an encoding that can be inverted
  have hnd : ((relKvs keep isLeaf kvs).map fun pv => key pv.1).Nodup :=
    List.pairwise_map.mpr ((relKvs_prefixFree keep kvs isLeaf hwf).imp_of_mem fun ha hb hi heq =>
      hi.ne (Except.ok.inj ((hinv _ ha).symm.trans ((congrArg unkey heq).trans (hinv _ hb)))))
  rw [flattenWith_root key keep isLeaf kvs hroot hnd]
  show (unflattenLoop unkey [] _).map Tree.dict = _
  rw [unflattenLoop_key key unkey _ _ hinv, build_kvs keep kvs isLeaf [] hwf (fun _ _ => rfl)]
  rfl

/-- tuple keys (`sep=None`): the round trip for every `keep_empty_nodes` and `is_leaf` -/
theorem unflatten_flatten_norm (keep : Bool) (isLeaf : Path κ → Tree κ α → Bool) (kvs : List (κ × Tree κ α))
    (hwf : WF (.dict kvs)) (hroot : isLeaf [] (.dict kvs) = false) :
    (flatten keep isLeaf (.dict kvs) >>= unflatten) = .ok (.dict (normKvs keep isLeaf kvs)) :=
  unflattenWith_flattenWith id (fun p => .ok p) keep isLeaf kvs hwf hroot (fun _ _ => rfl)

/-- with `keep_empty_nodes=True` the normal form is the tree itself -/
theorem norm_keep (isLeaf : Path κ → Tree κ α → Bool) (kvs : List (κ × Tree κ α)) :
    normKvs true isLeaf kvs = kvs :=
  normKvs_keep kvs isLeaf

/-- **`unflatten_dict(flatten_dict(t, keep_empty_nodes=True, is_leaf)) == t`, exactly** (same keys, same order,
same leaves, empty dicts included), for every nested dict and every `is_leaf` that is false at the root. -/
theorem unflatten_flatten_keep (isLeaf : Path κ → Tree κ α → Bool) (kvs : List (κ × Tree κ α))
    (hwf : WF (.dict kvs)) (hroot : isLeaf [] (.dict kvs) = false) :
    (flatten true isLeaf (.dict kvs) >>= unflatten) = .ok (.dict kvs) := by
  rw [unflatten_flatten_norm true isLeaf kvs hwf hroot, norm_keep]

/-- **without `keep_empty_nodes` the round trip is `prune`**: the tree without its leaf-less sub-dicts -/
theorem unflatten_flatten_prune (kvs : List (κ × Tree κ α)) (hwf : WF (.dict kvs)) :
    (flatten false noLeaf (.dict kvs) >>= unflatten) = .ok (prune (.dict kvs)) :=
  unflatten_flatten_norm false noLeaf kvs hwf rfl

mutual
  /-- no dict at or below this node is empty -/
  def NoEmptyT : Tree κ α → Prop
    | .leaf _ => True
    | .dict kvs => kvs ≠ [] ∧ NoEmptyKvs kvs
  def NoEmptyKvs : List (κ × Tree κ α) → Prop
    | [] => True
    | (_, c) :: rest => NoEmptyT c ∧ NoEmptyKvs rest
end

private theorem aux_noEmptyKvs_iff : ∀ kvs : List (κ × Tree κ α), NoEmptyKvs kvs ↔ ∀ kc ∈ kvs, NoEmptyT kc.2
  | [] => by simp [NoEmptyKvs]
  | (k, c) :: rest => by simp only [NoEmptyKvs, aux_noEmptyKvs_iff rest, List.forall_mem_cons]

private theorem aux_normT_self (c : Tree κ α) : NoEmptyT c → normT false noLeaf c = some c := by
  induction c using Tree.induct with
  | leaf _ => intro _; rfl
  | dict kvs ih =>
    intro h
    have hk : normKvs false noLeaf kvs = kvs := by
      rw [normKvs_noLeaf_filterMap]
      exact filterMap_reval_self _ kvs fun kc hkc => ih kc hkc ((aux_noEmptyKvs_iff kvs).mp h.2 kc hkc)
    simp only [normT, noLeaf, Bool.false_eq_true, ↓reduceIte, Bool.false_and, hk]
    cases kvs with
    | nil => exact absurd rfl h.1
    | cons x r => rfl

private theorem aux_normKvs_self (kvs : List (κ × Tree κ α)) (h : NoEmptyKvs kvs) :
    normKvs false noLeaf kvs = kvs := by
  rw [normKvs_noLeaf_filterMap]
  exact filterMap_reval_self _ kvs fun kc hkc => aux_normT_self kc.2 ((aux_noEmptyKvs_iff kvs).mp h kc hkc)

/-- a tree without empty sub-dicts is its own `prune`: there the round trip is exact even without
`keep_empty_nodes` -/
theorem prune_eq_self (kvs : List (κ × Tree κ α)) (h : NoEmptyKvs kvs) : prune (.dict kvs) = .dict kvs := by
  simp only [prune]
  rw [aux_normKvs_self kvs h]

/-- `prune` loses no leaf and moves none: same leaves, same paths, same order -/
theorem prune_leaves (kvs : List (κ × Tree κ α)) : leavesT (prune (.dict kvs)) = leavesT (.dict kvs) := by
  simp only [prune, leavesT]
  exact leavesKvs_normKvs kvs

example : NoEmptyKvs ([("a", .dict [("b", .leaf 1)]), ("c", .leaf 2)] : List (String × Tree String Nat)) := by
  simp [NoEmptyKvs, NoEmptyT]

/-- **`unflatten_dict(flatten_dict(t, keep, is_leaf, sep), sep)` is the same normal form** for every non-empty
separator that does not overlap any key of the tree (`NoOverlap`: `sep` does not occur in `key ++ sep[:-1]`). -/
theorem unflatten_flatten_sep (sep : String) (hsep : sep ≠ "") (keep : Bool)
    (isLeaf : Path String → Tree String α → Bool) (kvs : List (String × Tree String α))
    (hwf : WF (.dict kvs)) (hroot : isLeaf [] (.dict kvs) = false)
    (hkeys : ∀ k ∈ keysKvs kvs, NoOverlap sep.toList k.toList) :
    (flattenSep sep keep isLeaf (.dict kvs) >>= unflattenSep sep) = .ok (.dict (normKvs keep isLeaf kvs)) := by
  refine unflattenWith_flattenWith (joinS sep) (splitS sep) keep isLeaf kvs hwf hroot ?_
  rw [flatT_root keep isLeaf kvs hroot]
  intro pv hpv
  exact splitS_joinS sep hsep pv.1 (relKvs_paths_ne_nil keep isLeaf kvs pv hpv)
    (fun k hk => hkeys k (relKvs_keys keep kvs isLeaf pv hpv k hk))

/-- one-character separator: "not occurring in any key" is exactly the hypothesis needed -/
theorem unflatten_flatten_sep_char (c : Char) (keep : Bool)
    (isLeaf : Path String → Tree String α → Bool) (kvs : List (String × Tree String α))
    (hwf : WF (.dict kvs)) (hroot : isLeaf [] (.dict kvs) = false)
    (hkeys : ∀ k ∈ keysKvs kvs, c ∉ k.toList) :
    (flattenSep (String.singleton c) keep isLeaf (.dict kvs) >>= unflattenSep (String.singleton c))
      = .ok (.dict (normKvs keep isLeaf kvs)) := by
  refine unflatten_flatten_sep (String.singleton c) ?_ keep isLeaf kvs hwf hroot ?_
  · intro e
    have := congrArg String.toList e
    simp at this
  · intro k hk
    have : (String.singleton c).toList = [c] := by simp
    rw [this, noOverlap_singleton]
    exact hkeys k hk

/-- the hypothesis cannot be weakened to "the separator occurs in no key" for longer separators:
`'aa'.join(['xa', 'y']) == 'xaaay'` and `'xaaay'.split('aa') == ['x', 'ay']` (reproduced on the real code:
`unflatten_dict(flatten_dict({'xa': {'y': 1}}, sep='aa'), sep='aa') == {'x': {'ay': 1}}`). -/
theorem sep_overlap_counterexample :
    ¬ ['a', 'a'] <:+: ['x', 'a'] ∧ ¬ ['a', 'a'] <:+: ['y'] ∧
    splitAux ['a', 'a'] (joinL ['a', 'a'] [['x', 'a'], ['y']]) [] 0 = [['x'], ['a', 'y']] ∧
    ¬ NoOverlap ['a', 'a'] ['x', 'a'] := by
  refine ⟨by decide, by decide, by decide, ?_⟩
  simp only [NoOverlap, Classical.not_not]
  exact ⟨['x'], [], by decide⟩

example : NoOverlap "::".toList "a:".toList → False := by
  intro h; apply h; exact ⟨['a'], [], by decide⟩

example : NoOverlap "/".toList "params_0".toList :=
  (noOverlap_singleton '/' _).mpr (by decide +kernel)

/-- the excluded point (finding F7): when `is_leaf((), root)` holds, `flatten_dict` returns `{(): root}` and `unflatten_dict` of that raises
(`path[-1]` on the empty tuple: IndexError) -/
theorem root_leaf_guard (keep : Bool) (isLeaf : Path κ → Tree κ α → Bool) (kvs : List (κ × Tree κ α))
    (hroot : isLeaf [] (.dict kvs) = true) :
    flatten keep isLeaf (.dict kvs) = .ok [([], .val (.dict kvs))] ∧
    (flatten keep isLeaf (.dict kvs) >>= unflatten) = .error .emptyPath := by
  have h := flattenWith_leaf_root id keep isLeaf kvs hroot
  exact ⟨h, by rw [flatten, h]; rfl⟩

/-- with a separator the same input comes back wrapped under the key `''` -/
theorem root_leaf_guard_sep (sep : String) (hsep : sep ≠ "") (keep : Bool)
    (isLeaf : Path String → Tree String α → Bool) (kvs : List (String × Tree String α))
    (hroot : isLeaf [] (.dict kvs) = true) :
    (flattenSep sep keep isLeaf (.dict kvs) >>= unflattenSep sep) = .ok (.dict [("", .dict kvs)]) := by
  have hs := toList_isEmpty sep hsep
  have hj : joinS sep [] = "" := by simp [joinS, joinL]
  have hsp : splitS sep "" = .ok [""] := by
    simp [splitS, splitL, hs, splitAux, Except.map]
  rw [flattenSep, flattenWith_leaf_root (joinS sep) keep isLeaf kvs hroot, hj]
  simp [bind, Except.bind, unflattenSep, unflattenWith, unflattenLoop, hsp, insertPath, Dict.set, FVal.toTree,
    Except.map]

/-- **`flatten_dict(unflatten_dict(m)) == m`** (as dicts: same entries, possibly in another order) for every flat
map `m` whose paths are non-empty and pairwise prefix-incomparable and whose values are leaves (or `empty_node`
when `keep_empty_nodes` is on). In particular `unflatten_dict` does not raise on such maps. -/
theorem flatten_unflatten (b : Bool) (m : List (Path κ × FVal κ α)) (hpf : PrefixFree m)
    (hok : ∀ e ∈ m, e.1 ≠ [] ∧ OkVal b e.2) :
    ∃ t fl, unflatten m = .ok t ∧ flatten b noLeaf t = .ok fl ∧ fl.Perm m := by
  obtain ⟨kvs, h1, hw, h2⟩ := build_flat_nil b m hpf hok
  refine ⟨.dict kvs, relKvs b noLeaf kvs, ?_, flatten_root b noLeaf kvs hw rfl, h2⟩
  rw [unflatten_eq_build, h1]; rfl

/-- the hypothesis holds of a non-trivial map; it is what the flat form of a well-formed tree satisfies
(`relKvs_prefixFree`) -/
example : PrefixFree [((["a", "b"] : Path String), (FVal.val (.leaf 1) : FVal String Nat)), (["a", "c"], .emptyNode),
    (["d"], .val (.leaf 2))] := by
  simp [PrefixFree, Incomp, List.cons_prefix_cons]

/-- prefix-freeness is needed: `{('a',): 1, ('a','b'): 2}` makes `unflatten_dict` raise (TypeError) -/
theorem unflatten_prefix_conflict :
    unflatten [((["a"] : Path String), (FVal.val (.leaf 1) : FVal String Nat)), (["a", "b"], .val (.leaf 2))]
      = .error .notDict := by
  rfl

/-- **`path_aware_map(f, t)` is `t` with `f(path, leaf)` in place of every leaf**: same keys in the same order,
empty dicts included, `f` given the full path. -/
theorem path_aware_map_spec (f : Path κ → Tree κ α → Tree κ α) (kvs : List (κ × Tree κ α))
    (hwf : WF (.dict kvs)) : pathAwareMap f (.dict kvs) = .ok (mapWithPath f (.dict kvs)) := by
  simp only [pathAwareMap, flatten_root true noLeaf kvs hwf rfl, bind, Except.bind]
  show Except.map Tree.dict (build [] ((relKvs true noLeaf kvs).map (appF f))) = _
  rw [build_kvs_map kvs f [] hwf (fun _ _ => rfl)]
  rfl

/-- **every leaf is visited exactly once, with its full path**: the list of calls `f(path, value)` made by
`path_aware_map` is the list of leaves of the tree in depth-first order, and the paths are pairwise distinct. -/
theorem path_aware_map_visits (kvs : List (κ × Tree κ α)) (hwf : WF (.dict kvs)) :
    pathAwareCalls (.dict kvs) = .ok ((leavesT (.dict kvs)).map (fun pa => (pa.1, Tree.leaf pa.2))) ∧
    ((leavesT (.dict kvs)).map Prod.fst).Nodup := by
  refine ⟨?_, (leavesKvs_prefixFree kvs hwf).nodup_paths⟩
  simp only [pathAwareCalls, flatten_root true noLeaf kvs hwf rfl, bind, Except.bind, leavesT]
  exact congrArg Except.ok (relKvs_true_calls kvs)

/-- `mapWithPath` keeps the key structure: same keys, same order, at every level (stated one level at a time) -/
theorem mapWithPath_keys (f : Path κ → Tree κ α → Tree κ α) (kvs : List (κ × Tree κ α)) :
    (mapWithPathKvs f kvs).map Prod.fst = kvs.map Prod.fst := by
  induction kvs generalizing f with
  | nil => rfl
  | cons x rest ih => obtain ⟨k, c⟩ := x; simp [mapWithPathKvs, ih]

example : pathAwareMap (fun p _ => .leaf p.length)
    (.dict [("a", .dict [("x", .leaf 10), ("e", .dict [])]), ("b", .leaf 20)] : Tree String Nat)
    = .ok (.dict [("a", .dict [("x", .leaf 2), ("e", .dict [])]), ("b", .leaf 1)]) := by
  rfl

section StateLaws
open Flax.State
variable {β : Type}

/-- **State → FlatState → State is lossless**: `from_flat_state(to_flat_state(s))` succeeds, holds exactly the
leaves of `s` at the same paths, and nothing else (`Content`: no empty sub-dict survives — that is the only
difference to `s`, cf. `unflatten_flatten_prune`). -/
theorem state_flat_roundtrip (s : SMap α) (hwf : WFKvs s) :
    ∃ s', fromFlat (toFlat s) = .ok s' ∧ (Content s').Perm ((leaves s).map leafEntry) ∧
      (leaves s').Perm (leaves s) := by
  obtain ⟨s', h1, h2⟩ := fromFlat_toFlat s hwf
  exact ⟨s', h1, h2.content, h2.leaves_perm⟩

/-- **FlatState → State → FlatState is lossless** for every flat state with non-empty, pairwise
prefix-incomparable paths (what `to_flat_state` produces, `leavesKvs_prefixFree`) -/
theorem flat_state_roundtrip (m : Flat α) (hpf : PrefixFree m) (hne : ∀ e ∈ m, e.1 ≠ []) :
    ∃ s', fromFlat m = .ok s' ∧ (toFlat s').Perm m := by
  obtain ⟨s', h1, h2⟩ := fromFlat_holds m m (List.Perm.refl _) hpf hne
  exact ⟨s', h1, (toFlat_perm s').trans h2.leaves_perm⟩

theorem firstIdx_le (preds : List (SPath → α → Bool)) (p : SPath) (a : α) :
    firstIdx preds p a ≤ preds.length :=
  firstIdx_eq_findIdx preds p a ▸ List.findIdx_le_length

theorem firstIdx_spec (preds : List (SPath → α → Bool)) (p : SPath) (a : α) :
    (∀ j, j < firstIdx preds p a → ∀ f, preds[j]? = some f → f p a = false) ∧
    (∀ f, preds[firstIdx preds p a]? = some f → f p a = true) :=
  firstIdx_eq_findIdx preds p a ▸ Lists.findIdx_spec (fun f => f p a) preds

/-- **`filter_state` partitions by first match**: one state per filter, and the `i`-th state holds exactly the
leaves of `s` whose first matching filter is `i` (and no empty sub-dict); unmatched leaves are dropped. -/
theorem filter_first_match (preds : List (SPath → α → Bool)) (s : SMap α) (hwf : WFKvs s) :
    ∃ states, filterState preds s = .ok states ∧
      Forall2 (fun i st => (Content st).Perm ((bucket preds i (leaves s)).map leafEntry) ∧
        (leaves st).Perm (bucket preds i (leaves s))) (List.range preds.length) states := by
  obtain ⟨states, h1, h2⟩ := filterState_holds preds s hwf
  exact ⟨states, h1, h2.imp (fun _ _ h => ⟨h.content, h.leaves_perm⟩)⟩

/-- **`split_state` partitions by first match and loses nothing**: when every leaf matches some filter, the result
is one state per filter holding exactly the leaves whose first match it is -/
theorem split_first_match (preds : List (SPath → α → Bool)) (s : SMap α) (hwf : WFKvs s)
    (hex : ∀ e ∈ leaves s, firstIdx preds e.1 e.2 < preds.length) :
    ∃ states, splitState preds s = .ok states ∧
      Forall2 (fun i st => (Content st).Perm ((bucket preds i (leaves s)).map leafEntry) ∧
        (leaves st).Perm (bucket preds i (leaves s))) (List.range preds.length) states := by
  obtain ⟨states, h1, h2⟩ := splitState_holds preds s hwf
  rw [if_pos ((bucket_length_eq_nil_iff preds _).mpr hex)] at h2
  exact ⟨states, h2, h1.imp (fun _ _ h => ⟨h.content, h.leaves_perm⟩)⟩

/-! #### type filters overlap (`Variable ⊇ Param ⊇ LoRAParam`): first match still decides

`split_first_match` / `filter_first_match` are stated for arbitrary predicates, so they cover plain type filters
(`ofType`), which are *not* disjoint: a leaf of type `Param` also matches `Variable`. -/

/-- a type filter at position `i` that matches the leaf caps the bucket index: the leaf cannot land later -/
theorem firstIdx_le_of_holds (preds : List (SPath → α → Bool)) (p : SPath) (a : α) (i : Nat)
    (f : SPath → α → Bool) (hf : preds[i]? = some f) (hh : f p a = true) : firstIdx preds p a ≤ i :=
  firstIdx_eq_findIdx preds p a ▸ Lists.findIdx_le_of_getElem? (p := fun f => f p a) hf hh

/-- **broad type first, narrower type later: the narrower filter's state is empty.** If every leaf that matches filter
`j` also matches an earlier filter `i`, no leaf lands in bucket `j`, e.g. `split(Variable, Param, ...)` and
`split(Param, LoRAParam, ...)`. -/
theorem shadowed_filter_bucket_empty (preds : List (SPath → α → Bool)) (i j : Nat) (hij : i < j)
    (fi fj : SPath → α → Bool) (hi : preds[i]? = some fi) (hj : preds[j]? = some fj)
    (hsub : ∀ p a, fj p a = true → fi p a = true) (m : Flat α) : bucket preds j m = [] := by
  simp only [bucket, firstIdx_eq_findIdx]
  exact Lists.shadowed_bucket_nil (fun f e => f e.1 e.2) preds hij hi hj (fun e => hsub e.1 e.2) m

/-- the instance for type filters: `t₂`'s MRO contains `t₁` (`t₂` is a subclass of `t₁`) -/
theorem subclass_after_baseclass_empty (typesOf : α → List String) (t1 t2 : String)
    (hsub : ∀ a, t2 ∈ typesOf a → t1 ∈ typesOf a)
    (preds : List (SPath → α → Bool)) (i j : Nat) (hij : i < j)
    (hi : preds[i]? = some (ofType typesOf t1)) (hj : preds[j]? = some (ofType typesOf t2)) (m : Flat α) :
    bucket preds j m = [] :=
  shadowed_filter_bucket_empty preds i j hij _ _ hi hj
    (fun _ a h => by simp only [ofType, decide_eq_true_eq] at h ⊢; exact hsub a h) m

/-- `split(Param, LoRAParam, ...)` puts a LoRAParam leaf (a Param) into the *first* state, `split(LoRAParam, Param, ...)`
into its own -/
example :
    let typesOf : Int → List String := fun a =>
      if a = 1 then ["Param", "Variable"] else if a = 2 then ["LoRAParam", "Param", "Variable"]
      else ["BatchStat", "Variable"]
    let s : SMap Int := [(.str "enc", .dict [(.str "kernel", .leaf 1), (.str "lora_a", .leaf 2), (.str "mean", .leaf 3)])]
    splitState [ofType typesOf "Param", ofType typesOf "LoRAParam", fun _ _ => true] s
      = .ok [[(.str "enc", .dict [(.str "kernel", .leaf 1), (.str "lora_a", .leaf 2)])], [],
             [(.str "enc", .dict [(.str "mean", .leaf 3)])]] ∧
    splitState [ofType typesOf "LoRAParam", ofType typesOf "Param", fun _ _ => true] s
      = .ok [[(.str "enc", .dict [(.str "lora_a", .leaf 2)])], [(.str "enc", .dict [(.str "kernel", .leaf 1)])],
             [(.str "enc", .dict [(.str "mean", .leaf 3)])]] := by
  refine ⟨rfl, rfl⟩

/-- when some leaf matches no filter, `split_state` raises instead of dropping it -/
theorem split_non_exhaustive (preds : List (SPath → α → Bool)) (s : SMap α) (hwf : WFKvs s)
    (hex : ∃ e ∈ leaves s, firstIdx preds e.1 e.2 = preds.length) :
    splitState preds s = .error .nonExhaustive := by
  obtain ⟨states, _, h2⟩ := splitState_holds preds s hwf
  rw [h2, if_neg]
  obtain ⟨x, hx, hn⟩ := hex
  exact fun h => absurd ((bucket_length_eq_nil_iff preds _).mp h x hx) (by omega)

/-- **`merge_state`: later states win.** For two or more states whose paths are pairwise equal or
prefix-incomparable, the merge succeeds and the leaf at every path is the one of the *last* state that has the
path; no path is lost and none is invented. -/
theorem merge_later_wins (s : SMap α) (rest : List (SMap α)) (hrest : rest ≠ [])
    (hcompat : ∀ e1 ∈ (s :: rest).flatMap leaves, ∀ e2 ∈ (s :: rest).flatMap leaves,
      e1.1 = e2.1 ∨ Incomp e1.1 e2.1) :
    ∃ s', mergeState s rest = .ok s' ∧
      ∀ p a, (p, a) ∈ leaves s' ↔ lastVal ((s :: rest).flatMap leaves) p = some a := by
  obtain ⟨s', h1, _, h3⟩ := mergeState_lastVal s rest hrest hcompat
  exact ⟨s', h1, h3⟩

/-- `State.__or__`: `a | b` is `a` when `b` is empty, the merge otherwise -/
theorem or_spec (a b : SMap α) :
    stateOr a b = if b.isEmpty then .ok a else mergeState a [b] := rfl

/-- **`merge_state` is the inverse of `split_state`**: merging the states returned by a split gives back exactly
the leaves of the original state at their paths (and no empty sub-dict), whatever the filters. -/
theorem merge_inverse_of_split (preds : List (SPath → α → Bool)) (s : SMap α) (hwf : WFKvs s)
    (s0 : SMap α) (srest : List (SMap α)) (h : splitState preds s = .ok (s0 :: srest)) :
    ∃ s', mergeState s0 srest = .ok s' ∧ (Content s').Perm ((leaves s).map leafEntry) ∧
      (leaves s').Perm (leaves s) := by
  obtain ⟨hall, hparts⟩ := splitState_parts preds s hwf _ h
  obtain ⟨s', h1, h2⟩ := mergeState_of_parts s hwf s0 srest hall (hparts s0 List.mem_cons_self)
  exact ⟨s', h1, h2.content, h2.leaves_perm⟩

/-- **`a - b` keeps exactly the paths of `a` that are absent from `b`, with `a`'s leaves** (repaired `diff`,
finding F2), for non-empty `b` -/
theorem diff_spec (a b : SMap α) (hwf : WFKvs a) (hb : b ≠ []) :
    ∃ s', diff a b = .ok s' ∧
      (Content s').Perm (((leaves a).filter (fun e => !decide (e.1 ∈ (leaves b).map Prod.fst))).map leafEntry) ∧
      ∀ p x, (p, x) ∈ leaves s' ↔ ((p, x) ∈ leaves a ∧ p ∉ (leaves b).map Prod.fst) := by
  obtain ⟨s', h1, _, h2, h3⟩ := diff_leaves a b hwf
  refine ⟨s', h1, h3 hb, fun p x => ?_⟩
  rw [h2.mem_iff, List.mem_filter]
  simp

/-- subtracting the empty state returns the state itself -/
theorem diff_empty (a : SMap α) : diff a [] = .ok a := rfl

/-- the definition shipped before the `fix:` commit raised for **every** non-empty `b` (finding F2) -/
theorem diffOrig_raises (a b : SMap α) (hb : b ≠ []) : diffOrig a b = .error .attributeError := by
  cases b with
  | nil => exact absurd rfl hb
  | cons _ _ => rfl

/-- **`to_pure_dict` is lossless**: the pure dict has a value `extract(leaf)` at exactly the paths of the state's
leaves, and no empty sub-dict -/
theorem to_pure_spec (ex : α → β) (s : SMap α) (hwf : WFKvs s) :
    ∃ pd, toPure ex s = .ok pd ∧
      (Content pd).Perm (((leaves s).map (fun e => (e.1, ex e.2))).map leafEntry) ∧
      (leaves pd).Perm ((leaves s).map (fun e => (e.1, ex e.2))) := by
  obtain ⟨pd, h1, h2⟩ := toPure_leaves ex s hwf
  exact ⟨pd, h1, h2.content, h2.leaves_perm⟩

/-- **`replace_by_pure_dict(s, to_pure_dict(s))` succeeds and changes no leaf, for every key set** (digit-string keys
included: this is the repaired definition, finding F14), whatever `try_convert_int` does, provided putting a
leaf's own extracted value back gives the same leaf -/
theorem pure_dict_roundtrip (conv : Key → Key) (ex : α → β) (repl : α → β → α) (hrepl : ∀ a, repl a (ex a) = a)
    (s : SMap α) (hwf : WFKvs s) :
    ∃ pd s', toPure ex s = .ok pd ∧ replaceByPure conv repl s pd = .ok s' ∧ (leaves s').Perm (leaves s) := by
  obtain ⟨pd, s', h1, h2, _, h3⟩ := replaceByPure_toPure conv ex repl hrepl s hwf
  exact ⟨pd, s', h1, h2, h3⟩

/-- the loop shipped before the `fix:` commit fails on its own output when a string key looks like an integer:
`replace_by_pure_dict(s, to_pure_dict(s))` with `s = {'layers': {'0': 1, 'x': 2}}` raised ValueError (finding
F14), while the repaired definition returns the state -/
theorem replace_orig_counterexample :
    let s : SMap Int := [(.str "layers", .dict [(.str "0", .leaf 1), (.str "x", .leaf 2)])]
    toPure (fun a => a) s = .ok s ∧
    replaceByPureOrig tryConvertInt (fun _ v => v) s s = .error .keyNotInState ∧
    replaceByPure tryConvertInt (fun _ v => v) s s = .ok s := by
  refine ⟨rfl, rfl, rfl⟩

example : tryConvertInt (.str "0") = .int 0 ∧ tryConvertInt (.str "layers") = .str "layers" ∧
    tryConvertInt (.str "-12") = .int (-12) ∧ tryConvertInt (.str "") = .str "" := by decide +kernel

/-- the documented use keeps working after the repair: int keys of the State addressed by the stringified keys of a
restored pure dict -/
example : replaceByPure tryConvertInt (fun _ v => v)
    ([(.str "layers", .dict [(.int 0, .leaf 1), (.int 1, .leaf 2)])] : SMap Int)
    [(.str "layers", .dict [(.str "0", .leaf 10), (.str "1", .leaf 20)])]
    = .ok [(.str "layers", .dict [(.int 0, .leaf 10), (.int 1, .leaf 20)])] := by rfl

end StateLaws

/-! ## Python dict equality (`DictEq`): the round trips restated as the property reads

`DictEq` (Flax/Model/Traverse.lean) is `==` on nested dicts: equal leaves; same key set and `DictEq` values under
every key, whatever the insertion order. On well-formed trees it coincides with "same complete content
(`flatten(keep_empty_nodes=True)`) up to order", which is what the theorems above establish. -/

/-- on well-formed trees `DictEq` ⇔ the keep-empty flattened forms are permutations of each other -/
theorem dictEq_iff_content_perm (t u : Tree κ α) (ht : WF t) (hu : WF u) :
    DictEq t u ↔ (relT true noLeaf t).Perm (relT true noLeaf u) :=
  dictEq_iff_content t u ht hu

/-- for two dicts: `DictEq` ⇔ their `Content`s (`relKvs true noLeaf`) are permutations of each other -/
theorem dictEq_dict_iff_content_perm (xs ys : List (κ × Tree κ α)) (hx : WFKvs xs) (hy : WFKvs ys) :
    DictEq (.dict xs) (.dict ys) ↔ (relKvs true noLeaf xs).Perm (relKvs true noLeaf ys) :=
  dictEq_dict_iff xs ys hx hy

/-- `DictEq` is an equivalence relation on well-formed trees -/
theorem dictEq_refl (t : Tree κ α) (ht : WF t) : DictEq t t :=
  (dictEq_iff_content t t ht ht).mpr (List.Perm.refl _)

theorem dictEq_symm (t u : Tree κ α) (ht : WF t) (hu : WF u) (h : DictEq t u) : DictEq u t :=
  (dictEq_iff_content u t hu ht).mpr ((dictEq_iff_content t u ht hu).mp h).symm

theorem dictEq_trans (t u w : Tree κ α) (ht : WF t) (hu : WF u) (hw : WF w) (h1 : DictEq t u) (h2 : DictEq u w) :
    DictEq t w :=
  (dictEq_iff_content t w ht hw).mpr
    (((dictEq_iff_content t u ht hu).mp h1).trans ((dictEq_iff_content u w hu hw).mp h2))

/-- insertion order is irrelevant, at any depth -/
example : DictEq (.dict [("a", .leaf 1), ("b", .dict [("c", .leaf 2), ("d", .dict [])])] : Tree String Nat)
    (.dict [("b", .dict [("d", .dict []), ("c", .leaf 2)]), ("a", .leaf 1)]) := by
  simp only [DictEq, EntriesIn]
  exact ⟨_, rfl, Dict.isSome_of_keys_subset (by decide +kernel), ⟨_, rfl, rfl⟩,
    ⟨_, rfl, _, rfl, Dict.isSome_of_keys_subset (by decide +kernel), ⟨_, rfl, rfl⟩,
      ⟨_, rfl, _, rfl, Dict.isSome_of_keys_subset (by decide +kernel), trivial⟩, trivial⟩, trivial⟩

/-- an extra empty dict is a difference -/
example : ¬ DictEq (.dict [("a", .leaf 1)] : Tree String Nat) (.dict [("a", .leaf 1), ("e", .dict [])]) := by
  simp only [DictEq, EntriesIn, Dict.get]
  rintro ⟨ys, hys, hk, _⟩
  cases hys
  have := hk "e" (by decide)
  revert this
  decide

/-- **`unflatten_dict(m) == t` for every dict `m` equal to `flatten_dict(t, keep_empty_nodes=True)`**, i.e. for any
insertion order of the flat dict: the result is `t` as a Python dict. (With the flattened order itself the
result is `t` literally: `unflatten_flatten_keep`.) -/
theorem unflatten_flatten_keep_dictEq (kvs : List (κ × Tree κ α)) (hwf : WF (.dict kvs))
    (fl m : List (Path κ × FVal κ α)) (hfl : flatten true noLeaf (.dict kvs) = .ok fl) (hm : m.Perm fl) :
    ∃ t', unflatten m = .ok t' ∧ WF t' ∧ DictEq t' (.dict kvs) := by
  have hpf := relKvs_prefixFree true kvs noLeaf hwf
  rw [flatten_root true noLeaf kvs hwf rfl] at hfl
  cases hfl
  have hok : ∀ e ∈ m, e.1 ≠ [] ∧ OkVal true e.2 := fun e he =>
    ⟨relKvs_paths_ne_nil true noLeaf kvs e (hm.mem_iff.mp he), relKvs_true_okval kvs e (hm.mem_iff.mp he)⟩
  obtain ⟨kvs', h1, hwf2, h2⟩ := build_flat_nil true m (hpf.perm hm.symm) hok
  refine ⟨.dict kvs', ?_, hwf2, (dictEq_dict_iff kvs' kvs hwf2 hwf).mpr (h2.trans hm)⟩
  rw [unflatten_eq_build, h1]; rfl

section StateEq
open Flax.State
variable {β : Type}

/-- two well-formed states with the same leaves are equal as Python dicts once their leaf-less sub-dicts are removed -/
theorem dictEq_prune_of_leaves_perm (a b : SMap α) (ha : WFKvs a) (hb : WFKvs b)
    (h : (leaves a).Perm (leaves b)) : DictEq (prune (.dict a)) (prune (.dict b)) :=
  dictEq_prune_of_content _ b (wf_normKvs a ha) hb (relKvs_true_normKvs a ▸ h.map _)

/-- **`from_flat_state(to_flat_state(s)) == prune(s)`** as Python dicts: State → FlatState → State loses nothing but
leaf-less sub-dicts (and nothing at all when `s` has none: `prune_eq_self`) -/
theorem state_flat_roundtrip_eq (s : SMap α) (hwf : WFKvs s) :
    ∃ s', fromFlat (toFlat s) = .ok s' ∧ WFKvs s' ∧ DictEq (.dict s') (prune (.dict s)) := by
  obtain ⟨s', h1, h2⟩ := fromFlat_toFlat s hwf
  exact ⟨s', h1, h2.wf, dictEq_prune_of_content s' s h2.wf hwf h2.content⟩

/-- `to_pure_dict(s)` is well-formed and holds `extract(leaf)` at the paths of the leaves of `s` -/
theorem to_pure_eq (ex : α → α) (s : SMap α) (hwf : WFKvs s) :
    ∃ pd, toPure ex s = .ok pd ∧ WFKvs pd ∧
      (Content pd).Perm (((leaves s).map (fun e => (e.1, ex e.2))).map leafEntry) := by
  obtain ⟨pd, h1, h2⟩ := toPure_leaves ex s hwf
  exact ⟨pd, h1, h2.wf, h2.content⟩

/-- **`replace_by_pure_dict(s, to_pure_dict(s))` leaves `s` equal to itself** as a Python dict, up to leaf-less
sub-dicts (exactly, when `s` has none), for every key set (repaired definition, finding F14) -/
theorem pure_dict_roundtrip_eq (conv : Key → Key) (ex : α → β) (repl : α → β → α) (hrepl : ∀ a, repl a (ex a) = a)
    (s : SMap α) (hwf : WFKvs s) :
    ∃ pd s', toPure ex s = .ok pd ∧ replaceByPure conv repl s pd = .ok s' ∧ WFKvs s' ∧
      DictEq (prune (.dict s')) (prune (.dict s)) := by
  obtain ⟨pd, s', h1, h2, hw, h3⟩ := replaceByPure_toPure conv ex repl hrepl s hwf
  exact ⟨pd, s', h1, h2, hw, dictEq_prune_of_leaves_perm s' s hw hwf h3⟩

/-- **`merge_state(*split_state(s, filters)) == prune(s)`** as Python dicts -/
theorem merge_inverse_of_split_eq (preds : List (SPath → α → Bool)) (s : SMap α) (hwf : WFKvs s)
    (s0 : SMap α) (srest : List (SMap α)) (h : splitState preds s = .ok (s0 :: srest)) :
    ∃ s', mergeState s0 srest = .ok s' ∧ DictEq (prune (.dict s')) (prune (.dict s)) ∧
      (srest ≠ [] → DictEq (.dict s') (prune (.dict s))) := by
  obtain ⟨hall, hparts⟩ := splitState_parts preds s hwf _ h
  obtain ⟨s', h1, h2⟩ := mergeState_of_parts s hwf s0 srest hall (hparts s0 List.mem_cons_self)
  exact ⟨s', h1, dictEq_prune_of_leaves_perm s' s h2.wf hwf h2.leaves_perm,
    fun _ => dictEq_prune_of_content s' s h2.wf hwf h2.content⟩

/-- **`a - b == prune(a restricted to the paths absent from b)`** as Python dicts (repaired `diff`, finding F2) -/
theorem diff_spec_eq (a b : SMap α) (hwf : WFKvs a) (hb : b ≠ []) :
    ∃ s', diff a b = .ok s' ∧ WFKvs s' ∧
      DictEq (.dict s')
        (prune (.dict (keepPathsKvs (fun p => !decide (p ∈ (leaves b).map Prod.fst)) a))) := by
  obtain ⟨s', h1, hw, _, h3⟩ := diff_leaves a b hwf
  refine ⟨s', h1, hw, dictEq_prune_of_content s' _ hw (wf_keepPathsKvs a _ hwf) ?_⟩
  rw [leaves_keepPathsKvs]
  exact h3 hb

/-- **split, then merge in ANY argument order** (the parts have pairwise disjoint path sets): the result holds
exactly the leaves of `s`, i.e. it is `prune s` as a Python dict -/
theorem split_merge_any_order (preds : List (SPath → α → Bool)) (s : SMap α) (hwf : WFKvs s)
    (states : List (SMap α)) (h : splitState preds s = .ok states)
    (s0 : SMap α) (srest : List (SMap α)) (hperm : (s0 :: srest).Perm states) :
    ∃ s', mergeState s0 srest = .ok s' ∧ (leaves s').Perm (leaves s) ∧
      DictEq (prune (.dict s')) (prune (.dict s)) := by
  obtain ⟨hall, hparts⟩ := splitState_parts preds s hwf states h
  obtain ⟨s', h1, h2⟩ := mergeState_of_parts s hwf s0 srest ((hperm.flatMap_right leaves).trans hall)
    (hparts s0 (hperm.mem_iff.mp List.mem_cons_self))
  exact ⟨s', h1, h2.leaves_perm, dictEq_prune_of_leaves_perm s' s h2.wf hwf h2.leaves_perm⟩

private theorem aux_bucket_bucket (preds : List (SPath → α → Bool)) (i j : Nat) (m : Flat α) :
    bucket preds j (bucket preds i m) = if j = i then bucket preds i m else [] := by
  simp only [bucket, List.filter_filter]
  split
  · next h => subst h; simp only [Bool.and_self]
  · next h =>
    refine List.filter_eq_nil_iff.mpr fun e _ he => h ?_
    simp only [Bool.and_eq_true, beq_iff_eq] at he
    exact he.1.symm.trans he.2

/-- **`filter_state` is idempotent**: filtering the `i`-th part again with the same filters returns that part at
position `i` and empty states everywhere else -/
theorem filter_idempotent (preds : List (SPath → α → Bool)) (s : SMap α) (hwf : WFKvs s)
    (states : List (SMap α)) (h : filterState preds s = .ok states) (i : Nat) (hi : i < states.length) :
    ∃ states2, filterState preds states[i] = .ok states2 ∧
      Forall2 (fun j st2 => (leaves st2).Perm (if j = i then leaves states[i] else [])) (List.range preds.length)
        states2 := by
  obtain ⟨states', h1, h2⟩ := filterState_holds preds s hwf
  rw [h1] at h
  cases h
  have hlen := h2.length_eq
  have hr := h2.get i (by omega) hi
  simp only [List.getElem_range] at hr
  obtain ⟨states2, h3, h4⟩ := filter_first_match preds states[i] hr.wf
  refine ⟨states2, h3, h4.imp fun j st2 hj => ?_⟩
  refine hj.2.trans (List.Perm.trans (hr.leaves_perm.filter _) ?_)
  show (bucket preds j (bucket preds i (leaves s))).Perm _
  rw [aux_bucket_bucket]
  split
  · exact hr.leaves_perm.symm
  · exact List.Perm.refl _

/-- **`a - b - c = a - (b | c)`**: both sides hold the same leaves; as Python dicts they are equal up to leaf-less
sub-dicts (`diff` returns `a` itself, unpruned, when the subtrahend is empty) -/
theorem diff_diff_eq_diff_or (a b c : SMap α) (hwa : WFKvs a) (hwb : WFKvs b)
    (hcompat : ∀ e1 ∈ [b, c].flatMap leaves, ∀ e2 ∈ [b, c].flatMap leaves, e1.1 = e2.1 ∨ Incomp e1.1 e2.1) :
    ∃ d1 d2 u d3, diff a b = .ok d1 ∧ diff d1 c = .ok d2 ∧ stateOr b c = .ok u ∧ diff a u = .ok d3 ∧
      (leaves d2).Perm (leaves d3) ∧ DictEq (prune (.dict d2)) (prune (.dict d3)) := by
  obtain ⟨d1, h1, hw1, hl1, _⟩ := diff_leaves a b hwa
  obtain ⟨d2, h2, hw2, hl2, _⟩ := diff_leaves d1 c hw1
  obtain ⟨u, h3, _, _, hpu⟩ := stateOr_leaves b c hwb hcompat
  obtain ⟨d3, h4, hw3, hl3, _⟩ := diff_leaves a u hwa
  have hperm : (leaves d2).Perm (leaves d3) := by
    refine hl2.trans (((hl1.filter _).trans ?_).trans hl3.symm)
    rw [List.filter_filter]
    refine List.Perm.of_eq (List.filter_congr (fun e _ => ?_))
    rw [← Bool.not_or, ← Bool.decide_or]
    exact congrArg not (decide_eq_decide.mpr (or_comm.trans (hpu e.1).symm))
  exact ⟨d1, d2, u, d3, h1, h2, h3, h4, hperm, dictEq_prune_of_leaves_perm d2 d3 hw2 hw3 hperm⟩

/-- **`(a | b) - b ⊆ a`**, precisely: it holds exactly the leaves of `a` whose path is not in `b` (those of `a - b`) -/
theorem or_diff_subset (a b : SMap α) (hwa : WFKvs a)
    (hcompat : ∀ e1 ∈ [a, b].flatMap leaves, ∀ e2 ∈ [a, b].flatMap leaves, e1.1 = e2.1 ∨ Incomp e1.1 e2.1) :
    ∃ u d, stateOr a b = .ok u ∧ diff u b = .ok d ∧
      ∀ p x, (p, x) ∈ leaves d ↔ ((p, x) ∈ leaves a ∧ p ∉ (leaves b).map Prod.fst) := by
  obtain ⟨u, h1, hwu, hu, _⟩ := stateOr_leaves a b hwa hcompat
  obtain ⟨d, h2, _, hl, _⟩ := diff_leaves u b hwu
  refine ⟨u, d, h1, h2, fun p x => ?_⟩
  rw [hl.mem_iff, List.mem_filter, hu p x, lastVal_append]
  simp only [Bool.not_eq_true', decide_eq_false_iff_not]
  refine and_congr_left (fun hn => ?_)
  rw [lastVal_eq_none _ p hn, lastVal_of_nodup _ (leavesKvs_prefixFree a hwa).nodup_paths]

end StateEq

/-! ## `nnx.traversals`: the twins

`flatten_mapping` / `unflatten_mapping` are line for line the algorithm of `flatten_dict` / `unflatten_dict` (they differ
only in the containers accepted: any `Mapping`, and any iterable of pairs for `unflatten_mapping`); both are modelled by
`flattenWith` / `unflattenWith`, so every theorem above is about both, and the correspondence run drives both libraries
against that one model. `flatten_to_sequence` alone has a different shape (a list, no `keep_empty_nodes`, no `sep`): it
is `flattenToSeq`. -/

/-- `flatten_to_sequence(t, is_leaf)` lists exactly the items of `flatten_mapping(t, is_leaf=is_leaf)`, in the same order -/
theorem flattenToSeq_eq_flatten (isLeaf : Path κ → Tree κ α → Bool) (kvs : List (κ × Tree κ α))
    (hwf : WF (.dict kvs)) : flattenToSeq isLeaf (.dict kvs) = flatten false isLeaf (.dict kvs) := by
  cases hr : isLeaf [] (.dict kvs) with
  | true => rw [flatten, flattenWith_leaf_root id false isLeaf kvs hr, flattenToSeq, flatT, if_pos hr]; rfl
  | false => rw [flatten_root false isLeaf kvs hwf hr, flattenToSeq, flatT_root false isLeaf kvs hr]

/-- `unflatten_mapping(flatten_to_sequence(t, is_leaf))` (a list of pairs is accepted) is the same normal form -/
theorem unflatten_flattenToSeq (isLeaf : Path κ → Tree κ α → Bool) (kvs : List (κ × Tree κ α))
    (hwf : WF (.dict kvs)) (hroot : isLeaf [] (.dict kvs) = false) :
    (flattenToSeq isLeaf (.dict kvs) >>= unflatten) = .ok (.dict (normKvs false isLeaf kvs)) := by
  rw [flattenToSeq_eq_flatten isLeaf kvs hwf]
  exact unflatten_flatten_norm false isLeaf kvs hwf hroot

/-- the empty root: `flatten_dict({}, …)` / `flatten_mapping({}, …)` is `{}` for every `keep_empty_nodes`, every
`is_leaf` that is false at the root and every key encoding — with a separator too (no `'' ↦ empty_node` entry) -/
theorem flatten_root_empty {ρ : Type} [DecidableEq ρ] (key : Path κ → ρ) (keep : Bool)
    (isLeaf : Path κ → Tree κ α → Bool) (hroot : isLeaf [] (.dict []) = false) :
    flattenWith key keep isLeaf (.dict ([] : List (κ × Tree κ α))) = .ok [] :=
  flattenWith_root key keep isLeaf [] hroot List.nodup_nil

/-- an empty dict below the top level is kept as `empty_node` under its joined key, the empty-string key
included: `flatten_dict({'': {}}, keep_empty_nodes=True, sep='/') == {'': empty_node}` -/
theorem flatten_sep_empty_key_kept :
    flattenSep "/" true noLeaf (.dict [("", .dict [])] : Tree String Nat) = .ok [("", .emptyNode)] ∧
    (flattenSep "/" true noLeaf (.dict [("", .dict [])] : Tree String Nat) >>= unflattenSep "/")
      = .ok (.dict [("", .dict [])]) := by
  refine ⟨rfl, rfl⟩

section Examples
open Flax.State

/-- a nested dict with an empty sub-dict, an empty-string key and a digit-string key -/
private def tEx : List (String × Tree String Nat) :=
  [("a", .dict [("b", .leaf 1), ("", .dict []), ("0", .dict [("c", .leaf 2)])]), ("d", .leaf 3)]

example : WF (.dict tEx) := by simp only [tEx, WF, WFKvs]; decide +kernel

example : (fun (p : Path String) (_ : Tree String Nat) => decide (p.length = 2)) [] (.dict tEx) = false := by decide

example : ∀ k ∈ keysKvs tEx, NoOverlap "/".toList k.toList := by
  have h : ∀ k ∈ keysKvs tEx, '/' ∉ k.toList := by decide +kernel
  exact fun k hk => (noOverlap_singleton '/' _).mpr (h k hk)

example : (flatten true noLeaf (.dict tEx) >>= unflatten) = .ok (.dict tEx) := by rfl

example : (flatten false noLeaf (.dict tEx) >>= unflatten)
    = .ok (.dict [("a", .dict [("b", .leaf 1), ("0", .dict [("c", .leaf 2)])]), ("d", .leaf 3)]) := by rfl

example : ∀ e ∈ [((["a", "b"] : Path String), (FVal.val (.leaf 1) : FVal String Nat)), (["a", "c"], .emptyNode)],
    e.1 ≠ [] ∧ OkVal true e.2 := by
  intro e he
  simp only [List.mem_cons, List.not_mem_nil, or_false] at he
  rcases he with rfl | rfl
  · exact ⟨by simp, Or.inl ⟨1, rfl⟩⟩
  · exact ⟨by simp, Or.inr ⟨rfl, rfl⟩⟩

/-- a State with `str` and `int` keys, a digit-string key and an empty sub-dict -/
private def sEx : SMap Int :=
  [(.str "layers", .dict [(.int 0, .dict [(.str "w", .leaf 1), (.str "b", .leaf 2)]), (.int 1, .dict [(.str "w", .leaf 3)])]),
   (.str "0", .leaf 4), (.str "e", .dict [])]

private def predsEx : List (SPath → Int → Bool) :=
  [fun p _ => decide (Key.str "w" ∈ p), fun _ a => decide (a < 3), fun _ _ => true]

example : WFKvs sEx := by unfold sEx; simp only [WFKvs, WF]; decide +kernel

example : ∀ e ∈ leaves sEx, firstIdx predsEx e.1 e.2 < predsEx.length := by decide +kernel

example : ∃ e ∈ leaves sEx, firstIdx (predsEx.take 1) e.1 e.2 = (predsEx.take 1).length := by decide +kernel

example : splitState predsEx sEx = .ok
    [[(.str "layers", .dict [(.int 0, .dict [(.str "w", .leaf 1)]), (.int 1, .dict [(.str "w", .leaf 3)])])],
     [(.str "layers", .dict [(.int 0, .dict [(.str "b", .leaf 2)])])],
     [(.str "0", .leaf 4)]] := by rfl

private def bEx : SMap Int := [(.str "layers", .dict [(.int 1, .dict [(.str "w", .leaf 30)])]), (.str "new", .leaf 5)]

example : ∀ e1 ∈ [sEx, bEx].flatMap leaves, ∀ e2 ∈ [sEx, bEx].flatMap leaves, e1.1 = e2.1 ∨ Incomp e1.1 e2.1 := by
  simp only [Incomp]
  decide +kernel

example : mergeState sEx [bEx] = .ok
    [(.str "layers", .dict [(.int 0, .dict [(.str "w", .leaf 1), (.str "b", .leaf 2)]), (.int 1, .dict [(.str "w", .leaf 30)])]),
     (.str "0", .leaf 4), (.str "new", .leaf 5)] := by rfl

example : diff sEx bEx = .ok
    [(.str "0", .leaf 4), (.str "layers", .dict [(.int 0, .dict [(.str "b", .leaf 2), (.str "w", .leaf 1)])])] := by rfl

end Examples

end Flax.C16
