/-
C05 — Lifted jit / remat / cond / switch / while_loop / identity map_variables act like the plain code (model
`Flax/Model/Lift.lean`); in section `modscopes`, `get/set_module_scopes` and `_dedup_scopes` (model
`Flax/Model/ModScopes.lean`).

Named assumptions (DESIGN.md §5): A-JIT / A-REMAT (jax.jit / jax.checkpoint are the identity on the traced
function; the jit cache is keyed by static arguments and input structure), A-COND / A-WHILE (`laxSwitch`,
`laxCond`, `laxWhile` in the model are the functional specifications of `lax.switch/cond/while_loop`, including
"every branch is traced" and "the loop body is traced once before the loop runs"), A-RNG (keys are free terms),
A-PY (variable trees are dicts: `VarsWF`).
-/
import Flax.Proofs.LiftPack
import Flax.Proofs.LiftWhile
import Flax.Proofs.LiftCounters
import Flax.Proofs.LiftJit
import Flax.Proofs.ModScopes

namespace Flax.C05
open Flax.Filter Flax.Lift

/-- For every body, every outer scope, every list of in / out / rng filters and every
`mutable_filter`: if every collection the body touches is matched by an in-filter, every collection it may write
that is mutable outside is matched by an out-filter and by `mutable_filter`, and the rng streams it can draw from
are lifted, then running the body through `pack` (group, freeze, inner scope, run, repack, publish) and running it
directly on the scope agree on outputs, drawn keys, every variable of every collection, rng counters, and on
whether and how they fail.  `jit` (cache aside), `remat` and identity `map_variables` are instances. -/
theorem pack_transparent (inF outF rngF : List LFilter) (mf : LFilter) (attrs : List (String × Int)) (f : Fn)
    (args : List Int) (s : ScopeSt) (hwf : VarsWF s.vars) (hfz : s.FrozenOk)
    (hin : ∀ c, c ∈ cols f.body → anyMatch inF c = true)
    (hout : ∀ c, c ∈ wcols f.body → inFilter s.mutable c = true → anyMatch outF c = true ∧ inFilter mf c = true)
    (hrng : ∀ r, r ∈ rngDeps f.body → (alookup r s.rngs).isSome = true → anyMatch rngF r = true) :
    Agree (runFn attrs f args s) (liftId inF outF rngF mf attrs f args s) :=
  liftId_agree inF outF rngF mf attrs f args s hwf hfz hin hout hrng

/-- `pack_transparent` for a body that runs on a descendant scope at any depth (`Top → mid → … → counter`): `inPath`
renames variables and counter paths and leaves the collections and streams named as they are. -/
theorem pack_transparent_path (path : List String) (inF outF rngF : List LFilter) (mf : LFilter)
    (attrs : List (String × Int)) (f : Fn) (args : List Int) (s : ScopeSt) (hwf : VarsWF s.vars) (hfz : s.FrozenOk)
    (hin : ∀ c, c ∈ cols f.body → anyMatch inF c = true)
    (hout : ∀ c, c ∈ wcols f.body → inFilter s.mutable c = true → anyMatch outF c = true ∧ inFilter mf c = true)
    (hrng : ∀ r, r ∈ rngDeps f.body → (alookup r s.rngs).isSome = true → anyMatch rngF r = true) :
    Agree (runFn attrs ⟨inPath path f.body, f.ret⟩ args s)
      (liftId inF outF rngF mf attrs ⟨inPath path f.body, f.ret⟩ args s) := by
  have h := inPath_names path f.body
  apply liftId_agree
  · exact hwf
  · exact hfz
  · intro c hc; exact hin c (by simpa [h.1] using hc)
  · intro c hc; exact hout c (by simpa [h.2.1] using hc)
  · intro r hr; exact hrng r (by simpa [rngDeps, h.2.2] using hr)

/-- **pack_transparent for bodies that run on a child scope.** A child module bound under the name `ch` (in
`setup` or earlier in the compact method) and used inside the transformed code touches the parent's collections at
the child's path, draws from the parent's streams with the child's name in the key suffix, and counts its draws in
the dict nested under the child token of the parent's counter dict (`inChild`, `Prog.rngAt`, `makeRngAt`).  `pack`
is transparent for such bodies under exactly the hypotheses of `pack_transparent` on the collections and streams the
child's body names. -/
theorem pack_transparent_child (ch : String) (inF outF rngF : List LFilter) (mf : LFilter) (attrs : List (String × Int))
    (f : Fn) (args : List Int) (s : ScopeSt) (hwf : VarsWF s.vars) (hfz : s.FrozenOk)
    (hin : ∀ c, c ∈ cols f.body → anyMatch inF c = true)
    (hout : ∀ c, c ∈ wcols f.body → inFilter s.mutable c = true → anyMatch outF c = true ∧ inFilter mf c = true)
    (hrng : ∀ r, r ∈ rngDeps f.body → (alookup r s.rngs).isSome = true → anyMatch rngF r = true) :
    Agree (runFn attrs ⟨inChild ch f.body, f.ret⟩ args s)
      (liftId inF outF rngF mf attrs ⟨inChild ch f.body, f.ret⟩ args s) :=
  pack_transparent_path [ch] inF outF rngF mf attrs f args s hwf hfz hin hout hrng

-- a child's draw: the key carries the child's name and its own counter; the parent's counter is untouched
example : (runFn [] ⟨inChild "d" (.seq (.rng "dropout") (.rng "dropout")), []⟩ []
      { vars := [], mutable := .ff, frozen := [], rngs := [("dropout", ⟨.seed "dropout", []⟩)],
        counters := [("dropout", 4)] }).toOption.map (fun r => (r.1.keys, r.2.counters)) =
    some ([.fold (.seed "dropout") [.s "d", .n 1], .fold (.seed "dropout") [.s "d", .n 2]],
      [("dropout", 4), ("d/dropout", 2)]) := by decide +kernel

/-- `nn.remat` / `nn.checkpoint` with lifting filters `variables`, `rngs` -/
theorem remat_transparent (variables rngs : LFilter) (attrs : List (String × Int)) (f : Fn)
    (args : List Int) (s : ScopeSt) (hwf : VarsWF s.vars) (hfz : s.FrozenOk)
    (hin : ∀ c, c ∈ cols f.body → inFilter variables c = true)
    (hrng : ∀ r, r ∈ rngDeps f.body → (alookup r s.rngs).isSome = true → inFilter rngs r = true) :
    Agree (runFn attrs f args s) (remat variables rngs attrs f args s) :=
  liftId_agree_single variables rngs attrs f args s hwf hfz hin hrng

/-- The keys drawn inside `remat b` are those of `b` (same stream, same suffix, same
counter values), and the counters end where the plain code leaves them. -/
theorem remat_rng_identical (variables rngs : LFilter) (attrs : List (String × Int)) (f : Fn)
    (args : List Int) (s : ScopeSt) (hwf : VarsWF s.vars) (hfz : s.FrozenOk)
    (hin : ∀ c, c ∈ cols f.body → inFilter variables c = true)
    (hrng : ∀ r, r ∈ rngDeps f.body → (alookup r s.rngs).isSome = true → inFilter rngs r = true)
    (y y' : Out) (s1 s1' : ScopeSt) (h1 : runFn attrs f args s = .ok (y, s1))
    (h2 : remat variables rngs attrs f args s = .ok (y', s1')) :
    y.keys = y'.keys ∧ s1.counters = s1'.counters := by
  have h := remat_transparent variables rngs attrs f args s hwf hfz hin hrng
  rw [h1, h2] at h
  simp only [Agree] at h
  exact ⟨by rw [h.1], h.2.2.1⟩

/-- identity `nn.map_variables(…, init=False)`: transparent when the body does not write mapped collections
(they are read-only unless `mutable=True`) -/
theorem map_variables_id_transparent (mapped rngs variables : LFilter) (mutable : Bool)
    (attrs : List (String × Int)) (f : Fn) (args : List Int) (s : ScopeSt) (hwf : VarsWF s.vars) (hfz : s.FrozenOk)
    (hin : ∀ c, c ∈ cols f.body → (inFilter mapped c || inFilter variables c) = true)
    (hout : ∀ c, c ∈ wcols f.body → inFilter s.mutable c = true → mutable = false → inFilter mapped c = false)
    (hrng : ∀ r, r ∈ rngDeps f.body → (alookup r s.rngs).isSome = true → inFilter rngs r = true) :
    Agree (runFn attrs f args s) (mapVariablesId mapped false mutable rngs variables attrs f args s) := by
  have key : mapVariablesId mapped false mutable rngs variables attrs f args s =
      liftId [mapped, variables]
        (if mutable then [mapped, variables] else [LFilter.ff, subtract variables mapped]) [rngs]
        (if mutable then LFilter.tt else subtract LFilter.tt mapped) attrs f args s := by
    simp [mapVariablesId, mapVariablesIdGen, liftId, pack, partialPack, groupBy]
  rw [key]
  apply liftId_agree
  · exact hwf
  · exact hfz
  · intro c hc; simpa [anyMatch] using hin c hc
  · intro c hc hm
    have h1 := hin c (wcols_sub_cols _ c hc)
    cases hmu : mutable with
    | true => simpa [anyMatch, inFilter] using h1
    | false =>
      have h2 := hout c hc hm hmu
      simp only [h2, Bool.false_or] at h1
      simp [anyMatch, inFilter, Flax.Filter.inFilter_setOps.2.1, h1, h2]
  · intro r hr hs; simp [anyMatch, hrng r hr hs]

/-- finding F27 (fixed in /repo acbaa69): as shipped, identity `map_variables(init=True)` replaced the target group
by what `repack` returned after the initialisation pass — only the *mutable* collections — so a read-only mapped
collection (`params` while only `stats` is mutable) vanished from the transformed function's scope; the repaired
code keeps it and the function computes what the plain code computes. -/
theorem map_variables_init_orig_drops_readonly :
    mapVariablesIdOrig (.name "params") true false .tt .tt [] ⟨.get "params" "w", [.reg 0]⟩ []
      { vars := [("params", [("w", 3)]), ("stats", [("n", 1)])], mutable := .name "stats", frozen := [], rngs := [],
        counters := [] } = .error .notFound ∧
    (mapVariablesId (.name "params") true false .tt .tt [] ⟨.get "params" "w", [.reg 0]⟩ []
      { vars := [("params", [("w", 3)]), ("stats", [("n", 1)])], mutable := .name "stats", frozen := [], rngs := [],
        counters := [] }).toOption.map (·.1.vals) = some [3] := by
  constructor <;> decide +kernel

/-- Whatever the body did, `repack_fn` finds no "unmapped output variables": the
inner scope's `mutable` is contained in the union of the out filters.  (Any scope, filters, groups, mutable
filter; any body.) -/
theorem repack_never_unmapped (s : ScopeSt) (outF : List LFilter) (fz : List String) (vg : List Vars)
    (rg : List Rngs) (mf : LFilter) (ctr : Counters) (env : Env) (b : Prog) (regs : List Int) (m' : M)
    (h : eval env b ⟨regs, [], scopeFn s outF fz vg rg mf ctr⟩ = .ok m') :
    ∃ gs, repack outF m'.sc = .ok gs :=
  ⟨_, repack_scopeFn h⟩

/-- `_partial_pack` freezes in-only collections, but a body never gets as far as
assigning into a FrozenDict: those collections are already immutable by the inner scope's filter, so the write
fails with `ModifyScopeVariableError` (never with FrozenDict's own error). -/
theorem freeze_unreachable (s : ScopeSt) (inF outF rngF : List LFilter) (mf : LFilter) (ctr : Counters)
    (env : Env) (b : Prog) (regs : List Int) :
    eval env b ⟨regs, [], (partialPack inF outF rngF s).scopeFn (partialPack inF outF rngF s).varGroups
      (partialPack inF outF rngF s).rngGroups mf ctr⟩ ≠ .error .frozenWrite :=
  eval_ne_frozenWrite _ _ _ (frozenOk_scopeFn _ _ _ _ _ _ _)

/-- **nonlifted_frame (1): invisible inside.** A collection matched by no in-filter does not exist in the inner
scope: every read of it finds nothing. -/
theorem nonlifted_invisible (s : ScopeSt) (inF outF rngF : List LFilter) (mf : LFilter) (ctr : Counters)
    (c n : String) (hc : anyMatch inF c = false) :
    getVar ((partialPack inF outF rngF s).scopeFn (partialPack inF outF rngF s).varGroups
      (partialPack inF outF rngF s).rngGroups mf ctr).vars c n = none := by
  simp [partialPack, scopeFn, getVar, alookup_groupBy_flatten, hc]

/-- **nonlifted_frame (2): writes still raise.** If a collection is not mutable outside, or is matched by no
out-filter, or is excluded by `mutable_filter`, then a `put_variable` on it inside the transform raises
`ModifyScopeVariableError`. -/
theorem nonlifted_write_raises (s : ScopeSt) (inF outF rngF : List LFilter) (mf : LFilter) (ctr : Counters)
    (c n : String) (v : Int)
    (hc : (inFilter s.mutable c && anyMatch outF c && inFilter mf c) = false) :
    ((partialPack inF outF rngF s).scopeFn (partialPack inF outF rngF s).varGroups
      (partialPack inF outF rngF s).rngGroups mf ctr).put c n v = .error .modifyImmutable := by
  apply put_of_immutable
  simp only [partialPack]
  rw [inFilter_scopeFn]; exact hc

/-- **nonlifted_frame (3): unchanged outside.** For *every* body (no hypothesis on what it touches): a
collection that is not mutable outside, or matched by no out-filter, or excluded by `mutable_filter`, has
exactly its old variables after the lifted call. -/
theorem nonlifted_frame (inF outF rngF : List LFilter) (mf : LFilter) (attrs : List (String × Int)) (f : Fn)
    (args : List Int) (s s' : ScopeSt) (y : Out) (hwf : VarsWF s.vars) (hfz : s.FrozenOk)
    (h : liftId inF outF rngF mf attrs f args s = .ok (y, s'))
    (c : String) (hc : (inFilter s.mutable c && anyMatch outF c && inFilter mf c) = false) :
    ∀ n, getVar s'.vars c n = getVar s.vars c n := by
  intro n
  have hspec := liftId_spec inF outF rngF mf attrs f args s hwf hfz
  rw [h] at hspec
  generalize runFn attrs f args _ = r at hspec
  cases r with
  | error e => exact False.elim hspec
  | ok a => rw [hspec.2.2.2.2.2 c n, hc]; rfl

/-- the domain on which `lax.cond` / `lax.switch` can run at all (A-COND): every branch traces without error on
the packed scope and all branches produce the same tree structure -/
def BranchesTrace (variables rngs : LFilter) (attrs : List (String × Int)) (branches : List Fn) (args : List Int)
    (s : ScopeSt) : Prop :=
  ∃ sh, ∀ b, b ∈ branches → ∃ v,
    runInner attrs b args .tt (partialPack [variables] [variables] [rngs] s)
      (partialPack [variables] [variables] [rngs] s).varGroups
      (partialPack [variables] [variables] [rngs] s).rngGroups s.counters = .ok v ∧ shapeOf v = sh

private theorem aux_branchesTrace_of_run (variables rngs : LFilter) (attrs : List (String × Int)) (branches : List Fn)
    (args : List Int) (s : ScopeSt) (sh : Nat × List (List (String × List String)))
    (h : ∀ b, b ∈ branches →
      (match runInner attrs b args .tt (partialPack [variables] [variables] [rngs] s)
        (partialPack [variables] [variables] [rngs] s).varGroups
        (partialPack [variables] [variables] [rngs] s).rngGroups s.counters with
      | .ok v => decide (shapeOf v = sh)
      | .error _ => false) = true) :
    BranchesTrace variables rngs attrs branches args s := by
  refine ⟨sh, fun b hb => ?_⟩
  have := h b hb
  revert this
  cases runInner attrs b args .tt _ _ _ s.counters with
  | error e => intro h'; cases h'
  | ok v => intro h'; exact ⟨v, rfl, of_decide_eq_true h'⟩

/-- On the domain where `lax.switch` runs (`BranchesTrace`), `nn.switch(index, branches, …)`
agrees with calling `branches[clamp(index)]` directly on the module — for every index (negative and too large
ones are clamped as `lax.switch` does), every branch list and every lifting filter that covers what the chosen
branch touches. -/
theorem switch_eq_nth (variables rngs : LFilter) (attrs : List (String × Int)) (index : Int) (branches : List Fn)
    (args : List Int) (s : ScopeSt) (hwf : VarsWF s.vars) (hfz : s.FrozenOk) (hne : branches ≠ [])
    (htr : BranchesTrace variables rngs attrs branches args s)
    (hin : ∀ b, b ∈ branches → ∀ c, c ∈ cols b.body → inFilter variables c = true)
    (hrng : ∀ b, b ∈ branches → ∀ r, r ∈ rngDeps b.body → (alookup r s.rngs).isSome = true →
      inFilter rngs r = true) :
    Agree (pySwitch attrs index branches args s) (liftSwitch variables rngs attrs index branches args s) := by
  obtain ⟨sh, hsh⟩ := htr
  have hlt : clampIdx index branches.length < branches.length := clampIdx_lt index (List.length_pos_iff.mpr hne)
  have hsel : branches[clampIdx index branches.length]? = some (branches[clampIdx index branches.length]) :=
    List.getElem?_eq_getElem hlt
  have hmem : branches[clampIdx index branches.length] ∈ branches := List.getElem_mem hlt
  have hlax := laxSwitch_of_traced index
    (branches.map (fun b => runInner attrs b args .tt (partialPack [variables] [variables] [rngs] s)
      (partialPack [variables] [variables] [rngs] s).varGroups
      (partialPack [variables] [variables] [rngs] s).rngGroups s.counters)) sh
    (by
      intro r hr
      obtain ⟨b, hb, rfl⟩ := List.mem_map.mp hr
      exact hsh b hb)
    (by simpa using hne)
  simp only [List.length_map, List.getElem?_map, hsel, Option.map_some, Option.some.injEq] at hlax
  have hkey : liftSwitch variables rngs attrs index branches args s =
      liftId [variables] [variables] [rngs] .tt attrs (branches[clampIdx index branches.length]) args s := by
    simp only [liftSwitch, liftId, pack]
    rw [hlax]
  rw [hkey]
  simp only [pySwitch, hsel]
  exact liftId_agree_single _ _ _ _ _ _ hwf hfz (hin _ hmem) (hrng _ hmem)

/-- `nn.cond(pred, t, f, mdl, …)` agrees with `t(mdl, …) if pred else f(mdl, …)`, for either
value of the predicate, on the domain where `lax.cond` runs. -/
theorem cond_eq_ite (variables rngs : LFilter) (attrs : List (String × Int)) (pred : Bool) (t f : Fn)
    (args : List Int) (s : ScopeSt) (hwf : VarsWF s.vars) (hfz : s.FrozenOk)
    (htr : BranchesTrace variables rngs attrs [t, f] args s)
    (hin : ∀ b, b ∈ [t, f] → ∀ c, c ∈ cols b.body → inFilter variables c = true)
    (hrng : ∀ b, b ∈ [t, f] → ∀ r, r ∈ rngDeps b.body → (alookup r s.rngs).isSome = true →
      inFilter rngs r = true) :
    Agree (pyCond attrs pred t f args s) (liftCond variables rngs attrs pred t f args s) := by
  rw [liftCond_eq_liftSwitch, pyCond_eq_pySwitch]
  exact switch_eq_nth variables rngs attrs _ [t, f] args s hwf hfz (List.cons_ne_nil _ _) htr hin hrng

/-- A numeric predicate is read as `pred != 0` on both sides: `nn.cond(p, t, f, …)` agrees with
`t(…) if p else f(…)` for every integer `p` — negative values take the true branch.  Reading it as `p > 0` (seeded
change C05_g) differs exactly on the negative predicates. -/
theorem cond_numeric_pred (variables rngs : LFilter) (attrs : List (String × Int)) (p : Int) (t f : Fn)
    (args : List Int) (s : ScopeSt) (hwf : VarsWF s.vars) (hfz : s.FrozenOk)
    (htr : BranchesTrace variables rngs attrs [t, f] args s)
    (hin : ∀ b, b ∈ [t, f] → ∀ c, c ∈ cols b.body → inFilter variables c = true)
    (hrng : ∀ b, b ∈ [t, f] → ∀ r, r ∈ rngDeps b.body → (alookup r s.rngs).isSome = true →
      inFilter rngs r = true) :
    Agree (if p ≠ 0 then runFn attrs t args s else runFn attrs f args s)
      (liftCond variables rngs attrs (predOfInt p) t f args s) ∧
    (predOfInt p ≠ decide (p > 0) ↔ p < 0) := by
  refine ⟨?_, ?_⟩
  · have h := cond_eq_ite variables rngs attrs (predOfInt p) t f args s hwf hfz htr hin hrng
    by_cases hp : p = 0
    · subst hp; simpa [pyCond, predOfInt] using h
    · simpa [pyCond, predOfInt, hp] using h
  · simp only [predOfInt, ne_eq, decide_not]
    by_cases h0 : p = 0
    · subst h0; simp
    · by_cases hpos : p > 0
      · simp [h0, hpos]; omega
      · simp [h0, hpos]; omega

/-- what A-COND costs: a branch that is *not* selected still has to trace.  If it raises, the lifted form raises
although the Python `if` would not have run it (documented in `lift.cond`'s docstring). -/
theorem cond_traces_both_branches (variables rngs : LFilter) (attrs : List (String × Int)) (t f : Fn)
    (args : List Int) (s : ScopeSt) (e : Err) (vt : Out × List Vars × Counters)
    (ht : runInner attrs t args .tt (partialPack [variables] [variables] [rngs] s)
      (partialPack [variables] [variables] [rngs] s).varGroups
      (partialPack [variables] [variables] [rngs] s).rngGroups s.counters = .ok vt)
    (hf : runInner attrs f args .tt (partialPack [variables] [variables] [rngs] s)
      (partialPack [variables] [variables] [rngs] s).varGroups
      (partialPack [variables] [variables] [rngs] s).rngGroups s.counters = .error e) :
    liftCond variables rngs attrs true t f args s = .error e := by
  simp [liftCond, pack, laxCond, ht, hf]

/-- the domain on which `lax.while_loop` can run (A-WHILE): condition and body trace once on the initial loop state
without error, and the body returns a loop state of the same tree structure -/
def LoopTraces (carryF bcF : LFilter) (attrs : List (String × Int)) (condFn bodyFn : Fn) (init : List Int)
    (s : ScopeSt) : Prop :=
  (∃ b, whileCondInner attrs condFn (partialPack [carryF, bcF] [carryF] [] s) (wBroadcast s carryF bcF) s.counters
      (wCarry0 s carryF, init) = .ok b) ∧
  (∃ c1, whileBodyInner attrs bodyFn (partialPack [carryF, bcF] [carryF] [] s) (wBroadcast s carryF bcF) s.counters
      (wCarry0 s carryF, init) = .ok c1 ∧ loopShape c1 = loopShape (wCarry0 s carryF, init))

/-- For every fuel (trip-count bound), initial carry, condition and body: on the domain where
`lax.while_loop` runs (`LoopTraces`), with the condition read-only, the body writing only carried collections, every
carried collection of the scope mutable, and no rng draws, `nn.while_loop(cond_fn, body_fn, mdl, init,
carry_variables, broadcast_variables)` and the Python loop `while cond_fn(mdl, c): c = body_fn(mdl, c)` agree on
the final carry, on every variable of every collection, on the rng counters, and on failure (including running out
of fuel). -/
theorem while_eq_iterate (carryF bcF : LFilter) (attrs : List (String × Int)) (condFn bodyFn : Fn) (fuel : Nat)
    (init : List Int) (s : ScopeSt) (hwf : VarsWF s.vars) (hfz : s.FrozenOk)
    (hcarry : ∀ c, c ∈ keys s.vars → inFilter carryF c = true → inFilter s.mutable c = true)
    (hcD : ∀ c, c ∈ cols condFn.body → (inFilter carryF c || inFilter bcF c) = true)
    (hcW : wcols condFn.body = []) (hcR : rngNames condFn.body = [])
    (hbD : ∀ c, c ∈ cols bodyFn.body → (inFilter carryF c || inFilter bcF c) = true)
    (hbW : ∀ c, c ∈ wcols bodyFn.body → inFilter s.mutable c = true → inFilter carryF c = true)
    (hbR : rngNames bodyFn.body = [])
    (htr : LoopTraces carryF bcF attrs condFn bodyFn init s) :
    match pyWhile attrs condFn bodyFn fuel init s, liftWhile carryF bcF attrs condFn bodyFn fuel init s with
    | .ok (c1, s1), .ok (c2, s2) => c1 = c2 ∧ SameVars s1.vars s2.vars ∧ s1.counters = s2.counters
    | .error e, .error e' => e = e'
    | _, _ => False := by
  obtain ⟨⟨b, hb⟩, ⟨c1, hc1, hsh⟩⟩ := htr
  have hgroups : (partialPack [carryF, bcF] [carryF] [] s).varGroups = [wCarry0 s carryF, wBroadcast s carryF bcF] :=
    groupBy_two s.vars carryF bcF
  simp only [liftWhile, pack, hgroups, laxWhile, hb, hc1, hsh, ↓reduceIte]
  refine (iterate_sim (bcF := bcF) attrs condFn bodyFn hwf hfz hcarry hcD hcW hcR hbD hbW hbR fuel
    (wCarry0 s carryF) s init (winv_init hwf hcarry)).elim ?_ (fun _ _ _ => rfl)
  rintro ⟨c1', s1⟩ ⟨cv1, c2⟩ _ _ ⟨hcc, hinv⟩
  dsimp only
  simp only [publish, publishAll_eq _ _ (show ({ s with counters := s.counters } : ScopeSt).FrozenOk from hfz),
    List.flatten_cons, List.flatten_nil, List.append_nil]
  exact ⟨hcc, hinv.published, hinv.ctr⟩

/-- `_hashable_filter` does not change which collections a filter selects -/
theorem hashable_filter_sem (f : LFilter) (c : String) : inFilter (hashableFilter f) c = inFilter f c :=
  inFilter_hashableFilter f c

/-- Two calls with equal fingerprints denote the same traced function: for all
dynamic inputs (variable values, rng keys, arguments) the function traced under one environment returns what
tracing under the other would return.  The parts of the module that are not fingerprinted (`name`, parent path)
cannot influence it. -/
theorem jit_fingerprint_sound (variables rngs : LFilter) (f : Fn) (e e' : JitEnv)
    (h : fingerprint variables e = fingerprint variables e') (i : JitIn) :
    traceJit variables rngs f e i = traceJit variables rngs f e' i :=
  traceJit_congr variables rngs f h i

/-- a changed module attribute, a changed mutability of any collection, or changed rng counters
change the fingerprint (so the call is retraced) -/
theorem fingerprint_detects_change (variables : LFilter) (e e' : JitEnv) :
    (e.attrs ≠ e'.attrs → fingerprint variables e ≠ fingerprint variables e') ∧
    ((∃ c, inFilter e.mutable c ≠ inFilter e'.mutable c) → fingerprint variables e ≠ fingerprint variables e') ∧
    (e.counters ≠ e'.counters → fingerprint variables e ≠ fingerprint variables e') ∧
    (e.state ≠ e'.state → fingerprint variables e ≠ fingerprint variables e') ∧
    (e.cls ≠ e'.cls → fingerprint variables e ≠ fingerprint variables e') := by
  refine ⟨?_, ?_, ?_, ?_, ?_⟩
  · intro h1 h2; exact h1 (congrArg Fingerprint.attrs h2)
  · rintro ⟨c, hc⟩ h2
    have : e.mutable = e'.mutable := congrArg Fingerprint.scopeMutable h2
    rw [this] at hc; exact hc rfl
  · intro h1 h2; exact h1 (congrArg Fingerprint.counters h2)
  · intro h1 h2; exact h1 (congrArg Fingerprint.state h2)
  · intro h1 h2; exact h1 (congrArg Fingerprint.cls h2)

/-- the first component of the fingerprint alone (the tuple of hashable inner `mutable` filters) already
determines which collections are writable inside the trace -/
theorem fingerprint_inner_mutable (variables : LFilter) (e e' : JitEnv)
    (h : (fingerprint variables e).innerMutable = (fingerprint variables e').innerMutable) (c : String) :
    inFilter (jitInnerMutable variables e.mutable) c = inFilter (jitInnerMutable variables e'.mutable) c := by
  have := congrArg (fun f => inFilter f c) h
  simpa [fingerprint, hashable_filter_sem] using this

/-- finding F35 (fixed in /repo cfc8239): compared by hash only, the attribute values `-1` and `-2` are the same key
(`hash(-1) == hash(-2)` in CPython) although the fingerprints differ and the jitted body computes different values —
the second call reused the first call's trace. -/
theorem hash_only_compare_counterexample :
    attrsHashOrig [("k", -1)] = attrsHashOrig [("k", -2)] ∧
    fingerprint .tt ⟨"M", [("k", -1)], default, .ff, [], [], [], none, []⟩ ≠
      fingerprint .tt ⟨"M", [("k", -2)], default, .ff, [], [], [], none, []⟩ ∧
    evalExpr ⟨[5], [("k", -1)]⟩ [] (.mul (.attr "k") (.arg 0)) ≠ evalExpr ⟨[5], [("k", -2)]⟩ [] (.mul (.attr "k") (.arg 0)) :=
  ⟨by decide, (fingerprint_detects_change .tt _ _).1 (by decide), by decide⟩

/-- Over *any* call history of one jitted method — attributes, mutability, counters, state
flags, variable structure and values, arguments all free to change between calls — call `k` returns exactly what
an uncached execution of call `k` returns. -/
theorem no_stale_trace (variables rngs : LFilter) (f : Fn) (h : List (JitEnv × JitIn)) :
    (jitHistory variables rngs f [] h).1 = h.map (fun ei => traceJit variables rngs f ei.1 ei.2) :=
  jitHistory_sound variables rngs f h [] (cacheOk_nil variables rngs f)

/-- the uncached jitted call is the plain call (A-JIT + `pack_transparent`) -/
theorem jit_uncached_transparent (variables rngs : LFilter) (f : Fn) (e : JitEnv) (i : JitIn)
    (hwf : VarsWF i.vars)
    (hin : ∀ c, c ∈ cols f.body → inFilter variables c = true)
    (hrng : ∀ r, r ∈ rngDeps f.body → (alookup r i.rngs).isSome = true → inFilter rngs r = true) :
    Agree (runFn e.attrs f i.args (jitScope e i)) (traceJit variables rngs f e i) :=
  liftId_agree_single variables rngs e.attrs f i.args (jitScope e i) hwf (by intro c hc; simp [jitScope] at hc) hin hrng

/-- `nn.jit` first draws one key per stream from the module's own scope (`fork_rngs`): stream
`nm` with rng `r` and counter `k` is replaced by the key `fold(r.key, r.suffix ++ [k+1])` — the key the module would
have drawn at this call site — and its counter becomes `k+1`.  A draw inside the jitted method then yields
`fold(fold(r.key, r.suffix ++ [k+1]), [k+2])`: a function of the call site's own draw alone (stream, path suffix,
counter), hence reproducible, and — `SymKey` being free (A-RNG) — different from every key of another call site. -/
theorem jit_rng_callsite (s : ScopeSt) (hnd : (keys s.rngs).Nodup)
    (hctr : ∀ nm, nm ∈ keys s.rngs → ∃ k, alookup nm s.counters = some k)
    (nm : String) (r : LazyRng) (k : Nat) (hr : alookup nm s.rngs = some r) (hk : alookup nm s.counters = some k) :
    ∃ s1, forkRngs s = .ok s1 ∧ s1.vars = s.vars ∧ s1.mutable = s.mutable ∧
      alookup nm s1.rngs = some (forkedRng r k) ∧ alookup nm s1.counters = some (k + 1) ∧
      ∃ s2, s1.makeRng nm =
        .ok (foldStatic (foldStatic r.key (r.suffix ++ [Datum.n (k + 1)])) [Datum.n (k + 2)], s2) := by
  have hmem : nm ∈ keys s.rngs := alookup_isSome_iff.mp (by rw [hr]; rfl)
  obtain ⟨s1, h1, h2, h3, h5, h6⟩ := forkGo_spec (keys s.rngs) s [] hnd (by
    intro x hx
    obtain ⟨k', hk'⟩ := hctr x hx
    obtain ⟨r', hr'⟩ := Option.isSome_iff_exists.mp (alookup_isSome_iff.mpr hx)
    exact ⟨r', k', hr', hk'⟩)
  have hr1 : alookup nm s1.rngs = some (forkedRng r k) := by
    rw [h6 nm]; simp [alookup, hmem, hr, hk]
  have hk1 : alookup nm s1.counters = some (k + 1) := by
    rw [h5 nm]; simp [hmem, hk]
  refine ⟨s1, h1, h2, h3, hr1, hk1, { s1 with counters := ainsert nm (k + 1 + 1) s1.counters }, ?_⟩
  rw [makeRng_present s1 nm _ _ hr1 hk1]
  simp [forkedRng]

/-- finding F11 (fixed in /repo 493d5c1): with the counter-delta cache keyed by the fingerprint alone and shared by
all jitted functions (`keyByFn = false`, the code as shipped), a second jitted function reached with an equal
fingerprint gets the *first* function's delta replayed over the counters its own trace had just advanced; with one
cache per transformed function (`keyByFn = true`, the repaired code) its counters stay where its trace left them. -/
theorem delta_cache_shared_counterexample :
    let fp0 : Fingerprint := ⟨.tt, "M", [], default, .tt, [], [("dropout", 1)], []⟩
    let old : Counters := [("dropout", 1)]
    -- function 1 draws one key while tracing, function 2 draws three
    (restoreCounters false 2 fp0 (restoreCounters false 1 fp0 [] old [("dropout", 2)]).2 old [("dropout", 4)]).1
      = [("dropout", 2)] ∧
    (restoreCounters true 2 fp0 (restoreCounters true 1 fp0 [] old [("dropout", 2)]).2 old [("dropout", 4)]).1
      = [("dropout", 4)] := by
  decide +kernel

/-- on a later call of the *same* function with the same fingerprint and the same counters before the call (a jit
cache hit: the python body does not run), the recorded delta puts the counters where the trace had put them -/
theorem counter_delta_restore_partial (keyByFn : Bool) (fid : Nat) (fp : Fingerprint) (old now : Counters)
    (nm : String) (k k' : Nat) (hold : old = [(nm, k)]) (hnow : now = [(nm, k')]) (hle : k ≤ k') :
    (restoreCounters keyByFn fid fp (restoreCounters keyByFn fid fp [] old now).2 old old).1 = now := by
  subst hold; subst hnow
  simp [restoreCounters, DeltaCache.find, countsSub, countsRestore, alookup, ainsert]
  omega

/-- The rng counters are a nested dict whose child dicts are shared *by reference* with
the already-bound child scopes.  Let `now` be the counts an actual execution of the jitted body leaves when started
from counts `h.read`, and `now - h.read` the delta recorded when the body was traced.  On a cache hit
`_restore_rng_counters` (flatten, `add` the delta to the counts captured before the call, `unflat`,
`set_from_dict`) leaves:
* the scope's own counts exactly at `now`;
* every child token that was bound before the call **at the same dict object** (same address), and that object's
  counts exactly at `now`'s — so a child scope bound outside the jitted code reads, through its own reference,
  what the execution would have left;
* child dicts first created inside the jitted code stored with `now`'s counts.
For every heap, every `now`, every number of streams and children. -/
theorem counter_delta_restore (h : CHeap) (hw : h.WF) (now : CVal) (hx : Extends h now) :
    (∀ s, alookup s (restoreHeap h (now.sub h.read)).root = alookup s now.root) ∧
    (∀ k a, alookup k h.kids = some a →
      alookup k (restoreHeap h (now.sub h.read)).kids = some a ∧
      ∀ s, alookup s ((restoreHeap h (now.sub h.read)).obj a) = alookup s (kidGet now k)) ∧
    (∀ k c, alookup k h.kids = none → alookup k now.kids = some c →
      ∃ a, alookup k (restoreHeap h (now.sub h.read)).kids = some a ∧ (restoreHeap h (now.sub h.read)).obj a = c) :=
  restoreHeap_read h hw now hx

/-- the aliasing requirement is real (seeded change `set_from_dict := original.update(updates)`): with the
non-recursive update every *value* of the counter dict is right — reading the dict from the scope gives `now` — but
the child token now points to a fresh object, and the dict object an already-bound child scope holds (address 0) still
has the stale count, so that child's next draw repeats a key. -/
theorem dict_update_breaks_child_reference :
    let h : CHeap := ⟨[("dropout", 1)], [("child", 0)], [[("dropout", 1)]]⟩
    let now : CVal := ⟨[("dropout", 2)], [("child", [("dropout", 3)])]⟩
    (restoreHeapUpdate h (now.sub h.read)).read = now ∧
    (restoreHeapUpdate h (now.sub h.read)).obj 0 = [("dropout", 1)] ∧
    (restoreHeap h (now.sub h.read)).obj 0 = [("dropout", 3)] ∧
    alookup "child" (restoreHeap h (now.sub h.read)).kids = some 0 := by
  decide +kernel

example : (⟨[("dropout", 1)], [("child", 0)], [[("dropout", 1)]]⟩ : CHeap).WF :=
  ⟨by decide, by decide, by intro ka hka; simp at hka; subst hka; decide⟩

example : Extends ⟨[("dropout", 1)], [("child", 0)], [[("dropout", 1)]]⟩
    ⟨[("dropout", 2)], [("child", [("dropout", 3)]), ("fresh", [("dropout", 1)])]⟩ :=
  Extends.of_check _ _ (by decide +kernel) (by decide +kernel) (by decide +kernel) (by decide +kernel)
    (by decide +kernel)

section modscopes
open Flax.ModScopes

/-- For every module tree — any declaration order of the dataclass fields, any nesting of
dicts / lists / tuples, unbound modules, Variables, sub-modules shared between several attributes (memoized by id), any
depth — and every replacement `ρ` of outer scopes by inner scopes: handing `set_module_scopes` the scopes that
`get_module_scopes` collected (each replaced by its inner scope) gives every bound sub-module and every Variable the
inner scope **of its own** scope, in the same order, and `assert len(scopes) == idx` holds.  (`ord` = the order in
which both functions visit a module's fields: sorted names in the code, because `attrs` is a dict.) -/
theorem set_get_module_scopes_id (ord : List (String × Node) → List (String × Node)) (m : Node) (ρ : Nat → Nat) :
    setAssign ord m ((getOwners ord m).map (fun o => ρ o.scope)) =
      ((getOwners ord m).map (fun o => (o, some (ρ o.scope))), true) :=
  setAssign_getOwners ord m ρ

/-- flattening a dict visits its entries in sorted key order, whatever the insertion (declaration) order, and loses
or duplicates none -/
theorem dict_flatten_order (l : List (String × Node)) :
    (sortKeys l).Pairwise (fun a b => a.1 ≤ b.1) ∧ (sortKeys l).Perm l :=
  ⟨sortKeys_sorted l, sortKeys_perm l⟩

private theorem aux_leaf_fold (f : Nat) : ∀ (ids : List (Nat × Nat)) (g : GSt), (ids.map (·.1)).Nodup →
    (∀ p, p ∈ ids → p.1 ∉ g.seen) →
    ((ids.map (fun p => Node.mod p.1 (some p.2) [])).foldl (fun st x => getNode sortKeys (f + 1) x st) g).out =
      g.out ++ ids.map (fun p => Owner.m p.1 p.2) := by
  intro ids
  induction ids with
  | nil => intro g _ _; simp
  | cons p ps ih =>
    intro g hn hs
    simp only [List.map_cons, List.nodup_cons] at hn
    have hstep : getNode sortKeys (f + 1) (Node.mod p.1 (some p.2) []) g =
        { seen := p.1 :: g.seen, out := g.out ++ [Owner.m p.1 p.2] } := by
      simp [getNode, hs p List.mem_cons_self, sortKeys]
    rw [List.map_cons, List.foldl_cons, hstep, ih _ hn.2]
    · simp
    · intro q hq
      simp only [List.mem_cons, not_or]
      exact ⟨fun e => hn.1 (List.mem_map.mpr ⟨q, hq, e⟩), hs q (List.mem_cons_of_mem _ hq)⟩

/-- For a module whose attributes are (distinct) bound sub-modules: the scopes are
collected in the order of the **sorted attribute names** — not the declaration order — each sub-module before its
parent, the module's own scope last. -/
theorem get_module_scopes_order_spec (id sc : Nat) (fields : List (String × Node)) (ids : List (Nat × Nat))
    (hf : (sortKeys fields).map (·.2) = ids.map (fun p => Node.mod p.1 (some p.2) []))
    (hn : (ids.map (·.1)).Nodup) :
    getScopes sortKeys (Node.mod id (some sc) fields) = ids.map (·.2) ++ [sc] := by
  have hfold := aux_leaf_fold (Node.depth.depthFields fields) ids ⟨[], []⟩ hn (by intro p _; simp)
  rw [← hf] at hfold
  simp only [getScopes, getOwners, Node.depth, Nat.add_comm 1, getNode, List.not_mem_nil, ↓reduceIte, hfold]
  simp [Owner.scope, Function.comp_def]

/-- seeded changes C05_e / C07_f: if `get_module_scopes` visits the fields in declaration order while
`set_module_scopes` consumes in sorted order, a module declaring `scale` before `bias` binds each sub-module to its
sibling's scope (the count assert still passes) -/
theorem decl_order_variant_swaps_siblings :
    let m := Node.mod 0 (some 100) [("scale", Node.mod 1 (some 10) []), ("bias", Node.mod 2 (some 20) [])]
    getScopes id m = [10, 20, 100] ∧ getScopes sortKeys m = [20, 10, 100] ∧
    setAssign sortKeys m (getScopes id m) =
      ([(Owner.m 2 20, some 10), (Owner.m 1 10, some 20), (Owner.m 0 100, some 100)], true) := by
  decide +kernel

/-- `_dedup_scopes` reduces a scope list (duplicates, a scope together with its descendants, any
order) to roots and `(root, path)` entries, one entry per listed scope in order, and `_dup_scopes` pushes the path
names back onto the root: with the roots mapped to themselves the original list comes back, and with the roots
replaced by inner root scopes `ρ` every listed scope becomes the descendant of `ρ root` with the same relative path. -/
theorem dup_dedup_id (scopes : List ModScopes.Path) (ρ : ModScopes.Path → ModScopes.Path) :
    dupScopes id (dedupScopes scopes).2 = scopes ∧
    dupScopes ρ (dedupScopes scopes).2 = (dedupScopes scopes).2.map (fun rp => ρ rp.1 ++ rp.2) ∧
    (dedupScopes scopes).2.length = scopes.length := by
  have h := dedupLoop_recon scopes scopes.eraseDups []
  refine ⟨?_, rfl, ?_⟩
  · simpa [dupScopes, dedupScopes] using h
  · have := congrArg List.length h
    simpa [dedupScopes] using this

-- a scope listed twice and a parent listed together with its child and grandchild: one root, paths kept
example : dedupScopes [["a", "b"], ["a"], ["a", "b"], ["a", "b", "c"], ["z"]] =
    ([["a"], ["z"]], [(["a"], ["b"]), (["a"], []), (["a"], ["b"]), (["a"], ["b", "c"]), (["z"], [])]) := by decide +kernel

-- a shared sub-module (same id under two attributes) is collected once; nested containers are traversed in
-- flattening order
example : getScopes sortKeys (Node.mod 0 (some 9) [("z", Node.mod 1 (some 5) []),
    ("a", Node.dict [("y", Node.mod 1 (some 5) []), ("x", Node.seq [Node.mod 2 (some 7) [], Node.var (some 3)])])]) =
    [7, 3, 5, 9] := by decide +kernel

end modscopes

def exScope : ScopeSt :=
  { vars := [("params", [("w", 3)]), ("stats", [("n", 5)]), ("cache", [("k", 1)])]
    mutable := .names ["stats", "cache"], frozen := []
    rngs := [("dropout", ⟨.seed "dropout", [.s "sub"]⟩)], counters := [("dropout", 0)] }

/-- `n += w * x; draw dropout; return old n * x` -/
def exFn : Fn :=
  { body := .seq (.get "stats" "n") (.seq (.get "params" "w")
      (.seq (.put "stats" "n" (.add (.reg 0) (.mul (.reg 1) (.arg 0)))) (.rng "dropout")))
    ret := [.mul (.reg 0) (.arg 0)] }

example : VarsWF exScope.vars := by decide +kernel

example : exScope.FrozenOk := by intro c hc; simp [exScope] at hc

-- every hypothesis of `pack_transparent` holds for this scope and body with filters that lift exactly what the
-- body touches; the plain run succeeds with a non-trivial result, hence so does the lifted one, identically
example : Agree (runFn [] exFn [7] exScope)
    (liftId [.name "stats", .names ["params"]] [.names ["stats", "zzz"]] [.name "dropout"] .tt [] exFn [7] exScope) :=
  pack_transparent [.name "stats", .names ["params"]] [.names ["stats", "zzz"]] [.name "dropout"] .tt [] exFn [7] exScope
    (by decide +kernel) (by intro c hc; simp [exScope] at hc)
    (by decide +kernel) (by decide +kernel) (by decide +kernel)

example : (runFn [] exFn [7] exScope).toOption.map (fun r => (r.1.vals, getVar r.2.vars "stats" "n", r.1.keys)) =
    some ([35], some 26, [.fold (.seed "dropout") [.s "sub", .n 1]]) := by decide +kernel

-- a write to the immutable collection fails outside; `nonlifted_write_raises` gives the same error inside
example : runFn [] ⟨.put "params" "w" (.lit 0), []⟩ [] exScope = .error .modifyImmutable := by decide +kernel

example : (inFilter exScope.mutable "params" && anyMatch [LFilter.tt] "params" && inFilter .tt "params") = false := by
  decide +kernel

-- BranchesTrace is satisfiable: two branches updating the same variable trace with the same structure
example : BranchesTrace .tt .tt [] [⟨.put "stats" "n" (.lit 1), [.lit 0]⟩, ⟨.put "stats" "n" (.lit 2), [.lit 1]⟩] [] exScope :=
  aux_branchesTrace_of_run _ _ _ _ _ _ (1, [[("stats", ["n"]), ("cache", ["k"])]]) (by decide +kernel)

-- LoopTraces and the other hypotheses of `while_eq_iterate` hold for a counting loop over the carried collection
example : LoopTraces (.name "stats") .tt [] ⟨.get "stats" "n", [.add (.lit 7) (.mul (.lit (-1)) (.reg 0))]⟩
    ⟨.seq (.get "stats" "n") (.put "stats" "n" (.add (.reg 0) (.lit 1))), [.add (.arg 0) (.reg 0)]⟩ [0] exScope := by
  refine ⟨⟨true, ?_⟩, ⟨([("stats", [("n", 6)])], [5]), ?_, ?_⟩⟩ <;> decide +kernel

example : ∀ c, c ∈ keys exScope.vars → inFilter (LFilter.name "stats") c = true → inFilter exScope.mutable c = true := by
  decide +kernel

example : fingerprint .tt ⟨"M", [("k", 2)], default, .ff, [], [], [], none, []⟩ ≠
    fingerprint .tt ⟨"M", [("k", 3)], default, .ff, [], [], [], none, []⟩ :=
  (fingerprint_detects_change .tt _ _).1 (by decide)

end Flax.C05
