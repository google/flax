/-
C15 — FrozenDict and struct dataclasses are immutable values and faithful pytrees.

Property theorems over `Model/Frozen.lean` (heap model of flax/core/frozen_dict.py), `Model/FrozenList.lean`
(`unfreeze` over lists and tuples) and `Model/Struct.lean` (flax/struct.py).
-/
import Flax.Proofs.FrozenHash
import Flax.Proofs.FrozenContent
import Flax.Proofs.Struct
import Flax.Proofs.FrozenList

namespace Flax.C15
open Flax.Frozen

private theorem Ext.append (h : Heap) (e : List Obj) : Ext h (h ++ e) := ⟨e, rfl⟩

/-- **No API call mutates anything**: every operation other than the user's own dict writes leaves
every existing heap object exactly as it was (the new heap is the old one plus fresh objects) and
only adds to the values the user holds.  Unconditional: no invariant is needed. -/
theorem api_only_allocates (w w' : World) (op : Op) (hop : op.isUserWrite = false)
    (hs : step w op = .ok w') : Ext w.heap w'.heap ∧ ∃ new, w'.roots = w.roots ++ new := by
  obtain ⟨e, new, hr, _⟩ := step_api hop hs
  exact ⟨ext_iff_prefix.mpr e, new, hr⟩

private theorem get_len_append {h : Heap} (o : Obj) (rest : List Obj) : (h ++ o :: rest)[h.length]? = some o := by
  simp

/-- **The separation invariant is preserved by every operation**: every API call and every mutation
the user can perform on a dict they hold. -/
theorem step_preserves_sep (w w' : World) (op : Op) (hs : Sep w) (h : step w op = .ok w') : Sep w' := by
  by_cases hop : op.isUserWrite = true
  · exact sep_write hs hop h
  · obtain ⟨e, new, hr, hn⟩ := step_api (Bool.not_eq_true _ ▸ hop) h
    obtain ⟨hi, hnew⟩ := hn hs
    refine ⟨hi, fun v hv => ?_⟩
    rw [hr] at hv
    exact (List.mem_append.mp hv).elim (fun h1 => UserVal.mono e (hs.roots v h1)) (hnew v)

theorem sep_init : Sep World.init :=
  ⟨heapInv_iff.mpr fun a o hg => by simp [World.init] at hg, by intro v hv; simp [World.init] at hv⟩

theorem sep_run (ops : List Op) : ∀ w, Sep w → Sep (run w ops) := by
  induction ops with
  | nil => intro w hs; exact hs
  | cons op ops ih =>
    intro w hs
    simp only [run]
    split
    · rename_i w' hw; exact ih w' (step_preserves_sep w w' op hs hw)
    · exact ih w hs

/-- **A FrozenDict never changes.**  Take any world satisfying the invariant (in particular any world
reached from the empty one, `sep_run`), any FrozenDict `f` in it, and *any* further history of API calls
interleaved with user mutations of source dicts and of returned values: `f` is still the same object
and denotes the same abstract value (for every fuel, so also "undefined" is preserved). -/
theorem frozen_never_changes (ops : List Op) : ∀ (w : World), Sep w → ∀ (f i : Addr),
    w.heap[f]? = some (Obj.frozen i) →
    (run w ops).heap[f]? = some (Obj.frozen i) ∧
    ∀ fz n, absVal fz n (run w ops).heap (.ref f) = absVal fz n w.heap (.ref f) := by
  induction ops with
  | nil => intro w _ f i hf; exact ⟨hf, fun _ _ => rfl⟩
  | cons op ops ih =>
    intro w hs f i hf
    simp only [run]
    split
    · rename_i w' hw
      obtain ⟨hf', hv⟩ := step_keeps_frozen hs hw hf
      obtain ⟨h1, h2⟩ := ih w' (step_preserves_sep w w' op hs hw) f i hf'
      exact ⟨h1, fun fz n => (h2 fz n).trans (hv fz n)⟩
    · exact ih w hs f i hf

/-- `frozen_never_changes` from the empty world: whatever was done before (`pre`) and is done after (`post`) -/
theorem frozen_never_changes_any_history (pre post : List Op) (f i : Addr)
    (hf : (run World.init pre).heap[f]? = some (Obj.frozen i)) (fz : Bool) (n : Nat) :
    absVal fz n (run (run World.init pre) post).heap (.ref f) = absVal fz n (run World.init pre).heap (.ref f) :=
  (frozen_never_changes post _ (sep_run pre _ sep_init) f i hf).2 fz n

/-- writes through a FrozenDict handle raise, whatever the world -/
theorem frozen_write_raises (w : World) (d : Nat) (k : Key) (src : Nat) (f i : Addr) (v : Val)
    (hd : w.roots[d]? = some (.ref f)) (hf : w.heap[f]? = some (Obj.frozen i))
    (hsrc : w.roots[src]? = some v) :
    step w (.setKey d k src) = .error .immutable ∧ step w (.delKey d k) = .error .immutable := by
  dsimp only [step]
  simp only [hd, hf, hsrc, and_self]

/-- `c` is reachable from `a` through values of dict objects -/
inductive Reach (h : Heap) : Addr → Addr → Prop where
  | refl (a : Addr) : Reach h a a
  | step {a b c : Addr} {o : Bool} {kvs : List (Key × Val)} {k : Key} :
      h[a]? = some (Obj.dict o kvs) → (k, Val.ref b) ∈ kvs → Reach h b c → Reach h a c

private theorem reach_cls {h : Heap} (hi : HeapInv h) {o : Bool} {a c : Addr} (hr : Reach h a c) :
    Cls o h (.ref a) → Cls o h (.ref c) := by
  induction hr with
  | refl a => exact id
  | step hg hm _ ih =>
    intro ha
    -- the object at `a` is a dict, so it is one of kind `o`
    cases o <;> rcases ha with ⟨_, h1⟩ | ⟨_, h1⟩ <;> cases hg.symm.trans h1
    all_goals exact ih (hi.entries hg _ hm)

/-- **Separation**: no *dict* (the only mutable kind of object) reachable from the `_dict` of any
FrozenDict `f` (that dict itself included) is reachable from any value the user holds — the sources a
FrozenDict was built from, and everything any API call ever returned, are all among the held values.
(A FrozenDict object is terminal for `Reach`: nobody can walk into it, `__getitem__`/iteration hand
out copies; FrozenDict objects themselves may be shared — `tree_unflatten` keeps a FrozenDict child as
it is — which is harmless because they never change.) -/
theorem frozen_separation (w : World) (hs : Sep w) (f i r c : Addr) (o : Bool) (kvs : List (Key × Val))
    (hf : w.heap[f]? = some (Obj.frozen i)) (hr : Val.ref r ∈ w.roots)
    (hc : w.heap[c]? = some (Obj.dict o kvs))
    (h1 : Reach w.heap i c) (h2 : Reach w.heap r c) : False := by
  have e1 := reach_cls hs.heap (o := true) h1 (Or.inl (hs.heap.frozen_inner f i hf))
  have e2 := reach_cls hs.heap (o := false) h2 (hs.roots _ hr)
  rcases e1 with ⟨k1, e1⟩ | ⟨j, e1⟩
  · rw [hc] at e1; cases e1
    rcases e2 with ⟨k2, e2⟩ | ⟨j, e2⟩ <;> (rw [hc] at e2; cases e2)
  · rw [hc] at e1; cases e1

theorem frozen_separation_any_history (ops : List Op) (f i r c : Addr) (o : Bool) (kvs : List (Key × Val))
    (hf : (run World.init ops).heap[f]? = some (Obj.frozen i)) (hr : Val.ref r ∈ (run World.init ops).roots)
    (hc : (run World.init ops).heap[c]? = some (Obj.dict o kvs))
    (h1 : Reach (run World.init ops).heap i c) (h2 : Reach (run World.init ops).heap r c) : False :=
  frozen_separation _ (sep_run ops _ sep_init) f i r c o kvs hf hr hc h1 h2

/-- `src = {'b': inner}`, `inner = {'z': 5}`, `fd = freeze(src)` -/
private def demoPre : List Op :=
  [.newDict, .newLeaf (.atom 5), .newDict, .setKey 2 "z" 1, .setKey 0 "b" 2, .freeze 0]

/-- mutate the nested source dict, index the FrozenDict, delete from the source, unfreeze, mutate the result -/
private def demoPost : List Op :=
  [.setKey 2 "q" 1, .getitem 3 "b", .delKey 0 "b", .unfreeze 3, .setKey 5 "z" 0, .setKey 3 "z" 1]

example : (run World.init demoPre).heap[4]? = some (Obj.frozen 3) := by decide
example : (run World.init demoPre).roots[3]? = some (Val.ref 4) := by decide
/-- the hypotheses of `frozen_never_changes_any_history` hold for it, and the value is a real one -/
example : (match absVal false 10 (run (run World.init demoPre) demoPost).heap (.ref 4) with
    | some (.node true [("b", .node true [("z", .leaf (.atom 5))])]) => true
    | _ => false) = true := by decide
/-- in `demoPost` the source did change -/
example : (match absVal false 10 (run (run World.init demoPre) demoPost).heap (.ref 0) with
    | some (.node false []) => true
    | _ => false) = true := by decide
/-- `frozen_write_raises` applies to the last operation of `demoPost` -/
example : (match step (run World.init demoPre) (.setKey 3 "z" 1) with
    | .error .immutable => true
    | _ => false) = true := by decide
/-- `frozen_separation` is not vacuous: the FrozenDict's `_dict` reaches a nested dict, the user's
source reaches a nested dict, and they are different objects -/
example : Reach (run World.init demoPre).heap 3 2 ∧ Reach (run World.init demoPre).heap 0 1 :=
  ⟨.step (k := "b") (o := true) (kvs := [("b", .ref 2)]) (by decide) (by decide) (.refl 2),
   .step (k := "b") (o := false) (kvs := [("b", .ref 1)]) (by decide) (by decide) (.refl 1)⟩

/-- **Fuel sufficiency**: a walk with fuel `n` over a value of depth `n` never fails (no `recursion`,
no `dangling`), in every mode. -/
theorem deep_total : ∀ (n : Nat) (m : Mode) (own : Bool) (h : Heap) (v : Val),
    Depth h v n → ∃ r, deep m own n h v = .ok r :=
  fun _ _ _ _ _ d => d.deep_ok

theorem frozen_depth (w : World) (hs : Sep w) (f i : Addr) (hf : w.heap[f]? = some (Obj.frozen i)) :
    Depth w.heap (.ref f) (fuelOf w.heap) :=
  depth_frozen hs.heap hf

/-- **Every FrozenDict denotes a value**: with the fuel the driver uses (`fuelOf`), `absVal` of a
FrozenDict is defined in every world satisfying the invariant — so `frozen_never_changes` compares
real values, never `none = none`. -/
theorem frozen_value_defined (w : World) (hs : Sep w) (f i : Addr) (hf : w.heap[f]? = some (Obj.frozen i))
    (fz : Bool) : ∃ ts, absVal fz (fuelOf w.heap) w.heap (.ref f) = some (.node true ts) :=
  frozen_defined hs.heap hf fz

/-- on any acyclic value (depth within the fuel), the user's own structures included, `unfreeze` and `tree_map`
succeed -/
theorem acyclic_api_total (w : World) (x : Nat) (v : Val) (hx : w.roots[x]? = some v)
    (d : Depth w.heap v (fuelOf w.heap)) :
    (∃ w', step w (.unfreeze x) = .ok w') ∧ (∃ w', step w (.treeMap x) = .ok w') :=
  step_walk_total hx d

/-- what `__getitem__` and iteration hand out -/
private def FrozenVal (h : Heap) : Val → Prop
  | .leaf _ => True
  | .ref a => isFrozen h a

private theorem FrozenVal.user {h : Heap} {v : Val} (hv : FrozenVal h v) : UserVal h v := by
  cases v with
  | leaf l => trivial
  | ref a => exact Or.inr hv

/-- **No API call on a FrozenDict runs out of fuel** (or meets a dangling reference): with the fuel
`step` uses, under the invariant, `unfreeze`, `tree_map`, `freeze`, `copy()`, iteration and pickling
of a held FrozenDict succeed, and indexing / `pop` succeed or raise KeyError. -/
theorem frozen_api_total (w : World) (hs : Sep w) (x : Nat) (f i : Addr)
    (hx : w.roots[x]? = some (.ref f)) (hf : w.heap[f]? = some (Obj.frozen i)) :
    (∃ w', step w (.unfreeze x) = .ok w') ∧ (∃ w', step w (.treeMap x) = .ok w') ∧
    (∃ w', step w (.items x) = .ok w') ∧ (∃ w', step w (.freeze x) = .ok w') ∧
    (∃ w', step w (.copy x none) = .ok w') ∧ (∃ w', step w (.pickle x) = .ok w') ∧
    (∀ key, (∃ w', step w (.getitem x key) = .ok w') ∨ step w (.getitem x key) = .error .keyError) ∧
    (∀ key, (∃ w', step w (.pop x key) = .ok w') ∨ step w (.pop x key) = .error .keyError) :=
  step_frozen_total hs.heap hx hf

/-- **Every abstract value read off a heap satisfying the invariant has distinct keys at every
level** — so `eq_order_independent`, `flatten_order_independent` and `mapEq_same_content` apply to
all values the model can produce without any side condition (`heap_values_order_independent`). -/
theorem abs_wfTree (h : Heap) (hi : HeapInv h) : ∀ (k : Nat) (fz : Bool) (v : Val) (t : Tree),
    absVal fz k h v = some t → wfTree t = true := by
  intro k fz v t ha
  have node : ∀ {f : Val → Option Tree} {a : Addr} {o fz : Bool} {kvs : List (Key × Val)} {ts : List (Key × Tree)},
      h[a]? = some (Obj.dict o kvs) → absKvs f kvs = some ts →
      (∀ p ∈ kvs, ∀ t, f p.2 = some t → wfTree t = true) → wfTree (.node fz ts) = true := by
    intro f a o fz kvs ts hg hts ih
    refine wfTree_node.mpr ⟨by rw [absKvs_keys hts]; exact hi.keys_nodup a o kvs hg, fun q hq => ?_⟩
    obtain ⟨p, hp, hfp⟩ := (absKvs_iff.mp hts).mem_right q hq
    exact ih p hp q.2 hfp
  exact absVal_some_induction (motive := fun _ _ _ t => wfTree t = true) rfl
    (fun hg hts ih => node hg hts ih) (fun _ hgi hts ih => node hgi hts ih) ha

private theorem abs_keys_nodup {h : Heap} (hi : HeapInv h) {k : Nat} {fz f : Bool} {v : Val} {ts : List (Key × Tree)}
    (ha : absVal fz k h v = some (.node f ts)) : (ts.map (·.1)).Nodup :=
  (wfTree_node.mp (abs_wfTree h hi k fz v _ ha)).1

/-- **`freeze(x)` / `FrozenDict(x)` has the contents of `x`** (a dict or a FrozenDict), at every depth -/
theorem freeze_same_content (w w' : World) (x : Nat) (v : Val) (k : Nat) (t : Tree)
    (hs : step w (.freeze x) = .ok w') (hx : w.roots[x]? = some v)
    (ha : absVal false (k + 1) w.heap v = some t) :
    ∃ r t', w'.roots = w.roots ++ [r] ∧ absVal false (k + 1) w'.heap r = some t' ∧ SameContent t' t :=
  step_same_content hx (.inl rfl) hs ha

/-- **`unfreeze(x)` has the contents of `x`** -/
theorem unfreeze_same_content (w w' : World) (x : Nat) (v : Val) (k : Nat) (t : Tree)
    (hs : step w (.unfreeze x) = .ok w') (hx : w.roots[x]? = some v)
    (ha : absVal false k w.heap v = some t) :
    ∃ r t', w'.roots = w.roots ++ [r] ∧ absVal false k w'.heap r = some t' ∧ SameContent t' t :=
  step_same_content hx (.inr (.inl rfl)) hs ha

/-- **flatten followed by unflatten (`tree_map` with the identity) returns an equal value**, on the
heap: FrozenDicts nested inside dicts are rebuilt as FrozenDicts with the same contents -/
theorem treeMap_same_content (w w' : World) (x : Nat) (v : Val) (k : Nat) (t : Tree)
    (hs : step w (.treeMap x) = .ok w') (hx : w.roots[x]? = some v)
    (ha : absVal false k w.heap v = some t) :
    ∃ r t', w'.roots = w.roots ++ [r] ∧ absVal false k w'.heap r = some t' ∧ SameContent t' t :=
  step_same_content hx (.inr (.inr (.inl rfl))) hs ha

/-- **pickling returns an equal value**: `__reduce__` = `FrozenDict(self.unfreeze())` -/
theorem pickle_same_content (w w' : World) (x : Nat) (v : Val) (k : Nat) (t : Tree)
    (hs : step w (.pickle x) = .ok w') (hx : w.roots[x]? = some v)
    (ha : absVal false (k + 1) w.heap v = some t) :
    ∃ r t', w'.roots = w.roots ++ [r] ∧ absVal false (k + 1) w'.heap r = some t' ∧ SameContent t' t :=
  step_same_content hx (.inr (.inr (.inr (.inl rfl)))) hs ha

/-- **`fd.copy()` (no additions) is an equal FrozenDict** -/
theorem copy_same_content (w w' : World) (x : Nat) (f i : Addr) (k : Nat) (t : Tree)
    (hs : step w (.copy x none) = .ok w') (hx : w.roots[x]? = some (.ref f))
    (hf : w.heap[f]? = some (Obj.frozen i))
    (ha : absVal false (k + 1) w.heap (.ref f) = some t) :
    ∃ r t', w'.roots = w.roots ++ [r] ∧ absVal false (k + 1) w'.heap r = some t' ∧ SameContent t' t :=
  step_same_content hx (.inr (.inr (.inr (.inr rfl)))) hs ha

/-- **module-level `copy(d)` on a plain dict returns a dict with the same contents** -/
theorem copy_dict_same_content (w w' : World) (x : Nat) (a : Addr) (o : Bool) (kvs : List (Key × Val))
    (k : Nat) (t : Tree)
    (hs : step w (.copy x none) = .ok w') (hx : w.roots[x]? = some (.ref a))
    (hg : w.heap[a]? = some (Obj.dict o kvs))
    (ha : absVal false k w.heap (.ref a) = some t) :
    ∃ r t', w'.roots = w.roots ++ [r] ∧ absVal false k w'.heap r = some t' ∧ SameContent t' t :=
  step_same_content hx (.inr (.inr (.inr (.inr rfl)))) hs ha

/-- **indexing a FrozenDict returns the contents stored under the key** -/
theorem getitem_same_content (w w' : World) (x : Nat) (key : Key) (f i : Addr) (k : Nat) (ts : List (Key × Tree))
    (hs : step w (.getitem x key) = .ok w') (hx : w.roots[x]? = some (.ref f))
    (hf : w.heap[f]? = some (Obj.frozen i))
    (ha : absVal false (k + 1) w.heap (.ref f) = some (.node true ts)) :
    ∃ r tc t', w'.roots = w.roots ++ [r] ∧ lookupT key ts = some tc ∧
      absVal false k w'.heap r = some t' ∧ SameContent t' tc := by
  obtain ⟨o, kvs, v, r, hi, hget, hr, hc⟩ := step_getitem_copy hx hf hs
  obtain ⟨tc, hl, hv⟩ := absKvs_get (absVal_frozen_node hf hi ha) hget
  obtain ⟨t', ht', hc'⟩ := hc true false k tc hv
  exact ⟨r, tc, t', hr, hl, ht', hc'⟩

private def demoW : World :=
  run World.init [.newDict, .newLeaf (.atom 5), .newDict, .setKey 2 "z" 1, .setKey 0 "b" 2, .setKey 0 "a" 1]

example : (match step demoW (.freeze 0) with | .ok _ => true | _ => false) = true := by decide
example : demoW.roots[0]? = some (.ref 0) ∧ (absVal false 3 demoW.heap (.ref 0)).isSome = true := by decide
example : (match step (run World.init demoPre) (.pickle 3), step (run World.init demoPre) (.unfreeze 3),
    step (run World.init demoPre) (.treeMap 3), step (run World.init demoPre) (.getitem 3 "b") with
    | .ok _, .ok _, .ok _, .ok _ => true
    | _, _, _, _ => false) = true := by decide
example : (absVal false 3 (run World.init demoPre).heap (.ref 4)).isSome = true := by decide

/-- **`fd.get(k, default)` shares nothing mutable with `fd`**: it is `__getitem__`-or-default, so a nested dict
comes back as a FrozenDict object — a *fresh* one (allocated by this call) wrapping a fresh copy — never as
the stored dict; a missing key gives the default. -/
theorem get_shares_nothing (w w' : World) (hsep : Sep w) (x : Nat) (key : Key) (dflt : Leaf) (f i : Addr)
    (hs : step w (.get x key dflt) = .ok w') (hx : w.roots[x]? = some (.ref f))
    (hf : w.heap[f]? = some (Obj.frozen i)) :
    ∃ r, w'.roots = w.roots ++ [r] ∧
      ((∃ l, r = .leaf l) ∨
       (∃ b, r = .ref b ∧ (∃ j, w'.heap[b]? = some (Obj.frozen j)) ∧
          (w.heap.length ≤ b ∨ ∃ j, w.heap[b]? = some (Obj.frozen j)))) := by
  obtain ⟨_, _, r, _, hr, ⟨_, rfl⟩ | ⟨_, _, _, hfresh⟩⟩ := step_get_copy hx hf hs
  · exact ⟨_, hr, .inl ⟨dflt, rfl⟩⟩
  · cases r with
    | leaf l => exact ⟨_, hr, .inl ⟨l, rfl⟩⟩
    | ref b => exact ⟨_, hr, .inr ⟨b, rfl, hfresh b rfl⟩⟩

/-- **Iterating a FrozenDict (`items()`, `values()`, `dict(fd)`, `{**fd}`) yields, key by key, the
stored contents; every nested dict comes out as a *fresh* FrozenDict object** (allocated by this
call), never as the stored dict itself; a stored FrozenDict object (possible after `tree_unflatten`)
comes out as that same immutable object. -/
theorem items_same_content (w w' : World) (hsep : Sep w) (x : Nat) (f i : Addr) (k : Nat) (ts : List (Key × Tree))
    (hs : step w (.items x) = .ok w') (hx : w.roots[x]? = some (.ref f))
    (hf : w.heap[f]? = some (Obj.frozen i))
    (ha : absVal false (k + 1) w.heap (.ref f) = some (.node true ts)) :
    ∃ kvs' ts', w'.roots = w.roots ++ kvs'.map (·.2) ∧
      absKvs (absVal false k w'.heap) kvs' = some ts' ∧ canonKvs ts' = canonKvs ts ∧
      ∀ p ∈ kvs', ∀ b, p.2 = Val.ref b →
        (w.heap.length ≤ b ∨ ∃ j, w.heap[b]? = some (Obj.frozen j)) ∧ ∃ j, w'.heap[b]? = some (Obj.frozen j) := by
  obtain ⟨o, kvs, kvs', hi, hr, hc, hfresh⟩ := step_items_copy hx hf hs
  obtain ⟨ts', h2, hc'⟩ := hc true false k ts (absVal_frozen_node hf hi ha)
  exact ⟨kvs', ts', hr, h2, hc', fun p hp b hb => (hfresh p hp b hb).symm⟩

/-- **`fd.pop(key)` returns a FrozenDict with exactly the other entries, and the contents stored
under `key`** -/
theorem pop_same_content (w w' : World) (x : Nat) (key : Key) (f i : Addr) (k : Nat) (ts : List (Key × Tree))
    (hs : step w (.pop x key) = .ok w') (hx : w.roots[x]? = some (.ref f))
    (hf : w.heap[f]? = some (Obj.frozen i))
    (ha : absVal false (k + 1) w.heap (.ref f) = some (.node true ts)) :
    ∃ rest value tc t1 t2, w'.roots = w.roots ++ [rest, value] ∧ lookupT key ts = some tc ∧
      absVal false (k + 1) w'.heap rest = some t1 ∧ SameContent t1 (.node true (kvErase ts key)) ∧
      absVal false k w'.heap value = some t2 ∧ SameContent t2 tc := by
  obtain ⟨o, kvs, v, rest, value, hi, hget, hr, hcv, hcr⟩ := step_pop_copy hx hf hs
  have hts := absVal_frozen_node hf hi ha
  obtain ⟨tc, hl, hv⟩ := absKvs_get hts hget
  obtain ⟨t2, ht2, hc2⟩ := hcv true false k tc hv
  obtain ⟨t1, ht1, hc1⟩ := hcr true false k ts hts
  exact ⟨rest, value, tc, t1, t2, hr, hl, ht1, hc1, ht2, hc2⟩

/-- **module-level `pop(d, key)` on a plain dict**: jax rebuilds the copy with sorted keys, so the
statement is relative to the sorted entries of `d`: the returned dict has the contents of those
entries without `key`, the returned value the contents stored under `key`. -/
theorem pop_dict_same_content (w w' : World) (x : Nat) (key : Key) (a : Addr) (o : Bool)
    (kvs : List (Key × Val)) (k : Nat) (ts : List (Key × Tree))
    (hs : step w (.pop x key) = .ok w') (hx : w.roots[x]? = some (.ref a))
    (hg : w.heap[a]? = some (Obj.dict o kvs))
    (ha : absVal false (k + 1) w.heap (.ref a) = some (.node false ts)) :
    ∃ rest value t1 t2 tc, w'.roots = w.roots ++ [rest, value] ∧
      absVal false (k + 1) w'.heap rest = some t1 ∧
      SameContent t1 (.node false (kvErase (sortKvs ts) key)) ∧
      lookupT key (sortKvs ts) = some tc ∧
      absVal false k w'.heap value = some t2 ∧ SameContent t2 tc := by
  obtain ⟨rest, value, hr, hc⟩ := step_pop_dict_copy hx hg hs
  obtain ⟨_, _, hk, hts, hnode⟩ := absVal_dict_inv hg ha
  cases hk
  cases hnode
  obtain ⟨ts', tv, hc', hl', hrest, hval⟩ := hc false false k _ hts
  obtain ⟨tc, hl, hcv⟩ := lookupT_of_canonKvs_eq hc' hl'
  exact ⟨rest, value, _, tv, tc, hr, hrest, canon_erase_of_canonKvs_eq hc' false false key, hl, hval, hcv⟩

/-- **`fd.copy(add)` has exactly the entries of `fd` overridden / extended by the entries of `add`**
(a dict or a FrozenDict), each with the same contents as in its source: for every key, the result's
entry is `add`'s entry when `add` has the key, otherwise `fd`'s entry (absent when neither has it).
All of it deep-copied: `frozen_separation` applies to the result. -/
theorem copy_add_content (w w' : World) (hsep : Sep w) (x ai : Nat) (f i : Addr) (av : Val) (k : Nat)
    (fa : Bool) (tsx tsa : List (Key × Tree))
    (hs : step w (.copy x (some ai)) = .ok w') (hx : w.roots[x]? = some (.ref f))
    (hf : w.heap[f]? = some (Obj.frozen i)) (hadd : w.roots[ai]? = some av)
    (hax : absVal false (k + 1) w.heap (.ref f) = some (.node true tsx))
    (haa : absVal false (k + 1) w.heap av = some (.node fa tsa)) :
    ∃ r fr tsr, w'.roots = w.roots ++ [r] ∧ absVal false (k + 1) w'.heap r = some (.node fr tsr) ∧
      ∀ key, (lookupT key tsr).map canon =
        match (lookupT key tsa).map canon with
        | some c => some c
        | none => (lookupT key tsx).map canon := by
  obtain ⟨r, hr, hc⟩ := step_merge_copy hx hf hadd (.inl rfl) hs
  obtain ⟨ts1, ts2, t', ht', hc', hc1, hc2⟩ := hc false false false k _ _ hax haa
  obtain ⟨fr, tsr, rfl⟩ := node_of_canon_eq hc'
  exact ⟨r, fr, tsr, hr, ht', merged_content hc' hc1 hc2 (abs_keys_nodup hsep.heap hax) (abs_keys_nodup hsep.heap haa)⟩

/-- **`fd.copy(M)` where `M` is a Mapping that is neither a dict nor a FrozenDict**
(`types.MappingProxyType`, the type of the parameter's own default, `ChainMap`, `UserDict`, …
viewing a held dict or FrozenDict): `unfreeze(M)` hands `M` back unchanged,
so the nested dicts of `M` reach `{**self, **M}` *by reference*; it is the copying constructor that
makes the result safe.  The result has `fd`'s entries overridden / extended by `M`'s, equal in
content. -/
theorem copyView_add_content (w w' : World) (hsep : Sep w) (x ai : Nat) (f i : Addr) (av : Val) (k : Nat)
    (fa : Bool) (tsx tsa : List (Key × Tree))
    (hs : step w (.copyView x ai) = .ok w') (hx : w.roots[x]? = some (.ref f))
    (hf : w.heap[f]? = some (Obj.frozen i)) (hadd : w.roots[ai]? = some av)
    (hax : absVal false (k + 1) w.heap (.ref f) = some (.node true tsx))
    (haa : absVal false (k + 1) w.heap av = some (.node fa tsa)) :
    ∃ r fr tsr, w'.roots = w.roots ++ [r] ∧ absVal false (k + 1) w'.heap r = some (.node fr tsr) ∧
      ∀ key, (lookupT key tsr).map canon =
        match (lookupT key tsa).map canon with
        | some c => some c
        | none => (lookupT key tsx).map canon := by
  obtain ⟨r, hr, hc⟩ := step_merge_copy hx hf hadd (.inr rfl) hs
  obtain ⟨ts1, ts2, t', ht', hc', hc1, hc2⟩ := hc false false false k _ _ hax haa
  obtain ⟨fr, tsr, rfl⟩ := node_of_canon_eq hc'
  exact ⟨r, fr, tsr, hr, ht', merged_content hc' hc1 hc2 (abs_keys_nodup hsep.heap hax) (abs_keys_nodup hsep.heap haa)⟩

/-- **`tree_unflatten` / `tree_map` results**: the new FrozenDict's `_dict` holds its children as they
are (FrozenDict children stay FrozenDict *objects* — a heap shape no other operation produces), and
its abstract value is the node of the children's values: exactly the value of the FrozenDict obtained
by freezing the corresponding plain nested dict. -/
theorem unflatten_content (w w' : World) (ks : List (Key × Nat)) (k : Nat) (hs : step w (.unflatten ks) = .ok w') :
    ∃ kvs g, resolveKs w.roots ks = some kvs ∧ w'.roots = w.roots ++ [.ref g] ∧
      w'.heap[g]? = some (Obj.frozen w.heap.length) ∧ w'.heap[w.heap.length]? = some (Obj.dict true kvs) ∧
      ∀ ts, absKvs (absVal true k w.heap) kvs = some ts →
        absVal false (k + 1) w'.heap (.ref g) = some (.node true ts) := by
  obtain ⟨kvs, hres, _, _, rfl⟩ := step_unflatten_ok hs
  obtain ⟨hinner, hfro⟩ := mkFrozen_objs w.heap kvs
  exact ⟨kvs, w.heap.length + 1, hres, rfl, hfro, hinner, fun ts hts => absVal_new_frozenDict hts⟩

private theorem hash_kvsEq (H : HashFns) : ∀ {k1 k2 : List (Key × Tree)}, KvsEq k1 k2 → kvsHash H k1 = kvsHash H k2 :=
  (treeHash_mapEq H).2

/-- **Equal contents hash equal, whatever the insertion orders** (at every nesting level), for every
choice of Python's key hash, leaf hash and tuple-hash combiner; this includes the error case: one
raises TypeError (unhashable leaf) iff the other does. -/
theorem hash_order_independent (H : HashFns) (t1 t2 : Tree) (h : MapEq t1 t2) :
    treeHash H t1 = treeHash H t2 :=
  (treeHash_mapEq H).1 h

private theorem eq_kvsEq : ∀ {r1 r2 k2 : List (Key × Tree)}, KvsEq r1 r2 →
    (∀ p ∈ r2, lookupT p.1 k2 = some p.2) → (∀ p ∈ r2, wfTree p.2 = true) → kvsSub r1 k2 = true :=
  fun h hl hw => (treeEq_mapEq.2 h _ hl hw).2

/-- **Equal contents compare equal, whatever the insertion orders** (`Mapping.__eq__`), between
FrozenDicts and between a FrozenDict and a dict. -/
theorem eq_order_independent (t1 t2 : Tree) (h : MapEq t1 t2) (hw : wfTree t2 = true) :
    treeEq t1 t2 = true :=
  treeEq_mapEq.1 h hw

/-- non-vacuity: two insertion orders of `{'a': 1, 'b': {'x': 2, 'y': 3}}`, one a FrozenDict, one a dict -/
private def exT1 : Tree := .node true [("a", .leaf (.atom 1)), ("b", .node true [("x", .leaf (.atom 2)), ("y", .leaf (.atom 3))])]
private def exT2 : Tree := .node false [("b", .node false [("y", .leaf (.atom 3)), ("x", .leaf (.atom 2))]), ("a", .leaf (.atom 1))]

example : MapEq exT1 exT2 ∧ wfTree exT2 = true :=
  ⟨.node (k2' := [("a", .leaf (.atom 1)), ("b", .node false [("y", .leaf (.atom 3)), ("x", .leaf (.atom 2))])])
      (List.Perm.swap _ _ _)
      (.cons (.leaf _) (.cons (.node (k2' := [("x", .leaf (.atom 2)), ("y", .leaf (.atom 3))]) (List.Perm.swap _ _ _)
        (.cons (.leaf _) (.cons (.leaf _) .nil))) .nil)),
   by decide⟩

private theorem canonKvs_kvsEq : ∀ {r1 r2 : List (Key × Tree)}, KvsEq r1 r2 →
    (∀ p ∈ r2, wfTree p.2 = true) → canonKvs r1 = canonKvs r2 :=
  canon_mapEq.2

/-- the declarative notion (equal as finite maps, any insertion orders) implies the computational
one (identical sorted forms): the content theorems above therefore compose with `eq_order_independent`
and `hash_order_independent` -/
theorem mapEq_same_content (t1 t2 : Tree) (h : MapEq t1 t2) (hw : wfTree t2 = true) : SameContent t1 t2 :=
  canon_mapEq.1 h hw

/-- same contents ⇒ same hash (so a round trip through unfreeze/freeze, pickle or tree_map keeps the hash) -/
theorem hash_of_same_content (H : HashFns) (t1 t2 : Tree) (h : SameContent t1 t2) :
    treeHash H (canon t1) = treeHash H (canon t2) := by rw [h]

mutual
  private def untag : Tree → Tree
    | .leaf l => .leaf l
    | .node _ kvs => .node false (untagKvs kvs)
  private def untagKvs : List (Key × Tree) → List (Key × Tree)
    | [] => []
    | (k, t) :: r => (k, untag t) :: untagKvs r
end

mutual
  /-- the treedef with the dict/FrozenDict node kinds forgotten -/
  def untagDef : TDef → TDef
    | .leaf => .leaf
    | .node _ kvs => .node false (untagDefKvs kvs)
  def untagDefKvs : List (Key × TDef) → List (Key × TDef)
    | [] => []
    | (k, d) :: r => (k, untagDef d) :: untagDefKvs r
end

private theorem untagKvs_eq_map (l : List (Key × Tree)) : untagKvs l = l.map (fun q => (q.1, untag q.2)) := by
  induction l with
  | nil => rfl
  | cons q r ih => obtain ⟨k, t⟩ := q; simp [untagKvs, ih]

private theorem canon_untag_sort :
    (∀ t : Tree, canon t = untag (sortTree t)) ∧ ∀ kvs : List (Key × Tree), canonKvs kvs = untagKvs (sortTreeKvs kvs) := by
  refine Tree.induct ?_ ?_ ?_ ?_
  · intro l; rfl
  · intro fz kvs ih
    simp only [canon, sortTree, untag, sortT]
    rw [untagKvs_eq_map, sortKvs_mapVal, ← untagKvs_eq_map, ih]
  · rfl
  · intro k t r iht ihr
    simp only [canonKvs, sortTreeKvs, untagKvs, iht, ihr]

private theorem canonKvs_eq_untag_sort : ∀ (kvs : List (Key × Tree)), canonKvs kvs = untagKvs (sortTreeKvs kvs)
  | kvs => canon_untag_sort.2 kvs

private theorem flatten_untag_both :
    (∀ t : Tree, flatten (untag t) = ((flatten t).1, untagDef (flatten t).2)) ∧
    ∀ kvs : List (Key × Tree), flattenKvs (untagKvs kvs) = ((flattenKvs kvs).1, untagDefKvs (flattenKvs kvs).2) := by
  refine Tree.induct ?_ ?_ ?_ ?_
  · intro l; rfl
  · intro fz kvs ih
    simp only [flatten, untag, untagDef, ih]
  · rfl
  · intro k t r iht ihr
    simp only [flattenKvs, untagKvs, untagDefKvs, iht, ihr]

private theorem flattenKvs_untag : ∀ (kvs : List (Key × Tree)),
    flattenKvs (untagKvs kvs) = ((flattenKvs kvs).1, untagDefKvs (flattenKvs kvs).2)
  | kvs => flatten_untag_both.2 kvs

/-- **Equal contents flatten identically**: two values with equal contents built in any insertion
orders (e.g. two equal FrozenDicts) give the same leaves in the same order and the same key
structure — tree_flatten sorts the keys — so `tree_map`/`jit` treat them alike. -/
theorem flatten_order_independent (t1 t2 : Tree) (h : MapEq t1 t2) (hw : wfTree t2 = true) :
    (flattenS t1).1 = (flattenS t2).1 ∧ untagDef (flattenS t1).2 = untagDef (flattenS t2).2 := by
  have hc : untag (sortTree t1) = untag (sortTree t2) := by
    rw [← canon_untag_sort.1, ← canon_untag_sort.1]; exact mapEq_same_content t1 t2 h hw
  have h1 := flatten_untag_both.1 (sortTree t1)
  have h2 := flatten_untag_both.1 (sortTree t2)
  rw [hc] at h1
  rw [h1] at h2
  simp only [flattenS]
  exact ⟨(Prod.mk.inj h2).1, (Prod.mk.inj h2).2⟩

example : (flattenS exT1).1 = [.atom 1, .atom 2, .atom 3] ∧ (flattenS exT2).1 = [.atom 1, .atom 2, .atom 3] := by
  decide

/-- **Equal contents compare, hash and flatten equal regardless of insertion order — for every two
values of every reachable world**, no side condition: the distinct-keys hypothesis of the tree-level
theorems is discharged by the invariant. -/
theorem heap_values_order_independent (H : HashFns) (ops : List Op) (v1 v2 : Val) (k1 k2 : Nat)
    (fz1 fz2 : Bool) (t1 t2 : Tree)
    (h1 : absVal fz1 k1 (run World.init ops).heap v1 = some t1)
    (h2 : absVal fz2 k2 (run World.init ops).heap v2 = some t2) (hm : MapEq t1 t2) :
    treeEq t1 t2 = true ∧ treeHash H t1 = treeHash H t2 ∧ SameContent t1 t2 ∧
    (flattenS t1).1 = (flattenS t2).1 ∧ untagDef (flattenS t1).2 = untagDef (flattenS t2).2 := by
  have hw := abs_wfTree _ (sep_run ops _ sep_init).heap k2 fz2 v2 t2 h2
  exact ⟨eq_order_independent t1 t2 hm hw, hash_order_independent H t1 t2 hm, mapEq_same_content t1 t2 hm hw,
    (flatten_order_independent t1 t2 hm hw).1, (flatten_order_independent t1 t2 hm hw).2⟩

private theorem unflattenKvs_flattenKvs : ∀ (kvs : List (Key × Tree)) (rest : List Leaf),
    unflattenKvs (flattenKvs kvs).2 ((flattenKvs kvs).1 ++ rest) = some (kvs, rest)
  | kvs, rest => unflatten_flatten.2 kvs rest

private theorem kvsEq_sortTreeKvs : ∀ (kvs : List (Key × Tree)), KvsEq kvs (sortTreeKvs kvs)
  | kvs => mapEq_sortTree.2 kvs

/-- **flatten then unflatten gives an equal value**: `tree_unflatten(*tree_flatten(fd))` consumes
exactly the leaves and rebuilds a value with the same contents (keys in sorted order) -/
theorem pytree_roundtrip (t : Tree) :
    ∃ t', unflatten (flattenS t).2 (flattenS t).1 = some (t', []) ∧ MapEq t t' := by
  refine ⟨sortTree t, ?_, mapEq_sortTree.1 t⟩
  have := unflatten_flatten.1 (sortTree t) []
  simpa [flattenS] using this

/-- unflatten is exact on whatever flatten produced, with any leaves that follow left untouched
(this is what lets jax flatten several arguments into one leaf list) -/
theorem unflatten_flatten_exact (t : Tree) (rest : List Leaf) :
    unflatten (flatten t).2 ((flatten t).1 ++ rest) = some (t, rest) := unflatten_flatten.1 t rest

/-- `hash` is cached in `_hash` on first use.  Because a FrozenDict's abstract value never changes,
a hash computed at any point of a history is the hash at every later point: the cache cannot go stale. -/
theorem hash_cache_never_stale (H : HashFns) (pre post : List Op) (f i : Addr)
    (hf : (run World.init pre).heap[f]? = some (Obj.frozen i)) (n : Nat) :
    (absVal false n (run (run World.init pre) post).heap (.ref f)).bind (treeHash H)
      = (absVal false n (run World.init pre).heap (.ref f)).bind (treeHash H) := by
  rw [frozen_never_changes_any_history pre post f i hf]

theorem cacheOk_init (H : HashFns) : CacheOk H HWorld.init :=
  ⟨sep_init, by intro f c h; simp [HWorld.init] at h⟩

theorem hstep_preserves_cacheOk (H : HashFns) (hw hw' : HWorld) (op : HOp) (r : Option Nat)
    (hc : CacheOk H hw) (h : hstep H hw op = .ok (hw', r)) : CacheOk H hw' := by
  cases op with
  | base op =>
    obtain ⟨w', hw1, rfl⟩ := hstep_base_ok h
    refine ⟨step_preserves_sep _ _ _ hc.1 hw1, ?_⟩
    intro f c hm
    obtain ⟨⟨i, hf⟩, hh⟩ := hc.2 f c hm
    exact ⟨⟨i, (step_keeps_frozen hc.1 hw1 hf).1⟩, (freshHash_step hc.1 hw1 hf).trans hh⟩
  | hash x =>
    rcases hstep_hash_ok h with ⟨_, _, rfl⟩ | ⟨f, i, c, _, hf, _, ⟨_, rfl⟩ | ⟨_, hfresh, rfl⟩⟩
    · exact hc
    · exact hc
    · refine ⟨hc.1, fun f' c' hm => ?_⟩
      rcases List.mem_cons.mp hm with e | hm
      · cases e; exact ⟨⟨i, hf⟩, hfresh⟩
      · exact hc.2 f' c' hm

theorem cacheOk_hrun (H : HashFns) (ops : List HOp) : ∀ hw, CacheOk H hw → CacheOk H (hrun H hw ops) := by
  induction ops with
  | nil => intro hw hc; exact hc
  | cons op ops ih =>
    intro hw hc
    simp only [hrun]
    split
    · rename_i hw' r hst; exact ih hw' (hstep_preserves_cacheOk H hw hw' op r hc hst)
    · exact ih hw hc

/-- **The hash cache never goes stale**: at any point of any history, whatever `hash(fd)` returns —
computed now or read from `_hash`, however long ago it was stored and whatever mutations of sources
and returned values happened since — is the hash of `fd`'s value computed afresh. -/
theorem hash_returns_fresh_hash (H : HashFns) (ops : List HOp) (x : Nat) (f i : Addr) (hw' : HWorld) (c : Nat)
    (hx : (hrun H HWorld.init ops).w.roots[x]? = some (.ref f))
    (hf : (hrun H HWorld.init ops).w.heap[f]? = some (Obj.frozen i))
    (h : hstep H (hrun H HWorld.init ops) (.hash x) = .ok (hw', some c)) :
    freshHash H (hrun H HWorld.init ops).w.heap f = some c := by
  have hc := cacheOk_hrun H ops _ (cacheOk_init H)
  rcases hstep_hash_ref hx h with hget | ⟨_, hfresh⟩
  · exact (hc.2 f c (Assoc.mem_of_lookup (cacheGet_eq_lookup _ f ▸ hget))).2
  · exact hfresh

/-- non-vacuity: hash, mutate the source and a returned copy, hash again — the second call is served
from the cache and the hypotheses of `hash_returns_fresh_hash` hold -/
private def exH : HashFns := ⟨fun s => s.length, fun l => match l with | .atom n => some n.toNat | .opq _ => none, fun a b => a * 31 + b⟩

private def exHOps : List HOp :=
  (demoPre.map HOp.base) ++ [.hash 3, .base (.setKey 2 "q" 1), .base (.unfreeze 3), .base (.setKey 4 "b" 1)]

example : (hrun exH HWorld.init exHOps).w.roots[3]? = some (.ref 4) ∧
    (hrun exH HWorld.init exHOps).w.heap[4]? = some (Obj.frozen 3) ∧
    (hrun exH HWorld.init exHOps).cache.length = 1 ∧
    (match hstep exH (hrun exH HWorld.init exHOps) (.hash 3) with
     | .ok (_, some _) => true
     | _ => false) = true := by decide

/-- **The object rebuilt by pickling has an empty `_hash`** (it is built by the constructor): right after
`pickle`, the new FrozenDict has no cache entry — in the same process. -/
theorem pickle_result_uncached (H : HashFns) (hw hw' : HWorld) (x : Nat) (r : Option Nat)
    (hc : CacheOk H hw) (h : hstep H hw (.base (.pickle x)) = .ok (hw', r)) :
    ∃ g, hw'.w.roots = hw.w.roots ++ [.ref g] ∧ cacheGet hw'.cache g = none := by
  obtain ⟨w', hst, rfl⟩ := hstep_base_ok h
  obtain ⟨g, hr, hle⟩ := step_pickle_fresh hst
  refine ⟨g, hr, ?_⟩
  rw [cacheGet_eq_lookup, Assoc.lookup_eq_none_iff]
  rintro hm
  obtain ⟨⟨f, c⟩, hmem, e⟩ := List.mem_map.mp hm
  dsimp only at e
  obtain ⟨⟨j, hf⟩, _⟩ := hc.2 f c hmem
  have h4 := lt_length_of_get hf
  subst e
  omega

/-- **In whatever process a pickle is loaded, `hash` computes afresh with that process's hash
function**: after `loadedElsewhere` (any heap, any new `H'`) the first `hash` of a FrozenDict returns
`freshHash H'` — equal contents therefore hash equal there (`hash_order_independent`). -/
theorem hash_after_load_is_fresh (H' : HashFns) (hw hw' : HWorld) (x : Nat) (f i : Addr) (c : Nat)
    (hx : hw.w.roots[x]? = some (.ref f)) (hf : hw.w.heap[f]? = some (Obj.frozen i))
    (h : hstep H' hw.loadedElsewhere (.hash x) = .ok (hw', some c)) :
    freshHash H' hw.w.heap f = some c := by
  rcases hstep_hash_ref (hw := hw.loadedElsewhere) hx h with hget | ⟨_, hfresh⟩
  · cases hget
  · exact hfresh

/-- **Counter-example for a `__reduce__` that carries `_hash`** (`carryCacheOrig`; `…Orig` marks a variant
the model keeps for a counter-example, not its behaviour): hash `{'a': 1}` under one hash function, pickle, give the rebuilt object the old cache
entry, and ask for its hash in a process with another hash function: the answer is the stale value,
not the hash of its contents — although it equals a freshly built FrozenDict, whose hash differs. -/
theorem carried_cache_is_stale_counterexample :
    ∃ (H H' : HashFns) (hw : HWorld) (x : Nat) (g : Addr) (c c' : Nat),
      CacheOk H hw ∧ hw.w.roots[x]? = some (.ref g) ∧
      (match hstep H' (hw.carryCacheOrig 2 5) (.hash x) with
       | .ok (_, some v) => decide (v = c)
       | _ => false) = true ∧
      freshHash H' hw.w.heap g = some c' ∧ c ≠ c' := by
  let H : HashFns := ⟨fun s => s.length, fun l => match l with | .atom n => some n.toNat | .opq _ => none, fun a b => a * 31 + b⟩
  let H' : HashFns := ⟨fun s => s.length + 7, fun l => match l with | .atom n => some n.toNat | .opq _ => none, fun a b => a * 31 + b⟩
  let ops : List HOp := [.base .newDict, .base (.newLeaf (.atom 1)), .base (.setKey 0 "a" 1), .base (.freeze 0),
    .hash 2, .base (.pickle 2)]
  refine ⟨H, H', hrun H HWorld.init ops, 3, 5, 32, 249, cacheOk_hrun H ops _ (cacheOk_init H), ?_, ?_, ?_, ?_⟩
  · decide
  · decide
  · decide
  · decide

/-- **`hash` of a FrozenDict depends only on its abstract value**: two FrozenDicts — in the same heap or in
different ones, whatever their `_dict`s look like inside (raw nested dicts, or FrozenDict objects put
there by `tree_unflatten`) — with the same abstract value have the same hash.  (In the model `__hash__`
goes through `items()`, i.e. through the abstract value, by construction; a `__hash__` that walks the raw
`_dict` instead does not have this property.) -/
theorem hash_abs_only (H : HashFns) (h h' : Heap) (a b : Addr)
    (hab : absVal false (fuelOf h) h (.ref a) = absVal false (fuelOf h') h' (.ref b)) :
    freshHash H h a = freshHash H h' b := by
  simp only [freshHash, hab]

/-- equal *contents* in any insertion orders (different `_dict` shapes included) hash equal -/
theorem hash_content_only (H : HashFns) (h h' : Heap) (a b : Addr) (t1 t2 : Tree)
    (h1 : absVal false (fuelOf h) h (.ref a) = some t1) (h2 : absVal false (fuelOf h') h' (.ref b) = some t2)
    (hm : MapEq t1 t2) : freshHash H h a = freshHash H h' b := by
  simp only [freshHash, h1, h2, Option.bind_some]
  exact hash_order_independent H t1 t2 hm

/-- non-vacuity: `fd = freeze({'a': 1})`, `u = tree_unflatten(keys ('k',), [fd])` holds the FrozenDict
object `fd` inside its `_dict`; `p = freeze({'k': {'a': 1}})` holds a raw dict.  Same abstract value. -/
private def exU : World :=
  run World.init [.newDict, .newLeaf (.atom 1), .setKey 0 "a" 1, .freeze 0, .unflatten [("k", 2)],
    .newDict, .setKey 4 "k" 0, .freeze 4]

example : exU.heap[3]? = some (Obj.dict true [("k", .ref 2)]) ∧ exU.heap[2]? = some (Obj.frozen 1) ∧
    exU.roots[3]? = some (.ref 4) ∧ exU.roots[5]? = some (.ref 8) ∧
    exU.heap[7]? = some (Obj.dict true [("k", .ref 6)]) ∧ exU.heap[6]? = some (Obj.dict true [("a", .leaf (.atom 1))]) := by
  decide
example : (match absVal false (fuelOf exU.heap) exU.heap (.ref 4), absVal false (fuelOf exU.heap) exU.heap (.ref 8) with
    | some (.node true [("k", .node true [("a", .leaf (.atom 1))])]),
      some (.node true [("k", .node true [("a", .leaf (.atom 1))])]) => true
    | _, _ => false) = true := by decide

/-- **`unfreeze(fd)` shares no mutable container with `fd` (nor with anything else)**: the old heap is
untouched and *every* container reachable from the returned value — dicts, lists, tuples, nested FrozenDicts,
at every depth and in any nesting — was allocated by this very call.  So mutating the result in place (setitem, append, del, at any depth) cannot
reach an object `fd` is made of. -/
theorem unfreeze_shares_no_mutable_container (h h' : FrozenL.Heap) (f : Nat) (v' : FrozenL.Val)
    (hu : FrozenL.unfreeze .all h f = some (h', v')) :
    (∃ ext, h' = h ++ ext) ∧ ∀ b c : Nat, v' = FrozenL.Val.ref b → ReachL h' b c → h.length ≤ c := by
  simp only [FrozenL.unfreeze] at hu
  split at hu
  · rename_i i hf
    have hc0 : NewClosed h.length h := by
      intro a o ha hg
      rw [List.getElem?_eq_none ha] at hg; cases hg
    obtain ⟨he, c1, f1⟩ := rebuild_fresh h.length _ h (.ref i) (h', v') (Nat.le_refl _) hc0 hu
    exact ⟨he, fun b c hb hr => reachL_stays_new c1 hr (f1 b hb)⟩
  · cases hu

/-- counter-example for a walk that treats every non-dict as a leaf (`Walk.dictsOnly`, not the model's
`unfreeze`): `fd = freeze({'layers': [{'w': 1}]})` — the result's `'layers'` is the very list object
(address 1) stored in `fd`, and through it the dict (address 0) inside. -/
theorem unfreeze_dictsOnly_counterexample :
    let h : FrozenL.Heap := [.dict [("w", .leaf 1)], .list [.ref 0], .dict [("layers", .ref 1)], .frozen 2]
    (match FrozenL.unfreeze .dictsOnly h 3 with
     | some (h', v') => decide (1 ∈ FrozenL.reachList 5 h' v' ∧ 0 ∈ FrozenL.reachList 5 h' v')
     | none => false) = true ∧
    (match FrozenL.unfreeze .all h 3 with
     | some (h', v') => (FrozenL.reachList 5 h' v').all (fun a => decide (4 ≤ a))
     | none => false) = true := by decide

open Flax.Struct (PV SDef)

private theorem s_unflattenFs_flattenFs : ∀ (fs : List (String × Bool × PV)) (rest : List Int),
    Struct.unflattenFs (Struct.flattenFs fs).2 ((Struct.flattenFs fs).1 ++ rest) = some (fs, rest)
  | fs, rest => Struct.unflatten_flatten.2 fs rest

/-- **tree_unflatten ∘ tree_flatten is the identity on struct instances**: same class, same `frozen`
setting, same fields in the same order, same static values, same data. -/
theorem struct_roundtrip (x : PV) : Struct.unflattenAll (Struct.flatten x).2 (Struct.flatten x).1 = .ok x := by
  have := Struct.unflatten_flatten.1 x []
  simp only [List.append_nil] at this
  simp [Struct.unflattenAll, this]

private theorem s_leavesFs : ∀ (fs : List (String × Bool × PV)), (Struct.flattenFs fs).1 = dataLeavesFs fs
  | fs => flatten_dataLeaves.2 fs

/-- **the pytree leaves are exactly the fields not marked `pytree_node=False`**, in field order -/
theorem struct_leaves (x : PV) : (Struct.flatten x).1 = dataLeaves x := flatten_dataLeaves.1 x

/-- **static fields travel in the treedef**: if two values have the same treedef, the second is the
first with its data leaves replaced — class, `frozen`, field layout and every static value coincide.
Contrapositive: changing a `pytree_node=False` field changes the treedef (a jit cache miss, A-JIT). -/
theorem struct_static_in_treedef (x y : PV) (h : (Struct.flatten x).2 = (Struct.flatten y).2) :
    Struct.unflattenAll (Struct.flatten x).2 (Struct.flatten y).1 = .ok y := by
  rw [h]; exact struct_roundtrip y

/-- same class, same data, different static value ⇒ different treedef -/
theorem struct_static_change_changes_treedef :
    (Struct.flatten (.inst "A" true [("x", true, .leaf 1), ("m", false, .leaf 7)])).2
      ≠ (Struct.flatten (.inst "A" true [("x", true, .leaf 1), ("m", false, .leaf 8)])).2 := by
  simp [Struct.flatten, Struct.flattenFs]

private theorem s_map_defFs (f : Int → Int) : ∀ (fs : List (String × Bool × PV)),
    Struct.flattenFs (Struct.mapLeavesFs f fs) = (((Struct.flattenFs fs).1).map f, (Struct.flattenFs fs).2)
  | fs => (Struct.flatten_mapLeaves f).2 fs

/-- **tree_map (hence jit / vmap / grad outputs, which are rebuilt by tree_unflatten from the same
treedef) keeps the class and the static fields**: the treedef is unchanged and the leaves are mapped;
so changing only data never changes the treedef (no retrace). -/
theorem struct_tree_map (f : Int → Int) (x : PV) :
    (Struct.flatten (Struct.mapLeaves f x)).2 = (Struct.flatten x).2 ∧
    (Struct.flatten (Struct.mapLeaves f x)).1 = ((Struct.flatten x).1).map f := by
  rw [(Struct.flatten_mapLeaves f).1 x]; exact ⟨rfl, rfl⟩

/-- **instances are frozen**: attribute assignment raises (unless the caller explicitly asked for
`frozen=False`, which `struct.dataclass` honours) -/
theorem struct_setattr_raises (cls : String) (fs : List (String × Bool × PV)) (name : String) (v : PV) :
    Struct.setattr (.inst cls true fs) name v = .error .frozenInstance := by
  simp [Struct.setattr]

/-- **replace changes only the named fields**: the result has the same field names and
`pytree_node` flags in the same order; a field that is not named keeps its value; with distinct
names every named field holds the given value; an unknown name is an error (nothing is returned). -/
theorem struct_replace_spec (ups : List (String × PV)) : ∀ (fs fs' : List (String × Bool × PV)),
    Struct.replaceFs fs ups = .ok fs' →
    fs'.map (fun p => (p.1, p.2.1)) = fs.map (fun p => (p.1, p.2.1)) ∧
    (∀ other, other ∉ ups.map (·.1) → Struct.getField fs' other = Struct.getField fs other) ∧
    ((ups.map (·.1)).Nodup → ∀ p ∈ ups, Struct.getField fs' p.1 = some p.2) := by
  induction ups with
  | nil =>
    intro fs fs' h
    simp [Struct.replaceFs] at h; subst h
    exact ⟨rfl, fun _ _ => rfl, fun _ p hp => by cases hp⟩
  | cons u rest ih =>
    intro fs fs' h
    obtain ⟨n, v⟩ := u
    simp only [Struct.replaceFs] at h
    split at h
    · cases h
    · rename_i fs1 hset
      obtain ⟨a1, a2, a3⟩ := Struct.setField_spec hset
      obtain ⟨b1, b2, b3⟩ := ih fs1 fs' h
      refine ⟨b1.trans a1, ?_, ?_⟩
      · intro other ho
        simp only [List.map_cons, List.mem_cons, not_or] at ho
        rw [b2 other ho.2, a3 other ho.1]
      · intro hnd p hp
        simp only [List.map_cons, List.nodup_cons] at hnd
        simp at hp
        rcases hp with rfl | hp
        · rw [b2 _ hnd.1]; exact a2
        · exact b3 hnd.2 p hp

/-- `replace` returns an instance of the same class (and same `frozen` setting) and leaves its argument alone
(the model is functional: `x` is still `x`) -/
theorem struct_replace_same_class (cls : String) (fr : Bool) (fs : List (String × Bool × PV))
    (ups : List (String × PV)) (y : PV) (h : Struct.replace (.inst cls fr fs) ups = .ok y) :
    ∃ fs', y = .inst cls fr fs' ∧ Struct.replaceFs fs ups = .ok fs' := by
  simp only [Struct.replace] at h
  split at h
  · rename_i fs' hr; simp at h; exact ⟨fs', h.symm, hr⟩
  · cases h

theorem struct_replace_unknown_raises (fs : List (String × Bool × PV)) (name : String) (v : PV)
    (rest : List (String × PV)) (h : Struct.getField fs name = none) :
    Struct.replaceFs fs ((name, v) :: rest) = .error .typeError := by
  have := Struct.setField_none v h
  simp [Struct.replaceFs, this]

/-- non-vacuity: a nested layout with data and static fields -/
private def exS : PV :=
  .inst "Model" true [("params", true, .inst "P" true [("w", true, .leaf 3), ("b", true, .leaf 4)]),
                      ("apply_fn", false, .leaf 99), ("step", true, .leaf 0)]

example : Struct.flatten exS = ([3, 4, 0], .inst "Model" true
    [("params", .inst "P" true [("w", .leaf), ("b", .leaf)]), ("apply_fn", .static (.leaf 99)), ("step", .leaf)]) := by
  simp [exS, Struct.flatten, Struct.flattenFs]
example : (match Struct.replace exS [("step", .leaf 1)] with
    | .ok (.inst "Model" true [(_, _, _), ("apply_fn", false, .leaf 99), ("step", true, .leaf 1)]) => true
    | _ => false) = true := by decide

/-- **The partition into leaves and static fields is by each field's own `pytree_node` argument only**:
independent of which metadata dict objects the caller passed, of whether one dict object is shared by
several fields with different flags, and of any stale `'pytree_node'` entry in those dicts. -/
theorem declare_by_flag_only (store : List Struct.Meta) (fs : List Struct.FieldSpec) :
    Struct.declare store fs = fs.map (fun f => (f.name, f.node)) := by
  simp only [Struct.declare]
  refine List.map_congr_left ?_
  intro f _
  simp only [Struct.metaFlag, Struct.fieldMeta, Struct.metaGet_eq_lookup, Struct.metaSet_isUpsert.lookup_self]
  cases f.node <;> simp

/-- the caller's other metadata entries reach the field unchanged (and the caller's dict is not an output
of `declare` at all: nothing writes to it) -/
theorem fieldMeta_keeps_user_entries (store : List Struct.Meta) (f : Struct.FieldSpec) (key : String)
    (hne : key ≠ "pytree_node") :
    Struct.metaGet (Struct.fieldMeta store f) key = Struct.metaGet (Struct.callerMeta store f.metaId) key := by
  rw [Struct.fieldMeta, Struct.metaGet_eq_lookup, Struct.metaGet_eq_lookup, Struct.metaSet_isUpsert.lookup_ne hne]

/-- counter-example for a `field` that writes into the caller's dict (`declareMutatingOrig`, not the
model's behaviour): one dict shared by a data field and a static field — the last flag wins for both,
and the caller's dict has changed -/
theorem mutating_field_counterexample :
    (Struct.declareMutatingOrig [[("units", 7)]] [⟨"origin", true, some 0⟩, ⟨"size", false, some 0⟩]).2
      = [("origin", false), ("size", false)] ∧
    (Struct.declareMutatingOrig [[("units", 7)]] [⟨"origin", true, some 0⟩, ⟨"size", false, some 0⟩]).1
      ≠ [[("units", 7)]] ∧
    Struct.declare [[("units", 7)]] [⟨"origin", true, some 0⟩, ⟨"size", false, some 0⟩]
      = [("origin", true), ("size", false)] := by decide

/-- **For every class style** (`slots=True`, `kw_only=True`, `frozen=` either way, a subclass of another
struct dataclass, any combination) the class registered as a pytree is the class the user gets, and the
leaves / static partition is by each field's own flag. -/
theorem struct_dataclass_style_independent (kw : Struct.StyleKw) (clz fresh : Nat) (store : List Struct.Meta)
    (fs : List Struct.FieldSpec) :
    (Struct.structDataclass kw clz fresh store fs).registered = (Struct.structDataclass kw clz fresh store fs).returned ∧
    (Struct.structDataclass kw clz fresh store fs).partition = fs.map (fun f => (f.name, f.node)) :=
  ⟨rfl, declare_by_flag_only store fs⟩

/-- counter-example for registering the class that was passed in (`structDataclassRegistersArgOrig`): with
`slots=True` the user's class is a new object that was never registered — its instances are opaque leaves -/
theorem registers_argument_counterexample :
    (Struct.structDataclassRegistersArgOrig ⟨true, false, true, false⟩ 0 1 [] [⟨"x", true, none⟩]).registered
      ≠ (Struct.structDataclassRegistersArgOrig ⟨true, false, true, false⟩ 0 1 [] [⟨"x", true, none⟩]).returned ∧
    (Struct.structDataclassRegistersArgOrig ⟨false, true, true, true⟩ 0 1 [] [⟨"x", true, none⟩]).registered
      = (Struct.structDataclassRegistersArgOrig ⟨false, true, true, true⟩ 0 1 [] [⟨"x", true, none⟩]).returned := by
  decide

end Flax.C15
