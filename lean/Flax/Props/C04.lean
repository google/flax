/-
C04 — NNX transforms keep Python reference semantics: same result and state as eager.

Property theorems over `Flax/Model/NnxProtocol.lean` (the four-step `update_context` protocol of
flax/nnx/graph.py, `extract.to_tree / from_tree`, jit / remat / cond / switch / fori_loop / while_loop /
cached_partial) on the explicit heap of `Heap.lean` and the graph model of `Graph.lean` (C03).

* the caller's heap is `h`; `runFn f h args` is `f(*args)` as plain Python; `jitCall / rematCall / switchCall /
  condCall / foriCall / whileCall` are the calls under the transform;
* `IsoM h2 r h4 r' ψ`: the rooted heaps are isomorphic via the injective address map `ψ` (objects compared as
  Python objects: class and attribute MAP, Variable type / value / metadata);
* `FlatRoots h vals [] gds fss idx`: `to_tree` of `vals` on `h` gives graphdefs `gds`, leaves `fss`, final `ref_index` `idx`;
* the roots compared are `(cleared arguments, results)`: everything reachable from the arguments and the results
  after the call.  An object the function detached from the arguments is outside the statement (the outer merge
  never sees it) -- see SPEC['assumptions'] of harness/props/c04.py.
-/
import Flax.Model.Heap
import Flax.Model.Graph
import Flax.Model.NnxProtocol
import Flax.Proofs.HeapRel
import Flax.Proofs.GraphPaths
import Flax.Proofs.NnxSim
import Flax.Proofs.NnxProg
import Flax.Proofs.NnxJit
import Flax.Proofs.NnxCond
import Flax.Proofs.NnxCanon
import Flax.Proofs.NnxIter
import Flax.Proofs.NnxErase
import Flax.Proofs.NnxCache
import Flax.Proofs.NnxStep
import Flax.Proofs.NnxAccept

namespace Flax.C04
open Flax.Heap Flax.Graph Flax.Nnx

/-- `jit` and `remat` at once (`jitCall_eq`, `rematCall_eq`) -/
private theorem call_refines {raw : Bool} {f : Fn} {h : Heap} {args rets : List PVal} {h2 : Heap}
    {call : Except Nnx.Err (List PVal × Heap)}
    (hcall : call = (protoCall raw f h args).map fun r => (r.1.drop args.length, r.2))
    (he : runFn f h args = .ok (rets, h2)) {outs : List PVal} {h4 : Heap} (hj : call = .ok (outs, h4)) :
    ∃ ψ, RefinesEager h args rets h2 outs h4 ψ := by
  subst hcall
  cases hp : protoCall raw f h args with
  | error e => rw [hp] at hj; cases hj
  | ok r =>
    rw [hp] at hj; cases hj
    exact proto_refines_eager raw f h args rets h2 he r.1 r.2 hp

private theorem call_total {raw : Bool} {f : Fn} {h : Heap} {args : List PVal} {call : Except Nnx.Err (List PVal × Heap)}
    (hcall : call = (protoCall raw f h args).map fun r => (r.1.drop args.length, r.2))
    (hc : HeapClosed h) (ha : ∀ v ∈ args, ValClosed h v) :
    (∀ rets h2, runFn f h args = .ok (rets, h2) → ∃ outs h4 ψ, call = .ok (outs, h4) ∧ RefinesEager h args rets h2 outs h4 ψ) ∧
    (∀ e, runFn f h args = .error e → call = .error e) := by
  obtain ⟨t1, t2⟩ := proto_total raw f h args hc ha
  refine ⟨fun rets h2 he => ?_, fun e he => by rw [hcall, t2 e he]; rfl⟩
  obtain ⟨roots4, h4, ψ, hp, hr⟩ := t1 rets h2 he
  exact ⟨_, _, ψ, by rw [hcall, hp]; rfl, hr⟩

/-- **`nnx.jit(f)(*args)` has the same effect as `f(*args)`.**  For every heap, every argument tuple (arguments may
alias each other in any way), every body of the mutation DSL (reads, Variable updates, attribute add / delete /
re-bind, new nodes and Variables, new aliasing): if the eager call returns `(rets, h2)` and the call under `jit`
returns `(outs, h4)`, then everything reachable from (arguments, results) is isomorphic, the isomorphism is the
identity on every object of the caller, and objects created by the function are fresh on both sides. -/
theorem jit_refines_eager (f : Fn) (h : Heap) (args rets : List PVal) (h2 : Heap)
    (he : runFn f h args = .ok (rets, h2)) (outs : List PVal) (h4 : Heap)
    (hj : jitCall f h args = .ok (outs, h4)) : ∃ ψ, RefinesEager h args rets h2 outs h4 ψ :=
  call_refines (jitCall_eq f h args) he hj

/-- `nnx.remat` (`split_inputs ∘ jax.checkpoint ∘ merge_inputs`: VariableState leaves) has the same effect -/
theorem remat_refines_eager (f : Fn) (h : Heap) (args rets : List PVal) (h2 : Heap)
    (he : runFn f h args = .ok (rets, h2)) (outs : List PVal) (h4 : Heap)
    (hj : rematCall f h args = .ok (outs, h4)) : ∃ ψ, RefinesEager h args rets h2 outs h4 ψ :=
  call_refines (rematCall_eq f h args) he hj

/-- **unconditional form: `jit` fails exactly when the body fails.**  On a closed heap (no dangling reference: always true
of real Python objects), if the eager call succeeds then the call under `jit` succeeds and refines it; if the eager
call raises `e` (e.g. `AttributeError`) the call under `jit` raises the same `e`.  So the model's `jit` has no
failure mode of its own. -/
theorem jit_total (f : Fn) (h : Heap) (args : List PVal) (hc : HeapClosed h) (ha : ∀ v ∈ args, ValClosed h v) :
    (∀ rets h2, runFn f h args = .ok (rets, h2) →
      ∃ outs h4 ψ, jitCall f h args = .ok (outs, h4) ∧ RefinesEager h args rets h2 outs h4 ψ) ∧
    (∀ e, runFn f h args = .error e → jitCall f h args = .error e) :=
  call_total (jitCall_eq f h args) hc ha

/-- `remat` fails exactly when the body fails -/
theorem remat_total (f : Fn) (h : Heap) (args : List PVal) (hc : HeapClosed h) (ha : ∀ v ∈ args, ValClosed h v) :
    (∀ rets h2, runFn f h args = .ok (rets, h2) →
      ∃ outs h4 ψ, rematCall f h args = .ok (outs, h4) ∧ RefinesEager h args rets h2 outs h4 ψ) ∧
    (∀ e, runFn f h args = .error e → rematCall f h args = .error e) :=
  call_total (rematCall_eq f h args) hc ha

/-- after the call, every attribute path from (arguments, results) resolves alike under
the transform and eagerly, and two paths reach ONE object under the transform iff they do eagerly (aliasing,
including new aliasing made by the function, ends up identical) -/
theorem refines_paths {h : Heap} {args rets : List PVal} {h2 : Heap} {outs : List PVal} {h4 : Heap}
    {ψ : Addr → Option Addr} (r : RefinesEager h args rets h2 outs h4 ψ) (p q : Path) (a b : Nat)
    (hp : resolve h2 (.seq true (args.map clearArg ++ rets)) p = some (.ref a))
    (hq : resolve h2 (.seq true (args.map clearArg ++ rets)) q = some (.ref b)) :
    ∃ (a' b' : Nat), resolve h4 (.seq true (args.map clearArg ++ outs)) p = some (.ref a') ∧
      resolve h4 (.seq true (args.map clearArg ++ outs)) q = some (.ref b') ∧ (a = b ↔ a' = b') ∧
      (a < h.length → a' = a) := by
  obtain ⟨a', b', e2, f2, ha, hiff⟩ := r.iso.resolve_pair hp hq
  exact ⟨a', b', e2, f2, hiff, (r.ident a a' ha).1⟩

/-- **inputs that alias each other across arguments are one object inside, not duplicated.**  The inner merge
(step 2, the objects the traced function sees) builds an isomorphic copy of the WHOLE argument tuple: two
attribute paths -- through the same or through different arguments (`p = [.int i, …]` starts at argument `i`) --
reach one object inside exactly when they reach one object of the caller. -/
theorem alias_across_args_one_object (raw : Bool) (h : Heap) (args : List PVal) (gds : List GDef)
    (fss : List FlatState) (idx1 : RefIndex) (hf : flattenRoots h args [] = .ok (gds, fss, idx1)) :
    ∃ args' G ir,
      unflattenRootsO (fun _ => Option.none) (gds.map (stampWith (fun _ => Option.none))) (fss.map (convLeaves raw)) [] [] =
        .ok (args', G, ir) ∧
      IsoM h (.seq true args) G (.seq true args') (phi idx1 ir) ∧
      ∀ (p q : Path) (a b : Nat), resolve h (.seq true args) p = some (.ref a) → resolve h (.seq true args) q = some (.ref b) →
        ∃ (a' b' : Nat), resolve G (.seq true args') p = some (.ref a') ∧ resolve G (.seq true args') q = some (.ref b') ∧
          (a = b ↔ a' = b') := by
  obtain ⟨args', G, ir, hu, C⟩ := inner_copyF raw (flatRoots_of_flattenRoots hf)
  have iso : IsoM h (.seq true args) G (.seq true args') (phi idx1 ir) := C.rel.isoM (.seq C.args)
  refine ⟨args', G, ir, hu, iso, fun p q a b hp hq => ?_⟩
  obtain ⟨a', b', e2, f2, _, hiff⟩ := iso.resolve_pair hp hq
  exact ⟨a', b', e2, f2, hiff⟩

/-- **`nnx.switch` (and `nnx.cond`) have the same effect as running the selected branch eagerly.**  Whenever the call
is accepted (all branches traced, equal output structures: A-COND), the outcome refines the eager run of branch
`clampIndex index` exactly as for `jit`. -/
theorem cond_switch_refine (fs : List Fn) (index : Int) (h : Heap) (args : List PVal) (outs : List PVal) (h4 : Heap)
    (hs : switchCall fs index h args = .ok (outs, h4)) :
    ∃ f, fs[clampIndex index fs.length]? = some f ∧
      ∀ (rets : List PVal) (h2 : Heap), runFn f h args = .ok (rets, h2) → ∃ ψ, RefinesEager h args rets h2 outs h4 ψ := by
  obtain ⟨f, hf, hr⟩ := switchCall_ok hs
  exact ⟨f, hf, fun rets h2 he => remat_refines_eager f h args rets h2 he outs h4 hr⟩

/-- `nnx.cond(pred, t, f, *operands)`: the true branch when `pred`, else the false branch -/
theorem cond_refine (t f : Fn) (pred : Bool) (h : Heap) (args : List PVal) (outs : List PVal) (h4 : Heap)
    (hs : condCall t f pred h args = .ok (outs, h4)) (rets : List PVal) (h2 : Heap)
    (he : runFn (if pred then t else f) h args = .ok (rets, h2)) : ∃ ψ, RefinesEager h args rets h2 outs h4 ψ := by
  unfold condCall at hs
  obtain ⟨g, hg, hall⟩ := cond_switch_refine [t, f] _ h args outs h4 hs
  cases pred with
  | true =>
    simp [clampIndex] at hg; subst hg
    exact hall rets h2 he
  | false =>
    simp [clampIndex] at hg; subst hg
    exact hall rets h2 he

/-- **a structure change that not every branch makes is rejected** (on both sides of `cond_switch_refine`: such a
call has no outcome under the transform): if all branches trace but two output graphdefs differ, the call
returns `structureMismatch` and the caller's heap is not an output at all -/
theorem switch_rejects_structure_change (fs : List Fn) (index : Int) (h : Heap) (args : List PVal)
    (gds : List GDef) (lss : List (List Leaf)) (idx1 : RefIndex) (hs1 : step1 false h args = .ok (gds, lss, idx1))
    (o : List ODef × List (List Leaf)) (os : List (List ODef × List (List Leaf)))
    (htr : traceBranches gds lss fs = .ok (o :: os)) (o' : List ODef × List (List Leaf)) (hmem : o' ∈ os)
    (hne : o'.1 ≠ o.1) : switchCall fs index h args = .error .structureMismatch :=
  switchCall_reject hs1 htr (List.mem_cons_of_mem _ hmem) List.mem_cons_self hne

/-- **unconditional form for switch (and cond).**  On a closed heap with at least one branch:
* if some branch fails eagerly, the call raises the error of the FIRST such branch in trace order, whichever branch
  is selected (all branches are traced: A-COND);
* if every branch succeeds eagerly and all traced output structures coincide, the call succeeds and refines the
  eager run of the selected branch;
* if every branch succeeds eagerly and two traced output structures differ, the call is `structureMismatch`.
The three cases are exhaustive, so this says exactly when `structureMismatch` is returned.  `tracedDefs f h args` is
characterised in eager terms by `traced_output_is_flatten_of_eager`. -/
theorem switch_total (fs : List Fn) (index : Int) (h : Heap) (args : List PVal) (hc : HeapClosed h)
    (ha : ∀ v ∈ args, ValClosed h v) (hne : fs ≠ []) :
    (∀ pre f post e, fs = pre ++ f :: post → (∀ g ∈ pre, ∃ r, runFn g h args = .ok r) → runFn f h args = .error e →
      switchCall fs index h args = .error e) ∧
    ((∀ f ∈ fs, ∃ r, runFn f h args = .ok r) →
      ((∀ f ∈ fs, ∀ g ∈ fs, tracedDefs f h args = tracedDefs g h args) →
        ∃ outs h4 f, switchCall fs index h args = .ok (outs, h4) ∧ fs[clampIndex index fs.length]? = some f ∧
          ∀ rets h2, runFn f h args = .ok (rets, h2) → ∃ ψ, RefinesEager h args rets h2 outs h4 ψ) ∧
      ((∃ f ∈ fs, ∃ g ∈ fs, tracedDefs f h args ≠ tracedDefs g h args) →
        switchCall fs index h args = .error .structureMismatch)) := by
  refine ⟨fun pre f post e hfs hpre hf => switch_error hc ha hfs hpre hf, fun hall => ?_⟩
  obtain ⟨hacc, hrej⟩ := switch_all_ok (index := index) hc ha hne hall
  refine ⟨fun heq => ?_, hrej⟩
  obtain ⟨outs, h4, hs⟩ := hacc heq
  obtain ⟨f, hf, href⟩ := cond_switch_refine fs index h args outs h4 hs
  exact ⟨outs, h4, f, hs, hf, href⟩

/-- `nnx.cond` on a closed heap: the two-branch instance of `switch_total` (true branch traced first) -/
theorem cond_total (t f : Fn) (pred : Bool) (h : Heap) (args : List PVal) (hc : HeapClosed h) (ha : ∀ v ∈ args, ValClosed h v) :
    (∀ e, runFn t h args = .error e → condCall t f pred h args = .error e) ∧
    (∀ r e, runFn t h args = .ok r → runFn f h args = .error e → condCall t f pred h args = .error e) ∧
    (∀ rt rf, runFn t h args = .ok rt → runFn f h args = .ok rf →
      (tracedDefs t h args = tracedDefs f h args →
        ∃ outs h4, condCall t f pred h args = .ok (outs, h4) ∧
          ∀ rets h2, runFn (if pred then t else f) h args = .ok (rets, h2) → ∃ ψ, RefinesEager h args rets h2 outs h4 ψ) ∧
      (tracedDefs t h args ≠ tracedDefs f h args → condCall t f pred h args = .error .structureMismatch)) := by
  obtain ⟨herr, hok⟩ := switch_total [t, f] (if pred then 0 else 1) h args hc ha (by simp)
  refine ⟨fun e he => herr [] t [f] e rfl (by simp) he, fun r e hr he => herr [t] f [] e rfl (fun g hg => by simp at hg; subst hg; exact ⟨r, hr⟩) he,
    fun rt rf hrt hrf => ?_⟩
  obtain ⟨hacc, hrej⟩ := hok (by
    intro g hg
    simp at hg
    rcases hg with rfl | rfl
    · exact ⟨rt, hrt⟩
    · exact ⟨rf, hrf⟩)
  constructor
  · intro heq
    obtain ⟨outs, h4, g, hs, _, _⟩ := hacc (by
      intro a ha' b hb'
      simp at ha' hb'
      rcases ha' with rfl | rfl <;> rcases hb' with rfl | rfl <;> first | rfl | exact heq | exact heq.symm)
    exact ⟨outs, h4, hs, fun rets h2 he => cond_refine t f pred h args outs h4 hs rets h2 he⟩
  · intro hne'
    exact hrej ⟨t, by simp, f, by simp, hne'⟩

/-- **what "the traced output structure" is, in eager terms**: the pure value the traced function returns is the
`flatten` of the eager result `(cleared arguments, results)`, every definition stamped with the position its object
had in the input `ref_index` (`none` for objects created by the function).  So two branches have the same
`tracedDefs` iff their eager results have the same graphdef AND keep / create / re-bind the same caller objects at
the same places. -/
theorem traced_output_is_flatten_of_eager (raw keep : Bool) (f : Fn) (pre : List PVal) (hpre : ∀ v ∈ pre, ∃ d, v = PVal.array d)
    (h : Heap) (vals : List PVal) (gds : List GDef) (fss : List FlatState) (idx1 : RefIndex)
    (hf : FlatRoots h vals [] gds fss idx1) (nh : AttrsNodup h) (rets : List PVal) (h2 : Heap)
    (he : runFn f h (pre ++ vals) = .ok (rets, h2)) (o : List ODef × List (List Leaf))
    (ho : pureRun raw keep f pre gds (fss.map (convLeaves raw)) = .ok o) :
    ∃ gdsE fssE idxE, FlatRoots h2 ((if keep then vals.map clearArg else []) ++ rets) [] gdsE fssE idxE ∧
      o = (gdsE.map (stampWith (fun i => (idxE[i]?).bind (fun a => indexOf? a idx1))), fssE.map (convLeaves raw)) := by
  obtain ⟨gdsE, fssE, idxE, hFE, hpr⟩ := pureRun_eager raw keep f hpre hf nh he
  rw [hpr] at ho
  exact ⟨gdsE, fssE, idxE, hFE, (Except.ok.inj ho).symm⟩

/-- **`nnx.fori_loop(lower, lower + n, body, init)` equals the unrolled Python loop**
`for i in range(lower, lower + n): val = body(i, val)`, for every trip count (induction on `n`), every well-formed heap
(`Heap.wf`, C03's hypothesis: Python dicts have distinct keys; every DSL statement preserves it), every carried tuple
(graph nodes, Variables, arrays; aliasing allowed) and every body the transform accepts (the structure check demands
that the carry keeps its graphdef and its reference structure).  The address map is the identity: the caller's own
objects hold the final values, and the final carry consists of the caller's objects. -/
theorem loops_refine_unrolled (f : Fn) (lower : Int) (n : Nat) (h : Heap) (vals : List PVal) (hw : Heap.wf h = true)
    (roots : List PVal) (h4 : Heap) (hc : foriCall f lower n h vals = .ok (roots, h4))
    (valsE : List PVal) (hE : Heap) (he : foriEager f n lower h vals = .ok (valsE, hE)) :
    ∃ χ, LoopRefines h valsE hE roots h4 χ :=
  fori_refines f lower n h vals (attrsNodup_of_wf hw) roots h4 hc valsE hE he

/-- **`nnx.while_loop(cond, body, init)` equals `while cond(val): val = body(val)`** (induction on the number of
iterations), for a predicate that only reads its argument -/
theorem while_refines_unrolled (c f : Fn) (hro : c.readOnly = true) (fuel : Nat) (h : Heap) (vals : List PVal)
    (hw : Heap.wf h = true) (roots : List PVal) (h4 : Heap) (hc : whileCall c f fuel h vals = .ok (roots, h4))
    (valsE : List PVal) (hE : Heap) (he : whileEager c f fuel h vals = .ok (valsE, hE)) :
    ∃ χ, LoopRefines h valsE hE roots h4 χ :=
  while_refines c f hro fuel h vals (attrsNodup_of_wf hw) roots h4 hc valsE hE he

/-- **a loop body is accepted exactly when the eager body gives the carry back with the same graphdef and the same
objects in the same order; it raises exactly the eager body's error; otherwise it is `structureMismatch`** -/
theorem loop_body_outcome (f : Fn) (pre : List PVal) (hpre : ∀ v ∈ pre, ∃ d, v = PVal.array d)
    (h : Heap) (vals : List PVal) (gds : List GDef) (fss : List FlatState) (idx1 : RefIndex)
    (hf : FlatRoots h vals [] gds fss idx1) (nh : AttrsNodup h) :
    (∀ e, runFn f h (pre ++ vals) = .error e → bodyPure f pre gds (fss.map (convLeaves false)) = .error e) ∧
    (∀ rets h2, runFn f h (pre ++ vals) = .ok (rets, h2) →
      ((∃ fssK, FlatRoots h2 rets [] gds fssK idx1) → ∃ lss', bodyPure f pre gds (fss.map (convLeaves false)) = .ok lss') ∧
      ((¬ ∃ fssK, FlatRoots h2 rets [] gds fssK idx1) →
        bodyPure f pre gds (fss.map (convLeaves false)) = .error .structureMismatch)) :=
  body_outcome hpre hf nh

/-- **unconditional form for fori_loop**: if the traced first application and every iteration of the unrolled Python
loop succeed and give the carry back with the same graphdef and objects (`KeepsCarry`), the call under the transform
succeeds, the unrolled loop succeeds, and they agree with the identity address map -/
theorem fori_loop_total (f : Fn) (lower : Int) (n : Nat) (h : Heap) (vals : List PVal) (hw : Heap.wf h = true)
    (gds : List GDef) (fss : List FlatState) (idx1 : RefIndex) (hf : flattenRoots h vals [] = .ok (gds, fss, idx1))
    (htrace : KeepsCarry f gds idx1 1 lower h vals) (hk : KeepsCarry f gds idx1 n lower h vals) :
    ∃ roots h4 valsE hE χ, foriCall f lower n h vals = .ok (roots, h4) ∧ foriEager f n lower h vals = .ok (valsE, hE) ∧
      LoopRefines h valsE hE roots h4 χ :=
  fori_total f lower n h vals (attrsNodup_of_wf hw) gds fss idx1 hf htrace hk

/-- the traced first application decides rejection (also for zero trips): an eager failure is raised as is, a carry that
does not come back with the same graphdef and objects is `structureMismatch` -/
theorem fori_loop_rejects (f : Fn) (lower : Int) (n : Nat) (h : Heap) (vals : List PVal) (hw : Heap.wf h = true)
    (gds : List GDef) (fss : List FlatState) (idx1 : RefIndex) (hf : flattenRoots h vals [] = .ok (gds, fss, idx1)) :
    (∀ e, runFn f h (PVal.array (wrap32 lower) :: vals) = .error e → foriCall f lower n h vals = .error e) ∧
    (∀ rets h2, runFn f h (PVal.array (wrap32 lower) :: vals) = .ok (rets, h2) →
      (¬ ∃ fssK, FlatRoots h2 rets [] gds fssK idx1) → foriCall f lower n h vals = .error .structureMismatch) :=
  fori_trace_outcome f lower n h vals (attrsNodup_of_wf hw) gds fss idx1 hf

/-- **unconditional form for while_loop** (read-only predicate returning one array; the loop ends within the budget) -/
theorem while_loop_total (c f : Fn) (hro : c.readOnly = true) (fuel : Nat) (h : Heap) (vals : List PVal)
    (hw : Heap.wf h = true) (gds : List GDef) (fss : List FlatState) (idx1 : RefIndex)
    (hf : flattenRoots h vals [] = .ok (gds, fss, idx1)) (d0 : Data) (htc : runFn c h vals = .ok ([.array d0], h))
    (htb : ∃ vals1 h1 fss1, runFn f h vals = .ok (vals1, h1) ∧ FlatRoots h1 vals1 [] gds fss1 idx1)
    (hk : KeepsCarryW c f gds idx1 fuel h vals) :
    ∃ roots h4 valsE hE χ, whileCall c f fuel h vals = .ok (roots, h4) ∧ whileEager c f fuel h vals = .ok (valsE, hE) ∧
      LoopRefines h valsE hE roots h4 χ :=
  while_total c f hro fuel h vals (attrsNodup_of_wf hw) gds fss idx1 hf d0 htc htb hk

/-- the pure value a traced body returns is the canonical form (`flatten`) of what the eager body leaves behind:
same graphdef, same leaves, same `ref_index` -/
theorem traced_body_is_flatten_of_eager (f : Fn) (pre : List PVal) (hpre : ∀ v ∈ pre, ∃ d, v = PVal.array d)
    (h : Heap) (vals : List PVal) (gds : List GDef) (fss : List FlatState) (idx1 : RefIndex)
    (hf : FlatRoots h vals [] gds fss idx1) (nh : AttrsNodup h) (rets : List PVal) (h2 : Heap)
    (he : runFn f h (pre ++ vals) = .ok (rets, h2)) (lss' : List (List Leaf))
    (hb : bodyPure f pre gds (fss.map (convLeaves false)) = .ok lss') :
    ∃ fss', FlatRoots h2 rets [] gds fss' idx1 ∧ lss' = fss'.map (convLeaves false) := by
  obtain ⟨fss', h1, h2', _, _⟩ := body_step hpre hf nh he hb
  exact ⟨fss', h1, h2'⟩

/-- **a cache hit is sound.**  Whatever calls came before (any heaps, any arguments: the caller may edit anything
between calls), a call of the same `nnx.jit`-wrapped function through the trace cache -- hit or miss -- returns
exactly what a fresh, uncached `jit` call returns, and so refines the eager call (`jit_refines_eager`).  The reason
(`pureRun_shape`): the output graphdefs of the traced function, `outer_index` stamps included, are a function of
the static key alone; payloads cannot influence them. -/
theorem cache_hit_sound (f : Fn) (calls : List (Heap × List PVal)) :
    callsFrom f { entries := [], traces := 0 } calls = calls.map (fun p => jitCall f p.1 p.2) :=
  callsFrom_sound f calls _ (cacheOK_empty f 0)

/-- one call, from any cache state reachable by calls of `f` -/
theorem cache_call_sound (f : Fn) (c : JitCache) (hc : CacheOK f c) (h : Heap) (args : List PVal) :
    (jitCached f c h args).1 = jitCall f h args ∧ CacheOK f (jitCached f c h args).2 :=
  jitCached_sound f c h args hc

/-- the static key contains the full input graphdef: two argument tuples have the same key iff `flatten` gives them
the same graphdefs (classes, attribute names, static attribute values, Variable types and metadata, sharing
structure).  A structural edit between calls therefore changes the key, and the call is a miss. -/
theorem cache_key_is_graphdef (gds gds' : List GDef) :
    gds.map (stampWith (fun _ => Option.none)) = gds'.map (stampWith (fun _ => Option.none)) ↔ gds = gds' :=
  ⟨stamp_inj_defs, fun h => by rw [h]⟩

/-- the Python body runs again exactly when the key is new -/
theorem cache_traces_on_miss_only (f : Fn) (c : JitCache) (h : Heap) (args : List PVal) (gds : List GDef)
    (lss : List (List Leaf)) (idx1 : RefIndex) (hs1 : step1 true h args = .ok (gds, lss, idx1)) :
    (jitCached f c h args).2.traces =
      if (c.entries.find? (fun t => decide (t.key = gds.map (stampWith (fun _ => Option.none))))).isSome then c.traces
      else c.traces + 1 :=
  jitCached_traces f c h args gds lss idx1 hs1

/-- **one index per object.**  The `ref_index` built by `flatten` over a tuple of arguments (any sharing inside or across
arguments: tied Variables, the same Variable twice in a list, shared sub-nodes) registers every object exactly once
(`Nodup`), and the graphdefs carry exactly one definition per registered object, numbered `0, 1, …` in registration
order; a second visit is a `NodeRef`.  `cached_partial`'s `StaticCache.new_ref_index` (built by `graph.fingerprint`) has
to be this very table for the cached graphdef to be usable; the model has no second table -- it uses `flatten`'s. -/
theorem flatten_one_index_per_object (h : Heap) (args : List PVal) (gds : List GDef) (fss : List FlatState) (idx : RefIndex)
    (hf : flattenRoots h args [] = .ok (gds, fss, idx)) :
    idx.Nodup ∧ defIdxRoots gds = List.range' 0 idx.length := by
  have hF := flatRoots_of_flattenRoots hf
  exact ⟨(flatRoots_lt hF).1, flatRoots_defIdx_nil hF⟩

/-- tied weights `m.emb = m.head = Param`, then `m.scale`: three attributes, two objects after the root, indices 0, 1, 2 -/
example : (flattenRoots [.node "A" [(.str "emb", .ref 1), (.str "head", .ref 1), (.str "scale", .ref 2)],
      .var ["Param"] 1 [], .var ["Param"] 10 []] [.ref 0] []).toOption.map (fun r => (r.2.2, defIdxRoots r.1)) =
    some ([0, 1, 2], [0, 1, 2]) := by decide +kernel

/-- **`cached_partial` detects structure changes and otherwise behaves as `jit`**: an accepted call returns what the
`jit` call returns; a call whose final graphdefs of the cached arguments differ from
`graphdef.with_same_outer_index()` is rejected with `cacheMutated` (the first `ncached` arguments are the cached ones,
the others are passed at each call) -/
theorem cached_partial_detects (f : Fn) (ncached : Nat) (h : Heap) (args : List PVal) :
    (∀ r, cachedPartialCall f ncached h args = .ok r → jitCall f h args = .ok r) ∧
    (∀ gds lss idx1 gdsO lssO, step1 true h args = .ok (gds, lss, idx1) → pureRun true true f [] gds lss = .ok (gdsO, lssO) →
      gdsO.take ncached ≠ (gds.take ncached).map (stampWith (fun i => some i)) →
      cachedPartialCall f ncached h args = .error .cacheMutated) := by
  constructor
  · intro r hr
    cases hs1 : step1 true h args with
    | error e => simp [cachedPartialCall, hs1] at hr
    | ok p =>
      obtain ⟨gds, lss, idx1⟩ := p
      cases hpr : pureRun true true f [] gds lss with
      | error e => simp [cachedPartialCall, hs1, hpr] at hr
      | ok q =>
        rw [cachedPartialCall_eq hs1 hpr] at hr
        split at hr
        · exact hr
        · cases hr
  · intro gds lss idx1 gdsO lssO hs1 hpr hne
    rw [cachedPartialCall_eq hs1 hpr, if_neg hne]

/-- **`flatten` of a dict does not depend on insertion order**: the pytree node for `dict` iterates `sorted(d.items())`,
so two dicts with the same items inserted in different orders give the same graphdef, the same leaves in the same
order and the same `ref_index` -- which is what lets `split` (one traversal) and `merge` (leaves sorted by path)
agree on which leaf belongs to which Variable -/
theorem dict_flatten_order_independent (fuel : Nat) (h : Heap) (path : Path) (kvs kvs' : List (Key × PVal)) (idx : RefIndex)
    (hp : kvs.Perm kvs') (hn : keysNodup kvs) :
    flattenVal fuel h path (.dict kvs) idx = flattenVal fuel h path (.dict kvs') idx := by
  have hs : sortKV kvs' = sortKV kvs :=
    sortBy_of_perm Key.strictTotal (hp.symm.trans (sortBy_perm kvs).symm) (sortKV_ssorted hn)
  cases fuel with
  | zero => rfl
  | succ n => simp only [flattenVal, hs]

/-- **merge ∘ split is the identity on a dict-valued attribute, as a map**: rebuilding what `flatten` emitted for a dict
(whatever its insertion order, with raw or `VariableState` leaves) consumes exactly the emitted leaves and yields a
dict with the same keys whose values correspond under the address map (`ValRel.dict` compares dicts after sorting
by key); every Variable inside gets its own leaf -/
theorem dict_roundtrip (raw : Bool) (fuel : Nat) (h : Heap) (kvs : List (Key × PVal)) (gd : GDef) (ls : FlatState)
    (idx : RefIndex) (hf : flattenVal fuel h [] (.dict kvs) [] = .ok (gd, ls, idx)) :
    ∃ v' H' ir', unflattenO (fun _ => Option.none) (stampWith (fun _ => Option.none) gd) (convLeaves raw ls) [] [] =
        .ok (v', [], H', ir') ∧ ValRel (phi idx ir') (.dict kvs) v' := by
  obtain ⟨v', H', ir', hu, _, _, hv⟩ := (simO (reuse_none h) raw (fun _ => Option.none) (fun _ => Option.none) idx
    (fun _ _ _ => rfl) fuel).1 [] (.dict kvs) [] gd ls idx hf ⟨[], by simp⟩ [] [] [] (GoodO.nil _ _)
  exact ⟨v', H', ir', by simpa using hu, hv⟩

/-- `m.stats = {}; m.stats['total'] = Variable(100); m.stats['count'] = Variable(0)` (non-alphabetical insertion) and the
same dict built in the other order flatten identically: the leaves come out as `count`, `total` -/
example : (flattenVal 10 [.var ["Variable"] 100 [], .var ["Variable"] 0 []] []
      (.dict [(.str "total", .ref 0), (.str "count", .ref 1)]) []).toOption.map (fun r => r.2.1.map (·.1)) =
    some [[.str "count"], [.str "total"]] := by decide +kernel

/-- `m.c.w = Param(1)` -/
def exDetachHeap : Heap :=
  [ .node "A" [(.str "c", .ref 1)], .node "A" [(.str "w", .ref 2)], .var ["Param", "Variable"] 1 [] ]

/-- `def f(m): c = m.c; w = c.w; x = w.value; w.value = x + 1; del m.c` -/
def exDetachFn : Fn :=
  { body := [.getAttr 0 (.str "c"), .getAttr 1 (.str "w"), .readVar 2, .setVar 2 (.add (.reg 3) (.const 1)),
             .delAttr 0 (.str "c")], ret := [] }

/-- **F31, on the model: an object the function detaches from its arguments is outside the refinement.**  Eagerly the
caller's `c.w` (address 2) becomes 2; under `jit` it keeps its old value 1, because after the call it is not
reachable from the arguments, so the outer merge never sees it (`RefinesEager.frame` says exactly that: a caller
object outside the range of `ψ` is left as it was BEFORE the call).  The attribute deletion itself is propagated. -/
theorem detached_object_update_lost :
    (runFn exDetachFn exDetachHeap [.ref 0]).toOption.map (fun r => (r.2[0]?, r.2[2]?)) =
      some (some (.node "A" []), some (.var ["Param", "Variable"] 2 [])) ∧
    (jitCall exDetachFn exDetachHeap [.ref 0]).toOption.map (fun r => (r.2[0]?, r.2[2]?)) =
      some (some (.node "A" []), some (.var ["Param", "Variable"] 1 [])) := by
  decide +kernel

/-- **F32, on the model: a metadata edit of an existing Variable does not cross the `jit` boundary.**  Suppose the inner
Variable that stands for the caller's Variable `a` (outer index 0) comes back with new metadata `md'` and value `d`.
With raw leaves (`nnx.jit`: `ctx.flatten(with_paths=False)`) the outer merge assigns only `raw_value`: the caller's
Variable keeps its OLD metadata `md0`.  With `VariableState` leaves (remat / cond / loops: `update_from_state`) it
takes `md'`.  (The mutation DSL has no metadata-edit statement, which is why `jit_refines_eager` holds.) -/
theorem metadata_edit_dropped_by_raw_leaves (h : Heap) (a : Nat) (ty : VType) (v0 d : Data) (md0 md' : Meta)
    (ha : h[a]? = some (.var ty v0 md0)) :
    step4 h [a] [.var ty 0 (some 0) md'] [[.arr d]] = .ok ([.ref a], write h a (.var ty d md0)) ∧
    step4 h [a] [.var ty 0 (some 0) md'] [[.vstate ty d md']] = .ok ([.ref a], write h a (.var ty d md')) := by
  constructor <;> simp [step4, unflattenRootsO, unflattenO, ha]

/-- every DSL statement keeps attribute keys distinct (so `Heap.wf`'s distinct-keys part is an invariant of any call) -/
theorem dsl_preserves_distinct_keys (f : Fn) (h : Heap) (args rets : List PVal) (h1 : Heap) (n : AttrsNodup h)
    (hr : runFn f h args = .ok (rets, h1)) : AttrsNodup h1 :=
  runFn_nodup n hr

/-- `m = A(); m.w = Param(3); m.c = B(); m.c.w = m.w; m.c.p = m; m.s = 5` -/
def exHeap : Heap :=
  [ .node "A" [(.str "w", .ref 2), (.str "c", .ref 1), (.str "s", .static "i:5")],
    .node "B" [(.str "w", .ref 2), (.str "p", .ref 0)],
    .var ["Param", "Variable"] 3 [] ]

/-- `def f(m, n): w = m.w; x = w.value; w.value = x + 1; v = Param(x * 2); n.new = v; k = B(); m.k = k; k.v = v;
del m.s; return k, x` -/
def exFn : Fn :=
  { body := [.getAttr 0 (.str "w"), .readVar 2, .setVar 2 (.add (.reg 3) (.const 1)),
             .newVar ["Param", "Variable"] (.mul (.reg 3) (.const 2)) [], .setAttr 1 (.str "new") 4,
             .newNode "B", .setAttr 0 (.str "k") 5, .setAttr 5 (.str "v") 4, .delAttr 0 (.str "s")],
    ret := [5, 3] }

/-- eager: the caller's `m`, `m.c`, `m.w` are mutated in place, two objects are created -/
example : (runFn exFn exHeap [.ref 0, .ref 1]).toOption =
    some ([.ref 4, .array 3],
      [ .node "A" [(.str "w", .ref 2), (.str "c", .ref 1), (.str "k", .ref 4)],
        .node "B" [(.str "w", .ref 2), (.str "p", .ref 0), (.str "new", .ref 3)],
        .var ["Param", "Variable"] 4 [], .var ["Param", "Variable"] 6 [], .node "B" [(.str "v", .ref 3)] ]) := by
  decide +kernel

/-- under `jit` (aliased arguments `m` and `m.c`): the SAME caller objects 0, 1, 2 carry the changes -/
example : (jitCall exFn exHeap [.ref 0, .ref 1]).toOption =
    some ([.ref 4, .array 3],
      [ .node "A" [(.str "c", .ref 1), (.str "k", .ref 4), (.str "w", .ref 2)],
        .node "B" [(.str "new", .ref 3), (.str "p", .ref 0), (.str "w", .ref 2)],
        .var ["Param", "Variable"] 4 [], .var ["Param", "Variable"] 6 [], .node "B" [(.str "v", .ref 3)] ]) := by
  decide +kernel

/-- `remat` gives what `jit` gives -/
example : (rematCall exFn exHeap [.ref 0, .ref 1]).toOption = (jitCall exFn exHeap [.ref 0, .ref 1]).toOption := by
  decide +kernel

/-- the hypothesis of `alias_across_args_one_object`: the arguments `(m, m.c)` share `m.c`, `m.w`, and `m` itself -/
example : (flattenRoots exHeap [.ref 0, .ref 1] []).toOption.map (fun r => r.2.2) = some [0, 1, 2] := by decide +kernel

/-- value-only branches: `cond` is accepted and selects -/
def exT : Fn := { body := [.getAttr 0 (.str "w"), .readVar 1, .setVar 1 (.add (.reg 2) (.const 1))], ret := [2] }
def exF : Fn := { body := [.getAttr 0 (.str "w"), .readVar 1, .setVar 1 (.mul (.reg 2) (.const 2))], ret := [2] }

example : (condCall exT exF false exHeap [.ref 0]).toOption.map (fun r => (r.1, r.2[2]?)) =
    some ([.array 3], some (.var ["Param", "Variable"] 6 [])) := by decide +kernel

/-- one branch adds an attribute: rejected -/
def exS : Fn := { body := [.litStatic "i:1", .setAttr 0 (.str "z") 1, .data (.const 0)], ret := [2] }

example : (match condCall exT exS true exHeap [.ref 0] with | .error e => some e | .ok _ => Option.none) =
    some Err.structureMismatch := by decide +kernel

/-- `def f(m): box = B(); hd = m.c; w = hd.w; w.value = w.value + 1; box.item = hd; del m.c; return box`: the pre-existing
sub-object `m.c` is detached from the argument and moved into a node created by the function.  It is reachable from
the RESULTS after the call, so `jit_refines_eager` covers it (`ident`: every pre-existing object in the domain of `ψ`
is mapped to itself): under `jit` the returned new node (address 3) holds the caller's own object 1, and its Variable
(address 2) carries the update -/
def exMove : Fn :=
  { body := [.newNode "B", .getAttr 0 (.str "c"), .getAttr 2 (.str "w"), .readVar 3, .setVar 3 (.add (.reg 4) (.const 1)),
             .setAttr 1 (.str "item") 2, .delAttr 0 (.str "c")], ret := [1] }

example : (jitCall exMove exHeap [.ref 0]).toOption.map (fun r => (r.1, r.2[3]?, r.2[2]?)) =
    some ([.ref 3], some (.node "B" [(.str "item", .ref 1)]), some (.var ["Param", "Variable"] 4 [])) ∧
    (runFn exMove exHeap [.ref 0]).toOption.map (fun r => (r.1, r.2[3]?, r.2[2]?)) =
    some ([.ref 3], some (.node "B" [(.str "item", .ref 1)]), some (.var ["Param", "Variable"] 4 [])) := by decide +kernel

/-- the hypotheses of `jit_total`: the example heap is closed -/
example : HeapClosed exHeap ∧ ∀ v ∈ [PVal.ref 0, PVal.ref 1], ValClosed exHeap v := by decide +kernel

/-- an erroring body: `getattr(m, 'missing')` raises `AttributeError` eagerly and under `jit` -/
def exBad : Fn := { body := [.getAttr 0 (.str "missing")], ret := [] }

example : (match runFn exBad exHeap [.ref 0] with | .error e => some e | .ok _ => Option.none) = some Err.attrError ∧
    (match jitCall exBad exHeap [.ref 0] with | .error e => some e | .ok _ => Option.none) = some Err.attrError := by decide +kernel

/-- the hypothesis of the loop theorems: `vars(obj)` has distinct keys -/
example : Heap.wf exHeap = true := by decide +kernel

/-- `def body(i, (m, n)): w = m.w; x = w.value; w.value = x + i; return m, n` over the aliased carry `(m, m.c)` -/
def exBody : Fn :=
  { body := [.getAttr 1 (.str "w"), .readVar 3, .setVar 3 (.add (.reg 4) (.reg 0))], ret := [1, 2] }

example : (foriCall exBody 2 3 exHeap [.ref 0, .ref 1]).toOption.map (fun r => (r.1, r.2[2]?)) =
    some ([.ref 0, .ref 1], some (.var ["Param", "Variable"] 12 [])) := by decide +kernel

example : (foriEager exBody 3 2 exHeap [.ref 0, .ref 1]).toOption.map (fun r => (r.1, r.2[2]?)) =
    some ([.ref 0, .ref 1], some (.var ["Param", "Variable"] 12 [])) := by decide +kernel

/-- the hypotheses of `fori_loop_total` hold for `exBody` on the aliased carry `(m, m.c)`: three iterations keep the carry -/
example : ∃ gds fss idx1, flattenRoots exHeap [.ref 0, .ref 1] [] = .ok (gds, fss, idx1) ∧
    KeepsCarry exBody gds idx1 3 2 exHeap [.ref 0, .ref 1] :=
  ⟨_, _, _, rfl, _, _, _, rfl, flatRoots_of_flattenRoots rfl,
    _, _, _, rfl, flatRoots_of_flattenRoots rfl,
    _, _, _, rfl, flatRoots_of_flattenRoots rfl, trivial⟩

/-- the hypothesis of `switch_total` / `cond_total`: the two value-only branches announce the same output structure,
the structure-changing branch a different one -/
example : tracedDefs exT exHeap [.ref 0] = tracedDefs exF exHeap [.ref 0] := rfl

example : (match tracedDefs exT exHeap [.ref 0], tracedDefs exS exHeap [.ref 0] with
    | .ok a, .ok b => decide (a = b) | _, _ => true) = false := by decide +kernel

/-- `while n < 3: m.w.value += n; n += 1` -/
def exCond : Fn := { body := [.data (.lt (.reg 1) (.const 3))], ret := [2] }
def exWBody : Fn :=
  { body := [.getAttr 0 (.str "w"), .readVar 2, .setVar 2 (.add (.reg 3) (.reg 1)), .data (.add (.reg 1) (.const 1))],
    ret := [0, 4] }

example : exCond.readOnly = true := by decide +kernel

example : (whileCall exCond exWBody 10 exHeap [.ref 0, .array 0]).toOption.map (fun r => (r.1, r.2[2]?)) =
    some ([.ref 0, .array 3], some (.var ["Param", "Variable"] 6 [])) := by decide +kernel

/-- a history with a hit: the second call finds the key of the first (value-only body, same structure) -/
example : ((callsFrom exT { entries := [], traces := 0 } [(exHeap, [.ref 0]), (exHeap, [.ref 0])]).map
    (fun r => r.toOption.map (fun x => x.1))) = [some [.array 3], some [.array 3]] := by decide +kernel

example : CacheOK exT { entries := [], traces := 0 } := cacheOK_empty exT 0

/-- `cached_partial`: a value-only function is accepted, a structure change is detected -/
example : (cachedPartialCall exT 1 exHeap [.ref 0]).toOption.map (fun r => r.1) = some [.array 3] := by decide +kernel

example : (match cachedPartialCall exS 1 exHeap [.ref 0] with | .error e => some e | .ok _ => Option.none) =
    some Err.cacheMutated := by decide +kernel

end Flax.C04
